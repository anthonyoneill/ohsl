/-
  Property C03 (part G) — accessors, the raw index operators and the extended operation set, Σ-forms,
  exact scalar division, definiteness of the norms.  Model: Ohsl/Model/Mat.lean.

  (S) any scalar type:
  * `getRow_correct`, `getCol_correct`, `getRow_entries`, `getCol_entries`, `getRow_ok_iff`,
    `getCol_ok_iff`   `get_row` / `get_col` on a described matrix (`Mat.Is`)
  * `MatOp2` (Ohsl/Lemmas/C03G.lean): the 19 operations of `MatOp` (embedded by `.old`) plus
    the raw element write `set`, `sdiv`, `eye`, `clear`, the raw `swapElem`, `lsmul`;
    `set_refines`, `sdiv_refines`, `eye_refines`, `clear_refines`, `swapElem_refines`,
    `lsmul_refines` (single steps), `step_refines2`, **`history_refines2`** (arbitrary histories),
    `history_refines2'` (unfolded), `history_wf2`, `history2_old` (old histories run as before).
    The reference semantics `MatOp2.ref` of `sdiv` divides every entry with the scalar type's own
    partial division `divM` (it is rejected iff some entry's division is); `sdiv_ref_exact` (E)
    evaluates it over a field.
  (E) exact field:
  * `mulVec_sum`   the Σ-form of `multiply(&v)`
  * `sdiv_zero_rejects_exact` (the name `C03.sdiv_zero_rejects` is taken by the class-F version),
    `sdiv_zero_iff`, `sdiv_correct_total`, `sdiv_ok_iff`   `m / q` exactly
  (E)/(R) norms:
  * `norm1_eq_zero_iff`, `normInf_eq_zero_iff` (ordered field with `fabs = |·|`, `fmax = max`),
    `norm1_eq_zero_iff_real`, `normInf_eq_zero_iff_real`, `normP_eq_zero_iff` (over ℝ)
  Nothing is `_partial`.
-/
import Ohsl.Props.C03N
import Ohsl.Lemmas.C03G
import Mathlib.Algebra.Order.Field.Rat
import Mathlib.Tactic.NormNum

set_option linter.unusedSectionVars false
namespace Ohsl.Props.C03
open Ohsl Ohsl.Mat

section
variable {K : Type}

/-- (S) `get_row(row)`: defined exactly for `row < rows`; returns the row, left to right -/
theorem getRow_correct {m : Mat K} {r c : Nat} {e : Nat → Nat → K} (h : Is m r c e) (row : Nat) :
    (row < r → getRow m row = .ok ((List.range c).map (fun j => e row j)).toArray) ∧
    (r ≤ row → getRow m row = .error .range) :=
  ⟨fun hr => getRow_spec h hr, fun hr => getRow_rejects m (by rw [h.rows]; exact hr)⟩

end

section Structural
variable {K : Type} [Add K] [Sub K] [Mul K] [Neg K] [Zero K] [One K] [BEq K] [ScalarExt K]

/-- (S) `get_col(col)`: defined exactly for `col < cols`; returns the column, top to bottom -/
theorem getCol_correct {m : Mat K} {r c : Nat} {e : Nat → Nat → K} (h : Is m r c e) (col : Nat) :
    (col < c → getCol m col = .ok ((List.range r).map (fun i => e i col)).toArray) ∧
    (c ≤ col → getCol m col = .error .range) :=
  ⟨fun hc => getCol_spec h hc, fun hc => getCol_rejects m (by rw [h.cols]; exact hc)⟩

/-- (S) the returned row has length `cols` and its `j`-th component is entry `(row, j)` -/
theorem getRow_entries {m : Mat K} {r c : Nat} {e : Nat → Nat → K} (h : Is m r c e) {row : Nat}
    (hr : row < r) :
    ∃ v, getRow m row = .ok v ∧ v.size = c ∧ ∀ j, j < c → v[j]? = some (e row j) := by
  refine ⟨_, getRow_spec h hr, by simp, ?_⟩
  intro j hj
  simp [hj]

/-- (S) the returned column has length `rows` and its `i`-th component is entry `(i, col)` -/
theorem getCol_entries {m : Mat K} {r c : Nat} {e : Nat → Nat → K} (h : Is m r c e) {col : Nat}
    (hc : col < c) :
    ∃ v, getCol m col = .ok v ∧ v.size = r ∧ ∀ i, i < r → v[i]? = some (e i col) := by
  refine ⟨_, getCol_spec h hc, by simp, ?_⟩
  intro i hi
  simp [hi]

/-- (S) `get_row` / `get_col` succeed exactly on the in-range indices -/
theorem getRow_ok_iff {m : Mat K} {r c : Nat} {e : Nat → Nat → K} (h : Is m r c e) (row : Nat) :
    (∃ v, getRow m row = .ok v) ↔ row < r := by
  constructor
  · rintro ⟨v, hv⟩
    by_contra hn
    rw [(getRow_correct h row).2 (Nat.le_of_not_lt hn)] at hv
    cases hv
  · intro hr; exact ⟨_, getRow_spec h hr⟩

theorem getCol_ok_iff {m : Mat K} {r c : Nat} {e : Nat → Nat → K} (h : Is m r c e) (col : Nat) :
    (∃ v, getCol m col = .ok v) ↔ col < c := by
  constructor
  · rintro ⟨v, hv⟩
    by_contra hn
    rw [(getCol_correct h col).2 (Nat.le_of_not_lt hn)] at hv
    cases hv
  · intro hc; exact ⟨_, getCol_spec h hc⟩

end Structural

section Histories
variable {K : Type} [Add K] [Sub K] [Mul K] [Neg K] [Zero K] [One K] [BEq K] [ScalarExt K]
  [Transc K]

/-- (S) raw element write `m[(i,j)] = v`: only the flat offset `i*cols + j` is checked; the entry
    stored there — `(i,j)` itself when `j < cols` — becomes `v`, nothing else changes -/
theorem set_refines {m : Mat K} {s : Ref K} (h : Rel m s) (i j : Nat) (v : K) :
    Refines ((MatOp2.set i j v).apply m) ((MatOp2.set i j v).ref s) :=
  Mat.step_refines2 (.set i j v) trivial h

/-- (S) for in-range `(i, j)` the raw write is the expected pointwise update -/
theorem set_in_range {m : Mat K} {r c : Nat} {e : Nat → Nat → K} (h : Is m r c e) {i j : Nat}
    (hi : i < r) (hj : j < c) (v : K) :
    ∃ m', (MatOp2.set i j v).apply m = .ok m' ∧
      Is m' r c (fun a b => if a = i ∧ b = j then v else e a b) := h.set hi hj v

/-- (S) `matrix / scalar` refines "divide every entry with the scalar type's own division; reject
    iff some entry's division is rejected" -/
theorem sdiv_refines {m : Mat K} {s : Ref K} (h : Rel m s) (q : K) :
    Refines ((MatOp2.sdiv q).apply m) ((MatOp2.sdiv q).ref s) :=
  Mat.step_refines2 (.sdiv q) trivial h

theorem eye_refines (m : Mat K) (s : Ref K) (n : Nat) :
    Refines ((MatOp2.eye n).apply m) ((MatOp2.eye (K := K) n).ref s) := Mat.eye_spec n

theorem clear_refines (m : Mat K) (s : Ref K) :
    Refines (MatOp2.clear.apply m) ((MatOp2.clear (K := K)).ref s) :=
  ⟨Mat.empty, rfl, Mat.Is.of_empty _⟩

/-- (S) raw `swap_elem`: both flat offsets must lie inside the buffer; the stored values are
    exchanged -/
theorem swapElem_refines {m : Mat K} {s : Ref K} (h : Rel m s) (r1 c1 r2 c2 : Nat) :
    Refines ((MatOp2.swapElem r1 c1 r2 c2).apply m)
      ((MatOp2.swapElem (K := K) r1 c1 r2 c2).ref s) :=
  Mat.step_refines2 (.swapElem r1 c1 r2 c2) trivial h

/-- (S) `scalar * matrix` multiplies every entry by the scalar ON THE RIGHT, as the code does -/
theorem lsmul_refines {m : Mat K} {s : Ref K} (h : Rel m s) (k : K) :
    Refines ((MatOp2.lsmul k).apply m) ((MatOp2.lsmul k).ref s) :=
  Mat.step_refines2 (.lsmul k) trivial h

/-- (S) one operation of the extended set `MatOp2` (the 19 old operations and `set`, `sdiv`,
    `eye`, `clear`, `swapElem`, `lsmul`) refines its reference semantics -/
theorem step_refines2 (op : MatOp2 K) (hv : op.Valid) {m : Mat K} {s : Ref K} (h : Rel m s) :
    Refines (op.apply m) (op.ref s) := Mat.step_refines2 op hv h

/-- (S) **arbitrary histories over the extended operation set**: the model's state after the
    history is `Is`-related to the reference state, and both reject together -/
theorem history_refines2 (ops : List (MatOp2 K)) (hv : ∀ op ∈ ops, op.Valid) {m : Mat K}
    {s : Ref K} (h : Rel m s) : Refines (run2 ops m) (refRun2 ops s) := Mat.run2_refines ops hv h

/-- (S) unfolded form of `history_refines2` -/
theorem history_refines2' (ops : List (MatOp2 K)) (hv : ∀ op ∈ ops, op.Valid) {m : Mat K}
    {r c : Nat} {e : Nat → Nat → K} (h : Is m r c e) :
    (∀ s', refRun2 ops ⟨r, c, e⟩ = some s' →
        ∃ m', ops.foldlM (fun m op => op.apply m) m = .ok m' ∧ Is m' s'.rows s'.cols s'.entry) ∧
    (refRun2 ops ⟨r, c, e⟩ = none →
        ∃ err, ops.foldlM (fun m op => op.apply m) m = .error err) := by
  have R := Mat.run2_refines ops hv (m := m) (s := ⟨r, c, e⟩) h
  rw [run2_eq_foldlM] at R
  exact R.unfold

/-- (S) `len == rows * cols` is invariant under every extended history that does not panic -/
theorem history_wf2 (ops : List (MatOp2 K)) (hv : ∀ op ∈ ops, op.Valid) {m m' : Mat K} (h : m.WF)
    (hrun : run2 ops m = .ok m') : m'.WF :=
  (Mat.run2_refines ops hv (s := ⟨m.rows, m.cols, entryOf m⟩) (Is.of_wf h)).wf hrun

/-- (S) the embedding is faithful: a history of old operations runs exactly as under `run` -/
theorem history2_old (ops : List (MatOp K)) (m : Mat K) :
    run2 (ops.map MatOp2.old) m = run ops m := Mat.run2_old ops m

end Histories

section Exact
variable {K : Type} [Field K] [LinearOrder K] [IsStrictOrderedRing K]
attribute [local instance] Alg.scalarExt

set_option linter.unusedVariables false in
/-- (E) **matrix · vector, Σ-form**: the result has length `rows` and its component `i` is
    `∑ j : Fin c, e i j * v[j]` -/
theorem mulVec_sum {m : Mat K} {r c : Nat} {e : Nat → Nat → K} (h : Is m r c e)
    (v : Array K) (hv : v.size = c) :
    ∃ w, mulVec m v = .ok w ∧ w.size = r ∧
      ∀ (i : Nat) (hi : i < r),
        w[i]? = some (∑ j : Fin c, e i j * v[j.val]'(by rw [hv]; exact j.isLt)) := by
  refine ⟨_, mulVec_eq_sum h v hv, by simp, ?_⟩
  intro i hi
  simp only [List.getElem?_toArray, List.getElem?_map, List.getElem?_range hi, Option.map_some]
  congr 1
  rw [← Fin.sum_univ_eq_sum_range (fun j => e i j * v[j]?.getD 0) c]
  apply Finset.sum_congr rfl
  intro j _
  have : j.val < v.size := by rw [hv]; exact j.isLt
  simp [this]

end Exact

section Exact
variable {K : Type} [Field K] [LinearOrder K]
attribute [local instance] Alg.scalarExt

/-- (E) **division by zero is rejected on every non-empty matrix**: an arithmetic panic, never a
    value (the first entry's division already fails) -/
theorem sdiv_zero_rejects_exact {m : Mat K} {r c : Nat} {e : Nat → Nat → K} (h : Is m r c e)
    (hr : 0 < r) (hc : 0 < c) : Mat.sdiv m 0 = .error .arith :=
  Mat.mapM1_rejects (fun x => divM x (0 : K)) h hr hc .arith (Alg.divM_zero _)

theorem sdiv_ok_of_empty {m : Mat K} {r c : Nat} {e : Nat → Nat → K} (h : Is m r c e) (q : K)
    (hrc : r = 0 ∨ c = 0) : ∃ m', Mat.sdiv m q = .ok m' := by
  obtain ⟨m', hm', _⟩ := Mat.sdiv_spec h q (fun x => x) (fun i j hi hj => by omega)
  exact ⟨m', hm'⟩

variable [IsStrictOrderedRing K]

/-- (E) … and ONLY on those: on an empty matrix (no rows or no columns) nothing is divided and the
    call returns the empty result -/
theorem sdiv_zero_iff {m : Mat K} {r c : Nat} {e : Nat → Nat → K} (h : Is m r c e) :
    Mat.sdiv m 0 = .error .arith ↔ 0 < r ∧ 0 < c := by
  constructor
  · intro herr
    by_contra hn
    obtain ⟨m', hm'⟩ := sdiv_ok_of_empty h 0 (by omega)
    rw [hm'] at herr
    cases herr
  · rintro ⟨hr, hc⟩; exact sdiv_zero_rejects_exact h hr hc

/-- (E) **`matrix / q` for `q ≠ 0`**: the call succeeds on every well-formed matrix (any shape)
    and entry `(i,j)` of the result is `e i j / q` -/
theorem sdiv_correct_total {m : Mat K} {r c : Nat} {e : Nat → Nat → K} (h : Is m r c e) {q : K}
    (hq : q ≠ 0) : ∃ m', Mat.sdiv m q = .ok m' ∧ Is m' r c (fun i j => e i j / q) :=
  Mat.sdiv_spec h q (fun x => x / q) (fun _ _ _ _ => Alg.divM_ne hq)

/-- (E) `sdiv` succeeds iff the divisor is non-zero or the matrix is empty -/
theorem sdiv_ok_iff {m : Mat K} {r c : Nat} {e : Nat → Nat → K} (h : Is m r c e) (q : K) :
    (∃ m', Mat.sdiv m q = .ok m') ↔ (q ≠ 0 ∨ r = 0 ∨ c = 0) := by
  constructor
  · rintro ⟨m', hm'⟩
    by_contra hn
    simp only [not_or, not_not] at hn
    obtain ⟨rfl, hr, hc⟩ := hn
    rw [sdiv_zero_rejects_exact h (Nat.pos_of_ne_zero hr) (Nat.pos_of_ne_zero hc)] at hm'
    cases hm'
  · rintro (hq | hrc)
    · obtain ⟨m', hm', _⟩ := sdiv_correct_total h hq
      exact ⟨m', hm'⟩
    · exact sdiv_ok_of_empty h q hrc

/-- (E) the reference semantics of `sdiv` (defined through the scalar type's partial division)
    evaluated over an exact field: rejected iff `q = 0` on a non-empty matrix, otherwise every
    entry is `e i j / q` -/
theorem sdiv_ref_exact [Transc K] (q : K) (s : Ref K) :
    (MatOp2.sdiv q).ref s =
      if q = 0 ∧ 0 < s.rows ∧ 0 < s.cols then none
      else some ⟨s.rows, s.cols, fun i j => s.entry i j / q⟩ := by
  simp only [MatOp2.ref]
  by_cases hq : q = 0
  · subst hq
    simp only [Alg.divM_zero, reduceCtorEq, exists_false, true_and, div_zero]
    by_cases hne : 0 < s.rows ∧ 0 < s.cols
    · rw [if_pos hne, if_neg]
      intro hall
      obtain ⟨y, hy⟩ := hall 0 0 hne.1 hne.2
      rw [Alg.divM_zero] at hy
      cases hy
    · rw [if_neg hne, if_pos fun i j hi hj => absurd ⟨by omega, by omega⟩ hne]
  · simp only [Alg.divM_ne hq, Except.ok.injEq, exists_eq', implies_true, if_true, hq, false_and,
      if_false]

end Exact

section Norms
variable {K : Type} [Field K] [LinearOrder K] [IsStrictOrderedRing K] [Transc K]
attribute [local instance] Ohsl.Alg.scalarExt

/-- (E) `norm_1 m = 0` exactly when every entry of the well-formed `r × c` matrix is zero -/
theorem norm1_eq_zero_iff (hfabs : ∀ x : K, Transc.fabs x = |x|)
    (hfmax : ∀ x y : K, Transc.fmax x y = max x y)
    {m : Mat K} {r c : Nat} {e : Nat → Nat → K} (h : Is m r c e) :
    Mat.norm1 m = .ok 0 ↔ ∀ i j, i < r → j < c → e i j = 0 := by
  obtain ⟨v, hv, _, g1, g2⟩ := norm1_spec hfabs hfmax h
  rw [hv, Except.ok.injEq, maxAbsSum_eq_zero_iff g1 g2]
  exact ⟨fun hz i j hi hj => hz j i hj hi, fun hz j i hj hi => hz i j hi hj⟩

/-- (E) `norm_inf m = 0` exactly when every entry of the well-formed `r × c` matrix is zero -/
theorem normInf_eq_zero_iff (hfabs : ∀ x : K, Transc.fabs x = |x|)
    (hfmax : ∀ x y : K, Transc.fmax x y = max x y)
    {m : Mat K} {r c : Nat} {e : Nat → Nat → K} (h : Is m r c e) :
    Mat.normInf m = .ok 0 ↔ ∀ i j, i < r → j < c → e i j = 0 := by
  obtain ⟨v, hv, _, g1, g2⟩ := normInf_spec hfabs hfmax h
  rw [hv, Except.ok.injEq, maxAbsSum_eq_zero_iff g1 g2]

end Norms

section RealNorms
open Ohsl.RealI

/-- (R) over ℝ: `norm_1 m = 0` iff every entry is zero -/
theorem norm1_eq_zero_iff_real {m : Mat ℝ} {r c : Nat} {e : Nat → Nat → ℝ} (h : Is m r c e) :
    Mat.norm1 m = .ok 0 ↔ ∀ i j, i < r → j < c → e i j = 0 :=
  norm1_eq_zero_iff fabs_real fmax_real h

/-- (R) over ℝ: `norm_inf m = 0` iff every entry is zero -/
theorem normInf_eq_zero_iff_real {m : Mat ℝ} {r c : Nat} {e : Nat → Nat → ℝ} (h : Is m r c e) :
    Mat.normInf m = .ok 0 ↔ ∀ i j, i < r → j < c → e i j = 0 :=
  normInf_eq_zero_iff fabs_real fmax_real h

/-- (R) over ℝ, for EVERY exponent `p ≠ 0` (in particular `p ≥ 1`): the entrywise `norm_p` is `0`
    iff every entry is zero.  (`p = 0` is rejected: `normP_zero_rejects`.) -/
theorem normP_eq_zero_iff {m : Mat ℝ} {r c : Nat} {e : Nat → Nat → ℝ} (h : Is m r c e) {p : ℝ}
    (hp : p ≠ 0) :
    Mat.normP m p = .ok 0 ↔ ∀ i j, i < r → j < c → e i j = 0 := by
  have hterm : ∀ i j, |e i j| ^ p = 0 ↔ e i j = 0 := fun i j => by
    rw [Real.rpow_eq_zero_iff_of_nonneg (abs_nonneg _), and_iff_left hp, abs_eq_zero]
  have hnn : ∀ i j, 0 ≤ |e i j| ^ p := fun i j => Real.rpow_nonneg (abs_nonneg _) p
  rw [normP_spec h hp, Except.ok.injEq,
    Real.rpow_eq_zero_iff_of_nonneg (Finset.sum_nonneg fun _ _ => Finset.sum_nonneg fun _ _ => hnn _ _),
    and_iff_left (one_div_ne_zero hp), sum_sum_eq_zero_iff hnn]
  simp only [hterm]

/-- (R) the case `p ≥ 1` -/
theorem normP_eq_zero_iff_of_one_le {m : Mat ℝ} {r c : Nat} {e : Nat → Nat → ℝ} (h : Is m r c e)
    {p : ℝ} (hp : 1 ≤ p) :
    Mat.normP m p = .ok 0 ↔ ∀ i j, i < r → j < c → e i j = 0 :=
  normP_eq_zero_iff h (by linarith)

end RealNorms

section Examples
attribute [local instance] Alg.scalarExt
open Ohsl.RealI

/-- `A = [[1,2,3],[4,5,6]]` over ℚ: row 1 is `[4,5,6]`, column 2 is `[3,6]` -/
example : ∃ v, getRow A 1 = .ok v ∧ v[2]? = some 6 := by
  obtain ⟨v, hv, _, hj⟩ := getRow_entries A_is (row := 1) (by omega)
  refine ⟨v, hv, ?_⟩
  rw [hj 2 (by omega)]; simp [A]
example : getRow A 2 = .error .range := (getRow_correct A_is 2).2 (by omega)
example : getCol A 3 = .error .range := (getCol_correct A_is 3).2 (by omega)

/-- `A · [1,1,1]` has components `6` and `15` -/
example : ∃ w, mulVec A #[1, 1, 1] = .ok w ∧ w[1]? = some 15 := by
  obtain ⟨w, hw, _, hi⟩ := mulVec_sum A_is #[1, 1, 1] rfl
  refine ⟨w, hw, ?_⟩
  rw [hi 1 (by omega)]
  simp [Fin.sum_univ_three, A]
  norm_num

/-- `A / 0` panics, `A / 2` does not -/
example : Mat.sdiv A 0 = .error .arith := sdiv_zero_rejects_exact A_is (by omega) (by omega)
example : ∃ p, Mat.sdiv A 2 = .ok p ∧ p.get 1 2 = .ok 3 := by
  obtain ⟨p, hp, hI⟩ := sdiv_correct_total A_is (q := (2 : ℚ)) (by norm_num)
  refine ⟨p, hp, ?_⟩
  rw [hI.get (show 1 < 2 by omega) (show 2 < 3 by omega)]
  simp [A]; norm_num
/-- the empty matrix may be divided by zero -/
example : ∃ p, Mat.sdiv (Mat.empty : Mat ℚ) 0 = .ok p :=
  (sdiv_ok_iff (Mat.Is.of_empty (fun _ _ => 0)) 0).mpr (Or.inr (Or.inl rfl))

/-- the same matrix over ℝ (histories with `lsmul` need the `f64`-only operations) -/
noncomputable def AR : Mat ℝ := ⟨#[1, 2, 3, 4, 5, 6], 2, 3⟩
theorem AR_is : Is AR 2 3 (entryOf AR) := Mat.Is.of_wf (m := AR) (by simp [Mat.WF, AR])

/-- the raw write `m[(0,5)] = 7` on a `2 × 3` matrix lands on entry `(1,2)` (flat offset 5) -/
example : ∃ p, AR.set 0 5 7 = .ok p ∧ p.get 1 2 = .ok 7 ∧ p.get 0 2 = .ok 3 := by
  have R := set_refines (s := ⟨2, 3, entryOf AR⟩) AR_is 0 5 7
  simp only [MatOp2.ref] at R
  rw [if_pos (by norm_num)] at R
  obtain ⟨p, hp, hI⟩ := R
  refine ⟨p, hp, ?_, ?_⟩
  · rw [hI.get (show 1 < 2 by omega) (show 2 < 3 by omega)]; simp
  · rw [hI.get (show 0 < 2 by omega) (show 2 < 3 by omega)]; simp [entryOf, AR]
/-- … and `m[(1,3)] = 7` (flat offset 6) is out of the buffer: a panic -/
example : ∃ err, AR.set 1 3 7 = .error err := by
  have R := set_refines (s := ⟨2, 3, entryOf AR⟩) AR_is 1 3 7
  simp only [MatOp2.ref] at R
  rw [if_neg (by norm_num)] at R
  exact R

/-- a history mixing old and new operations -/
example : ∃ p, run2 [.old .transpose, .set 2 1 9, .lsmul 2, .swapElem 0 0 2 1, .sdiv 3] AR = .ok p ∧
    p.WF ∧ p.rows = 3 ∧ p.cols = 2 ∧ p.get 0 0 = .ok 6 := by
  have hv : ∀ op ∈ ([.old .transpose, .set 2 1 9, .lsmul 2, .swapElem 0 0 2 1, .sdiv 3] :
      List (MatOp2 ℝ)), op.Valid := by
    intro op hop
    simp only [List.mem_cons, List.mem_nil_iff, or_false] at hop
    rcases hop with rfl | rfl | rfl | rfl | rfl <;> trivial
  -- the reference run is evaluated (`rfl`) once `3 ≠ 0` in ℝ is settled, and its entry function
  -- only at the entry asked for
  obtain ⟨p, hp, hI⟩ := (history_refines2' _ hv AR_is).1 _ (by
    simp only [refRun2, sdiv_ref_exact, show ((3 : ℝ) = 0) = False from by norm_num, false_and,
      if_false]
    rfl)
  rw [← run2_eq_foldlM] at hp
  refine ⟨p, hp, hI.wf, hI.rows, hI.cols, ?_⟩
  rw [hI.entry 0 0 (by decide) (by decide)]
  norm_num [entryOf, AR]

/-- `clear`, then `eye 2`, then division by zero: the history panics -/
example : ∃ err, run2 [.clear, .eye 2, .sdiv 0] AR = .error err := by
  have hv : ∀ op ∈ ([.clear, .eye 2, .sdiv 0] : List (MatOp2 ℝ)), op.Valid := by
    intro op hop
    simp only [List.mem_cons, List.mem_nil_iff, or_false] at hop
    rcases hop with rfl | rfl | rfl <;> trivial
  have hn : refRun2 [.clear, .eye 2, .sdiv 0] ⟨2, 3, entryOf AR⟩ = none := by
    simp only [refRun2, sdiv_ref_exact, eq_self, true_and]
    rfl
  rw [run2_eq_foldlM]
  exact (history_refines2' _ hv AR_is).2 hn

/-- `norm_1`, `norm_inf`, `norm_p` of the zero `2 × 2` real matrix are `0`; of `AR` they are not -/
example : Mat.norm1 (Mat.new 2 2 (0 : ℝ)) = .ok 0 :=
  (norm1_eq_zero_iff_real (Mat.Is.of_new 2 2 (0 : ℝ))).mpr (fun _ _ _ _ => rfl)
example : Mat.normP (Mat.new 2 2 (0 : ℝ)) 3 = .ok 0 :=
  (normP_eq_zero_iff (Mat.Is.of_new 2 2 (0 : ℝ)) (by norm_num)).mpr (fun _ _ _ _ => rfl)
example : Mat.normInf AR ≠ .ok 0 := by
  intro h0
  have := (normInf_eq_zero_iff_real AR_is).mp h0 0 0 (by omega) (by omega)
  simp [entryOf, AR] at this

end Examples

end Ohsl.Props.C03
