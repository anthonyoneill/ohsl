/-
  Property C11 (part G) — the rounding statements about `derivative` of C11F, linked to Mathlib.

  C11F states the rounding of `Poly.derivative` / `Poly.derivativeAt · · 1` against explicit real
  expressions: the termwise product `(i+1)·a_{i+1}` and the local sum
  `exactDeriv p x = Σ_{i < n} (i+1)·a_{i+1}·xⁱ`; `exactEval` and `exactConv` are tied to Mathlib
  there (`exactEval_eq_toPoly`, `exactConv_eq_toPoly`), the derivative here.  With
  `P = toPoly (p.map Fl.val)` the exact real polynomial denoted by the coefficients
  (`Ohsl.PolyAlg.toPoly`, the interpretation used by `derivative_spec` in C11P),

  * `coeff_derivative_toPoly`   `(i+1)·a_{i+1}` is coefficient `i` of `Polynomial.derivative P`;
  * `exactDeriv_eq_toPoly`      `exactDeriv p x = (Polynomial.derivative P).eval x`;
  * `absDeriv_eq_toPoly`        `absDeriv p x = Σ_{i<n} |(P').coeff i|·|x|ⁱ`;
  * `derivative_rounding_toPoly`, `derivative_rounding_rep_toPoly`  C11F's `derivative_rounding`
    (`…_rep`) restated: coefficient `i` of the computed derivative has relative error `≤ gam (i+1)`
    (`gam i` for representable coefficients) w.r.t. coefficient `i` of `Polynomial.derivative P`;
  * `derivativeAt_one_rounding_toPoly`  C11F's `derivativeAt_one_rounding` against
    `(Polynomial.derivative P).eval x`;
  * `derivative_exact_of_no_rounding`  consistency with the exact statement `derivative_spec`:
    without rounding (`u = 0`, `FlModel.exact`) the computed derivative
    denotes `Polynomial.derivative P`.
-/
import Ohsl.Props.C11F
set_option linter.unusedSectionVars false
set_option linter.unusedVariables false
namespace Ohsl.Props.C11
open Ohsl Ohsl.Poly Ohsl.PolyAlg

section RoundingG
variable {M : FlModel}
open Fl

/-- coefficient `i` of the Mathlib derivative of the exact real polynomial denoted by `p` is the
termwise expression `(i+1)·a_{i+1}` that C11F's `derivative_rounding` compares with -/
theorem coeff_derivative_toPoly (p : Array (Fl M)) (i : Nat) :
    (Polynomial.derivative (toPoly (p.map Fl.val))).coeff i = ((i : ℝ) + 1) * coef p (i + 1) := by
  rw [Polynomial.coeff_derivative, coeff_toPoly, coef_eq_map]
  ring

/-- **`exactDeriv` is the value of the Mathlib derivative** of the exact real polynomial denoted
by the coefficients (cf. `exactEval_eq_toPoly`, and `derivative_spec` in C11P) -/
theorem exactDeriv_eq_toPoly (p : Array (Fl M)) (x : Fl M) :
    exactDeriv p x = (Polynomial.derivative (toPoly (p.map Fl.val))).eval x.val := by
  unfold exactDeriv toPoly
  rw [Polynomial.derivative_sum, Polynomial.eval_finsetSum, Array.size_map]
  cases hn : p.size with
  | zero => simp
  | succ m =>
    rw [Finset.sum_range_succ']
    simp only [Polynomial.derivative_C_mul_X_pow, Polynomial.eval_mul, Polynomial.eval_C,
      Polynomial.eval_pow, Polynomial.eval_X, Nat.add_sub_cancel, Nat.cast_zero, mul_zero,
      zero_mul, add_zero, Nat.cast_add, Nat.cast_one]
    apply Finset.sum_congr rfl
    intro i _
    rw [coef_eq_map]
    ring

/-- the companion majorant `absDeriv` in terms of the coefficients of the Mathlib derivative -/
theorem absDeriv_eq_toPoly (p : Array (Fl M)) (x : Fl M) :
    absDeriv p x = ∑ i ∈ Finset.range (p.size - 1),
      |(Polynomial.derivative (toPoly (p.map Fl.val))).coeff i| * |x.val| ^ i := by
  unfold absDeriv
  apply Finset.sum_congr rfl
  intro i _
  rw [coeff_derivative_toPoly]

/-- **`derivative_rounding` against `Polynomial.derivative`**: `Poly.derivative p` succeeds on a
non-empty `p`, and coefficient `i` of the polynomial denoted by the computed coefficients differs
from coefficient `i` of the Mathlib derivative of the polynomial denoted by `p` by a relative error
`≤ gam (i+1)` (`i + 1` rounded additions). -/
theorem derivative_rounding_toPoly (p : Array (Fl M)) (h : p ≠ #[]) :
    ∃ d, Poly.derivative p = .ok d ∧ d.size = p.size - 1 ∧
      ∀ i, |(toPoly (d.map Fl.val)).coeff i
              - (Polynomial.derivative (toPoly (p.map Fl.val))).coeff i|
          ≤ M.gam (i + 1) * |(Polynomial.derivative (toPoly (p.map Fl.val))).coeff i| := by
  obtain ⟨d, hd, hs, hb⟩ := derivative_rounding p h
  refine ⟨d, hd, hs, fun i => ?_⟩
  rw [coeff_derivative_toPoly, coeff_toPoly, coef_eq_map]
  exact hb i

/-- … `gam i` when the coefficients are representable (`derivative_rounding_rep`) -/
theorem derivative_rounding_rep_toPoly (p : Array (Fl M)) (h : p ≠ #[])
    (hrep : ∀ i, M.Rep (coef p i)) :
    ∃ d, Poly.derivative p = .ok d ∧ d.size = p.size - 1 ∧
      ∀ i, |(toPoly (d.map Fl.val)).coeff i
              - (Polynomial.derivative (toPoly (p.map Fl.val))).coeff i|
          ≤ M.gam i * |(Polynomial.derivative (toPoly (p.map Fl.val))).coeff i| := by
  obtain ⟨d, hd, hs, hb⟩ := derivative_rounding_rep p h hrep
  refine ⟨d, hd, hs, fun i => ?_⟩
  rw [coeff_derivative_toPoly, coeff_toPoly, coef_eq_map]
  exact hb i

/-- **`derivativeAt_one_rounding` against `Polynomial.derivative`**: the computed first derivative
at `x` differs from the value of the Mathlib derivative by at most
`gam (2(n−1) + n) · Σ_{i<n} |(P').coeff i|·|x|ⁱ`, `n = p.size − 1` the degree. -/
theorem derivativeAt_one_rounding_toPoly (p : Array (Fl M)) (x : Fl M) (h : 2 ≤ p.size) :
    ∃ r, Poly.derivativeAt p x 1 = .ok r ∧
      |r.val - (Polynomial.derivative (toPoly (p.map Fl.val))).eval x.val|
        ≤ M.gam (2 * (p.size - 2) + (p.size - 1)) *
          ∑ i ∈ Finset.range (p.size - 1),
            |(Polynomial.derivative (toPoly (p.map Fl.val))).coeff i| * |x.val| ^ i := by
  obtain ⟨r, hr, hb⟩ := derivativeAt_one_rounding p x h
  refine ⟨r, hr, ?_⟩
  rw [← exactDeriv_eq_toPoly, ← absDeriv_eq_toPoly]
  exact hb

/-- consistency with the exact statement (`derivative_spec`, C11P): without rounding (`u = 0`, e.g.
`FlModel.exact`) the computed derivative denotes exactly `Polynomial.derivative P` -/
theorem derivative_exact_of_no_rounding (p : Array (Fl M)) (h : p ≠ #[]) (hu : M.u = 0) :
    ∃ d, Poly.derivative p = .ok d ∧
      toPoly (d.map Fl.val) = Polynomial.derivative (toPoly (p.map Fl.val)) := by
  obtain ⟨d, hd, _, hb⟩ := derivative_rounding_toPoly p h
  refine ⟨d, hd, ?_⟩
  ext i
  have := hb i
  have h0 : M.gam (i + 1) = 0 := by simp [FlModel.gam, hu]
  rw [h0, zero_mul] at this
  exact sub_eq_zero.1 (abs_nonpos_iff.1 this)

/-- the hypothesis `u = 0` is satisfiable -/
example : (FlModel.exact).u = 0 := FlModel.exact_u

end RoundingG

end Ohsl.Props.C11
