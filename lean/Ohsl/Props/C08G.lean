/-
  Property C08 (part G) — the links between the drift bound of C08F (stated there for an ABSTRACT
  rounded product `mv` over functions `Fin n → Fl M` assumed to satisfy `FlMatVec`) and the MODEL:
  `Sp.multiply` / `Sp.transposeMultiply` (Ohsl/Model/Sparse.lean) and the array solver
  `Sp.solveIter` with `Sp.arrOps` (Ohsl/Model/KrylovSp.lean), all instantiated at the rounded reals
  `Fl M` (Ohsl/Lemmas/Rounding.lean: standard model of floating-point arithmetic, no overflow /
  underflow; the transfer to Rust `f64` rests on the assumption stated there).

  Notation: `s : Sp (Fl M)` a well-formed square storage of order `n` (`SqWF s n`, C08C),
  `sqMat s n` the REAL matrix it denotes (entries `C07.entryR`, duplicates summed),
  `rval n a : Fin n → ℝ` the real values of an array, `arrFn n a : Fin n → Fl M` the function an array
  denotes (C08C's `toFn` for an arbitrary scalar type), `mvOf s n v = arrFn (multiply s (ofFn v))`,
  `mvTOf` likewise for `transpose_multiply`, `dotOf` the model's dot product (left fold from `0` of
  the rounded products), `normInf A` the largest absolute row sum.  Norms are ∞-norms.

  (1) the product assumption holds of the model (class F): `flMatVec_multiply_normInf` (duplicate-free
      storage; from the classical componentwise bound of `C07.multiply_rounding`),
      `flMatVec_transposeMultiply_normInf` (the transposed product), `flMatVec_multiply_slots`
      (storage WITH duplicate entries: same matrix, duplicates summed, constants from the slots);
      `dotOf_rounding` (the model's dot product; not needed by the drift bound, which holds for
      arbitrary scalars `α_i`).
  (2) transport array ↔ function (class S): `fnHomF` — on arrays of size `n`, `arrOps s n norm2`
      corresponds under `arrFn` to
      `spFlOps s n norm2 = flOps (mvOf s n) (mvTOf s n) (dotOf n) (norm2 ∘ ofFn)`, the record the
      C08F theorems are about with product, transposed product and dot product CONCRETE; with
      C08C's `valHomS` this is the span `Array ⊇ SqArr → functions` at which C08F's `cg_drift_span`,
      `bicg_drift_span` are instantiated in (3).
  (3) the drift bound for the model's solvers (class F): `cg_success_true_residual_sparse`,
      `bicg_success_true_residual_sparse` (the drift of the true residual, formed in REAL arithmetic
      from the values of the arrays with `A = sqMat s n`, from the recurrence residual the model
      tested), the `…_norm_sparse` forms (`a = ‖A‖∞`, explicit constants, a hypothesis on the
      arbitrary `norm2`), `solveIter_runs` (the call returns a value).
      `X`, `R` (bounds of the computed iterates / recurrence residuals, read at the ARRAY level) are
      hypotheses, as in C08F: they are a-posteriori quantities of the run.
  Hypotheses beyond the statement of the property: `C07.NoDup s` (no two stored entries at the same position)
  in the entry forms — `C07.multiply_rounding` needs it, because with duplicates `|a_ij|` can be
  smaller than the sum of the stored magnitudes; the slot forms cover duplicates.
  NOT done here: BiCGSTAB (done in C08H) and QMR (no drift theorem); `norm2` and the
  comparison `Transc.le` stay abstract (there is no global `Transc (Fl M)` instance; the examples
  install `leTransc` locally).
-/
import Ohsl.Props.C08F
import Ohsl.Props.C08K
import Ohsl.Props.C07F
import Mathlib.Order.ConditionallyCompleteLattice.Finset
import Mathlib.Tactic.IntervalCases
import Mathlib.Algebra.BigOperators.Fin

namespace Ohsl.Props.C08
open Ohsl Ohsl.Krylov

section Structural
variable {K : Type} [Add K] [Mul K] [Zero K]

theorem dotOf_eq_foldl (n : Nat) (v w : Fin n → K) :
    dotOf n v w = ((List.finRange n).map (fun i => v i * w i)).foldl (· + ·) 0 := by
  have e : Array.zipWith (· * ·) (Array.ofFn v) (Array.ofFn w) = Array.ofFn (fun i => v i * w i) := by
    apply Array.ext_getElem?
    intro i
    simp only [Array.getElem?_zipWith, Array.getElem?_ofFn]
    by_cases hi : i < n <;> simp [hi]
  unfold dotOf
  rw [e, ← Array.foldl_toList, Array.toList_ofFn, List.ofFn_eq_map]

end Structural

section Transport
variable {M : FlModel}

/-- the record of C08F (`flOps`) with everything concrete except the norm: the product is the model's
    `Sp.multiply`, the transposed product the model's `Sp.transposeMultiply`, the dot product the
    model's fold of rounded products (all read through `Array.ofFn` / `arrFn`); `norm2` is the
    array-level norm read through `Array.ofFn`. -/
noncomputable abbrev spFlOps (s : Sp (Fl M)) (n : Nat) (norm2 : Array (Fl M) → Fl M) :
    VOps (Fl M) (Fin n → Fl M) :=
  flOps (mvOf s n) (mvTOf s n) (dotOf n) (fun f => norm2 (Array.ofFn f))

/-- **(2)** C08C's `arrFn_hom` at the scalars `Fl M`, where its `pwOps` is C08F's `flOps`: on arrays
    of size `n`, `arrOps s n norm2` corresponds under `arrFn` to `spFlOps s n norm2`. -/
theorem fnHomF {s : Sp (Fl M)} {n : Nat} (h : SqWF s n) (norm2 : Array (Fl M) → Fl M) :
    VHom (subOpsS h norm2) (spFlOps s n norm2) (fun a => arrFn n a.1) :=
  arrFn_hom h norm2

end Transport

section Rounding

section Product
variable {M : FlModel}
open Ohsl.Props.C07 (entryR rowCount colCount NoDup)

/-- the real values of an array, as a vector of `ℝⁿ` (components beyond the size read as `0`) -/
def rval (n : Nat) (a : Array (Fl M)) : Fin n → ℝ := vval (arrFn n a)

/-- the real matrix a square storage denotes: entry `(i, j)` is the sum of the values stored at
    `(i, j)` (one value on duplicate-free storage), `0` if none (`C07.entryR`, i.e. `Sp.entry` of the
    real storage) -/
noncomputable def sqMat (s : Sp (Fl M)) (n : Nat) : Fin n → Fin n → ℝ := fun i j => entryR s i.1 j.1

/-- its transpose -/
noncomputable def sqMatT (s : Sp (Fl M)) (n : Nat) : Fin n → Fin n → ℝ := fun j i => entryR s i.1 j.1

/-- `‖A‖∞` of a real matrix: the largest absolute row sum (`0` for the empty matrix) -/
noncomputable def normInf {n : Nat} (Am : Fin n → Fin n → ℝ) : ℝ := ⨆ i, ∑ j, |Am i j|

theorem normInf_nonneg {n : Nat} (Am : Fin n → Fin n → ℝ) : 0 ≤ normInf Am :=
  Real.iSup_nonneg (fun _ => Finset.sum_nonneg (fun _ _ => abs_nonneg _))

theorem row_le_normInf {n : Nat} (Am : Fin n → Fin n → ℝ) (i : Fin n) :
    ∑ j, |Am i j| ≤ normInf Am :=
  le_ciSup (f := fun i => ∑ j, |Am i j|) (Set.finite_range _).bddAbove i

private theorem getD_ofFn_fin {n : Nat} (v : Fin n → Fl M) (j : Fin n) :
    (Array.ofFn v).getD j.1 0 = v j :=
  Ohsl.getD_ofFn v 0 j.2

/-- **(1a) componentwise bound for the model's `multiply`, in function form.**  For a well-formed
    duplicate-free square storage `s` of order `n` over `Fl M`, the computed product
    `mvOf s n v = arrFn (multiply s (ofFn v))` satisfies, in every component `i`,
    `|fl(A v)_i − Σ_j a_ij v_j| ≤ ((1+u)^(nᵢ+1) − 1) · Σ_j |a_ij| |v_j|`, `nᵢ = rowCount s i` the number
    of stored entries of row `i` (from `C07.multiply_rounding`). -/
theorem mvOf_componentwise {s : Sp (Fl M)} {n : Nat} (h : SqWF s n) (hnd : NoDup s)
    (v : Fin n → Fl M) (i : Fin n) :
    |(mvOf s n v i).val - ∑ j, sqMat s n i j * (v j).val|
      ≤ M.gam (rowCount s i.1 + 1) * ∑ j, |sqMat s n i j| * |(v j).val| := by
  obtain ⟨wf, hr, hc⟩ := h
  subst hc
  obtain ⟨y, h1, h2, h3⟩ := C07.multiply_rounding wf hnd (Array.ofFn v) (by simp)
  have hi : i.1 < s.rows := by rw [hr]; exact i.2
  have := h3 i.1 hi
  rw [Array.getD_eq_getD_getElem?, Finset.sum_range, Finset.sum_range] at this
  simp only [getD_ofFn_fin, abs_mul] at this
  have e : mvOf s s.cols v = arrFn s.cols y := by unfold mvOf; rw [h1]
  rw [e]
  exact this

theorem mvTOf_componentwise {s : Sp (Fl M)} {n : Nat} (h : SqWF s n) (hnd : NoDup s)
    (v : Fin n → Fl M) (j : Fin n) :
    |(mvTOf s n v j).val - ∑ i, sqMatT s n j i * (v i).val|
      ≤ M.gam (colCount s j.1 + 1) * ∑ i, |sqMatT s n j i| * |(v i).val| := by
  obtain ⟨wf, hr, hc⟩ := h
  subst hr
  obtain ⟨z, h1, h2, h3⟩ := C07.transposeMultiply_rounding wf hnd (Array.ofFn v) (by simp)
  have hj : j.1 < s.cols := by rw [hc]; exact j.2
  have := h3 j.1 hj
  rw [Array.getD_eq_getD_getElem?, Finset.sum_range, Finset.sum_range] at this
  simp only [getD_ofFn_fin, abs_mul] at this
  have e : mvTOf s s.rows v = arrFn s.rows z := by unfold mvTOf; rw [h1]
  rw [e]
  exact this

/-- **(1) the model's `multiply` satisfies `FlMatVec`**: for a well-formed duplicate-free square
    storage of order `n` over `Fl M`, `v ↦ arrFn (multiply s (ofFn v))` computes the linear map of the
    real matrix `sqMat s n` with relative error `εA = (1+u)^(kA+1) − 1` w.r.t. `a ‖v‖∞`, where `kA`
    bounds the number of stored entries per row and `a` the absolute row sums (`a ≥ ‖A‖∞`). -/
theorem flMatVec_multiply {s : Sp (Fl M)} {n : Nat} (h : SqWF s n) (hnd : NoDup s)
    (a : ℝ) (ha : 0 ≤ a) (hrow : ∀ i, ∑ j, |sqMat s n i j| ≤ a)
    (kA : ℕ) (hk : ∀ i, i < n → rowCount s i ≤ kA) :
    FlMatVec (mvOf s n) (rowLin (sqMat s n)) a (M.gam (kA + 1)) :=
  flMatVec_of_componentwise _ _ a _ ha (M.gam_nonneg _) hrow (fun v i =>
    (mvOf_componentwise h hnd v i).trans (mul_le_mul_of_nonneg_right
      (M.gam_mono (by have := hk i.1 i.2; omega))
      (Finset.sum_nonneg (fun _ _ => mul_nonneg (abs_nonneg _) (abs_nonneg _)))))

/-- with `a = ‖A‖∞` (the largest absolute row sum of the stored matrix) and
    `εA = (1+u)^(n+1) − 1` (a row of a duplicate-free storage of order `n` holds at most `n` entries) -/
theorem flMatVec_multiply_normInf {s : Sp (Fl M)} {n : Nat} (h : SqWF s n) (hnd : NoDup s) :
    FlMatVec (mvOf s n) (rowLin (sqMat s n)) (normInf (sqMat s n)) (M.gam (n + 1)) :=
  flMatVec_multiply h hnd _ (normInf_nonneg _) (row_le_normInf _) n
    (fun i _ => by have := C07.rowCount_le_cols h.wf hnd i; rw [h.cols] at this; exact this)

/-- **(1ᵀ) the model's `transpose_multiply` satisfies `FlMatVec`** w.r.t. the transposed matrix:
    `kAt` bounds the number of stored entries per column, `a'` the absolute column sums
    (`a' ≥ ‖Aᵀ‖∞ = ‖A‖₁`). -/
theorem flMatVec_transposeMultiply {s : Sp (Fl M)} {n : Nat} (h : SqWF s n) (hnd : NoDup s)
    (a' : ℝ) (ha : 0 ≤ a') (hcol : ∀ j, ∑ i, |sqMatT s n j i| ≤ a')
    (kAt : ℕ) (hk : ∀ j, j < n → colCount s j ≤ kAt) :
    FlMatVec (mvTOf s n) (rowLin (sqMatT s n)) a' (M.gam (kAt + 1)) :=
  flMatVec_of_componentwise _ _ a' _ ha (M.gam_nonneg _) hcol (fun v j =>
    (mvTOf_componentwise h hnd v j).trans (mul_le_mul_of_nonneg_right
      (M.gam_mono (by have := hk j.1 j.2; omega))
      (Finset.sum_nonneg (fun _ _ => mul_nonneg (abs_nonneg _) (abs_nonneg _)))))

theorem flMatVec_transposeMultiply_normInf {s : Sp (Fl M)} {n : Nat} (h : SqWF s n) (hnd : NoDup s) :
    FlMatVec (mvTOf s n) (rowLin (sqMatT s n)) (normInf (sqMatT s n)) (M.gam (n + 1)) :=
  flMatVec_transposeMultiply h hnd _ (normInf_nonneg _) (row_le_normInf _) n
    (fun j hj => by
      have := C07.colCount_le_rows h.wf hnd (j := j) (by rw [h.cols]; exact hj)
      rw [h.rows] at this; exact this)

/-- the slot majorant of `|a_ij|`: the sum of `|val[k]|` over the slots of column `j` aimed at row `i`
    (`= |a_ij|` for duplicate-free storage; larger when duplicates cancel) -/
noncomputable def sqAbs (s : Sp (Fl M)) (n : Nat) : Fin n → Fin n → ℝ := fun i j =>
  ∑ k ∈ Finset.Ico (s.cs j.1) (s.cs (j.1 + 1)), if s.ri k = i.1 then |(s.vl k).val| else 0

theorem sqMat_le_sqAbs (s : Sp (Fl M)) (n : Nat) (i j : Fin n) : |sqMat s n i j| ≤ sqAbs s n i j := by
  unfold sqMat sqAbs
  rw [C07.entryR_eq]
  refine (Finset.abs_sum_le_sum_abs _ _).trans (Finset.sum_le_sum (fun k _ => ?_))
  split <;> simp

theorem mvOf_componentwise_slots {s : Sp (Fl M)} {n : Nat} (h : SqWF s n)
    (v : Fin n → Fl M) (i : Fin n) :
    |(mvOf s n v i).val - ∑ j, sqMat s n i j * (v j).val|
      ≤ M.gam (rowCount s i.1 + 1) * ∑ j, sqAbs s n i j * |(v j).val| := by
  obtain ⟨wf, hr, hc⟩ := h
  subst hc
  obtain ⟨y, h1, h2, h3⟩ := C07.multiply_rounding_slots wf (Array.ofFn v) (by simp)
  have hi : i.1 < s.rows := by rw [hr]; exact i.2
  have := h3 i.1 hi
  rw [Array.getD_eq_getD_getElem?, Finset.sum_range, Finset.sum_range] at this
  simp only [getD_ofFn_fin] at this
  have e : mvOf s s.cols v = arrFn s.cols y := by unfold mvOf; rw [h1]
  rw [e]
  have e1 : ∀ j : Fin s.cols, sqMat s s.cols i j * (v j).val
      = ∑ k ∈ Finset.Ico (s.cs j.1) (s.cs (j.1 + 1)),
          if s.ri k = i.1 then (s.vl k).val * (v j).val else 0 := fun j => C07.entryR_mul s i.1 j.1 _
  have e2 : ∀ j : Fin s.cols, sqAbs s s.cols i j * |(v j).val|
      = ∑ k ∈ Finset.Ico (s.cs j.1) (s.cs (j.1 + 1)),
          if s.ri k = i.1 then |(s.vl k).val * (v j).val| else 0 := by
    intro j
    unfold sqAbs
    rw [Finset.sum_mul]
    refine Finset.sum_congr rfl (fun k _ => ?_)
    split <;> simp [abs_mul]
  simp only [e1, e2]
  exact this

/-- **(1, duplicates allowed) `multiply` on every well-formed square storage satisfies `FlMatVec`**
    w.r.t. the matrix the storage denotes (duplicates summed), with `a` a bound of the slot row sums
    `Σ_j Σ_k |val[k]|` and `kA` a bound of the number of slots per row. -/
theorem flMatVec_multiply_slots {s : Sp (Fl M)} {n : Nat} (h : SqWF s n)
    (a : ℝ) (ha : 0 ≤ a) (hrow : ∀ i, ∑ j, sqAbs s n i j ≤ a)
    (kA : ℕ) (hk : ∀ i, i < n → rowCount s i ≤ kA) :
    FlMatVec (mvOf s n) (rowLin (sqMat s n)) a (M.gam (kA + 1)) :=
  flMatVec_of_majorant _ _ (sqAbs s n) a _ ha (M.gam_nonneg _) (sqMat_le_sqAbs s n) hrow (fun v i =>
    (mvOf_componentwise_slots h v i).trans (mul_le_mul_of_nonneg_right
      (M.gam_mono (by have := hk i.1 i.2; omega))
      (Finset.sum_nonneg (fun j _ => mul_nonneg ((abs_nonneg _).trans (sqMat_le_sqAbs s n i j))
        (abs_nonneg _)))))

/-- the model's dot product (`arrOps.dot`, in function form): one rounding per product and `n`
    rounded additions (the first one `0 + ·`): `|fl(v·w) − Σ v_i w_i| ≤ ((1+u)^(n+1) − 1) Σ |v_i w_i|` -/
theorem dotOf_rounding (n : Nat) (v w : Fin n → Fl M) :
    |(dotOf n v w).val - ∑ i, (v i).val * (w i).val|
      ≤ M.gam (n + 1) * ∑ i, |(v i).val * (w i).val| := by
  have := C07.fold_terms_rounding (List.finRange n) v w
  rw [← dotOf_eq_foldl, List.length_finRange, ← List.ofFn_eq_map, ← List.ofFn_eq_map,
    List.sum_ofFn, List.sum_ofFn] at this
  exact this

theorem div_one_sub_le_two_mul {x : ℝ} (h0 : 0 ≤ x) (h : 2 * x ≤ 1) : x / (1 - x) ≤ 2 * x := by
  rw [div_le_iff₀ (by linarith)]
  linarith [mul_nonneg h0 (sub_nonneg.mpr h)]

/-- `(1+u)^k − 1 ≤ 2 k u` when `k u ≤ 1/2`: the constant `cA = 2 k` of the C08F theorems -/
theorem gam_le_two_mul (k : ℕ) (hk : (k : ℝ) * M.u ≤ 1 / 2) : M.gam k ≤ 2 * k * M.u :=
  (M.gam_le_gamma k (hk.trans_lt (by norm_num))).trans
    ((div_one_sub_le_two_mul (mul_nonneg (Nat.cast_nonneg k) M.u_nonneg)
      ((le_div_iff₀' zero_lt_two).mp hk)).trans_eq (mul_assoc 2 _ _).symm)

theorem gam_succ_le (n : ℕ) (hnu : ((n + 1 : ℕ) : ℝ) * M.u ≤ 1 / 2) :
    M.gam (n + 1) ≤ 2 * ((n : ℝ) + 1) * M.u := by
  have := gam_le_two_mul (n + 1) hnu
  rwa [Nat.cast_succ] at this

end Product

section Sparse
variable {M : FlModel} [Transc (Fl M)]
open Ohsl.Props.C07 (entryR rowCount colCount NoDup)

/-- on a well-formed square storage over `Fl M` with right-hand side and guess of size `n` the call
    `solve_cg` does return a value (the storage guard of `solveIter` passes: the first product cannot panic) -/
theorem solveIter_runs {s : Sp (Fl M)} {n : Nat} (h : SqWF s n) (norm2 : Array (Fl M) → Fl M)
    (b x0 : Array (Fl M)) (hb : b.size = n) (hx : x0.size = n) (maxIter : ℕ) (tol : Fl M) :
    Sp.solveIter s .cg b x0 maxIter tol norm2
      = .ok (solveCG (Sp.arrOps s n norm2) b x0 maxIter tol) :=
  solveIter_runs_of h norm2 .cg (fun _ hm => by cases hm) b x0 hb hx maxIter tol

/-- **`solve_cg` of the model, any real matrix the product is known to approximate**: the statement
    of `cg_success_true_residual_sparse` with the product assumption `FlMatVec (mvOf s n) A a εA`
    about the MODEL's product `mvOf s n = arrFn ∘ Sp.multiply s ∘ ofFn` as a hypothesis
    (`flMatVec_multiply` provides it for duplicate-free storage, `flMatVec_multiply_slots` for every
    well-formed storage). -/
theorem cg_success_true_residual_sparse_of {s : Sp (Fl M)} {n : Nat} (h : SqWF s n)
    {A : (Fin n → ℝ) →ₗ[ℝ] (Fin n → ℝ)} {a εA : ℝ} (H : FlMatVec (mvOf s n) A a εA)
    (norm2 : Array (Fl M) → Fl M) (b x0 : Array (Fl M)) (maxIter : ℕ) (tol : Fl M)
    (out : KOut (Fl M) (Array (Fl M)))
    (hrun : Sp.solveIter s .cg b x0 maxIter tol norm2 = .ok out) (hok : out.ok = true)
    (hu8 : M.u ≤ 1 / 8) (cA : ℝ) (hcA : 0 ≤ cA) (hεc : εA ≤ cA * M.u) (X R : ℝ)
    (hX : ∀ j, j ≤ out.iters →
      ‖rval n (cgStates (Sp.arrOps s n norm2) (guardNorm (norm2 b))
        (cgInit (Sp.arrOps s n norm2) b x0 (guardNorm (norm2 b))) j).x‖ ≤ X)
    (hR : ∀ j, j < out.iters →
      ‖rval n (cgStates (Sp.arrOps s n norm2) (guardNorm (norm2 b))
        (cgInit (Sp.arrOps s n norm2) b x0 (guardNorm (norm2 b))) j).r‖ ≤ R) :
    out.x.size = n ∧ out.iters ≤ maxIter ∧
    ∃ rk : Array (Fl M),
      rk = (cgStates (Sp.arrOps s n norm2) (guardNorm (norm2 b))
        (cgInit (Sp.arrOps s n norm2) b x0 (guardNorm (norm2 b))) out.iters).r ∧
      rk.size = n ∧
      Transc.le (norm2 rk / guardNorm (norm2 b)) tol = true ∧
      ‖(rval n b - A (rval n out.x)) - rval n rk‖
        ≤ M.u * (‖rval n b‖ + (1 + 2 * cA) * a * X)
          + out.iters * M.u * ((16 + 6 * cA) * a * X + R) := by
  obtain ⟨hb, hx, _, rfl⟩ := solveIter_ok_inv h norm2 .cg b x0 maxIter tol out hrun
  -- the span `Array ⊇ SqArr → functions`; sizes come with `SqArr`
  obtain ⟨⟨y, hy⟩, hit, rk, hrk, ht, hd⟩ := cg_drift_span (valHomS h norm2) (fnHomF h norm2) H (rval n)
    (fun _ => rfl) ⟨b, hb⟩ ⟨x0, hx⟩ maxIter tol hu8 cA hcA hεc X R hok hX hR
  exact ⟨hy ▸ y.2, hit, rk.1, hrk, rk.2, ht, hd⟩

theorem bicg_success_true_residual_sparse_of {s : Sp (Fl M)} {n : Nat} (h : SqWF s n)
    {A : (Fin n → ℝ) →ₗ[ℝ] (Fin n → ℝ)} {a εA : ℝ} (H : FlMatVec (mvOf s n) A a εA)
    (norm2 : Array (Fl M) → Fl M) (b x0 : Array (Fl M)) (maxIter : ℕ) (tol : Fl M) (itol : ℕ)
    (out : KOut (Fl M) (Array (Fl M)))
    (hrun : Sp.solveIter s (.bicg itol) b x0 maxIter tol norm2 = .ok out) (hok : out.ok = true)
    (hu8 : M.u ≤ 1 / 8) (cA : ℝ) (hcA : 0 ≤ cA) (hεc : εA ≤ cA * M.u) (X R : ℝ)
    (hX : ∀ j, j ≤ out.iters →
      ‖rval n (bicgStates (Sp.arrOps s n norm2) (guardNorm (norm2 b)) itol
        (bicgInit (Sp.arrOps s n norm2) b x0 (guardNorm (norm2 b)) itol) j).x‖ ≤ X)
    (hR : ∀ j, j < out.iters →
      ‖rval n (bicgStates (Sp.arrOps s n norm2) (guardNorm (norm2 b)) itol
        (bicgInit (Sp.arrOps s n norm2) b x0 (guardNorm (norm2 b)) itol) j).r‖ ≤ R) :
    (itol = 1 ∨ itol = 2) ∧ out.x.size = n ∧ out.iters ≤ maxIter ∧
    ∃ rk : Array (Fl M),
      rk = (bicgStates (Sp.arrOps s n norm2) (guardNorm (norm2 b)) itol
        (bicgInit (Sp.arrOps s n norm2) b x0 (guardNorm (norm2 b)) itol) out.iters).r ∧
      rk.size = n ∧
      Transc.le (norm2 rk / guardNorm (norm2 b)) tol = true ∧
      ‖(rval n b - A (rval n out.x)) - rval n rk‖
        ≤ M.u * (‖rval n b‖ + (1 + 2 * cA) * a * X)
          + out.iters * M.u * ((16 + 6 * cA) * a * X + R) := by
  obtain ⟨hb, hx, hit, rfl⟩ := solveIter_ok_inv h norm2 (.bicg itol) b x0 maxIter tol out hrun
  have hit : itol = 1 ∨ itol = 2 := hit itol rfl
  obtain ⟨⟨y, hy⟩, hk, rk, hrk, ht, hd⟩ := bicg_drift_span (valHomS h norm2) (fnHomF h norm2) H (rval n)
    (fun _ => rfl) ⟨b, hb⟩ ⟨x0, hx⟩ maxIter tol itol hu8 cA hcA hεc X R hok hX hR
  exact ⟨hit, hy ▸ y.2, hk, rk.1, hrk, rk.2, ht, hd⟩

/-- **C08, quantitative clause, for the model's `solve_cg`** (`Sp.solveIter s .cg` at scalars `Fl M`,
    standard model of floating-point arithmetic, ∞-norm).  Let `s` be a well-formed duplicate-free
    square storage of order `n`, `A = sqMat s n` the REAL matrix it denotes, `a` a bound of its
    absolute row sums (`a ≥ ‖A‖∞`), `kA` a bound of the number of stored entries per row,
    `M.u ≤ 1/8` and `(1+u)^(kA+1) − 1 ≤ cA · u`.  If the call returns `out` reporting success, and `X`,
    `R` bound the computed iterates (`j ≤ iters`) and recurrence residuals (`j < iters`), then `out.x`
    has size `n`, `out.iters ≤ maxIter`, the recurrence residual `rk` of the exit state passed the
    model's test, and the TRUE residual `b − A·out.x`, formed in REAL arithmetic from the real values
    of the arrays, differs from it by at most
    `u (‖b‖ + (1 + 2 cA) a X) + iters · u · ((16 + 6 cA) a X + R)`.
    `norm2` and the comparison `Transc.le` are arbitrary; the product, transposed product and dot
    product are the model's (`Sp.multiply`, `Sp.transposeMultiply`, fold of rounded products). -/
theorem cg_success_true_residual_sparse {s : Sp (Fl M)} {n : Nat} (h : SqWF s n) (hnd : NoDup s)
    (norm2 : Array (Fl M) → Fl M) (b x0 : Array (Fl M)) (maxIter : ℕ) (tol : Fl M)
    (out : KOut (Fl M) (Array (Fl M)))
    (hrun : Sp.solveIter s .cg b x0 maxIter tol norm2 = .ok out) (hok : out.ok = true)
    (a : ℝ) (ha : 0 ≤ a) (hrow : ∀ i, ∑ j, |sqMat s n i j| ≤ a)
    (kA : ℕ) (hk : ∀ i, i < n → rowCount s i ≤ kA)
    (hu8 : M.u ≤ 1 / 8) (cA : ℝ) (hcA : 0 ≤ cA) (hεc : M.gam (kA + 1) ≤ cA * M.u) (X R : ℝ)
    (hX : ∀ j, j ≤ out.iters →
      ‖rval n (cgStates (Sp.arrOps s n norm2) (guardNorm (norm2 b))
        (cgInit (Sp.arrOps s n norm2) b x0 (guardNorm (norm2 b))) j).x‖ ≤ X)
    (hR : ∀ j, j < out.iters →
      ‖rval n (cgStates (Sp.arrOps s n norm2) (guardNorm (norm2 b))
        (cgInit (Sp.arrOps s n norm2) b x0 (guardNorm (norm2 b))) j).r‖ ≤ R) :
    out.x.size = n ∧ out.iters ≤ maxIter ∧
    ∃ rk : Array (Fl M),
      rk = (cgStates (Sp.arrOps s n norm2) (guardNorm (norm2 b))
        (cgInit (Sp.arrOps s n norm2) b x0 (guardNorm (norm2 b))) out.iters).r ∧
      rk.size = n ∧
      Transc.le (norm2 rk / guardNorm (norm2 b)) tol = true ∧
      ‖(rval n b - rowLin (sqMat s n) (rval n out.x)) - rval n rk‖
        ≤ M.u * (‖rval n b‖ + (1 + 2 * cA) * a * X)
          + out.iters * M.u * ((16 + 6 * cA) * a * X + R) :=
  cg_success_true_residual_sparse_of h (flMatVec_multiply h hnd a ha hrow kA hk) norm2 b x0 maxIter
    tol out hrun hok hu8 cA hcA hεc X R hX hR

/-- **C08, quantitative clause, for the model's `solve_bicg`** (`Sp.solveIter s (.bicg itol)`; the
    `itol` guard has passed since the call returned): the statement of
    `cg_success_true_residual_sparse`. -/
theorem bicg_success_true_residual_sparse {s : Sp (Fl M)} {n : Nat} (h : SqWF s n) (hnd : NoDup s)
    (norm2 : Array (Fl M) → Fl M) (b x0 : Array (Fl M)) (maxIter : ℕ) (tol : Fl M) (itol : ℕ)
    (out : KOut (Fl M) (Array (Fl M)))
    (hrun : Sp.solveIter s (.bicg itol) b x0 maxIter tol norm2 = .ok out) (hok : out.ok = true)
    (a : ℝ) (ha : 0 ≤ a) (hrow : ∀ i, ∑ j, |sqMat s n i j| ≤ a)
    (kA : ℕ) (hk : ∀ i, i < n → rowCount s i ≤ kA)
    (hu8 : M.u ≤ 1 / 8) (cA : ℝ) (hcA : 0 ≤ cA) (hεc : M.gam (kA + 1) ≤ cA * M.u) (X R : ℝ)
    (hX : ∀ j, j ≤ out.iters →
      ‖rval n (bicgStates (Sp.arrOps s n norm2) (guardNorm (norm2 b)) itol
        (bicgInit (Sp.arrOps s n norm2) b x0 (guardNorm (norm2 b)) itol) j).x‖ ≤ X)
    (hR : ∀ j, j < out.iters →
      ‖rval n (bicgStates (Sp.arrOps s n norm2) (guardNorm (norm2 b)) itol
        (bicgInit (Sp.arrOps s n norm2) b x0 (guardNorm (norm2 b)) itol) j).r‖ ≤ R) :
    (itol = 1 ∨ itol = 2) ∧ out.x.size = n ∧ out.iters ≤ maxIter ∧
    ∃ rk : Array (Fl M),
      rk = (bicgStates (Sp.arrOps s n norm2) (guardNorm (norm2 b)) itol
        (bicgInit (Sp.arrOps s n norm2) b x0 (guardNorm (norm2 b)) itol) out.iters).r ∧
      rk.size = n ∧
      Transc.le (norm2 rk / guardNorm (norm2 b)) tol = true ∧
      ‖(rval n b - rowLin (sqMat s n) (rval n out.x)) - rval n rk‖
        ≤ M.u * (‖rval n b‖ + (1 + 2 * cA) * a * X)
          + out.iters * M.u * ((16 + 6 * cA) * a * X + R) :=
  bicg_success_true_residual_sparse_of h (flMatVec_multiply h hnd a ha hrow kA hk) norm2 b x0 maxIter
    tol itol out hrun hok hu8 cA hcA hεc X R hX hR

/-- **the same with the norm of the recurrence residual and explicit constants**: `a = ‖A‖∞`
    (`normInf`, the largest absolute row sum of the stored matrix), `εA = (1+u)^(n+1) − 1 ≤ 2(n+1)u`
    when `(n+1) u ≤ 1/2` (so `cA = 2(n+1)`).  If passing the model's stopping test (arbitrary `norm2`,
    rounded `/`, arbitrary comparison) implies `‖r‖∞ ≤ τ` for arrays of size `n`, then on success
    `‖b − A·out.x‖∞ ≤ τ + u (‖b‖ + (4n+5) ‖A‖∞ X) + iters · u · ((12n+28) ‖A‖∞ X + R)`. -/
theorem cg_success_true_residual_norm_sparse {s : Sp (Fl M)} {n : Nat} (h : SqWF s n)
    (hnd : NoDup s) (norm2 : Array (Fl M) → Fl M) (b x0 : Array (Fl M)) (maxIter : ℕ) (tol : Fl M)
    (out : KOut (Fl M) (Array (Fl M)))
    (hrun : Sp.solveIter s .cg b x0 maxIter tol norm2 = .ok out) (hok : out.ok = true)
    (hu8 : M.u ≤ 1 / 8) (hnu : ((n + 1 : ℕ) : ℝ) * M.u ≤ 1 / 2) (X R τ : ℝ)
    (htest : ∀ r : Array (Fl M), r.size = n →
      Transc.le (norm2 r / guardNorm (norm2 b)) tol = true → ‖rval n r‖ ≤ τ)
    (hX : ∀ j, j ≤ out.iters →
      ‖rval n (cgStates (Sp.arrOps s n norm2) (guardNorm (norm2 b))
        (cgInit (Sp.arrOps s n norm2) b x0 (guardNorm (norm2 b))) j).x‖ ≤ X)
    (hR : ∀ j, j < out.iters →
      ‖rval n (cgStates (Sp.arrOps s n norm2) (guardNorm (norm2 b))
        (cgInit (Sp.arrOps s n norm2) b x0 (guardNorm (norm2 b))) j).r‖ ≤ R) :
    ‖rval n b - rowLin (sqMat s n) (rval n out.x)‖
      ≤ τ + M.u * (‖rval n b‖ + (4 * n + 5) * normInf (sqMat s n) * X)
        + out.iters * M.u * ((12 * n + 28) * normInf (sqMat s n) * X + R) := by
  obtain ⟨_, _, rk, _, hsz, ht, hd⟩ := cg_success_true_residual_sparse_of h
    (flMatVec_multiply_normInf h hnd) norm2 b x0 maxIter tol out hrun hok hu8 (2 * ((n : ℝ) + 1))
    (by positivity) (gam_succ_le n hnu) X R hX hR
  exact (norm_le_insert' _ (rval n rk)).trans
    ((add_le_add (htest rk hsz ht) hd).trans_eq (by ring))

/-- the BiCG statement with the norm of the recurrence residual and explicit constants -/
theorem bicg_success_true_residual_norm_sparse {s : Sp (Fl M)} {n : Nat} (h : SqWF s n)
    (hnd : NoDup s) (norm2 : Array (Fl M) → Fl M) (b x0 : Array (Fl M)) (maxIter : ℕ) (tol : Fl M)
    (itol : ℕ) (out : KOut (Fl M) (Array (Fl M)))
    (hrun : Sp.solveIter s (.bicg itol) b x0 maxIter tol norm2 = .ok out) (hok : out.ok = true)
    (hu8 : M.u ≤ 1 / 8) (hnu : ((n + 1 : ℕ) : ℝ) * M.u ≤ 1 / 2) (X R τ : ℝ)
    (htest : ∀ r : Array (Fl M), r.size = n →
      Transc.le (norm2 r / guardNorm (norm2 b)) tol = true → ‖rval n r‖ ≤ τ)
    (hX : ∀ j, j ≤ out.iters →
      ‖rval n (bicgStates (Sp.arrOps s n norm2) (guardNorm (norm2 b)) itol
        (bicgInit (Sp.arrOps s n norm2) b x0 (guardNorm (norm2 b)) itol) j).x‖ ≤ X)
    (hR : ∀ j, j < out.iters →
      ‖rval n (bicgStates (Sp.arrOps s n norm2) (guardNorm (norm2 b)) itol
        (bicgInit (Sp.arrOps s n norm2) b x0 (guardNorm (norm2 b)) itol) j).r‖ ≤ R) :
    ‖rval n b - rowLin (sqMat s n) (rval n out.x)‖
      ≤ τ + M.u * (‖rval n b‖ + (4 * n + 5) * normInf (sqMat s n) * X)
        + out.iters * M.u * ((12 * n + 28) * normInf (sqMat s n) * X + R) := by
  obtain ⟨_, _, _, rk, _, hsz, ht, hd⟩ := bicg_success_true_residual_sparse_of h
    (flMatVec_multiply_normInf h hnd) norm2 b x0 maxIter tol itol out hrun hok hu8
    (2 * ((n : ℝ) + 1)) (by positivity) (gam_succ_le n hnu) X R hX hR
  exact (norm_le_insert' _ (rval n rk)).trans
    ((add_le_add (htest rk hsz ht) hd).trans_eq (by ring))

end Sparse

end Rounding

section Examples
open Ohsl.Props.C07 (rowCount colCount NoDup)

theorem solveCG_first_step {K V : Type} [Add K] [Sub K] [Mul K] [Neg K] [Div K] [Zero K] [One K]
    [BEq K] [Transc K] (o : VOps K V) (b x : V) (m : Nat) (tol : K)
    (h0 : Transc.le (cgInit o b x (guardNorm (o.norm2 b))).resid tol = false)
    (h1 : Transc.le (cgNext o (guardNorm (o.norm2 b)) 1
      (cgInit o b x (guardNorm (o.norm2 b)))).resid tol = true) :
    solveCG o b x (m + 1) tol = ⟨true, 1,
      (cgNext o (guardNorm (o.norm2 b)) 1 (cgInit o b x (guardNorm (o.norm2 b)))).resid,
      (cgNext o (guardNorm (o.norm2 b)) 1 (cgInit o b x (guardNorm (o.norm2 b)))).x⟩ := by
  have h0' : Transc.le (o.norm2 (o.sub b (o.A x)) / guardNorm (o.norm2 b)) tol = false := h0
  unfold solveCG
  simp only [h0', Bool.false_eq_true, if_false]
  show iterate (cgStep o (guardNorm (o.norm2 b)) tol) _ (m + 1) 1
    (cgInit o b x (guardNorm (o.norm2 b))) = _
  unfold iterate
  rw [cgStep_eq_next, if_pos h1]

/-- the symmetric positive definite matrix `[[2,1],[1,2]]` in CSC form, over any rounded-reals model -/
def spd2F (M : FlModel) : Sp (Fl M) :=
  ⟨2, 2, 4, #[⟨2⟩, ⟨1⟩, ⟨1⟩, ⟨2⟩], #[0, 1, 0, 1], #[0, 2, 4]⟩

/-- `SqWF` and `NoDup` are satisfiable, in every model -/
theorem spd2F_sqwf (M : FlModel) : SqWF (spd2F M) 2 ∧ NoDup (spd2F M) := full2_sqwf _ rfl

theorem spd2F_entries (M : FlModel) :
    C07.entryR (spd2F M) 0 0 = 2 ∧ C07.entryR (spd2F M) 0 1 = 1 ∧
    C07.entryR (spd2F M) 1 0 = 1 ∧ C07.entryR (spd2F M) 1 1 = 2 := by
  obtain ⟨e00, e10, e01, e11⟩ := full2_entry (#[⟨2⟩, ⟨1⟩, ⟨1⟩, (⟨2⟩ : Fl M)].map Fl.val)
  exact ⟨e00.trans (by simp), e01.trans (by simp), e10.trans (by simp), e11.trans (by simp)⟩

/-- its absolute row sums are at most `3` and every row holds at most `2` entries -/
theorem spd2F_rows (M : FlModel) :
    (∀ i, ∑ j, |sqMat (spd2F M) 2 i j| ≤ 3) ∧ (∀ i, i < 2 → rowCount (spd2F M) i ≤ 2) := by
  obtain ⟨e00, e01, e10, e11⟩ := spd2F_entries M
  constructor
  · intro i
    fin_cases i <;> simp [Fin.sum_univ_two, sqMat, e00, e01, e10, e11] <;> norm_num
  · intro i hi
    interval_cases i <;> exact le_of_eq rfl

/-- a `Transc (Fl M)` used only by the examples: `<=` is the exact comparison of the values (nothing
    else of `Transc` is evaluated by CG / BiCG / BiCGSTAB) -/
@[reducible] noncomputable def leTransc (M : FlModel) : Transc (Fl M) where
  sqrt := id
  sin := id
  cos := id
  tan := id
  exp := id
  ln := id
  sinh := id
  cosh := id
  fabs := id
  atan2 := fun a _ => a
  powf := fun a _ => a
  fmax := fun a _ => a
  ofNat := fun n => ⟨n⟩
  le := fun a b => decide (a.val ≤ b.val)
  half := ⟨1 / 2⟩
  piHalf := 0
  eps := 0
  snap := 0

/-- the exact 1-norm of the first two components (any function is allowed as the norm) -/
noncomputable def nrm1 {M : FlModel} (a : Array (Fl M)) : Fl M :=
  ⟨|(a.getD 0 0).val| + |(a.getD 1 0).val|⟩

private theorem Fl_mk_add {M : FlModel} (a b : ℝ) : ((⟨a⟩ : Fl M) + ⟨b⟩) = ⟨M.fl (a + b)⟩ := rfl
private theorem Fl_mk_sub {M : FlModel} (a b : ℝ) : ((⟨a⟩ : Fl M) - ⟨b⟩) = ⟨M.fl (a - b)⟩ := rfl
private theorem Fl_mk_mul {M : FlModel} (a b : ℝ) : ((⟨a⟩ : Fl M) * ⟨b⟩) = ⟨M.fl (a * b)⟩ := rfl
private theorem Fl_mk_div {M : FlModel} (a b : ℝ) : ((⟨a⟩ : Fl M) / ⟨b⟩) = ⟨M.fl (a / b)⟩ := rfl
private theorem Fl_zero_mk {M : FlModel} (a : ℝ) : (0 : Fl M) + ⟨a⟩ = ⟨M.fl (0 + a)⟩ := rfl

noncomputable abbrev spd2Ops (M : FlModel) [Transc (Fl M)] : VOps (Fl M) (Array (Fl M)) :=
  Sp.arrOps (spd2F M) 2 nrm1

section Spd2Run
variable {M : FlModel} [Transc (Fl M)]

theorem spd2F_multiply {M : FlModel} (x0 x1 : Fl M) : Sp.multiply (spd2F M) #[x0, x1]
    = .ok #[0 + ⟨2⟩ * x0 + ⟨1⟩ * x1, 0 + ⟨1⟩ * x0 + ⟨2⟩ * x1] := by
  unfold spd2F
  exact full2_multiply (K := Fl M) ⟨2⟩ ⟨1⟩ ⟨1⟩ ⟨2⟩ x0 x1

theorem spd2Ops_A (x0 x1 : Fl M) : (spd2Ops M).A #[x0, x1]
    = #[0 + ⟨2⟩ * x0 + ⟨1⟩ * x1, 0 + ⟨1⟩ * x0 + ⟨2⟩ * x1] := by
  simp only [Sp.arrOps, spd2F_multiply]

theorem spd2Ops_sub (a0 a1 b0 b1 : Fl M) : (spd2Ops M).sub #[a0, a1] #[b0, b1] = #[a0 - b0, a1 - b1] := by
  simp [Sp.arrOps]

theorem spd2Ops_add (a0 a1 b0 b1 : Fl M) : (spd2Ops M).add #[a0, a1] #[b0, b1] = #[a0 + b0, a1 + b1] := by
  simp [Sp.arrOps]

theorem spd2Ops_smul (a0 a1 k : Fl M) : (spd2Ops M).smul #[a0, a1] k = #[a0 * k, a1 * k] := by
  simp [Sp.arrOps]

theorem spd2Ops_dot (a0 a1 b0 b1 : Fl M) : (spd2Ops M).dot #[a0, a1] #[b0, b1] = 0 + a0 * b0 + a1 * b1 := by
  simp [Sp.arrOps]

theorem spd2Ops_norm2 (a0 a1 : Fl M) : (spd2Ops M).norm2 #[a0, a1] = ⟨|a0.val| + |a1.val|⟩ := rfl

theorem fl_small {M : FlModel} (hrep : ∀ k : ℤ, |k| ≤ 2 → M.fl k = k) :
    M.fl 0 = 0 ∧ M.fl 1 = 1 ∧ M.fl 2 = 2 ∧ M.fl (-1) = -1 ∧ M.fl (-2) = -2 :=
  ⟨M.fl_zero, by simpa using hrep 1 (by norm_num), by simpa using hrep 2 (by norm_num),
    by simpa using hrep (-1) (by norm_num), by simpa using hrep (-2) (by norm_num)⟩

/-- the common start of the runs on `[[2,1],[1,2]] x = [1,−1]` from `x₀ = 0`: the divisor is
    `‖b‖ = 2`, `r₀ = b`, `A r₀ = r₀` and `r₀ · r₀ = 2` -/
theorem spd2_start (hrep : ∀ k : ℤ, |k| ≤ 2 → M.fl k = k) :
    guardNorm ((spd2Ops M).norm2 #[⟨1⟩, ⟨-1⟩]) = ⟨2⟩ ∧
    (spd2Ops M).sub #[⟨1⟩, ⟨-1⟩] ((spd2Ops M).A #[⟨0⟩, ⟨0⟩]) = #[⟨1⟩, ⟨-1⟩] ∧
    (spd2Ops M).A #[⟨1⟩, ⟨-1⟩] = #[⟨1⟩, ⟨-1⟩] ∧
    (spd2Ops M).dot #[⟨1⟩, ⟨-1⟩] #[⟨1⟩, ⟨-1⟩] = ⟨2⟩ := by
  obtain ⟨f0, f1, f2, fm1, fm2⟩ := fl_small hrep
  refine ⟨?_, ?_, ?_, ?_⟩
  · have : (⟨|(1:ℝ)| + |(-1:ℝ)|⟩ : Fl M) = ⟨2⟩ := Fl.ext (by norm_num)
    rw [spd2Ops_norm2, this, guardNorm, if_neg]
    simp [Fl.ext_iff]
  · rw [spd2Ops_A, spd2Ops_sub]
    norm_num [Fl.mk_add, Fl.mk_sub, Fl.mk_mul, Fl.zero_add_mk, f0, f1, fm1]
  · rw [spd2Ops_A]
    norm_num [Fl.mk_add, Fl.mk_mul, Fl.zero_add_mk, f0, f1, f2, fm1, fm2]
  · rw [spd2Ops_dot]
    norm_num [Fl.mk_add, Fl.mk_mul, Fl.zero_add_mk, f0, f1, f2, fm1, fm2]

end Spd2Run

/-- **a run that succeeds THROUGH THE LOOP, in every model in which the integers `0, ±1, ±2` are
    representable** (`binary64`, `exact`, …): the model's CG on `[[2,1],[1,2]] x = [1,−1]` from
    `x₀ = 0` with `tol = 0` is not accepted at the initial check (relative residual `1`) and succeeds
    in iteration 1 with `x = [1,−1]` (every intermediate value is one of `0, ±1, ±2`). -/
theorem spd2F_run (M : FlModel) (hrep : ∀ k : ℤ, |k| ≤ 2 → M.fl k = k) :
    letI := leTransc M
    solveCG (Sp.arrOps (spd2F M) 2 nrm1) #[⟨1⟩, ⟨-1⟩] #[⟨0⟩, ⟨0⟩] 5 ⟨0⟩
      = ⟨true, 1, ⟨0⟩, #[⟨1⟩, ⟨-1⟩]⟩ := by
  let _ := leTransc M
  obtain ⟨f0, f1, f2, fm1, fm2⟩ := fl_small hrep
  obtain ⟨hnb, hr0, hq, hrho⟩ := spd2_start (M := M) hrep
  have hS0 : cgInit (spd2Ops M) #[⟨1⟩, ⟨-1⟩] #[⟨0⟩, ⟨0⟩] ⟨2⟩
      = ⟨#[⟨0⟩, ⟨0⟩], #[⟨1⟩, ⟨-1⟩], (spd2Ops M).zero, 1, ⟨1⟩⟩ := by
    rw [cgInit, hr0, spd2Ops_norm2]
    norm_num [Fl.mk_div, f1]
  have hS1 : cgNext (spd2Ops M) ⟨2⟩ 1 ⟨#[⟨0⟩, ⟨0⟩], #[⟨1⟩, ⟨-1⟩], (spd2Ops M).zero, 1, ⟨1⟩⟩
      = ⟨#[⟨1⟩, ⟨-1⟩], #[⟨0⟩, ⟨0⟩], #[⟨1⟩, ⟨-1⟩], ⟨2⟩, ⟨0⟩⟩ := by
    have hp : cgP (spd2Ops M) 1 ⟨#[⟨0⟩, ⟨0⟩], #[⟨1⟩, ⟨-1⟩], (spd2Ops M).zero, 1, ⟨1⟩⟩
        = #[⟨1⟩, ⟨-1⟩] := rfl
    have hα : cgAlpha (spd2Ops M) 1 ⟨#[⟨0⟩, ⟨0⟩], #[⟨1⟩, ⟨-1⟩], (spd2Ops M).zero, 1, ⟨1⟩⟩ = ⟨1⟩ := by
      rw [cgAlpha, hp, hq, hrho]
      norm_num [Fl.mk_div, f1]
    rw [cgNext]
    simp only [hp, hα, hq, hrho, spd2Ops_smul, spd2Ops_add, spd2Ops_sub, spd2Ops_norm2]
    norm_num [Fl.mk_add, Fl.mk_sub, Fl.mk_mul, Fl.mk_div, f0, f1, fm1]
  rw [solveCG_first_step (spd2Ops M) _ _ 4 ⟨0⟩
    (by rw [hnb, hS0]; show decide ((1 : ℝ) ≤ 0) = false; norm_num)
    (by rw [hnb, hS0, hS1]; show decide ((0 : ℝ) ≤ 0) = true; norm_num), hnb, hS0, hS1]

/-- the representability hypothesis of `spd2F_run` holds in `binary64` and in the exact model, and
    both have `u ≤ 1/8` -/
theorem rep_small_binary64_exact :
    (FlModel.binary64.u ≤ 1 / 8 ∧ ∀ k : ℤ, |k| ≤ 2 → FlModel.binary64.fl k = k) ∧
    (FlModel.exact.u ≤ 1 / 8 ∧ ∀ k : ℤ, |k| ≤ 2 → FlModel.exact.fl k = k) := by
  refine ⟨⟨?_, ?_⟩, ?_, fun _ _ => rfl⟩
  · rw [FlModel.binary64_u]
    norm_num
  · intro k hk
    exact FlModel.roundBits_rep_int 52 k (lt_of_le_of_lt hk (by norm_num))
  · show (0 : ℝ) ≤ 1 / 8
    norm_num

/-- **all hypotheses of `cg_success_true_residual_sparse` are satisfiable, non-trivially**: for the
    2×2 SPD storage `spd2F M` (`SqWF`, `NoDup`, `‖A‖∞ = 3`, two entries per row, so
    `εA = (1+u)³ − 1 ≤ 6u`, `cA = 6`) in every model with `u ≤ 1/8` in which `0, ±1, ±2` are
    representable — in particular `FlModel.binary64` and `FlModel.exact`
    (`rep_small_binary64_exact`) — the call `solve_cg` returns, reports success after ONE iteration
    of the loop, and the theorem bounds the drift of its true residual by
    `u (‖b‖ + 39 X) + 1 · u · (156 X + R)`. -/
example (M : FlModel) (hu8 : M.u ≤ 1 / 8) (hrep : ∀ k : ℤ, |k| ≤ 2 → M.fl k = k) :
    letI := leTransc M
    ∃ out : KOut (Fl M) (Array (Fl M)),
      Sp.solveIter (spd2F M) .cg #[⟨1⟩, ⟨-1⟩] #[⟨0⟩, ⟨0⟩] 5 ⟨0⟩ nrm1 = .ok out ∧
      out.ok = true ∧ out.iters = 1 ∧ out.x = #[⟨1⟩, ⟨-1⟩] ∧
      ∃ X R : ℝ, ∃ rk : Array (Fl M),
        Transc.le (nrm1 rk / guardNorm (nrm1 #[(⟨1⟩ : Fl M), ⟨-1⟩])) ⟨0⟩ = true ∧
        ‖(rval 2 #[(⟨1⟩ : Fl M), ⟨-1⟩] - rowLin (sqMat (spd2F M) 2) (rval 2 out.x)) - rval 2 rk‖
          ≤ M.u * (‖rval 2 #[(⟨1⟩ : Fl M), ⟨-1⟩]‖ + (1 + 2 * 6) * 3 * X)
            + out.iters * M.u * ((16 + 6 * 6) * 3 * X + R) := by
  let _ := leTransc M
  have hrun := solveIter_runs (spd2F_sqwf M).1 nrm1 #[(⟨1⟩ : Fl M), ⟨-1⟩] #[⟨0⟩, ⟨0⟩] rfl rfl 5 ⟨0⟩
  have hout := spd2F_run M hrep
  refine ⟨_, hrun, by rw [hout], by rw [hout], by rw [hout], ?_⟩
  obtain ⟨X, hX⟩ := exists_bound (fun j => ‖rval 2 (cgStates (spd2Ops M)
    (guardNorm (nrm1 #[(⟨1⟩ : Fl M), ⟨-1⟩]))
    (cgInit (spd2Ops M) #[⟨1⟩, ⟨-1⟩] #[⟨0⟩, ⟨0⟩] (guardNorm (nrm1 #[(⟨1⟩ : Fl M), ⟨-1⟩]))) j).x‖) 2
  obtain ⟨R, hR⟩ := exists_bound (fun j => ‖rval 2 (cgStates (spd2Ops M)
    (guardNorm (nrm1 #[(⟨1⟩ : Fl M), ⟨-1⟩]))
    (cgInit (spd2Ops M) #[⟨1⟩, ⟨-1⟩] #[⟨0⟩, ⟨0⟩] (guardNorm (nrm1 #[(⟨1⟩ : Fl M), ⟨-1⟩]))) j).r‖) 1
  obtain ⟨_, _, rk, _, _, ht, hd⟩ := cg_success_true_residual_sparse (spd2F_sqwf M).1 (spd2F_sqwf M).2
    nrm1 #[(⟨1⟩ : Fl M), ⟨-1⟩] #[⟨0⟩, ⟨0⟩] 5 ⟨0⟩ _ hrun (by rw [hout]) 3 (by norm_num)
    (spd2F_rows M).1 2 (spd2F_rows M).2 hu8 6 (by norm_num)
    (by have := gam_le_two_mul (M := M) 3 (by push_cast; linarith); push_cast at this; linarith)
    X R (fun j hj => hX j (by rw [hout] at hj; exact Nat.lt_succ_of_le hj))
    (fun j hj => hR j (by rw [hout] at hj; exact hj))
  exact ⟨X, R, rk, ht, hd⟩

/-- the hypotheses of the product theorem (1) hold for `spd2F` in `binary64`:
    `multiply` is a `FlMatVec` for `[[2,1],[1,2]]` with `a = 3`, `εA = (1+2⁻⁵³)³ − 1` -/
example : FlMatVec (mvOf (spd2F FlModel.binary64) 2) (rowLin (sqMat (spd2F FlModel.binary64) 2)) 3
    (FlModel.binary64.gam 3) :=
  flMatVec_multiply (spd2F_sqwf _).1 (spd2F_sqwf _).2 3 (by norm_num) (spd2F_rows _).1 2
    (spd2F_rows _).2

/-- in the exact model (`u = 0`) the drift bound collapses: the true residual of a successful
    `solve_cg` IS the recurrence residual that passed the test (cf. `cg_success_sound_sparse`) -/
example [Transc (Fl FlModel.exact)] {s : Sp (Fl FlModel.exact)} {n : Nat} (h : SqWF s n)
    (hnd : NoDup s) (norm2 : Array (Fl FlModel.exact) → Fl FlModel.exact)
    (b x0 : Array (Fl FlModel.exact)) (maxIter : ℕ) (tol : Fl FlModel.exact)
    (out : KOut (Fl FlModel.exact) (Array (Fl FlModel.exact)))
    (hrun : Sp.solveIter s .cg b x0 maxIter tol norm2 = .ok out) (hok : out.ok = true) :
    ∃ rk : Array (Fl FlModel.exact), Transc.le (norm2 rk / guardNorm (norm2 b)) tol = true ∧
      rval n b - rowLin (sqMat s n) (rval n out.x) = rval n rk := by
  obtain ⟨X, hX⟩ := exists_bound (fun j => ‖rval n (cgStates (Sp.arrOps s n norm2)
    (guardNorm (norm2 b)) (cgInit (Sp.arrOps s n norm2) b x0 (guardNorm (norm2 b))) j).x‖)
    (out.iters + 1)
  obtain ⟨R, hR⟩ := exists_bound (fun j => ‖rval n (cgStates (Sp.arrOps s n norm2)
    (guardNorm (norm2 b)) (cgInit (Sp.arrOps s n norm2) b x0 (guardNorm (norm2 b))) j).r‖) out.iters
  obtain ⟨_, _, rk, _, _, ht, hd⟩ := cg_success_true_residual_sparse h hnd norm2 b x0 maxIter tol out
    hrun hok (normInf (sqMat s n)) (normInf_nonneg _) (row_le_normInf _) n
    (fun i _ => by have := C07.rowCount_le_cols h.wf hnd i; rw [h.cols] at this; exact this)
    (by rw [FlModel.exact_u]; norm_num) 0 le_rfl (by simp) X R
    (fun j hj => hX j (Nat.lt_succ_of_le hj)) hR
  refine ⟨rk, ht, ?_⟩
  rw [FlModel.exact_u] at hd
  simp only [zero_mul, mul_zero, add_zero] at hd
  exact sub_eq_zero.mp (norm_le_zero_iff.mp hd)

end Examples

end Ohsl.Props.C08
