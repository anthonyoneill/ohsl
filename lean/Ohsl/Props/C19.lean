/-
  Property C19 — meshes (model: Ohsl/Model/Mesh.lean).
  Proved here: (S) the 1-D mesh returns exactly what was stored at a node, writes to one node do
  not disturb another, out-of-range nodes / wrong vector lengths are rejected; for ANY element type.
  Also the `getD` forms of in-range reads that the other C19 / C20 files use.
-/
import Ohsl.Lemmas.MatIdx
import Ohsl.Model.Mesh
namespace Ohsl.Props.C19
open Ohsl
variable {T X : Type}

/-- invariant: one variable vector per node -/
def WF1 (m : Mesh1 T X) : Prop := m.vars.size = m.nodes.size

theorem aget_getD {α : Type} {a : Array α} {i : Nat} (h : i < a.size) (d : α) :
    aget a i = .ok (a.getD i d) := by
  rw [Array.getD_eq_getD_getElem?]
  exact Ohsl.aget_getD h d

theorem getD_size {α : Type} {vs : Array (Array α)} {n : Nat}
    (hs : ∀ k (hk : k < vs.size), vs[k].size = n) {k : Nat} (hk : k < vs.size) :
    (vs.getD k #[]).size = n := by
  rw [Array.getD_eq_getD_getElem?, Array.getElem?_eq_getElem hk, Option.getD_some]; exact hs k hk

theorem aget_row_getD {α : Type} {vs : Array (Array α)} {n : Nat}
    (hs : ∀ k (hk : k < vs.size), vs[k].size = n) {k v : Nat} (hk : k < vs.size) (hv : v < n)
    (d : α) : aget (vs.getD k #[]) v = .ok ((vs.getD k #[]).getD v d) :=
  aget_getD (by rw [getD_size hs hk]; exact hv) d

theorem getNodesVars_getD (m : Mesh1 T X) (h : WF1 m) {k : Nat} (hk : k < m.nodes.size) :
    Mesh1.getNodesVars m k = .ok (m.vars.getD k #[]) := by
  rw [Mesh1.getNodesVars, if_neg (Nat.not_le.mpr hk), aget_getD (by rw [h]; exact hk)]

section SetGet
variable [Zero T]

theorem new_wf (nodes : Array X) (nvars : Nat) : WF1 (Mesh1.new nodes nvars : Mesh1 T X) := by
  simp [WF1, Mesh1.new]

set_option linter.unusedSectionVars false in
theorem set_get (m : Mesh1 T X) (h : WF1 m) (node : Nat) (v : Array T) (hn : node < m.nodes.size)
    (hv : v.size = m.nvars) :
    ∃ m', Mesh1.setNodesVars m node v = .ok m' ∧ WF1 m' ∧ m'.nodes = m.nodes ∧ m'.nvars = m.nvars ∧
      Mesh1.getNodesVars m' node = .ok v ∧
      ∀ k, k ≠ node → Mesh1.getNodesVars m' k = Mesh1.getNodesVars m k := by
  have h1 : ¬ node ≥ m.nodes.size := Nat.not_le.2 hn
  have h2 : ¬ v.size ≠ m.nvars := fun q => q hv
  have hlt : node < m.vars.size := by rw [h]; exact hn
  refine ⟨{ m with vars := m.vars.setIfInBounds node v }, ?_, ?_, rfl, rfl, ?_, ?_⟩
  · simp [Mesh1.setNodesVars, h1, h2, Mat.aset_ok v hlt, bind, Except.bind, pure, Except.pure]
  · simp [WF1] at *; exact h
  · simp [Mesh1.getNodesVars, h1, aget, hlt]
  · intro k hk
    simp only [Mesh1.getNodesVars, aget]
    have : node ≠ k := fun e => hk e.symm
    simp [this]

end SetGet

theorem set_rejects (m : Mesh1 T X) (node : Nat) (v : Array T)
    (h : node ≥ m.nodes.size ∨ v.size ≠ m.nvars) : ∃ e, Mesh1.setNodesVars m node v = .error e := by
  unfold Mesh1.setNodesVars
  by_cases h1 : node ≥ m.nodes.size
  · exact ⟨.range, by simp [h1]⟩
  · have h2 := h.resolve_left h1
    exact ⟨.size, by simp [h1, h2]⟩

theorem get_rejects (m : Mesh1 T X) (node : Nat) (h : node ≥ m.nodes.size) :
    Mesh1.getNodesVars m node = .error .range := by simp [Mesh1.getNodesVars, h]

/-- the 2-D node address `i*ny + j` is injective on the grid (shared with the dense matrix) -/
theorem node_address_injective (ny i j i' j' : Nat) (hj : j < ny) (hj' : j' < ny)
    (h : i * ny + j = i' * ny + j') : i = i' ∧ j = j' := Mat.idx_inj hj hj' h

end Ohsl.Props.C19
