/-
  Property C19 (continued) — the decimal text form of a mesh file (model: Ohsl/Model/Fmt.lean):
  writing with `prec` decimals and reading back reproduces every value to the printed precision.
  Lean's `Float` is opaque, so the statements are about the integer / rational computations inside
  `Fmt.fixed` (`decode`, `roundHalfEven`) and `Fmt.nearest` (its pure companion `nearestME`).
  Both uses of `roundHalfEven` in the model are roundings to a grid (`Fmt.fixed`: `10^-prec`,
  `Fmt.nearest`: `2^e`; `roundHalfEven_grid`, `roundHalfEven_grid_exact`).

  End results: `roundHalfEven_spec`; `decimal_error`, `printed_exact` (error of the printed
  decimal); `fixed_digits` (shape of the text); `nearestME_error` (error of the selected double);
  `roundtrip_error`, `roundtrip_exact` and their `_total` forms (write, then read).
  `Fmt.parse (Fmt.fixed x prec) = ± Fmt.nearest N (10^prec)` is `parse_fixed` of C19G; nothing is
  said about the floating point operations `Float.ofNat`, `Float.scaleB` (opaque).
-/
import Ohsl.Model.Fmt
import Std.Data.String.ToNat
import Mathlib.Tactic.Ring
import Mathlib.Tactic.Linarith
import Mathlib.Tactic.FieldSimp
import Mathlib.Data.Rat.Defs
import Mathlib.Algebra.Order.Field.Rat
import Mathlib.Algebra.Order.Field.Basic
import Mathlib.Algebra.Order.Ring.Abs
import Mathlib.Algebra.Order.Field.Power
namespace Ohsl.Props.C19
open Ohsl Ohsl.Fmt


theorem roundHalfEven_near (num den : Nat) :
    (roundHalfEven num den = num / den ∧ 2 * (num % den) ≤ den) ∨
    (roundHalfEven num den = num / den + 1 ∧ den ≤ 2 * (num % den)) := by
  unfold roundHalfEven
  simp only []
  by_cases h1 : 2 * (num % den) < den
  · exact Or.inl ⟨if_pos h1, h1.le⟩
  · rw [if_neg h1]
    by_cases h2 : 2 * (num % den) > den
    · exact Or.inr ⟨if_pos h2, h2.le⟩
    · rw [if_neg h2]
      split
      · exact Or.inl ⟨rfl, Nat.le_of_not_lt h2⟩
      · exact Or.inr ⟨rfl, Nat.le_of_not_lt h1⟩

theorem half_window {N r d : Nat} (hr : r < d) :
    (2 * r ≤ d → 2 * (N + r) ≤ 2 * N + d ∧ 2 * N ≤ 2 * (N + r) + d) ∧
    (d ≤ 2 * r → 2 * (N + r) ≤ 2 * (N + d) + d ∧ 2 * (N + d) ≤ 2 * (N + r) + d) := by
  refine ⟨fun h => ⟨?_, Nat.le_add_right_of_le (Nat.mul_le_mul_left 2 (Nat.le_add_right N r))⟩,
    fun h => ⟨Nat.le_add_right_of_le (Nat.mul_le_mul_left 2 (Nat.add_le_add_left hr.le N)), ?_⟩⟩
  · rw [Nat.mul_add]; exact Nat.add_le_add_left h _
  · rw [Nat.mul_add, Nat.mul_add, Nat.two_mul d, ← Nat.add_assoc]
    exact Nat.add_le_add_right (Nat.add_le_add_left h _) _

/-- within one half of `num/den`, with natural numbers only (the one lemma that looks at which way
the definition rounds) -/
theorem roundHalfEven_bounds (num den : Nat) (hd : 0 < den) :
    2 * num ≤ 2 * (roundHalfEven num den * den) + den ∧
    2 * (roundHalfEven num den * den) ≤ 2 * num + den := by
  have hw := half_window (N := num / den * den) (Nat.mod_lt num hd)
  rw [Nat.div_add_mod'] at hw
  rcases roundHalfEven_near num den with ⟨h, hle⟩ | ⟨h, hle⟩ <;> rw [h]
  · exact hw.1 hle
  · rw [Nat.add_one_mul (num / den) den]; exact hw.2 hle

theorem roundHalfEven_err (num den : Nat) (hd : 0 < den) :
    2 * ((roundHalfEven num den : Int) * den - num).natAbs ≤ den := by
  obtain ⟨h1, h2⟩ := roundHalfEven_bounds num den hd
  omega

theorem roundHalfEven_exact (num den : Nat) (hd : 0 < den) (h : den ∣ num) :
    roundHalfEven num den = num / den := by
  unfold roundHalfEven
  simp only [Nat.mod_eq_zero_of_dvd h, Nat.mul_zero, hd, if_true]

theorem roundHalfEven_mul (m den : Nat) (hd : 0 < den) : roundHalfEven (m * den) den = m := by
  rw [roundHalfEven_exact _ _ hd (Dvd.intro_left m rfl), Nat.mul_div_cancel _ hd]

theorem roundHalfEven_tie_even (num den : Nat) (h : 2 * (num % den) = den) :
    roundHalfEven num den % 2 = 0 := by
  unfold roundHalfEven
  simp only [h, Nat.lt_irrefl, gt_iff_lt, if_false]
  split
  · rename_i hq; exact eq_of_beq hq
  · rename_i hq
    have : num / den % 2 ≠ 0 := fun e => hq (by rw [e]; rfl)
    omega

/-- monotone in the numerator: two results, each within one half of its argument, can only be in
the wrong order if both arguments are the same tie -/
theorem roundHalfEven_mono (den : Nat) (hd : 0 < den) {a b : Nat} (hab : a ≤ b) :
    roundHalfEven a den ≤ roundHalfEven b den := by
  by_contra hlt
  obtain ⟨_, ha⟩ := roundHalfEven_bounds a den hd
  obtain ⟨hb, _⟩ := roundHalfEven_bounds b den hd
  have h1 : (roundHalfEven b den + 1) * den ≤ roundHalfEven a den * den :=
    Nat.mul_le_mul_right den (Nat.succ_le_of_lt (Nat.lt_of_not_le hlt))
  rw [Nat.add_one_mul] at h1
  obtain rfl : a = b := by omega
  exact hlt (le_refl _)

theorem roundHalfEven_between (den : Nat) (hd : 0 < den) {k l n : Nat}
    (h1 : k * den ≤ n) (h2 : n ≤ l * den) : k ≤ roundHalfEven n den ∧ roundHalfEven n den ≤ l := by
  have a := roundHalfEven_mono den hd h1
  have b := roundHalfEven_mono den hd h2
  rw [roundHalfEven_mul _ _ hd] at a b
  exact ⟨a, b⟩

/-- The specification of `roundHalfEven` collected: within one half of `num/den`, exact on exact
divisions, even on ties, monotone. -/
theorem roundHalfEven_spec (num den : Nat) (hd : 0 < den) :
    2 * ((roundHalfEven num den : Int) * den - num).natAbs ≤ den ∧
    (den ∣ num → roundHalfEven num den = num / den) ∧
    (2 * (num % den) = den → roundHalfEven num den % 2 = 0) ∧
    (∀ num', num ≤ num' → roundHalfEven num den ≤ roundHalfEven num' den) :=
  ⟨roundHalfEven_err num den hd, roundHalfEven_exact num den hd, roundHalfEven_tie_even num den,
    fun _ h => roundHalfEven_mono den hd h⟩

theorem roundHalfEven_err_rat (num den : Nat) (hd : 0 < den) :
    |(roundHalfEven num den : ℚ) - (num : ℚ) / den| ≤ 1 / 2 := by
  have hdq : (0 : ℚ) < den := by exact_mod_cast hd
  have h2 : (2 : ℚ) * |(roundHalfEven num den : ℚ) * den - num| ≤ den := by
    have : ((2 * ((roundHalfEven num den : Int) * den - num).natAbs : Nat) : ℚ) ≤ (den : ℚ) := by
      exact_mod_cast roundHalfEven_err num den hd
    rw [Nat.cast_mul, Nat.cast_natAbs] at this
    push_cast at this
    exact this
  rw [sub_div' hdq.ne', abs_div, abs_of_pos hdq, div_le_iff₀ hdq, one_div_mul_eq_div,
    le_div_iff₀ two_pos, mul_comm]
  exact h2

/-- **rounding to the grid `s ℤ`** (`s = 10^-prec` for the printed decimal, `s = 2^e` for the selected
double): if the fraction `n/d` is `x` measured in steps of `s`, then `roundHalfEven n d` steps are
within half a step of `x` -/
theorem roundHalfEven_grid (n d : Nat) (hd : 0 < d) {x s : ℚ} (hs : 0 < s)
    (h : (n : ℚ) / d = x / s) : |(roundHalfEven n d : ℚ) * s - x| ≤ s / 2 := by
  have hx : x = (n : ℚ) / d * s := by rw [h, div_mul_cancel₀ _ hs.ne']
  rw [hx, ← sub_mul, abs_mul, abs_of_pos hs, div_eq_inv_mul s, ← one_div]
  exact mul_le_mul_of_nonneg_right (roundHalfEven_err_rat n d hd) hs.le

theorem roundHalfEven_grid_exact (n d : Nat) (hd : 0 < d) {x s : ℚ} (hs : 0 < s)
    (h : (n : ℚ) / d = x / s) (k : Nat) (hk : x = k * s) : (roundHalfEven n d : ℚ) * s = x := by
  have hdq : (d : ℚ) ≠ 0 := by exact_mod_cast hd.ne'
  have hn : n = k * d := by
    have : (n : ℚ) = ((k * d : Nat) : ℚ) := by
      rw [Nat.cast_mul, ← div_eq_iff hdq, h, hk, mul_div_cancel_right₀ _ hs.ne']
    exact_mod_cast this
  rw [hn, roundHalfEven_mul _ _ hd, hk]


/-- exact rational value of a decoded double `(negative, num, den)` -/
def val (d : Bool × Nat × Nat) : ℚ := (if d.1 then -1 else 1) * ((d.2.1 : ℚ) / d.2.2)

/-- integer `N` such that the printed decimal is `± N / 10^prec` -/
def printedNum (d : Bool × Nat × Nat) (prec : Nat) : Nat := roundHalfEven (d.2.1 * 10 ^ prec) d.2.2

/-- rational value of the decimal that `Fmt.fixed` prints for a decoded double -/
def printedQ (d : Bool × Nat × Nat) (prec : Nat) : ℚ :=
  (if d.1 then -1 else 1) * ((printedNum d prec : ℚ) / 10 ^ prec)

/-- rational value of the decimal text `Fmt.fixed x prec` of a finite double -/
def printed (x : Float) (prec : Nat) : ℚ := printedQ (decode x) prec

/-- stated over a variable exponent `K`: at `K = 1074` the power is not to be evaluated -/
theorem two_pow_le_mul_two_pow (j K m : ℕ) (hj : j ≤ K) (hm : 0 < m) : 2 ^ j ≤ m * 2 ^ K :=
  le_trans (Nat.pow_le_pow_right (by decide) hj) (Nat.le_mul_of_pos_left _ hm)

/-- the decoded magnitude is `m * 2^j / 2^k` with a mantissa below `2^53` and `k ≤ 1074`
(subnormal: `j = 0, k = 1074`; large: `k = 0`; otherwise `j = 0`) -/
theorem decode_form (x : Float) : ∃ m j k : Nat, m < 2 ^ 53 ∧ k ≤ 1074 ∧
    (decode x).2.1 = m * 2 ^ j ∧ (decode x).2.2 = 2 ^ k := by
  unfold decode
  simp only []
  split
  · dsimp only
    generalize (1074 : ℕ) = K
    exact ⟨x.toBits.toNat % 2 ^ 52, 0, K, by omega, le_refl _, (Nat.mul_one _).symm, rfl⟩
  · rename_i hex
    split
    · dsimp only
      exact ⟨x.toBits.toNat % 2 ^ 52 + 2 ^ 52, _, 0, by omega, Nat.zero_le _, rfl, rfl⟩
    · dsimp only
      exact ⟨x.toBits.toNat % 2 ^ 52 + 2 ^ 52, 0, _, by omega, by simp at hex; omega,
        (Nat.mul_one _).symm, rfl⟩

theorem decode_den_pos (x : Float) : 0 < (decode x).2.2 := by
  obtain ⟨m, j, k, _, _, _, h⟩ := decode_form x
  rw [h]; exact Nat.two_pow_pos k

theorem decode_dyadic (x : Float) :
    ∃ (m0 : Nat) (e0 : Int), m0 < 2 ^ 53 ∧
      ((decode x).2.1 : ℚ) / (decode x).2.2 = (m0 : ℚ) * 2 ^ e0 := by
  obtain ⟨m, j, k, hm, _, h1, h2⟩ := decode_form x
  refine ⟨m, (j : ℤ) - k, hm, ?_⟩
  rw [h1, h2, zpow_sub₀ (by norm_num : (2 : ℚ) ≠ 0), zpow_natCast, zpow_natCast]
  push_cast
  rw [mul_div_assoc]

theorem decode_range (x : Float) (h : (decode x).2.1 ≠ 0) :
    (decode x).2.2 ≤ (decode x).2.1 * 2 ^ 1074 := by
  obtain ⟨m, j, k, _, hk, h1, h2⟩ := decode_form x
  rw [h2]
  exact two_pow_le_mul_two_pow k 1074 _ hk (Nat.pos_of_ne_zero h)

theorem abs_sign_mul (b : Bool) (a : ℚ) : |(if b then (-1 : ℚ) else 1) * a| = |a| := by
  cases b <;> simp

theorem print_ratio (num den prec : Nat) :
    ((num * 10 ^ prec : Nat) : ℚ) / den = (num : ℚ) / den / (1 / 10 ^ prec) := by
  rw [Nat.cast_mul, Nat.cast_pow, Nat.cast_ofNat, div_div_eq_mul_div, div_one, mul_div_right_comm]

theorem decimal_error_decoded (d : Bool × Nat × Nat) (hd : 0 < d.2.2) (prec : Nat) :
    |printedQ d prec - val d| ≤ 1 / (2 * 10 ^ prec) := by
  obtain ⟨neg, num, den⟩ := d
  have h := roundHalfEven_grid (num * 10 ^ prec) den hd (by positivity) (print_ratio num den prec)
  simp only [printedQ, val, printedNum]
  rw [← mul_sub, abs_sign_mul]
  rwa [mul_one_div, div_div, mul_comm ((10 : ℚ) ^ prec) 2] at h

/-- `decimal_error`: writing a finite double with `prec` decimals reproduces its exact value to
half a unit of the last printed decimal. -/
theorem decimal_error (x : Float) (prec : Nat) :
    |printed x prec - val (decode x)| ≤ 1 / (2 * 10 ^ prec) :=
  decimal_error_decoded _ (decode_den_pos x) prec

theorem printed_exact_decoded (d : Bool × Nat × Nat) (hd : 0 < d.2.2) (prec : Nat)
    (h : d.2.2 ∣ d.2.1 * 10 ^ prec) : printedQ d prec = val d := by
  obtain ⟨neg, num, den⟩ := d
  simp only [printedQ, val, printedNum] at *
  obtain ⟨k, hk⟩ := h
  have hdq : (den : ℚ) ≠ 0 := by exact_mod_cast hd.ne'
  have hkq : (num : ℚ) * 10 ^ prec = den * k := by exact_mod_cast hk
  rw [hk, Nat.mul_comm den k, roundHalfEven_mul _ _ hd]
  congr 1
  have hp : (10 : ℚ) ^ prec ≠ 0 := by positivity
  rw [div_eq_div_iff hp hdq, hkq, mul_comm]

theorem printed_exact (x : Float) (prec : Nat)
    (h : (decode x).2.2 ∣ (decode x).2.1 * 10 ^ prec) : printed x prec = val (decode x) :=
  printed_exact_decoded _ (decode_den_pos x) prec h


/-- the zero-padded fractional field written by `Fmt.fixed` -/
def fracField (fp prec : Nat) : String :=
  String.ofList (List.replicate (prec - (toString fp).length) '0') ++ toString fp

theorem fixed_eq (x : Float) (prec : Nat) (hn : x.isNaN = false) (hi : x.isInf = false) :
    Fmt.fixed x prec =
      (if (decode x).1 then "-" else "") ++
        toString (printedNum (decode x) prec / 10 ^ prec) ++
        (if prec == 0 then "" else "." ++ fracField (printedNum (decode x) prec % 10 ^ prec) prec) := by
  unfold Fmt.fixed
  simp only [hn, hi, fracField, printedNum]
  rfl

theorem fixed_nan (x : Float) (prec : Nat) (h : x.isNaN = true) : Fmt.fixed x prec = "NaN" := by
  unfold Fmt.fixed; simp only [h, if_true]

theorem fixed_inf (x : Float) (prec : Nat) (hn : x.isNaN = false) (h : x.isInf = true) :
    Fmt.fixed x prec = if x < 0 then "-inf" else "inf" := by
  unfold Fmt.fixed; simp only [hn, h, if_true]; rfl

theorem fracField_length (fp prec : Nat) (hp : 0 < prec) (h : fp < 10 ^ prec) :
    (fracField fp prec).length = prec := by
  have := (Nat.length_repr_le_iff (n := fp) hp).2 h
  simp [fracField]
  exact Nat.sub_add_cancel (by simpa using this)

theorem toNat!_of_toNat? {s : String} {n : Nat} (h : s.toNat? = some n) : s.toNat! = n := by
  have hn : s.toSlice.isNat = true := by
    have := String.isNat_of_toNat?_eq_some h
    simpa using this
  unfold String.toNat? String.Slice.toNat? at h
  unfold String.toNat! String.Slice.toNat!
  rw [if_pos hn] at h ⊢
  exact Option.some.inj h

theorem ofDigitChars_append_zeros_repr (ds : List Char) (k n : Nat) :
    Nat.ofDigitChars 10 (ds ++ (List.replicate k '0' ++ (toString n).toList)) 0
      = Nat.ofDigitChars 10 ds 0 * 10 ^ (k + (toString n).length) + n := by
  simp only [Nat.toString_eq_repr, Nat.toList_repr, Nat.ofDigitChars_append,
    Nat.ofDigitChars_replicate_zero]
  rw [Nat.ofDigitChars_eq_ofDigitChars_zero, Nat.ofDigitChars_ten_toDigits]
  have hl : n.repr.length = (Nat.toDigits 10 n).length := by simp [Nat.repr_eq_ofList_toDigits]
  rw [hl, Nat.pow_add]
  ring

theorem toNat?_repr_zeros_repr (ip fp k : Nat) :
    (toString ip ++ (String.ofList (List.replicate k '0') ++ toString fp)).toNat?
      = some (ip * 10 ^ (k + (toString fp).length) + fp) := by
  have hdig : ∀ c ∈ (toString ip ++ (String.ofList (List.replicate k '0') ++ toString fp)).toList,
      c.isDigit = true := by
    intro c hc
    simp only [Nat.toString_eq_repr, String.toList_append, Nat.toList_repr, String.toList_ofList,
      List.mem_append, List.mem_replicate] at hc
    rcases hc with hc | ⟨_, rfl⟩ | hc
    · exact Nat.isDigit_of_mem_toDigits (by decide) (by decide) hc
    · decide
    · exact Nat.isDigit_of_mem_toDigits (by decide) (by decide) hc
  have hne : (toString ip ++ (String.ofList (List.replicate k '0') ++ toString fp)) ≠ "" := by
    intro h
    have := congrArg String.length h
    simp at this
  rw [String.toNat?_eq_some_ofDigitChars (String.isNat_of_isDigit hne hdig)]
  rw [List.filter_eq_self.2 (fun c hc => by
    have := hdig c hc
    simp only [bne_iff_ne, ne_eq]
    rintro rfl
    simp at this)]
  simp only [String.toList_append, String.toList_ofList, ofDigitChars_append_zeros_repr]
  rw [Nat.toString_eq_repr, Nat.toList_repr, Nat.ofDigitChars_ten_toDigits]

/-- the integer and fraction fields, concatenated and read by `String.toNat!` (the form in which
`fixed_digits` says what the text denotes; `Fmt.parse` itself reads the character list, C19G) -/
theorem fields_toNat! (ip fp prec : Nat) (hp : 0 < prec) (h : fp < 10 ^ prec) :
    (toString ip ++ fracField fp prec).toNat! = ip * 10 ^ prec + fp := by
  have hlen := (Nat.length_repr_le_iff (n := fp) hp).2 h
  have := toNat?_repr_zeros_repr ip fp (prec - (toString fp).length)
  rw [show prec - (toString fp).length + (toString fp).length = prec from
    Nat.sub_add_cancel (by simpa using hlen)] at this
  exact toNat!_of_toNat? this

/-- `fixed_digits`: for a finite `x`, `Fmt.fixed x prec` is the sign, the decimal digits of `ip`,
and (for `prec > 0`) a point followed by exactly `prec` digits, where `ip * 10^prec + fp` is the
half-even rounding `N` of `num * 10^prec / den`; the digit fields read back as `N`, so the text
denotes `± N / 10^prec = printed x prec`. -/
theorem fixed_digits (x : Float) (prec : Nat) (hn : x.isNaN = false) (hi : x.isInf = false) :
    ∃ ip fp : Nat,
      ip * 10 ^ prec + fp = printedNum (decode x) prec ∧ fp < 10 ^ prec ∧
      Fmt.fixed x prec = (if (decode x).1 then "-" else "") ++ toString ip ++
        (if prec == 0 then "" else "." ++ fracField fp prec) ∧
      (0 < prec → (fracField fp prec).length = prec ∧
        (toString ip ++ fracField fp prec).toNat! = printedNum (decode x) prec) ∧
      (prec = 0 → (toString ip).toNat! = printedNum (decode x) prec) := by
  have h10 : 0 < 10 ^ prec := Nat.pow_pos (by decide)
  have hdm : printedNum (decode x) prec / 10 ^ prec * 10 ^ prec + printedNum (decode x) prec % 10 ^ prec
      = printedNum (decode x) prec := by
    rw [Nat.mul_comm]; exact Nat.div_add_mod _ _
  have hlt := Nat.mod_lt (printedNum (decode x) prec) h10
  refine ⟨_, _, hdm, hlt, fixed_eq x prec hn hi, fun hp => ⟨fracField_length _ _ hp hlt, ?_⟩, ?_⟩
  · rw [fields_toNat! _ _ _ hp hlt, hdm]
  · rintro rfl
    rw [Nat.pow_zero, Nat.div_one]
    exact toNat!_of_toNat? (Nat.toNat?_repr _)


/-- the scaled fraction `n'/d' = (num/den) / 2^e` that `Fmt.nearest` forms at exponent `e` -/
def scaled (num den : Nat) (e : Int) : Nat × Nat :=
  if e ≥ 0 then (num, den * 2 ^ e.toNat) else (num * 2 ^ (-e).toNat, den)

/-- pure companion of `Fmt.nearest.go`: the mantissa and exponent it selects -/
def nearestGo (num den : Nat) : Nat → Int → Option (Nat × Int)
  | 0, _ => none
  | fuel + 1, e =>
    let q := (scaled num den e).1 / (scaled num den e).2
    if q < 2 ^ 52 then nearestGo num den fuel (e - 1)
    else if q ≥ 2 ^ 53 then nearestGo num den fuel (e + 1)
    else some (roundHalfEven (scaled num den e).1 (scaled num den e).2, e)

/-- pure companion of `Fmt.nearest`: `some (m, e)` when it returns `Float.scaleB (Float.ofNat m) e` -/
def nearestME (num den : Nat) : Option (Nat × Int) :=
  if num == 0 then none else nearestGo num den 2200 (((num.log2 - den.log2 : Nat) : Int) - 52)

theorem nearest_go_eq (num den fuel : Nat) (e : Int) :
    Fmt.nearest.go num den fuel e =
      match nearestGo num den fuel e with
      | some (m, e) => Float.scaleB (Float.ofNat m) e
      | none => 0.0 := by
  induction fuel generalizing e with
  | zero => rfl
  | succ fuel ih =>
    unfold Fmt.nearest.go nearestGo scaled
    by_cases he : e ≥ 0
    · simp only [he, if_true]
      split
      · exact ih _
      · split
        · exact ih _
        · rfl
    · simp only [he, if_false]
      split
      · exact ih _
      · split
        · exact ih _
        · rfl

theorem nearest_eq (num den : Nat) :
    Fmt.nearest num den =
      match nearestME num den with
      | some (m, e) => Float.scaleB (Float.ofNat m) e
      | none => 0.0 := by
  unfold Fmt.nearest nearestME
  by_cases h : (num == 0) = true
  · simp only [h, if_true]
  · simp only [h]
    exact nearest_go_eq _ _ _ _

theorem scaled_den_pos (num den : Nat) (hd : 0 < den) (e : Int) : 0 < (scaled num den e).2 := by
  unfold scaled
  split
  · exact Nat.mul_pos hd (Nat.two_pow_pos _)
  · exact hd

theorem scaled_ratio (num den : Nat) (hd : 0 < den) (e : Int) :
    ((scaled num den e).1 : ℚ) / (scaled num den e).2 = (num : ℚ) / den / 2 ^ e := by
  have hdq : (den : ℚ) ≠ 0 := by exact_mod_cast hd.ne'
  unfold scaled
  split
  · rename_i he
    have : e = (e.toNat : Int) := (Int.toNat_of_nonneg he).symm
    rw [this]; simp only [Int.toNat_natCast, zpow_natCast]
    push_cast
    rw [div_div]
  · rename_i he
    have : e = -((-e).toNat : Int) := by rw [Int.toNat_of_nonneg (by omega)]; ring
    rw [this]; simp only [neg_neg, Int.toNat_natCast, zpow_neg, zpow_natCast]
    push_cast
    rw [div_inv_eq_mul, mul_div_right_comm]

theorem two_pow_le_scaled_quot_iff (num den : Nat) (hd : 0 < den) (e : Int) (n : Nat) :
    2 ^ n ≤ (scaled num den e).1 / (scaled num den e).2 ↔
      (2 : ℚ) ^ ((n : ℤ) + e) ≤ (num : ℚ) / den := by
  have hd' := scaled_den_pos num den hd e
  have hdq : (0 : ℚ) < (scaled num den e).2 := by exact_mod_cast hd'
  have h2 : (0 : ℚ) < 2 ^ e := by positivity
  rw [zpow_add₀ (by norm_num : (2 : ℚ) ≠ 0), zpow_natCast, Nat.le_div_iff_mul_le hd',
    ← le_div_iff₀ h2, ← scaled_ratio num den hd e, le_div_iff₀ hdq]
  exact_mod_cast Iff.rfl

theorem nearestGo_some (num den : Nat) (fuel : Nat) (e : Int) (m : Nat) (e' : Int)
    (h : nearestGo num den fuel e = some (m, e')) :
    2 ^ 52 ≤ (scaled num den e').1 / (scaled num den e').2 ∧
    (scaled num den e').1 / (scaled num den e').2 < 2 ^ 53 ∧
    m = roundHalfEven (scaled num den e').1 (scaled num den e').2 := by
  induction fuel generalizing e with
  | zero => simp [nearestGo] at h
  | succ fuel ih =>
    unfold nearestGo at h
    simp only [] at h
    split at h
    · exact ih _ h
    · split at h
      · exact ih _ h
      · simp only [Option.some.injEq, Prod.mk.injEq] at h
        obtain ⟨rfl, rfl⟩ := h
        exact ⟨Nat.le_of_not_lt ‹_›, Nat.lt_of_not_le ‹_›, rfl⟩

theorem nearestME_some (num den : Nat) (m : Nat) (e : Int) (h : nearestME num den = some (m, e)) :
    2 ^ 52 ≤ (scaled num den e).1 / (scaled num den e).2 ∧
    (scaled num den e).1 / (scaled num den e).2 < 2 ^ 53 ∧
    m = roundHalfEven (scaled num den e).1 (scaled num den e).2 := by
  unfold nearestME at h
  split at h
  · simp at h
  · exact nearestGo_some _ _ _ _ _ _ h

/-- `es` brackets `num/den`: `2^52 ≤ (num/den) / 2^es < 2^53` -/
def InBinade (num den : Nat) (es : Int) : Prop :=
  (2 : ℚ) ^ (52 + es) ≤ (num : ℚ) / den ∧ (num : ℚ) / den < (2 : ℚ) ^ (53 + es)

theorem nearestME_inBinade (num den : Nat) (hd : 0 < den) (m : Nat) (e : Int)
    (h : nearestME num den = some (m, e)) :
    InBinade num den e ∧ m = roundHalfEven (scaled num den e).1 (scaled num den e).2 := by
  obtain ⟨h1, h2, rfl⟩ := nearestME_some num den m e h
  exact ⟨⟨(two_pow_le_scaled_quot_iff num den hd e 52).1 h1, lt_of_not_ge fun q =>
    absurd ((two_pow_le_scaled_quot_iff num den hd e 53).2 q) (Nat.not_le.2 h2)⟩, rfl⟩

theorem InBinade.exp_le {num den : Nat} {e : Int} (hb : InBinade num den e) {m0 : Nat} {e0 : Int}
    (hm0 : m0 < 2 ^ 53) (hx : (num : ℚ) / den = (m0 : ℚ) * 2 ^ e0) : e ≤ e0 := by
  have : (m0 : ℚ) * 2 ^ e0 < 2 ^ ((53 : ℤ) + e0) := by
    rw [zpow_add₀ (by norm_num : (2 : ℚ) ≠ 0)]
    exact mul_lt_mul_of_pos_right (by exact_mod_cast hm0) (by positivity)
  have := (zpow_lt_zpow_iff_right₀ (a := (2 : ℚ)) (by norm_num)).1 ((hx ▸ hb.1).trans_lt this)
  omega

/-- the selected mantissa has 53 bits (or is `2^53`, when rounding carries) -/
theorem nearestME_mantissa (num den : Nat) (hd : 0 < den) (m : Nat) (e : Int)
    (h : nearestME num den = some (m, e)) : 2 ^ 52 ≤ m ∧ m ≤ 2 ^ 53 := by
  obtain ⟨h1, h2, rfl⟩ := nearestME_some num den m e h
  have hd' := scaled_den_pos num den hd e
  exact roundHalfEven_between _ hd' ((Nat.le_div_iff_mul_le hd').1 h1)
    (Nat.le_of_lt ((Nat.div_lt_iff_lt_mul hd').1 h2))

/-- the selected `m * 2^e` is within half a unit in the last place (`2^e / 2`) of `num/den` -/
theorem nearestME_error (num den : Nat) (hd : 0 < den) (m : Nat) (e : Int)
    (h : nearestME num den = some (m, e)) :
    |(m : ℚ) * 2 ^ e - (num : ℚ) / den| ≤ 2 ^ e / 2 := by
  obtain ⟨_, rfl⟩ := nearestME_inBinade num den hd m e h
  exact roundHalfEven_grid _ _ (scaled_den_pos num den hd e) (by positivity)
    (scaled_ratio num den hd e)

theorem nearestGo_reaches (num den : Nat) (hd : 0 < den) (es : Int) (hb : InBinade num den es)
    (fuel : Nat) (e : Int) (hf : (e - es).natAbs < fuel) :
    nearestGo num den fuel e = some (roundHalfEven (scaled num den es).1 (scaled num den es).2, es) := by
  obtain ⟨h1, h2⟩ := hb
  have key := two_pow_le_scaled_quot_iff num den hd
  have mono : ∀ {a b : ℤ}, a ≤ b → (2 : ℚ) ^ a ≤ 2 ^ b := zpow_le_zpow_right₀ (by norm_num)
  induction fuel generalizing e with
  | zero => omega
  | succ fuel ih =>
    unfold nearestGo
    simp only []
    rcases lt_trichotomy e es with hlt | heq | hgt
    · -- the quotient at a smaller exponent is too large
      have hq : 2 ^ 53 ≤ (scaled num den e).1 / (scaled num den e).2 :=
        (key e 53).2 ((mono (by push_cast; omega)).trans h1)
      rw [if_neg (Nat.not_lt.mpr ((Nat.pow_le_pow_right Nat.two_pos (Nat.le_succ 52)).trans hq)),
        if_pos hq]
      exact ih _ (by omega)
    · subst heq
      have hq1 : 2 ^ 52 ≤ (scaled num den e).1 / (scaled num den e).2 := (key e 52).2 h1
      have hq2 : ¬ 2 ^ 53 ≤ (scaled num den e).1 / (scaled num den e).2 :=
        fun q => absurd ((key e 53).1 q) (not_le.2 h2)
      rw [if_neg (Nat.not_lt.mpr hq1), if_neg hq2]
    · -- the quotient at a larger exponent is too small
      have hq : ¬ 2 ^ 52 ≤ (scaled num den e).1 / (scaled num den e).2 :=
        fun q => absurd (((key e 52).1 q).trans_lt h2)
          (not_lt.2 (mono (by push_cast; omega)))
      rw [if_pos (Nat.not_le.mp hq)]
      exact ih _ (by omega)

theorem log2_bounds (n : Nat) (hn : 0 < n) :
    (2 : ℚ) ^ (n.log2 : ℤ) ≤ n ∧ (n : ℚ) < (2 : ℚ) ^ ((n.log2 : ℤ) + 1) := by
  constructor
  · rw [zpow_natCast]; exact_mod_cast Nat.log2_self_le hn.ne'
  · have : (n : ℚ) < ((2 ^ (n.log2 + 1) : Nat) : ℚ) := by exact_mod_cast Nat.lt_log2_self (n := n)
    rw [show ((n.log2 : ℤ) + 1) = ((n.log2 + 1 : Nat) : ℤ) by push_cast; rfl, zpow_natCast]
    exact_mod_cast this

theorem ratio_log2_bounds (num den : Nat) (hn : 0 < num) (hd : 0 < den) :
    (2 : ℚ) ^ ((num.log2 : ℤ) - den.log2 - 1) < (num : ℚ) / den ∧
    (num : ℚ) / den < (2 : ℚ) ^ ((num.log2 : ℤ) - den.log2 + 1) := by
  have hdq : (0 : ℚ) < den := by exact_mod_cast hd
  obtain ⟨ha1, ha2⟩ := log2_bounds num hn
  obtain ⟨hb1, hb2⟩ := log2_bounds den hd
  generalize (num.log2 : ℤ) = a at *
  generalize (den.log2 : ℤ) = b at *
  have two : (2 : ℚ) ≠ 0 := by norm_num
  have hpos : ∀ t : ℤ, (0 : ℚ) < 2 ^ t := fun t => by positivity
  constructor
  · rw [lt_div_iff₀ hdq]
    calc (2 : ℚ) ^ (a - b - 1) * den < 2 ^ (a - b - 1) * 2 ^ (b + 1) :=
          mul_lt_mul_of_pos_left hb2 (hpos _)
      _ = 2 ^ a := by rw [← zpow_add₀ two, sub_sub, sub_add_cancel]
      _ ≤ num := ha1
  · rw [div_lt_iff₀ hdq]
    calc (num : ℚ) < 2 ^ (a + 1) := ha2
      _ = 2 ^ (a - b + 1) * 2 ^ b := by rw [← zpow_add₀ two, add_right_comm, sub_add_cancel]
      _ ≤ 2 ^ (a - b + 1) * den := mul_le_mul_of_nonneg_left hb1 (hpos _).le

theorem bracket_near (num den : Nat) (hn : 0 < num) (hd : 0 < den) (es : Int)
    (hb : InBinade num den es) :
    (num.log2 : Int) - den.log2 - 53 ≤ es ∧ es ≤ (num.log2 : Int) - den.log2 - 52 := by
  obtain ⟨h1, h2⟩ := hb
  obtain ⟨hx1, hx2⟩ := ratio_log2_bounds num den hn hd
  have l1 := (zpow_lt_zpow_iff_right₀ (a := (2 : ℚ)) (by norm_num)).1 (lt_of_le_of_lt h1 hx2)
  have l2 := (zpow_lt_zpow_iff_right₀ (a := (2 : ℚ)) (by norm_num)).1 (lt_trans hx1 h2)
  constructor <;> omega

theorem bracket_exists (num den : Nat) (hn : 0 < num) (hd : 0 < den) : ∃ es, InBinade num den es := by
  obtain ⟨hx1, hx2⟩ := ratio_log2_bounds num den hn hd
  generalize (num.log2 : ℤ) - den.log2 = A at *
  by_cases h : (2 : ℚ) ^ A ≤ (num : ℚ) / den
  · refine ⟨A - 52, ?_, ?_⟩
    · rwa [show (52 : ℤ) + (A - 52) = A by ring]
    · rwa [show (53 : ℤ) + (A - 52) = A + 1 by ring]
  · refine ⟨A - 53, ?_, ?_⟩
    · rw [show (52 : ℤ) + (A - 53) = A - 1 by ring]; exact hx1.le
    · rw [show (53 : ℤ) + (A - 53) = A by ring]; exact not_le.1 h

theorem log2_lt_of_le_mul_pow (num den K : Nat) (hd : 0 < den) (hr : den ≤ num * 2 ^ K) :
    den.log2 < num.log2 + 1 + K := by
  rw [Nat.log2_lt hd.ne']
  calc den ≤ num * 2 ^ K := hr
    _ < 2 ^ (num.log2 + 1) * 2 ^ K := Nat.mul_lt_mul_of_pos_right Nat.lt_log2_self (Nat.two_pow_pos K)
    _ = 2 ^ (num.log2 + 1 + K) := by rw [← Nat.pow_add]

/-- the fuel suffices: for `num/den ≥ 2^-2198` (all finite doubles, half the least subnormal
included, are ≥ 2^-1075) and without any upper limit, `nearestME` finds the bracketing exponent. -/
theorem nearestME_eq_of_bracket (num den : Nat) (hn : 0 < num) (hd : 0 < den)
    (hr : den ≤ num * 2 ^ 2198) (es : Int) (hb : InBinade num den es) :
    nearestME num den = some (roundHalfEven (scaled num den es).1 (scaled num den es).2, es) := by
  unfold nearestME
  rw [if_neg (by simp; omega)]
  apply nearestGo_reaches num den hd es hb
  obtain ⟨l1, l2⟩ := bracket_near num den hn hd es hb
  have hlog := log2_lt_of_le_mul_pow num den 2198 hd hr
  omega

theorem nearestME_isSome (num den : Nat) (hn : 0 < num) (hd : 0 < den) (hr : den ≤ num * 2 ^ 2198) :
    ∃ m e, nearestME num den = some (m, e) := by
  obtain ⟨es, hb⟩ := bracket_exists num den hn hd
  exact ⟨_, _, nearestME_eq_of_bracket num den hn hd hr es hb⟩

theorem nearestME_exact (num den : Nat) (hd : 0 < den) (m0 : Nat) (e0 : Int)
    (hm0 : m0 < 2 ^ 53) (hx : (num : ℚ) / den = (m0 : ℚ) * 2 ^ e0) (m : Nat) (e : Int)
    (h : nearestME num den = some (m, e)) : (m : ℚ) * 2 ^ e = (num : ℚ) / den := by
  -- the bracket `e` is at most `e0`, so `num/den` is the whole number `m0 * 2^(e0-e)` of steps `2^e`
  obtain ⟨hb, rfl⟩ := nearestME_inBinade num den hd m e h
  obtain ⟨t, ht⟩ : ∃ t : Nat, e0 = e + t := ⟨(e0 - e).toNat, by have := hb.exp_le hm0 hx; omega⟩
  refine roundHalfEven_grid_exact _ _ (scaled_den_pos num den hd e) (by positivity)
    (scaled_ratio num den hd e) (m0 * 2 ^ t) ?_
  rw [hx, ht, zpow_add₀ (by norm_num : (2 : ℚ) ≠ 0), zpow_natCast]
  push_cast; ring


/-- sign factor of a decoded double -/
def sgn (d : Bool × Nat × Nat) : ℚ := if d.1 then -1 else 1

/-- `roundtrip_error`: the double `± m * 2^e` that `nearestME` selects from the printed decimal
`N / 10^prec` differs from the exact value written by at most half a printed unit plus half an
ulp of the result. -/
theorem roundtrip_error_decoded (d : Bool × Nat × Nat) (hd : 0 < d.2.2) (prec : Nat) (m : Nat) (e : Int)
    (h : nearestME (printedNum d prec) (10 ^ prec) = some (m, e)) :
    |sgn d * ((m : ℚ) * 2 ^ e) - val d| ≤ 1 / (2 * 10 ^ prec) + 2 ^ e / 2 := by
  have h1 := nearestME_error (printedNum d prec) (10 ^ prec) (Nat.pow_pos (by decide)) m e h
  have h2 := decimal_error_decoded d hd prec
  have e1 : sgn d * ((m : ℚ) * 2 ^ e) - val d
      = sgn d * ((m : ℚ) * 2 ^ e - (printedNum d prec : ℚ) / ((10 ^ prec : Nat) : ℚ))
        + (printedQ d prec - val d) := by
    simp only [printedQ, sgn]; push_cast; ring
  rw [e1]
  calc _ ≤ |sgn d * ((m : ℚ) * 2 ^ e - (printedNum d prec : ℚ) / ((10 ^ prec : Nat) : ℚ))|
        + |printedQ d prec - val d| := abs_add_le _ _
    _ ≤ 2 ^ e / 2 + 1 / (2 * 10 ^ prec) := add_le_add ((abs_sign_mul d.1 _).trans_le h1) h2
    _ = _ := add_comm _ _

theorem roundtrip_error (x : Float) (prec : Nat) (m : Nat) (e : Int)
    (h : nearestME (printedNum (decode x) prec) (10 ^ prec) = some (m, e)) :
    |sgn (decode x) * ((m : ℚ) * 2 ^ e) - val (decode x)| ≤ 1 / (2 * 10 ^ prec) + 2 ^ e / 2 :=
  roundtrip_error_decoded _ (decode_den_pos x) prec m e h

/-- `roundtrip_error` with the success of `nearestME` discharged: whenever the printed decimal is
not `0.00…0` and `10^prec ≤ 2^2198` (`prec ≤ 661`), `Fmt.nearest` selects a 53-bit mantissa `m` and
an exponent `e` with `± m * 2^e` within half a printed unit plus half an ulp of the value written. -/
theorem roundtrip_error_total (x : Float) (prec : Nat) (hN : printedNum (decode x) prec ≠ 0)
    (hp : 10 ^ prec ≤ 2 ^ 2198) :
    ∃ m e, nearestME (printedNum (decode x) prec) (10 ^ prec) = some (m, e) ∧
      2 ^ 52 ≤ m ∧ m ≤ 2 ^ 53 ∧
      |sgn (decode x) * ((m : ℚ) * 2 ^ e) - val (decode x)| ≤ 1 / (2 * 10 ^ prec) + 2 ^ e / 2 := by
  have h10 : 0 < 10 ^ prec := Nat.pow_pos (by decide)
  obtain ⟨m, e, hme⟩ := nearestME_isSome _ (10 ^ prec) (Nat.pos_of_ne_zero hN) h10
    (le_trans hp (Nat.le_mul_of_pos_left _ (Nat.pos_of_ne_zero hN)))
  obtain ⟨hm1, hm2⟩ := nearestME_mantissa _ _ h10 m e hme
  exact ⟨m, e, hme, hm1, hm2, roundtrip_error x prec m e hme⟩

/-- when the printed decimal is `0.00…0` (`nearestME` gives `none`, `Fmt.nearest` returns `0.0`)
the value read back is zero, still within half a printed unit -/
theorem roundtrip_error_zero (x : Float) (prec : Nat) (h : printedNum (decode x) prec = 0) :
    |(0 : ℚ) - val (decode x)| ≤ 1 / (2 * 10 ^ prec) := by
  have := decimal_error x prec
  simpa [printed, printedQ, h] using this

-- values of doubles are dyadic, so short decimals survive the round trip exactly

theorem roundtrip_exact_decoded (d : Bool × Nat × Nat) (hd : 0 < d.2.2) (prec : Nat)
    (m0 : Nat) (e0 : Int) (hm0 : m0 < 2 ^ 53) (hx : (d.2.1 : ℚ) / d.2.2 = (m0 : ℚ) * 2 ^ e0)
    (hdiv : d.2.2 ∣ d.2.1 * 10 ^ prec) (m : Nat) (e : Int)
    (h : nearestME (printedNum d prec) (10 ^ prec) = some (m, e)) :
    sgn d * ((m : ℚ) * 2 ^ e) = val d := by
  have hp := printed_exact_decoded d hd prec hdiv
  have hmag : ((printedNum d prec : ℕ) : ℚ) / ((10 ^ prec : ℕ) : ℚ) = (d.2.1 : ℚ) / d.2.2 := by
    simp only [printedQ, val] at hp
    have hs : (if d.1 then (-1 : ℚ) else 1) ≠ 0 := by split <;> norm_num
    have := mul_left_cancel₀ hs hp
    rw [← this]; push_cast; rfl
  have := nearestME_exact _ _ (Nat.pow_pos (by decide)) m0 e0 hm0 (hmag.trans hx) m e h
  rw [this, hmag]; rfl

/-- `roundtrip_exact`: if the exact value of a finite double has at most `prec` decimals
(`den ∣ num * 10^prec`), the mantissa and exponent selected from the printed decimal give back the
value exactly. -/
theorem roundtrip_exact (x : Float) (prec : Nat)
    (hdiv : (decode x).2.2 ∣ (decode x).2.1 * 10 ^ prec) (m : Nat) (e : Int)
    (h : nearestME (printedNum (decode x) prec) (10 ^ prec) = some (m, e)) :
    sgn (decode x) * ((m : ℚ) * 2 ^ e) = val (decode x) := by
  obtain ⟨m0, e0, hm0, hx⟩ := decode_dyadic x
  exact roundtrip_exact_decoded _ (decode_den_pos x) prec m0 e0 hm0 hx hdiv m e h

theorem exact_print_range (num den N p K1 K2 : ℕ) (hnum : 0 < num) (hK : K1 ≤ K2)
    (hr : den ≤ num * 2 ^ K1) (hNeq : N * den = num * 10 ^ p) :
    0 < N ∧ 10 ^ p ≤ N * 2 ^ K2 := by
  have h10 : 0 < 10 ^ p := Nat.pow_pos (by decide)
  constructor
  · rcases Nat.eq_zero_or_pos N with h0 | h0
    · rw [h0, Nat.zero_mul] at hNeq
      exact absurd hNeq.symm (Nat.mul_pos hnum h10).ne'
    · exact h0
  · have h1 : num * 10 ^ p ≤ num * (N * 2 ^ K1) := by
      calc num * 10 ^ p = N * den := hNeq.symm
        _ ≤ N * (num * 2 ^ K1) := Nat.mul_le_mul_left _ hr
        _ = num * (N * 2 ^ K1) := by ring
    have h2 := Nat.le_of_mul_le_mul_left h1 hnum
    exact le_trans h2 (Nat.mul_le_mul_left _ (Nat.pow_le_pow_right (by decide) hK))

/-- … and for a non-zero such value `nearestME` does succeed (the fuel 2200 is enough), so the
rational model of write-then-read is the identity on values with at most `prec` decimals. -/
theorem roundtrip_exact_total (x : Float) (prec : Nat) (hnz : (decode x).2.1 ≠ 0)
    (hdiv : (decode x).2.2 ∣ (decode x).2.1 * 10 ^ prec) :
    ∃ m e, nearestME (printedNum (decode x) prec) (10 ^ prec) = some (m, e) ∧
      sgn (decode x) * ((m : ℚ) * 2 ^ e) = val (decode x) := by
  have hd := decode_den_pos x
  have hNeq : printedNum (decode x) prec * (decode x).2.2 = (decode x).2.1 * 10 ^ prec := by
    rw [printedNum, roundHalfEven_exact _ _ hd hdiv, Nat.div_mul_cancel hdiv]
  obtain ⟨hNpos, hrange⟩ := exact_print_range _ _ _ prec 1074 2198 (Nat.pos_of_ne_zero hnz)
    (by decide) (decode_range x hnz) hNeq
  obtain ⟨m, e, hme⟩ := nearestME_isSome _ (10 ^ prec) hNpos (Nat.pow_pos (by decide)) hrange
  exact ⟨m, e, hme, roundtrip_exact x prec hdiv m e hme⟩

-- ties go to the even neighbour: 3/8 = 0.375 prints as 0.38, 1/4 = 0.25 prints as 0.2,
-- 1/8 = 0.125 prints as 0.12; non-ties go to the nearer one: 1/3 prints as 0.33, 2/3 as 0.67
example : printedNum (false, 3, 8) 2 = 38 := by decide
example : printedNum (false, 1, 4) 1 = 2 := by decide
example : printedNum (false, 1, 8) 2 = 12 := by decide
example : printedNum (false, 1, 3) 2 = 33 := by decide
example : printedNum (false, 2, 3) 2 = 67 := by decide
example : roundHalfEven 5 2 = 2 ∧ roundHalfEven 7 2 = 4 ∧ roundHalfEven 6 2 = 3 := by decide
example : toString 0 ++ "." ++ fracField 38 2 = "0.38" := by decide
example : toString 12 ++ "." ++ fracField 5 3 = "12.005" := by decide
-- 0.375 = 3 * 2^51 * 2^-54 is found from the decimal 375/1000 and from 3/8
example : nearestME 375 1000 = some (3 * 2 ^ 51, -54) := by decide
example : nearestME 3 8 = some (3 * 2 ^ 51, -54) := by decide
-- 0.1: mantissa 0x1999999999999a, exponent -56
example : nearestME 1 10 = some (7205759403792794, -56) := by decide
example : InBinade 3 8 (-54) := by
  constructor <;> norm_num [zpow_neg]
-- the hypotheses of `roundtrip_exact_decoded` hold for 3/8 with three decimals
example : sgn (false, 3, 8) * (((3 * 2 ^ 51 : ℕ) : ℚ) * 2 ^ (-54 : ℤ)) = val (false, 3, 8) :=
  roundtrip_exact_decoded (false, 3, 8) (by decide) 3 3 (-3) (by decide)
    (by norm_num [zpow_neg]) (by decide) _ _ (by decide)

end Ohsl.Props.C19
