/-
  Property C18 (continued), class (R) — ACCURACY of the finite-difference Jacobian for smooth maps
  and of the finite-difference Newton step, in exact real arithmetic (`K = ℝ` with the instances of
  `Ohsl/Lemmas/RealTransc.lean`).  Model: `Ohsl.Jac.jacobian`, `Ohsl.Newton.solveScalar`
  (Ohsl/Model/Newton.lean).

  (R) `diffquot_error` (the forward quotient); `jacobian_accuracy` (every entry, EVERY shape `m × n`;
      over ℝ the restore is exact, so an entry is a difference quotient);
      `jacobian_quadratic_exact_error` (the bound is sharp).
  Newton (scalar) — NOTE: the model `Newton.solveScalar` (and src/newton.rs:64-65) estimates the
  derivative by the CENTRAL quotient `(f(x+δ) - f(x-δ)) / (2δ)`, not by the forward quotient; both
  are covered:
  (R) `newton_scalar_fd_step_simple` (forward quotient); `newton_scalar_model_step` (`…_simple`) (the
      model's central quotient); `NewtonBall`, `newtonQ` (hypotheses near the root, contraction
      factor); `newton_scalar_fd_converges`, `newton_scalar_fd_tendsto` (the iterates);
      `newton_scalar_model_converges`, `newton_scalar_model_success_within_tol` (what `solveScalar`
      returns near a simple root).
  In exact real arithmetic the decrease is geometric all the way to the root (the `O(δ)` term only
  makes the asymptotic rate linear, `≈ C|δ|`, instead of quadratic); the floor caused by rounding
  is a class-F matter (scalar real variant: Ohsl/Props/C17L.lean).  NOT proved: `O(δ²)` accuracy of
  the central quotient under a `C³` hypothesis.  Convergence of the SYSTEM iteration
  (`Jac.solveSys`): Ohsl/Props/C17K.lean, C17W.lean.
-/
import Ohsl.Props.C18E
import Ohsl.Props.C17
import Ohsl.Lemmas.NewtonConv
import Ohsl.Lemmas.NewtonAnalysis
import Ohsl.Lemmas.RealTransc
import Mathlib.Analysis.Calculus.MeanValue
import Mathlib.Analysis.Calculus.Deriv.Pow
import Mathlib.Analysis.Calculus.Deriv.Prod
import Mathlib.Analysis.SpecificLimits.Basic
namespace Ohsl.Props.C18
open Ohsl Ohsl.Mat Ohsl.Jac Set

section Real

section Analysis

theorem lipschitz_of_deriv_bound (g g' : ℝ → ℝ) (I : Set ℝ) (hI : I.OrdConnected) (L : ℝ)
    (h1 : ∀ s ∈ I, HasDerivAt g (g' s) s) (hL : ∀ s ∈ I, |g' s| ≤ L) (a b : ℝ) (ha : a ∈ I)
    (hb : b ∈ I) : |g a - g b| ≤ L * |a - b| := by
  have hsub : uIcc b a ⊆ I := hI.uIcc_subset hb ha
  have := Convex.norm_image_sub_le_of_norm_hasDerivWithin_le (f := g) (f' := g')
    (s := uIcc b a) (C := L) (fun x hx => (h1 x (hsub hx)).hasDerivWithinAt)
    (fun x hx => by simpa using hL x (hsub hx)) (convex_uIcc _ _) left_mem_uIcc right_mem_uIcc
  simpa using this

theorem taylor2 (g g' g'' : ℝ → ℝ) (a b M : ℝ)
    (h1 : ∀ s ∈ uIcc a b, HasDerivAt g (g' s) s)
    (h2 : ∀ s ∈ uIcc a b, HasDerivAt g' (g'' s) s)
    (hM : ∀ s ∈ uIcc a b, |g'' s| ≤ M) :
    |g b - g a - g' a * (b - a)| ≤ M * (b - a) ^ 2 / 2 := by
  have := NewtonAnalysis.taylor1_field g g' (uIcc a b) (convex_uIcc a b) a b M left_mem_uIcc
    right_mem_uIcc h1
    (fun z hz => lipschitz_of_deriv_bound g' g'' _ ordConnected_uIcc M h2 hM z a hz left_mem_uIcc)
  rw [Real.norm_eq_abs, Real.norm_eq_abs, sq_abs] at this
  exact this.trans_eq (by ring)

/-- **accuracy of the forward difference quotient**: for `g` twice differentiable on the segment
    between `t` and `t + δ` (`δ ≠ 0`, either sign) with `|g''| ≤ M₂` there,
    `|(g(t+δ) - g(t))/δ - g'(t)| ≤ M₂ |δ| / 2`. -/
theorem diffquot_error (g g' g'' : ℝ → ℝ) (t δ M₂ : ℝ) (hδ : δ ≠ 0)
    (h1 : ∀ s ∈ uIcc t (t + δ), HasDerivAt g (g' s) s)
    (h2 : ∀ s ∈ uIcc t (t + δ), HasDerivAt g' (g'' s) s)
    (hM : ∀ s ∈ uIcc t (t + δ), |g'' s| ≤ M₂) :
    |(g (t + δ) - g t) / δ - g' t| ≤ M₂ * |δ| / 2 :=
  NewtonAnalysis.diffquot_error_field g g' _ (convex_uIcc _ _) t δ M₂ hδ left_mem_uIcc right_mem_uIcc
    h1 (fun z hz =>
      lipschitz_of_deriv_bound g' g'' _ ordConnected_uIcc M₂ h2 hM z t hz left_mem_uIcc)

theorem centraldiff_error (g g' g'' : ℝ → ℝ) (t δ M₂ : ℝ) (hδ : δ ≠ 0)
    (h1 : ∀ s ∈ uIcc (t - δ) (t + δ), HasDerivAt g (g' s) s)
    (h2 : ∀ s ∈ uIcc (t - δ) (t + δ), HasDerivAt g' (g'' s) s)
    (hM : ∀ s ∈ uIcc (t - δ) (t + δ), |g'' s| ≤ M₂) :
    |(g (t + δ) - g (t - δ)) / ((1 + 1) * δ) - g' t| ≤ M₂ * |δ| / 2 := by
  have ht : t ∈ uIcc (t - δ) (t + δ) := by
    rcases le_total 0 δ with h | h
    · exact mem_uIcc_of_le (sub_le_self t h) (le_add_of_nonneg_right h)
    · exact mem_uIcc_of_ge (add_le_of_nonpos_right h) ((le_sub_self_iff t).mpr h)
  rw [one_add_one_eq_two]
  exact NewtonAnalysis.centraldiff_error_field g g' _ (convex_uIcc _ _) t δ M₂ hδ ht right_mem_uIcc
    left_mem_uIcc h1
    (fun z hz => lipschitz_of_deriv_bound g' g'' _ ordConnected_uIcc M₂ h2 hM z t hz ht)

end Analysis

section Jacobian

/-- the partial function `t ↦ F_i(x + t e_j)` of a map given on arrays (entries beyond the size of
    the result read as 0) -/
noncomputable def partialFn (F : Array ℝ → Array ℝ) (x : Array ℝ) (i j : ℕ) (t : ℝ) : ℝ :=
  (F (x.modify j (fun p => p + t))).getD i 0

theorem partialFn_zero (F : Array ℝ → Array ℝ) (x : Array ℝ) (i j : ℕ) :
    partialFn F x i j 0 = (F x).getD i 0 := by
  rw [partialFn, modify_add_zero]

/-- over ℝ the restore is exact (the saved `x_j` is put back): `jacobian_restore_exact` (C18E) applies
    with the only hypothesis `δ ≠ 0` -/
theorem jacobian_entries_real (F : Array ℝ → Array ℝ) (x : Array ℝ) (δ : ℝ) (m : ℕ)
    (hF : ∀ y : Array ℝ, y.size = x.size → (F y).size = m) (hδ : δ ≠ 0) :
    ∃ J, jacobian F x δ
        = .ok (J, x :: (List.range x.size).map (fun j => x.modify j (fun p => p + δ))) ∧
      Mat.Is J m x.size (fun i j => (partialFn F x i j δ - partialFn F x i j 0) / δ) := by
  have hdiv : ∀ a : ℝ, ∃ q, divM a δ = .ok q := fun a => ⟨a / δ, Alg.divM_ne hδ⟩
  obtain ⟨J, h1, h2, h3, h4, h5⟩ := jacobian_restore_exact F x δ m hF hdiv
  refine ⟨J, h1, ⟨h4, h2, h3, ?_⟩⟩
  intro i j hi hj
  have s1 : i < (F (x.modify j (fun p => p + δ))).size := by rw [hF _ (by simp)]; exact hi
  have s0 : i < (F x).size := by rw [hF x rfl]; exact hi
  obtain ⟨q, hq1, hq2⟩ := h5 i j hi hj s1 s0
  rw [hq2]
  have hq : divM ((F (x.modify j (fun p => p + δ)))[i] - (F x)[i]) δ
      = .ok (((F (x.modify j (fun p => p + δ)))[i] - (F x)[i]) / δ) := Alg.divM_ne hδ
  rw [hq] at hq1
  rw [← Except.ok.inj hq1]
  rw [partialFn_zero, partialFn, getD_of_lt _ _ s1, getD_of_lt _ _ s0]

/-- **accuracy `O(δ)` for smooth maps**, every shape `m × n`: if for each `i < m`, `j < n` the
    partial function `t ↦ F_i(x + t e_j)` is twice differentiable on the segment between `0` and `δ`
    with second derivative bounded by `M₂` there, the model's Jacobian satisfies
    `|J i j - ∂F_i/∂x_j (x)| ≤ M₂ |δ| / 2`, where `∂F_i/∂x_j (x)` is the derivative at `0` of the
    partial function. -/
theorem jacobian_accuracy (F : Array ℝ → Array ℝ) (x : Array ℝ) (δ M₂ : ℝ) (m : ℕ)
    (hF : ∀ y : Array ℝ, y.size = x.size → (F y).size = m) (hδ : δ ≠ 0)
    (hsm : ∀ i j, i < m → j < x.size → ∃ g' g'' : ℝ → ℝ,
      (∀ t ∈ uIcc 0 δ, HasDerivAt (partialFn F x i j) (g' t) t) ∧
      (∀ t ∈ uIcc 0 δ, HasDerivAt g' (g'' t) t) ∧ ∀ t ∈ uIcc 0 δ, |g'' t| ≤ M₂) :
    ∃ J tr e, jacobian F x δ = .ok (J, tr) ∧ tr.length = x.size + 1 ∧ Mat.Is J m x.size e ∧
      ∀ i j, i < m → j < x.size → |e i j - deriv (partialFn F x i j) 0| ≤ M₂ * |δ| / 2 := by
  obtain ⟨J, h1, h2⟩ := jacobian_entries_real F x δ m hF hδ
  refine ⟨J, _, _, h1, by simp, h2, ?_⟩
  intro i j hi hj
  obtain ⟨g', g'', d1, d2, d3⟩ := hsm i j hi hj
  have z : (0 : ℝ) + δ = δ := zero_add δ
  have := diffquot_error (partialFn F x i j) g' g'' 0 δ M₂ hδ (by rwa [z]) (by rwa [z]) (by rwa [z])
  rw [z] at this
  rw [(d1 0 left_mem_uIcc).deriv]
  exact this

/-- array form of a map `ℝⁿ → ℝᵐ` (coordinates beyond the size of the argument read as 0) -/
noncomputable def arrayForm {n m : ℕ} (Ff : (Fin n → ℝ) → (Fin m → ℝ)) (a : Array ℝ) : Array ℝ :=
  Array.ofFn (fun i => Ff (fun j => a.getD j 0) i)

theorem partialFn_arrayForm {n m : ℕ} (Ff : (Fin n → ℝ) → (Fin m → ℝ)) (x : Fin n → ℝ)
    (i : Fin m) (j : Fin n) (t : ℝ) :
    partialFn (arrayForm Ff) (Array.ofFn x) i j t = Ff (Function.update x j (x j + t)) i := by
  have hsz : (i : ℕ) < (arrayForm Ff ((Array.ofFn x).modify j (fun p => p + t))).size := by
    simp [arrayForm]
  rw [partialFn, getD_of_lt _ _ hsz]
  simp only [arrayForm, Array.getElem_ofFn]
  congr 1
  funext k
  simp only [Array.getD_eq_getD_getElem?, Array.getElem?_modify, Function.update_apply]
  by_cases e : (j : ℕ) = k
  · have e' : k = j := Fin.ext e.symm
    subst e'
    simp
  · have e' : ¬ k = j := fun h => e (by rw [h])
    simp [e, e']

/-- `x + t e_j` written with `Function.update` -/
theorem update_eq_add_single {n : ℕ} (x : Fin n → ℝ) (j : Fin n) (t : ℝ) :
    Function.update x j (x j + t) = x + t • Pi.single j (1 : ℝ) := by
  funext k
  by_cases e : k = j
  · subst e; simp
  · simp [e]

theorem jacobian_accuracy_fin {n m : ℕ} (Ff : (Fin n → ℝ) → (Fin m → ℝ)) (x : Fin n → ℝ)
    (δ M₂ : ℝ) (hδ : δ ≠ 0)
    (hsm : ∀ (i : Fin m) (j : Fin n), ∃ g' g'' : ℝ → ℝ,
      (∀ t ∈ uIcc 0 δ, HasDerivAt (fun s => Ff (Function.update x j (x j + s)) i) (g' t) t) ∧
      (∀ t ∈ uIcc 0 δ, HasDerivAt g' (g'' t) t) ∧ ∀ t ∈ uIcc 0 δ, |g'' t| ≤ M₂) :
    ∃ J tr e, jacobian (arrayForm Ff) (Array.ofFn x) δ = .ok (J, tr) ∧ tr.length = n + 1 ∧
      Mat.Is J m n e ∧
      ∀ (i : Fin m) (j : Fin n),
        |e i j - deriv (fun s => Ff (Function.update x j (x j + s)) i) 0| ≤ M₂ * |δ| / 2 := by
  have hfun : ∀ (i : Fin m) (j : Fin n), partialFn (arrayForm Ff) (Array.ofFn x) i j
      = fun s => Ff (Function.update x j (x j + s)) i :=
    fun i j => funext (partialFn_arrayForm Ff x i j)
  obtain ⟨J, tr, e, h1, h2, h3, h4⟩ := jacobian_accuracy (arrayForm Ff) (Array.ofFn x) δ M₂ m
    (fun y _ => Array.size_ofFn) hδ (fun i j hi hj => by
      have hj' : j < n := Array.size_ofFn (f := x) ▸ hj
      obtain ⟨g', g'', d1, d2, d3⟩ := hsm ⟨i, hi⟩ ⟨j, hj'⟩
      refine ⟨g', g'', fun t ht => ?_, d2, d3⟩
      have := d1 t ht
      rwa [← hfun ⟨i, hi⟩ ⟨j, hj'⟩] at this)
  have hsz : (Array.ofFn x).size = n := Array.size_ofFn
  rw [hsz] at h2 h3
  refine ⟨J, tr, e, h1, h2, h3, ?_⟩
  intro i j
  have := h4 i j i.isLt (by rw [hsz]; exact j.isLt)
  rw [hfun i j] at this
  exact this

theorem deriv_partial_eq_fderiv {n m : ℕ} (Ff : (Fin n → ℝ) → (Fin m → ℝ)) (x : Fin n → ℝ)
    (F' : (Fin n → ℝ) →L[ℝ] (Fin m → ℝ)) (hF' : HasFDerivAt Ff F' x) (i : Fin m) (j : Fin n) :
    deriv (fun s => Ff (Function.update x j (x j + s)) i) 0 = F' (Pi.single j 1) i := by
  have hγ : HasDerivAt (fun s : ℝ => Function.update x j (x j + s)) (Pi.single j (1 : ℝ)) 0 := by
    rw [hasDerivAt_pi]
    intro k
    by_cases e : k = j
    · subst e
      simp only [Function.update_self, Pi.single_eq_same]
      exact ((hasDerivAt_id (0 : ℝ)).const_add (x k))
    · simp only [Function.update_of_ne e, Pi.single_eq_of_ne e]
      exact hasDerivAt_const _ _
  have h0 : (fun s : ℝ => Function.update x j (x j + s)) 0 = x := by simp
  have hc := hF'.comp_hasDerivAt_of_eq (0 : ℝ) hγ h0.symm
  exact ((hasDerivAt_pi.mp hc) i).deriv

theorem jacobian_accuracy_fderiv {n m : ℕ} (Ff : (Fin n → ℝ) → (Fin m → ℝ)) (x : Fin n → ℝ)
    (δ M₂ : ℝ) (hδ : δ ≠ 0)
    (F' : (Fin n → ℝ) →L[ℝ] (Fin m → ℝ)) (hF' : HasFDerivAt Ff F' x)
    (hsm : ∀ (i : Fin m) (j : Fin n), ∃ g' g'' : ℝ → ℝ,
      (∀ t ∈ uIcc 0 δ, HasDerivAt (fun s => Ff (Function.update x j (x j + s)) i) (g' t) t) ∧
      (∀ t ∈ uIcc 0 δ, HasDerivAt g' (g'' t) t) ∧ ∀ t ∈ uIcc 0 δ, |g'' t| ≤ M₂) :
    ∃ J tr e, jacobian (arrayForm Ff) (Array.ofFn x) δ = .ok (J, tr) ∧ tr.length = n + 1 ∧
      Mat.Is J m n e ∧
      ∀ (i : Fin m) (j : Fin n), |e i j - F' (Pi.single j 1) i| ≤ M₂ * |δ| / 2 := by
  obtain ⟨J, tr, e, h1, h2, h3, h4⟩ := jacobian_accuracy_fin Ff x δ M₂ hδ hsm
  refine ⟨J, tr, e, h1, h2, h3, fun i j => ?_⟩
  rw [← deriv_partial_eq_fderiv Ff x F' hF' i j]
  exact h4 i j

theorem quadratic_quotient (g : ℝ → ℝ) (a b c δ : ℝ) (hδ : δ ≠ 0)
    (hg : ∀ t, g t = a + b * t + c * t ^ 2) :
    deriv g 0 = b ∧ (∀ t, deriv (deriv g) t = 2 * c) ∧
      (g δ - g 0) / δ - deriv g 0 = δ / 2 * deriv (deriv g) 0 := by
  have hd1 : ∀ t, deriv g t = b + 2 * c * t := fun t => by
    rw [funext hg]
    exact ((((hasDerivAt_id t).const_mul b).const_add a).add
      ((hasDerivAt_pow 2 t).const_mul c)).deriv.trans (by push_cast; ring)
  have hd2 : ∀ t, deriv (deriv g) t = 2 * c := fun t => by
    rw [funext hd1]
    exact (((hasDerivAt_id t).const_mul (2 * c)).const_add b).deriv.trans (mul_one _)
  refine ⟨(hd1 0).trans (by rw [mul_zero, add_zero]), hd2, ?_⟩
  rw [hd2, hd1, hg, hg, sub_eq_iff_eq_add, div_eq_iff hδ]
  ring

/-- **sharpness**: if every partial function is a quadratic polynomial
    `t ↦ a + b t + c t²` (so `∂F_i/∂x_j (x) = b` and `∂²F_i/∂x_j² = 2c`), the error of entry `(i,j)`
    is exactly `δ/2 · ∂²F_i/∂x_j²`. -/
theorem jacobian_quadratic_exact_error (F : Array ℝ → Array ℝ) (x : Array ℝ) (δ : ℝ) (m : ℕ)
    (hF : ∀ y : Array ℝ, y.size = x.size → (F y).size = m) (hδ : δ ≠ 0)
    (a b c : ℕ → ℕ → ℝ)
    (hq : ∀ i j, i < m → j < x.size → ∀ t, partialFn F x i j t = a i j + b i j * t + c i j * t ^ 2) :
    ∃ J tr e, jacobian F x δ = .ok (J, tr) ∧ Mat.Is J m x.size e ∧
      ∀ i j, i < m → j < x.size →
        deriv (partialFn F x i j) 0 = b i j ∧
        (∀ t, deriv (deriv (partialFn F x i j)) t = 2 * c i j) ∧
        e i j - deriv (partialFn F x i j) 0 = δ / 2 * deriv (deriv (partialFn F x i j)) 0 := by
  obtain ⟨J, h1, h2⟩ := jacobian_entries_real F x δ m hF hδ
  refine ⟨J, _, _, h1, h2, ?_⟩
  exact fun i j hi hj => quadratic_quotient _ _ _ _ δ hδ (hq i j hi hj)

end Jacobian

section Newton
open Ohsl.Newton

theorem newton_step_general (f f' f'' : ℝ → ℝ) (x r d ε m M₂ : ℝ)
    (h1 : ∀ s ∈ uIcc x r, HasDerivAt f (f' s) s)
    (h2 : ∀ s ∈ uIcc x r, HasDerivAt f' (f'' s) s)
    (hM : ∀ s ∈ uIcc x r, |f'' s| ≤ M₂)
    (hr : f r = 0) (hm : m ≤ |f' x|) (hd : |d - f' x| ≤ ε) (hε : ε < m) :
    d ≠ 0 ∧ |x - f x / d - r| ≤ (M₂ / 2 * |x - r| ^ 2 + ε * |x - r|) / (m - ε) := by
  have hT := taylor2 f f' f'' x r M₂ h1 h2 hM
  rw [hr] at hT
  obtain ⟨g1, g2⟩ := NewtonAnalysis.newton_step_field (𝕜 := ℝ) hT hm hd hε
  refine ⟨g1, g2.trans_eq ?_⟩
  rw [Real.norm_eq_abs, ← sq_abs (r - x), abs_sub_comm r x]
  ring

theorem two_mul_sub_pos {a m : ℝ} (h : a / 2 < m) : 0 < 2 * m - a :=
  sub_pos.mpr (((div_lt_iff₀ two_pos).mp h).trans_eq (mul_comm m 2))

/-- `newton_step_general` with `ε = M₂|δ|/2` (what `diffquot_error` and `centraldiff_error` give):
    the bound becomes `C (e² + |δ| e)`, `e = |x - r|`, `C = M₂ / (2m - M₂|δ|)` -/
theorem newton_step_quotient (f f' f'' : ℝ → ℝ) (I : Set ℝ) (hI : I.OrdConnected)
    (x r δ d m M₂ : ℝ)
    (h1 : ∀ s ∈ I, HasDerivAt f (f' s) s) (h2 : ∀ s ∈ I, HasDerivAt f' (f'' s) s)
    (hM : ∀ s ∈ I, |f'' s| ≤ M₂) (hx : x ∈ I) (hrI : r ∈ I) (hr : f r = 0) (hm : m ≤ |f' x|)
    (hd : |d - f' x| ≤ M₂ * |δ| / 2) (hsmall : M₂ * |δ| / 2 < m) :
    d ≠ 0 ∧ |x - f x / d - r| ≤ M₂ / (2 * m - M₂ * |δ|) * (|x - r| ^ 2 + |δ| * |x - r|) := by
  have s2 : uIcc x r ⊆ I := hI.uIcc_subset hx hrI
  have hT := taylor2 f f' f'' x r M₂ (fun s hs => h1 s (s2 hs)) (fun s hs => h2 s (s2 hs))
    (fun s hs => hM s (s2 hs))
  rw [hr, mul_div_right_comm, ← sq_abs (r - x)] at hT
  exact NewtonAnalysis.newton_step_quotient (𝕜 := ℝ) hT hm hd hsmall

/-- forward quotient `d = (f(x+δ) - f(x))/δ`; the model's `solveScalar` uses the CENTRAL quotient,
    see `newton_scalar_model_step` -/
theorem newton_scalar_fd_step (f f' f'' : ℝ → ℝ) (I : Set ℝ) (hI : I.OrdConnected)
    (x r δ m M₂ : ℝ)
    (h1 : ∀ s ∈ I, HasDerivAt f (f' s) s) (h2 : ∀ s ∈ I, HasDerivAt f' (f'' s) s)
    (hM : ∀ s ∈ I, |f'' s| ≤ M₂)
    (hx : x ∈ I) (hxδ : x + δ ∈ I) (hrI : r ∈ I) (hr : f r = 0) (hm : m ≤ |f' x|)
    (hδ : δ ≠ 0) (hsmall : M₂ * |δ| / 2 < m) :
    (f (x + δ) - f x) / δ ≠ 0 ∧
    |x - f x / ((f (x + δ) - f x) / δ) - r|
      ≤ M₂ / (2 * m - M₂ * |δ|) * (|x - r| ^ 2 + |δ| * |x - r|) := by
  have s1 : uIcc x (x + δ) ⊆ I := hI.uIcc_subset hx hxδ
  exact newton_step_quotient f f' f'' I hI x r δ _ m M₂ h1 h2 hM hx hrI hr hm
    (diffquot_error f f' f'' x δ M₂ hδ (fun s hs => h1 s (s1 hs)) (fun s hs => h2 s (s1 hs))
      (fun s hs => hM s (s1 hs))) hsmall

/-- the model's derivative estimate, update and step (`Newton<f64>::solve`, src/newton.rs:64-67) -/
noncomputable def cdiff (f : ℝ → ℝ) (δ x : ℝ) : ℝ := (f (x + δ) - f (x - δ)) / ((1 + 1) * δ)
noncomputable def newtonDx (f : ℝ → ℝ) (δ x : ℝ) : ℝ := f x / cdiff f δ x
noncomputable def newtonStep (f : ℝ → ℝ) (δ x : ℝ) : ℝ := x - newtonDx f δ x

/-- **one step of the model** (central quotient `(f(x+δ) - f(x-δ))/(2δ)`, `I` contains `x`, `x ± δ`
    and the root): `|x⁺ - r| ≤ C (|x - r|² + |δ| |x - r|)`, `C = M₂ / (2m - M₂|δ|)`. -/
theorem newton_scalar_model_step (f f' f'' : ℝ → ℝ) (I : Set ℝ) (hI : I.OrdConnected)
    (x r δ m M₂ : ℝ)
    (h1 : ∀ s ∈ I, HasDerivAt f (f' s) s) (h2 : ∀ s ∈ I, HasDerivAt f' (f'' s) s)
    (hM : ∀ s ∈ I, |f'' s| ≤ M₂)
    (hx : x ∈ I) (hxp : x + δ ∈ I) (hxm : x - δ ∈ I) (hrI : r ∈ I) (hr : f r = 0)
    (hm : m ≤ |f' x|) (hδ : δ ≠ 0) (hsmall : M₂ * |δ| / 2 < m) :
    cdiff f δ x ≠ 0 ∧
    |newtonStep f δ x - r| ≤ M₂ / (2 * m - M₂ * |δ|) * (|x - r| ^ 2 + |δ| * |x - r|) := by
  have s1 : uIcc (x - δ) (x + δ) ⊆ I := hI.uIcc_subset hxm hxp
  exact newton_step_quotient f f' f'' I hI x r δ _ m M₂ h1 h2 hM hx hrI hr hm
    (centraldiff_error f f' f'' x δ M₂ hδ (fun s hs => h1 s (s1 hs)) (fun s hs => h2 s (s1 hs))
      (fun s hs => hM s (s1 hs))) hsmall

theorem newton_const_le (M₂ m δ e : ℝ) (hM : 0 ≤ M₂) (hm : 0 < m) (h : M₂ * |δ| ≤ m) :
    M₂ / (2 * m - M₂ * |δ|) * (|e| ^ 2 + |δ| * |e|) ≤ M₂ / m * (|e| ^ 2 + |δ| * |e|) :=
  mul_le_mul_of_nonneg_right (div_le_div_of_nonneg_left hM hm
      (le_sub_iff_add_le.mpr ((add_le_add_right h m).trans_eq (two_mul m).symm)))
    (add_nonneg (sq_nonneg _) (mul_nonneg (abs_nonneg _) (abs_nonneg _)))

theorem half_lt_of_le {a m : ℝ} (hm : 0 < m) (h : a ≤ m) : a / 2 < m :=
  (div_le_div_of_nonneg_right h two_pos.le).trans_lt (half_lt_self hm)

/-- forward quotient, simple constant: if `M₂|δ| ≤ m` then `C = M₂/m` works -/
theorem newton_scalar_fd_step_simple (f f' f'' : ℝ → ℝ) (I : Set ℝ) (hI : I.OrdConnected)
    (x r δ m M₂ : ℝ)
    (h1 : ∀ s ∈ I, HasDerivAt f (f' s) s) (h2 : ∀ s ∈ I, HasDerivAt f' (f'' s) s)
    (hM : ∀ s ∈ I, |f'' s| ≤ M₂)
    (hx : x ∈ I) (hxδ : x + δ ∈ I) (hrI : r ∈ I) (hr : f r = 0) (hm : m ≤ |f' x|)
    (hδ : δ ≠ 0) (hm0 : 0 < m) (hsmall : M₂ * |δ| ≤ m) :
    (f (x + δ) - f x) / δ ≠ 0 ∧
    |x - f x / ((f (x + δ) - f x) / δ) - r| ≤ M₂ / m * (|x - r| ^ 2 + |δ| * |x - r|) := by
  obtain ⟨g1, g2⟩ := newton_scalar_fd_step f f' f'' I hI x r δ m M₂ h1 h2 hM hx hxδ hrI hr hm hδ
    (half_lt_of_le hm0 hsmall)
  exact ⟨g1, g2.trans (newton_const_le M₂ m δ _ ((abs_nonneg _).trans (hM r hrI)) hm0 hsmall)⟩

/-- the model's step, simple constant: if `M₂|δ| ≤ m` then `C = M₂/m` works -/
theorem newton_scalar_model_step_simple (f f' f'' : ℝ → ℝ) (I : Set ℝ) (hI : I.OrdConnected)
    (x r δ m M₂ : ℝ)
    (h1 : ∀ s ∈ I, HasDerivAt f (f' s) s) (h2 : ∀ s ∈ I, HasDerivAt f' (f'' s) s)
    (hM : ∀ s ∈ I, |f'' s| ≤ M₂)
    (hx : x ∈ I) (hxp : x + δ ∈ I) (hxm : x - δ ∈ I) (hrI : r ∈ I) (hr : f r = 0)
    (hm : m ≤ |f' x|) (hδ : δ ≠ 0) (hm0 : 0 < m) (hsmall : M₂ * |δ| ≤ m) :
    cdiff f δ x ≠ 0 ∧
    |newtonStep f δ x - r| ≤ M₂ / m * (|x - r| ^ 2 + |δ| * |x - r|) := by
  obtain ⟨g1, g2⟩ := newton_scalar_model_step f f' f'' I hI x r δ m M₂ h1 h2 hM hx hxp hxm hrI hr
    hm hδ (half_lt_of_le hm0 hsmall)
  exact ⟨g1, g2.trans (newton_const_le M₂ m δ _ ((abs_nonneg _).trans (hM r hrI)) hm0 hsmall)⟩

/-- the contraction factor `q` of the model's step on the ball of radius `ρ`
    (`NewtonBall.hq`: `q < 1`) -/
noncomputable def newtonQ (δ ρ m M₂ : ℝ) : ℝ := M₂ / (2 * m - M₂ * |δ|) * (ρ + |δ|)

/-- hypotheses of the convergence theorems: `f` is `C²` on the ball of radius `ρ + |δ|` around a
    root `r` with `|f''| ≤ M₂` there, `|f'| ≥ m` on the ball of radius `ρ`, `δ ≠ 0`,
    `M₂|δ|/2 < m`, and the contraction factor `q = M₂/(2m - M₂|δ|) · (ρ + |δ|)` is `< 1`. -/
structure NewtonBall (f f' f'' : ℝ → ℝ) (r δ ρ m M₂ : ℝ) : Prop where
  hδ : δ ≠ 0
  h1 : ∀ s ∈ Icc (r - (ρ + |δ|)) (r + (ρ + |δ|)), HasDerivAt f (f' s) s
  h2 : ∀ s ∈ Icc (r - (ρ + |δ|)) (r + (ρ + |δ|)), HasDerivAt f' (f'' s) s
  hM : ∀ s ∈ Icc (r - (ρ + |δ|)) (r + (ρ + |δ|)), |f'' s| ≤ M₂
  hm : ∀ s ∈ Icc (r - ρ) (r + ρ), m ≤ |f' s|
  hr : f r = 0
  hsmall : M₂ * |δ| / 2 < m
  hq : M₂ / (2 * m - M₂ * |δ|) * (ρ + |δ|) < 1

theorem NewtonBall.C_nonneg {f f' f'' : ℝ → ℝ} {r δ ρ m M₂ : ℝ} (H : NewtonBall f f' f'' r δ ρ m M₂)
    (hρ : 0 ≤ ρ) : 0 ≤ M₂ / (2 * m - M₂ * |δ|) := by
  have hr : r ∈ Icc (r - (ρ + |δ|)) (r + (ρ + |δ|)) :=
    mem_Icc_iff_abs_le.mp (by rw [sub_self, abs_zero]; exact add_nonneg hρ (abs_nonneg δ))
  exact div_nonneg ((abs_nonneg _).trans (H.hM r hr)) (two_mul_sub_pos H.hsmall).le

theorem NewtonBall.step {f f' f'' : ℝ → ℝ} {r δ ρ m M₂ : ℝ} (H : NewtonBall f f' f'' r δ ρ m M₂)
    (x : ℝ) (hx : |x - r| ≤ ρ) :
    cdiff f δ x ≠ 0 ∧
    |newtonStep f δ x - r| ≤ M₂ / (2 * m - M₂ * |δ|) * (|x - r| ^ 2 + |δ| * |x - r|) ∧
    |newtonStep f δ x - r| ≤ newtonQ δ ρ m M₂ * |x - r| := by
  have hρ : 0 ≤ ρ := (abs_nonneg _).trans hx
  have hδ0 := abs_nonneg δ
  have mem : ∀ {y R}, |y - r| ≤ R → y ∈ Icc (r - R) (r + R) := fun h =>
    mem_Icc_iff_abs_le.mp (by rwa [abs_sub_comm])
  obtain ⟨hxp, hxm⟩ : |x + δ - r| ≤ ρ + |δ| ∧ |x - δ - r| ≤ ρ + |δ| :=
    NewtonAnalysis.norm_shift_le hx δ
  obtain ⟨g1, g2⟩ := newton_scalar_model_step f f' f'' (Icc (r - (ρ + |δ|)) (r + (ρ + |δ|)))
    ordConnected_Icc x r δ m M₂ H.h1 H.h2 H.hM (mem (hx.trans (le_add_of_nonneg_right hδ0)))
    (mem hxp) (mem hxm) (mem (by rw [sub_self, abs_zero]; exact add_nonneg hρ hδ0)) H.hr
    (H.hm x (mem hx)) H.hδ H.hsmall
  refine ⟨g1, g2, g2.trans ?_⟩
  rw [newtonQ, mul_assoc, sq, ← add_mul]
  exact mul_le_mul_of_nonneg_left
    (mul_le_mul_of_nonneg_right (add_le_add_left hx _) (abs_nonneg _)) (H.C_nonneg hρ)

theorem NewtonBall.q_nonneg {f f' f'' : ℝ → ℝ} {r δ ρ m M₂ : ℝ} (H : NewtonBall f f' f'' r δ ρ m M₂)
    (hρ : 0 ≤ ρ) : 0 ≤ newtonQ δ ρ m M₂ :=
  mul_nonneg (H.C_nonneg hρ) (add_nonneg hρ (abs_nonneg δ))

/-- **convergence of the finite-difference Newton iteration of the model** (exact real arithmetic):
    from any guess `x₀` with `|x₀ - r| ≤ ρ`, every iterate `x_k = newtonStep^[k] x₀` stays in the
    ball, the derivative estimate never vanishes, the one-step estimate
    `|x_{k+1} - r| ≤ C (|x_k - r|² + |δ| |x_k - r|)` holds at every step, and
    `|x_k - r| ≤ q^k |x₀ - r|` with `q = C (ρ + |δ|) < 1`. -/
theorem newton_scalar_fd_converges (f f' f'' : ℝ → ℝ) (r δ ρ m M₂ : ℝ)
    (H : NewtonBall f f' f'' r δ ρ m M₂) (x₀ : ℝ) (hx₀ : |x₀ - r| ≤ ρ) (k : ℕ) :
    |(newtonStep f δ)^[k] x₀ - r| ≤ newtonQ δ ρ m M₂ ^ k * |x₀ - r| ∧
    |(newtonStep f δ)^[k] x₀ - r| ≤ ρ ∧
    cdiff f δ ((newtonStep f δ)^[k] x₀) ≠ 0 ∧
    |(newtonStep f δ)^[k + 1] x₀ - r| ≤ M₂ / (2 * m - M₂ * |δ|) *
      (|(newtonStep f δ)^[k] x₀ - r| ^ 2 + |δ| * |(newtonStep f δ)^[k] x₀ - r|) ∧
    |(newtonStep f δ)^[k + 1] x₀ - r| ≤ newtonQ δ ρ m M₂ * |(newtonStep f δ)^[k] x₀ - r| := by
  have hρ : 0 ≤ ρ := (abs_nonneg _).trans hx₀
  -- the iterates contract exactly (`ε = 0` in `NewtonGen.iter_contracts`)
  obtain ⟨m2, m1⟩ := NewtonGen.iter_contracts id (newtonStep f δ) r (H.q_nonneg hρ) H.hq (ε := 0)
    (by rw [add_zero]; exact mul_le_of_le_one_left hρ H.hq.le)
    (fun x hx => ((H.step x hx).2.2).trans_eq (add_zero _).symm) hx₀ k
  rw [zero_mul, zero_div, add_zero] at m1
  rw [NewtonGen.iter_eq_iterate] at m1 m2
  obtain ⟨s1, s2, s3⟩ := H.step _ m2
  rw [Function.iterate_succ_apply']
  exact ⟨m1, m2, s1, s2, s3⟩

theorem newton_scalar_fd_tendsto (f f' f'' : ℝ → ℝ) (r δ ρ m M₂ : ℝ)
    (H : NewtonBall f f' f'' r δ ρ m M₂) (x₀ : ℝ) (hx₀ : |x₀ - r| ≤ ρ) :
    Filter.Tendsto (fun k => (newtonStep f δ)^[k] x₀) Filter.atTop (nhds r) := by
  have hρ : 0 ≤ ρ := le_trans (abs_nonneg _) hx₀
  simp only [← NewtonGen.iter_eq_iterate]
  exact NewtonGen.iter_tendsto id (newtonStep f δ) r (H.q_nonneg hρ) H.hq
    (mul_le_of_le_one_left hρ (le_of_lt H.hq)) (fun x hx => (H.step x hx).2.2) hx₀

/-- **the model's `solve` near a simple root** (exact real arithmetic, any `tol`, any budget `n`):
    the returned point is never farther from the root than the guess; a reported success is within
    `q/(1-q) · tol` of the root (`≤ tol` when `q ≤ 1/2`); a reported failure has error
    `≤ qⁿ |x₀ - r|`; and success IS reported as soon as `(1+q) q^(n-1) |x₀ - r| ≤ tol`. -/
theorem newton_scalar_model_converges (f f' f'' : ℝ → ℝ) (r δ ρ m M₂ : ℝ)
    (H : NewtonBall f f' f'' r δ ρ m M₂) (x₀ : ℝ) (hx₀ : |x₀ - r| ≤ ρ)
    (tol : ℝ) (n : ℕ) (tr : List ℝ) :
    |(solveScalar f tol δ n x₀ tr).1.x - r| ≤ |x₀ - r| ∧
    ((solveScalar f tol δ n x₀ tr).1.ok = true →
      (1 - newtonQ δ ρ m M₂) * |(solveScalar f tol δ n x₀ tr).1.x - r| ≤ newtonQ δ ρ m M₂ * tol) ∧
    ((solveScalar f tol δ n x₀ tr).1.ok = false →
      |(solveScalar f tol δ n x₀ tr).1.x - r| ≤ newtonQ δ ρ m M₂ ^ n * |x₀ - r|) ∧
    (1 ≤ n → (1 + newtonQ δ ρ m M₂) * newtonQ δ ρ m M₂ ^ (n - 1) * |x₀ - r| ≤ tol →
      (solveScalar f tol δ n x₀ tr).1.ok = true) := by
  have hρ : 0 ≤ ρ := (abs_nonneg _).trans hx₀
  -- `scalarStep f δ` is `newtonStep f δ` by definition; the test quantity `|dx|` IS the length of the step
  have := NewtonGen.loop_converges_exact id (C17.scalarStep f δ) r (H.q_nonneg hρ) H.hq hρ
    (fun x hx => (H.step x hx).2.2) (fun x => |newtonDx f δ x|)
    (fun x _ => congrArg abs (sub_sub_cancel x (newtonDx f δ x)).symm)
    (C17.scalarTest f tol δ) tol (fun x _ => decide_eq_true_iff) (C17.scalarPts δ) n x₀ tr hx₀
  rwa [← C17.solveScalar_eq_loop] at this

/-- with `q ≤ 1/2` (the classical "half the radius" condition) a reported success is within `tol`
    of the root -/
theorem newton_scalar_model_success_within_tol (f f' f'' : ℝ → ℝ) (r δ ρ m M₂ : ℝ)
    (H : NewtonBall f f' f'' r δ ρ m M₂) (hhalf : newtonQ δ ρ m M₂ ≤ 1 / 2)
    (x₀ : ℝ) (hx₀ : |x₀ - r| ≤ ρ) (tol : ℝ) (n : ℕ) (tr : List ℝ)
    (hok : (solveScalar f tol δ n x₀ tr).1.ok = true) :
    |(solveScalar f tol δ n x₀ tr).1.x - r| ≤ tol := by
  have h := (newton_scalar_model_converges f f' f'' r δ ρ m M₂ H x₀ hx₀ tol n tr).2.1 hok
  obtain ⟨c, _, e2⟩ := C17.scalar_success_char f tol δ n x₀ tr hok
  have htol : 0 ≤ tol := (abs_nonneg _).trans (by simpa [Transc.le, Transc.fabs] using e2)
  exact NewtonGen.within_tol hhalf h htol

end Newton
end Real

section Examples
open Ohsl.Newton

/-- `F(x, y) = (x², x y)` -/
noncomputable def exF : (Fin 2 → ℝ) → (Fin 2 → ℝ) := fun v => ![v 0 ^ 2, v 0 * v 1]

/-- the Jacobian of `(x², x y)` at any point, any `δ ≠ 0`: all four entries within `|δ|` of the
    partial derivatives (`M₂ = 2`) -/
example (x : Fin 2 → ℝ) (δ : ℝ) (hδ : δ ≠ 0) :
    ∃ J tr e, jacobian (arrayForm exF) (Array.ofFn x) δ = .ok (J, tr) ∧ tr.length = 2 + 1 ∧
      Mat.Is J 2 2 e ∧
      ∀ i j : Fin 2,
        |e i j - deriv (fun s => exF (Function.update x j (x j + s)) i) 0| ≤ 2 * |δ| / 2 := by
  apply jacobian_accuracy_fin exF x δ 2 hδ
  intro i j
  -- the four partial functions are `(x₀ + s)²`, `x₀²`, `(x₀ + s) x₁`, `x₀ (x₁ + s)`
  match i, j with
  | 0, 0 =>
    exact ⟨fun t => 2 * (x 0 + t), fun _ => 2,
      fun t _ => (((hasDerivAt_id' t).const_add (x 0)).pow 2).congr_deriv (by simp),
      fun t _ => (((hasDerivAt_id' t).const_add (x 0)).const_mul 2).congr_deriv (mul_one _),
      fun t _ => abs_two.le⟩
  | 0, 1 =>
    exact ⟨fun _ => 0, fun _ => 0, fun t _ => hasDerivAt_const t (x 0 ^ 2),
      fun t _ => hasDerivAt_const _ _, fun t _ => abs_zero.le.trans zero_le_two⟩
  | 1, 0 =>
    exact ⟨fun _ => x 1, fun _ => 0,
      fun t _ => (((hasDerivAt_id' t).const_add (x 0)).mul_const (x 1)).congr_deriv (one_mul _),
      fun t _ => hasDerivAt_const _ _, fun t _ => abs_zero.le.trans zero_le_two⟩
  | 1, 1 =>
    exact ⟨fun _ => x 0, fun _ => 0,
      fun t _ => (((hasDerivAt_id' t).const_add (x 1)).const_mul (x 0)).congr_deriv (mul_one _),
      fun t _ => hasDerivAt_const _ _, fun t _ => abs_zero.le.trans zero_le_two⟩

theorem sqrt_two_bounds : (14 / 10 : ℝ) ≤ √2 ∧ √2 ≤ 15 / 10 :=
  ⟨(Real.le_sqrt' (by norm_num)).mpr (by norm_num),
   Real.sqrt_le_iff.mpr ⟨by norm_num, by norm_num⟩⟩

/-- `f(x) = x² - 2`, root `√2`, `δ = 1/100`, ball radius `ρ = 1/10`, `m = 2`, `M₂ = 2`
    (`q = 2/(4 - 1/50) · 11/100 ≈ 0.055`) -/
theorem exNewtonBall :
    NewtonBall (fun x : ℝ => x ^ 2 - 2) (fun x => 2 * x) (fun _ => 2) (√2) (1 / 100) (1 / 10) 2 2 := by
  obtain ⟨lo, hi⟩ := sqrt_two_bounds
  have hδ : |(1 / 100 : ℝ)| = 1 / 100 := abs_of_pos (by norm_num)
  refine ⟨by norm_num, fun s _ => ?_, fun s _ => ?_, fun s _ => by simp, fun s hs => ?_, ?_, ?_, ?_⟩
  · exact ((hasDerivAt_pow 2 s).sub_const 2).congr_deriv (by simp)
  · exact ((hasDerivAt_id' s).const_mul 2).congr_deriv (by ring)
  · have h1 : 1 ≤ s :=
      (by norm_num : (1 : ℝ) ≤ 14 / 10 - 1 / 10).trans ((sub_le_sub_right lo _).trans hs.1)
    rw [abs_of_nonneg (mul_nonneg zero_le_two (zero_le_one.trans h1))]
    exact le_mul_of_one_le_right zero_le_two h1
  · simp
  · rw [hδ]; norm_num
  · rw [hδ]; norm_num

theorem guess_near_sqrt_two : |3 / 2 - √2| ≤ 1 / 10 := by
  obtain ⟨lo, hi⟩ := sqrt_two_bounds
  exact abs_le.mpr ⟨(by norm_num : -(1 / 10 : ℝ) ≤ 0).trans (sub_nonneg.mpr (hi.trans (by norm_num))),
    (sub_le_sub_left lo _).trans (by norm_num)⟩

/-- the iterates of the model's step from the guess `3/2` converge to `√2` … -/
example : Filter.Tendsto (fun k => (newtonStep (fun x : ℝ => x ^ 2 - 2) (1 / 100))^[k] (3 / 2))
    Filter.atTop (nhds √2) :=
  newton_scalar_fd_tendsto _ _ _ _ _ _ _ _ exNewtonBall (3 / 2) guess_near_sqrt_two

/-- … and whenever the model's `solve` reports success from that guess, the result is within `tol`
    of `√2` -/
example (tol : ℝ) (n : ℕ)
    (hok : (solveScalar (fun x : ℝ => x ^ 2 - 2) tol (1 / 100) n (3 / 2) []).1.ok = true) :
    |(solveScalar (fun x : ℝ => x ^ 2 - 2) tol (1 / 100) n (3 / 2) []).1.x - √2| ≤ tol := by
  have hδ : |(1 / 100 : ℝ)| = 1 / 100 := abs_of_pos (by norm_num)
  exact newton_scalar_model_success_within_tol _ _ _ _ _ _ _ _ exNewtonBall
    (by rw [newtonQ, hδ]; norm_num) (3 / 2) guess_near_sqrt_two tol n [] hok

end Examples

end Ohsl.Props.C18
