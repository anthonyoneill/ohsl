/-
  Property C06 — sparse matrix views / CSC well-formedness (model: Ohsl/Model/Sparse.lean).
  Proved here, class (S): the stable sort by column that `from_triplets` relies on is a sorted
  permutation (`sortByCol_perm`, `sortByCol_sorted`); out-of-range `get` / `insert` positions are
  rejected (`get_outside`, `insert_outside`).
-/
import Ohsl.Model.Sparse
import Mathlib.Data.List.Perm.Basic
import Mathlib.Data.List.Sort
namespace Ohsl.Props.C06
open Ohsl Ohsl.Sp
variable {K : Type}

theorem insByCol_perm (t : Nat × Nat × K) (l : List (Nat × Nat × K)) : (insByCol t l).Perm (t :: l) := by
  induction l with
  | nil => simp [insByCol]
  | cons u us ih =>
    unfold insByCol
    split
    · exact List.Perm.refl _
    · exact (List.Perm.cons u ih).trans (List.Perm.swap t u us)

/-- `sort_by_key(|t| t.1)` returns a permutation of the triplets -/
theorem sortByCol_perm (ts : List (Nat × Nat × K)) : (sortByCol ts).Perm ts := by
  induction ts with
  | nil => simp [sortByCol]
  | cons t ts ih =>
    have : sortByCol (t :: ts) = insByCol t (sortByCol ts) := by simp [sortByCol]
    rw [this]
    exact (insByCol_perm t _).trans (List.Perm.cons t ih)

theorem insByCol_sorted (t : Nat × Nat × K) (l : List (Nat × Nat × K))
    (h : l.Pairwise (fun a b => a.2.1 ≤ b.2.1)) : (insByCol t l).Pairwise (fun a b => a.2.1 ≤ b.2.1) := by
  induction l with
  | nil => simp [insByCol]
  | cons u us ih =>
    unfold insByCol
    split
    · rename_i hle
      refine List.Pairwise.cons ?_ h
      intro x hx
      rcases List.mem_cons.mp hx with rfl | hx
      · exact hle
      · exact Nat.le_trans hle ((List.pairwise_cons.mp h).1 x hx)
    · rename_i hnle
      have hu : u.2.1 ≤ t.2.1 := by omega
      refine List.Pairwise.cons ?_ (ih (List.pairwise_cons.mp h).2)
      intro x hx
      have := (insByCol_perm t us).subset hx
      rcases List.mem_cons.mp this with rfl | hx'
      · exact hu
      · exact (List.pairwise_cons.mp h).1 x hx'

theorem sortByCol_sorted (ts : List (Nat × Nat × K)) :
    (sortByCol ts).Pairwise (fun a b => a.2.1 ≤ b.2.1) := by
  induction ts with
  | nil => simp [sortByCol]
  | cons t ts ih =>
    have : sortByCol (t :: ts) = insByCol t (sortByCol ts) := by simp [sortByCol]
    rw [this]
    exact insByCol_sorted t _ ih

theorem get_outside (s : Sp K) (row col : Nat) (h : s.rows ≤ row ∨ s.cols ≤ col) :
    Sp.get s row col = .error .range := by
  unfold Sp.get
  by_cases h1 : s.rows ≤ row
  · rw [if_pos h1]
  · rw [if_neg h1, if_pos (h.resolve_left h1)]

theorem insert_outside (s : Sp K) (row col : Nat) (v : K) (h : s.rows ≤ row ∨ s.cols ≤ col) :
    Sp.insert s row col v = .error .range := by
  unfold Sp.insert
  by_cases h1 : s.rows ≤ row
  · rw [if_pos h1]
  · rw [if_neg h1, if_pos (h.resolve_left h1)]

end Ohsl.Props.C06
