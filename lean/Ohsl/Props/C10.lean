/-
  Property C10 — root finder (model: Ohsl/Model/Roots.lean).
   (S) `rejects_degree0`, `roots_length`, `low_degree_length`: one coefficient or none is rejected; on
       at least two `polySolve` never fails and returns `degree` values, for EVERY degree (closed
       forms and the Laguerre + deflation path), refined or not, for any scalar type and any
       arithmetic (so also with NaN);
   (E) `linear_root`: the degree-1 formula over any field.
  NOT proved: convergence and accuracy of Laguerre + deflation, finiteness and backward error of the
  float results (class F / numerical analysis; two known findings are recorded for C10).
-/
import Ohsl.Model.Roots
import Ohsl.Lemmas.Alg
import Ohsl.Lemmas.FoldInv
namespace Ohsl.Props.C10
open Ohsl Ohsl.Roots

section Sizes
variable {K : Type} [Add K] [Sub K] [Mul K] [Neg K] [Div K] [Zero K] [BEq K] [Transc K]

theorem quadraticSolve_size [One K] (a b c : Cx K) : (quadraticSolve a b c).size = 2 := by
  simp [quadraticSolve]

theorem cubicSolve_size [ScalarExt K] (a b c d : Cx K) : (cubicSolve a b c d).size = 3 := by
  unfold cubicSolve
  simp only [apply_ite Array.size, List.size_toArray, List.length_cons, List.length_nil, ite_self]

end Sizes

section Structural
variable {K : Type} [Add K] [Sub K] [Mul K] [Neg K] [Div K] [Zero K] [One K] [BEq K] [ScalarExt K] [Transc K] [OfScientific K]

theorem rejects_degree0 (c : Array (Cx K)) (refine : Bool) (h : c.size ≤ 1) :
    ∃ e, polySolve c refine = .error e := by
  unfold polySolve usub
  by_cases h1 : 1 ≤ c.size
  · have : c.size - 1 = 0 := by omega
    exact ⟨.range, by simp [h1, this, bind, Except.bind]⟩
  · exact ⟨.arith, by simp [h1, bind, Except.bind]⟩

theorem size_ite_map {α : Type} (b : Bool) (r : Array α) (f : α → α) :
    (if b = true then r.map f else r).size = r.size := by cases b <;> simp

theorem size_by_degree {α : Type} (d : Nat) (A B C D : Array α) (hA : A.size = 1) (hB : B.size = 2)
    (hC : C.size = 3) (hD : D.size = d) :
    (if d = 1 then A else if d = 2 then B else if d = 3 then C else D).size = d := by
  split
  · rename_i e; rw [hA, e]
  split
  · rename_i e; rw [hB, e]
  split
  · rename_i e; rw [hC, e]
  · exact hD

/-- the values `polySolve` computes before polishing: closed forms up to degree 3, the deflation
loop above -/
def rawRoots (c : Array (Cx K)) : Array (Cx K) :=
  let cf (i : Nat) : Cx K := c[i]?.getD 0
  if c.size - 1 = 1 then #[Cx.divT (-(cf 0)) (cf 1)]
  else if c.size - 1 = 2 then quadraticSolve (cf 2) (cf 1) (cf 0)
  else if c.size - 1 = 3 then cubicSolve (cf 3) (cf 2) (cf 1) (cf 0)
  else
    ((List.range (c.size - 1)).reverse.foldl (fun (st : Array (Cx K) × Array (Cx K)) j =>
      let (ad, roots) := st
      let adv := ad.extract 0 (j + 2)
      let x := laguer adv 0
      let x : Cx K := if Transc.le (Transc.fabs x.im) ((1 + 1) * Transc.eps * Transc.fabs x.re) then ⟨x.re, 0⟩ else x
      (deflate ad j x, roots.setIfInBounds j x)) (c, Array.replicate (c.size - 1) (0 : Cx K))).2

theorem polySolve_eq (c : Array (Cx K)) (refine : Bool) (h : 2 ≤ c.size) :
    polySolve c refine = .ok (if refine then (rawRoots c).map (fun r => laguer c r) else rawRoots c) := by
  unfold polySolve usub
  rw [if_pos (Nat.le_of_succ_le h)]
  show (if c.size - 1 = 0 then _ else _) = _
  rw [if_neg (Nat.sub_ne_zero_of_lt h)]
  rfl

theorem rawRoots_size (c : Array (Cx K)) : (rawRoots c).size = c.size - 1 :=
  size_by_degree _ _ _ _ _ rfl (quadraticSolve_size ..) (cubicSolve_size ..)
    ((foldl_preserves (fun st : Array (Cx K) × Array (Cx K) => st.2.size) _
      (fun ⟨_, _⟩ _ => Array.size_setIfInBounds) _ _).trans Array.size_replicate)

theorem rawRoots_two (c0 c1 : Cx K) : rawRoots #[c0, c1] = #[Cx.divT (-c0) c1] := rfl
theorem rawRoots_three (c0 c1 c2 : Cx K) : rawRoots #[c0, c1, c2] = quadraticSolve c2 c1 c0 := rfl
theorem rawRoots_four (c0 c1 c2 c3 : Cx K) : rawRoots #[c0, c1, c2, c3] = cubicSolve c3 c2 c1 c0 := by
  have h1 : ¬ (#[c0, c1, c2, c3].size - 1 = 1) := by show ¬ (3 : Nat) = 1; decide
  have h2 : ¬ (#[c0, c1, c2, c3].size - 1 = 2) := by show ¬ (3 : Nat) = 2; decide
  unfold rawRoots
  rw [if_neg h1, if_neg h2]
  exact if_pos rfl

/-- whatever the degree, the branch taken yields `degree` values, and polishing maps over them -/
theorem roots_length (c : Array (Cx K)) (refine : Bool) (h : 2 ≤ c.size) :
    ∃ rs, polySolve c refine = .ok rs ∧ rs.size = c.size - 1 :=
  ⟨_, polySolve_eq c refine h, (size_ite_map _ _ _).trans (rawRoots_size c)⟩

/-- closed-form paths: exactly `degree` values, refined or not -/
theorem low_degree_length (c : Array (Cx K)) (refine : Bool) (h : 2 ≤ c.size ∧ c.size ≤ 4) :
    ∃ rs, polySolve c refine = .ok rs ∧ rs.size = c.size - 1 :=
  roots_length c refine h.1
end Structural

section Exact
variable {K : Type} [Field K]
/-- the degree-1 formula: x = −c₀ / c₁ solves c₁ x + c₀ = 0 -/
theorem linear_root (c0 c1 : K) (h : c1 ≠ 0) : c1 * (-c0 / c1) + c0 = 0 := by
  field_simp; ring
end Exact

end Ohsl.Props.C10
