/-
  Property C20 (part K) — the entry guards of the four iterative solvers
  (`Sparse::solve_cg / solve_bicg / solve_bicgstab / solve_qmr`), part of the model
  (`Sp.solveIter`, Ohsl/Model/KrylovSp.lean): a failed guard yields an error and no value, for any
  scalar type.
-/
import Ohsl.Props.C08K
namespace Ohsl.Props.C20
open Ohsl Ohsl.Sp
variable {K : Type}
variable [Add K] [Sub K] [Mul K] [Neg K] [Div K] [Zero K] [One K] [BEq K] [ScalarExt K] [Transc K]

/-- mismatched sizes / a non-square matrix / an unknown error measure are rejected by every
    iterative solver (the shape guards before anything is computed, the `itol` guard of `solve_bicg`
    after the first product `A x0`, as in the source) -/
theorem rejects_krylov (s : Sp K) (m : Method) (b x0 : Array K) (maxIter : Nat) (tol : K)
    (norm2 : Array K → K) (h : ¬ Ohsl.Props.C08.Guards s m b x0) :
    ∃ e, solveIter s m b x0 maxIter tol norm2 = .error e := by
  cases hr : solveIter s m b x0 maxIter tol norm2 with
  | error e => exact ⟨e, rfl⟩
  | ok out => exact absurd ((Ohsl.Props.C08.solveIter_ok_iff s m b x0 maxIter tol norm2).1 ⟨out, hr⟩).1 h

set_option linter.unusedSectionVars false in
/-- the class of the error: `size` for the three shape guards -/
theorem rejects_krylov_size (s : Sp K) (m : Method) (b x0 : Array K) (maxIter : Nat) (tol : K)
    (norm2 : Array K → K) (h : s.rows ≠ b.size ∨ s.rows ≠ s.cols ∨ b.size ≠ x0.size) :
    solveIter s m b x0 maxIter tol norm2 = .error .size :=
  Ohsl.Props.C08.solveIter_rejects_size s m b x0 maxIter tol norm2 h

end Ohsl.Props.C20
