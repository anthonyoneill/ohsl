/-
  Property C19 (continued) — rounding-error statements for the 1-D mesh operations in the "rounded
  reals" interpretation `Fl M` of the model (Ohsl/Lemmas/Rounding.lean): the SAME definitions
  `Mesh1.trapezium`, `Mesh1.interpolate` instantiated at real numbers whose `+ - * /` round with
  relative error `≤ u` (standard model, no overflow / underflow).  The transfer to the Rust `f64`
  code rests on the ASSUMPTION stated in Rounding.lean; it is not proved here.

  `nodeXF m k`, `val1F m k var` are the total accessors (`C19M.nodeX`, `val1` are tied to a field),
  `M.gam k = (1+u)^k − 1`, `kap M j = (1+u)^j/(1−u) − 1` (`u < 1`; one rounded DIVISOR).  The
  theorems hold for every instance `T : Transc (Fl M)` with `half = 1/2` (`hhalf`), an exact `abs`
  (`hfabs`) and a positive `snap`; `C03.flTransc M` is such an instance (Examples).  What the two
  loops compute (`trapezium_eq_fold`, `interpolate_last_hit`) is proved in C19M for any scalar.

  * `trapezium_rounding` (F), `trapezium_rounding_gamma`: against the sum of the exact cell
    contributions (`cell_rounding`: four roundings per cell).
  * `lerp_rounding` (F): the interpolation formula, six roundings, one in the divisor.
  * `interp_between_rounding` (F): strictly inside a cell (the snapping tests are made on ROUNDED
    differences, hence the factor `1 − u` in its hypotheses);
    `interp_at_inner_node_fl` (F): EXACTLY the stored vector at an inner node;
    `interp_at_last_node_rounding` (F): at the last node, in general not equal to the stored vector.
-/
import Ohsl.Props.C19M
import Ohsl.Props.C03F
import Ohsl.Lemmas.Rounding
import Mathlib.Tactic.Ring
import Mathlib.Tactic.Linarith
import Mathlib.Tactic.Positivity
namespace Ohsl.Props.C19
open Ohsl

section Rounding
variable {M : FlModel}
open Fl FlModel

/-- coordinate of node `k` (total accessor) -/
def nodeXF (m : Mesh1 (Fl M) (Fl M)) (k : Nat) : Fl M := m.nodes.getD k 0
/-- value of variable `var` at node `k` (total accessor) -/
def val1F (m : Mesh1 (Fl M) (Fl M)) (k var : Nat) : Fl M := (m.vars.getD k #[]).getD var 0
/-- every stored node vector has `nvars` entries -/
def Sized1F (m : Mesh1 (Fl M) (Fl M)) : Prop :=
  ∀ k (hk : k < m.vars.size), m.vars[k].size = m.nvars

variable [T : Transc (Fl M)]

/-- the exact contribution of cell `k` -/
noncomputable def cellX (m : Mesh1 (Fl M) (Fl M)) (var k : Nat) : ℝ :=
  1 / 2 * ((nodeXF m (k + 1)).val - (nodeXF m k).val)
    * ((val1F m k var).val + (val1F m (k + 1) var).val)

theorem cell_rounding (hhalf : (Transc.half : Fl M).val = 1 / 2) (m : Mesh1 (Fl M) (Fl M))
    (var k : Nat) : |(cell1 m var k).val - cellX m var k| ≤ M.gam 4 * |cellX m var k| := by
  have hv : (cell1 m var k).val
      = M.fl (M.fl (1 / 2 * M.fl ((nodeXF m (k + 1)).val - (nodeXF m k).val))
          * M.fl ((val1F m k var).val + (val1F m (k + 1) var).val)) := by
    simp only [cell1, nodeXF, val1F, Fl.mul_val, Fl.sub_val, Fl.add_val, hhalf]
  rw [hv]
  exact (((M.approx_fl _).const_mul (1 / 2)).fl.mul (M.approx_fl _)).fl

/-- **1-D trapezium rule**, `n = nodes.size ≥ 1` nodes: the call succeeds and
`|computed − Σ_k cell_k| ≤ gam (n + 3) · Σ_k |cell_k|`, `cell_k = ½ (x_{k+1} − x_k)(f_k + f_{k+1})`
(four roundings per cell, `n − 1` rounded additions). -/
theorem trapezium_rounding (hhalf : (Transc.half : Fl M).val = 1 / 2) (m : Mesh1 (Fl M) (Fl M))
    (h : WF1 m) (hs : Sized1F m) (hn : 1 ≤ m.nodes.size) {var : Nat} (hv : var < m.nvars) :
    ∃ r, Mesh1.trapezium m var = .ok r ∧
      |r.val - ∑ k ∈ Finset.range (m.nodes.size - 1), cellX m var k|
        ≤ M.gam (m.nodes.size + 3) * ∑ k ∈ Finset.range (m.nodes.size - 1), |cellX m var k| := by
  refine ⟨_, trapezium_eq_fold m h hs hn hv, ?_⟩
  have := (Within.foldl_range (m.nodes.size - 1) (cell1 m var) (cellX m var) _
    fun k _ => Approx.within (cell_rounding hhalf m var k)).1
  rwa [show m.nodes.size - 1 + 4 = m.nodes.size + 3 by omega] at this

theorem trapezium_rounding_gamma (hhalf : (Transc.half : Fl M).val = 1 / 2)
    (m : Mesh1 (Fl M) (Fl M)) (h : WF1 m) (hs : Sized1F m) (hn : 1 ≤ m.nodes.size) {var : Nat}
    (hv : var < m.nvars) (hu : ((m.nodes.size + 3 : ℕ) : ℝ) * M.u < 1) :
    ∃ r, Mesh1.trapezium m var = .ok r ∧
      |r.val - ∑ k ∈ Finset.range (m.nodes.size - 1), cellX m var k|
        ≤ ((m.nodes.size + 3 : ℕ) : ℝ) * M.u / (1 - ((m.nodes.size + 3 : ℕ) : ℝ) * M.u)
            * ∑ k ∈ Finset.range (m.nodes.size - 1), |cellX m var k| := by
  obtain ⟨r, hr, hr'⟩ := trapezium_rounding hhalf m h hs hn hv
  exact ⟨r, hr, hr'.trans (mul_le_mul_of_nonneg_right (M.gam_le_gamma _ hu)
    (Finset.sum_nonneg (fun _ _ => abs_nonneg _)))⟩

end Rounding

section Rounding
variable {M : FlModel}
open Fl FlModel

/-- the constants of a computation with `j` roundings in numerators and one rounded divisor:
`(1+u)^j / (1−u) − 1`  (`= (j+1) u + O(u²)`) -/
noncomputable def kap (M' : FlModel) (j : ℕ) : ℝ := (1 + M'.u) ^ j / (1 - M'.u) - 1

theorem kap_nonneg (hu : M.u < 1) (j : ℕ) : 0 ≤ kap M j := by
  have h1 : 1 ≤ (1 + M.u) ^ j := one_le_pow₀ M.one_le_one_add_u
  have h2 : 1 - M.u ≤ 1 := sub_le_self 1 M.u_nonneg
  exact sub_nonneg.mpr ((one_le_div (sub_pos.mpr hu)).mpr (h2.trans h1))

theorem kap_succ (j : ℕ) : kap M j * (1 + M.u) + M.u = kap M (j + 1) := by
  unfold kap; rw [pow_succ]; ring

theorem rel_inv {y Y : ℝ} (hu : M.u < 1) (hY : Y ≠ 0) (h : |y - Y| ≤ M.u * |Y|) :
    |y⁻¹ - Y⁻¹| ≤ (1 / (1 - M.u) - 1) * |Y⁻¹| := by
  -- `y / Y` is a factor `1 + δ`, `|δ| ≤ u`; so is its inverse, up to `gq 1 = 1/(1−u) − 1`
  have ht : M.Th 1 (y / Y) := by
    have := Th.of_delta hu (d := y / Y - 1)
      (by rw [div_sub_one hY, abs_div, div_le_iff₀ (abs_pos.mpr hY)]; exact h)
    rwa [add_sub_cancel] at this
  have h1 := (ht.inv hu).abs_sub_one_le hu
  rw [inv_div, gq, pow_one, ← one_div] at h1
  rw [show y⁻¹ - Y⁻¹ = (Y / y - 1) * Y⁻¹ by
    rw [sub_mul, one_mul, div_mul_eq_mul_div, mul_inv_cancel₀ hY, one_div], abs_mul]
  exact mul_le_mul_of_nonneg_right h1 (abs_nonneg _)

theorem rel_div {y₁ Y₁ y₂ Y₂ g : ℝ} (hu : M.u < 1) (hY : Y₂ ≠ 0)
    (h₁ : |y₁ - Y₁| ≤ g * |Y₁|) (h₂ : |y₂ - Y₂| ≤ M.u * |Y₂|) :
    |y₁ / y₂ - Y₁ / Y₂| ≤ ((1 + g) / (1 - M.u) - 1) * |Y₁ / Y₂| := by
  have := rel_mul le_rfl le_rfl h₁ (rel_inv hu hY h₂)
  rwa [add_sub_cancel, ← div_eq_mul_one_div, ← abs_mul, ← div_eq_mul_inv, ← div_eq_mul_inv] at this

/-- **the interpolation formula** `L + ((R − L) / (xr − xl)) · (x − xl)` evaluated in rounded
arithmetic, for `xl < xr`, `xl ≤ x ≤ xr`, `u < 1`: six roundings, one of them in the divisor;
`|computed − exact| ≤ ((1+u)⁵/(1−u) − 1) · (|L| + |R|)`   (`= 6u + O(u²)`). -/
theorem lerp_rounding (hu : M.u < 1) (L R xl xr x : ℝ) (hlt : xl < xr) (hx1 : xl ≤ x)
    (hx2 : x ≤ xr) :
    |M.fl (L + M.fl (M.fl (M.fl (R - L) / M.fl (xr - xl)) * M.fl (x - xl)))
        - (L + (R - L) / (xr - xl) * (x - xl))|
      ≤ kap M 5 * (|L| + |R|) := by
  have hu0 := M.u_nonneg
  have hd : 0 < xr - xl := sub_pos.mpr hlt
  -- the quotient (one rounding above, one below, one of its own), the product, the sum
  have h3 := rel_div hu hd.ne' (M.fl_err (R - L)) (M.fl_err (xr - xl))
  rw [show (1 + M.u) / (1 - M.u) - 1 = kap M 1 by rw [kap, pow_one]] at h3
  have h4 := fl_rel (M := M) h3
  rw [kap_succ] at h4
  have h6 := rel_mul le_rfl le_rfl h4 (M.fl_err (x - xl))
  rw [show (1 + kap M 2) * (1 + M.u) - 1 = kap M 3 by rw [← kap_succ 2]; ring, ← abs_mul] at h6
  have h7 := fl_rel (M := M) h6
  rw [kap_succ] at h7
  refine (fl_add_rel (M := M) (A := L) h7).trans ?_
  -- the exact increment is `(R − L) θ` with `0 ≤ θ ≤ 1`
  obtain ⟨b1, b2⟩ := abs_segment_le L R (t := (x - xl) / (xr - xl))
    (div_nonneg (sub_nonneg.mpr hx1) hd.le) ((div_le_one hd).mpr (sub_le_sub_right hx2 xl))
  rw [← mul_div_assoc, mul_div_right_comm] at b1 b2
  calc _ ≤ M.u * (|L| + |R|) + (1 + M.u) * kap M 4 * (|L| + |R|) :=
        add_le_add (mul_le_mul_of_nonneg_left b1 hu0)
          (mul_le_mul_of_nonneg_left b2 (mul_nonneg M.one_add_u_pos.le (kap_nonneg hu 4)))
    _ = _ := by rw [← kap_succ 4]; ring

theorem lerp_left_rep (L R : Array (Fl M)) (xl xr : Fl M) (hsz : L.size = R.size)
    (hrep : ∀ v, v < L.size → M.Rep (L.getD v 0).val) : lerp L R xl xr xl = L := by
  apply Array.ext
  · simp [lerp, hsz]
  · intro i h1 h2
    have hL : L[i] = L.getD i 0 := by simp [Array.getD, h2]
    have := hrep i h2
    rw [← hL] at this
    ext
    simp only [lerp, Array.getElem_zipWith, Array.getElem_map, Fl.add_val, Fl.mul_val,
      Fl.sub_val, sub_self, M.fl_zero, mul_zero, add_zero]
    exact this

variable [T : Transc (Fl M)]
open Transc

/-- stored vector of node `k` (total accessor) -/
def nodeVF (m : Mesh1 (Fl M) (Fl M)) (k : Nat) : Array (Fl M) := m.vars.getD k #[]

/-- the condition under which cell `c` overwrites the result — the two snapping tests are made on
the ROUNDED differences `fl(x_c − x)`, `fl(x_{c+1} − x)` -/
def hitF (m : Mesh1 (Fl M) (Fl M)) (x : Fl M) (c : Nat) : Prop :=
  ((nodeXF m c).val < x.val ∧ x.val < (nodeXF m (c + 1)).val)
    ∨ |M.fl ((nodeXF m c).val - x.val)| < (snap : Fl M).val
    ∨ |M.fl ((nodeXF m (c + 1)).val - x.val)| < (snap : Fl M).val

theorem cellHit_iffF (m : Mesh1 (Fl M) (Fl M)) (hfabs : ∀ a : Fl M, (fabs a).val = |a.val|)
    (x : Fl M) (c : Nat) : cellHit m x c = true ↔ hitF m x c := by
  simp [cellHit, hitF, nodeXF, ScalarExt.lt, hfabs, or_assoc]

theorem snap_self (hsnap : 0 < (snap : Fl M).val) (z : ℝ) : |M.fl (z - z)| < (snap : Fl M).val := by
  rw [sub_self, M.fl_zero, abs_zero]; exact hsnap

/-- no cell after cell `k` matches an `x` with `snap ≤ (1−u)(x_{k+1} − x)`: the rounded differences
keep `(1−u)` of their size (sorted nodes) -/
theorem later_missF (m : Mesh1 (Fl M) (Fl M)) (hfabs : ∀ a : Fl M, (fabs a).val = |a.val|)
    (hu : M.u < 1) (hsnap : 0 < (snap : Fl M).val)
    (hmono : ∀ a b, a ≤ b → b < m.nodes.size → (nodeXF m a).val ≤ (nodeXF m b).val)
    {x : Fl M} {k : Nat} (hx : (snap : Fl M).val ≤ (1 - M.u) * ((nodeXF m (k + 1)).val - x.val)) :
    ∀ c, k < c → c + 1 < m.nodes.size → cellHit m x c = false := by
  intro c hkc hc
  have h1u : 0 < 1 - M.u := sub_pos.mpr hu
  have far : ∀ z : ℝ, (nodeXF m (k + 1)).val ≤ z → ¬ |M.fl (z - x.val)| < (snap : Fl M).val :=
    fun z hz => not_lt.mpr (hx.trans ((mul_le_mul_of_nonneg_left
      ((sub_le_sub_right hz _).trans (le_abs_self _)) h1u.le).trans (abs_fl_ge _)))
  have m0 := hmono (k + 1) c hkc (Nat.lt_of_succ_lt hc)
  refine Bool.eq_false_iff.mpr fun hb => ?_
  rcases (cellHit_iffF m hfabs x c).mp hb with ⟨q, _⟩ | q | q
  · exact (sub_pos.mp ((mul_pos_iff_of_pos_left h1u).mp (hsnap.trans_le hx))).not_ge (m0.trans q.le)
  · exact far _ m0 q
  · exact far _ (m0.trans (hmono c (c + 1) (Nat.le_succ c) hc)) q

/-- **interpolation strictly inside a cell, in rounded arithmetic** (`u < 1`).
Hypotheses on the data: the nodes are sorted, and `x` lies in cell `k` at a distance from both ends
that survives the rounding of the snapping tests: `snap ≤ (1−u)(x − x_k)`,
`snap ≤ (1−u)(x_{k+1} − x)` (so the node spacing of that cell is at least `2·snap/(1−u)`).
Then only cell `k` matches, the call succeeds and every component of the result is within
`((1+u)⁵/(1−u) − 1) · (|l| + |r|)` of the exact linear interpolant
`l + (r − l)/(x_{k+1} − x_k) · (x − x_k)` of the stored values `l`, `r` of its two neighbours. -/
theorem interp_between_rounding (m : Mesh1 (Fl M) (Fl M)) (h : WF1 m) (hs : Sized1F m)
    (hfabs : ∀ a : Fl M, (fabs a).val = |a.val|) (hu : M.u < 1)
    (hsnap : 0 < (snap : Fl M).val)
    (hmono : ∀ a b, a ≤ b → b < m.nodes.size → (nodeXF m a).val ≤ (nodeXF m b).val)
    {k : Nat} (hk : k + 1 < m.nodes.size) (x : Fl M)
    (hx1 : (snap : Fl M).val ≤ (1 - M.u) * (x.val - (nodeXF m k).val))
    (hx2 : (snap : Fl M).val ≤ (1 - M.u) * ((nodeXF m (k + 1)).val - x.val)) :
    ∃ r, Mesh1.interpolate m x = .ok r ∧ r.size = m.nvars ∧
      ∀ v, v < m.nvars → ∃ y, r[v]? = some y ∧
        |y.val - ((val1F m k v).val + ((val1F m (k + 1) v).val - (val1F m k v).val)
            / ((nodeXF m (k + 1)).val - (nodeXF m k).val) * (x.val - (nodeXF m k).val))|
          ≤ kap M 5 * (|(val1F m k v).val| + |(val1F m (k + 1) v).val|) := by
  have h1u : 0 < 1 - M.u := sub_pos.mpr hu
  have hxl : (nodeXF m k).val < x.val :=
    sub_pos.mp ((mul_pos_iff_of_pos_left h1u).mp (hsnap.trans_le hx1))
  have hxr : x.val < (nodeXF m (k + 1)).val :=
    sub_pos.mp ((mul_pos_iff_of_pos_left h1u).mp (hsnap.trans_le hx2))
  refine ⟨_, interpolate_last_hit m h hs x hk ((cellHit_iffF m hfabs x k).mpr (Or.inl ⟨hxl, hxr⟩))
      (later_missF m hfabs hu hsnap hmono hx2),
    cellLerp_size m h hs x hk, fun v hv => ⟨_, cellLerp_getElem? m h hs x hk hv, ?_⟩⟩
  simp only [Fl.add_val, Fl.mul_val, Fl.div_val, Fl.sub_val]
  exact lerp_rounding hu _ _ _ _ _ (hxl.trans hxr) hxl.le hxr.le

/-- **interpolation at an inner node is EXACT in rounded arithmetic** (`u < 1`): at `x = x_k`,
`k` not the last node, cell `k` is the last one that matches (its successors fail the snapping
test as soon as `snap ≤ (1−u)(x_{k+1} − x_k)`), and it writes `l + q · fl(x_k − x_k) = l` — the
stored vector, provided its entries are representable (every `f64` is). -/
theorem interp_at_inner_node_fl (m : Mesh1 (Fl M) (Fl M)) (h : WF1 m) (hs : Sized1F m)
    (hfabs : ∀ a : Fl M, (fabs a).val = |a.val|) (hu : M.u < 1)
    (hsnap : 0 < (snap : Fl M).val)
    (hmono : ∀ a b, a ≤ b → b < m.nodes.size → (nodeXF m a).val ≤ (nodeXF m b).val)
    {k : Nat} (hk : k + 1 < m.nodes.size)
    (hgap : (snap : Fl M).val ≤ (1 - M.u) * ((nodeXF m (k + 1)).val - (nodeXF m k).val))
    (hrep : ∀ v, v < m.nvars → M.Rep (val1F m k v).val) :
    Mesh1.interpolate m (nodeXF m k) = .ok (nodeVF m k) ∧
      Mesh1.interpolate m (nodeXF m k) = Mesh1.getNodesVars m k := by
  obtain ⟨s0, s1⟩ := cell_rows m h hs hk
  have main : Mesh1.interpolate m (nodeXF m k) = .ok (nodeVF m k) := by
    rw [interpolate_last_hit m h hs _ hk
      ((cellHit_iffF m hfabs _ k).mpr (Or.inr (Or.inl (snap_self hsnap _))))
      (later_missF m hfabs hu hsnap hmono hgap)]
    exact congrArg _ (lerp_left_rep _ _ _ _ (s0.trans s1.symm) fun v hv => hrep v (s0 ▸ hv))
  exact ⟨main, main.trans (getNodesVars_getD m h (Nat.lt_of_succ_lt hk)).symm⟩

/-- **interpolation at the LAST node** (`x = x_{n−1}`, `n ≥ 2`, `x_{n−2} < x_{n−1}`, `u < 1`): the
last cell matches (snapping test on `fl(x_{n−1} − x_{n−1}) = 0`) and writes
`l + ((r − l)/fl(d)) · fl(d)` — NOT exactly the stored `r`, but within
`((1+u)⁵/(1−u) − 1) · (|l| + |r|)` of it, whatever the other cells do. -/
theorem interp_at_last_node_rounding (m : Mesh1 (Fl M) (Fl M)) (h : WF1 m) (hs : Sized1F m)
    (hfabs : ∀ a : Fl M, (fabs a).val = |a.val|) (hu : M.u < 1)
    (hsnap : 0 < (snap : Fl M).val) (hn : 2 ≤ m.nodes.size)
    (hlt : (nodeXF m (m.nodes.size - 2)).val < (nodeXF m (m.nodes.size - 1)).val) :
    ∃ r, Mesh1.interpolate m (nodeXF m (m.nodes.size - 1)) = .ok r ∧ r.size = m.nvars ∧
      ∀ v, v < m.nvars → ∃ y, r[v]? = some y ∧
        |y.val - (val1F m (m.nodes.size - 1) v).val|
          ≤ kap M 5 * (|(val1F m (m.nodes.size - 2) v).val|
              + |(val1F m (m.nodes.size - 1) v).val|) := by
  obtain ⟨k, hk⟩ : ∃ k, m.nodes.size = k + 2 := ⟨m.nodes.size - 2, by omega⟩
  rw [show m.nodes.size - 1 = k + 1 by omega, show m.nodes.size - 2 = k by omega] at hlt ⊢
  have hk1 : k + 1 < m.nodes.size := by omega
  refine ⟨_, interpolate_last_hit m h hs _ hk1
      ((cellHit_iffF m hfabs _ k).mpr (Or.inr (Or.inr (snap_self hsnap _))))
      fun c hkc hc => absurd hc (by omega),
    cellLerp_size m h hs _ hk1, fun v hv => ⟨_, cellLerp_getElem? m h hs _ hk1 hv, ?_⟩⟩
  simp only [Fl.add_val, Fl.mul_val, Fl.div_val, Fl.sub_val]
  have := lerp_rounding hu (val1F m k v).val (val1F m (k + 1) v).val (nodeXF m k).val
    (nodeXF m (k + 1)).val (nodeXF m (k + 1)).val hlt hlt.le (le_refl _)
  rwa [div_mul_cancel₀ _ (sub_pos.mpr hlt).ne', add_sub_cancel] at this

end Rounding

section Examples
open Fl FlModel
attribute [local instance] C03.flTransc

/-- the three-node mesh `x = 0, 1, 3` carrying one variable with values `5, 7, 2` -/
def exMesh (M : FlModel) : Mesh1 (Fl M) (Fl M) := ⟨1, #[⟨0⟩, ⟨1⟩, ⟨3⟩], #[#[⟨5⟩], #[⟨7⟩], #[⟨2⟩]]⟩

theorem exMesh_wf (M : FlModel) : WF1 (exMesh M) := rfl

theorem exMesh_sized (M : FlModel) : Sized1F (exMesh M) := by
  intro k hk
  have hk' : k < 3 := hk
  rcases (by omega : k = 0 ∨ k = 1 ∨ k = 2) with rfl | rfl | rfl <;> rfl

theorem exMesh_nodeX (M : FlModel) : (nodeXF (exMesh M) 0).val = 0 ∧
    (nodeXF (exMesh M) 1).val = 1 ∧ (nodeXF (exMesh M) 2).val = 3 := ⟨rfl, rfl, rfl⟩

theorem exMesh_val (M : FlModel) : (val1F (exMesh M) 0 0).val = 5 ∧
    (val1F (exMesh M) 1 0).val = 7 ∧ (val1F (exMesh M) 2 0).val = 2 := ⟨rfl, rfl, rfl⟩

theorem exMesh_cells (M : FlModel) :
    ∑ k ∈ Finset.range ((exMesh M).nodes.size - 1), cellX (exMesh M) 0 k = 15 ∧
    ∑ k ∈ Finset.range ((exMesh M).nodes.size - 1), |cellX (exMesh M) 0 k| = 15 := by
  obtain ⟨x0, x1, x2⟩ := exMesh_nodeX M
  obtain ⟨f0, f1, f2⟩ := exMesh_val M
  have c0 : cellX (exMesh M) 0 0 = 6 := by
    rw [cellX, x0, x1, f0, f1]
    norm_num
  have c1 : cellX (exMesh M) 0 1 = 9 := by
    rw [cellX, x1, x2, f1, f2]
    norm_num
  constructor
  · show ∑ k ∈ Finset.range 2, cellX (exMesh M) 0 k = 15
    rw [Finset.sum_range_succ, Finset.sum_range_one, c0, c1]; norm_num
  · show ∑ k ∈ Finset.range 2, |cellX (exMesh M) 0 k| = 15
    rw [Finset.sum_range_succ, Finset.sum_range_one, c0, c1]; norm_num

/-- `trapezium_rounding` with the instance `flTransc` (`half = 1/2` by `rfl`) in an ARBITRARY
model: the exact value is `½·1·12 + ½·2·9 = 15`, the computed one is within `gam 6 · 15` -/
example (M : FlModel) : ∃ r, Mesh1.trapezium (exMesh M) 0 = .ok r ∧
    |r.val - 15| ≤ M.gam 6 * 15 := by
  obtain ⟨r, hr, hb⟩ := trapezium_rounding (M := M) rfl (exMesh M) (exMesh_wf M) (exMesh_sized M)
    (show 1 ≤ 3 by decide) (var := 0) Nat.one_pos
  rw [(exMesh_cells M).1, (exMesh_cells M).2] at hb
  exact ⟨r, hr, hb⟩

/-- exact arithmetic: the bound collapses to equality with the sum of the cells -/
example : ∃ r, Mesh1.trapezium (exMesh FlModel.exact) 0 = .ok r ∧ r.val = 15 := by
  obtain ⟨r, hr, hb⟩ := trapezium_rounding (M := FlModel.exact) rfl (exMesh _) (exMesh_wf _)
    (exMesh_sized _) (show 1 ≤ 3 by decide) (var := 0) Nat.one_pos
  rw [(exMesh_cells _).1] at hb
  exact ⟨r, hr, eq_of_abs_sub_le_exact hb⟩

/-- `flTransc`: the snapping window `fl(10⁻⁷)` is positive (`u < 1`) and at most `(1+u)·10⁻⁷` -/
theorem flTransc_snap (M : FlModel) (hu : M.u < 1) :
    0 < (Transc.snap : Fl M).val ∧ (Transc.snap : Fl M).val ≤ (1 + M.u) * (1 / 10 ^ 7) := by
  have hs : (Transc.snap : Fl M).val = M.fl (1 / 10 ^ 7) := rfl
  have hp : (0 : ℝ) < 1 / 10 ^ 7 := by positivity
  rw [hs]
  constructor
  · have h2 := abs_fl_ge (M := M) (1 / 10 ^ 7)
    rw [abs_of_pos hp, abs_of_nonneg (fl_nonneg (M := M) hu.le hp.le)] at h2
    exact (mul_pos (sub_pos.mpr hu) hp).trans_le h2
  · have := M.abs_fl_le (1 / 10 ^ 7)
    rw [abs_of_pos hp] at this
    exact (le_abs_self _).trans this

theorem exMesh_mono (M : FlModel) : ∀ a b, a ≤ b → b < (exMesh M).nodes.size →
    (nodeXF (exMesh M) a).val ≤ (nodeXF (exMesh M) b).val :=
  mono_of_gaps (fun a => (nodeXF (exMesh M) a).val) 3 fun a ha => by
    rcases (by omega : a = 0 ∨ a = 1) with rfl | rfl
    · show (0 : ℝ) ≤ 1
      norm_num
    · show (1 : ℝ) ≤ 3
      norm_num

theorem flTransc_snap_le (M : FlModel) (hu : M.u ≤ 1 / 2) {d : ℝ} (hd : 1 ≤ d) :
    (Transc.snap : Fl M).val ≤ (1 - M.u) * d := by
  refine ((flTransc_snap M (hu.trans_lt (by norm_num))).2.trans ?_).trans
    (le_mul_of_one_le_right (sub_nonneg.mpr (hu.trans (by norm_num))) hd)
  calc (1 + M.u) * (1 / 10 ^ 7) ≤ (1 + 1 / 2) * (1 / 10 ^ 7) :=
        mul_le_mul_of_nonneg_right (add_le_add le_rfl hu) (by norm_num)
    _ ≤ 1 - 1 / 2 := by norm_num
    _ ≤ 1 - M.u := sub_le_sub_left hu 1

/-- the hypotheses of `interp_between_rounding` are satisfiable in every model with `u ≤ 1/2`
(instance `flTransc`: `snap = fl(10⁻⁷)`): interpolating the mesh above at `x = 2` (cell `1`,
neighbours `7` and `2`, exact interpolant `4.5`) -/
example (M : FlModel) (hu : M.u ≤ 1 / 2) :
    ∃ r, Mesh1.interpolate (exMesh M) ⟨2⟩ = .ok r ∧ r.size = 1 ∧
      ∃ y, r[0]? = some y ∧ |y.val - 9 / 2| ≤ kap M 5 * 9 := by
  have hu1 : M.u < 1 := hu.trans_lt (by norm_num)
  obtain ⟨r, hr, hsz, hb⟩ := interp_between_rounding (exMesh M) (exMesh_wf M) (exMesh_sized M)
    (fun _ => rfl) hu1 (flTransc_snap M hu1).1 (exMesh_mono M) (k := 1) (show 1 + 1 < 3 by decide) ⟨2⟩
    (flTransc_snap_le M hu (show (1 : ℝ) ≤ 2 - 1 by norm_num))
    (flTransc_snap_le M hu (show (1 : ℝ) ≤ 3 - 2 by norm_num))
  obtain ⟨y, hy, hyb⟩ := hb 0 Nat.one_pos
  refine ⟨r, hr, hsz, y, hy, ?_⟩
  rw [(exMesh_val M).2.1, (exMesh_val M).2.2, (exMesh_nodeX M).2.1, (exMesh_nodeX M).2.2] at hyb
  norm_num at hyb
  exact hyb

/-- the hypotheses of `interp_at_inner_node_fl` are satisfiable in every model with `u ≤ 1/2`
in which the stored value `7` is representable: interpolating at the node `x = 1` returns exactly
the stored vector `[7]` -/
example (M : FlModel) (hu : M.u ≤ 1 / 2) (h7 : M.Rep 7) :
    Mesh1.interpolate (exMesh M) ⟨1⟩ = .ok #[⟨7⟩] := by
  have hu1 : M.u < 1 := hu.trans_lt (by norm_num)
  exact (interp_at_inner_node_fl (exMesh M) (exMesh_wf M) (exMesh_sized M)
    (fun _ => rfl) hu1 (flTransc_snap M hu1).1 (exMesh_mono M) (k := 1) (show 1 + 1 < 3 by decide)
    (flTransc_snap_le M hu (show (1 : ℝ) ≤ 3 - 1 by norm_num))
    (fun v hv => by
      obtain rfl : v = 0 := Nat.lt_one_iff.mp hv
      exact h7)).1

/-- … and such models exist: the binary64-significand format -/
example : FlModel.binary64.u ≤ 1 / 2 ∧ FlModel.binary64.Rep 7 := by
  constructor
  · rw [FlModel.binary64_u]
    exact (zpow_le_zpow_right₀ (by norm_num) (by norm_num : (-53 : ℤ) ≤ -1)).trans_eq (by norm_num)
  · have : (FlModel.roundBits 52).Rep ((7 : ℤ) : ℝ) := FlModel.roundBits_rep_int 52 7 (by norm_num)
    exact_mod_cast this

end Examples

end Ohsl.Props.C19
