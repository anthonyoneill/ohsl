/-
  Property C19 (continued) — reading back the text written by `Fmt.fixed` (model: Ohsl/Model/Fmt.lean,
  `Fmt.parse` on character lists).
  `parse_fixed` (what `parse` computes on the text of a finite value), `parse_fixed_nan`,
  `parse_fixed_inf`; `roundtrip_value` (+ `_zero`, `_exact`, `_exact_zero`): the value read back
  against the exact value of `x`.  Only the meaning of `Float.ofNat`, `Float.scaleB` and
  `Float.neg` is left to the trusted base.
-/
import Ohsl.Props.C19F
namespace Ohsl.Props.C19
open Ohsl Ohsl.Fmt

theorem digitsVal_eq_ofDigitChars (cs : List Char) : digitsVal cs = Nat.ofDigitChars 10 cs 0 := by
  unfold digitsVal Nat.ofDigitChars
  congr 1
  funext acc c
  rw [Nat.mul_comm]

theorem digitsVal_append_zeros_repr (ds : List Char) (k n : Nat) :
    digitsVal (ds ++ (List.replicate k '0' ++ (toString n).toList))
      = digitsVal ds * 10 ^ (k + (toString n).length) + n := by
  simp only [digitsVal_eq_ofDigitChars, ofDigitChars_append_zeros_repr]

theorem digitsVal_zeros_repr (k n : Nat) :
    digitsVal (List.replicate k '0' ++ (toString n).toList) = n := by
  have := digitsVal_append_zeros_repr [] k n
  simpa [digitsVal] using this

theorem digitsVal_repr (n : Nat) : digitsVal (toString n).toList = n := by
  simpa using digitsVal_zeros_repr 0 n

theorem repr_isDigit (n : Nat) : ∀ c ∈ (toString n).toList, c.isDigit = true := by
  intro c hc
  rw [Nat.toString_eq_repr, Nat.toList_repr] at hc
  exact Nat.isDigit_of_mem_toDigits (by decide) (by decide) hc

theorem isDigit_ne_dot {c : Char} (h : c.isDigit = true) : c ≠ '.' := by
  rintro rfl; simp at h

theorem isDigit_ne_minus {c : Char} (h : c.isDigit = true) : c ≠ '-' := by
  rintro rfl; simp at h

/-- `toString n` contains neither a point nor a minus sign -/
theorem repr_no_dot_minus (n : Nat) : '.' ∉ (toString n).toList ∧ '-' ∉ (toString n).toList :=
  ⟨fun h => isDigit_ne_dot (repr_isDigit n _ h) rfl, fun h => isDigit_ne_minus (repr_isDigit n _ h) rfl⟩

theorem repr_toList_ne_nil (n : Nat) : (toString n).toList ≠ [] := by
  rw [Nat.toString_eq_repr, Nat.toList_repr]; exact Nat.toDigits_ne_nil

theorem takeWhile_append_stop {p : Char → Bool} (l tail : List Char) (hl : ∀ c ∈ l, p c = true)
    (ht : tail = [] ∨ ∃ a r, tail = a :: r ∧ p a = false) :
    (l ++ tail).takeWhile p = l ∧ (l ++ tail).dropWhile p = tail := by
  rw [List.takeWhile_append_of_pos hl, List.dropWhile_append_of_pos hl]
  rcases ht with rfl | ⟨a, r, rfl, ha⟩
  · simp
  · simp [ha]

/-- `parse` on `sign ++ digits ++ tail`, where `tail` is empty (and there is no fraction) or a point
followed by the fraction characters `fs` -/
theorem parse_shape (s : String) (neg : Bool) (ds fs tail : List Char)
    (hne : ds ≠ []) (hds : ∀ c ∈ ds, c.isDigit = true)
    (htail : (tail = [] ∧ fs = []) ∨ tail = '.' :: fs)
    (hs : s.toList = (if neg then ['-'] else []) ++ ds ++ tail) :
    Fmt.parse s = if neg then - Fmt.nearest (digitsVal (ds ++ fs)) (10 ^ fs.length)
      else Fmt.nearest (digitsVal (ds ++ fs)) (10 ^ fs.length) := by
  obtain ⟨d, ds', rfl⟩ := List.exists_cons_of_ne_nil hne
  have hd : d.isDigit = true := hds d List.mem_cons_self
  have hdm : d ≠ '-' := isDigit_ne_minus hd
  -- not one of the non-finite spellings
  have h1 : ¬ (s == "NaN") = true := by
    intro h
    have h := congrArg String.toList (eq_of_beq h)
    rw [hs] at h
    cases neg <;> simp at h
    obtain ⟨rfl, -⟩ := h; simp at hd
  have h2 : ¬ (s == "inf") = true := by
    intro h
    have h := congrArg String.toList (eq_of_beq h)
    rw [hs] at h
    cases neg <;> simp at h
    obtain ⟨rfl, -⟩ := h; simp at hd
  have h3 : ¬ (s == "-inf") = true := by
    intro h
    have h := congrArg String.toList (eq_of_beq h)
    rw [hs] at h
    cases neg <;> simp at h
    · exact hdm h.1
    · obtain ⟨rfl, -⟩ := h; simp at hd
  have hp : ∀ c ∈ d :: ds', (c != '.') = true := fun c hc => by
    simpa using isDigit_ne_dot (hds c hc)
  have htw := takeWhile_append_stop (p := (· != '.')) (d :: ds') tail hp (by
    rcases htail with ⟨rfl, -⟩ | rfl
    · exact Or.inl rfl
    · exact Or.inr ⟨'.', fs, rfl, by simp⟩)
  have hfs : tail.drop 1 = fs := by
    rcases htail with ⟨rfl, rfl⟩ | rfl <;> rfl
  unfold Fmt.parse
  rw [if_neg h1, if_neg h2, if_neg h3]
  simp only [hs]
  cases neg
  · have hh : ((([] : List Char) ++ d :: ds' ++ tail).head? == some '-') = false := by
      simp [hdm]
    simp only [if_false, Bool.false_eq_true, hh]
    simp only [List.nil_append, htw.1, htw.2, hfs]
  · have hh : ((['-'] ++ d :: ds' ++ tail).head? == some '-') = true := by simp
    simp only [if_true, hh]
    have hb : (['-'] ++ d :: ds' ++ tail).drop 1 = d :: ds' ++ tail := by simp
    simp only [hb, htw.1, htw.2, hfs]

theorem fracField_toList (fp prec : Nat) :
    (fracField fp prec).toList
      = List.replicate (prec - (toString fp).length) '0' ++ (toString fp).toList := by
  simp [fracField]

/-- **shape of the text of a finite value**: an optional sign, a non-empty run of digits `ds`, and
(for `prec > 0`) a point with exactly `prec` digits `fs`; read as one decimal number, `ds ++ fs` is
the rounded integer `printedNum`. -/
theorem fixed_chars (x : Float) (prec : Nat) (hn : x.isNaN = false) (hi : x.isInf = false) :
    ∃ ds fs tail : List Char, ds ≠ [] ∧ (∀ c ∈ ds, c.isDigit = true) ∧
      (∀ c ∈ fs, c.isDigit = true) ∧ fs.length = prec ∧
      ((tail = [] ∧ fs = []) ∨ tail = '.' :: fs) ∧
      digitsVal (ds ++ fs) = printedNum (decode x) prec ∧
      (Fmt.fixed x prec).toList = (if (decode x).1 then ['-'] else []) ++ ds ++ tail := by
  have h10 : 0 < 10 ^ prec := Nat.pow_pos (by decide)
  have hdm : printedNum (decode x) prec / 10 ^ prec * 10 ^ prec + printedNum (decode x) prec % 10 ^ prec
      = printedNum (decode x) prec := by
    rw [Nat.mul_comm]; exact Nat.div_add_mod _ _
  have hlt := Nat.mod_lt (printedNum (decode x) prec) h10
  generalize hip : printedNum (decode x) prec / 10 ^ prec = ip at hdm
  generalize hfp : printedNum (decode x) prec % 10 ^ prec = fp at hdm hlt
  have hfix := fixed_eq x prec hn hi
  rw [hip, hfp] at hfix
  have hsign : (if (decode x).1 = true then "-" else "").toList
      = if (decode x).1 = true then ['-'] else [] := by
    cases (decode x).1 <;> rfl
  rcases Nat.eq_zero_or_pos prec with rfl | hp
  · -- no point is printed
    refine ⟨(toString ip).toList, [], [], repr_toList_ne_nil ip, repr_isDigit ip, by simp, rfl,
      Or.inl ⟨rfl, rfl⟩, ?_, ?_⟩
    · rw [List.append_nil, digitsVal_repr, ← hip, Nat.pow_zero, Nat.div_one]
    · rw [hfix]; simp [hsign]
  · have hlen := (Nat.length_repr_le_iff (n := fp) hp).2 hlt
    have hlen' : (toString fp).length ≤ prec := by simpa using hlen
    have hp0 : (prec == 0) = false := by simp; omega
    refine ⟨(toString ip).toList, (fracField fp prec).toList, _, repr_toList_ne_nil ip,
      repr_isDigit ip, ?_, ?_, Or.inr rfl, ?_, ?_⟩
    · intro c hc
      rw [fracField_toList, List.mem_append, List.mem_replicate] at hc
      rcases hc with ⟨_, rfl⟩ | hc
      · decide
      · exact repr_isDigit fp c hc
    · rw [String.length_toList]; exact fracField_length fp prec hp hlt
    · rw [fracField_toList, digitsVal_append_zeros_repr, digitsVal_repr,
        Nat.sub_add_cancel hlen', hdm]
    · rw [hfix]; simp [hsign, hp0]

/-- `parse_fixed`: reading the text written for a finite `x` calls `Fmt.nearest` on exactly the
rounded integer `N` and `10^prec`, and restores the sign. -/
theorem parse_fixed (x : Float) (prec : Nat) (hn : x.isNaN = false) (hi : x.isInf = false) :
    Fmt.parse (Fmt.fixed x prec) =
      if (decode x).1 then
        - Fmt.nearest (roundHalfEven ((decode x).2.1 * 10 ^ prec) (decode x).2.2) (10 ^ prec)
      else Fmt.nearest (roundHalfEven ((decode x).2.1 * 10 ^ prec) (decode x).2.2) (10 ^ prec) := by
  obtain ⟨ds, fs, tail, hne, hds, _, hlen, htail, hV, hs⟩ := fixed_chars x prec hn hi
  rw [parse_shape _ (decode x).1 ds fs tail hne hds htail hs, hlen, hV]
  rfl

theorem parse_NaN : Fmt.parse "NaN" = 0.0 / 0.0 := by
  unfold Fmt.parse
  rw [if_pos (by decide)]

theorem parse_inf : Fmt.parse "inf" = 1.0 / 0.0 := by
  unfold Fmt.parse
  rw [if_neg (by decide), if_pos (by decide)]

theorem parse_neg_inf : Fmt.parse "-inf" = -1.0 / 0.0 := by
  unfold Fmt.parse
  rw [if_neg (by decide), if_neg (by decide), if_pos (by decide)]

/-- a NaN is written as `NaN` and read back as `0.0 / 0.0` (a NaN) -/
theorem parse_fixed_nan (x : Float) (prec : Nat) (h : x.isNaN = true) :
    Fmt.parse (Fmt.fixed x prec) = 0.0 / 0.0 := by
  rw [fixed_nan x prec h, parse_NaN]

/-- an infinity is written as `inf` / `-inf` and read back as `1.0 / 0.0` / `-1.0 / 0.0` -/
theorem parse_fixed_inf (x : Float) (prec : Nat) (hn : x.isNaN = false) (h : x.isInf = true) :
    Fmt.parse (Fmt.fixed x prec) = if x < 0 then -1.0 / 0.0 else 1.0 / 0.0 := by
  rw [fixed_inf x prec hn h]
  split
  · exact parse_neg_inf
  · exact parse_inf

def withSign (d : Bool × Nat × Nat) (v : Float) : Float := if d.1 then -v else v

theorem parse_fixed' (x : Float) (prec : Nat) (hn : x.isNaN = false) (hi : x.isInf = false) :
    Fmt.parse (Fmt.fixed x prec)
      = withSign (decode x) (Fmt.nearest (printedNum (decode x) prec) (10 ^ prec)) :=
  parse_fixed x prec hn hi

/-- `roundtrip_value`: a finite `x` written with `prec` decimals (`prec ≤ 661`) whose text is not
`±0.00…0` is read back as `± scaleB (ofNat m) e` with a 53-bit mantissa `m`, and the rational
`± m * 2^e` is within half a printed unit plus half an ulp of the exact value of `x`. -/
theorem roundtrip_value (x : Float) (prec : Nat) (hn : x.isNaN = false) (hi : x.isInf = false)
    (hN : printedNum (decode x) prec ≠ 0) (hp : 10 ^ prec ≤ 2 ^ 2198) :
    ∃ (m : Nat) (e : Int), 2 ^ 52 ≤ m ∧ m ≤ 2 ^ 53 ∧
      Fmt.parse (Fmt.fixed x prec) = withSign (decode x) (Float.scaleB (Float.ofNat m) e) ∧
      |sgn (decode x) * ((m : ℚ) * 2 ^ e) - val (decode x)| ≤ 1 / (2 * 10 ^ prec) + 2 ^ e / 2 := by
  obtain ⟨m, e, hme, h1, h2, herr⟩ := roundtrip_error_total x prec hN hp
  refine ⟨m, e, h1, h2, ?_, herr⟩
  rw [parse_fixed' x prec hn hi, nearest_eq, hme]

/-- when the text is `±0.00…0` the value read back is `±0.0`, and the value written was within
half a printed unit of zero -/
theorem roundtrip_value_zero (x : Float) (prec : Nat) (hn : x.isNaN = false) (hi : x.isInf = false)
    (hN : printedNum (decode x) prec = 0) :
    Fmt.parse (Fmt.fixed x prec) = withSign (decode x) 0.0 ∧
      |(0 : ℚ) - val (decode x)| ≤ 1 / (2 * 10 ^ prec) := by
  refine ⟨?_, roundtrip_error_zero x prec hN⟩
  rw [parse_fixed' x prec hn hi, hN]
  rfl

/-- `roundtrip_value_exact`: a finite non-zero `x` whose exact value has at most `prec` decimals
is read back as `± scaleB (ofNat m) e` with `± m * 2^e` equal to the exact value of `x`. -/
theorem roundtrip_value_exact (x : Float) (prec : Nat) (hn : x.isNaN = false) (hi : x.isInf = false)
    (hnz : (decode x).2.1 ≠ 0) (hdiv : (decode x).2.2 ∣ (decode x).2.1 * 10 ^ prec) :
    ∃ (m : Nat) (e : Int), 2 ^ 52 ≤ m ∧ m ≤ 2 ^ 53 ∧
      Fmt.parse (Fmt.fixed x prec) = withSign (decode x) (Float.scaleB (Float.ofNat m) e) ∧
      sgn (decode x) * ((m : ℚ) * 2 ^ e) = val (decode x) := by
  obtain ⟨m, e, hme, hval⟩ := roundtrip_exact_total x prec hnz hdiv
  obtain ⟨h1, h2⟩ := nearestME_mantissa _ _ (Nat.pow_pos (by decide)) m e hme
  refine ⟨m, e, h1, h2, ?_, hval⟩
  rw [parse_fixed' x prec hn hi, nearest_eq, hme]

/-- a zero (`num = 0`, i.e. `±0.0`) is read back as `±0.0` -/
theorem roundtrip_value_exact_zero (x : Float) (prec : Nat) (hn : x.isNaN = false)
    (hi : x.isInf = false) (hz : (decode x).2.1 = 0) :
    Fmt.parse (Fmt.fixed x prec) = withSign (decode x) 0.0 ∧ val (decode x) = 0 := by
  have hN : printedNum (decode x) prec = 0 := by
    rw [printedNum, hz, Nat.zero_mul, roundHalfEven_exact _ _ (decode_den_pos x) (Nat.dvd_zero _),
      Nat.zero_div]
  exact ⟨(roundtrip_value_zero x prec hn hi hN).1, by simp [val, hz]⟩

example : Fmt.parse "0.38" = Fmt.nearest 38 (10 ^ 2) := by
  have h := parse_shape "0.38" false ['0'] ['3', '8'] ['.', '3', '8'] (by decide) (by decide)
    (Or.inr rfl) (by decide)
  have hv : digitsVal (['0'] ++ ['3', '8']) = 38 := by decide
  rw [hv] at h
  rw [h]; simp
example : Fmt.parse "-12.005" = - Fmt.nearest 12005 (10 ^ 3) := by
  have h := parse_shape "-12.005" true ['1', '2'] ['0', '0', '5'] ['.', '0', '0', '5'] (by decide)
    (by decide) (Or.inr rfl) (by decide)
  have hv : digitsVal (['1', '2'] ++ ['0', '0', '5']) = 12005 := by decide
  rw [hv] at h
  rw [h]; simp
example : Fmt.parse "7" = Fmt.nearest 7 (10 ^ 0) := by
  have h := parse_shape "7" false ['7'] [] [] (by decide) (by decide) (Or.inl ⟨rfl, rfl⟩) (by decide)
  have hv : digitsVal (['7'] ++ []) = 7 := by decide
  rw [hv] at h
  rw [h]; simp
example : digitsVal "00123".toList = 123 := by decide

end Ohsl.Props.C19
