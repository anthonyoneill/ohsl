/-
  Property C02 (continued) — what `lu_decomp_in_place` RECORDS: the matrix `perm` is a permutation
  matrix and `pivots` is the number of row exchanges performed.
  Model: Ohsl/Model/Solve.lean (`luPivot`, `luStep`, `luDecomp`); definitions: Ohsl/Lemmas/C02P.lean.

  `C02.luDecomp_correct` states `P·A = L·U` and `det P = (-1)^pivots` for the returned matrix `P`
  and counter; that alone does not say that `P` is a permutation matrix nor that `pivots` counts
  exchanges.  Here (class (E): exact linearly ordered field, `IsStrictOrderedRing`), with
  `σ = Mat.luPerm A n : Equiv.Perm (Fin n)` the product, in loop order, of the transpositions
  `(k  p_k)` where `p_k = Mat.pivotChoice A k` is the row returned by the model's own pivot search
  `luPivot` at step `k` of the model's own loop:

  * `luDecomp_perm`, `luDecomp_perm_entries`   the returned `perm` is the permutation matrix of `σ`
  * `luDecomp_pivots_count`  `pivots` counts the exchanges (`exchangeAt_iff` unfolds the predicate
                             to the model's functions)
  * `luDecomp_pivots_parity` the sign used by `determinant` is the sign of `σ`
  * `luDecomp_factors`       everything together
  * `determinant_total_wf`, `determinant_nonsquare`   totality of `determinant` with ALL hypotheses
                             visible; without `WF` the call fails (an `example`)
  Nothing is `_partial`.
-/
import Ohsl.Props.C02D
import Ohsl.Lemmas.LURecord
namespace Ohsl.Props.C02
open Ohsl Ohsl.Mat

section Structural
variable {K : Type} [Add K] [Sub K] [Mul K] [Neg K] [Zero K] [One K] [BEq K] [ScalarExt K]

set_option linter.unusedSectionVars false in
/-- (S) `Mat.luPrefix` is the model's own loop: run for all `rows` steps it IS `luDecomp` -/
theorem luPrefix_rows (A : Mat K) (h : A.rows = A.cols) : Mat.luPrefix A A.rows = luDecomp A :=
  Mat.luPrefix_full A h

set_option linter.unusedSectionVars false in
/-- (S) what `exchangeAt A k` says, in terms of the model's functions only: the first `k` steps
    of the factorisation succeed with state `s`, the pivot search on column `k` of `s.lu` returns
    a magnitude that is not (`==`) zero, and the row it returns is not `k` — exactly the condition
    under which `luStep` executes `swap_rows` and `pivots += 1`. -/
theorem exchangeAt_iff (A : Mat K) (k : Nat) :
    Mat.exchangeAt A k = true ↔
      ∃ s mx p, Mat.luPrefix A k = .ok s ∧ luPivot s.lu k = .ok (mx, p) ∧ (mx == 0) = false ∧
        p ≠ k := by
  unfold Mat.exchangeAt Mat.pivotChoice
  constructor
  · intro h
    cases hs : Mat.luPrefix A k with
    | error e => rw [hs] at h; cases h
    | ok s =>
      rw [hs] at h
      cases hp : luPivot s.lu k with
      | error e => simp only [hp] at h; cases h
      | ok mp =>
        obtain ⟨mx, p⟩ := mp
        simp only [hp] at h
        cases hb : (mx == 0) with
        | true => rw [hb] at h; simp at h
        | false =>
          rw [hb] at h
          exact ⟨s, mx, p, rfl, hp, hb, by simpa using h⟩
  · rintro ⟨s, mx, p, hs, hp, hb, hne⟩
    simp [hs, hp, hb, hne]

end Structural

section Exact
variable {K : Type} [Field K] [LinearOrder K] [IsStrictOrderedRing K]
attribute [local instance] Alg.scalarExt

/-- (E) **the recorded `perm` is a permutation matrix.**  For every well-formed square matrix the
    factorisation returns `s` with `s.perm` the well-formed `n × n` matrix whose entry `(i, j)` is
    `1` if `j = σ i` and `0` otherwise, where `σ = Mat.luPerm A n : Equiv.Perm (Fin n)` is the
    product of the transpositions chosen by the model's pivot search.  In Mathlib's terms the
    matrix is `Equiv.Perm.permMatrix K σ` (`= σ.toPEquiv.toMatrix`), and multiplying by it from
    the left moves row `σ i` of `A` to row `i`. -/
theorem luDecomp_perm {A : Mat K} {n : Nat} {a : Nat → Nat → K} (h : Mat.Is A n n a) :
    ∃ s, luDecomp A = .ok s ∧
      Mat.Is s.perm n n (Mat.permEntries (Mat.luPerm A n)) ∧
      Mat.toMat n (Mat.permEntries (K := K) (Mat.luPerm A n))
        = Equiv.Perm.permMatrix K (Mat.luPerm A n) ∧
      Mat.toMat n (Mat.permEntries (K := K) (Mat.luPerm A n)) * Mat.toMat n a
        = (Mat.toMat n a).submatrix (Mat.luPerm A n) id :=
  Mat.luDecomp_perm h

/-- (E) the same, read entry by entry off the returned matrix: there is a permutation `σ` of
    `Fin n` such that every in-range entry of `perm` is `0` or `1` and entry `(i, j)` is `1`
    exactly when `j = σ i`. -/
theorem luDecomp_perm_entries {A : Mat K} {n : Nat} {a : Nat → Nat → K} (h : Mat.Is A n n a) :
    ∃ (s : LU K) (σ : Equiv.Perm (Fin n)), luDecomp A = .ok s ∧ s.perm.WF ∧ s.perm.rows = n ∧
      s.perm.cols = n ∧
      ∀ (i j : Nat) (hi : i < n) (hj : j < n),
        (s.perm.get i j = .ok 0 ∨ s.perm.get i j = .ok 1) ∧
        (s.perm.get i j = .ok 1 ↔ (⟨j, hj⟩ : Fin n) = σ ⟨i, hi⟩) :=
  Mat.luDecomp_perm_entries h

/-- (E) **`pivots` is the number of row exchanges**: the returned counter equals the number of
    loop steps `k < n` at which the pivot row chosen by the model's own search (on the model's own
    intermediate state) differs from `k` — see `exchangeAt_iff`. -/
theorem luDecomp_pivots_count {A : Mat K} {n : Nat} {a : Nat → Nat → K} (h : Mat.Is A n n a) :
    ∃ s, luDecomp A = .ok s ∧ s.pivots = Mat.exchangeCount A n ∧ s.pivots ≤ n :=
  Mat.luDecomp_pivots_count h

/-- (E) the chosen pivot row at a step `k < n` is a row on or below the diagonal -/
theorem pivotChoice_range {A : Mat K} {n : Nat} {a : Nat → Nat → K} (h : Mat.Is A n n a)
    {k p : Nat} (hk : k < n) (hp : Mat.pivotChoice A k = some p) : k ≤ p ∧ p < n :=
  Mat.pivotChoice_range_gen h hk hp

/-- (E) **parity**: the sign of the recorded permutation is `(-1)^pivots`; hence the sign that
    `determinant` applies (`pivots % 2`) is the sign of the row permutation. -/
theorem luDecomp_pivots_parity {A : Mat K} {n : Nat} {a : Nat → Nat → K} (h : Mat.Is A n n a) :
    ∃ s, luDecomp A = .ok s ∧ Equiv.Perm.sign (Mat.luPerm A n) = (-1) ^ s.pivots ∧
      (s.pivots % 2 = 0 ↔ Equiv.Perm.sign (Mat.luPerm A n) = 1) :=
  Mat.luDecomp_pivots_parity h

/-- (E) **the factorisation with its permutation**: for every well-formed square matrix,
    `luDecomp` returns the in-place factors `w` (unit lower `Lfn w`, upper `Umat n n w`), the
    permutation matrix of `σ = luPerm A n`, and the exchange count, with
    `A[σ ·, ·] = L·U`, `pivots = exchangeCount A n`, `sign σ = (-1)^pivots` and
    `det U = sign σ · det A`. -/
theorem luDecomp_factors {A : Mat K} {n : Nat} {a : Nat → Nat → K} (h : Mat.Is A n n a) :
    ∃ (s : LU K) (w : Nat → Nat → K), luDecomp A = .ok s ∧ Mat.Is s.lu n n w ∧
      Mat.Is s.perm n n (Mat.permEntries (Mat.luPerm A n)) ∧
      (Mat.toMat n a).submatrix (Mat.luPerm A n) id = Mat.toMat n (Mat.Lfn w) * Mat.Umat n n w ∧
      s.pivots = Mat.exchangeCount A n ∧
      Equiv.Perm.sign (Mat.luPerm A n) = (-1) ^ s.pivots ∧
      Matrix.det (Mat.Umat n n w)
        = ((Equiv.Perm.sign (Mat.luPerm A n) : ℤ) : K) * Matrix.det (Mat.toMat n a) :=
  Mat.luDecomp_factors h

/-- (E) **totality of `determinant`, hypotheses spelled out**: if the buffer has exactly
    `rows * cols` elements (`A.WF`) and the matrix is square, `determinant` returns a value — never
    a panic, singular matrices included — and the value is the determinant of the matrix read off
    the buffer.  (`C02.determinant_total` hides both hypotheses in `Mat.Is A n n a`.) -/
theorem determinant_total_wf (A : Mat K) (hwf : A.WF) (hsq : A.rows = A.cols) :
    ∃ d, Mat.determinant A = .ok d ∧
      d = Matrix.det (Matrix.of fun (i j : Fin A.rows) => Mat.entryOf A i.val j.val) :=
  ⟨_, determinant_of_wf A hwf hsq, rfl⟩

set_option linter.unusedSectionVars false in
/-- (E) squareness is necessary (for any buffer): a non-square matrix is a size panic -/
theorem determinant_nonsquare (A : Mat K) (h : A.rows ≠ A.cols) :
    Mat.determinant A = .error .size := determinant_rejects A h

end Exact

/-! ### the hypotheses are satisfiable, and `WF` cannot be dropped -/
section Examples
attribute [local instance] Alg.scalarExt

/-- `determinant_total_wf` applies to `[[1,2],[3,4]]` -/
example : ∃ d, Mat.determinant (⟨#[1, 2, 3, 4], 2, 2⟩ : Mat ℚ) = .ok d :=
  let ⟨d, hd, _⟩ := determinant_total_wf (⟨#[1, 2, 3, 4], 2, 2⟩ : Mat ℚ) (by simp [Mat.WF]) rfl
  ⟨d, hd⟩

/-- a square shape with a buffer that is too short is NOT well-formed … -/
example : ¬ (⟨#[1, 2, 3], 2, 2⟩ : Mat ℚ).WF := by simp [Mat.WF]

/-- … and on it `determinant` panics (the row exchange reads entry (1,1) at flat offset 3):
    the hypothesis `A.WF` of `determinant_total_wf` cannot be dropped -/
example : Mat.determinant (⟨#[1, 2, 3], 2, 2⟩ : Mat ℚ) = .error .range := by decide

/-- the squareness hypothesis cannot be dropped either -/
example : Mat.determinant (⟨#[1, 2, 3, 4, 5, 6], 2, 3⟩ : Mat ℚ) = .error .size :=
  determinant_nonsquare _ (by decide)

/-- `[[0,1],[1,0]]`: the pivot search at step 0 returns row 1, one exchange is counted, the
    recorded permutation is the transposition (0 1) -/
example : Mat.pivotChoice (⟨#[0, 1, 1, 0], 2, 2⟩ : Mat ℚ) 0 = some 1 := by decide
theorem exchangeCount_example : Mat.exchangeCount (⟨#[0, 1, 1, 0], 2, 2⟩ : Mat ℚ) 2 = 1 := by
  have h0 : Mat.exchangeAt (⟨#[0, 1, 1, 0], 2, 2⟩ : Mat ℚ) 0 = true := by decide
  have h1 : Mat.exchangeAt (⟨#[0, 1, 1, 0], 2, 2⟩ : Mat ℚ) 1 = false := by decide +kernel
  rw [show (2 : Nat) = 0 + 1 + 1 from rfl, Mat.exchangeCount_succ, Mat.exchangeCount_succ, h0, h1]
  rfl
example : ∃ s, luDecomp (⟨#[0, 1, 1, 0], 2, 2⟩ : Mat ℚ) = .ok s ∧ s.pivots = 1 := by
  obtain ⟨s, hs, hc, _⟩ := luDecomp_pivots_count
    (Mat.Is.of_wf (m := (⟨#[0, 1, 1, 0], 2, 2⟩ : Mat ℚ)) (by simp [Mat.WF]))
  exact ⟨s, hs, by rw [hc]; exact exchangeCount_example⟩

end Examples

end Ohsl.Props.C02
