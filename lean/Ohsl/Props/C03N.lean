/-
  Property C03, matrix norms — `norm_1` (max absolute column sum), `norm_inf` (max absolute row
  sum), `norm_max` (max entry magnitude), `norm_p` / `norm_frob` of the dense-matrix model
  (Ohsl/Model/Mat.lean, section F64).

  Class (E)/(R): `K` is a linearly ordered field carrying a `Transc K` instance whose `fabs` is
  `|·|` and whose `fmax` is `max` (explicit hypotheses `hfabs`, `hfmax`; both hold by `rfl` at the
  real interpretation `Ohsl.RealI.transc`, see the `_real` versions).  `norm_p`/`norm_frob` are
  stated at ℝ (`powf = Real.rpow`).
  Rounding in f64 (class F) is in C03F and C03P.
  The loops are read as left folds, with no law about the scalars; what is proved about the norms
  is proved about those folds.
-/
import Ohsl.Props.C03M
import Ohsl.Lemmas.DotSum
import Ohsl.Lemmas.NormFold
import Ohsl.Lemmas.IdxList
import Ohsl.Lemmas.RealTransc
import Mathlib.Algebra.BigOperators.Group.Finset.Basic
import Mathlib.Algebra.Order.BigOperators.Group.Finset
import Mathlib.Analysis.SpecialFunctions.Pow.Real
import Mathlib.Analysis.SpecialFunctions.Sqrt

set_option linter.unusedSectionVars false

namespace Ohsl.Props.C03
open Ohsl Ohsl.Mat

section Max
variable {K : Type} [LinearOrder K]

theorem foldl_max_bounds {ι : Type} (g : ι → K) (l : List ι) (init : K) :
    init ≤ l.foldl (fun v x => max v (g x)) init ∧
    (∀ x ∈ l, g x ≤ l.foldl (fun v x => max v (g x)) init) ∧
    (l.foldl (fun v x => max v (g x)) init = init ∨
      ∃ x ∈ l, l.foldl (fun v x => max v (g x)) init = g x ∧ init < g x) :=
  C15.foldl_max_spec (fun r : K => r) g (fun v x => max v (g x)) (fun r x => by
    rcases lt_or_ge r (g x) with h | h
    · rw [if_pos h]; exact max_eq_right h.le
    · rw [if_neg (not_lt.mpr h)]; exact max_eq_left h) l init

/-- "`v` is `max(0, g 0, …, g (n-1))`" determines `v` -/
theorem max0_unique [Field K] {n : Nat} {g : Nat → K} {v v' : K}
    (h0 : 0 ≤ v) (h1 : ∀ j, j < n → g j ≤ v) (h2 : v = 0 ∨ ∃ j, j < n ∧ v = g j)
    (h0' : 0 ≤ v') (h1' : ∀ j, j < n → g j ≤ v') (h2' : v' = 0 ∨ ∃ j, j < n ∧ v' = g j) :
    v = v' := by
  apply le_antisymm
  · rcases h2 with h | ⟨j, hj, h⟩
    · rw [h]; exact h0'
    · rw [h]; exact h1' j hj
  · rcases h2' with h | ⟨j, hj, h⟩
    · rw [h]; exact h0
    · rw [h]; exact h1 j hj

end Max

section Loops
variable {K : Type} [Field K] [LinearOrder K] [IsStrictOrderedRing K]

theorem abs_le_sum_abs (f : Nat → K) {n i : Nat} (hi : i < n) :
    |f i| ≤ ∑ k ∈ Finset.range n, |f k| :=
  Finset.single_le_sum (f := fun k => |f k|) (fun _ _ => abs_nonneg _) (Finset.mem_range.mpr hi)

theorem maxAbsSum_eq_zero_iff {outer inner : Nat} {g : Nat → Nat → K} {v : K}
    (h1 : ∀ a, a < outer → ∑ b ∈ Finset.range inner, |g a b| ≤ v)
    (h2 : v = 0 ∨ ∃ a, a < outer ∧ v = ∑ b ∈ Finset.range inner, |g a b|) :
    v = 0 ↔ ∀ a b, a < outer → b < inner → g a b = 0 := by
  constructor
  · intro hv a b ha hb
    exact abs_nonpos_iff.mp ((abs_le_sum_abs (g a) hb).trans ((h1 a ha).trans hv.le))
  · intro hz
    rcases h2 with h2 | ⟨a, ha, h2⟩
    · exact h2
    · rw [h2]
      exact Finset.sum_eq_zero fun b hb => by rw [hz a b ha (Finset.mem_range.mp hb), abs_zero]

end Loops

section Specs
variable {K : Type} [Field K] [LinearOrder K] [Transc K]
attribute [local instance] Ohsl.Alg.scalarExt

/-- the value of the common loop of `norm_1` and `norm_inf` (`Mat.maxAbsSum`, Lemmas/NormFold): the
    maximum over `a < outer` of the absolute sums `∑_{b < inner} |g a b|` (`0` if `outer = 0`) -/
theorem maxAbsSum_spec (hfabs : ∀ x : K, Transc.fabs x = |x|)
    (hfmax : ∀ x y : K, Transc.fmax x y = max x y) (outer inner : Nat) (g : Nat → Nat → K) :
    0 ≤ maxAbsSum outer inner g ∧
      (∀ a, a < outer → ∑ b ∈ Finset.range inner, |g a b| ≤ maxAbsSum outer inner g) ∧
      (maxAbsSum outer inner g = 0 ∨
        ∃ a, a < outer ∧ maxAbsSum outer inner g = ∑ b ∈ Finset.range inner, |g a b|) := by
  simp only [maxAbsSum, hfabs, hfmax, List.foldl_map, C15.foldl_range_add_eq_sum, zero_add]
  obtain ⟨h1, h2, h3⟩ :=
    foldl_max_bounds (fun a => ∑ b ∈ Finset.range inner, |g a b|) (List.range outer) 0
  exact ⟨h1, fun a ha => h2 a (List.mem_range.mpr ha),
    h3.imp id fun ⟨a, ha, h, _⟩ => ⟨a, List.mem_range.mp ha, h⟩⟩

/-- **`norm_1`** never fails on a well-formed matrix and returns the maximum absolute column sum
    (`0` for a matrix without columns): it bounds every column sum and is attained (or is `0`). -/
theorem norm1_spec (hfabs : ∀ x : K, Transc.fabs x = |x|)
    (hfmax : ∀ x y : K, Transc.fmax x y = max x y)
    {m : Mat K} {r c : Nat} {e : Nat → Nat → K} (h : Is m r c e) :
    ∃ v, Mat.norm1 m = .ok v ∧ 0 ≤ v ∧
      (∀ j, j < c → ∑ i ∈ Finset.range r, |e i j| ≤ v) ∧
      (v = 0 ∨ ∃ j, j < c ∧ v = ∑ i ∈ Finset.range r, |e i j|) :=
  ⟨_, norm1_fold h, maxAbsSum_spec hfabs hfmax c r fun j i => e i j⟩

/-- **`norm_inf`** never fails on a well-formed matrix and returns the maximum absolute row sum
    (`0` for a matrix without rows). -/
theorem normInf_spec (hfabs : ∀ x : K, Transc.fabs x = |x|)
    (hfmax : ∀ x y : K, Transc.fmax x y = max x y)
    {m : Mat K} {r c : Nat} {e : Nat → Nat → K} (h : Is m r c e) :
    ∃ v, Mat.normInf m = .ok v ∧ 0 ≤ v ∧
      (∀ i, i < r → ∑ j ∈ Finset.range c, |e i j| ≤ v) ∧
      (v = 0 ∨ ∃ i, i < r ∧ v = ∑ j ∈ Finset.range c, |e i j|) :=
  ⟨_, normInf_fold h, maxAbsSum_spec hfabs hfmax r c e⟩

/-- **`norm_max`** never fails on a well-formed matrix and returns the largest entry magnitude
    (`0` for an empty matrix). -/
theorem normMax_spec (hfabs : ∀ x : K, Transc.fabs x = |x|)
    (hfmax : ∀ x y : K, Transc.fmax x y = max x y)
    {m : Mat K} {r c : Nat} {e : Nat → Nat → K} (h : Is m r c e) :
    ∃ v, Mat.normMax m = .ok v ∧ 0 ≤ v ∧
      (∀ i j, i < r → j < c → |e i j| ≤ v) ∧
      (v = 0 ∨ ∃ i j, i < r ∧ j < c ∧ v = |e i j|) := by
  refine ⟨_, normMax_fold h, ?_⟩
  -- the two nested folds are one fold over the row-major index list
  simp only [hfabs, hfmax, ← C03P.foldl_idx r c (fun v i j => max v |e i j|)]
  obtain ⟨h1, h2, h3⟩ := foldl_max_bounds (fun ij : Nat × Nat => |e ij.1 ij.2|) (C03P.idx r c) 0
  exact ⟨h1, fun i j hi hj => h2 (i, j) (C03P.mem_idx.mpr ⟨hi, hj⟩),
    h3.imp id fun ⟨ij, hij, h, _⟩ => ⟨ij.1, ij.2, (C03P.mem_idx.mp hij).1, (C03P.mem_idx.mp hij).2, h⟩⟩

theorem normMax_le_of_bound (hfabs : ∀ x : K, Transc.fabs x = |x|)
    (hfmax : ∀ x y : K, Transc.fmax x y = max x y)
    {m : Mat K} {r c : Nat} {e : Nat → Nat → K} (h : Is m r c e) {vm w : K}
    (hm : Mat.normMax m = .ok vm) (h0 : 0 ≤ w) (hb : ∀ i j, i < r → j < c → |e i j| ≤ w) :
    vm ≤ w := by
  obtain ⟨v, hv, _, _, g3⟩ := normMax_spec hfabs hfmax h
  rw [hv] at hm; cases hm
  rcases g3 with g3 | ⟨i, j, hi, hj, g3⟩
  · rw [g3]; exact h0
  · rw [g3]; exact hb i j hi hj

end Specs

section Norms
variable {K : Type} [Field K] [LinearOrder K] [IsStrictOrderedRing K] [Transc K]
attribute [local instance] Ohsl.Alg.scalarExt

theorem norm1_nonneg (hfabs : ∀ x : K, Transc.fabs x = |x|)
    (hfmax : ∀ x y : K, Transc.fmax x y = max x y)
    {m : Mat K} {r c : Nat} {e : Nat → Nat → K} (h : Is m r c e) {v : K}
    (hv : Mat.norm1 m = .ok v) : 0 ≤ v := by
  obtain ⟨v', hv', h0, _⟩ := norm1_spec hfabs hfmax h
  rw [hv'] at hv; cases hv; exact h0

theorem normInf_nonneg (hfabs : ∀ x : K, Transc.fabs x = |x|)
    (hfmax : ∀ x y : K, Transc.fmax x y = max x y)
    {m : Mat K} {r c : Nat} {e : Nat → Nat → K} (h : Is m r c e) {v : K}
    (hv : Mat.normInf m = .ok v) : 0 ≤ v := by
  obtain ⟨v', hv', h0, _⟩ := normInf_spec hfabs hfmax h
  rw [hv'] at hv; cases hv; exact h0

theorem normMax_nonneg (hfabs : ∀ x : K, Transc.fabs x = |x|)
    (hfmax : ∀ x y : K, Transc.fmax x y = max x y)
    {m : Mat K} {r c : Nat} {e : Nat → Nat → K} (h : Is m r c e) {v : K}
    (hv : Mat.normMax m = .ok v) : 0 ≤ v := by
  obtain ⟨v', hv', h0, _⟩ := normMax_spec hfabs hfmax h
  rw [hv'] at hv; cases hv; exact h0

/-- a matrix without columns (resp. rows) has `norm_1` (resp. `norm_inf`) zero; the empty matrix
    has `norm_max` zero -/
theorem norms_empty (hfabs : ∀ x : K, Transc.fabs x = |x|)
    (hfmax : ∀ x y : K, Transc.fmax x y = max x y)
    {m : Mat K} {r c : Nat} {e : Nat → Nat → K} (h : Is m r c e) :
    (c = 0 → Mat.norm1 m = .ok 0) ∧ (r = 0 → Mat.normInf m = .ok 0) ∧
    ((r = 0 ∨ c = 0) → Mat.normMax m = .ok 0) := by
  refine ⟨?_, ?_, ?_⟩
  · intro hc
    obtain ⟨v, hv, _, _, h3⟩ := norm1_spec hfabs hfmax h
    rcases h3 with h3 | ⟨j, hj, _⟩
    · rw [hv, h3]
    · omega
  · intro hr
    obtain ⟨v, hv, _, _, h3⟩ := normInf_spec hfabs hfmax h
    rcases h3 with h3 | ⟨i, hi, _⟩
    · rw [hv, h3]
    · omega
  · intro hrc
    obtain ⟨v, hv, _, _, h3⟩ := normMax_spec hfabs hfmax h
    rcases h3 with h3 | ⟨i, j, hi, hj, _⟩
    · rw [hv, h3]
    · omega

/-- **‖Aᵀ‖₁ = ‖A‖_∞**: `norm_1` of the transpose computed by the model equals `norm_inf`
    (both are the maximum of `0` and the same absolute sums, which determines them) -/
theorem norm1_transpose (hfabs : ∀ x : K, Transc.fabs x = |x|)
    (hfmax : ∀ x y : K, Transc.fmax x y = max x y)
    {m : Mat K} {r c : Nat} {e : Nat → Nat → K} (h : Is m r c e) :
    ∃ mt, Mat.transpose m = .ok mt ∧ Mat.norm1 mt = Mat.normInf m := by
  obtain ⟨mt, hmt, hI⟩ := Mat.transpose_spec h
  obtain ⟨v, hv, g0, g1, g2⟩ := normInf_spec hfabs hfmax h
  obtain ⟨w, hw, k0, k1, k2⟩ := norm1_spec hfabs hfmax hI
  exact ⟨mt, hmt, by rw [hv, hw, max0_unique k0 k1 k2 g0 g1 g2]⟩

/-- **‖Aᵀ‖_∞ = ‖A‖₁** -/
theorem normInf_transpose (hfabs : ∀ x : K, Transc.fabs x = |x|)
    (hfmax : ∀ x y : K, Transc.fmax x y = max x y)
    {m : Mat K} {r c : Nat} {e : Nat → Nat → K} (h : Is m r c e) :
    ∃ mt, Mat.transpose m = .ok mt ∧ Mat.normInf mt = Mat.norm1 m := by
  obtain ⟨mt, hmt, hI⟩ := Mat.transpose_spec h
  obtain ⟨v, hv, g0, g1, g2⟩ := norm1_spec hfabs hfmax h
  obtain ⟨w, hw, k0, k1, k2⟩ := normInf_spec hfabs hfmax hI
  exact ⟨mt, hmt, by rw [hv, hw, max0_unique k0 k1 k2 g0 g1 g2]⟩

/-- **‖A‖_max ≤ ‖A‖₁** -/
theorem normMax_le_norm1 (hfabs : ∀ x : K, Transc.fabs x = |x|)
    (hfmax : ∀ x y : K, Transc.fmax x y = max x y)
    {m : Mat K} {r c : Nat} {e : Nat → Nat → K} (h : Is m r c e) {vm v1 : K}
    (hm : Mat.normMax m = .ok vm) (h1 : Mat.norm1 m = .ok v1) : vm ≤ v1 := by
  obtain ⟨w, hw, k0, k1, _⟩ := norm1_spec hfabs hfmax h
  rw [hw] at h1; cases h1
  exact normMax_le_of_bound hfabs hfmax h hm k0 fun i j hi hj =>
    (abs_le_sum_abs (fun i => e i j) hi).trans (k1 j hj)

/-- **‖A‖_max ≤ ‖A‖_∞** -/
theorem normMax_le_normInf (hfabs : ∀ x : K, Transc.fabs x = |x|)
    (hfmax : ∀ x y : K, Transc.fmax x y = max x y)
    {m : Mat K} {r c : Nat} {e : Nat → Nat → K} (h : Is m r c e) {vm vi : K}
    (hm : Mat.normMax m = .ok vm) (hi' : Mat.normInf m = .ok vi) : vm ≤ vi := by
  obtain ⟨w, hw, k0, k1, _⟩ := normInf_spec hfabs hfmax h
  rw [hw] at hi'; cases hi'
  exact normMax_le_of_bound hfabs hfmax h hm k0 fun i j hi hj =>
    (abs_le_sum_abs (e i) hj).trans (k1 i hi)

/-- definiteness: `norm_max m = 0` exactly when every entry is zero -/
theorem normMax_eq_zero_iff (hfabs : ∀ x : K, Transc.fabs x = |x|)
    (hfmax : ∀ x y : K, Transc.fmax x y = max x y)
    {m : Mat K} {r c : Nat} {e : Nat → Nat → K} (h : Is m r c e) :
    Mat.normMax m = .ok 0 ↔ ∀ i j, i < r → j < c → e i j = 0 := by
  obtain ⟨v, hv, g0, g1, g2⟩ := normMax_spec hfabs hfmax h
  rw [hv]
  constructor
  · intro hz i j hi hj
    cases hz
    exact abs_nonpos_iff.mp (g1 i j hi hj)
  · intro hz
    rcases g2 with g2 | ⟨i, j, hi, hj, g2⟩
    · rw [g2]
    · rw [g2, hz i j hi hj, abs_zero]

end Norms

-- the real interpretation (`Ohsl.RealI.transc`): the hypotheses hold by `rfl`
section RealNorms
open Ohsl.RealI

theorem fabs_real (x : ℝ) : (Transc.fabs x : ℝ) = |x| := rfl
theorem fmax_real (x y : ℝ) : (Transc.fmax x y : ℝ) = max x y := rfl

theorem norm1_spec_real {m : Mat ℝ} {r c : Nat} {e : Nat → Nat → ℝ} (h : Is m r c e) :
    ∃ v, Mat.norm1 m = .ok v ∧ 0 ≤ v ∧
      (∀ j, j < c → ∑ i ∈ Finset.range r, |e i j| ≤ v) ∧
      (v = 0 ∨ ∃ j, j < c ∧ v = ∑ i ∈ Finset.range r, |e i j|) :=
  norm1_spec fabs_real fmax_real h

theorem normInf_spec_real {m : Mat ℝ} {r c : Nat} {e : Nat → Nat → ℝ} (h : Is m r c e) :
    ∃ v, Mat.normInf m = .ok v ∧ 0 ≤ v ∧
      (∀ i, i < r → ∑ j ∈ Finset.range c, |e i j| ≤ v) ∧
      (v = 0 ∨ ∃ i, i < r ∧ v = ∑ j ∈ Finset.range c, |e i j|) :=
  normInf_spec fabs_real fmax_real h

theorem norm1_transpose_real {m : Mat ℝ} {r c : Nat} {e : Nat → Nat → ℝ} (h : Is m r c e) :
    ∃ mt, Mat.transpose m = .ok mt ∧ Mat.norm1 mt = Mat.normInf m :=
  norm1_transpose fabs_real fmax_real h

theorem sum_sum_eq_zero_iff {r c : Nat} {f : Nat → Nat → ℝ} (hf : ∀ i j, 0 ≤ f i j) :
    ∑ i ∈ Finset.range r, ∑ j ∈ Finset.range c, f i j = 0 ↔ ∀ i j, i < r → j < c → f i j = 0 := by
  rw [Finset.sum_eq_zero_iff_of_nonneg fun i _ => Finset.sum_nonneg fun j _ => hf i j]
  constructor
  · intro h i j hi hj
    exact (Finset.sum_eq_zero_iff_of_nonneg fun j _ => hf i j).mp
      (h i (Finset.mem_range.mpr hi)) j (Finset.mem_range.mpr hj)
  · intro h i hi
    exact Finset.sum_eq_zero fun j hj => h i j (Finset.mem_range.mp hi) (Finset.mem_range.mp hj)

theorem normP_sum_loop {m : Mat ℝ} {r c : Nat} {e : Nat → Nat → ℝ} (h : Is m r c e) (p : ℝ) :
    forM' 0 r (0 : ℝ) (fun s i =>
      forM' 0 c s (fun s j => do
        let x ← m.get i j
        pure (s + Transc.powf (Transc.fabs x) p))) =
      .ok (∑ i ∈ Finset.range r, ∑ j ∈ Finset.range c, |e i j| ^ p) := by
  rw [normP_fold h p]
  simp only [C15.foldl_range_add_eq_sum, zero_add]
  rfl

/-- **`norm_p`** (entrywise) for a non-zero exponent: `(Σ_i Σ_j |e i j| ^ p) ^ (1/p)` with
    `Real.rpow` -/
theorem normP_spec {m : Mat ℝ} {r c : Nat} {e : Nat → Nat → ℝ} (h : Is m r c e) {p : ℝ}
    (hp : p ≠ 0) :
    Mat.normP m p =
      .ok ((∑ i ∈ Finset.range r, ∑ j ∈ Finset.range c, |e i j| ^ p) ^ (1 / p)) := by
  simp only [Mat.normP, h.rows, h.cols, normP_sum_loop h p]
  simp only [bind, Except.bind, Alg.divM_ne hp]
  rfl

/-- exponent `0`: the exact division `1 / p` is rejected -/
theorem normP_zero_rejects {m : Mat ℝ} {r c : Nat} {e : Nat → Nat → ℝ} (h : Is m r c e) :
    Mat.normP m 0 = .error .arith := by
  simp only [Mat.normP, h.rows, h.cols, normP_sum_loop h 0]
  simp only [bind, Except.bind, Alg.divM_zero]

/-- **`norm_frob`** is the square root of the sum of the squared entries -/
theorem normFrob_spec {m : Mat ℝ} {r c : Nat} {e : Nat → Nat → ℝ} (h : Is m r c e) :
    Mat.normFrob m =
      .ok (Real.sqrt (∑ i ∈ Finset.range r, ∑ j ∈ Finset.range c, (e i j) ^ 2)) := by
  have h2 : (1 : ℝ) + 1 ≠ 0 := by norm_num
  rw [Mat.normFrob, normP_spec h h2, Real.sqrt_eq_rpow]
  congr 2
  · refine Finset.sum_congr rfl fun i _ => Finset.sum_congr rfl fun j _ => ?_
    rw [one_add_one_eq_two, Real.rpow_two, sq_abs]
  · norm_num

theorem normFrob_nonneg {m : Mat ℝ} {r c : Nat} {e : Nat → Nat → ℝ} (h : Is m r c e) {v : ℝ}
    (hv : Mat.normFrob m = .ok v) : 0 ≤ v := by
  rw [normFrob_spec h] at hv; cases hv; exact Real.sqrt_nonneg _

/-- **‖A‖_max ≤ ‖A‖_F** -/
theorem normMax_le_normFrob {m : Mat ℝ} {r c : Nat} {e : Nat → Nat → ℝ} (h : Is m r c e)
    {vm vf : ℝ} (hm : Mat.normMax m = .ok vm) (hf : Mat.normFrob m = .ok vf) : vm ≤ vf := by
  rw [normFrob_spec h] at hf; cases hf
  refine normMax_le_of_bound fabs_real fmax_real h hm (Real.sqrt_nonneg _) fun i j hi hj => ?_
  rw [← Real.sqrt_sq_eq_abs]
  apply Real.sqrt_le_sqrt
  refine le_trans ?_ (Finset.single_le_sum
    (f := fun i => ∑ j ∈ Finset.range c, (e i j) ^ 2)
    (fun _ _ => Finset.sum_nonneg fun _ _ => sq_nonneg _) (Finset.mem_range.mpr hi))
  exact Finset.single_le_sum (f := fun j => (e i j) ^ 2) (fun _ _ => sq_nonneg _)
    (Finset.mem_range.mpr hj)

/-- definiteness of the Frobenius norm -/
theorem normFrob_eq_zero_iff {m : Mat ℝ} {r c : Nat} {e : Nat → Nat → ℝ} (h : Is m r c e) :
    Mat.normFrob m = .ok 0 ↔ ∀ i j, i < r → j < c → e i j = 0 := by
  rw [normFrob_spec h, Except.ok.injEq,
    Real.sqrt_eq_zero (Finset.sum_nonneg fun _ _ => Finset.sum_nonneg fun _ _ => sq_nonneg _),
    sum_sum_eq_zero_iff fun _ _ => sq_nonneg _]
  simp only [pow_eq_zero_iff two_ne_zero]

-- non-vacuity: a concrete 2×2 real matrix
example : Is (⟨#[1, -2, 3, 4], 2, 2⟩ : Mat ℝ) 2 2
    (Mat.entryOf (⟨#[1, -2, 3, 4], 2, 2⟩ : Mat ℝ)) :=
  Mat.Is.of_wf (by simp [Mat.WF])

end RealNorms

end Ohsl.Props.C03
