/-
  Property C17 (continued) — the exact-arithmetic theorems about the SYSTEM Newton iteration
  (`Ohsl.Jac.solveSys`, Ohsl/Model/Newton.lean) at the model's COMPLEX numbers
  (`Newton<Vector<Cmplx>>::solve` / `solve_jacobian`: `solveSys` at element type `Cx f64`, with
  `Vec.normInfC` — the largest MODULUS of the residual — and the real test `r <= tol`; the
  finite-difference Jacobian is `jacobian_cmplx`, step `⟨delta, 0⟩`).

  The law-generic theorems (`…_gen` / `…_genK`: any field, any `ScalarExt K` satisfying
  `Alg.DivLaw` / `Alg.PivotLaws`, norm and tolerance test as parameters) are in C17A (affine
  systems, an exact root as guess) and C17C (the panic branch, a singular Jacobian at a root).
  Here they are instantiated (`…_cx`) at `Cx ℝ` with the model's own instances, `Vec.normInfC` and
  `fun r => Transc.le r tol` over ℝ; equations and determinants are read in Mathlib's ℂ through
  `toC` (`AffineResC`, `RootC`, `C01.detC`).
-/
import Ohsl.Props.C17B
import Ohsl.Props.C17C
import Ohsl.Props.C01X
import Ohsl.Props.C18X
import Ohsl.Lemmas.C17X
import Mathlib.Tactic.IntervalCases
import Mathlib.Tactic.NormNum
namespace Ohsl.Props.C17
open Ohsl Ohsl.Newton Ohsl.Jac Ohsl.Mat Ohsl.C17X

section Ordered
variable {K : Type} [Field K] [LinearOrder K] [IsStrictOrderedRing K] [Transc K]
attribute [local instance] Ohsl.Alg.scalarExt

/-- the real counterpart of `newton_affine_sys_fd_cmplx_short` below: `newton_affine_sys_fd_det` of
    C17B, the instance `Alg.pivotLaws` (size `|·|`) of `newton_affine_sys_fd_det_gen` with
    `f = affineRes M c n` and the model's real norm -/
example (hle : ∀ x y : K, Transc.le x y = decide (x ≤ y)) (habs0 : Transc.fabs (0 : K) = 0)
    (M : Nat → Nat → K) (c : Nat → K) (n : Nat) (hn : 1 ≤ n)
    (hdet : Matrix.det (Matrix.of fun (i j : Fin n) => M i.val j.val) ≠ 0)
    (delta : K) (hd : delta ≠ 0)
    (tol : K) (htol : 0 ≤ tol) (guess : Array K) (hg : guess.size = n) :
    ∃ xs : Array K, IsRoot M c n xs ∧
      ∀ maxIter, 2 ≤ maxIter → ∃ tr,
        solveSys (affineRes M c n) (fun x => jacobian (affineRes M c n) x delta) Vec.normInf
          (fun r => Transc.le r tol) maxIter guess [] = .ok (⟨true, xs⟩, tr) :=
  newton_affine_sys_fd_det hle habs0 M c n hn hdet delta hd tol htol guess hg

end Ordered

section Complex
open Ohsl.RealI Ohsl.CxField Ohsl.Props.C13 Ohsl.Props.C14

/-- `f`, read in ℂ, is the residual `x ↦ M x − c` of the complex `n × n` system `M x = c` on the
    vectors of length `n`: `toC (f x)_i = Σ_j toC (M i j) · toC x_j − toC (c i)` -/
def AffineResC (M : Nat → Nat → Cx ℝ) (c : Nat → Cx ℝ) (n : Nat)
    (f : Array (Cx ℝ) → Array (Cx ℝ)) : Prop :=
  ∀ x : Array (Cx ℝ), x.size = n → (f x).size = n ∧
    ∀ i, i < n → toC ((f x)[i]?.getD 0)
      = (∑ j ∈ Finset.range n, toC (M i j) * toC (x[j]?.getD 0)) - toC (c i)

/-- `x` has length `n` and solves the complex system `M x = c` exactly (equations in ℂ) -/
def RootC (M : Nat → Nat → Cx ℝ) (c : Nat → Cx ℝ) (n : Nat) (x : Array (Cx ℝ)) : Prop :=
  x.size = n ∧ ∀ i, i < n → ∑ j ∈ Finset.range n, toC (M i j) * toC (x[j]?.getD 0) = toC (c i)

theorem affineResC_iff (M : Nat → Nat → Cx ℝ) (c : Nat → Cx ℝ) (n : Nat)
    (f : Array (Cx ℝ) → Array (Cx ℝ)) :
    AffineResC M c n f ↔ @IsAffineRes (Cx ℝ) CxField.field M c n f := by
  unfold AffineResC IsAffineRes
  refine forall_congr' fun x => forall_congr' fun _ => and_congr Iff.rfl
    (forall_congr' fun i => forall_congr' fun _ => ?_)
  rw [← toC_inj, toC_sub, toC_sum_field]
  simp only [toC_mul]

theorem rootC_iff (M : Nat → Nat → Cx ℝ) (c : Nat → Cx ℝ) (n : Nat) (x : Array (Cx ℝ)) :
    RootC M c n x ↔ @IsRoot (Cx ℝ) CxField.field M c n x := by
  unfold RootC IsRoot
  refine and_congr Iff.rfl (forall_congr' fun i => forall_congr' fun _ => ?_)
  rw [← toC_inj, toC_sum_field]
  simp only [toC_mul]

/-- the iteration at `x` panics, complex data: the residual is empty, or the Jacobian call panics,
    or the Jacobian is not square of the order of the residual, or it is singular (`det = 0` in
    ℂ), or the point and the step have different lengths -/
def StepPanicsC (f : Array (Cx ℝ) → Array (Cx ℝ))
    (jacF : Array (Cx ℝ) → Res (Mat (Cx ℝ) × List (Array (Cx ℝ)))) (x : Array (Cx ℝ)) : Prop :=
  (f x).size = 0 ∨ (∃ e, jacF x = .error e) ∨
  ∃ J jtr, jacF x = .ok (J, jtr) ∧
    (J.rows ≠ (f x).size ∨ J.rows ≠ J.cols ∨ C01.detC J.rows (Mat.ent J) = 0 ∨ x.size ≠ J.rows)

theorem detC_eq_zero_iff (n : Nat) (a : Nat → Nat → Cx ℝ) :
    C01.detC n a = 0 ↔
      @Matrix.det _ _ _ _ CxField.field.toCommRing
        (Matrix.of fun (i j : Fin n) => a i.val j.val) = 0 :=
  not_iff_not.1 (C01.detC_ne_zero_iff n a)

theorem stepPanicsC_iff (f : Array (Cx ℝ) → Array (Cx ℝ))
    (jacF : Array (Cx ℝ) → Res (Mat (Cx ℝ) × List (Array (Cx ℝ)))) (x : Array (Cx ℝ)) :
    StepPanicsC f jacF x ↔ @StepPanics (Cx ℝ) CxField.field f jacF x := by
  unfold StepPanicsC StepPanics detOf
  refine or_congr Iff.rfl (or_congr Iff.rfl (exists_congr fun J => exists_congr fun jtr =>
    and_congr Iff.rfl (or_congr Iff.rfl (or_congr Iff.rfl (or_congr ?_ Iff.rfl)))))
  exact detC_eq_zero_iff J.rows (Mat.ent J)

variable (M : Nat → Nat → Cx ℝ) (c : Nat → Cx ℝ) (n : Nat)

/-- **Newton on a NONSINGULAR complex affine system, supplied Jacobian** (`solve_jacobian` of
    `Newton<Vector<Cmplx>>`).  `f`, read in ℂ, is `x ↦ M x − c` on the vectors of length `n ≥ 1`;
    `det (toC M) ≠ 0` in ℂ (it may be non-real); the supplied Jacobian returns a well-formed
    `n × n` matrix with entries `M`; `0 ≤ tol`.  The stopping test compares the largest MODULUS
    of the residual with `tol` in ℝ.  Then from ANY guess of length `n`:
    * the first step lands on THE solution `x*` of `M x = c`;
    * at `x*` the residual is the zero vector and the second step is exactly zero;
    * `maxIter = 1`: the model returns `x*` flagged `Ok` iff `‖F guess‖∞ ≤ tol` (`Err(x*)`
      otherwise);
    * every `maxIter ≥ 2`: `Ok(x*)`, after at most two iterations. -/
theorem newton_affine_sys_supplied_det_cx (hn : 1 ≤ n) (hdet : C01.detC n M ≠ 0)
    (f : Array (Cx ℝ) → Array (Cx ℝ)) (hF : AffineResC M c n f)
    (jacF : Array (Cx ℝ) → Res (Mat (Cx ℝ) × List (Array (Cx ℝ))))
    (hJ : ∀ x : Array (Cx ℝ), x.size = n → ∃ J jtr, jacF x = .ok (J, jtr) ∧ Mat.Is J n n M)
    (tol : ℝ) (htol : 0 ≤ tol) (guess : Array (Cx ℝ)) (hg : guess.size = n) :
    ∃ (xs : Array (Cx ℝ)) (r0 : ℝ) (jtr0 jtr1 : List (Array (Cx ℝ))),
      RootC M c n xs ∧ (∀ ys, RootC M c n ys → ys = xs) ∧
      Vec.normInfC (f guess) = .ok r0 ∧
      (∃ J0, jacF guess = .ok (J0, jtr0)) ∧
      IsStep f jacF Vec.normInfC (fun r => Transc.le r tol) (decide (r0 ≤ tol)) guess xs ∧
      f xs = Array.replicate n 0 ∧
      (∃ J1, jacF xs = .ok (J1, jtr1) ∧
        Mat.solveBasic J1 (f xs) = .ok (Array.replicate n 0)) ∧
      IsStep f jacF Vec.normInfC (fun r => Transc.le r tol) true xs xs ∧
      solveSys f jacF Vec.normInfC (fun r => Transc.le r tol) 1 guess []
        = .ok (⟨decide (r0 ≤ tol), xs⟩, [guess] ++ jtr0) ∧
      ∀ maxIter, 2 ≤ maxIter →
        solveSys f jacF Vec.normInfC (fun r => Transc.le r tol) maxIter guess []
          = .ok (⟨true, xs⟩, if r0 ≤ tol then [guess] ++ jtr0
                              else [guess] ++ jtr0 ++ [xs] ++ jtr1) := by
  obtain ⟨hN, hN0⟩ := C17X.concrete_normC tol htol n hn
  obtain ⟨xs, r0, jtr0, jtr1, h1, hu, h2, h3, h4, h5, h6, h7, h8, h9⟩ :=
    @newton_affine_sys_supplied_det_gen (Cx ℝ) CxField.field _ _ _ _ ℝ
      M c n hn ((C01.detC_ne_zero_iff n M).1 hdet) f ((affineResC_iff M c n f).1 hF) jacF hJ
      Vec.normInfC (fun r => Transc.le r tol) hN hN0 guess hg []
  refine ⟨xs, r0, jtr0, jtr1, (rootC_iff M c n xs).2 h1,
    fun ys hy => hu ys ((rootC_iff M c n ys).1 hy), h2, h3, h4, h5, h6, h7, h8, ?_⟩
  intro k hk
  have := h9 k hk
  simpa only [show ∀ x y : ℝ, Transc.le x y = decide (x ≤ y) from fun _ _ => rfl,
    decide_eq_true_eq, List.nil_append] using this

/-- **Newton on a NONSINGULAR complex affine system, finite-difference Jacobian**
    (`Newton<Vector<Cmplx>>::solve`): the forward difference of a complex affine map is exact
    for every complex step `delta ≠ 0` (`C18.jacobian_affine_cx`; the crate's `jacobian_cmplx`
    uses `delta = ⟨d, 0⟩` with `d` real), so the same holds with `jacF x = jacobian f x delta`;
    each iteration evaluates `f` `n + 2` times. -/
theorem newton_affine_sys_fd_det_cx (hn : 1 ≤ n) (hdet : C01.detC n M ≠ 0)
    (f : Array (Cx ℝ) → Array (Cx ℝ)) (hF : AffineResC M c n f)
    (delta : Cx ℝ) (hd : delta ≠ 0)
    (tol : ℝ) (htol : 0 ≤ tol) (guess : Array (Cx ℝ)) (hg : guess.size = n) :
    ∃ (xs : Array (Cx ℝ)) (r0 : ℝ) (jtr0 jtr1 : List (Array (Cx ℝ))),
      RootC M c n xs ∧ (∀ ys, RootC M c n ys → ys = xs) ∧
      Vec.normInfC (f guess) = .ok r0 ∧
      jtr0.length = n + 1 ∧ jtr1.length = n + 1 ∧
      (∃ J0, jacobian f guess delta = .ok (J0, jtr0) ∧ Mat.Is J0 n n M) ∧
      IsStep f (fun x => jacobian f x delta) Vec.normInfC (fun r => Transc.le r tol)
        (decide (r0 ≤ tol)) guess xs ∧
      f xs = Array.replicate n 0 ∧
      (∃ J1, jacobian f xs delta = .ok (J1, jtr1) ∧ Mat.Is J1 n n M ∧
        Mat.solveBasic J1 (f xs) = .ok (Array.replicate n 0)) ∧
      IsStep f (fun x => jacobian f x delta) Vec.normInfC (fun r => Transc.le r tol) true xs xs ∧
      solveSys f (fun x => jacobian f x delta) Vec.normInfC (fun r => Transc.le r tol) 1 guess []
        = .ok (⟨decide (r0 ≤ tol), xs⟩, [guess] ++ jtr0) ∧
      ∀ maxIter, 2 ≤ maxIter →
        solveSys f (fun x => jacobian f x delta) Vec.normInfC (fun r => Transc.le r tol)
            maxIter guess []
          = .ok (⟨true, xs⟩, if r0 ≤ tol then [guess] ++ jtr0
                              else [guess] ++ jtr0 ++ [xs] ++ jtr1) := by
  obtain ⟨hN, hN0⟩ := C17X.concrete_normC tol htol n hn
  obtain ⟨xs, r0, jtr0, jtr1, h1, hu, h2, l0, l1, h3, h4, h5, h6, h7, h8, h9⟩ :=
    @newton_affine_sys_fd_det_gen (Cx ℝ) CxField.field _ _ _ _ ℝ
      M c n hn ((C01.detC_ne_zero_iff n M).1 hdet) f ((affineResC_iff M c n f).1 hF) delta hd
      Vec.normInfC (fun r => Transc.le r tol) hN hN0 guess hg []
  refine ⟨xs, r0, jtr0, jtr1, (rootC_iff M c n xs).2 h1,
    fun ys hy => hu ys ((rootC_iff M c n ys).1 hy), h2, l0, l1, h3, h4, h5, h6, h7, h8, ?_⟩
  intro k hk
  have := h9 k hk
  simpa only [show ∀ x y : ℝ, Transc.le x y = decide (x ≤ y) from fun _ _ => rfl,
    decide_eq_true_eq, List.nil_append] using this

/-- the short forms: from ANY guess, every budget `≥ 2` reports `Ok` at THE solution -/
theorem newton_affine_sys_supplied_cx_short (hn : 1 ≤ n) (hdet : C01.detC n M ≠ 0)
    (f : Array (Cx ℝ) → Array (Cx ℝ)) (hF : AffineResC M c n f)
    (jacF : Array (Cx ℝ) → Res (Mat (Cx ℝ) × List (Array (Cx ℝ))))
    (hJ : ∀ x : Array (Cx ℝ), x.size = n → ∃ J jtr, jacF x = .ok (J, jtr) ∧ Mat.Is J n n M)
    (tol : ℝ) (htol : 0 ≤ tol) (guess : Array (Cx ℝ)) (hg : guess.size = n) :
    ∃ xs : Array (Cx ℝ), RootC M c n xs ∧ (∀ ys, RootC M c n ys → ys = xs) ∧
      ∀ maxIter, 2 ≤ maxIter → ∃ tr,
        solveSys f jacF Vec.normInfC (fun r => Transc.le r tol) maxIter guess []
          = .ok (⟨true, xs⟩, tr) := by
  obtain ⟨xs, r0, jtr0, jtr1, h1, hu, _, _, _, _, _, _, _, hall⟩ :=
    newton_affine_sys_supplied_det_cx M c n hn hdet f hF jacF hJ tol htol guess hg
  exact ⟨xs, h1, hu, fun k hk => ⟨_, hall k hk⟩⟩

/-- `Newton<Vector<Cmplx>>::solve` (real step `d ≠ 0` embedded as `d + 0i`) on a nonsingular
    complex affine system -/
theorem newton_affine_sys_fd_cmplx_short (hn : 1 ≤ n) (hdet : C01.detC n M ≠ 0)
    (f : Array (Cx ℝ) → Array (Cx ℝ)) (hF : AffineResC M c n f)
    (d : ℝ) (hd : d ≠ 0)
    (tol : ℝ) (htol : 0 ≤ tol) (guess : Array (Cx ℝ)) (hg : guess.size = n) :
    ∃ xs : Array (Cx ℝ), RootC M c n xs ∧ (∀ ys, RootC M c n ys → ys = xs) ∧
      ∀ maxIter, 2 ≤ maxIter → ∃ tr,
        solveSys f (fun x => jacobian f x (⟨d, 0⟩ : Cx ℝ)) Vec.normInfC
          (fun r => Transc.le r tol) maxIter guess [] = .ok (⟨true, xs⟩, tr) := by
  obtain ⟨xs, r0, jtr0, jtr1, h1, hu, _, _, _, _, _, _, _, _, _, hall⟩ :=
    newton_affine_sys_fd_det_cx M c n hn hdet f hF ⟨d, 0⟩ (C18.ofReal_ne_zero hd) tol htol guess hg
  exact ⟨xs, h1, hu, fun k hk => ⟨_, hall k hk⟩⟩

/-- **an exact root of a complex system with a NONSINGULAR Jacobian is reported at once**: for
    ANY `f : ℂⁿ → ℂⁿ` (on arrays over `Cx ℝ`), if `f x0` is the zero vector of length
    `n = |x0| ≥ 1`, the Jacobian call at `x0` returns a well-formed `n × n` matrix `J` with
    `det (toC J) ≠ 0` in ℂ, then the step is exactly zero and every run with `maxIter ≥ 1`,
    `tol ≥ 0` reports `Ok(x0)` in its first iteration. -/
theorem newton_sys_fixed_point_cx (f : Array (Cx ℝ) → Array (Cx ℝ))
    (jacF : Array (Cx ℝ) → Res (Mat (Cx ℝ) × List (Array (Cx ℝ))))
    (tol : ℝ) (htol : 0 ≤ tol) (n : Nat) (hn : 1 ≤ n)
    (x0 : Array (Cx ℝ)) (hx : x0.size = n) (hroot : f x0 = Array.replicate n 0)
    {J : Mat (Cx ℝ)} {jtr : List (Array (Cx ℝ))} (hjac : jacF x0 = .ok (J, jtr))
    (hJ : Mat.WFn J n) (hdet : C01.detC n (Mat.ent J) ≠ 0) :
    Mat.solveBasic J (f x0) = .ok (Array.replicate n 0) ∧
    IsStep f jacF Vec.normInfC (fun r => Transc.le r tol) true x0 x0 ∧
    ∀ maxIter, 1 ≤ maxIter →
      solveSys f jacF Vec.normInfC (fun r => Transc.le r tol) maxIter x0 []
        = .ok (⟨true, x0⟩, [x0] ++ jtr) := by
  obtain ⟨hN, hN0⟩ := C17X.concrete_normC tol htol n hn
  exact @newton_sys_fixed_point_det_genK (Cx ℝ) CxField.field _ _ _ _ ℝ
    f jacF Vec.normInfC (fun r => Transc.le r tol) n hn x0 hx hroot J jtr hjac hJ
    ((C01.detC_ne_zero_iff n (Mat.ent J)).1 hdet) hN hN0 []

/-- **… and with a SINGULAR Jacobian the run PANICS** although the guess solves the system: the
    residual norm (`0`) and the Jacobian are computed, `solve_basic` fails on the singular complex
    matrix, and every run with `maxIter ≥ 1` ends in that panic, for every `tol`. -/
theorem newton_sys_fixed_point_singular_cx (f : Array (Cx ℝ) → Array (Cx ℝ))
    (jacF : Array (Cx ℝ) → Res (Mat (Cx ℝ) × List (Array (Cx ℝ))))
    (tol : ℝ) (n : Nat) (hn : 1 ≤ n)
    (x0 : Array (Cx ℝ)) (hroot : f x0 = Array.replicate n 0)
    {J : Mat (Cx ℝ)} {jtr : List (Array (Cx ℝ))} (hjac : jacF x0 = .ok (J, jtr))
    (hJ : Mat.WFn J n) (hdet : C01.detC n (Mat.ent J) = 0) :
    ∃ e, Mat.solveBasic J (f x0) = .error e ∧
      ∀ maxIter, 1 ≤ maxIter →
        solveSys f jacF Vec.normInfC (fun r => Transc.le r tol) maxIter x0 [] = .error e := by
  obtain ⟨e, he, _, h, _⟩ := @newton_sys_fixed_point_singular_genK (Cx ℝ) CxField.field _ _ _
    ℝ f jacF Vec.normInfC (fun r => Transc.le r tol) n hn
    (fun v hv => C17X.normInfBy_total _ (hv ▸ hn)) x0 hroot J jtr hjac hJ
    ((detC_eq_zero_iff n (Mat.ent J)).1 hdet) []
  exact ⟨e, he, h⟩

/-- **when a complex system run panics**: with the complex inf-norm, any tolerance test, and
    Jacobian calls that return well-formed matrices, the run PANICS if and only if, after
    `k < maxIter` full Newton steps none of which met the tolerance, at the point `c` reached:
    the residual is empty, or the Jacobian call panics, or the Jacobian is not square of the
    order of the residual, or it is SINGULAR (`det = 0` over ℂ), or `c` and the step have
    different lengths (`StepPanicsC`). -/
theorem sys_panics_iff_cx (f : Array (Cx ℝ) → Array (Cx ℝ))
    (jacF : Array (Cx ℝ) → Res (Mat (Cx ℝ) × List (Array (Cx ℝ))))
    (hWF : ∀ x J jtr, jacF x = .ok (J, jtr) → J.WF) (leTol : ℝ → Bool)
    (n : Nat) (guess : Array (Cx ℝ)) (tr : List (Array (Cx ℝ))) :
    (∃ e, solveSys f jacF Vec.normInfC leTol n guess tr = .error e) ↔
      ∃ k c, k < n ∧ Chain f jacF Vec.normInfC leTol k guess c ∧ StepPanicsC f jacF c := by
  have := @sys_panics_iff_gen (Cx ℝ) CxField.field _ _ _ ℝ f jacF
    Vec.normInfC (C17X.normInfBy_error_iff _) hWF leTol n guess tr
  rw [this]
  exact exists_congr fun k => exists_congr fun c =>
    and_congr Iff.rfl (and_congr Iff.rfl (stepPanicsC_iff f jacF c).symm)

/-- **… for the finite-difference method** (`Newton<Vector<Cmplx>>::solve`): no hypothesis on
    `f` at all (a returning `jacobian_cmplx` is well-formed, `C17.jacobian_ok_shape`) -/
theorem sys_panics_iff_fd_cx (f : Array (Cx ℝ) → Array (Cx ℝ)) (delta : Cx ℝ) (leTol : ℝ → Bool)
    (n : Nat) (guess : Array (Cx ℝ)) (tr : List (Array (Cx ℝ))) :
    (∃ e, solveSys f (fun x => jacobian f x delta) Vec.normInfC leTol n guess tr = .error e) ↔
      ∃ k c, k < n ∧ Chain f (fun x => jacobian f x delta) Vec.normInfC leTol k guess c ∧
        StepPanicsC f (fun x => jacobian f x delta) c :=
  sys_panics_iff_cx f (fun x => jacobian f x delta)
    (fun x J jtr h => (jacobian_ok_shape f x delta J jtr h).1) leTol n guess tr

end Complex

section Examples
open Ohsl.RealI Ohsl.CxField Ohsl.Props.C13 Ohsl.Props.C14

/-- the complex matrix `[[i, 1], [1, 1]]`, `det = i − 1` (not real) -/
def exXJ : Mat (Cx ℝ) := ⟨#[⟨0, 1⟩, ⟨1, 0⟩, ⟨1, 0⟩, ⟨1, 0⟩], 2, 2⟩
/-- the right-hand side `(2i, 1 + i)`: the solution of `exXJ x = c` is `(1, i)` -/
def exXC (i : Nat) : Cx ℝ := (#[⟨0, 2⟩, ⟨1, 1⟩] : Array (Cx ℝ)).getD i 0
/-- the residual `(x, y) ↦ (i x + y − 2i, x + y − (1 + i))`, written with the model's complex
    operations -/
def exXF (x : Array (Cx ℝ)) : Array (Cx ℝ) :=
  #[⟨0, 1⟩ * x.getD 0 0 + x.getD 1 0 - ⟨0, 2⟩, x.getD 0 0 + x.getD 1 0 - ⟨1, 1⟩]
/-- the singular complex matrix `[[i, 1], [-1, i]]`, `det = i² + 1 = 0` -/
def exXS : Mat (Cx ℝ) := ⟨#[⟨0, 1⟩, ⟨1, 0⟩, ⟨-1, 0⟩, ⟨0, 1⟩], 2, 2⟩

theorem exXJ_is : Mat.Is exXJ 2 2 (Mat.ent exXJ) := Mat.WFn.is ⟨rfl, rfl, rfl⟩

theorem toC_mk_one_zero : toC (⟨1, 0⟩ : Cx ℝ) = 1 := rfl
theorem toC_mk_zero_one : toC (⟨0, 1⟩ : Cx ℝ) = Complex.I := rfl

theorem detC_two (a : Nat → Nat → Cx ℝ) :
    C01.detC 2 a = toC (a 0 0) * toC (a 1 1) - toC (a 0 1) * toC (a 1 0) :=
  Matrix.det_fin_two _

/-- the determinant is `i − 1`: its imaginary part is `1` -/
theorem exXJ_det_im : (C01.detC 2 (Mat.ent exXJ)).im = 1 := by
  rw [detC_two]
  show (toC ⟨0, 1⟩ * toC ⟨1, 0⟩ - toC ⟨1, 0⟩ * toC ⟨1, 0⟩).im = 1
  rw [toC_mk_one_zero, toC_mk_zero_one, mul_one, mul_one, Complex.sub_im, Complex.I_im, Complex.one_im,
    sub_zero]

theorem exXJ_det : C01.detC 2 (Mat.ent exXJ) ≠ 0 := fun h => by
  have := exXJ_det_im
  rw [h, Complex.zero_im] at this
  exact zero_ne_one this

theorem exXS_det : C01.detC 2 (Mat.ent exXS) = 0 := by
  rw [detC_two]
  show toC ⟨0, 1⟩ * toC ⟨0, 1⟩ - toC ⟨1, 0⟩ * toC ⟨-1, 0⟩ = 0
  rw [toC_mk_one_zero, toC_mk_zero_one, one_mul, Complex.I_mul_I, sub_eq_zero]
  apply Complex.ext <;> simp [toC]

theorem exXF_affine : AffineResC (Mat.ent exXJ) exXC 2 exXF := by
  intro x _
  refine ⟨rfl, fun i hi => ?_⟩
  rw [Finset.sum_range_succ, Finset.sum_range_succ, Finset.sum_range_zero, zero_add]
  -- row `i` of the system, its entries read off the buffers
  interval_cases i
  · show toC (⟨0, 1⟩ * x.getD 0 0 + x.getD 1 0 - ⟨0, 2⟩)
      = toC ⟨0, 1⟩ * toC (x[0]?.getD 0) + toC ⟨1, 0⟩ * toC (x[1]?.getD 0) - toC ⟨0, 2⟩
    rw [toC_sub, toC_add, toC_mul, toC_mk_one_zero, one_mul, Array.getD_eq_getD_getElem?,
      Array.getD_eq_getD_getElem?]
  · show toC (x.getD 0 0 + x.getD 1 0 - ⟨1, 1⟩)
      = toC ⟨1, 0⟩ * toC (x[0]?.getD 0) + toC ⟨1, 0⟩ * toC (x[1]?.getD 0) - toC ⟨1, 1⟩
    rw [toC_sub, toC_add, toC_mk_one_zero, one_mul, one_mul, Array.getD_eq_getD_getElem?,
      Array.getD_eq_getD_getElem?]

theorem exX_root : RootC (Mat.ent exXJ) exXC 2 #[⟨1, 0⟩, ⟨0, 1⟩] := by
  refine ⟨rfl, fun i hi => ?_⟩
  rw [Finset.sum_range_succ, Finset.sum_range_succ, Finset.sum_range_zero, zero_add]
  interval_cases i
  · show toC ⟨0, 1⟩ * toC ⟨1, 0⟩ + toC ⟨1, 0⟩ * toC ⟨0, 1⟩ = toC ⟨0, 2⟩
    rw [toC_mk_one_zero, mul_one, one_mul, toC_mk_zero_one, ← two_mul]
    apply Complex.ext <;> simp [toC]
  · show toC ⟨1, 0⟩ * toC ⟨1, 0⟩ + toC ⟨1, 0⟩ * toC ⟨0, 1⟩ = toC ⟨1, 1⟩
    rw [toC_mk_one_zero, mul_one, one_mul, toC_mk_zero_one]
    apply Complex.ext <;> simp [toC]

/-- **a 2 × 2 complex affine system with a non-real determinant, solved in one step**: from ANY
    guess `(z₀, z₁)`, with the exact Jacobian supplied, a budget of ONE iteration already returns
    the solution `(1, i)` (flagged by the residual of the guess), and every budget `≥ 2` reports
    `Ok((1, i))`. -/
example (guess : Array (Cx ℝ)) (hg : guess.size = 2) :
    (∃ flag tr, solveSys exXF (fun _ => .ok (exXJ, [])) Vec.normInfC
        (fun r => Transc.le r (1 / 100)) 1 guess [] = .ok (⟨flag, #[⟨1, 0⟩, ⟨0, 1⟩]⟩, tr)) ∧
    ∀ maxIter, 2 ≤ maxIter → ∃ tr, solveSys exXF (fun _ => .ok (exXJ, [])) Vec.normInfC
        (fun r => Transc.le r (1 / 100)) maxIter guess [] = .ok (⟨true, #[⟨1, 0⟩, ⟨0, 1⟩]⟩, tr) := by
  obtain ⟨xs, r0, jtr0, jtr1, _, hu, _, _, _, _, _, _, h1, hall⟩ :=
    newton_affine_sys_supplied_det_cx (Mat.ent exXJ) exXC 2 (by norm_num) exXJ_det exXF exXF_affine
      (fun _ => .ok (exXJ, [])) (fun _ _ => ⟨_, _, rfl, exXJ_is⟩) (1 / 100) (by norm_num) guess hg
  have e : #[⟨1, 0⟩, ⟨0, 1⟩] = xs := hu _ exX_root
  rw [e]
  exact ⟨⟨_, _, h1⟩, fun k hk => ⟨_, hall k hk⟩⟩

/-- **… and with `jacobian_cmplx`** (finite differences, real step `1/4`): the same, each
    iteration evaluating the residual `2 + 2 = 4` times -/
example (guess : Array (Cx ℝ)) (hg : guess.size = 2) :
    ∀ maxIter, 2 ≤ maxIter → ∃ tr,
      solveSys exXF (fun x => jacobian exXF x (⟨1 / 4, 0⟩ : Cx ℝ)) Vec.normInfC
        (fun r => Transc.le r (1 / 100)) maxIter guess [] = .ok (⟨true, #[⟨1, 0⟩, ⟨0, 1⟩]⟩, tr) := by
  obtain ⟨xs, _, hu, hall⟩ :=
    newton_affine_sys_fd_cmplx_short (Mat.ent exXJ) exXC 2 (by norm_num) exXJ_det exXF exXF_affine
      (1 / 4) (by norm_num) (1 / 100) (by norm_num) guess hg
  have e : #[⟨1, 0⟩, ⟨0, 1⟩] = xs := hu _ exX_root
  rw [e]
  exact hall

/-- **an exact root with a singular complex Jacobian**: `F(x, y) = (i x + y, −x + i y)` vanishes
    at `(0, 0)`, its Jacobian `[[i, 1], [−1, i]]` has `det = i² + 1 = 0`: every run with
    `maxIter ≥ 1` started at the root PANICS. -/
example : ∃ e, ∀ maxIter, 1 ≤ maxIter →
    solveSys (fun x : Array (Cx ℝ) =>
        #[⟨0, 1⟩ * x.getD 0 0 + x.getD 1 0, -(x.getD 0 0) + ⟨0, 1⟩ * x.getD 1 0])
      (fun _ => .ok (exXS, [])) Vec.normInfC (fun r => Transc.le r (1 / 100)) maxIter
      #[0, 0] [] = .error e := by
  obtain ⟨e, _, h⟩ := newton_sys_fixed_point_singular_cx
    (fun x : Array (Cx ℝ) =>
        #[⟨0, 1⟩ * x.getD 0 0 + x.getD 1 0, -(x.getD 0 0) + ⟨0, 1⟩ * x.getD 1 0])
    (fun _ => .ok (exXS, [])) (1 / 100) 2 (by norm_num) #[0, 0]
    (by
      have e1 : (⟨0, 1⟩ : Cx ℝ) * 0 + 0 = 0 :=
        toC_injective (by rw [toC_add, toC_mul, toC_zero, mul_zero, add_zero])
      have e2 : -(0 : Cx ℝ) + ⟨0, 1⟩ * 0 = 0 :=
        toC_injective (by rw [toC_add, toC_neg, toC_mul, toC_zero, neg_zero, mul_zero, add_zero])
      show #[(⟨0, 1⟩ : Cx ℝ) * 0 + 0, -(0 : Cx ℝ) + ⟨0, 1⟩ * 0] = #[0, 0]
      rw [e1, e2])
    (J := exXS) (jtr := []) rfl ⟨rfl, rfl, rfl⟩ exXS_det
  exact ⟨e, h⟩

end Examples

end Ohsl.Props.C17
