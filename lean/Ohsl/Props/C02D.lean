/-
  Property C02 (continued) — `determinant()` and `inverse()` against `Matrix.det` and the inverse.
  Model: Ohsl/Model/Solve.lean (`luPivot`, `luElimRow`, `luStep`, `luDecomp`, `determinant`).

  Class (E): exact linearly ordered field whose order is compatible with the operations
  (`IsStrictOrderedRing`; `divM` fails only on an exact zero, `mag = |·|`).

  * `luDecomp_total`, `luDecomp_correct`   the factorisation never fails on a square matrix, and
                            factorises
  * `determinant_correct`, `determinant_total`, `determinant_sound`   the value returned is the
                            determinant, for EVERY well-formed square matrix
  * `determinant_singular`, `determinant_zero_column`, `determinant_equal_rows`,
    `determinant_ok_iff_square`
  * `inverse_correct`, `inverse_singular_rejects`, `inverse_ok_iff`, `inverse_sound`,
    `inverse_eq_inv`
-/
import Ohsl.Props.C02
import Ohsl.Lemmas.LUDet
import Mathlib.Algebra.Order.Field.Rat
import Mathlib.Tactic.NormNum
namespace Ohsl.Props.C02
open Ohsl Ohsl.Mat

section Exact
variable {K : Type} [Field K] [LinearOrder K] [IsStrictOrderedRing K]
attribute [local instance] Alg.scalarExt

/-- (E) the in-place LU factorisation with partial pivoting **never fails on a well-formed square
    matrix** — a column that is zero on and below the diagonal is skipped, so no division by zero
    can occur — and it returns well-formed `n × n` factors and permutation. -/
theorem luDecomp_total {A : Mat K} {n : Nat} {a : Nat → Nat → K} (h : Mat.Is A n n a) :
    ∃ s, luDecomp A = .ok s ∧ s.lu.WF ∧ s.lu.rows = n ∧ s.lu.cols = n ∧
      s.perm.WF ∧ s.perm.rows = n ∧ s.perm.cols = n := by
  obtain ⟨s, w, pe, hs, hw, hpe, _⟩ := Mat.luDecomp_spec h
  exact ⟨s, hs, hw.wf, hw.rows, hw.cols, hpe.wf, hpe.rows, hpe.cols⟩

/-- (E) **`lu_decomp_in_place` factorises**: with `w` the returned in-place matrix (unit lower
    factor `Mat.Lfn w` = stored multipliers, upper factor `Mat.Umat n n w` = upper triangle of `w`)
    and `pe` the recorded permutation matrix, `P·A = L·U`, `det P = (-1)^pivots` and
    `det U = (-1)^pivots · det A`. -/
theorem luDecomp_correct {A : Mat K} {n : Nat} {a : Nat → Nat → K} (h : Mat.Is A n n a) :
    ∃ (s : LU K) (w pe : Nat → Nat → K), luDecomp A = .ok s ∧ Mat.Is s.lu n n w ∧
      Mat.Is s.perm n n pe ∧
      Mat.toMat n pe * Mat.toMat n a = Mat.toMat n (Mat.Lfn w) * Mat.Umat n n w ∧
      Matrix.det (Mat.toMat n pe) = (-1) ^ s.pivots ∧
      Matrix.det (Mat.Umat n n w) = (-1) ^ s.pivots * Matrix.det (Mat.toMat n a) :=
  Mat.luDecomp_spec h

/-- (E) MAIN THEOREM. For every well-formed square matrix `determinant` returns a value, and that
    value is the determinant (total: singular matrices give 0, nothing panics). -/
theorem determinant_correct {A : Mat K} {n : Nat} {a : Nat → Nat → K} (h : Mat.Is A n n a) :
    ∃ d, Mat.determinant A = .ok d ∧
      d = Matrix.det (Matrix.of fun (i j : Fin n) => a i.val j.val) :=
  ⟨_, determinant_spec h, rfl⟩

/-- (E) totality alone -/
theorem determinant_total {A : Mat K} {n : Nat} {a : Nat → Nat → K} (h : Mat.Is A n n a) :
    ∃ d, Mat.determinant A = .ok d := ⟨_, determinant_spec h⟩

/-- (E) soundness alone: any returned value is the determinant -/
theorem determinant_sound {A : Mat K} {n : Nat} {a : Nat → Nat → K} (h : Mat.Is A n n a) (d : K)
    (hd : Mat.determinant A = .ok d) :
    d = Matrix.det (Matrix.of fun (i j : Fin n) => a i.val j.val) := by
  rw [determinant_spec h] at hd
  cases hd; rfl

theorem determinant_of_wf (A : Mat K) (hwf : A.WF) (hsq : A.rows = A.cols) :
    Mat.determinant A = .ok (Matrix.det (Matrix.of fun (i j : Fin A.rows) =>
      Mat.entryOf A i.val j.val)) := by
  have h : Mat.Is A A.rows A.rows (Mat.entryOf A) := by
    have := Mat.Is.of_wf hwf
    rw [← hsq] at this
    exact this
  exact determinant_spec h

/-- (E) `determinant` returns a value exactly on square matrices (for well-formed input) -/
theorem determinant_ok_iff_square (A : Mat K) (hwf : A.WF) :
    (∃ d, Mat.determinant A = .ok d) ↔ A.rows = A.cols := by
  constructor
  · rintro ⟨d, hd⟩
    by_contra hne
    rw [determinant_rejects A hne] at hd
    cases hd
  · intro hsq
    exact ⟨_, determinant_of_wf A hwf hsq⟩

/-- (E) a singular matrix is not an error: the result is exactly 0 -/
theorem determinant_singular {A : Mat K} {n : Nat} {a : Nat → Nat → K} (h : Mat.Is A n n a)
    (hs : Matrix.det (Matrix.of fun (i j : Fin n) => a i.val j.val) = 0) :
    Mat.determinant A = .ok 0 := by
  rw [determinant_spec h, hs]

/-- (E) a matrix with a zero column (the very first pivot search finds nothing, the column is
    skipped) has `determinant = .ok 0` -/
theorem determinant_zero_column {A : Mat K} {n : Nat} {a : Nat → Nat → K} (h : Mat.Is A n n a)
    {c : Nat} (hc : c < n) (hz : ∀ r, r < n → a r c = 0) : Mat.determinant A = .ok 0 := by
  apply determinant_singular h
  exact Matrix.det_eq_zero_of_column_eq_zero ⟨c, hc⟩ (fun r => hz r.val r.isLt)

/-- (E) a matrix with two equal rows has `determinant = .ok 0` -/
theorem determinant_equal_rows {A : Mat K} {n : Nat} {a : Nat → Nat → K} (h : Mat.Is A n n a)
    {r1 r2 : Nat} (h1 : r1 < n) (h2 : r2 < n) (hne : r1 ≠ r2) (heq : ∀ c, c < n → a r1 c = a r2 c) :
    Mat.determinant A = .ok 0 := by
  apply determinant_singular h
  refine Matrix.det_zero_of_row_eq (i := ⟨r1, h1⟩) (j := ⟨r2, h2⟩) ?_ ?_
  · intro e; exact hne (Fin.mk.injEq _ _ _ _ ▸ e)
  · funext c; exact heq c.val c.isLt

/-- (E) **`inverse()` computes the inverse**: for every well-formed square matrix with non-zero
    determinant the call succeeds, returns a well-formed `n × n` matrix `B`, and `A·B = 1` and
    `B·A = 1` hold exactly (as Mathlib matrices; `Mat.toMat n a = Matrix.of fun i j => a i j`). -/
theorem inverse_correct {A : Mat K} {n : Nat} {a : Nat → Nat → K} (h : Mat.Is A n n a)
    (hdet : Matrix.det (Mat.toMat n a) ≠ 0) :
    ∃ (B : Mat K) (b : Nat → Nat → K), Mat.inverse A = .ok B ∧ Mat.Is B n n b ∧
      Mat.toMat n a * Mat.toMat n b = 1 ∧ Mat.toMat n b * Mat.toMat n a = 1 :=
  Mat.inverse_spec h hdet

/-- (E) a singular matrix is refused with a division by an exact zero; no value is returned -/
theorem inverse_singular_rejects {A : Mat K} {n : Nat} {a : Nat → Nat → K} (h : Mat.Is A n n a)
    (hdet : Matrix.det (Mat.toMat n a) = 0) : Mat.inverse A = .error .arith :=
  Mat.inverse_singular h hdet

/-- (E) `inverse` returns a value exactly on the non-singular matrices -/
theorem inverse_ok_iff {A : Mat K} {n : Nat} {a : Nat → Nat → K} (h : Mat.Is A n n a) :
    (∃ B, Mat.inverse A = .ok B) ↔ Matrix.det (Mat.toMat n a) ≠ 0 :=
  Mat.inverse_ok_iff h

/-- (E) soundness: any returned matrix is well-formed `n × n` and is a two-sided inverse -/
theorem inverse_sound {A B : Mat K} {n : Nat} {a : Nat → Nat → K} (h : Mat.Is A n n a)
    (hB : Mat.inverse A = .ok B) :
    B.WF ∧ B.rows = n ∧ B.cols = n ∧
      Mat.toMat n a * Mat.toMat n (Mat.entryOf B) = 1 ∧
      Mat.toMat n (Mat.entryOf B) * Mat.toMat n a = 1 := by
  have hdet := (inverse_ok_iff h).mp ⟨B, hB⟩
  obtain ⟨B', b, hB', hb, h1, h2⟩ := inverse_correct h hdet
  rw [hB] at hB'
  cases hB'
  -- `b` and the entries read off the buffer both describe `B`
  have hwf : Mat.Is B n n (Mat.entryOf B) := by
    have := Mat.Is.of_wf hb.wf
    rwa [hb.rows, hb.cols] at this
  have hbe : Mat.toMat n (Mat.entryOf B) = Mat.toMat n b := by
    ext r c
    exact Except.ok.inj ((hwf.get r.isLt c.isLt).symm.trans (hb.get r.isLt c.isLt))
  rw [hbe]
  exact ⟨hb.wf, hb.rows, hb.cols, h1, h2⟩

/-- (E) the returned matrix is Mathlib's `A⁻¹` -/
theorem inverse_eq_inv {A : Mat K} {n : Nat} {a : Nat → Nat → K} (h : Mat.Is A n n a)
    (hdet : Matrix.det (Mat.toMat n a) ≠ 0) :
    ∃ (B : Mat K) (b : Nat → Nat → K), Mat.inverse A = .ok B ∧ Mat.Is B n n b ∧
      Mat.toMat n b = (Mat.toMat n a)⁻¹ :=
  Mat.inverse_eq_inv h hdet

end Exact

section Examples
attribute [local instance] Alg.scalarExt

/-- row-major `n × n` matrix from a list of entries -/
def ofList (n : Nat) (l : List ℚ) : Mat ℚ := ⟨l.toArray, n, n⟩

theorem ofList_is (n : Nat) (l : List ℚ) (hl : l.length = n * n) :
    Mat.Is (ofList n l) n n (Mat.entryOf (ofList n l)) :=
  Mat.Is.of_wf (m := ofList n l) (by simp [ofList, Mat.WF, hl])

theorem det_ofList2 (a b c d : ℚ) :
    Matrix.det (Mat.toMat 2 (Mat.entryOf (ofList 2 [a, b, c, d]))) = a * d - b * c := by
  rw [Matrix.det_fin_two]
  rfl

example : Mat.determinant (ofList 1 [7]) = .ok 7 := by
  rw [determinant_spec (ofList_is 1 [7] rfl), Matrix.det_fin_one]
  congr 1

example : Mat.determinant (ofList 2 [1, 2, 3, 4]) = .ok (-2) := by
  rw [determinant_spec (ofList_is 2 [1, 2, 3, 4] rfl)]
  exact congrArg Except.ok ((det_ofList2 1 2 3 4).trans (by norm_num))

/-- singular, with a zero leading column: no panic, result 0 -/
example : Mat.determinant (ofList 2 [0, 1, 0, 5]) = .ok 0 := by
  refine determinant_zero_column (ofList_is 2 [0, 1, 0, 5] rfl) (c := 0) (by decide) ?_
  intro r hr
  obtain rfl | rfl : r = 0 ∨ r = 1 := by omega
  all_goals rfl

/-- singular with non-zero entries everywhere ([[1,2],[2,4]]): the second pivot search finds
    nothing, the column is skipped -/
example : Mat.determinant (ofList 2 [1, 2, 2, 4]) = .ok 0 :=
  determinant_singular (ofList_is 2 [1, 2, 2, 4] rfl) ((det_ofList2 1 2 2 4).trans (by norm_num))

/-- [[1,2],[3,4]] is inverted (hypothesis of `inverse_correct` satisfiable) -/
example : ∃ B, Mat.inverse (ofList 2 [1, 2, 3, 4]) = .ok B :=
  (inverse_ok_iff (ofList_is 2 [1, 2, 3, 4] rfl)).mpr (by rw [det_ofList2]; norm_num)

/-- [[1,2],[2,4]] is refused -/
example : Mat.inverse (ofList 2 [1, 2, 2, 4]) = .error .arith :=
  inverse_singular_rejects (ofList_is 2 [1, 2, 2, 4] rfl)
    ((det_ofList2 1 2 2 4).trans (by norm_num))

end Examples

end Ohsl.Props.C02
