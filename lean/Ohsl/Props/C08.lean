/-
  Property C08 — iterative solvers: reported success means solved to the tolerance.
  Model: Ohsl/Model/Krylov.lean (polymorphic in the scalar K and the vector type V).

  (E) `cg_success_sound`: K a field, V a K-module, A linear, ARBITRARY dot product / norm /
      comparison / transpose-product.  The residual held by the solver equals the true residual
      b − A x, hence a reported success certifies that the quantity the code tested passed the
      code's comparison.
  (S) `cg_iter_bound`, `budget_zero_untouched`: any K, any operations; read off the rule of the
      driver `krylovRun` the four solvers share (Lemmas/Iterate).  `cgNext`, `cgStates`, `cgInit`:
      the state sequence of the CG loop with the stopping tests ignored, by which a successful run
      is described (`solveCG_trace`).
  Class F: the rounding drift between the recurrence residual and b − A x is bounded, in the standard
  model of rounding, in C08F / C08G / C08H (CG, BiCG, BiCGSTAB; not QMR); finiteness of x is not
  proved — float oracle only.
-/
import Ohsl.Lemmas.Iterate
import Mathlib.Algebra.Module.LinearMap.Defs
import Mathlib.Algebra.Module.Basic
import Mathlib.Tactic.Abel

namespace Ohsl.Props.C08
open Ohsl Ohsl.Krylov

section StepCount
variable {K V : Type} [Div K] [Transc K]

theorem cgStep_iters (o : VOps K V) (normb tol : K) (i : Nat) (s : CGState K V) :
    (cgStep o normb tol i s).Sat (fun _ => True) (fun r => r.iters = i) := by
  unfold cgStep
  extract_lets
  exact .ite (fun _ => rfl) fun _ => trivial

end StepCount

section Structural
variable {K V : Type} [Add K] [Sub K] [Mul K] [Neg K] [Div K] [Zero K] [One K] [BEq K] [Transc K]

set_option linter.unusedSectionVars false in
theorem cg_iter_bound (o : VOps K V) (b x : V) (maxIter : Nat) (tol : K) :
    (solveCG o b x maxIter tol).iters ≤ maxIter :=
  krylovRun_iters_le (cgStep_iters o _ tol)

end Structural

section BudgetZero
variable {K V : Type} [Add K] [Mul K] [Neg K] [Div K] [Zero K] [One K] [BEq K] [Transc K]

theorem budget_zero_untouched (o : VOps K V) (b x : V) (tol : K) (itol : Nat) :
    (solveCG o b x 0 tol).x = x ∧ (solveBiCG o b x 0 tol itol).x = x ∧
    (solveBiCGSTAB o b x 0 tol).x = x ∧ (solveQMR o b x 0 tol).x = x := by
  exact ⟨krylovRun_zero (step := cgStep o _ tol) rfl, krylovRun_zero (step := bicgStep o _ tol itol) rfl,
    krylovRun_zero (step := stabStep o _ _ tol) rfl, krylovRun_zero (step := qmrStep o _ tol) rfl⟩

end BudgetZero

section Update
variable {K V : Type} [Field K] [AddCommGroup V] [Module K V]

/-- vector operations of a `K`-module with a linear `A`; dot product, norm and transposed product
    are arbitrary functions -/
def modOps (A : V →ₗ[K] V) (At : V → V) (dot : V → V → K) (norm2 : V → K) : VOps K V where
  add := (· + ·)
  sub := (· - ·)
  smul v k := k • v
  lsmul k v := k • v
  sdiv v k := k⁻¹ • v
  dot := dot
  norm2 := norm2
  zero := 0
  A := A
  At := At

theorem resid_update (A : V →ₗ[K] V) (b : V) {x r : V} (p : V) (c : K) (h : r = b - A x) :
    r - c • A p = b - A (x + c • p) := by
  rw [h, A.map_add, A.map_smul, sub_sub]

end Update

section StepExact
variable {K V : Type} [Field K] [Transc K] [AddCommGroup V] [Module K V]
variable (A : V →ₗ[K] V) (At : V → V) (dot : V → V → K) (norm2 : V → K)

theorem cgStep_residual (b : V) (normb tol : K) (i : Nat) (s : CGState K V) (h : s.r = b - A s.x) :
    (cgStep (modOps A At dot norm2) normb tol i s).Sat (fun s' => s'.r = b - A s'.x)
      (fun out => out.ok = true → Transc.le (norm2 (b - A out.x) / normb) tol = true) := by
  unfold cgStep
  extract_lets z rho p q alpha x r resid
  have hr : r = b - A x := resid_update A b p alpha h
  refine .ite (fun hle _ => ?_) fun _ => hr
  show Transc.le (norm2 (b - A x) / normb) tol = true
  rw [← hr]
  exact hle

end StepExact

section Exact
variable {K V : Type} [Field K] [DecidableEq K] [Transc K] [AddCommGroup V] [Module K V]

variable (A : V →ₗ[K] V) (At : V → V) (dot : V → V → K) (norm2 : V → K)

/-- **CG: success ⇒ the true relative residual passed the test.**  `guardNorm (norm2 b)` is the
    divisor the code uses (‖b‖, or 1 when ‖b‖ = 0). -/
theorem cg_success_sound (b x : V) (maxIter : Nat) (tol : K) :
    (solveCG (modOps A At dot norm2) b x maxIter tol).ok = true →
      Transc.le (norm2 (b - A (solveCG (modOps A At dot norm2) b x maxIter tol).x) / guardNorm (norm2 b)) tol = true :=
  krylovRun_success (fun s : CGState K V => s.r = b - A s.x)
    (fun y => Transc.le (norm2 (b - A y) / guardNorm (norm2 b)) tol = true) id rfl
    (cgStep_residual A At dot norm2 b _ tol)

end Exact

section States
variable {K V : Type} [Div K]

/-- the search direction used in iteration `i` from state `s` -/
def cgP (o : VOps K V) (i : Nat) (s : CGState K V) : V :=
  cgDir o i s.r s.p (o.dot s.r s.r) s.rho1

/-- the step length `α` computed in iteration `i` from state `s` -/
def cgAlpha (o : VOps K V) (i : Nat) (s : CGState K V) : K :=
  o.dot s.r s.r / o.dot (cgP o i s) (o.A (cgP o i s))

/-- the state after iteration `i` (the stopping test ignored) -/
def cgNext (o : VOps K V) (normb : K) (i : Nat) (s : CGState K V) : CGState K V :=
  ⟨o.add s.x (o.smul (cgP o i s) (cgAlpha o i s)),
   o.sub s.r (o.smul (o.A (cgP o i s)) (cgAlpha o i s)),
   cgP o i s,
   o.dot s.r s.r,
   o.norm2 (o.sub s.r (o.smul (o.A (cgP o i s)) (cgAlpha o i s))) / normb⟩

section Step
variable [Transc K]

theorem cgStep_eq_next (o : VOps K V) (normb tol : K) (i : Nat) (s : CGState K V) :
    cgStep o normb tol i s =
      if Transc.le (cgNext o normb i s).resid tol
      then .done ⟨true, i, (cgNext o normb i s).resid, (cgNext o normb i s).x⟩
      else .cont (cgNext o normb i s) := rfl

end Step

/-- the un-tested CG state sequence: state `j` is the state after `j` iterations -/
def cgStates (o : VOps K V) (normb : K) (s0 : CGState K V) : Nat → CGState K V :=
  loopStates (cgNext o normb) s0

variable [One K]

/-- the state `solveCG` enters its loop with (`normb` the divisor of the tested quantity) -/
def cgInit (o : VOps K V) (b x : V) (normb : K) : CGState K V :=
  ⟨x, o.sub b (o.A x), o.zero, 1, o.norm2 (o.sub b (o.A x)) / normb⟩

theorem cgStates_resid (o : VOps K V) (b x : V) (normb : K) (k : Nat) :
    (cgStates o normb (cgInit o b x normb) k).resid
      = o.norm2 (cgStates o normb (cgInit o b x normb) k).r / normb := by
  cases k <;> rfl

variable [Zero K] [BEq K] [Transc K]

theorem solveCG_eq_run (o : VOps K V) (b x : V) (maxIter : Nat) (tol : K) :
    solveCG o b x maxIter tol = krylovRun (cgStep o (guardNorm (o.norm2 b)) tol) CGState.resid CGState.x
      x (o.norm2 (o.sub b (o.A x)) / guardNorm (o.norm2 b)) tol maxIter
      (cgInit o b x (guardNorm (o.norm2 b))) := rfl

theorem solveCG_trace (o : VOps K V) (b x : V) (maxIter : Nat) (tol : K)
    (hok : (solveCG o b x maxIter tol).ok = true) :
    (solveCG o b x maxIter tol).iters ≤ maxIter ∧
    (solveCG o b x maxIter tol).x
      = (cgStates o (guardNorm (o.norm2 b)) (cgInit o b x (guardNorm (o.norm2 b)))
          (solveCG o b x maxIter tol).iters).x ∧
    Transc.le (o.norm2 (cgStates o (guardNorm (o.norm2 b)) (cgInit o b x (guardNorm (o.norm2 b)))
          (solveCG o b x maxIter tol).iters).r / guardNorm (o.norm2 b)) tol = true := by
  rw [← cgStates_resid]
  rw [solveCG_eq_run] at hok ⊢
  exact krylovRun_trace (cgNext o (guardNorm (o.norm2 b))) (cgStep_eq_next o _ tol) rfl rfl hok

theorem solveCG_success_of_states (o : VOps K V) (b x : V) (maxIter : Nat) (tol : K) (k : Nat)
    (hk : k ≤ maxIter)
    (hpass : Transc.le (cgStates o (guardNorm (o.norm2 b)) (cgInit o b x (guardNorm (o.norm2 b))) k).resid
      tol = true) :
    (solveCG o b x maxIter tol).ok = true ∧ (solveCG o b x maxIter tol).iters ≤ k := by
  rw [solveCG_eq_run]
  exact krylovRun_of_pass (cgNext o (guardNorm (o.norm2 b))) (cgStep_eq_next o _ tol) rfl k hk hpass

end States

end Ohsl.Props.C08
