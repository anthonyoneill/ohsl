/-
  Property C04 (continued) — the banded solver and determinant (`bandec` / `banbks`) for EVERY exact
  element type, complex scalars included (model: Ohsl/Model/Banded.lean).
  The soundness of `solve` needs `Alg.DivLaw` only: it does not depend on WHICH row the pivot search
  picks; the determinant needs `Alg.PivotLaws`: the chosen pivot has maximal size.  See the header
  of Ohsl/Props/C01X.lean.

  * `solve_sound_gen`, `det_correct_gen`, `det_ne_zero_solvable_gen`: any field with the laws
    (C04B / C04D are the ordered instance)
  * `solve_sound_cx`, `det_correct_cx`, `det_sound_cx`, `det_ne_zero_solvable_cx`: the model's
    `Cx ℝ` with its own instances; equations and determinants over ℂ through `toC`.
-/
import Ohsl.Props.C04D
import Ohsl.Props.C01X
import Ohsl.Lemmas.CxField
namespace Ohsl.Props.C04
open Ohsl Ohsl.Band

section Gen
variable {F : Type} [Field F] [DecidableEq F] [BEq F] [LawfulBEq F] [ScalarExt F]

section Div
variable [Alg.DivLaw F]

/-- **soundness of the banded solver for every shape, any exact field** (`Alg.DivLaw` only: the
    pivot comparison may be arbitrary) -/
theorem solve_sound_gen {b : Band F} (h : WFb b) {rhs x : Array F} (hs : solve b rhs = .ok x) :
    x.size = b.n ∧ ∀ i, i < b.n →
      ∑ j ∈ Finset.range b.n, dense b i j * x[j]?.getD 0 = rhs[i]?.getD 0 :=
  Band.solve_sound h hs

theorem solve_complete_gen {b : Band F} (h : WFb b) {rhs : Array F} (hr : rhs.size = b.n) {δ : F}
    (hd : det b = .ok δ) (hδ : δ ≠ 0) :
    ∃ x, solve b rhs = .ok x ∧ x.size = b.n ∧ ∀ i, i < b.n →
      ∑ j ∈ Finset.range b.n, dense b i j * x[j]?.getD 0 = rhs[i]?.getD 0 := by
  obtain ⟨x, hx, _⟩ := Band.solve_complete h hr hd hδ
  exact ⟨x, hx, Band.solve_sound h hx⟩

end Div

variable [Alg.PivotLaws F]

/-- **the determinant of a banded matrix is the determinant of its dense twin**, any exact field
    with a lawful pivot comparison; singular matrices included -/
theorem det_correct_gen {b : Band F} (h : WFb b) (hm : b.m1 ≤ b.n) :
    Band.det b = .ok (Matrix.det (Matrix.of (fun (i j : Fin b.n) => dense b i j))) :=
  Band.det_eq_det h hm

theorem det_sound_gen {b : Band F} (h : WFb b) {δ : F} (hd : Band.det b = .ok δ) :
    δ = Matrix.det (Matrix.of (fun (i j : Fin b.n) => dense b i j)) := by
  by_cases hm : b.m1 ≤ b.n
  · rw [det_correct_gen h hm] at hd
    injection hd with hd
    exact hd.symm
  · rw [Band.det_rejects h (by omega)] at hd
    cases hd

/-- if the dense twin is nonsingular, `solve` succeeds for every right-hand side of length `n`
    and returns a solution of the dense system -/
theorem det_ne_zero_solvable_gen {b : Band F} (h : WFb b) (hm : b.m1 ≤ b.n)
    (hdet : Matrix.det (Matrix.of (fun (i j : Fin b.n) => dense b i j)) ≠ 0) {rhs : Array F}
    (hr : rhs.size = b.n) :
    ∃ x, solve b rhs = .ok x ∧ x.size = b.n ∧ ∀ i, i < b.n →
      ∑ j ∈ Finset.range b.n, dense b i j * x[j]?.getD 0 = rhs[i]?.getD 0 :=
  solve_complete_gen h hr (det_correct_gen h hm) hdet

end Gen

section Ordered
variable {F : Type} [Field F] [LinearOrder F] [IsStrictOrderedRing F]
attribute [local instance] Ohsl.Alg.scalarExt

example {b : Band F} (h : WFb b) (hm : b.m1 ≤ b.n) :
    Band.det b = .ok (Matrix.det (Matrix.of (fun (i j : Fin b.n) => dense b i j))) :=
  det_correct_gen h hm

end Ordered

section Complex
open Ohsl.RealI Ohsl.CxField Ohsl.Props.C13 Ohsl.Props.C14 Ohsl.Props.C01

/-- **soundness of the banded solver over complex scalars**: every vector returned by `solve`
    on a well-formed banded matrix over `Cx ℝ` has length `n` and solves the dense system
    (equations read in ℂ; `SolC` is defined in C01X) -/
theorem solve_sound_cx {b : Band (Cx ℝ)} (h : WFb b) {rhs x : Array (Cx ℝ)}
    (hs : solve b rhs = .ok x) :
    x.size = b.n ∧ SolC b.n (dense b) rhs (fun j => x[j]?.getD 0) := by
  obtain ⟨hsz, hsol⟩ := @solve_sound_gen (Cx ℝ) CxField.field (Classical.decEq _) _ _ _ _
    b h rhs x hs
  exact ⟨hsz, (solC_iff b.n (dense b) rhs _).2 hsol⟩

/-- **the complex banded determinant is the determinant of the dense twin** (over ℂ), singular
    matrices included -/
theorem det_correct_cx {b : Band (Cx ℝ)} (h : WFb b) (hm : b.m1 ≤ b.n) :
    ∃ δ, Band.det b = .ok δ ∧ toC δ = detC b.n (dense b) :=
  ⟨_, @det_correct_gen (Cx ℝ) CxField.field (Classical.decEq _) _ _ _ _ b h hm,
    (CxField.det_toC b.n (dense b)).symm⟩

/-- every value returned by the complex banded `det` is the determinant of the dense twin -/
theorem det_sound_cx {b : Band (Cx ℝ)} (h : WFb b) {δ : Cx ℝ} (hd : Band.det b = .ok δ) :
    toC δ = detC b.n (dense b) := by
  have := @det_sound_gen (Cx ℝ) CxField.field (Classical.decEq _) _ _ _ _ b h δ hd
  rw [this]
  exact (CxField.det_toC b.n (dense b)).symm

/-- a nonsingular complex banded system is solved for every right-hand side of length `n` -/
theorem det_ne_zero_solvable_cx {b : Band (Cx ℝ)} (h : WFb b) (hm : b.m1 ≤ b.n)
    (hdet : detC b.n (dense b) ≠ 0) {rhs : Array (Cx ℝ)} (hr : rhs.size = b.n) :
    ∃ x, solve b rhs = .ok x ∧ x.size = b.n ∧ SolC b.n (dense b) rhs (fun j => x[j]?.getD 0) := by
  obtain ⟨x, hx, hsz, hsol⟩ :=
    @det_ne_zero_solvable_gen (Cx ℝ) CxField.field (Classical.decEq _) _ _ _ _ b h hm
      ((CxField.det_ne_zero_iff b.n (dense b)).2 hdet) rhs hr
  exact ⟨x, hx, hsz, (solC_iff b.n (dense b) rhs _).2 hsol⟩

end Complex

/-! ### example: the tridiagonal complex matrix [[0, 1], [i, 1]] (`m1 = m2 = 1`, compact rows
    `(pad, 0, 1)`, `(i, 1, pad)`): the diagonal candidate of column 0 is 0, the exchange is decided
    by the modulus of `i`; `det = -i` -/
section Examples
open Ohsl.RealI Ohsl.CxField Ohsl.Props.C13 Ohsl.Props.C14 Ohsl.Props.C01

def exB : Band (Cx ℝ) :=
  ⟨2, 1, 1, ⟨#[⟨0, 0⟩, ⟨0, 0⟩, ⟨1, 0⟩, ⟨0, 1⟩, ⟨1, 0⟩, ⟨0, 0⟩], 2, 3⟩⟩

theorem exB_wf : WFb exB := ⟨_, Mat.Is.of_wf (by simp [exB, Mat.WF])⟩

theorem exB_det : detC exB.n (dense exB) ≠ 0 := by
  -- the dense twin is [[0, 1], [i, 1]], its determinant `0·1 − 1·i = −i`
  have e : detC 2 (dense exB) = toC ⟨0, 0⟩ * toC ⟨1, 0⟩ - toC ⟨1, 0⟩ * toC ⟨0, 1⟩ :=
    Matrix.det_fin_two _
  show detC 2 (dense exB) ≠ 0
  rw [e]
  simp [toC, Complex.ext_iff]

example : ∃ δ, Band.det exB = .ok δ ∧ toC δ ≠ 0 := by
  obtain ⟨δ, hδ, e⟩ := det_correct_cx exB_wf (by decide)
  exact ⟨δ, hδ, by rw [e]; exact exB_det⟩

example : ∃ x, solve exB #[⟨1, 0⟩, ⟨1, 1⟩] = .ok x ∧ x.size = 2 :=
  let ⟨x, hx, hs, _⟩ := det_ne_zero_solvable_cx exB_wf (by decide) exB_det
    (rhs := #[⟨1, 0⟩, ⟨1, 1⟩]) rfl
  ⟨x, hx, hs⟩

end Examples
end Ohsl.Props.C04
