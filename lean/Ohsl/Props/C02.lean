/-
  Property C02 — determinant and inverse (model: Ohsl/Model/Solve.lean).
  Proved here: (S) non-square input is rejected by `determinant`, `inverse` and the LU
  factorisation, for ANY scalar type; both take the matrix by value in the model (the code takes
  `&self` and works on a clone — checked on the code by snapshot comparison in the harness).
-/
import Ohsl.Model.Solve
namespace Ohsl.Props.C02
open Ohsl Ohsl.Mat

section
variable {K : Type} [Add K] [Sub K] [Mul K] [Neg K] [Zero K] [One K] [BEq K] [ScalarExt K]

set_option linter.unusedSectionVars false in
theorem luDecomp_rejects (m : Mat K) (h : m.rows ≠ m.cols) : ∃ e, luDecomp m = .error e := by
  exact ⟨.size, by simp [luDecomp, h]⟩

end

section
variable {K : Type} [Sub K] [Mul K] [Neg K] [Zero K] [One K] [BEq K] [ScalarExt K]

theorem determinant_rejects (m : Mat K) (h : m.rows ≠ m.cols) : determinant m = .error .size := by
  simp [determinant, luDecomp, h, bind, Except.bind]

end

section
variable {K : Type} [Sub K] [Mul K] [Zero K] [One K] [BEq K] [ScalarExt K]

theorem inverse_rejects (m : Mat K) (h : m.rows ≠ m.cols) : inverse m = .error .size := by
  simp [inverse, h]

end

end Ohsl.Props.C02
