/-
  Property C12 (part D) — polynomial long division terminates and is correct
  (model: Ohsl/Model/Poly.lean `divStep`, `divLoop`, `polydiv`).

  (S) `divStep_size_lt`, `run_unique`, `run_size_drop`, `polydiv_terminates`,
      `polydiv_terminates_float`: ANY scalar type with arbitrary operations (in particular IEEE
      floats, where the leading terms do not cancel arithmetically).  The leading coefficient of the
      remainder is removed *structurally*, so every step leaves the zero polynomial or a strictly
      shorter remainder: within the cap `polydiv` never reports "exceeded maximum iterations" and
      never panics.  Assumptions (explicit): the division of leading coefficients does not panic,
      `0 == 0`.
      `Run v m q r q' r'` is the run of `m` successful iterations as a relation; a returned pair is
      the end of a run that satisfies the exit condition.  The model's loop carries the counter
      `count` of the Rust code but does not return it: `divLoopC` / `polydivC` are the SAME loop
      returning the final value of the counter as well.
  (E) `polydiv_spec`, `polydiv_degree_lt`, `polydiv_eq_div_mod`, `polydiv_total`: correctness over
      ordered fields; instances of the statements for any field whose `divM` is the guarded field
      division (`Alg.DivLaw`: ordered fields with `Alg.scalarExt`, the executable `Rat`, the model's
      `Cx ℝ`).
-/
import Ohsl.Props.C12
import Ohsl.Lemmas.PolyDiv
import Ohsl.Lemmas.Alg
import Ohsl.Model.Inst
namespace Ohsl.Props.C12
open Ohsl Ohsl.Poly Ohsl.PolyDiv

section Structural
variable {K : Type} [Add K] [Sub K] [Mul K] [Neg K] [Zero K] [BEq K] [ScalarExt K]

theorem divStep_ok (v q r q1 r1 : Array K) (hv : 1 ≤ v.size) (hr : v.size ≤ r.size)
    (h : divStep v q r = .ok (q1, r1)) :
    ∃ c, divM (r[r.size - 1]'(by omega)) (v[v.size - 1]'(by omega)) = .ok c ∧
      q1 = trimA (stepQ0 v q r c) ∧ r1 = trimA (stepR0 v r c) := by
  rw [divStep_eq v q r hv hr] at h
  cases hd : divM (r[r.size - 1]'(by omega)) (v[v.size - 1]'(by omega)) with
  | error e => rw [hd] at h; simp [Except.bind] at h
  | ok c =>
    rw [hd] at h
    simp only [Except.bind, Except.ok.injEq, Prod.mk.injEq] at h
    exact ⟨c, rfl, h.1.symm, h.2.symm⟩

theorem divStep_shrinks (v q r q1 r1 : Array K) (hv : 1 ≤ v.size) (hr : v.size ≤ r.size)
    (h00 : ((0 : K) == 0) = true) (h : divStep v q r = .ok (q1, r1)) :
    r1.size ≤ max 1 (r.size - 1) ∧ (r.size = 1 → isZero r1 = true) := by
  obtain ⟨c, -, -, rfl⟩ := divStep_ok v q r q1 r1 hv hr h
  refine ⟨stepR_size_le v r c h00 hv hr, fun h1 => ?_⟩
  rw [stepR_single v r c hv hr h1]
  simpa [isZero] using h00

/-- bound on the number of iterations still to come from remainder `r` -/
def pot (v r : Array K) : Nat := if isZero r then 0 else r.size + 1 - v.size

theorem divStep_zero_or_shorter (v q r q1 r1 : Array K) (hv : 1 ≤ v.size) (hr : v.size ≤ r.size)
    (h00 : ((0 : K) == 0) = true) (h : divStep v q r = .ok (q1, r1)) :
    isZero r1 = true ∨ r1.size < r.size := by
  obtain ⟨hs, hz⟩ := divStep_shrinks v q r q1 r1 hv hr h00 h
  by_cases h1 : r.size = 1
  · exact Or.inl (hz h1)
  · exact Or.inr (by omega)

theorem pot_step (v q r q1 r1 : Array K) (hv : 1 ≤ v.size) (hr : v.size ≤ r.size)
    (hz : isZero r = false) (h00 : ((0 : K) == 0) = true) (h : divStep v q r = .ok (q1, r1)) :
    pot v r1 < pot v r := by
  unfold pot
  rw [hz, if_neg Bool.false_ne_true]
  rcases divStep_zero_or_shorter v q r q1 r1 hv hr h00 h with h | h
  · rw [h, if_pos rfl]; omega
  · split <;> omega

theorem divStep_size (v q r : Array K) (hr : r.size ≥ v.size) (hv : v.size ≥ 1)
    (h00 : ((0 : K) == 0) = true)
    (hdiv : ∀ a lv : K, v[v.size - 1]? = some lv → ∃ c, divM a lv = .ok c) :
    ∃ q' r', divStep v q r = .ok (q', r') ∧ r'.size ≤ max 1 (r.size - 1) ∧ 1 ≤ r'.size ∧
      1 ≤ q'.size ∧ (r.size = 1 → isZero r' = true) := by
  obtain ⟨c, hc⟩ := hdiv (r[r.size - 1]'(by omega)) (v[v.size - 1]'(by omega)) (Array.getElem?_eq_getElem _)
  have h : divStep v q r = .ok (trimA (stepQ0 v q r c), trimA (stepR0 v r c)) := by
    rw [divStep_eq v q r hv hr, hc]; rfl
  obtain ⟨hs, hz⟩ := divStep_shrinks v q r _ _ hv hr h00 h
  exact ⟨_, _, h, hs, trimA_size_pos _ (by rw [stepR0_size v r c hv hr]; omega),
    trimA_size_pos _ (stepQ0_size_pos v q r c), hz⟩

/-- the run of the `while` loop: `Run v m q r q' r'` — `m` successful steps lead from `(q, r)` to
`(q', r')` -/
inductive Run (v : Array K) : Nat → Array K → Array K → Array K → Array K → Prop
  | done (q r : Array K) : Run v 0 q r q r
  | step {m : Nat} {q r q1 r1 q' r' : Array K} : v.size ≤ r.size → isZero r = false →
      divStep v q r = .ok (q1, r1) → Run v m q1 r1 q' r' → Run v (m + 1) q r q' r'

theorem divLoop_run (v : Array K) :
    ∀ (fuel count : Nat) (q r q' r' : Array K), divLoop v fuel count q r = .ok (some (q', r')) →
      (∃ m, Run v m q r q' r') ∧ (isZero r' = true ∨ r'.size < v.size) := by
  intro fuel
  induction fuel with
  | zero => intro count q r q' r' h; simp [divLoop] at h
  | succ fuel ih =>
    intro count q r q' r' h
    unfold divLoop at h
    split at h
    · rename_i hg
      have hs : v.size ≤ r.size := by
        simp only [Bool.and_eq_true, decide_eq_true_eq] at hg; exact hg.2
      have hz : isZero r = false := by
        simp only [Bool.and_eq_true, Bool.not_eq_eq_eq_not, Bool.not_true] at hg; exact hg.1
      cases hd : divStep v q r with
      | error e => rw [hd] at h; simp [bind, Except.bind] at h
      | ok p =>
        obtain ⟨q1, r1⟩ := p
        rw [hd] at h
        simp only [bind, Except.bind] at h
        split at h
        · simp at h
        · obtain ⟨⟨m, hm⟩, h2⟩ := ih (count + 1) q1 r1 q' r' h
          exact ⟨⟨m + 1, Run.step hs hz hd hm⟩, h2⟩
    · rename_i hg
      simp only [Except.ok.injEq, Option.some.injEq, Prod.mk.injEq] at h
      obtain ⟨rfl, rfl⟩ := h
      refine ⟨⟨0, Run.done _ _⟩, ?_⟩
      simp only [Bool.and_eq_true, decide_eq_true_eq, not_and,
        Bool.not_eq_eq_eq_not, Bool.not_true] at hg
      by_cases hz' : isZero r = true
      · exact Or.inl hz'
      · right
        have : isZero r = false := by simpa using hz'
        have := hg this; omega

theorem polydiv_run (u v q r : Array K) (h : polydiv u v = .ok (some (q, r))) :
    1 ≤ v.size ∧ (∃ m, Run v m #[] u q r) ∧ (isZero r = true ∨ r.size < v.size) := by
  unfold polydiv at h
  split at h
  · simp at h
  · rename_i h0
    split at h
    · simp at h
    · exact ⟨by omega, divLoop_run v 1002 0 #[] u q r h⟩

theorem run_of_isZero (v : Array K) {m : Nat} {q r q' r' : Array K} (h : Run v m q r q' r')
    (hz : isZero r = true) : m = 0 ∧ q' = q ∧ r' = r := by
  cases h with
  | done => exact ⟨rfl, rfl, rfl⟩
  | step _ hz' _ _ => rw [hz] at hz'; cases hz'

/-- `Poly.divLoop`, returning the final value of the iteration counter too (same control flow) -/
def divLoopC (v : Array K) :
    Nat → Nat → Array K → Array K → Res (Nat × Option (Array K × Array K))
  | 0, count, _, _ => .ok (count, none)
  | fuel + 1, count, q, r =>
    if !(isZero r) && decide (r.size ≥ v.size) then do
      let (q, r) ← divStep v q r
      if count + 1 > 1000 then .ok (count + 1, none)
      else divLoopC v fuel (count + 1) q r
    else .ok (count, some (q, r))

/-- `Poly.polydiv`, returning the number of iterations performed too -/
def polydivC (u v : Array K) : Res (Nat × Option (Array K × Array K)) :=
  if v.size = 0 then .ok (0, none)
  else if isZero v then .ok (0, none)
  else divLoopC v 1002 0 #[] u

theorem divLoopC_erase (v : Array K) : ∀ (fuel count : Nat) (q r : Array K),
    (divLoopC v fuel count q r).map Prod.snd = divLoop v fuel count q r := by
  intro fuel
  induction fuel with
  | zero => intro count q r; rfl
  | succ fuel ih =>
    intro count q r
    unfold divLoopC divLoop
    split
    · cases hd : divStep v q r with
      | error e => rfl
      | ok p =>
        obtain ⟨q1, r1⟩ := p
        simp only [bind, Except.bind]
        split
        · rfl
        · exact ih (count + 1) q1 r1
    · rfl

theorem polydivC_erase (u v : Array K) : (polydivC u v).map Prod.snd = polydiv u v := by
  unfold polydivC polydiv
  split
  · rfl
  · split
    · rfl
    · exact divLoopC_erase v 1002 0 #[] u

theorem divLoopC_of_run (v : Array K) {m : Nat} {q r q' r' : Array K} (h : Run v m q r q' r')
    (hex : isZero r' = true ∨ r'.size < v.size) :
    ∀ (fuel count : Nat), count ≤ 1000 → 1002 ≤ fuel + count →
      divLoopC v fuel count q r =
        .ok (if count + m ≤ 1000 then (count + m, some (q', r')) else (1001, none)) := by
  induction h with
  | done q r =>
    intro fuel count hc hf
    obtain ⟨fuel, rfl⟩ : ∃ f, fuel = f + 1 := ⟨fuel - 1, by omega⟩
    unfold divLoopC
    have hg : ¬ ((!(isZero r) && decide (r.size ≥ v.size)) = true) := by
      rcases hex with h | h
      · simp [h]
      · simp; intro _; omega
    rw [if_neg hg, if_pos (show count + 0 ≤ 1000 from hc)]; rfl
  | @step m q r q1 r1 q' r' hr hz hstep hrun ih =>
    intro fuel count hc hf
    obtain ⟨fuel, rfl⟩ : ∃ f, fuel = f + 1 := ⟨fuel - 1, by omega⟩
    unfold divLoopC
    have hg : (!(isZero r) && decide (r.size ≥ v.size)) = true := by simp [hz, hr]
    rw [if_pos hg, hstep]
    simp only [bind, Except.bind]
    by_cases hcap : count + 1 > 1000
    · rw [if_pos hcap, if_neg (Nat.not_le.2 (Nat.lt_of_lt_of_le hcap
        (Nat.add_le_add_left (Nat.succ_pos m) count))),
        show count + 1 = 1001 from Nat.le_antisymm (Nat.succ_le_succ hc) hcap]
    · rw [if_neg hcap, ih hex fuel (count + 1) (Nat.not_lt.1 hcap)
        (Nat.add_right_comm fuel 1 count ▸ hf), Nat.add_assoc, Nat.add_comm 1 m]

theorem divLoop_of_run (v : Array K) {m : Nat} {q r q' r' : Array K} (h : Run v m q r q' r')
    (hex : isZero r' = true ∨ r'.size < v.size) (fuel count : Nat) (hc : count ≤ 1000)
    (hf : 1002 ≤ fuel + count) :
    divLoop v fuel count q r = .ok (if count + m ≤ 1000 then some (q', r') else none) := by
  rw [← divLoopC_erase, divLoopC_of_run v h hex fuel count hc hf]
  split <;> rfl

theorem polydivC_of_run (u v : Array K) (hv : v.size ≠ 0) (hz : isZero v = false) {m : Nat}
    {q r : Array K} (h : Run v m #[] u q r) (hex : isZero r = true ∨ r.size < v.size) :
    polydivC u v = .ok (if m ≤ 1000 then (m, some (q, r)) else (1001, none)) := by
  unfold polydivC
  rw [if_neg hv, hz]
  simp only [Bool.false_eq_true, if_false]
  rw [divLoopC_of_run v h hex 1002 0 (by omega) (by omega)]
  simp only [Nat.zero_add]

theorem run_steps_le (v : Array K) (hv : 1 ≤ v.size) (h00 : ((0 : K) == 0) = true) {m : Nat}
    {q r q' r' : Array K} (h : Run v m q r q' r') : m ≤ pot v r := by
  induction h with
  | done q r => exact Nat.zero_le _
  | @step m q r q1 r1 q' r' hr hz hstep hrun ih =>
    exact Nat.succ_le_of_lt (Nat.lt_of_le_of_lt ih (pot_step v q r q1 r1 hv hr hz h00 hstep))

theorem run_exists (v : Array K) (hv : 1 ≤ v.size) (h00 : ((0 : K) == 0) = true)
    (hdiv : ∀ a lv : K, v[v.size - 1]? = some lv → ∃ c, divM a lv = .ok c) :
    ∀ (n : Nat) (q r : Array K), pot v r ≤ n →
      ∃ m q' r', Run v m q r q' r' ∧ (isZero r' = true ∨ r'.size < v.size) := by
  intro n
  induction n with
  | zero =>
    intro q r hn
    refine ⟨0, q, r, Run.done q r, ?_⟩
    unfold pot at hn
    split at hn
    · exact Or.inl ‹_›
    · exact Or.inr (by omega)
  | succ n ih =>
    intro q r hn
    by_cases hz : isZero r = true
    · exact ⟨0, q, r, Run.done q r, Or.inl hz⟩
    by_cases hs : v.size ≤ r.size
    · have hz' : isZero r = false := by simpa using hz
      obtain ⟨q1, r1, hstep, -⟩ := divStep_size v q r hs hv h00 hdiv
      obtain ⟨m, q', r', hrun, hex⟩ := ih q1 r1
        (Nat.le_of_lt_succ (Nat.lt_of_lt_of_le (pot_step v q r q1 r1 hv hs hz' h00 hstep) hn))
      exact ⟨m + 1, q', r', Run.step hs hz' hstep hrun, hex⟩
    · exact ⟨0, q, r, Run.done q r, Or.inr (by omega)⟩

/-- **Termination of `polydiv`, any scalar type.** If the divisor is non-empty and not the zero
    polynomial, `deg u − deg v < 1000` (sharp: a DENSE dividend of 1001 coefficients, e.g. all ones,
    over the constant divisor 1 is reported as an error, C12E `polydiv_cap_reached`; `x^1000 / 1`
    itself is not, its remainder vanishes after one step), `0 == 0`, and dividing by the leading
    coefficient of the divisor does not panic, then `polydiv` returns a quotient and a remainder
    — never "exceeded maximum iterations", never a panic — and the remainder is zero or shorter
    than the divisor. No algebraic law is used: this holds for floats whose leading terms do not
    cancel. -/
theorem polydiv_terminates_of_lead (u v : Array K) (hv : v.size ≥ 1) (hz : isZero v = false)
    (hu : u.size < v.size + 1000) (h00 : ((0 : K) == 0) = true)
    (hdiv : ∀ a lv : K, v[v.size - 1]? = some lv → ∃ c, divM a lv = .ok c) :
    ∃ q r, polydiv u v = .ok (some (q, r)) ∧ (isZero r = true ∨ r.size < v.size) := by
  obtain ⟨m, q, r, hrun, hex⟩ := run_exists v hv h00 hdiv _ #[] u (le_refl _)
  have hm := run_steps_le v hv h00 hrun
  refine ⟨q, r, ?_, hex⟩
  unfold polydiv
  rw [if_neg (by omega), hz]
  simp only [Bool.false_eq_true, if_false]
  rw [divLoop_of_run v hrun hex 1002 0 (by omega) (by omega), if_pos]
  unfold pot at hm
  split at hm <;> omega

end Structural

section Results
set_option linter.unusedSectionVars false
variable {K : Type} [Add K] [Sub K] [Mul K] [Neg K] [Zero K] [One K] [BEq K] [ScalarExt K]

theorem divStep_size_lt (v q r : Array K) (hr : r.size ≥ v.size) (hv : v.size ≥ 1)
    (h00 : ((0 : K) == 0) = true)
    (hdiv : ∀ a lv : K, v[v.size - 1]? = some lv → ∃ c, divM a lv = .ok c) :
    ∃ q' r', divStep v q r = .ok (q', r') ∧ (r'.size < r.size ∨ (r'.size = 1 ∧ r.size = 1)) := by
  obtain ⟨q', r', h, hle, hpos, _, _⟩ := divStep_size v q r hr hv h00 hdiv
  refine ⟨q', r', h, ?_⟩
  omega

/-- a run is determined by its start: number of iterations and final state -/
theorem run_unique (v : Array K) {m m' : Nat} {q r q1 r1 q2 r2 : Array K}
    (h1 : Run v m q r q1 r1) (hex1 : isZero r1 = true ∨ r1.size < v.size)
    (h2 : Run v m' q r q2 r2) (hex2 : isZero r2 = true ∨ r2.size < v.size) :
    m = m' ∧ q1 = q2 ∧ r1 = r2 := by
  induction h1 generalizing m' with
  | done q r =>
    cases h2 with
    | done => exact ⟨rfl, rfl, rfl⟩
    | step hr hz _ _ =>
      rcases hex1 with h | h
      · rw [hz] at h; cases h
      · omega
  | @step m q r qa ra q1 r1 hr hz hstep hrun ih =>
    cases h2 with
    | done =>
      rcases hex2 with h | h
      · rw [hz] at h; cases h
      · omega
    | @step m'' _ _ qb rb _ _ hr' hz' hstep' hrun' =>
      rw [hstep] at hstep'
      simp only [Except.ok.injEq, Prod.mk.injEq] at hstep'
      obtain ⟨rfl, rfl⟩ := hstep'
      obtain ⟨e, e1, e2⟩ := ih hex1 hrun'
      exact ⟨by omega, e1, e2⟩

/-- after `m` iterations the remainder has lost at least `m` coefficients (it never drops below a
single coefficient: the last step leaves the zero polynomial `[0]`) -/
theorem run_size_drop (v : Array K) (hv : 1 ≤ v.size) (h00 : ((0 : K) == 0) = true) {m : Nat}
    {q r q' r' : Array K} (h : Run v m q r q' r') : r'.size ≤ max 1 (r.size - m) := by
  induction h with
  | done q r => omega
  | @step m q r q1 r1 q' r' hr hz hstep hrun ih =>
    have hsz := (divStep_shrinks v q r q1 r1 hv hr h00 hstep).1
    omega

/-- **Termination of `polydiv`** for a scalar type whose division never panics (f64). -/
theorem polydiv_terminates (u v : Array K) (hv : v.size ≥ 1) (hz : isZero v = false)
    (hu : u.size ≤ 1000) (h00 : ((0 : K) == 0) = true)
    (hdiv : ∀ a b : K, ∃ c, divM a b = .ok c) :
    ∃ q r, polydiv u v = .ok (some (q, r)) ∧ (isZero r = true ∨ r.size < v.size) :=
  polydiv_terminates_of_lead u v hv hz (by omega) h00 (fun a lv _ => hdiv a lv)

/-- instance at IEEE doubles: the division hypothesis is discharged; `0.0 == 0.0` is a fact about
    the opaque `Float.beq` that the kernel cannot evaluate, so it stays a hypothesis -/
theorem polydiv_terminates_float (u v : Array Float) (hv : v.size ≥ 1)
    (hz : isZero v = false) (hu : u.size ≤ 1000) (h00 : ((0 : Float) == 0) = true) :
    ∃ q r, polydiv u v = .ok (some (q, r)) ∧ (isZero r = true ∨ r.size < v.size) :=
  polydiv_terminates u v hv hz hu h00 (fun a b => ⟨a / b, rfl⟩)

/-- the hypotheses are satisfiable: `(x² + 2x + 3) / (2x + 1)` over `Rat` -/
example : ∃ q r, polydiv (#[3, 2, 1] : Array Rat) #[1, 2] = .ok (some (q, r)) ∧
    (isZero r = true ∨ r.size < (#[1, 2] : Array Rat).size) := by
  apply polydiv_terminates_of_lead
  · simp
  · simp [isZero]
  · simp
  · simp
  · intro a lv h
    have : lv = 2 := by simpa using h.symm
    subst this
    exact ⟨a / 2, by simp [divM]⟩

end Results

section DivLaw
open Polynomial
variable {K : Type} [Field K] [BEq K] [ScalarExt K] [Alg.DivLaw K]

theorem divStep_closed (v q r q1 r1 : Array K) (hv : 1 ≤ v.size) (hr : v.size ≤ r.size)
    (h : divStep v q r = .ok (q1, r1)) :
    v[v.size - 1]'(by omega) ≠ 0 ∧
    q1 = trimA (stepQ0 v q r (r[r.size - 1]'(by omega) / v[v.size - 1]'(by omega))) ∧
    r1 = trimA (stepR0 v r (r[r.size - 1]'(by omega) / v[v.size - 1]'(by omega))) := by
  obtain ⟨c, hc, hq1, hr1⟩ := divStep_ok v q r q1 r1 hv hr h
  have hlv : v[v.size - 1]'(by omega) ≠ 0 := by
    intro e; rw [e, Alg.divM_law_zero] at hc; cases hc
  rw [Alg.divM_law_ne hlv] at hc
  cases hc
  exact ⟨hlv, hq1, hr1⟩

variable [LawfulBEq K]

theorem run_spec (v : Array K) (hv : 1 ≤ v.size) {m : Nat} {q r q' r' : Array K}
    (h : Run v m q r q' r') :
    toPoly q' * toPoly v + toPoly r' = toPoly q * toPoly v + toPoly r := by
  induction h with
  | done q r => rfl
  | @step m q r q1 r1 q' r' hr hz hstep hrun ih =>
    obtain ⟨hlv, rfl, rfl⟩ := divStep_closed v q r q1 r1 hv hr hstep
    rw [ih, toPoly_trimA, toPoly_trimA, toPoly_stepQ0, toPoly_stepR0 v r hv hr hlv]
    ring

theorem lead_facts (v : Array K) (hlead : v[v.size - 1]?.getD 0 ≠ 0) :
    ∃ hv : 1 ≤ v.size, v[v.size - 1]'(by omega) ≠ 0 ∧ isZero v = false ∧ toPoly v ≠ 0 ∧
      (∀ a lv : K, v[v.size - 1]? = some lv → ∃ c, divM a lv = .ok c) := by
  have hv : 1 ≤ v.size := by
    by_contra hc
    have : v.size = 0 := by omega
    apply hlead; simp [this]
  have hlv : v[v.size - 1]'(by omega) ≠ 0 := by
    rw [Array.getElem?_eq_getElem (by omega)] at hlead; simpa using hlead
  have hne := toPoly_ne_zero_of_lead v hlead
  refine ⟨hv, hlv, (isZero_false_iff v).2 hne, hne, ?_⟩
  intro a lv hl
  have : lv ≠ 0 := by rw [hl] at hlead; simpa using hlead
  exact ⟨a / lv, Alg.divM_law_ne this⟩

theorem polydiv_spec_field (u v q r : Array K) (h : polydiv u v = .ok (some (q, r))) :
    toPoly u = toPoly q * toPoly v + toPoly r ∧ (toPoly r = 0 ∨ r.size < v.size) := by
  obtain ⟨hv, ⟨m, hrun⟩, hex⟩ := polydiv_run u v q r h
  have hs := run_spec v hv hrun
  rw [toPoly_empty, zero_mul, zero_add] at hs
  exact ⟨hs.symm, hex.imp_left (isZero_iff r).1⟩

theorem polydiv_degree_lt_field (u v q r : Array K) (hlead : v[v.size - 1]?.getD 0 ≠ 0)
    (h : polydiv u v = .ok (some (q, r))) : (toPoly r).degree < (toPoly v).degree :=
  degree_lt_of_exit v r hlead (polydiv_spec_field u v q r h).2

theorem polydiv_eq_div_mod_field (u v q r : Array K) (hlead : v[v.size - 1]?.getD 0 ≠ 0)
    (h : polydiv u v = .ok (some (q, r))) :
    toPoly q = toPoly u / toPoly v ∧ toPoly r = toPoly u % toPoly v :=
  div_mod_unique _ _ _ _ (toPoly_ne_zero_of_lead v hlead) (polydiv_spec_field u v q r h).1
    (polydiv_degree_lt_field u v q r hlead h)

theorem polydiv_total_field (u v : Array K) (hlead : v[v.size - 1]?.getD 0 ≠ 0)
    (hu : u.size < v.size + 1000) :
    ∃ q r, polydiv u v = .ok (some (q, r)) ∧ toPoly u = toPoly q * toPoly v + toPoly r ∧
      (toPoly r).degree < (toPoly v).degree ∧
      toPoly q = toPoly u / toPoly v ∧ toPoly r = toPoly u % toPoly v := by
  obtain ⟨hv, -, hz, -, hdiv⟩ := lead_facts v hlead
  obtain ⟨q, r, h, _⟩ := polydiv_terminates_of_lead u v hv hz hu (by simp) hdiv
  exact ⟨q, r, h, (polydiv_spec_field u v q r h).1, polydiv_degree_lt_field u v q r hlead h,
    polydiv_eq_div_mod_field u v q r hlead h⟩
end DivLaw

section Exact
open Polynomial
variable {K : Type} [Field K] [LinearOrder K]
attribute [local instance] Ohsl.Alg.scalarExt

/-- **Correctness of `polydiv` over a field**: whenever a quotient and a remainder are returned,
    `u = q·v + r` in `Polynomial K`, and the remainder is the zero polynomial or has fewer
    coefficients than the divisor. (No hypothesis on the leading coefficient of `v` is needed:
    over an exact field a division by a zero leading coefficient is a panic, not a result.) -/
theorem polydiv_spec (u v q r : Array K) (h : polydiv u v = .ok (some (q, r))) :
    toPoly u = toPoly q * toPoly v + toPoly r ∧ (toPoly r = 0 ∨ r.size < v.size) :=
  polydiv_spec_field u v q r h

/-- degree statement: if the divisor is trimmed (its last coefficient is non-zero) the remainder
    has strictly smaller degree (`degree 0 = ⊥`) -/
theorem polydiv_degree_lt (u v q r : Array K) (hlead : v[v.size - 1]?.getD 0 ≠ 0)
    (h : polydiv u v = .ok (some (q, r))) : (toPoly r).degree < (toPoly v).degree :=
  polydiv_degree_lt_field u v q r hlead h

/-- hence the results are Mathlib's Euclidean quotient and remainder -/
theorem polydiv_eq_div_mod (u v q r : Array K) (hlead : v[v.size - 1]?.getD 0 ≠ 0)
    (h : polydiv u v = .ok (some (q, r))) :
    toPoly q = toPoly u / toPoly v ∧ toPoly r = toPoly u % toPoly v :=
  polydiv_eq_div_mod_field u v q r hlead h

/-- **Total correctness over a field**: for a trimmed divisor and `deg u − deg v < 1000`
    `polydiv` returns `q`, `r` with `u = q·v + r` and `deg r < deg v`. -/
theorem polydiv_total (u v : Array K) (hlead : v[v.size - 1]?.getD 0 ≠ 0) (hu : u.size < v.size + 1000) :
    ∃ q r, polydiv u v = .ok (some (q, r)) ∧ toPoly u = toPoly q * toPoly v + toPoly r ∧
      (toPoly r).degree < (toPoly v).degree ∧
      toPoly q = toPoly u / toPoly v ∧ toPoly r = toPoly u % toPoly v :=
  polydiv_total_field u v hlead hu

end Exact

end Ohsl.Props.C12
