/-
  Property C04 — banded matrix (model: Ohsl/Model/Banded.lean).
  Proved here, class (S): the index operator reads `compact[(i, m1 + j - i)]` exactly for in-band
  (i, j) and rejects everything outside the band; arithmetic between matrices of different
  (n, m1, m2) is rejected; `solve` / the product reject vectors of the wrong length; `fill_band`
  rejects bands outside [-m1, m2].
-/
import Ohsl.Model.Banded
namespace Ohsl.Props.C04
open Ohsl Ohsl.Band

section
variable {K : Type} [Add K] [Sub K] [Mul K] [Neg K] [Zero K] [One K] [BEq K] [ScalarExt K]

set_option linter.unusedSectionVars false in
theorem get_inband (b : Band K) (i j : Nat) (h : j ≤ i + b.m2 ∧ i ≤ j + b.m1) :
    Band.get b i j = b.compact.get i (b.m1 + j - i) := by
  have : ¬ (j > i + b.m2 ∨ i > j + b.m1) := by omega
  simp [Band.get, this]

end

variable {K : Type}

theorem get_rejects (b : Band K) (i j : Nat) (h : j > i + b.m2 ∨ i > j + b.m1) :
    Band.get b i j = .error .range := by simp [Band.get, h]

theorem set_rejects (b : Band K) (i j : Nat) (v : K) (h : j > i + b.m2 ∨ i > j + b.m1) :
    Band.set b i j v = .error .range := by simp [Band.set, h]

theorem add_rejects [Add K] [Sub K] [Zero K] (a b : Band K)
    (h : a.n ≠ b.n ∨ a.m1 ≠ b.m1 ∨ a.m2 ≠ b.m2) :
    Band.add a b = .error .size ∧ Band.sub' a b = .error .size := by
  have : sameShape a b = false := by
    simp only [sameShape, Bool.and_eq_false_iff, beq_eq_false_iff_ne]
    rcases h with h | h | h
    · exact Or.inl (Or.inl h)
    · exact Or.inl (Or.inr h)
    · exact Or.inr h
  simp [Band.add, Band.sub', this]

theorem solve_rejects [Sub K] [Mul K] [Neg K] [Zero K] [One K] [BEq K] [ScalarExt K] (b : Band K)
    (rhs : Array K) (h : b.n ≠ rhs.size) : Band.solve b rhs = .error .size := by
  simp [Band.solve, h]

theorem mulVec_rejects [Add K] [Mul K] [Zero K] (b : Band K) (v : Array K) (h : b.n ≠ v.size) :
    Band.mulVec b v = .error .size := by
  simp [Band.mulVec, h]

theorem fillBand_rejects (b : Band K) (band : Int) (x : K) (h : band < -(b.m1 : Int) ∨ band > (b.m2 : Int)) :
    Band.fillBand b band x = .error .range := by simp [Band.fillBand, h]

end Ohsl.Props.C04
