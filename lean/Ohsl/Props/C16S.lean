/-
  Property C16 (part S) — thread SCHEDULING of `Vector<f64>::dot_f64` (src/vector/vec_f64.rs:73-108)
  as a theorem about an explicit interleaving semantics (model of the outcome: Ohsl/Model/Dot.lean).

  What is modelled
  ----------------
  `std::thread::scope` spawns one worker per chunk `k < w` (`w = num_cpus::get()`); worker `k` owns a
  LOCAL accumulator `result` and a loop index, and runs
      `for i in 0..slice.len() { result += self_slice[i] * w_slice[i] }`
  over its own slice `start_k .. end_k`.  The machine below is the small-step interleaving semantics
  of that scope:

  * state `s : ℕ → ℕ × K`; component `s k = (pos_k, acc_k)` is the private state of worker `k`
    (`pos_k` = next ABSOLUTE index `start_k ≤ pos_k ≤ end_k` of its chunk, `acc_k` = its accumulator);
    initially `(start_k, 0)` (`Sched.init`);
  * one step of worker `k` (`Sched.step`, local effect `Sched.lstep`): if `k < w` and `pos_k < end_k`
    then `acc_k := acc_k + a[pos_k] * b[pos_k]`, `pos_k := pos_k + 1`; every other component is left
    untouched (`Sched.step_other`);
  * a SCHEDULE is ANY list of worker ids, executed left to right (`Sched.run`).  Convention chosen:
    picking a worker that is not enabled (finished, or an id `≥ w`) is a NO-OP (the step function is
    total).  `Sched.Strict` singles out the schedules in which no pick is disabled (the other
    convention: disabled picks excluded); everything proved for all schedules holds for those;
  * a schedule is COMPLETE (`Sched.Complete`) if afterwards no worker is enabled, i.e. every worker
    has run to the end of its chunk — the condition under which `scope`/`join` return.
  * the parent's reduction `for thread in threads { result += thread.join().unwrap() }` is
    `Sched.join`: the left fold from `0`, in spawn order `k = 0, …, w-1`, of the `acc_k`.

  Everything is class (S): an arbitrary type `K` with arbitrary `+`, `*`, `0` — NO associativity,
  commutativity or unit law is used, so the statements hold verbatim of IEEE `f64` arithmetic.
  The machine is generic in the chunk bounds `bnd : ℕ → ℕ × ℕ` and the summands `p : ℕ → K`; the
  instance for the dot product is `bnd = Dot.chunk a.size w`, `p = Sched.dotTerm a b`
  (`= a[j] * b[j]`, see `Sched.dotTerm_eq_getElem`: every read of an enabled step is in bounds).

  Proved
  ------
  * `Sched.run_apply`, `Sched.run_perm`   projection: component `k` after ANY schedule depends only
                           on how often `k` was picked
  * `Sched.step_comm`, `Sched.diamond`    steps of different workers commute
  * `prefix_safe`          invariant at ANY point of ANY (possibly incomplete) schedule
  * `schedule_independent` every complete schedule ends in the SAME state `Sched.final`
  * `joined_eq_dotThreaded` joining in spawn order after ANY complete schedule gives exactly the
                           value of the model `Dot.dotThreaded` — so every theorem of C16 / C16D /
                           C16F about `dotThreaded` holds for every schedule
  * `Sched.strict_iff_subperm`, `Sched.complete_iff_subperm`, `Sched.strict_complete_iff_perm`,
    `Sched.dot_strict_complete_length`
                           schedules compared with the sequential one `Sched.seq` as multisets;
                           hence non-vacuity: a strict complete schedule exists

  What remains an ASSUMPTION about the runtime (not proved here, and not provable in Lean)
  ---------------------------------------------------------------------------------------
  (i)   the workers share no mutable state: each closure captures the shared slices `&[f64]`
        (read-only) and owns its `result`; this is enforced by Rust's borrow checker at compile
        time (a data race would not compile in safe Rust) — checked by the compiler, not by us.
        In the machine it is the fact that `Sched.step k` changes component `k` only and reads
        only component `k` and the immutable `a`, `b`.
  (ii)  `thread.join()` returns the value computed by that very worker (its own final `result`),
        and returns only after the worker has finished (so the parent reads a COMPLETE state).
  (iii) the parent adds the joined values in spawn order `0, …, w-1` — this is the source text
        (`for thread in threads`), modelled by `Sched.join`.
  (iv)  each worker executes its own loop sequentially in program order with deterministic `f64`
        `+`, `*` (same rounding mode in every thread).
  With (i)–(iv) the scheduler can influence neither the partial sums nor the final value.
  Panics (size mismatch, `w = 0`) happen before the scope is entered and are covered by
  `dotThreaded` itself (`rejects` in C16.lean).
-/
import Ohsl.Props.C16D
import Mathlib.Logic.Function.Iterate
import Mathlib.Data.List.Perm.Subperm
set_option linter.unusedSectionVars false
namespace Ohsl.Props.C16
open Ohsl Ohsl.Dot

/-- state of the scope: component `k` is worker `k`'s private `(pos_k, acc_k)` -/
abbrev Sched.St (K : Type) := Nat → Nat × K

section Structural
variable {K : Type} [Add K] [Zero K]
variable (w : Nat) (bnd : Nat → Nat × Nat) (p : Nat → K)

/-- initial state: every worker at the start of its chunk with `result = 0` -/
def Sched.init : Sched.St K := fun k => ((bnd k).1, 0)

/-- the effect of one loop iteration of worker `k` on ITS OWN pair `(pos, acc)`;
identity once the loop has terminated -/
def Sched.lstep (k : Nat) (c : Nat × K) : Nat × K :=
  if c.1 < (bnd k).2 then (c.1 + 1, c.2 + p c.1) else c

/-- worker `k` is enabled: it exists and its loop has not terminated -/
def Sched.Enabled (s : Sched.St K) (k : Nat) : Prop := k < w ∧ (s k).1 < (bnd k).2

/-- one scheduler pick: worker `k` performs one loop iteration on its own component; a pick of a
finished worker or of an id `≥ w` is a no-op -/
def Sched.step (k : Nat) (s : Sched.St K) : Sched.St K :=
  fun j => if j = k ∧ k < w then Sched.lstep bnd p k (s j) else s j

/-- run a schedule (a list of worker ids), leftmost pick first -/
def Sched.run (sched : List Nat) (s : Sched.St K) : Sched.St K :=
  sched.foldl (fun s k => Sched.step w bnd p k s) s

/-- a schedule is complete: afterwards no worker is enabled -/
def Sched.Complete (sched : List Nat) : Prop :=
  ∀ k, ¬ Sched.Enabled w bnd (Sched.run w bnd p sched (Sched.init bnd)) k

/-- every pick of the schedule is enabled at the moment it is picked (from state `s`) -/
def Sched.Strict : List Nat → Sched.St K → Prop
  | [], _ => True
  | k :: ks, s => Sched.Enabled w bnd s k ∧ Sched.Strict ks (Sched.step w bnd p k s)

/-- left fold from `0` of the first `n` summands of chunk `k`, in index order -/
def Sched.prefixSum (k n : Nat) : K :=
  ((List.range' (bnd k).1 n).map p).foldl (· + ·) 0

/-- left fold from `0` of all summands of chunk `k`, in index order -/
def Sched.chunkSum (k : Nat) : K :=
  ((List.range' (bnd k).1 ((bnd k).2 - (bnd k).1)).map p).foldl (· + ·) 0

/-- the final state: every worker `k < w` at the end of its chunk holding its chunk sum -/
def Sched.final : Sched.St K :=
  fun k => if k < w then ((bnd k).2, Sched.chunkSum bnd p k) else ((bnd k).1, 0)

/-- the parent's reduction: add the workers' results from `0` in spawn order -/
def Sched.join (s : Sched.St K) : K :=
  ((List.range w).map (fun k => (s k).2)).foldl (· + ·) 0

end Structural

section Steps
variable {K : Type} [Add K] (w : Nat) (bnd : Nat → Nat × Nat) (p : Nat → K)

theorem Sched.run_cons (k : Nat) (ks : List Nat) (s : Sched.St K) :
    Sched.run w bnd p (k :: ks) s = Sched.run w bnd p ks (Sched.step w bnd p k s) := rfl

theorem Sched.step_self (k : Nat) (hk : k < w) (s : Sched.St K) :
    Sched.step w bnd p k s k = Sched.lstep bnd p k (s k) :=
  if_pos ⟨rfl, hk⟩

/-- **locality**: a step of worker `k` does not touch any other component -/
theorem Sched.step_other (k j : Nat) (h : j ≠ k) (s : Sched.St K) :
    Sched.step w bnd p k s j = s j :=
  if_neg fun h' => h h'.1

end Steps

section Structural
variable {K : Type} [Add K] [Zero K]
variable (w : Nat) (bnd : Nat → Nat × Nat) (p : Nat → K)

theorem Sched.run_nil (s : Sched.St K) : Sched.run w bnd p [] s = s := rfl

theorem Sched.run_append (l₁ l₂ : List Nat) (s : Sched.St K) :
    Sched.run w bnd p (l₁ ++ l₂) s = Sched.run w bnd p l₂ (Sched.run w bnd p l₁ s) :=
  List.foldl_append

/-- a pick of an id `≥ w` is a no-op -/
theorem Sched.step_ge (k : Nat) (hk : w ≤ k) (s : Sched.St K) : Sched.step w bnd p k s = s :=
  funext fun _ => if_neg fun h => Nat.not_lt.2 hk h.2

/-- a pick of a worker that is not enabled is a no-op -/
theorem Sched.step_disabled (k : Nat) (s : Sched.St K) (h : ¬ Sched.Enabled w bnd s k) :
    Sched.step w bnd p k s = s := by
  funext j
  by_cases hj : j = k ∧ k < w
  · obtain ⟨rfl, hk⟩ := hj
    rw [Sched.step_self w bnd p j hk]
    exact if_neg fun h' => h ⟨hk, h'⟩
  · exact if_neg hj

theorem Sched.step_enabled (k : Nat) (s : Sched.St K) (h : Sched.Enabled w bnd s k) :
    Sched.step w bnd p k s k = ((s k).1 + 1, (s k).2 + p (s k).1) := by
  rw [Sched.step_self w bnd p k h.1]
  exact if_pos h.2

/-- **projection**: after ANY schedule, component `k < w` is the result of applying worker `k`'s own
local step as often as `k` was picked — the picks of the other workers, and their position relative
to `k`'s picks, are irrelevant; `k`'s own steps are totally ordered.  Components `≥ w` never move. -/
theorem Sched.run_apply (sched : List Nat) (s : Sched.St K) (k : Nat) :
    Sched.run w bnd p sched s k
      = if k < w then (Sched.lstep bnd p k)^[sched.count k] (s k) else s k := by
  induction sched generalizing s with
  | nil => exact (ite_self _).symm
  | cons j js ih =>
    rw [Sched.run_cons, ih]
    by_cases hjk : j = k
    · subst hjk
      rw [List.count_cons_self, Function.iterate_succ_apply]
      split
      next hk => rw [Sched.step_self w bnd p j hk]
      next hk => rw [Sched.step_ge w bnd p j (Nat.le_of_not_lt hk)]
    · rw [Sched.step_other w bnd p j k (Ne.symm hjk), List.count_cons_of_ne hjk]

/-- the state after a schedule depends only on the multiset of its picks (how often each worker
was picked), not on their order -/
theorem Sched.run_perm {l₁ l₂ : List Nat} (h : l₁.Perm l₂) (s : Sched.St K) :
    Sched.run w bnd p l₁ s = Sched.run w bnd p l₂ s := by
  funext k
  rw [Sched.run_apply, Sched.run_apply, h.count_eq]

theorem Sched.step_comm (j k : Nat) (s : Sched.St K) :
    Sched.step w bnd p j (Sched.step w bnd p k s) = Sched.step w bnd p k (Sched.step w bnd p j s) :=
  Sched.run_perm w bnd p (List.Perm.swap j k []) s

theorem Sched.enabled_step_other (j k : Nat) (h : j ≠ k) (s : Sched.St K) :
    Sched.Enabled w bnd (Sched.step w bnd p k s) j ↔ Sched.Enabled w bnd s j := by
  unfold Sched.Enabled
  rw [Sched.step_other w bnd p k j h]

/-- **diamond**: if two different workers are both enabled, either can go first, the other is still
enabled afterwards, and both orders lead to the same state -/
theorem Sched.diamond (j k : Nat) (h : j ≠ k) (s : Sched.St K)
    (hj : Sched.Enabled w bnd s j) (hk : Sched.Enabled w bnd s k) :
    Sched.Enabled w bnd (Sched.step w bnd p k s) j ∧ Sched.Enabled w bnd (Sched.step w bnd p j s) k
    ∧ Sched.step w bnd p j (Sched.step w bnd p k s) = Sched.step w bnd p k (Sched.step w bnd p j s) :=
  ⟨(Sched.enabled_step_other w bnd p j k h s).2 hj,
   (Sched.enabled_step_other w bnd p k j (Ne.symm h) s).2 hk,
   Sched.step_comm w bnd p j k s⟩

theorem Sched.prefixSum_succ (k n : Nat) :
    Sched.prefixSum bnd p k (n + 1) = Sched.prefixSum bnd p k n + p ((bnd k).1 + n) := by
  simp only [Sched.prefixSum, List.range'_concat, List.map_append, List.foldl_append, List.map_cons,
    List.map_nil, List.foldl_cons, List.foldl_nil, Nat.one_mul]

theorem Sched.prefixSum_full (k : Nat) :
    Sched.prefixSum bnd p k ((bnd k).2 - (bnd k).1) = Sched.chunkSum bnd p k := rfl

theorem Sched.lstep_iterate (k n : Nat) (hb : (bnd k).1 ≤ (bnd k).2) :
    (Sched.lstep bnd p k)^[n] ((bnd k).1, 0)
      = (min (bnd k).2 ((bnd k).1 + n),
          Sched.prefixSum bnd p k (min (bnd k).2 ((bnd k).1 + n) - (bnd k).1)) := by
  induction n with
  | zero =>
    rw [Nat.add_zero, Nat.min_eq_right hb, Nat.sub_self]
    rfl
  | succ n ih =>
    rw [Function.iterate_succ_apply', ih]
    by_cases h : (bnd k).1 + n < (bnd k).2
    · rw [← Nat.add_assoc, Nat.min_eq_right (Nat.le_of_lt h),
        Nat.min_eq_right (Nat.add_one_le_of_lt h), Nat.add_assoc,
        Nat.add_sub_cancel_left, Nat.add_sub_cancel_left, Sched.prefixSum_succ]
      exact if_pos h
    · have h' := Nat.le_of_not_lt h
      rw [← Nat.add_assoc, Nat.min_eq_left h', Nat.min_eq_left (Nat.le_add_right_of_le h')]
      exact if_neg (Nat.lt_irrefl _)

theorem Sched.run_init (sched : List Nat) (k : Nat) (hk : k < w) (hb : (bnd k).1 ≤ (bnd k).2) :
    Sched.run w bnd p sched (Sched.init bnd) k
      = (min (bnd k).2 ((bnd k).1 + sched.count k),
          Sched.prefixSum bnd p k (min (bnd k).2 ((bnd k).1 + sched.count k) - (bnd k).1)) := by
  rw [Sched.run_apply, if_pos hk]
  exact Sched.lstep_iterate bnd p k _ hb

theorem Sched.run_pos (sched : List Nat) (k : Nat) (hk : k < w) (hb : (bnd k).1 ≤ (bnd k).2) :
    (Sched.run w bnd p sched (Sched.init bnd) k).1 = min (bnd k).2 ((bnd k).1 + sched.count k) :=
  congrArg Prod.fst (Sched.run_init w bnd p sched k hk hb)

/-- **C16 prefix safety**: at ANY point of ANY schedule (complete or not), worker `k`'s index is
inside its chunk and its accumulator is the left fold from `0`, in index order, of exactly the first
`pos_k - start_k` products of its chunk.  (`bnd k = (start_k, end_k)` with `start_k ≤ end_k`.) -/
theorem prefix_safe (sched : List Nat) (k : Nat) (hk : k < w) (hb : (bnd k).1 ≤ (bnd k).2) :
    let s := Sched.run w bnd p sched (Sched.init bnd)
    (bnd k).1 ≤ (s k).1 ∧ (s k).1 ≤ (bnd k).2
      ∧ (s k).2 = ((List.range' (bnd k).1 ((s k).1 - (bnd k).1)).map p).foldl (· + ·) 0 := by
  intro s
  rw [show s k = _ from Sched.run_init w bnd p sched k hk hb]
  exact ⟨Nat.le_min.2 ⟨hb, Nat.le_add_right _ _⟩, Nat.min_le_left _ _, rfl⟩

theorem Sched.complete_iff_count (hb : ∀ k, k < w → (bnd k).1 ≤ (bnd k).2) (sched : List Nat) :
    Sched.Complete w bnd p sched ↔ ∀ k, k < w → (bnd k).2 - (bnd k).1 ≤ sched.count k := by
  unfold Sched.Complete Sched.Enabled
  refine forall_congr' fun k => ?_
  rw [not_and]
  refine imp_congr_right fun hk => ?_
  rw [Sched.run_pos w bnd p sched k hk (hb k hk), Nat.not_lt, Nat.le_min, Nat.sub_le_iff_le_add']
  exact and_iff_right (Nat.le_refl _)

/-- **C16 schedule independence**: EVERY complete schedule — whatever the interleaving of the
workers' steps — ends in the same state: worker `k` stands at the end of its chunk and holds the left
fold from `0`, in index order, of the products of chunk `k`.  Arbitrary `+` (no associativity, no
commutativity): holds for IEEE floats. -/
theorem schedule_independent (hb : ∀ k, k < w → (bnd k).1 ≤ (bnd k).2) (sched : List Nat)
    (hc : Sched.Complete w bnd p sched) :
    Sched.run w bnd p sched (Sched.init bnd) = Sched.final w bnd p := by
  funext k
  unfold Sched.final
  by_cases hk : k < w
  · have hn := (Sched.complete_iff_count w bnd p hb sched).1 hc k hk
    rw [if_pos hk, Sched.run_init w bnd p sched k hk (hb k hk),
      Nat.min_eq_left (Nat.sub_le_iff_le_add'.1 hn)]
    rfl
  · rw [if_neg hk, Sched.run_apply, if_neg hk]
    rfl

def Sched.work : Nat := ((List.range w).map (fun k => (bnd k).2 - (bnd k).1)).sum

/-- the sequential schedule `0…0 1…1 … (w-1)…(w-1)`: the workers run one after the other, each its
whole chunk -/
def Sched.seq : List Nat :=
  (List.range w).flatMap (fun k => List.replicate ((bnd k).2 - (bnd k).1) k)

theorem Sched.seq_succ :
    Sched.seq (w + 1) bnd = Sched.seq w bnd ++ List.replicate ((bnd w).2 - (bnd w).1) w := by
  rw [Sched.seq, List.range_succ, List.flatMap_append, List.flatMap_singleton]
  rfl

theorem Sched.seq_length : (Sched.seq w bnd).length = Sched.work w bnd := by
  rw [Sched.seq, List.length_flatMap]
  simp only [List.length_replicate]
  rfl

theorem Sched.seq_count (k : Nat) :
    (Sched.seq w bnd).count k = if k < w then (bnd k).2 - (bnd k).1 else 0 := by
  induction w with
  | zero => rfl
  | succ n ih =>
    rw [Sched.seq_succ, List.count_append, ih]
    by_cases hnk : n = k
    · subst hnk
      rw [if_neg (Nat.lt_irrefl n), List.count_replicate_self, if_pos (Nat.lt_succ_self n),
        Nat.zero_add]
    · have : k < n + 1 ↔ k < n :=
        ⟨fun h => Nat.lt_of_le_of_ne (Nat.le_of_lt_succ h) (Ne.symm hnk), Nat.lt_succ_of_lt⟩
      rw [List.count_replicate, if_neg (mt beq_iff_eq.1 hnk), Nat.add_zero, if_congr this rfl rfl]

theorem Sched.strict_iff_count (sched : List Nat) (s : Sched.St K) :
    Sched.Strict w bnd p sched s
      ↔ ∀ k, sched.count k ≤ if k < w then (bnd k).2 - (s k).1 else 0 := by
  induction sched generalizing s with
  | nil => exact ⟨fun _ _ => Nat.zero_le _, fun _ => trivial⟩
  | cons j js ih =>
    show Sched.Enabled w bnd s j ∧ Sched.Strict w bnd p js (Sched.step w bnd p j s) ↔ _
    rw [ih]
    constructor
    · rintro ⟨hE, h⟩ k
      by_cases hjk : j = k
      · subst hjk
        have := h j
        rw [if_pos hE.1, Sched.step_enabled w bnd p j s hE] at this
        rw [List.count_cons_self, if_pos hE.1]
        exact Nat.add_le_of_le_sub (Nat.sub_pos_of_lt hE.2) (Nat.sub_add_eq .. ▸ this)
      · have := h k
        rw [Sched.step_other w bnd p j k (Ne.symm hjk)] at this
        rwa [List.count_cons_of_ne hjk]
    · intro h
      have hj := h j
      rw [List.count_cons_self] at hj
      have hE : Sched.Enabled w bnd s j := by
        by_cases hw : j < w
        · rw [if_pos hw] at hj
          exact ⟨hw, Nat.lt_of_sub_pos (Nat.lt_of_lt_of_le (Nat.succ_pos _) hj)⟩
        · rw [if_neg hw] at hj
          exact absurd hj (Nat.not_succ_le_zero _)
      refine ⟨hE, fun k => ?_⟩
      by_cases hjk : j = k
      · subst hjk
        rw [if_pos hE.1] at hj ⊢
        rw [Sched.step_enabled w bnd p j s hE, Nat.sub_add_eq]
        exact Nat.le_sub_of_add_le hj
      · have := h k
        rw [List.count_cons_of_ne hjk] at this
        rwa [Sched.step_other w bnd p j k (Ne.symm hjk)]

theorem Sched.strict_iff_subperm (sched : List Nat) :
    Sched.Strict w bnd p sched (Sched.init bnd) ↔ sched.Subperm (Sched.seq w bnd) := by
  rw [Sched.strict_iff_count, List.subperm_iff_count]
  exact forall_congr' fun k => (Sched.seq_count w bnd k).symm ▸ Iff.rfl

theorem Sched.complete_iff_subperm (hb : ∀ k, k < w → (bnd k).1 ≤ (bnd k).2) (sched : List Nat) :
    Sched.Complete w bnd p sched ↔ (Sched.seq w bnd).Subperm sched := by
  rw [Sched.complete_iff_count w bnd p hb, List.subperm_iff_count]
  refine forall_congr' fun k => ?_
  rw [Sched.seq_count]
  split
  next hk => exact imp_iff_right hk
  next hk => exact iff_of_true (fun h => absurd h hk) (Nat.zero_le _)

/-- **the strict complete schedules are exactly the reorderings of the sequential one** — so the
hypotheses of `schedule_independent` are satisfiable (`Sched.seq` itself) -/
theorem Sched.strict_complete_iff_perm (hb : ∀ k, k < w → (bnd k).1 ≤ (bnd k).2) (sched : List Nat) :
    Sched.Strict w bnd p sched (Sched.init bnd) ∧ Sched.Complete w bnd p sched
      ↔ sched.Perm (Sched.seq w bnd) := by
  rw [Sched.strict_iff_subperm, Sched.complete_iff_subperm w bnd p hb]
  exact ⟨fun h => h.1.antisymm h.2, fun h => ⟨h.subperm, h.symm.subperm⟩⟩

/-- once complete, further picks change nothing (the scope has returned; late picks are no-ops) -/
theorem Sched.complete_append (hb : ∀ k, k < w → (bnd k).1 ≤ (bnd k).2) (sched extra : List Nat)
    (hc : Sched.Complete w bnd p sched) : Sched.Complete w bnd p (sched ++ extra) :=
  (Sched.complete_iff_subperm w bnd p hb _).2
    (((Sched.complete_iff_subperm w bnd p hb _).1 hc).trans (List.sublist_append_left _ _).subperm)

end Structural

section Structural
variable {K : Type} [Add K] [Mul K] [Zero K]

/-- the product computed by the loop body at absolute index `j` -/
def Sched.dotTerm (a b : Array K) (j : Nat) : K := a.getD j 0 * b.getD j 0

set_option linter.unusedVariables false in
/-- every read of an enabled step is in bounds: the step of worker `k` at position `pos < end_k`
multiplies the actual elements `a[pos]`, `b[pos]` (the default of `getD` is never used) -/
theorem Sched.dotTerm_eq_getElem (w : Nat) (a b : Array K) (hw : 0 < w) (h : a.size = b.size)
    (s : Sched.St K) (k : Nat) (hE : Sched.Enabled w (chunk a.size w) s k) :
    ∃ (ha : (s k).1 < a.size) (hb : (s k).1 < b.size),
      Sched.dotTerm a b (s k).1 = a[(s k).1] * b[(s k).1] := by
  have ha : (s k).1 < a.size := Nat.lt_of_lt_of_le hE.2 (chunk_valid a.size w k hE.1).2
  have hb : (s k).1 < b.size := h ▸ ha
  refine ⟨ha, hb, ?_⟩
  rw [Sched.dotTerm, Array.getD, Array.getD, dif_pos ha, dif_pos hb]
  rfl

theorem Sched.chunkSum_eq_partialSum (w : Nat) (a b : Array K) (hw : 0 < w) (h : a.size = b.size)
    (k : Nat) (hk : k < w) :
    Sched.chunkSum (chunk a.size w) (Sched.dotTerm a b) k = partialSum a b (chunk a.size w k) :=
  ((dotThreaded_is_reassociation w a b hw h).2 k hk).symm

theorem Sched.chunk_le (len w : Nat) :
    ∀ k, k < w → (chunk len w k).1 ≤ (chunk len w k).2 :=
  fun k hk => (chunk_valid len w k hk).1

theorem Sched.work_chunk (len w : Nat) (hw : 0 < w) : Sched.work w (chunk len w) = len := by
  have h := congrArg List.length (chunks_partition len w hw)
  rw [List.length_flatMap, List.length_range, chunks, List.map_map] at h
  simp only [List.length_range'] at h
  exact h

/-- the accumulators after any complete schedule are the model's partial sums -/
theorem complete_acc_eq_partialSum (w : Nat) (a b : Array K) (hw : 0 < w) (h : a.size = b.size)
    (sched : List Nat) (hc : Sched.Complete w (chunk a.size w) (Sched.dotTerm a b) sched)
    (k : Nat) (hk : k < w) :
    Sched.run w (chunk a.size w) (Sched.dotTerm a b) sched (Sched.init (chunk a.size w)) k
      = ((chunk a.size w k).2, partialSum a b (chunk a.size w k)) := by
  rw [schedule_independent w _ _ (Sched.chunk_le a.size w) sched hc,
    ← Sched.chunkSum_eq_partialSum w a b hw h k hk]
  exact if_pos hk

/-- **C16 schedule independence of `dot_f64`**: after ANY complete schedule of the `w` workers, the
accumulator of worker `k` is the model's `partialSum` of chunk `k`, and joining in spawn order
(`result += thread.join()` for `k = 0, …, w-1`) gives exactly the value of the model `dotThreaded`.
Hence every theorem about `dotThreaded` (C16, C16D, C16F) holds for every schedule.  Class (S):
arbitrary `+`, `*` — in particular IEEE `f64`, where the value is therefore bit-identical for all
schedules. -/
theorem joined_eq_dotThreaded (w : Nat) (a b : Array K) (hw : 0 < w) (h : a.size = b.size)
    (sched : List Nat) (hc : Sched.Complete w (chunk a.size w) (Sched.dotTerm a b) sched) :
    dotThreaded w a b
      = .ok (Sched.join w (Sched.run w (chunk a.size w) (Sched.dotTerm a b) sched
              (Sched.init (chunk a.size w)))) := by
  rw [(dotThreaded_is_reassociation w a b hw h).1]
  congr 2
  unfold chunks
  rw [List.map_map]
  apply List.map_congr_left
  intro k hk
  have hk' := List.mem_range.mp hk
  rw [complete_acc_eq_partialSum w a b hw h sched hc k hk']
  rfl

set_option linter.unusedVariables false in
/-- the value returned by `dot_f64` is the same for any two complete schedules -/
theorem joined_schedule_independent (w : Nat) (a b : Array K) (hw : 0 < w)
    (sched₁ sched₂ : List Nat)
    (h₁ : Sched.Complete w (chunk a.size w) (Sched.dotTerm a b) sched₁)
    (h₂ : Sched.Complete w (chunk a.size w) (Sched.dotTerm a b) sched₂) :
    Sched.join w (Sched.run w (chunk a.size w) (Sched.dotTerm a b) sched₁ (Sched.init (chunk a.size w)))
      = Sched.join w (Sched.run w (chunk a.size w) (Sched.dotTerm a b) sched₂ (Sched.init (chunk a.size w))) := by
  rw [schedule_independent w _ _ (Sched.chunk_le a.size w) sched₁ h₁,
    schedule_independent w _ _ (Sched.chunk_le a.size w) sched₂ h₂]

/-- **existence and length** for `dot_f64`: a strict complete schedule exists for every length and
every `w > 0`, and every strict complete schedule has exactly `a.size` picks (one per element);
a complete schedule with no-op picks has at least `a.size`. -/
theorem Sched.dot_strict_complete_length (w : Nat) (a b : Array K) (hw : 0 < w) :
    (∃ sched, Sched.Strict w (chunk a.size w) (Sched.dotTerm a b) sched (Sched.init (chunk a.size w))
        ∧ Sched.Complete w (chunk a.size w) (Sched.dotTerm a b) sched)
    ∧ (∀ sched, Sched.Strict w (chunk a.size w) (Sched.dotTerm a b) sched (Sched.init (chunk a.size w))
        → Sched.Complete w (chunk a.size w) (Sched.dotTerm a b) sched → sched.length = a.size)
    ∧ (∀ sched, Sched.Complete w (chunk a.size w) (Sched.dotTerm a b) sched → a.size ≤ sched.length) := by
  have hb := Sched.chunk_le a.size w
  have hlen : (Sched.seq w (chunk a.size w)).length = a.size := by
    rw [Sched.seq_length, Sched.work_chunk a.size w hw]
  refine ⟨⟨_, (Sched.strict_complete_iff_perm w _ _ hb _).2 (List.Perm.refl _)⟩,
    fun sched hv hc => ?_, fun sched hc => ?_⟩
  · rw [((Sched.strict_complete_iff_perm w _ _ hb sched).1 ⟨hv, hc⟩).length_eq, hlen]
  · exact hlen ▸ ((Sched.complete_iff_subperm w _ _ hb sched).1 hc).length_le

end Structural

section Examples

/-- snapshot of the first `w` components of a state (a list, so that equality is decidable) -/
def Sched.snapshot {K : Type} (w : Nat) (s : Sched.St K) : List (Nat × K) := (List.range w).map s

def Sched.exA : Array Int := #[1, -2, 3, 4, -5, 6, 7]
def Sched.exB : Array Int := #[7, 6, -5, 4, 3, 2, -1]

/-- run a schedule on the example data with 3 workers (chunks `[0,2) [2,4) [4,7)`) -/
def Sched.exRun (sched : List Nat) : Sched.St Int :=
  Sched.run 3 (chunk 7 3) (Sched.dotTerm Sched.exA Sched.exB) sched (Sched.init (chunk 7 3))

example : chunks 7 3 = [(0, 2), (2, 4), (4, 7)] := by decide +kernel

/-- workers one after the other -/
example : Sched.snapshot 3 (Sched.exRun [0, 0, 1, 1, 2, 2, 2]) = [(2, -5), (4, 1), (7, -10)] := by
  decide +kernel
/-- round robin, last worker first -/
example : Sched.snapshot 3 (Sched.exRun [2, 1, 0, 2, 1, 0, 2]) = [(2, -5), (4, 1), (7, -10)] := by
  decide +kernel
/-- reverse order, with no-op picks (worker 1 after it has finished, and the non-existent worker 5) -/
example : Sched.snapshot 3 (Sched.exRun [2, 2, 5, 1, 1, 1, 2, 0, 1, 0]) = [(2, -5), (4, 1), (7, -10)] := by
  decide +kernel
/-- an incomplete schedule: worker 2 has summed only the first of its three products -/
example : Sched.snapshot 3 (Sched.exRun [2, 0, 0, 1]) = [(2, -5), (3, -15), (5, -15)] := by
  decide +kernel
/-- the joined value is the model's `dotThreaded` -/
example : dotThreaded 3 Sched.exA Sched.exB
    = .ok (Sched.join 3 (Sched.exRun [2, 1, 0, 2, 1, 0, 2])) := by
  apply joined_eq_dotThreaded 3 Sched.exA Sched.exB (by decide) rfl
  rw [Sched.complete_iff_count _ _ _ (Sched.chunk_le _ 3)]
  decide +kernel
example : Sched.join 3 (Sched.exRun [2, 1, 0, 2, 1, 0, 2]) = -14 := by decide +kernel

end Examples

end Ohsl.Props.C16
