/-
  Property C18 (continued) — what a returning and what a panicking call did, with no hypothesis on
  `f`, and the exact-field statements with `delta ≠ 0` as only hypothesis (model:
  `Ohsl.Jac.jacobian`, Ohsl/Model/Newton.lean).  The model has ONE finite-difference Jacobian,
  generic in the element type `E` (`Mat64::jacobian` is `E = f64`, `jacobian_cmplx` is `E = Cx f64`
  with `delta` embedded as `⟨delta, 0⟩`); there is no separate `jacobianCx`, every theorem below
  covers both.

  Class (S) — every user function, any element type, arbitrary arithmetic (on top of the loop
  invariant `jacLoop_ok` of C18E): the call sequence of a call that RETURNS (`jacobian_ok_calls`);
  hence a different length at the perturbed point of ANY column makes the call panic
  (`jacobian_rejects_size_change_any`; `jacobian_rejects_size_change_at`: which panic, when the
  earlier columns are fine); in which column and after how many evaluations a panicking call fails
  (`jacobian_panic_evals`).
  Class (E) — proved for any field whose `/` fails exactly on a zero divisor (section DivLaw,
  `…_gen`; C18X instantiates them at `Cx ℝ`) and stated for a linearly ordered field: the entries
  as field quotients (`jacobian_entries_field`, `jacobian_entries_field_const`), the size panic of
  column `j` (`jacobian_rejects_size_change_field`), the zero step (`jacobian_delta_zero_rejects`),
  and when the call returns, as an equivalence (`jacobian_ok_iff_field`).
-/
import Ohsl.Props.C18E
import Ohsl.Lemmas.Alg
import Mathlib.Algebra.Order.Field.Rat
namespace Ohsl.Props.C18
open Ohsl Ohsl.Mat Ohsl.Jac

section S
variable {E : Type} [Add E] [Sub E] [Mul E] [Neg E] [Zero E] [One E] [BEq E] [ScalarExt E]

set_option linter.unusedSectionVars false in
/-- **the call sequence of a returning call, unconditionally**: whenever `jacobian f point delta`
    returns — no hypothesis on `f`, on the element type or on `delta` — `f` has been called exactly
    at `point, x⁽¹⁾, …, x⁽ⁿ⁾` (`x⁽ʲ⁺¹⁾ = evalPt point delta j`), in this order, and it returned a
    vector of the length of `f point` at every one of these points. -/
theorem jacobian_ok_calls (f : Array E → Array E) (point : Array E) (delta : E)
    (J : Mat E) (tr : List (Array E)) (h : jacobian f point delta = .ok (J, tr)) :
    tr = point :: (List.range point.size).map (evalPt point delta) ∧
    ∀ j, j < point.size → (f (evalPt point delta j)).size = (f point).size := by
  obtain ⟨rfl, e, _, hE⟩ := jacobian_ok f point delta J tr h
  refine ⟨rfl, fun j hj => ?_⟩
  obtain ⟨col, hc, _⟩ := hE j hj
  exact ((colOf_ok_iff f point delta j col).1 hc).1

/-- **a size change in ANY column is rejected, class (S), no side condition**: if `f` returns a
    vector of a different length than `f point` at the perturbed point of some column `j < n`, the
    call panics.  (Which panic: the size panic of column `j` if the earlier columns go through —
    `jacobian_rejects_size_change_at` — otherwise the panic of an earlier column.) -/
theorem jacobian_rejects_size_change_any (f : Array E → Array E) (point : Array E) (delta : E)
    (j : Nat) (hj : j < point.size)
    (hbad : (f (evalPt point delta j)).size ≠ (f point).size) :
    ∃ e, jacobian f point delta = .error e := by
  cases h : jacobian f point delta with
  | error e => exact ⟨e, rfl⟩
  | ok p => exact absurd ((jacobian_ok_calls f point delta p.1 p.2 h).2 j hj) hbad

end S

section Panic
variable {E : Type} [Add E] [Sub E] [Zero E] [ScalarExt E]

/-- **a size change in column `j` is the size panic, class (S)**: if `f` returns a vector of the
    length of `f point` at the perturbed points of the columns `< j`, a vector of a DIFFERENT
    length at the perturbed point of column `j < n`, and dividing by `delta` does not panic
    (always true of f64 / Complex<f64>; over a field: `delta ≠ 0`), then the call ends in the size
    panic of `fnew - f0`, `.error .size`.  `j = 0` is `C18.jacobian_rejects_size_change`. -/
theorem jacobian_rejects_size_change_at (f : Array E → Array E) (point : Array E) (delta : E)
    (j : Nat) (hj : j < point.size)
    (hdiv : 0 < (f point).size → ∀ a : E, ∃ q, divM a delta = .ok q)
    (hgood : ∀ i, i < j → (f (evalPt point delta i)).size = (f point).size)
    (hbad : (f (evalPt point delta j)).size ≠ (f point).size) :
    jacobian f point delta = .error .size := by
  obtain ⟨jac, e, hpre, _, _⟩ := jacobian_prefix f point delta j (Nat.le_of_lt hj) hdiv hgood
  rw [jacobian_eq, forM'_error_of_prefix 0 j point.size _ _ _ .size (Nat.zero_le _) hj hpre
    (jacBody_error f point delta jac _ hj (colOf_size_error f point delta hbad))]
  rfl

/-- **evaluations before a panic of the Jacobian call**: a panicking call fails in a definite
    column `j < n`: the loop over the columns `< j` returned, having called `f` exactly at
    `point, x⁽¹⁾, …, x⁽ʲ⁾` (`j + 1` evaluations), and the body of column `j` panics — after at most
    one more evaluation.  So `f` is evaluated at most `j + 2 ≤ n + 1` times before the panic, the
    count of a returning call (`C17.jacobian_trace_length`). -/
theorem jacobian_panic_evals (f : Array E → Array E) (point : Array E) (delta : E) (e : Err)
    (h : jacobian f point delta = .error e) :
    ∃ j jac, j < point.size ∧
      Mat.forM' 0 j (jacInit f point) (jacBody f point delta)
        = .ok (jac, stateAt point delta j, point :: (List.range j).map (evalPt point delta)) ∧
      jacBody f point delta
        (jac, stateAt point delta j, point :: (List.range j).map (evalPt point delta)) j = .error e ∧
      (point :: (List.range j).map (evalPt point delta)).length + 1 ≤ point.size + 1 := by
  rw [jacobian_eq] at h
  cases hr : Mat.forM' 0 point.size (jacInit f point) (jacBody f point delta) with
  | ok r => rw [hr] at h; cases h
  | error e' =>
    rw [hr] at h
    cases h
    obtain ⟨j, s', _, hj, hpre, hbody⟩ := forM'_error_split 0 point.size _ _ e hr
    obtain ⟨jac, rfl, _⟩ := jacLoop_ok f point delta j (Nat.le_of_lt hj) s' hpre
    exact ⟨j, jac, hj, hpre, hbody, by simp; omega⟩

end Panic

/-! ### exact arithmetic: any field whose `divM` is the field division (`Alg.DivLaw`)

  The proofs use only that `divM a b` is `a / b` for `b ≠ 0` and the arithmetic panic for `b = 0`;
  the statements for a linearly ordered field (section Field) and for `Cx ℝ` (C18X) are instances.
  `evalPt point delta j` unfolds to `point.modify j (· + delta)` (`evalPt_exact`), so statements
  about the perturbed points pass between the two forms as they are. -/
section DivLawCore
variable {K : Type} [Field K] [ScalarExt K]

theorem jacobian_empty_point_gen (f : Array K → Array K) (point : Array K) (delta : K)
    (hn : point.size = 0) :
    jacobian f point delta = .ok (Mat.new (f point).size point.size 0, [point]) := by
  rw [jacobian_eq, forM'_empty 0 point.size _ _ (by omega)]
  rfl

variable [Alg.DivLaw K]

theorem hdiv_of_ne {delta : K} (hd : delta ≠ 0) : ∀ a : K, ∃ q, divM a delta = .ok q :=
  fun a => ⟨a / delta, Alg.divM_law_ne hd⟩

theorem sdiv_zero_error (v : Array K) (hv : 0 < v.size) : Vec.sdiv v (0 : K) = .error .arith :=
  mapM_arr_error_first _ v .arith hv (Alg.divM_law_zero _)

theorem jacobian_delta_zero_rejects_gen (f : Array K → Array K) (point : Array K)
    (hn : 0 < point.size) (hm : 0 < (f point).size) :
    jacobian f point (0 : K) = .error .arith := by
  have hev : evalPt point (0 : K) 0 = point := by
    rw [evalPt_exact, modify_add_zero]
  have hcol : colOf f point (0 : K) 0 = .error .arith := by
    rw [colOf, hev, Vec.sub_eq_ok_iff.2 ⟨rfl, rfl⟩]
    exact sdiv_zero_error _ (by simpa using hm)
  rw [jacobian_eq, forM'_first_error 0 point.size (jacInit f point) _ .arith hn
    (jacBody_error f point 0 _ _ hn hcol)]
  rfl

theorem jacobian_rejects_size_change_gen (f : Array K → Array K) (point : Array K) (delta : K)
    (hd : delta ≠ 0) (j : Nat) (hj : j < point.size)
    (hgood : ∀ i, i < j → (f (point.modify i (fun p => p + delta))).size = (f point).size)
    (hbad : (f (point.modify j (fun p => p + delta))).size ≠ (f point).size) :
    jacobian f point delta = .error .size :=
  jacobian_rejects_size_change_at f point delta j hj (fun _ => hdiv_of_ne hd) hgood hbad

end DivLawCore

section DivLaw
variable {K : Type} [Field K] [BEq K] [ScalarExt K] [Alg.DivLaw K]

set_option linter.unusedSectionVars false in
set_option linter.unusedVariables false in
/-- **entries over any exact field, `delta ≠ 0` only**: if `f` returns vectors of the length `m`
    of `f point` at the `n` perturbed points `point + δ e_j`, the call returns a well-formed
    `m × n` matrix, `f` was called at `point, point + δ e_0, …, point + δ e_{n-1}` in this order,
    and entry `(i, j)` is the field quotient `((f (point + δ e_j))[i] − (f point)[i]) / δ`. -/
theorem jacobian_entries_gen (f : Array K → Array K) (point : Array K) (delta : K)
    (hd : delta ≠ 0)
    (hgood : ∀ j, j < point.size →
      (f (point.modify j (fun p => p + delta))).size = (f point).size) :
    ∃ J, jacobian f point delta
        = .ok (J, point :: (List.range point.size).map
            (fun j => point.modify j (fun p => p + delta))) ∧
      J.rows = (f point).size ∧ J.cols = point.size ∧ J.WF ∧
      ∀ i j (hi : i < (f point).size) (hj : j < point.size)
        (h1 : i < (f (point.modify j (fun p => p + delta))).size),
        J.get i j = .ok (((f (point.modify j (fun p => p + delta)))[i] - (f point)[i]) / delta) := by
  obtain ⟨J, h1, h2, h3, h4, h5⟩ := jacobian_entries_local f point delta hgood
    (fun _ => hdiv_of_ne hd)
  refine ⟨J, h1, h2, h3, h4, ?_⟩
  intro i j hi hj h1'
  obtain ⟨q, hq1, hq2⟩ := h5 i j hi hj h1' hi
  rw [Alg.divM_law_ne hd] at hq1
  cases hq1
  exact hq2

set_option linter.unusedVariables false in
/-- the same for a map of constant output size `m` -/
theorem jacobian_entries_const_gen (f : Array K → Array K) (point : Array K) (delta : K) (m : Nat)
    (hd : delta ≠ 0) (hf : ∀ x : Array K, x.size = point.size → (f x).size = m) :
    ∃ J, jacobian f point delta
        = .ok (J, point :: (List.range point.size).map
            (fun j => point.modify j (fun p => p + delta))) ∧
      J.rows = m ∧ J.cols = point.size ∧ J.WF ∧
      ∀ i j (hi : i < m) (hj : j < point.size)
        (h1 : i < (f (point.modify j (fun p => p + delta))).size) (h0 : i < (f point).size),
        J.get i j = .ok (((f (point.modify j (fun p => p + delta)))[i] - (f point)[i]) / delta) := by
  have hm : (f point).size = m := hf point rfl
  obtain ⟨J, h1, h2, h3, h4, h5⟩ := jacobian_entries_gen f point delta hd
    (fun j _ => by rw [hf _ (by simp), hm])
  exact ⟨J, h1, by rw [h2, hm], h3, h4, fun i j hi hj h1' h0 => h5 i j (by rw [hm]; exact hi) hj h1'⟩

/-- **when the call returns, any exact field**: `jacobian f point delta` returns a value IF AND
    ONLY IF `f` returns a vector of the length of `f point` at every perturbed point
    `point + δ e_j` (`j < n`) and either `delta ≠ 0` or there is nothing to divide (`n = 0`, or
    `f point` is empty).  Otherwise it panics. -/
theorem jacobian_ok_iff_gen (f : Array K → Array K) (point : Array K) (delta : K) :
    (∃ J tr, jacobian f point delta = .ok (J, tr)) ↔
      (∀ j, j < point.size → (f (point.modify j (fun p => p + delta))).size = (f point).size) ∧
      (delta ≠ 0 ∨ point.size = 0 ∨ (f point).size = 0) := by
  constructor
  · rintro ⟨J, tr, h⟩
    refine ⟨(jacobian_ok_calls f point delta J tr h).2, ?_⟩
    by_contra hc
    simp only [not_or, not_not] at hc
    obtain ⟨h0, hn, hm⟩ := hc
    subst h0
    rw [jacobian_delta_zero_rejects_gen f point (by omega) (by omega)] at h
    cases h
  · rintro ⟨hs, hd | h0 | hm0⟩
    · obtain ⟨J, h1, _⟩ := jacobian_entries_local f point delta hs (fun _ => hdiv_of_ne hd)
      exact ⟨J, _, h1⟩
    · exact ⟨_, _, jacobian_empty_point_gen f point delta h0⟩
    · obtain ⟨J, h1, _⟩ := jacobian_entries_local f point delta hs (fun hm => absurd hm0 hm.ne')
      exact ⟨J, _, h1⟩

end DivLaw

section Field
variable {K : Type} [Field K] [LinearOrder K]
attribute [local instance] Ohsl.Alg.scalarExt

set_option linter.unusedVariables false in
/-- **entries over a field, `delta ≠ 0` only** (the hypothesis `hdiv` of `C18.jacobian_shape` /
    `C18.jacobian_entries` discharged): if `f` returns vectors of the length `m` of `f point` at
    the `n` perturbed points `point + δ e_j`, the call returns a well-formed `m × n` matrix, `f`
    was called at `point, point + δ e_0, …, point + δ e_{n-1}` in this order, and entry `(i, j)` is
    the field quotient `((f (point + δ e_j))[i] − (f point)[i]) / δ`. -/
theorem jacobian_entries_field (f : Array K → Array K) (point : Array K) (delta : K)
    (hd : delta ≠ 0)
    (hgood : ∀ j, j < point.size →
      (f (point.modify j (fun p => p + delta))).size = (f point).size) :
    ∃ J, jacobian f point delta
        = .ok (J, point :: (List.range point.size).map
            (fun j => point.modify j (fun p => p + delta))) ∧
      J.rows = (f point).size ∧ J.cols = point.size ∧ J.WF ∧
      ∀ i j (hi : i < (f point).size) (hj : j < point.size)
        (h1 : i < (f (point.modify j (fun p => p + delta))).size),
        J.get i j = .ok (((f (point.modify j (fun p => p + delta)))[i] - (f point)[i]) / delta) :=
  jacobian_entries_gen f point delta hd hgood

set_option linter.unusedVariables false in
/-- the same for a map of constant output size `m` (the form of `C18.jacobian_entries`) -/
theorem jacobian_entries_field_const (f : Array K → Array K) (point : Array K) (delta : K) (m : Nat)
    (hd : delta ≠ 0) (hf : ∀ x : Array K, x.size = point.size → (f x).size = m) :
    ∃ J, jacobian f point delta
        = .ok (J, point :: (List.range point.size).map
            (fun j => point.modify j (fun p => p + delta))) ∧
      J.rows = m ∧ J.cols = point.size ∧ J.WF ∧
      ∀ i j (hi : i < m) (hj : j < point.size)
        (h1 : i < (f (point.modify j (fun p => p + delta))).size) (h0 : i < (f point).size),
        J.get i j = .ok (((f (point.modify j (fun p => p + delta)))[i] - (f point)[i]) / delta) :=
  jacobian_entries_const_gen f point delta m hd hf

/-- **a size change in column `j` over a field**: `delta ≠ 0`, the right length at
    `point + δ e_i` for `i < j`, a different length at `point + δ e_j` (`j < n`): `.error .size` -/
theorem jacobian_rejects_size_change_field (f : Array K → Array K) (point : Array K) (delta : K)
    (hd : delta ≠ 0) (j : Nat) (hj : j < point.size)
    (hgood : ∀ i, i < j → (f (point.modify i (fun p => p + delta))).size = (f point).size)
    (hbad : (f (point.modify j (fun p => p + delta))).size ≠ (f point).size) :
    jacobian f point delta = .error .size :=
  jacobian_rejects_size_change_gen f point delta hd j hj hgood hbad

/-- **`delta = 0` is rejected, class (E)**: with an exact zero step, a non-empty point (`n > 0`)
    and a non-empty `f point` the call ends in the arithmetic panic of the division by `delta`
    in column 0, `.error .arith` — for EVERY `f` (the perturbed point of column 0 is `point`
    itself, so the size check before the division passes).  If `n = 0` or `f point` is empty
    nothing is divided: `jacobian_empty_point_gen`, `jacobian_ok_iff_field`. -/
theorem jacobian_delta_zero_rejects (f : Array K → Array K) (point : Array K)
    (hn : 0 < point.size) (hm : 0 < (f point).size) :
    jacobian f point (0 : K) = .error .arith :=
  jacobian_delta_zero_rejects_gen f point hn hm

/-- **when the call returns, class (E)**: over a linearly ordered field `jacobian f point delta`
    returns a value IF AND ONLY IF `f` returns a vector of the length of `f point` at every
    perturbed point `point + δ e_j` (`j < n`) and either `delta ≠ 0` or there is nothing to divide
    (`n = 0`, or `f point` is empty).  Otherwise it panics. -/
theorem jacobian_ok_iff_field (f : Array K → Array K) (point : Array K) (delta : K) :
    (∃ J tr, jacobian f point delta = .ok (J, tr)) ↔
      (∀ j, j < point.size → (f (point.modify j (fun p => p + delta))).size = (f point).size) ∧
      (delta ≠ 0 ∨ point.size = 0 ∨ (f point).size = 0) :=
  jacobian_ok_iff_gen f point delta

end Field

section Examples
attribute [local instance] Ohsl.Alg.scalarExt

/-- a map `ℚ³ → ℚ²` that returns a vector of length 3 exactly when its LAST coordinate has been
    moved off 0: the size change happens in column `j = 2`, columns 0 and 1 are fine -/
def exJ (x : Array ℚ) : Array ℚ :=
  if x.getD 2 0 = 0 then #[x.getD 0 0 + x.getD 1 0, x.getD 0 0 * x.getD 1 0]
  else #[x.getD 0 0, x.getD 1 0, x.getD 2 0]

/-- the hypotheses of `jacobian_rejects_size_change_field` at `j = 2` hold for `exJ` at
    `(1, 2, 0)` with `δ = 1/2` — and the call is the size panic -/
example : jacobian exJ #[1, 2, 0] (1 / 2 : ℚ) = .error .size := by
  apply jacobian_rejects_size_change_field exJ #[1, 2, 0] (1 / 2) (by norm_num) 2 (by decide)
  · intro i hi
    have : i = 0 ∨ i = 1 := by omega
    rcases this with rfl | rfl <;> decide +kernel
  · decide +kernel

/-- `jacobian_entries_field`: `f (x, y) = (x·y, x + y, x)` at `(3, 5)`, `δ = 1/4` — a 3 × 2 result -/
example : ∃ J : Mat ℚ, ∃ tr,
    jacobian (fun x => #[x.getD 0 0 * x.getD 1 0, x.getD 0 0 + x.getD 1 0, x.getD 0 0])
      #[3, 5] (1 / 4 : ℚ) = .ok (J, tr) ∧ J.rows = 3 ∧ J.cols = 2 ∧ J.get 0 1 = .ok 3 := by
  obtain ⟨J, h1, h2, h3, _, h5⟩ := jacobian_entries_field_const
    (fun x : Array ℚ => #[x.getD 0 0 * x.getD 1 0, x.getD 0 0 + x.getD 1 0, x.getD 0 0])
    #[3, 5] (1 / 4 : ℚ) 3 (by norm_num) (fun _ _ => rfl)
  refine ⟨J, _, h1, h2, h3, ?_⟩
  rw [h5 0 1 (by decide) (by decide) (by decide) (by decide)]
  congr 1
  decide +kernel

/-- `jacobian_delta_zero_rejects` applies to every map with a non-empty value -/
example : jacobian (fun x : Array ℚ => #[x.getD 0 0 * x.getD 0 0]) #[7] (0 : ℚ) = .error .arith :=
  jacobian_delta_zero_rejects _ _ (by decide) (by decide)

end Examples

end Ohsl.Props.C18
