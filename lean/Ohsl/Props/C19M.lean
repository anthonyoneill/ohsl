/-
  Property C19 (continued) — 2-D mesh storage, cross sections, `var_as_matrix`, the trapezium
  rules and 1-D interpolation (model: Ohsl/Model/Mesh.lean).
  (S) any element type: `WF2`, `set_get2`, rejections, `crossSectionX_spec`, `crossSectionY_spec`,
      `varAsMatrix_spec`.
  (S) any scalar type: `interpolate_last_hit` (what the interpolation loop returns),
      `trapezium_eq_fold` (the 1-D rule as a fold of its cells).
  (E) linearly ordered field with an arbitrary `Transc K`: `trapezium_cells`, `trapezium_linear`,
      `trapezium2D_cells`, `trapezium2D_bilinear`, `interp_between`, `interp_at_node`;
      section `Real`: the same at `ℝ` with `half = 1/2`, `snap = 10⁻⁷`, `fabs = |·|`.
-/
import Ohsl.Props.C19
import Ohsl.Lemmas.MatSpec
import Ohsl.Lemmas.Alg
import Ohsl.Lemmas.DotSum
import Ohsl.Lemmas.RealTransc
import Mathlib.Algebra.BigOperators.Group.Finset.Basic
import Mathlib.Algebra.Order.Ring.Abs
import Mathlib.Tactic.Ring
set_option linter.unusedSectionVars false
namespace Ohsl.Props.C19
open Ohsl

section Storage
variable {T X : Type}

/-- invariant of `Mesh2D`: one variable vector per grid node, node arrays of the recorded lengths -/
def WF2 (m : Mesh2 T X) : Prop :=
  m.vars.size = m.nx * m.ny ∧ m.xnodes.size = m.nx ∧ m.ynodes.size = m.ny

theorem usub_one_err : usub 0 1 = .error .arith := rfl

theorem guard_ok (m : Mesh2 T X) {i j : Nat} (hi : i < m.nx) (hj : j < m.ny) :
    Mesh2.guard m i j = .ok () := by
  unfold Mesh2.guard
  rw [usub_ok (Nat.zero_lt_of_lt hi), usub_ok (Nat.zero_lt_of_lt hj)]
  show (if i > m.nx - 1 then _ else if j > m.ny - 1 then _ else _) = _
  rw [if_neg (Nat.not_lt.mpr (Nat.le_sub_one_of_lt hi)),
    if_neg (Nat.not_lt.mpr (Nat.le_sub_one_of_lt hj))]
  rfl

/-- what the guard does outside the grid: `nx - 1` / `ny - 1` are computed in `usize`, so an empty
    direction is an arithmetic panic, otherwise a range panic; the x test comes first -/
theorem guard_err (m : Mesh2 T X) (i j : Nat) (h : m.nx ≤ i ∨ m.ny ≤ j) :
    Mesh2.guard m i j =
      .error (if m.nx = 0 then .arith else if m.nx ≤ i then .range
              else if m.ny = 0 then .arith else .range) := by
  unfold Mesh2.guard
  by_cases h0 : m.nx = 0
  · rw [if_pos h0, h0]; rfl
  rw [if_neg h0, usub_ok (Nat.pos_of_ne_zero h0)]
  show (if i > m.nx - 1 then _ else _) = _
  by_cases h1 : m.nx ≤ i
  · rw [if_pos h1, if_pos (Nat.sub_one_lt_of_le (Nat.pos_of_ne_zero h0) h1)]
  rw [if_neg h1, if_neg (Nat.not_lt.mpr (Nat.le_sub_one_of_lt (Nat.not_le.mp h1)))]
  by_cases h3 : m.ny = 0
  · rw [if_pos h3, h3]; rfl
  rw [if_neg h3, usub_ok (Nat.pos_of_ne_zero h3)]
  exact if_pos (Nat.sub_one_lt_of_le (Nat.pos_of_ne_zero h3) (h.resolve_left h1))

theorem get_with_vars (m : Mesh2 T X) (vs : Array (Array T)) (i j : Nat) :
    Mesh2.getNodesVars { m with vars := vs } i j
      = (Mesh2.guard m i j >>= fun _ => aget vs (i * m.ny + j)) := rfl

variable [Zero T]

theorem new_wf2 (xn yn : Array X) (nvars : Nat) : WF2 (Mesh2.new xn yn nvars : Mesh2 T X) := by
  simp [WF2, Mesh2.new]

theorem guard_rejects (m : Mesh2 T X) (i j : Nat) (h : m.nx ≤ i ∨ m.ny ≤ j) :
    ∃ e, Mesh2.guard m i j = .error e := ⟨_, guard_err m i j h⟩

/-- **2-D set/get**: storing at a grid node succeeds, keeps the invariant and the grid, is read
    back exactly, and leaves every other node unchanged -/
theorem set_get2 (m : Mesh2 T X) (h : WF2 m) (i j : Nat) (v : Array T) (hi : i < m.nx)
    (hj : j < m.ny) (hv : v.size = m.nvars) :
    ∃ m', Mesh2.setNodesVars m i j v = .ok m' ∧ WF2 m' ∧ m'.nx = m.nx ∧ m'.ny = m.ny ∧
      m'.nvars = m.nvars ∧ m'.xnodes = m.xnodes ∧ m'.ynodes = m.ynodes ∧
      Mesh2.getNodesVars m' i j = .ok v ∧
      ∀ i' j', j' < m.ny → (i' ≠ i ∨ j' ≠ j) →
        Mesh2.getNodesVars m' i' j' = Mesh2.getNodesVars m i' j' := by
  have hlt : i * m.ny + j < m.vars.size := by rw [h.1]; exact Mat.idx_lt hi hj
  refine ⟨{ m with vars := m.vars.setIfInBounds (i * m.ny + j) v }, ?_,
    ⟨(Array.size_setIfInBounds ..).trans h.1, h.2.1, h.2.2⟩, rfl, rfl, rfl, rfl, rfl, ?_, ?_⟩
  · rw [Mesh2.setNodesVars, guard_ok m hi hj]
    show (if v.size ≠ m.nvars then _ else _) = _
    rw [if_neg (not_not.mpr hv), Mat.aset_ok v hlt]
    rfl
  · rw [get_with_vars, guard_ok m hi hj]
    show aget _ _ = _
    rw [Mat.aget_eq_ok, Array.getElem?_setIfInBounds_self_of_lt hlt]
  · intro i' j' hj' hne
    have hidx : i * m.ny + j ≠ i' * m.ny + j' := fun e =>
      hne.elim (fun q => q (Mat.idx_inj hj hj' e).1.symm) fun q => q (Mat.idx_inj hj hj' e).2.symm
    rw [get_with_vars, Mesh2.getNodesVars, aget, aget, Array.getElem?_setIfInBounds_ne hidx]

theorem set_rejects2 (m : Mesh2 T X) (i j : Nat) (v : Array T)
    (h : m.nx ≤ i ∨ m.ny ≤ j ∨ v.size ≠ m.nvars) : ∃ e, Mesh2.setNodesVars m i j v = .error e := by
  unfold Mesh2.setNodesVars
  by_cases hg : m.nx ≤ i ∨ m.ny ≤ j
  · exact ⟨_, by rw [guard_err m i j hg]; rfl⟩
  · have hi : i < m.nx := Nat.not_le.mp (not_or.mp hg).1
    have hj : j < m.ny := Nat.not_le.mp (not_or.mp hg).2
    have hv : v.size ≠ m.nvars := (h.resolve_left (not_or.mp hg).1).resolve_left (not_or.mp hg).2
    exact ⟨.size, by simp [guard_ok m hi hj, hv, bind, Except.bind]⟩

/-- an empty direction makes every `set_nodes_vars` an arithmetic (usize underflow) panic -/
theorem set_empty_arith (m : Mesh2 T X) (i j : Nat) (v : Array T) (h : m.nx = 0) :
    Mesh2.setNodesVars m i j v = .error .arith := by
  simp [Mesh2.setNodesVars, guard_err m i j (Or.inl (h ▸ Nat.zero_le i)), h, bind, Except.bind]

theorem get_rejects2 (m : Mesh2 T X) (i j : Nat) (h : m.nx ≤ i ∨ m.ny ≤ j) :
    ∃ e, Mesh2.getNodesVars m i j = .error e :=
  ⟨_, by unfold Mesh2.getNodesVars; rw [guard_err m i j h]; rfl⟩

theorem get_ok2 (m : Mesh2 T X) (h : WF2 m) {i j : Nat} (hi : i < m.nx) (hj : j < m.ny) :
    ∃ hlt : i * m.ny + j < m.vars.size, Mesh2.getNodesVars m i j = .ok m.vars[i * m.ny + j] := by
  have hlt : i * m.ny + j < m.vars.size := by rw [h.1]; exact Mat.idx_lt hi hj
  exact ⟨hlt, by simp [Mesh2.getNodesVars, guard_ok m hi hj, Mat.aget_ok hlt, bind, Except.bind]⟩

/-- every stored node vector has the declared number of variables (true of every mesh built by
    `new` and modified through `set_nodes_vars`) -/
def Sized2 (m : Mesh2 T X) : Prop := ∀ k (hk : k < m.vars.size), m.vars[k].size = m.nvars

theorem new_sized2 (xn yn : Array X) (nvars : Nat) : Sized2 (Mesh2.new xn yn nvars : Mesh2 T X) := by
  intro k hk; simp [Mesh2.new]

theorem collect_spec (m : Mesh2 T X) (h : WF2 m) (hs : Sized2 m) (nodes : Array X) (n : Nat)
    (hn : nodes.size = n) (a b : Nat → Nat) (ha : ∀ k, k < n → a k < m.nx)
    (hb : ∀ k, k < n → b k < m.ny) :
    ∃ s, Mat.forM' 0 n (Mesh1.new nodes m.nvars) (fun s k => do
        let v ← Mesh2.getNodesVars m (a k) (b k)
        Mesh1.setNodesVars s k v) = .ok s ∧
      WF1 s ∧ s.nvars = m.nvars ∧ s.nodes = nodes ∧
      ∀ k, k < n → s.vars[k]? = m.vars[a k * m.ny + b k]? ∧
        Mesh1.getNodesVars s k = Mesh2.getNodesVars m (a k) (b k) := by
  -- each iteration is one `set_get`: node `k` reads the wanted vector, the others are untouched
  refine Mat.forM'_inv_of
    (fun k (s : Mesh1 T X) => WF1 s ∧ s.nvars = m.nvars ∧ s.nodes = nodes ∧
       ∀ j, j < k → Mesh1.getNodesVars s j = Mesh2.getNodesVars m (a j) (b j))
    0 n _ _ (Nat.zero_le _)
    ⟨new_wf _ _, rfl, rfl, fun j hj => absurd hj (Nat.not_lt_zero j)⟩ ?_ ?_
  · rintro k s _ hk ⟨p0, p1, p2, p4⟩
    obtain ⟨hlt, hget⟩ := get_ok2 m h (ha k hk) (hb k hk)
    obtain ⟨s', h1, h2, h3, h4, h5, h6⟩ := set_get s p0 k m.vars[a k * m.ny + b k]
      (by rw [p2, hn]; exact hk) (by rw [p1]; exact hs _ hlt)
    refine ⟨s', by rw [hget]; exact h1, h2, h4.trans p1, h3.trans p2, fun j hj => ?_⟩
    rcases Nat.lt_or_eq_of_le (Nat.le_of_lt_succ hj) with hlt' | rfl
    · rw [h6 j (Nat.ne_of_lt hlt'), p4 j hlt']
    · rw [h5, hget]
  · rintro s ⟨p0, p1, p2, p4⟩
    refine ⟨p0, p1, p2, fun k hk => ⟨?_, p4 k hk⟩⟩
    obtain ⟨hlt, hget⟩ := get_ok2 m h (ha k hk) (hb k hk)
    have e := p4 k hk
    rw [hget, Mesh1.getNodesVars, if_neg (Nat.not_le.mpr (by rw [p2, hn]; exact hk)),
      Mat.aget_eq_ok] at e
    rw [e, Array.getElem?_eq_getElem hlt]

/-- **cross section at x-node `i`**: a 1-D mesh over the y nodes whose node `j` holds exactly the
    vector stored at grid node `(i, j)`, i.e. `vars[i*ny + j]` -/
theorem crossSectionX_spec (m : Mesh2 T X) (h : WF2 m) (hs : Sized2 m) {i : Nat} (hi : i < m.nx) :
    ∃ s, Mesh2.crossSectionX m i = .ok s ∧ WF1 s ∧ s.nvars = m.nvars ∧ s.nodes = m.ynodes ∧
      ∀ j, j < m.ny → s.vars[j]? = m.vars[i * m.ny + j]? ∧
        Mesh1.getNodesVars s j = Mesh2.getNodesVars m i j :=
  collect_spec m h hs m.ynodes m.ny h.2.2 (fun _ => i) id (fun _ _ => hi) (fun _ hk => hk)

/-- **cross section at y-node `j`**: a 1-D mesh over the x nodes whose node `i` holds exactly the
    vector stored at grid node `(i, j)`, i.e. `vars[i*ny + j]` (orientation: the FIRST index runs) -/
theorem crossSectionY_spec (m : Mesh2 T X) (h : WF2 m) (hs : Sized2 m) {j : Nat} (hj : j < m.ny) :
    ∃ s, Mesh2.crossSectionY m j = .ok s ∧ WF1 s ∧ s.nvars = m.nvars ∧ s.nodes = m.xnodes ∧
      ∀ i, i < m.nx → s.vars[i]? = m.vars[i * m.ny + j]? ∧
        Mesh1.getNodesVars s i = Mesh2.getNodesVars m i j :=
  collect_spec m h hs m.xnodes m.nx h.2.1 id (fun _ => j) (fun _ hk => hk) (fun _ _ => hj)

/-- cross sections outside the grid: the guard refuses the first read (when the other direction is
    non-empty, so that the loop runs at all) -/
theorem crossSectionX_err (m : Mesh2 T X) {i : Nat} (hi : m.nx ≤ i) (hy : 0 < m.ny) :
    Mesh2.crossSectionX m i = .error (if m.nx = 0 then .arith else .range) := by
  refine Mat.forM'_first_error 0 m.ny _ _ _ hy ?_
  show (do let v ← Mesh2.getNodesVars m i 0; Mesh1.setNodesVars _ 0 v) = _
  unfold Mesh2.getNodesVars
  rw [guard_err m i 0 (Or.inl hi), if_pos hi]
  rfl

theorem crossSectionY_err (m : Mesh2 T X) {j : Nat} (hj : m.ny ≤ j) (hx : 0 < m.nx) :
    Mesh2.crossSectionY m j = .error (if m.ny = 0 then .arith else .range) := by
  refine Mat.forM'_first_error 0 m.nx _ _ _ hx ?_
  show (do let v ← Mesh2.getNodesVars m 0 j; Mesh1.setNodesVars _ 0 v) = _
  unfold Mesh2.getNodesVars
  rw [guard_err m 0 j (Or.inr hj), if_neg (Nat.ne_of_gt hx), if_neg (Nat.not_le.mpr hx)]
  rfl

theorem crossSectionX_rejects (m : Mesh2 T X) {i : Nat} (hi : m.nx ≤ i) (hy : 0 < m.ny) :
    ∃ e, Mesh2.crossSectionX m i = .error e := ⟨_, crossSectionX_err m hi hy⟩

/-- value of variable `var` at grid node `(i, j)` (total accessor used in the statements) -/
def val2 (m : Mesh2 T X) (i j var : Nat) : T := (m.vars.getD (i * m.ny + j) #[]).getD var 0

theorem val2_eq (m : Mesh2 T X) (h : WF2 m) (hs : Sized2 m) {i j var : Nat} (hi : i < m.nx)
    (hj : j < m.ny) (hv : var < m.nvars) :
    ∃ (h1 : i * m.ny + j < m.vars.size) (h2 : var < m.vars[i * m.ny + j].size),
      val2 m i j var = m.vars[i * m.ny + j][var] := by
  have hlt : i * m.ny + j < m.vars.size := by rw [h.1]; exact Mat.idx_lt hi hj
  have hvar : var < m.vars[i * m.ny + j].size := by rw [hs _ hlt]; exact hv
  exact ⟨hlt, hvar, by simp [val2, hlt, hvar]⟩

/-- **`var_as_matrix`**: the `nx × ny` matrix whose entry `(i, j)` is variable `var` at grid
    node `(i, j)` -/
theorem varAsMatrix_spec (m : Mesh2 T X) (h : WF2 m) (hs : Sized2 m) {var : Nat}
    (hv : var < m.nvars) :
    ∃ M, Mesh2.varAsMatrix m var = .ok M ∧ Mat.Is M m.nx m.ny (fun i j => val2 m i j var) := by
  simp only [Mesh2.varAsMatrix, ge_iff_le, Nat.not_le.2 hv, if_false]
  -- row by row, and in row `i` column by column
  refine (Mat.Is.of_new m.nx m.ny (0 : T)).forM'_rows fun i s es hi hS _ => ?_
  refine hS.forM'_cols (v := fun a b => if a = i then val2 m a b var else es a b)
    fun j t et hj hT het => ?_
  obtain ⟨hlt, hvar, e⟩ := val2_eq m h hs hi hj hv
  obtain ⟨t', ht', hI'⟩ := hT.set hi hj (m.vars[i * m.ny + j][var])
  refine ⟨t', by simp [Mat.aget_ok hlt, Mat.aget_ok hvar, ht', bind, Except.bind], hI'.congr ?_⟩
  intro a b _ _
  by_cases hb : b = j
  · subst hb
    by_cases ha : a = i
    · subst ha; rw [if_pos ⟨rfl, rfl⟩, if_pos rfl, if_pos rfl, e]
    · rw [if_neg (fun q => ha q.1), if_pos rfl, if_neg ha, het a]
  · rw [if_neg (fun q => hb q.2), if_neg hb]

theorem varAsMatrix_rejects (m : Mesh2 T X) {var : Nat} (hv : m.nvars ≤ var) :
    Mesh2.varAsMatrix m var = .error .range := by simp [Mesh2.varAsMatrix, hv]

end Storage

/-! `get_interpolated_vars` lets every matching cell overwrite the result, so what it returns is decided
by the LAST matching cell.  This is proved once, with no law about the scalar operations. -/
section Loop
open Transc

section Lerp
variable {S : Type} [Add S] [Sub S] [Mul S] [Div S]

/-- the vector a matching cell writes: `left + ((right − left) / (xr − xl)) · (x − xl)` -/
def lerp (L R : Array S) (xl xr x : S) : Array S :=
  Array.zipWith (· + ·) L (((Array.zipWith (· - ·) R L).map (· / (xr - xl))).map (· * (x - xl)))

theorem lerp_size (L R : Array S) (xl xr x : S) (hsz : L.size = R.size) :
    (lerp L R xl xr x).size = L.size := by simp [lerp, hsz]

variable [Zero S]

theorem lerp_getElem? (L R : Array S) (xl xr x : S) (hsz : L.size = R.size) {v : Nat}
    (hv : v < L.size) :
    (lerp L R xl xr x)[v]? = some (L.getD v 0 + (R.getD v 0 - L.getD v 0) / (xr - xl) * (x - xl)) := by
  have hv' : v < R.size := hsz ▸ hv
  simp [lerp, hv, hv']

/-- what cell `c` writes when it matches -/
def cellLerp (m : Mesh1 S S) (x : S) (c : Nat) : Array S :=
  lerp (m.vars.getD c #[]) (m.vars.getD (c + 1) #[]) (m.nodes.getD c 0) (m.nodes.getD (c + 1) 0) x

theorem cell_rows {α β : Type} (m : Mesh1 α β) (h : WF1 m)
    (hs : ∀ k (hk : k < m.vars.size), m.vars[k].size = m.nvars) {k : Nat}
    (hk : k + 1 < m.nodes.size) :
    (m.vars.getD k #[]).size = m.nvars ∧ (m.vars.getD (k + 1) #[]).size = m.nvars :=
  ⟨getD_size hs (h ▸ Nat.lt_of_succ_lt hk), getD_size hs (h ▸ hk)⟩

theorem cellLerp_size (m : Mesh1 S S) (h : WF1 m)
    (hs : ∀ k (hk : k < m.vars.size), m.vars[k].size = m.nvars) (x : S) {k : Nat} (hk : k + 1 < m.nodes.size) :
    (cellLerp m x k).size = m.nvars := by
  obtain ⟨s0, s1⟩ := cell_rows m h hs hk
  rw [cellLerp, lerp_size _ _ _ _ _ (s0.trans s1.symm), s0]

theorem cellLerp_getElem? (m : Mesh1 S S) (h : WF1 m)
    (hs : ∀ k (hk : k < m.vars.size), m.vars[k].size = m.nvars) (x : S) {k v : Nat} (hk : k + 1 < m.nodes.size) (hv : v < m.nvars) :
    (cellLerp m x k)[v]? = some ((m.vars.getD k #[]).getD v 0 +
      ((m.vars.getD (k + 1) #[]).getD v 0 - (m.vars.getD k #[]).getD v 0)
        / (m.nodes.getD (k + 1) 0 - m.nodes.getD k 0) * (x - m.nodes.getD k 0)) := by
  obtain ⟨s0, s1⟩ := cell_rows m h hs hk
  exact lerp_getElem? _ _ _ _ _ (s0.trans s1.symm) (by rw [s0]; exact hv)

end Lerp

section Interpolate
variable {S : Type} [Add S] [Sub S] [Mul S] [Div S] [Zero S] [ScalarExt S] [Transc S]

/-- the test under which cell `c` overwrites the result -/
def cellHit (m : Mesh1 S S) (x : S) (c : Nat) : Bool :=
  (ScalarExt.lt (m.nodes.getD c 0) x && ScalarExt.lt x (m.nodes.getD (c + 1) 0))
    || ScalarExt.lt (fabs (m.nodes.getD c 0 - x)) snap
    || ScalarExt.lt (fabs (m.nodes.getD (c + 1) 0 - x)) snap

/-- loop body of `get_interpolated_vars` -/
def interpBody (m : Mesh1 S S) (x : S) : Array S → Nat → Res (Array S) := fun result node => do
  let xl ← aget m.nodes node
  let xr ← aget m.nodes (node + 1)
  if (ScalarExt.lt xl x && ScalarExt.lt x xr) || ScalarExt.lt (fabs (xl - x)) snap
      || ScalarExt.lt (fabs (xr - x)) snap then do
    let dx := x - xl
    let left ← Mesh1.getNodesVars m node
    let right ← Mesh1.getNodesVars m (node + 1)
    let diff ← Vec.sub right left
    let deriv := diff.map (· / (xr - xl))
    Vec.add left (deriv.map (· * dx))
  else pure result

theorem interpolate_eq (m : Mesh1 S S) (x : S) :
    Mesh1.interpolate m x = (do
      let n1 ← usub m.nodes.size 1
      Mat.forM' 0 n1 (Array.replicate m.nvars (0 : S)) (interpBody m x)) := rfl

variable (m : Mesh1 S S) (h : WF1 m) (hs : ∀ k (hk : k < m.vars.size), m.vars[k].size = m.nvars)
include h hs

theorem interpBody_eq (x : S) (r : Array S) {c : Nat} (hc : c + 1 < m.nodes.size) :
    interpBody m x r c = .ok (if cellHit m x c then cellLerp m x c else r) := by
  have hc0 : c < m.nodes.size := Nat.lt_of_succ_lt hc
  obtain ⟨s0, s1⟩ := cell_rows m h hs hc
  simp only [interpBody, aget_getD hc0 0, aget_getD hc 0, getNodesVars_getD m h hc0,
    getNodesVars_getD m h hc, bind, Except.bind, Vec.sub, Vec.add, s0, s1, ne_eq,
    not_true_eq_false, if_false, Array.size_map, Array.size_zipWith, Nat.min_self]
  exact (apply_ite Except.ok _ _ _).symm

/-- if cell `k` matches and no later cell does, the call returns what cell `k` writes -/
theorem interpolate_last_hit (x : S) {k : Nat} (hk : k + 1 < m.nodes.size)
    (hhit : cellHit m x k = true)
    (hmiss : ∀ c, k < c → c + 1 < m.nodes.size → cellHit m x c = false) :
    Mesh1.interpolate m x = .ok (cellLerp m x k) := by
  rw [interpolate_eq, usub_ok (Nat.zero_lt_of_lt hk)]
  obtain ⟨r, hr, hP⟩ := Mat.forM'_inv (fun c (r : Array S) => k < c → r = cellLerp m x k)
    0 (m.nodes.size - 1) (Array.replicate m.nvars (0 : S)) (interpBody m x)
    (Nat.zero_le _) (fun hc => absurd hc (Nat.not_lt_zero k)) (by
      intro c r _ hc p
      have hc1 : c + 1 < m.nodes.size := Nat.add_lt_of_lt_sub hc
      refine ⟨_, interpBody_eq m h hs x r hc1, fun hkc => ?_⟩
      rcases Nat.lt_or_eq_of_le (Nat.le_of_lt_succ hkc) with hlt | rfl
      · rw [hmiss c hlt hc1]; exact p hlt
      · rw [hhit]; rfl)
  rw [← hP (Nat.lt_sub_of_add_lt hk)]
  exact hr

omit h hs

/-- an empty mesh: `nodes.len() - 1` underflows -/
theorem interpolate_arith (hn : m.nodes.size = 0) (x : S) :
    Mesh1.interpolate m x = .error .arith := by
  rw [interpolate_eq, hn]; rfl

end Interpolate

section Trapezium
variable {S : Type} [Add S] [Sub S] [Mul S] [Zero S] [Transc S]

/-- the contribution of cell `k` to `trapezium(var)` as the code computes it:
    `half * (x_{k+1} - x_k) * (f_k + f_{k+1})`, parsed `(half * dx) * (fa + fb)` -/
def cell1 (m : Mesh1 S S) (var k : Nat) : S :=
  half * (m.nodes.getD (k + 1) 0 - m.nodes.getD k 0)
    * ((m.vars.getD k #[]).getD var 0 + (m.vars.getD (k + 1) #[]).getD var 0)

theorem trapezium_eq_fold (m : Mesh1 S S) (h : WF1 m)
    (hs : ∀ k (hk : k < m.vars.size), m.vars[k].size = m.nvars) (hn : 1 ≤ m.nodes.size) {var : Nat} (hv : var < m.nvars) :
    Mesh1.trapezium m var
      = .ok (((List.range (m.nodes.size - 1)).map (cell1 m var)).foldl (· + ·) 0) := by
  unfold Mesh1.trapezium
  rw [usub_ok hn]
  refine Mat.forM'_eq_of_inv (fun k => ((List.range k).map (cell1 m var)).foldl (· + ·) 0)
    0 _ _ _ (Nat.zero_le _) rfl fun k _ hk => ?_
  have hk1 : k + 1 < m.nodes.size := Nat.add_lt_of_lt_sub hk
  have hv0 : k < m.vars.size := Nat.lt_of_lt_of_eq (Nat.lt_of_succ_lt hk1) h.symm
  have hv1 : k + 1 < m.vars.size := Nat.lt_of_lt_of_eq hk1 h.symm
  simp only [List.range_succ, List.map_append, List.foldl_append, List.map_cons, List.map_nil,
    List.foldl_cons, List.foldl_nil, aget_getD (Nat.lt_of_succ_lt hk1) 0, aget_getD hk1 0, aget_getD hv0 #[], aget_getD hv1 #[],
    aget_row_getD hs hv0 hv 0, aget_row_getD hs hv1 hv 0, bind, Except.bind, pure, Except.pure,
    cell1]

theorem trapezium_arith (m : Mesh1 S S) (var : Nat) (hn : m.nodes.size = 0) :
    Mesh1.trapezium m var = .error .arith := by
  unfold Mesh1.trapezium; rw [hn]; rfl

theorem trapWith_arith (g : S → S) (m : Mesh2 S S) {var : Nat}
    (h : m.nx = 0 ∨ (2 ≤ m.nx ∧ 2 ≤ m.xnodes.size ∧ m.ny = 0)) :
    Mesh2.trapWith g m var = .error .arith := by
  unfold Mesh2.trapWith
  rcases h with h | ⟨h1, h2, h3⟩
  · rw [h]; rfl
  · rw [usub_ok (Nat.le_of_succ_le h1)]
    show Mat.forM' 0 (m.nx - 1) (0 : S) _ = _
    apply Mat.forM'_first_error 0 (m.nx - 1) _ _ _ (Nat.sub_pos_of_lt h1)
    simp only [Mat.aget_ok (Nat.lt_of_succ_lt h2), Mat.aget_ok (show 0 + 1 < m.xnodes.size from h2),
      h3, usub_one_err, bind, Except.bind]

end Trapezium

end Loop

theorem mono_of_gaps {α : Type} [Preorder α] (f : ℕ → α) (n : ℕ)
    (hgap : ∀ a, a + 1 < n → f a ≤ f (a + 1)) : ∀ a b, a ≤ b → b < n → f a ≤ f b := by
  intro a b hab
  induction b, hab using Nat.le_induction with
  | base => intro _; exact le_refl _
  | succ b hb ih => intro hlt; exact le_trans (ih (Nat.lt_of_succ_lt hlt)) (hgap b hlt)

section Exact
variable {K : Type} [Field K] [LinearOrder K] [Transc K]
attribute [local instance] Ohsl.Alg.scalarExt
open Transc

/-- coordinate of node `k` (total accessor) -/
def nodeX (m : Mesh1 K K) (k : Nat) : K := m.nodes.getD k 0
/-- value of variable `var` at node `k` (total accessor) -/
def val1 (m : Mesh1 K K) (k var : Nat) : K := (m.vars.getD k #[]).getD var 0
/-- every stored node vector has `nvars` entries -/
def Sized1 (m : Mesh1 K K) : Prop := ∀ k (hk : k < m.vars.size), m.vars[k].size = m.nvars

/-- **1-D trapezium rule, cell by cell**: the value is the sum over the `n - 1` cells of
    `half · (x_{k+1} − x_k) · (f_k + f_{k+1})` -/
theorem trapezium_cells (m : Mesh1 K K) (h : WF1 m) (hs : Sized1 m) (hn : 1 ≤ m.nodes.size)
    {var : Nat} (hv : var < m.nvars) :
    Mesh1.trapezium m var = .ok (∑ k ∈ Finset.range (m.nodes.size - 1),
      half * (nodeX m (k + 1) - nodeX m k) * (val1 m k var + val1 m (k + 1) var)) := by
  rw [trapezium_eq_fold m h hs hn hv, C15.foldl_map_range_eq_sum]
  rfl

/-- the contribution of a cell with linear data `f = α x + β` is the increment of the potential
    `h (α x² + 2 β x)`; read from right to left it says the same of the whole interval -/
theorem linear_cell {F : Type} [Field F] (h α β x0 x1 : F) :
    h * (x1 - x0) * (α * x0 + β + (α * x1 + β))
      = h * (α * x1 ^ 2 + 2 * β * x1) - h * (α * x0 ^ 2 + 2 * β * x0) := by ring

/-- **exactness for linear data**: if `f_k = α x_k + β` at every node, the composite rule
    collapses to the single-cell rule on the whole interval (for ANY value of the constant
    `half`; the sum telescopes) -/
theorem trapezium_linear (m : Mesh1 K K) (h : WF1 m) (hs : Sized1 m) (hn : 1 ≤ m.nodes.size)
    {var : Nat} (hv : var < m.nvars) (α β : K)
    (hf : ∀ k, k < m.nodes.size → val1 m k var = α * nodeX m k + β) :
    Mesh1.trapezium m var = .ok (half * (nodeX m (m.nodes.size - 1) - nodeX m 0) *
      (val1 m 0 var + val1 m (m.nodes.size - 1) var)) := by
  rw [trapezium_cells m h hs hn hv, hf 0 hn, hf (m.nodes.size - 1) (Nat.sub_lt hn Nat.one_pos),
    linear_cell,
    ← Finset.sum_range_sub (fun k => (half : K) * (α * nodeX m k ^ 2 + 2 * β * nodeX m k))]
  refine congrArg _ (Finset.sum_congr rfl fun k hk => ?_)
  have hk' : k + 1 < m.nodes.size := Nat.add_lt_of_lt_sub (Finset.mem_range.mp hk)
  rw [hf k (Nat.lt_of_succ_lt hk'), hf (k + 1) hk']
  exact linear_cell _ _ _ _ _

theorem div_two_eq {F : Type} [Field F] [Transc F] (hhalf : (half : F) + half = 1) (t : F) :
    t / 2 = half * t := by
  have h2 : (2 : F) * half = 1 := by rw [two_mul]; exact hhalf
  rw [div_eq_iff (left_ne_zero_of_mul_eq_one h2), mul_right_comm, mul_comm half, h2, one_mul]

/-- with `half = 1/2` (stated as `half + half = 1`) the rule returns the exact integral
    `∫_a^b (α x + β) dx = α (b² − a²)/2 + β (b − a)` of linear data, `a = x_0`, `b = x_{n-1}` -/
theorem trapezium_linear_exact (m : Mesh1 K K) (h : WF1 m) (hs : Sized1 m)
    (hn : 1 ≤ m.nodes.size) {var : Nat} (hv : var < m.nvars) (α β : K)
    (hhalf : (half : K) + half = 1)
    (hf : ∀ k, k < m.nodes.size → val1 m k var = α * nodeX m k + β) :
    Mesh1.trapezium m var = .ok (α * (nodeX m (m.nodes.size - 1) ^ 2 - nodeX m 0 ^ 2) / 2 +
      β * (nodeX m (m.nodes.size - 1) - nodeX m 0)) := by
  rw [trapezium_linear m h hs hn hv α β hf, hf 0 hn, hf (m.nodes.size - 1) (Nat.sub_lt hn Nat.one_pos),
    div_two_eq hhalf]
  refine congrArg _ ?_
  rw [← one_mul (β * _), ← hhalf]
  ring

/-- x / y coordinate of a grid line (total accessors) -/
def nodeX2 (m : Mesh2 K K) (i : Nat) : K := m.xnodes.getD i 0
def nodeY2 (m : Mesh2 K K) (j : Nat) : K := m.ynodes.getD j 0

/-- contribution of cell `(i, j)`: `quarter · dx · dy · (g f00 + g f10 + g f01 + g f11)` -/
def cell2 (g : K → K) (m : Mesh2 K K) (var i j : Nat) : K :=
  (Mesh2.quarter : K) * (nodeX2 m (i + 1) - nodeX2 m i) * (nodeY2 m (j + 1) - nodeY2 m j) *
    (g (val2 m i j var) + g (val2 m (i + 1) j var) + g (val2 m i (j + 1) var)
      + g (val2 m (i + 1) (j + 1) var))

/-- **2-D trapezium rule, cell by cell** (shared loop of `trapezium` and `square_trapezium`):
    the value is the double sum over the `(nx-1)·(ny-1)` cells of `cell2`.
    (`ny ≥ 1` is only needed when there is at least one cell column, as in the code, where
    `ny - 1` is evaluated inside the x loop.) -/
theorem trapWith_cells {F : Type} [Field F] [Transc F] (g : F → F) (m : Mesh2 F F) (h : WF2 m) (hs : Sized2 m) (hx : 1 ≤ m.nx)
    (hy : 2 ≤ m.nx → 1 ≤ m.ny) {var : Nat} (hv : var < m.nvars) :
    Mesh2.trapWith g m var = .ok (∑ i ∈ Finset.range (m.nx - 1), ∑ j ∈ Finset.range (m.ny - 1),
      cell2 g m var i j) := by
  unfold Mesh2.trapWith
  rw [usub_ok hx]
  refine Mat.forM'_eq_of_inv
    (fun k => ∑ i ∈ Finset.range k, ∑ j ∈ Finset.range (m.ny - 1), cell2 g m var i j)
    0 _ _ _ (Nat.zero_le _) (Finset.sum_range_zero _).symm fun i _ hi => ?_
  have hi1 : i + 1 < m.nx := Nat.add_lt_of_lt_sub hi
  have hi0 : i < m.nx := Nat.lt_of_succ_lt hi1
  simp only [Finset.sum_range_succ _ i, aget_getD (Nat.lt_of_lt_of_eq hi0 h.2.1.symm) 0,
    aget_getD (Nat.lt_of_lt_of_eq hi1 h.2.1.symm) 0,
    usub_ok (hy (Nat.lt_of_le_of_lt (Nat.le_add_left 1 i) hi1)), bind, Except.bind]
  refine Mat.forM'_eq_of_inv (fun k => (∑ i ∈ Finset.range i, ∑ j ∈ Finset.range (m.ny - 1),
      cell2 g m var i j) + ∑ j ∈ Finset.range k, cell2 g m var i j)
    0 _ _ _ (Nat.zero_le _) (by rw [Finset.sum_range_zero, add_zero]) fun j _ hj => ?_
  have hj1 : j + 1 < m.ny := Nat.add_lt_of_lt_sub hj
  have hj0 : j < m.ny := Nat.lt_of_succ_lt hj1
  have hlt : ∀ {a b}, a < m.nx → b < m.ny → a * m.ny + b < m.vars.size := fun ha hb =>
    Nat.lt_of_lt_of_eq (Mat.idx_lt ha hb) h.1.symm
  simp only [Finset.sum_range_succ _ j, aget_getD (Nat.lt_of_lt_of_eq hj0 h.2.2.symm) 0,
    aget_getD (Nat.lt_of_lt_of_eq hj1 h.2.2.symm) 0, aget_getD (hlt hi0 hj0) #[],
    aget_getD (hlt hi1 hj0) #[], aget_getD (hlt hi0 hj1) #[], aget_getD (hlt hi1 hj1) #[],
    aget_row_getD hs (hlt hi0 hj0) hv 0, aget_row_getD hs (hlt hi1 hj0) hv 0,
    aget_row_getD hs (hlt hi0 hj1) hv 0, aget_row_getD hs (hlt hi1 hj1) hv 0, pure,
    Except.pure, cell2, nodeX2, nodeY2, val2]
  exact congrArg _ (add_assoc _ _ _)

/-- `trapezium(var)` on the 2-D mesh: the ordered double sum of
    `quarter · dx · dy · (f00 + f10 + f01 + f11)` -/
theorem trapezium2D_cells (m : Mesh2 K K) (h : WF2 m) (hs : Sized2 m) (hx : 1 ≤ m.nx)
    (hy : 2 ≤ m.nx → 1 ≤ m.ny) {var : Nat} (hv : var < m.nvars) :
    Mesh2.trapezium m var = .ok (∑ i ∈ Finset.range (m.nx - 1), ∑ j ∈ Finset.range (m.ny - 1),
      (Mesh2.quarter : K) * (nodeX2 m (i + 1) - nodeX2 m i) * (nodeY2 m (j + 1) - nodeY2 m j) *
        (val2 m i j var + val2 m (i + 1) j var + val2 m i (j + 1) var
          + val2 m (i + 1) (j + 1) var)) := by
  simpa only [cell2, id_eq, Mesh2.trapezium] using trapWith_cells id m h hs hx hy hv

/-- `square_trapezium(var)`: the same double sum with `|f|²` (as `powf (fabs f) 2`) at the corners -/
theorem squareTrapezium_cells (m : Mesh2 K K) (h : WF2 m) (hs : Sized2 m) (hx : 1 ≤ m.nx)
    (hy : 2 ≤ m.nx → 1 ≤ m.ny) {var : Nat} (hv : var < m.nvars) :
    Mesh2.squareTrapezium m var = .ok (∑ i ∈ Finset.range (m.nx - 1),
      ∑ j ∈ Finset.range (m.ny - 1), cell2 (fun x => powf (fabs x) (1 + 1)) m var i j) :=
  trapWith_cells _ m h hs hx hy hv

/-- an empty x direction, or an empty y direction with at least one cell column, is a usize
    underflow -/
theorem trapWith_empty (g : K → K) (m : Mesh2 K K) {var : Nat}
    (h : m.nx = 0 ∨ (2 ≤ m.nx ∧ 2 ≤ m.xnodes.size ∧ m.ny = 0)) :
    Mesh2.trapWith g m var = .error .arith :=
  trapWith_arith g m h

theorem sum_range_sub_grid {F : Type} [Field F] (G : ℕ → ℕ → F) (n p : ℕ) :
    ∑ i ∈ Finset.range n, ∑ j ∈ Finset.range p,
        (G (i + 1) (j + 1) - G (i + 1) j - (G i (j + 1) - G i j))
      = G n p - G n 0 - (G 0 p - G 0 0) :=
  calc _ = ∑ i ∈ Finset.range n, ((G (i + 1) p - G (i + 1) 0) - (G i p - G i 0)) :=
        Finset.sum_congr rfl fun i _ => by
          rw [sub_sub_sub_comm, ← Finset.sum_range_sub (fun j => G (i + 1) j - G i j) p]
          exact Finset.sum_congr rfl fun j _ => sub_sub_sub_comm _ _ _ _
    _ = _ := Finset.sum_range_sub (fun i => G i p - G i 0) n

/-- potential of the bilinear function `a + b x + c y + d x y` under the trapezium rule -/
def bilinPot (q a b c d x y : K) : K :=
  q * (4 * a * x * y + 2 * b * x ^ 2 * y + 2 * c * x * y ^ 2 + d * x ^ 2 * y ^ 2)

/-- the contribution of a cell with bilinear data is the mixed increment of `bilinPot` over the
    cell; read from right to left it says the same of the whole rectangle -/
theorem bilinear_cell {F : Type} [Field F] (q a b c d x0 x1 y0 y1 : F) :
    q * (x1 - x0) * (y1 - y0) *
        (a + b * x0 + c * y0 + d * x0 * y0 + (a + b * x1 + c * y0 + d * x1 * y0)
          + (a + b * x0 + c * y1 + d * x0 * y1) + (a + b * x1 + c * y1 + d * x1 * y1))
      = bilinPot q a b c d x1 y1 - bilinPot q a b c d x1 y0
        - (bilinPot q a b c d x0 y1 - bilinPot q a b c d x0 y0) := by
  unfold bilinPot; ring

/-- **exactness for bilinear data**: if `f_ij = a + b x_i + c y_j + d x_i y_j` at every grid node,
    the composite rule collapses to the single-cell rule on the whole rectangle (for ANY value of
    `quarter`; the double sum telescopes) -/
theorem trapezium2D_bilinear (m : Mesh2 K K) (h : WF2 m) (hs : Sized2 m) (hx : 1 ≤ m.nx)
    (hy : 1 ≤ m.ny) {var : Nat} (hv : var < m.nvars) (a b c d : K)
    (hf : ∀ i j, i < m.nx → j < m.ny →
      val2 m i j var = a + b * nodeX2 m i + c * nodeY2 m j + d * nodeX2 m i * nodeY2 m j) :
    Mesh2.trapezium m var = .ok ((Mesh2.quarter : K) * (nodeX2 m (m.nx - 1) - nodeX2 m 0) *
      (nodeY2 m (m.ny - 1) - nodeY2 m 0) *
      (val2 m 0 0 var + val2 m (m.nx - 1) 0 var + val2 m 0 (m.ny - 1) var
        + val2 m (m.nx - 1) (m.ny - 1) var)) := by
  have hx1 : m.nx - 1 < m.nx := Nat.sub_lt hx Nat.one_pos
  have hy1 : m.ny - 1 < m.ny := Nat.sub_lt hy Nat.one_pos
  rw [trapezium2D_cells m h hs hx (fun _ => hy) hv, hf 0 0 hx hy, hf (m.nx - 1) 0 hx1 hy,
    hf 0 (m.ny - 1) hx hy1, hf (m.nx - 1) (m.ny - 1) hx1 hy1, bilinear_cell,
    ← sum_range_sub_grid (fun i j => bilinPot Mesh2.quarter a b c d (nodeX2 m i) (nodeY2 m j))]
  refine congrArg _ (Finset.sum_congr rfl fun i hi => Finset.sum_congr rfl fun j hj => ?_)
  have hi' : i + 1 < m.nx := Nat.add_lt_of_lt_sub (Finset.mem_range.mp hi)
  have hj' : j + 1 < m.ny := Nat.add_lt_of_lt_sub (Finset.mem_range.mp hj)
  rw [hf i j (Nat.lt_of_succ_lt hi') (Nat.lt_of_succ_lt hj'), hf (i + 1) j hi' (Nat.lt_of_succ_lt hj'),
    hf i (j + 1) (Nat.lt_of_succ_lt hi') hj', hf (i + 1) (j + 1) hi' hj']
  exact bilinear_cell _ _ _ _ _ _ _ _ _

/-- with `half = 1/2` the rule returns the exact integral of the bilinear function
    `a + b x + c y + d x y` over `[x_0, x_{nx-1}] × [y_0, y_{ny-1}]` -/
theorem trapezium2D_bilinear_exact (m : Mesh2 K K) (h : WF2 m) (hs : Sized2 m) (hx : 1 ≤ m.nx)
    (hy : 1 ≤ m.ny) {var : Nat} (hv : var < m.nvars) (a b c d : K)
    (hhalf : (half : K) + half = 1)
    (hf : ∀ i j, i < m.nx → j < m.ny →
      val2 m i j var = a + b * nodeX2 m i + c * nodeY2 m j + d * nodeX2 m i * nodeY2 m j) :
    Mesh2.trapezium m var = .ok (
      a * (nodeX2 m (m.nx - 1) - nodeX2 m 0) * (nodeY2 m (m.ny - 1) - nodeY2 m 0)
      + b * (nodeX2 m (m.nx - 1) ^ 2 - nodeX2 m 0 ^ 2) / 2 * (nodeY2 m (m.ny - 1) - nodeY2 m 0)
      + c * (nodeX2 m (m.nx - 1) - nodeX2 m 0) * (nodeY2 m (m.ny - 1) ^ 2 - nodeY2 m 0 ^ 2) / 2
      + d * (nodeX2 m (m.nx - 1) ^ 2 - nodeX2 m 0 ^ 2) / 2
          * (nodeY2 m (m.ny - 1) ^ 2 - nodeY2 m 0 ^ 2) / 2) := by
  have hx1 : m.nx - 1 < m.nx := Nat.sub_lt hx Nat.one_pos
  have hy1 : m.ny - 1 < m.ny := Nat.sub_lt hy Nat.one_pos
  rw [trapezium2D_bilinear m h hs hx hy hv a b c d hf, hf 0 0 hx hy, hf (m.nx - 1) 0 hx1 hy,
    hf 0 (m.ny - 1) hx hy1, hf (m.nx - 1) (m.ny - 1) hx1 hy1]
  simp only [div_two_eq hhalf, Mesh2.quarter]
  refine congrArg _ ?_
  generalize nodeX2 m (m.nx - 1) = x1
  generalize nodeX2 m 0 = x0
  generalize nodeY2 m (m.ny - 1) = y1
  generalize nodeY2 m 0 = y0
  -- each term gets the factors `1 = half + half` that it lacks against `half * half` on the left
  rw [← one_mul (a * (x1 - x0) * (y1 - y0)), ← one_mul (a * (x1 - x0) * (y1 - y0)),
    ← one_mul (half * (b * (x1 ^ 2 - x0 ^ 2)) * (y1 - y0)),
    ← one_mul (half * (c * (x1 - x0) * (y1 ^ 2 - y0 ^ 2))), ← hhalf]
  ring

section Interp

/-- the condition under which cell `c` overwrites the result -/
def hit (m : Mesh1 K K) (x : K) (c : Nat) : Prop :=
  (nodeX m c < x ∧ x < nodeX m (c + 1)) ∨ |nodeX m c - x| < snap ∨ |nodeX m (c + 1) - x| < snap

theorem cellHit_iff (m : Mesh1 K K) (hfabs : ∀ a : K, fabs a = |a|) (x : K) (c : Nat) :
    cellHit m x c = true ↔ hit m x c := by
  simp [cellHit, hit, nodeX, hfabs, or_assoc]

variable [IsStrictOrderedRing K]

theorem later_miss (m : Mesh1 K K) (hfabs : ∀ a : K, fabs a = |a|) (hsnap : (0 : K) < snap)
    (hmono : ∀ a b, a ≤ b → b < m.nodes.size → nodeX m a ≤ nodeX m b) {x : K} {k : Nat}
    (hx : snap ≤ nodeX m (k + 1) - x) :
    ∀ c, k < c → c + 1 < m.nodes.size → cellHit m x c = false := by
  intro c hkc hc
  have h0 : snap ≤ nodeX m c - x := hx.trans (sub_le_sub_right (hmono (k + 1) c hkc (Nat.lt_of_succ_lt hc)) x)
  have h1 : snap ≤ nodeX m (c + 1) - x :=
    h0.trans (sub_le_sub_right (hmono c (c + 1) (Nat.le_succ c) hc) x)
  refine Bool.eq_false_iff.mpr fun hb => ?_
  rcases (cellHit_iff m hfabs x c).mp hb with ⟨q, _⟩ | q | q
  · exact ((sub_neg.mpr q).trans hsnap).not_ge h0
  · exact ((le_abs_self _).trans_lt q).not_ge h0
  · exact ((le_abs_self _).trans_lt q).not_ge h1

theorem lerp_right {F : Type} [Field F] (L R : Array F) (xl xr : F) (hsz : L.size = R.size) (hne : xr ≠ xl) :
    lerp L R xl xr xr = R := by
  apply Array.ext
  · simp [lerp, hsz]
  · intro i h1 h2
    simp only [lerp, Array.getElem_zipWith, Array.getElem_map]
    rw [div_mul_cancel₀ _ (sub_ne_zero.mpr hne), add_sub_cancel]

theorem lerp_left {F : Type} [Field F] (L R : Array F) (xl xr : F) (hsz : L.size = R.size) :
    lerp L R xl xr xl = L := by
  apply Array.ext
  · simp [lerp, hsz]
  · intro i h1 h2
    simp [lerp]

/-- a mesh with one node has no cell: interpolation returns the zero vector whatever `x` is -/
theorem interp_single_node (m : Mesh1 K K) (hn : m.nodes.size = 1) (x : K) :
    Mesh1.interpolate m x = .ok (Array.replicate m.nvars (0 : K)) := by
  rw [interpolate_eq, hn]
  exact Mat.forM'_empty 0 0 _ (interpBody m x) (Nat.le_refl _)

/-- an empty mesh: `nodes.len() - 1` underflows -/
theorem interp_empty (m : Mesh1 K K) (hn : m.nodes.size = 0) (x : K) :
    Mesh1.interpolate m x = .error .arith :=
  interpolate_arith m hn x

/-- **interpolation strictly inside a cell** (at distance at least `snap` from both ends):
    for sorted nodes only cell `k` matches and the result is, component by component,
    `left + ((right − left) / (x_{k+1} − x_k)) · (x − x_k)` -/
theorem interp_between (m : Mesh1 K K) (h : WF1 m) (hs : Sized1 m)
    (hfabs : ∀ a : K, fabs a = |a|) (hsnap : (0 : K) < snap)
    (hmono : ∀ a b, a ≤ b → b < m.nodes.size → nodeX m a ≤ nodeX m b)
    {k : Nat} (hk : k + 1 < m.nodes.size) (x : K)
    (hx1 : nodeX m k + snap ≤ x) (hx2 : x ≤ nodeX m (k + 1) - snap) :
    ∃ r, Mesh1.interpolate m x = .ok r ∧ r.size = m.nvars ∧
      ∀ v, v < m.nvars → r[v]? = some (val1 m k v +
        (val1 m (k + 1) v - val1 m k v) / (nodeX m (k + 1) - nodeX m k) * (x - nodeX m k)) := by
  have hhit : hit m x k :=
    Or.inl ⟨(lt_add_of_pos_right _ hsnap).trans_le hx1, hx2.trans_lt (sub_lt_self _ hsnap)⟩
  exact ⟨_, interpolate_last_hit m h hs x hk ((cellHit_iff m hfabs x k).mpr hhit)
      (later_miss m hfabs hsnap hmono (le_sub_comm.mp hx2)),
    cellLerp_size m h hs x hk, fun v hv => cellLerp_getElem? m h hs x hk hv⟩

/-- **interpolation at a node** (any node, end nodes included, of a mesh with at least one cell):
    if every gap between consecutive nodes is at least the snapping window `snap > 0`, then
    interpolating at `x = x_k` returns exactly the vector stored at node `k`.
    (The last matching cell is cell `k`, which gives `left + …·0 = left` — or, at the last node,
    cell `k-1`, which gives `left + ((right-left)/d)·d = right`, exact in a field.) -/
theorem interp_at_node (m : Mesh1 K K) (h : WF1 m) (hs : Sized1 m)
    (hfabs : ∀ a : K, fabs a = |a|) (hsnap : (0 : K) < snap)
    (hgap : ∀ a, a + 1 < m.nodes.size → snap ≤ nodeX m (a + 1) - nodeX m a)
    (hn : 2 ≤ m.nodes.size) {k : Nat} (hk : k < m.nodes.size) :
    Mesh1.interpolate m (nodeX m k) = Mesh1.getNodesVars m k := by
  have hmono := mono_of_gaps (nodeX m) _ fun a ha => sub_nonneg.mp (hsnap.le.trans (hgap a ha))
  have hsz : ∀ c, c + 1 < m.nodes.size → (m.vars.getD c #[]).size = (m.vars.getD (c + 1) #[]).size :=
    fun c hc => (cell_rows m h hs hc).1.trans (cell_rows m h hs hc).2.symm
  have hzero : |nodeX m k - nodeX m k| < snap := by rw [sub_self, abs_zero]; exact hsnap
  rw [getNodesVars_getD m h hk]
  by_cases hk1 : k + 1 < m.nodes.size
  · rw [interpolate_last_hit m h hs _ hk1 ((cellHit_iff m hfabs _ k).mpr (Or.inr (Or.inl hzero)))
      (later_miss m hfabs hsnap hmono (hgap k hk1))]
    exact congrArg _ (lerp_left _ _ _ _ (hsz k hk1))
  · obtain ⟨c, rfl⟩ : ∃ c, k = c + 1 := ⟨k - 1, by omega⟩
    have hc : c + 1 < m.nodes.size := hk
    have hne : nodeX m (c + 1) ≠ nodeX m c :=
      fun e => (hsnap.trans_le (hgap c hc)).ne' (sub_eq_zero.mpr e)
    rw [interpolate_last_hit m h hs _ hc ((cellHit_iff m hfabs _ c).mpr (Or.inr (Or.inr hzero)))
      fun c' hcc hc' => absurd hc' (by omega)]
    exact congrArg _ (lerp_right _ _ _ _ (hsz c hc) hne)

end Interp

end Exact

/-! ## (R) the same statements at `ℝ` with the real interpretation of the `f64`-only constants
    (`half = 1/2`, `snap = 10⁻⁷`, `fabs = |·|`): the hypotheses about the `Transc` instance are
    satisfiable, and the quadrature rules are exact for (bi)linear data -/
section Real
open Ohsl.RealI Transc

theorem real_half : (half : ℝ) + half = 1 := by
  show (1 / 2 : ℝ) + 1 / 2 = 1
  norm_num

theorem real_snap_pos : (0 : ℝ) < snap := by
  show (0 : ℝ) < 1 / 10 ^ 7
  positivity

theorem real_fabs (a : ℝ) : fabs a = |a| := rfl

theorem trapezium_linear_exact_real (m : Mesh1 ℝ ℝ) (h : WF1 m) (hs : Sized1 m)
    (hn : 1 ≤ m.nodes.size) {var : Nat} (hv : var < m.nvars) (α β : ℝ)
    (hf : ∀ k, k < m.nodes.size → val1 m k var = α * nodeX m k + β) :
    Mesh1.trapezium m var = .ok (α * (nodeX m (m.nodes.size - 1) ^ 2 - nodeX m 0 ^ 2) / 2 +
      β * (nodeX m (m.nodes.size - 1) - nodeX m 0)) :=
  trapezium_linear_exact m h hs hn hv α β real_half hf

theorem trapezium2D_bilinear_exact_real (m : Mesh2 ℝ ℝ) (h : WF2 m) (hs : Sized2 m)
    (hx : 1 ≤ m.nx) (hy : 1 ≤ m.ny) {var : Nat} (hv : var < m.nvars) (a b c d : ℝ)
    (hf : ∀ i j, i < m.nx → j < m.ny →
      val2 m i j var = a + b * nodeX2 m i + c * nodeY2 m j + d * nodeX2 m i * nodeY2 m j) :
    Mesh2.trapezium m var = .ok (
      a * (nodeX2 m (m.nx - 1) - nodeX2 m 0) * (nodeY2 m (m.ny - 1) - nodeY2 m 0)
      + b * (nodeX2 m (m.nx - 1) ^ 2 - nodeX2 m 0 ^ 2) / 2 * (nodeY2 m (m.ny - 1) - nodeY2 m 0)
      + c * (nodeX2 m (m.nx - 1) - nodeX2 m 0) * (nodeY2 m (m.ny - 1) ^ 2 - nodeY2 m 0 ^ 2) / 2
      + d * (nodeX2 m (m.nx - 1) ^ 2 - nodeX2 m 0 ^ 2) / 2
          * (nodeY2 m (m.ny - 1) ^ 2 - nodeY2 m 0 ^ 2) / 2) :=
  trapezium2D_bilinear_exact m h hs hx hy hv a b c d real_half hf

theorem interp_between_real (m : Mesh1 ℝ ℝ) (h : WF1 m) (hs : Sized1 m)
    (hmono : ∀ a b, a ≤ b → b < m.nodes.size → nodeX m a ≤ nodeX m b)
    {k : Nat} (hk : k + 1 < m.nodes.size) (x : ℝ)
    (hx1 : nodeX m k + 1 / 10 ^ 7 ≤ x) (hx2 : x ≤ nodeX m (k + 1) - 1 / 10 ^ 7) :
    ∃ r, Mesh1.interpolate m x = .ok r ∧ r.size = m.nvars ∧
      ∀ v, v < m.nvars → r[v]? = some (val1 m k v +
        (val1 m (k + 1) v - val1 m k v) / (nodeX m (k + 1) - nodeX m k) * (x - nodeX m k)) :=
  interp_between m h hs real_fabs real_snap_pos hmono hk x hx1 hx2

theorem interp_at_node_real (m : Mesh1 ℝ ℝ) (h : WF1 m) (hs : Sized1 m)
    (hgap : ∀ a, a + 1 < m.nodes.size → (1 / 10 ^ 7 : ℝ) ≤ nodeX m (a + 1) - nodeX m a)
    (hn : 2 ≤ m.nodes.size) {k : Nat} (hk : k < m.nodes.size) :
    Mesh1.interpolate m (nodeX m k) = Mesh1.getNodesVars m k :=
  interp_at_node m h hs real_fabs real_snap_pos hgap hn hk

/-- the hypotheses of the interpolation theorems are satisfiable: the three-node mesh
    `x = 0, 1, 3` carrying one variable -/
example : ∃ m : Mesh1 ℝ ℝ, WF1 m ∧ Sized1 m ∧ 2 ≤ m.nodes.size ∧
    (∀ a, a + 1 < m.nodes.size → (1 / 10 ^ 7 : ℝ) ≤ nodeX m (a + 1) - nodeX m a) ∧
    nodeX m 1 + 1 / 10 ^ 7 ≤ 2 ∧ (2 : ℝ) ≤ nodeX m 2 - 1 / 10 ^ 7 := by
  refine ⟨⟨1, #[0, 1, 3], #[#[5], #[7], #[2]]⟩, rfl, ?_, by decide, ?_, ?_, ?_⟩
  · intro k hk
    have hk' : k < 3 := hk
    rcases (by omega : k = 0 ∨ k = 1 ∨ k = 2) with rfl | rfl | rfl <;> rfl
  · intro a ha
    have ha' : a + 1 < 3 := ha
    rcases (by omega : a = 0 ∨ a = 1) with rfl | rfl
    · show (1 / 10 ^ 7 : ℝ) ≤ 1 - 0
      norm_num
    · show (1 / 10 ^ 7 : ℝ) ≤ 3 - 1
      norm_num
  · show (1 : ℝ) + 1 / 10 ^ 7 ≤ 2
    norm_num
  · show (2 : ℝ) ≤ 3 - 1 / 10 ^ 7
    norm_num

end Real

end Ohsl.Props.C19
