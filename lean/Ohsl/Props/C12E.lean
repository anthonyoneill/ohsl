/-
  Property C12 (part E) — the NUMBER OF ITERATIONS of the polynomial long division of the model
  (`Ohsl/Model/Poly.lean`: `divStep`, `divLoop`, `polydiv`) and the sharpness of the iteration cap.

  `divLoopC` / `polydivC` (C12D) are the model's loop returning the final value of its iteration
  counter as well; `Run v m q r q' r'` (C12D) is the run of `m` iterations as a relation.
  Every iteration at a non-zero leading coefficient contributes one non-zero coefficient to the
  quotient, at strictly decreasing positions (`run_quotient`): the count is read off the quotient
  (`divSteps`).

  (S) any scalar type, arbitrary operations: `polydiv_steps_zero`, `polydiv_steps_le`.
  (E) a field whose `==` is lawful and whose `divM` is the guarded field division (`Alg.DivLaw`:
      ordered fields with `Alg.scalarExt`, the executable `Rat`, the model's `Cx ℝ`), divisor with
      non-zero last coefficient:
  * `polydiv_steps_exact`, `divLoop_counter_exact`, `polydiv_none_iff`: the exact value of the
    counter, and when the error is reported;
  * `divSteps_le`, `divSteps_eq_zero`, `divSteps_eq_bound_iff`: the bound on the count and when it
    is attained;
  * `polydiv_cap_reached`, `polydiv_cap_not_reached`, `polydiv_cap_reached_of_divisor`,
    `polydiv_cap_reached_rat`, `polydiv_cap_reached_ordered`: the cap IS reached, for every divisor —
    the hypothesis `u.size < v.size + 1000` of `polydiv_terminates_of_lead` / `polydiv_total` is
    sharp.
-/
import Ohsl.Props.C12D
import Ohsl.Lemmas.C12E
namespace Ohsl.Props.C12
open Ohsl Ohsl.Poly Ohsl.PolyDiv

section Structural
variable {K : Type} [Add K] [Sub K] [Mul K] [Neg K] [Zero K] [One K] [BEq K] [ScalarExt K]

set_option linter.unusedSectionVars false in
/-- **no iteration** when the dividend is zero (or empty) or shorter than the divisor: the counter
ends at `0`, the quotient is empty and the remainder is the dividend -/
theorem polydiv_steps_zero (u v : Array K) (hv : v.size ≠ 0) (hz : isZero v = false)
    (hu : isZero u = true ∨ u.size < v.size) : polydivC u v = .ok (0, some (#[], u)) := by
  have := polydivC_of_run u v hv hz (Run.done #[] u) hu
  simpa using this

set_option linter.unusedSectionVars false in
/-- **bound on the number of iterations**, any scalar type: the loop never panics, and its counter
ends at a value `n ≤ u.size + 1 − v.size` (i.e. `≤ u.size − v.size + 1` when `v.size ≤ u.size`),
`n ≤ 1001`; the result is `none` exactly when `n = 1001`. -/
theorem polydiv_steps_le (u v : Array K) (hv : v.size ≥ 1) (hz : isZero v = false)
    (h00 : ((0 : K) == 0) = true)
    (hdiv : ∀ a lv : K, v[v.size - 1]? = some lv → ∃ c, divM a lv = .ok c) :
    ∃ n res, polydivC u v = .ok (n, res) ∧ n ≤ u.size + 1 - v.size ∧ n ≤ 1001 ∧
      (isZero u = true → n = 0) ∧ (res = none ↔ n = 1001) := by
  obtain ⟨m, q, r, hrun, hex⟩ := run_exists v hv h00 hdiv _ #[] u (le_refl _)
  have hm := run_steps_le v hv h00 hrun
  unfold pot at hm
  have hpc := polydivC_of_run u v (by omega) hz hrun hex
  have hm' : m ≤ u.size + 1 - v.size := by split at hm <;> omega
  have hm0 : isZero u = true → m = 0 := by intro h; rw [h] at hm; simpa using hm
  by_cases hcap : m ≤ 1000
  · rw [if_pos hcap] at hpc
    exact ⟨m, some (q, r), hpc, hm', by omega, hm0, by simp; omega⟩
  · rw [if_neg hcap] at hpc
    exact ⟨1001, none, hpc, by omega, le_refl _, fun h => by have := hm0 h; omega, by simp⟩

end Structural

section Poly
open Polynomial Ohsl.PolyDivE
variable {K : Type} [Field K]

theorem support_monomial_add {c : K} (hc : c ≠ 0) {D : K[X]} {k : ℕ} (hDk : D.coeff k = 0) :
    (C c * X ^ k + D).support = insert k D.support := by
  ext j
  simp only [mem_support_iff, coeff_add, coeff_C_mul_X_pow, Finset.mem_insert]
  by_cases hj : j = k
  · subst hj; simp [hDk, hc]
  · simp [hj]

theorem toPoly_one : toPoly (#[1] : Array K) = 1 := by
  rw [← C_1, ← mul_one (C (1 : K)), ← pow_zero X, ← toPoly_stepT 0 1]; rfl

theorem eq_mul_one_add_zero (P : K[X]) :
    P = P * toPoly (#[1] : Array K) + toPoly (#[0] : Array K) := by
  rw [toPoly_one, mul_one, show toPoly (#[0] : Array K) = 0 from PolyAlg.toPoly_replicate_zero 1,
    add_zero]

theorem support_toPoly_ones (n : Nat) :
    (toPoly (Array.replicate n (1 : K))).support = Finset.range n := by
  ext j
  rw [mem_support_iff, coeff_toPoly, Finset.mem_range, Array.getElem?_replicate]
  by_cases hj : j < n <;> simp [hj]

variable [BEq K]

/-- **the predicted number of iterations**: the number of non-zero coefficients of the Euclidean
quotient, plus one if a non-zero dividend at least as long as the divisor is stored with a zero
last coefficient (the first iteration then only trims it) -/
noncomputable def divSteps (u v : Array K) : Nat :=
  (toPoly u / toPoly v).support.card +
    (if (!(isZero u) && decide (v.size ≤ u.size) && (u[u.size - 1]?.getD 0 == 0)) = true
      then 1 else 0)

theorem divSteps_eq (u v : Array K) : divSteps u v = (toPoly u / toPoly v).support.card +
    (if isZero u = false ∧ v.size ≤ u.size ∧ (u[u.size - 1]?.getD 0 == 0) = true then 1 else 0) := by
  exact congrArg _ (if_congr (by simp only [Bool.and_eq_true, Bool.not_eq_true', decide_eq_true_eq,
    and_assoc]) rfl rfl)

variable [LawfulBEq K]

theorem divSteps_ones (n : Nat) : divSteps (Array.replicate n (1 : K)) #[1] = n := by
  rw [divSteps_eq, toPoly_one, EuclideanDomain.div_one, support_toPoly_ones, Finset.card_range,
    if_neg, Nat.add_zero]
  rintro ⟨-, hs, h⟩
  rw [Array.size_replicate] at hs h
  rw [Array.getElem?_replicate, if_pos (Nat.sub_lt hs Nat.one_pos)] at h
  simp at h

end Poly

section Exact
open Polynomial Ohsl.PolyDivE
variable {K : Type} [Field K] [BEq K] [LawfulBEq K] [ScalarExt K] [Alg.DivLaw K]

/-- **one non-zero quotient coefficient per iteration**, from a remainder that is zero or has a
non-zero last coefficient (every remainder after the first step is of this kind) -/
theorem run_quotient (v : Array K) (hv : 1 ≤ v.size) {m : Nat} {q r q' r' : Array K}
    (h : Run v m q r q' r') (hn : isZero r = true ∨ r[r.size - 1]?.getD 0 ≠ 0) :
    ∃ D : Polynomial K, toPoly q' = toPoly q + D ∧ D.support.card = m ∧
      ∀ j, D.coeff j ≠ 0 → j + v.size ≤ r.size ∧ isZero r = false := by
  induction h with
  | done q r => exact ⟨0, by simp, by simp, by simp⟩
  | @step m q r q1 r1 q' r' hr hz hstep hrun ih =>
    have hlr : r[r.size - 1]?.getD 0 ≠ 0 := hn.resolve_left (by rw [hz]; exact Bool.false_ne_true)
    rw [Array.getElem?_eq_getElem (by omega), Option.getD_some] at hlr
    obtain ⟨hlv, hq1, hr1⟩ := divStep_closed v q r q1 r1 hv hr hstep
    have hc0 := div_ne_zero hlr hlv
    generalize r[r.size - 1]'(by omega) / v[v.size - 1]'(by omega) = c at hq1 hr1 hc0
    have hnorm : isZero r1 = true ∨ r1[r1.size - 1]?.getD 0 ≠ 0 := by
      rw [hr1]; exact trimA_normal _ (by rw [stepR0_size v r c hv hr]; omega)
    obtain ⟨D1, hD1, hcard, hbound⟩ := ih hnorm
    -- the rest of the run works below the shift `k` of this step
    have hlow : ∀ j, D1.coeff j ≠ 0 → j + v.size < r.size := by
      intro j hj
      obtain ⟨h1, h2⟩ := hbound j hj
      rcases divStep_zero_or_shorter v q r q1 r1 hv hr (by simp) hstep with hz1 | hlt
      · rw [hz1] at h2; cases h2
      · exact Nat.lt_of_le_of_lt h1 hlt
    have hDk : D1.coeff (r.size - v.size) = 0 := by
      by_contra hne
      exact (hlow _ hne).ne (Nat.sub_add_cancel hr)
    have hq1p : toPoly q1 = toPoly q + C c * X ^ (r.size - v.size) := by
      rw [hq1, toPoly_trimA, toPoly_stepQ0]
    refine ⟨C c * X ^ (r.size - v.size) + D1, by rw [hD1, hq1p, add_assoc], ?_, fun j hj => ⟨?_, hz⟩⟩
    · rw [support_monomial_add hc0 hDk,
        Finset.card_insert_of_notMem (by simp [mem_support_iff, hDk]), hcard]
    · rw [coeff_add, coeff_C_mul_X_pow] at hj
      by_cases hjk : j = r.size - v.size
      · rw [hjk, Nat.sub_add_cancel hr]
      · rw [if_neg hjk, zero_add] at hj
        exact (hlow j hj).le

theorem run_count_exact (u v : Array K) (hlead : v[v.size - 1]?.getD 0 ≠ 0) {m : Nat}
    {q r : Array K} (h : Run v m #[] u q r) (hex : isZero r = true ∨ r.size < v.size) :
    m = divSteps u v ∧ toPoly q = toPoly u / toPoly v ∧ toPoly r = toPoly u % toPoly v := by
  obtain ⟨hv, -, -, hv0, -⟩ := lead_facts v hlead
  have hspec := run_spec v hv h
  rw [toPoly_empty, zero_mul, zero_add] at hspec
  have hdeg := degree_lt_of_exit v r hlead (hex.imp_left (isZero_iff r).1)
  obtain ⟨hq, hr⟩ := div_mod_unique _ _ _ _ hv0 hspec.symm hdeg
  refine ⟨?_, hq, hr⟩
  rw [divSteps_eq, ← hq]
  by_cases hzu : isZero u = true
  · -- zero dividend: no iteration
    obtain ⟨hm0, hq0, _⟩ := run_of_isZero v h hzu
    rw [hm0, hq0, toPoly_empty, support_zero, Finset.card_empty,
      if_neg (fun h => Bool.false_ne_true (h.1.symm.trans hzu))]
  · by_cases hlu : u[u.size - 1]?.getD 0 = 0
    · -- un-trimmed dividend: the first iteration has the multiplier `0` and only trims
      cases h with
      | done =>
        rw [toPoly_empty, support_zero, Finset.card_empty, if_neg]
        rintro ⟨-, hs, -⟩
        exact hex.elim hzu (Nat.not_lt.mpr hs)
      | @step m' _ _ q1 r1 _ _ hr' hz' hstep hrun =>
        obtain ⟨-, hq1, hr1⟩ := divStep_closed v #[] u q1 r1 hv hr' hstep
        rw [Array.getElem?_eq_getElem (by omega), Option.getD_some] at hlu
        rw [hlu, zero_div] at hq1 hr1
        have hnorm : isZero r1 = true ∨ r1[r1.size - 1]?.getD 0 ≠ 0 := by
          rw [hr1]; exact trimA_normal _ (by rw [stepR0_size v u 0 hv hr']; omega)
        obtain ⟨D, hD, hcard, _⟩ := run_quotient v hv hrun hnorm
        have hq1p : toPoly q1 = 0 := by
          rw [hq1, toPoly_trimA, toPoly_stepQ0]; simp
        rw [hq1p, zero_add] at hD
        rw [hD, hcard, if_pos ⟨hz', hr', by rw [Array.getElem?_eq_getElem (by omega), hlu]; simp⟩]
    · -- trimmed dividend
      obtain ⟨D, hD, hcard, _⟩ := run_quotient v hv h (Or.inr hlu)
      rw [toPoly_empty, zero_add] at hD
      rw [hD, hcard, if_neg (fun h => hlu (eq_of_beq h.2.2)), Nat.add_zero]

theorem run_complete (u v : Array K) (hlead : v[v.size - 1]?.getD 0 ≠ 0) :
    ∃ q r, Run v (divSteps u v) #[] u q r ∧ (isZero r = true ∨ r.size < v.size) ∧
      toPoly q = toPoly u / toPoly v ∧ toPoly r = toPoly u % toPoly v := by
  obtain ⟨hv, -, -, -, hdiv⟩ := lead_facts v hlead
  obtain ⟨m, q, r, hrun, hex⟩ := run_exists v hv (by simp) hdiv _ #[] u (le_refl _)
  obtain ⟨hm, hq, hr⟩ := run_count_exact u v hlead hrun hex
  subst hm
  exact ⟨q, r, hrun, hex, hq, hr⟩

/-- **`polydiv_steps_exact`: the exact number of loop iterations over a field.**  For a divisor with
non-zero last coefficient the loop never panics; its counter ends at `divSteps u v` and it returns
Mathlib's Euclidean quotient and remainder — unless `divSteps u v > 1000`, in which case the counter
stops at `1001` and the error result `none` is returned. -/
theorem polydiv_steps_exact (u v : Array K) (hlead : v[v.size - 1]?.getD 0 ≠ 0) :
    ∃ q r, toPoly q = toPoly u / toPoly v ∧ toPoly r = toPoly u % toPoly v ∧
      (isZero r = true ∨ r.size < v.size) ∧
      polydivC u v =
        .ok (if divSteps u v ≤ 1000 then (divSteps u v, some (q, r)) else (1001, none)) := by
  obtain ⟨hv, -, hzv, -, -⟩ := lead_facts v hlead
  obtain ⟨q, r, hrun, hex, hq, hr⟩ := run_complete u v hlead
  exact ⟨q, r, hq, hr, hex, polydivC_of_run u v (by omega) hzv hrun hex⟩

/-- the model's loop started with counter `count` reports the error exactly when
`count + divSteps u v > 1000`: the iteration count is observable through `Poly.divLoop` alone -/
theorem divLoop_counter_exact (u v : Array K) (hlead : v[v.size - 1]?.getD 0 ≠ 0)
    (fuel count : Nat) (hc : count ≤ 1000) (hf : 1002 ≤ fuel + count) :
    (divLoop v fuel count #[] u = .ok none ↔ 1000 < count + divSteps u v) ∧
      ∃ res, divLoop v fuel count #[] u = .ok res := by
  obtain ⟨q, r, hrun, hex, -, -⟩ := run_complete u v hlead
  rw [divLoop_of_run v hrun hex fuel count hc hf]
  refine ⟨?_, _, rfl⟩
  by_cases h : count + divSteps u v ≤ 1000
  · rw [if_pos h]; simp; omega
  · rw [if_neg h]; simp; omega

/-- **the iteration error is reported exactly when more than 1000 iterations are needed** -/
theorem polydiv_none_iff (u v : Array K) (hlead : v[v.size - 1]?.getD 0 ≠ 0) :
    polydiv u v = .ok none ↔ 1000 < divSteps u v := by
  obtain ⟨hv, -, hzv, -, -⟩ := lead_facts v hlead
  have h := (divLoop_counter_exact u v hlead 1002 0 (by omega) (by omega)).1
  rw [Nat.zero_add] at h
  unfold polydiv
  rw [if_neg (by omega), hzv]
  simp only [Bool.false_eq_true, if_false]
  exact h

/-- `count ≤ u.size − v.size + 1` (for `v.size ≤ u.size`; in general `≤ u.size + 1 − v.size`) -/
theorem divSteps_le (u v : Array K) (hlead : v[v.size - 1]?.getD 0 ≠ 0) :
    divSteps u v ≤ u.size + 1 - v.size := by
  obtain ⟨hv, -, -, -, -⟩ := lead_facts v hlead
  obtain ⟨q, r, hrun, -, -, -⟩ := run_complete u v hlead
  have := run_steps_le v hv (by simp) hrun
  unfold pot at this
  split at this <;> omega

/-- `count = 0` when the dividend is zero (or empty) or shorter than the divisor -/
theorem divSteps_eq_zero (u v : Array K) (hlead : v[v.size - 1]?.getD 0 ≠ 0)
    (hu : isZero u = true ∨ u.size < v.size) : divSteps u v = 0 := by
  obtain ⟨hm, _, _⟩ := run_count_exact u v hlead (Run.done #[] u) hu
  exact hm.symm

theorem quotient_coeff_bound (u v : Array K) (hlead : v[v.size - 1]?.getD 0 ≠ 0) (j : Nat)
    (hj : (toPoly u / toPoly v).coeff j ≠ 0) : j + v.size ≤ u.size := by
  obtain ⟨hv, hlv, hzv, hv0, _⟩ := lead_facts v hlead
  by_contra hlt
  have hdiv0 : toPoly u / toPoly v ≠ 0 := fun e => by rw [e, coeff_zero] at hj; exact hj rfl
  have hle : (toPoly v).degree ≤ (toPoly u).degree := by
    by_contra hc
    exact hdiv0 ((Polynomial.div_eq_zero_iff hv0).2 (not_le.1 hc))
  have hd := degree_add_div hv0 hle
  have h1 : (j : WithBot ℕ) ≤ (toPoly u / toPoly v).degree := le_degree_of_ne_zero hj
  have h2 := le_degree_toPoly v hlead
  have h3 := degree_toPoly_lt u
  have h4 : (((v.size - 1) + j : ℕ) : WithBot ℕ) < (u.size : WithBot ℕ) := by
    calc (((v.size - 1) + j : ℕ) : WithBot ℕ)
        = ((v.size - 1 : ℕ) : WithBot ℕ) + (j : WithBot ℕ) := Nat.cast_add _ _
      _ ≤ (toPoly v).degree + (toPoly u / toPoly v).degree := add_le_add h2 h1
      _ = (toPoly u).degree := hd
      _ < _ := h3
  have : (v.size - 1) + j < u.size := by exact_mod_cast h4
  omega

/-- **the bound is attained exactly when no coefficient of the quotient vanishes** (dividend stored
with a non-zero last coefficient, at least as long as the divisor) -/
theorem divSteps_eq_bound_iff (u v : Array K) (hlead : v[v.size - 1]?.getD 0 ≠ 0)
    (hu : u[u.size - 1]?.getD 0 ≠ 0) (hs : v.size ≤ u.size) :
    divSteps u v = u.size - v.size + 1 ↔
      ∀ j, j ≤ u.size - v.size → (toPoly u / toPoly v).coeff j ≠ 0 := by
  have hsub : (toPoly u / toPoly v).support ⊆ Finset.range (u.size - v.size + 1) := by
    intro j hj
    have := quotient_coeff_bound u v hlead j (mem_support_iff.1 hj)
    rw [Finset.mem_range]; omega
  rw [divSteps_eq, if_neg (fun h => hu (eq_of_beq h.2.2)), Nat.add_zero]
  constructor
  · intro hcard j hj
    have heq : (toPoly u / toPoly v).support = Finset.range (u.size - v.size + 1) :=
      Finset.eq_of_subset_of_card_le hsub (by rw [hcard, Finset.card_range])
    have : j ∈ (toPoly u / toPoly v).support := by rw [heq, Finset.mem_range]; omega
    exact mem_support_iff.1 this
  · intro hall
    have heq : (toPoly u / toPoly v).support = Finset.range (u.size - v.size + 1) := by
      apply Finset.Subset.antisymm hsub
      intro j hj
      rw [Finset.mem_range] at hj
      exact mem_support_iff.2 (hall j (by omega))
    rw [heq, Finset.card_range]

theorem polydiv_ones_none_iff (n : Nat) :
    polydiv (Array.replicate n (1 : K)) #[1] = .ok none ↔ 1000 < n := by
  rw [polydiv_none_iff _ _ (by simp), divSteps_ones]

/-- **`polydiv_cap_reached`: the iteration cap is reachable.**  Over any field, the dense dividend
`1 + x + … + x^1000` (1001 coefficients, `= v.size + 1000`) divided by the constant `1` is reported as
"exceeded maximum iterations" (`none`) after 1001 iterations, although `q = u`, `r = 0` satisfies
`u = q·v + r`: the hypothesis `u.size < v.size + 1000` of `polydiv_terminates_of_lead` and
`polydiv_total` cannot be relaxed. -/
theorem polydiv_cap_reached :
    polydiv (Array.replicate 1001 (1 : K)) #[1] = .ok none ∧
    polydivC (Array.replicate 1001 (1 : K)) #[1] = .ok (1001, none) ∧
    toPoly (Array.replicate 1001 (1 : K))
      = toPoly (Array.replicate 1001 (1 : K)) * toPoly (#[1] : Array K) + toPoly (#[0] : Array K) := by
  refine ⟨(polydiv_ones_none_iff 1001).2 (by omega), ?_, ?_⟩
  · obtain ⟨q, r, _, _, _, h⟩ := polydiv_steps_exact (Array.replicate 1001 (1 : K)) #[1] (by simp)
    rw [h, divSteps_ones, if_neg (by omega)]
  · exact eq_mul_one_add_zero _

/-- … and with 1000 coefficients the division succeeds after exactly 1000 iterations, with quotient
`u` and remainder `0` -/
theorem polydiv_cap_not_reached :
    ∃ q r, polydiv (Array.replicate 1000 (1 : K)) #[1] = .ok (some (q, r)) ∧
      polydivC (Array.replicate 1000 (1 : K)) #[1] = .ok (1000, some (q, r)) ∧
      toPoly q = toPoly (Array.replicate 1000 (1 : K)) ∧ toPoly r = 0 := by
  obtain ⟨q, r, hq, hr, _, h⟩ := polydiv_steps_exact (Array.replicate 1000 (1 : K)) #[1] (by simp)
  rw [divSteps_ones, if_pos (by omega)] at h
  refine ⟨q, r, ?_, h, by rw [hq, toPoly_one, EuclideanDomain.div_one],
    by rw [hr, toPoly_one, EuclideanDomain.mod_one]⟩
  rw [← polydivC_erase, h]; rfl

/-- **sharpness for every divisor**: for ANY divisor `v` with non-zero last coefficient the dividend
`u = (1 + x + … + x^1000)·v` has `u.size = v.size + 1000` coefficients and `polydiv u v` reports the
iteration error, although `u = q·v + 0` with `q = 1 + x + … + x^1000`. -/
theorem polydiv_cap_reached_of_divisor (v : Array K) (hlead : v[v.size - 1]?.getD 0 ≠ 0) :
    (mul (Array.replicate 1001 (1 : K)) v).size = v.size + 1000 ∧
      polydiv (mul (Array.replicate 1001 (1 : K)) v) v = .ok none := by
  obtain ⟨hv, hlv, hzv, hv0, _⟩ := lead_facts v hlead
  refine ⟨by rw [PolyAlg.size_mul, Array.size_replicate, if_neg (by omega)]; omega, ?_⟩
  rw [polydiv_none_iff _ _ hlead]
  unfold divSteps
  rw [toPoly_mul, mul_div_cancel_right₀ _ hv0, support_toPoly_ones, Finset.card_range]
  exact Nat.lt_of_lt_of_le (by omega) (Nat.le_add_right _ _)

end Exact

/-- the cap is reached in the executable rational interpretation the differential harness runs
(`ScalarExt Rat` of Ohsl/Model/Inst.lean) -/
theorem polydiv_cap_reached_rat :
    polydiv (Array.replicate 1001 (1 : Rat)) #[1] = .ok none ∧
    ∃ q r, polydiv (Array.replicate 1000 (1 : Rat)) #[1] = .ok (some (q, r)) :=
  ⟨polydiv_cap_reached.1, by
    obtain ⟨q, r, h, _⟩ := polydiv_cap_not_reached (K := Rat)
    exact ⟨q, r, h⟩⟩

/-- the hypothesis of the class-(E) theorems is satisfiable: `(x² + 2x + 3) / (2x + 1)` over `Rat`
takes at most `2` iterations and is not an error -/
example : divSteps (#[3, 2, 1] : Array Rat) #[1, 2] ≤ 2 ∧
    polydiv (#[3, 2, 1] : Array Rat) #[1, 2] ≠ .ok none := by
  have hl : (#[1, 2] : Array Rat)[(#[1, 2] : Array Rat).size - 1]?.getD 0 ≠ 0 := by simp
  have h := divSteps_le (#[3, 2, 1] : Array Rat) #[1, 2] hl
  refine ⟨h, fun e => ?_⟩
  have := (polydiv_none_iff _ _ hl).1 e
  simp at h
  omega

section Ordered
variable {K : Type} [Field K] [LinearOrder K]
attribute [local instance] Ohsl.Alg.scalarExt

/-- the class-(E) interpretation of C12D (`Alg.scalarExt` on a linearly ordered field) is an
instance: `polydiv_total` fails at `u.size = v.size + 1000` -/
theorem polydiv_cap_reached_ordered :
    ¬ ∃ q r, polydiv (Array.replicate 1001 (1 : K)) #[1] = .ok (some (q, r)) := by
  rintro ⟨q, r, h⟩
  rw [polydiv_cap_reached.1] at h
  cases h

end Ordered

end Ohsl.Props.C12
