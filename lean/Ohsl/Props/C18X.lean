/-
  Property C18 (continued) — the exact-arithmetic theorems about the finite-difference Jacobian
  (`Ohsl.Jac.jacobian`, Ohsl/Model/Newton.lean) for EVERY exact element type, complex scalars
  included (`Matrix::<Cmplx>::jacobian_cmplx` is `Jac.jacobian` at element type `Cx f64`, with the
  real step embedded as `⟨delta, 0⟩`).

  C18J (section Field) and `jacobian_affine` below state these for a linearly ordered field `K`
  with the interpretation `Alg.scalarExt`.  The proofs never use the order: they use only
  `Alg.DivLaw K` (`divM a b = if b = 0 then error else ok (a / b)`), and C18J proves them in that
  generality (`…_gen`).

  Generic theorems here (`…_gen`): `K` any field, ANY `ScalarExt K` satisfying `Alg.DivLaw`: the
  Jacobian of a map that is affine on the vectors of length `n` is its matrix, exactly
  (`jacobian_affine_fun_gen`; `jacobian_affine_gen` for `C18.affineMap M c n m`).  The statements
  for a linearly ordered field are the instance `Alg.divLaw` (`jacobian_affine`).

  Complex theorems (`…_cx`): `Jac.jacobian` at element type `Cx ℝ` with the model's own instances
  (`Cx.add`, `Cx.sub`, …, `Cx.instScalarExt`: `divM = Cx.div`); quotients and affine maps are read
  in Mathlib's ℂ through `toC : Cx ℝ → ℂ`.  `jacobian_cmplx` is the case `delta = ⟨d, 0⟩`, `d`
  real (`jacobian_entries_cmplx`, `jacobian_affine_cmplx`).
-/
import Ohsl.Props.C18J
import Ohsl.Lemmas.CxField
namespace Ohsl.Props.C18
open Ohsl Ohsl.Mat Ohsl.Jac

section Gen
variable {K : Type} [Field K] [BEq K] [ScalarExt K] [Alg.DivLaw K]

/-- **the finite-difference Jacobian of an affine map is its matrix, exactly — any exact field,
    any `f` that is affine on the vectors of the length of `point`**:
    `(f x)_i = Σ_{j<n} M i j · x_j + c i` for `i < m = |f x|`.  For every shape `m × n`, every
    point and every `delta ≠ 0` the call succeeds, evaluates the map `n + 1` times (at `point` and
    at the `point + δ e_j`) and returns the well-formed `m × n` matrix whose entry `(i, j)` is
    `M i j`. -/
theorem jacobian_affine_fun_gen (M : Nat → Nat → K) (c : Nat → K) (m : Nat)
    (f : Array K → Array K) (point : Array K) (delta : K) (hd : delta ≠ 0)
    (hf : ∀ x : Array K, x.size = point.size → (f x).size = m ∧
      ∀ i, i < m → (f x).getD i 0 = (∑ j ∈ Finset.range point.size, M i j * x.getD j 0) + c i) :
    ∃ J tr, jacobian f point delta = .ok (J, tr) ∧
      tr = point :: (List.range point.size).map (fun j => point.modify j (fun p => p + delta)) ∧
      tr.length = point.size + 1 ∧ Mat.Is J m point.size M := by
  have hm : (f point).size = m := (hf point rfl).1
  obtain ⟨J, h1, h2, h3, h4, h5⟩ := jacobian_entries_gen f point delta hd
    (fun j _ => by rw [(hf _ (by simp)).1, hm])
  refine ⟨J, _, h1, rfl, by simp, ⟨h4, by rw [h2, hm], h3, ?_⟩⟩
  intro i j hi hj
  have hsz : (f (point.modify j (fun p => p + delta))).size = m := (hf _ (by simp)).1
  have hi0 : i < (f point).size := by rw [hm]; exact hi
  have hi1 : i < (f (point.modify j (fun p => p + delta))).size := by rw [hsz]; exact hi
  rw [h5 i j hi0 hj hi1]
  congr 1
  rw [div_eq_iff hd]
  rw [← getD_of_lt _ 0 hi1, ← getD_of_lt _ 0 hi0, (hf _ (by simp)).2 i hi, (hf point rfl).2 i hi,
    add_sub_add_right_eq_sub]
  exact sum_mul_modify_sub (M i) point j delta hj

/-- **… for the affine map `C18.affineMap M c n m`** (`x ↦ M x + c`, `Kⁿ → Kᵐ`) -/
theorem jacobian_affine_gen (M : Nat → Nat → K) (c : Nat → K) (m : Nat) (point : Array K)
    (delta : K) (hd : delta ≠ 0) :
    ∃ J tr, jacobian (affineMap M c point.size m) point delta = .ok (J, tr) ∧
      tr.length = point.size + 1 ∧ Mat.Is J m point.size M := by
  obtain ⟨J, tr, h1, _, h3, h4⟩ := jacobian_affine_fun_gen M c m (affineMap M c point.size m)
    point delta hd (fun x _ => ⟨affineMap_size .., fun i hi => affineMap_getD M c _ x hi⟩)
  exact ⟨J, tr, h1, h3, h4⟩

end Gen

section Ordered
variable {K : Type} [Field K] [LinearOrder K]
attribute [local instance] Ohsl.Alg.scalarExt

/-- `jacobian_ok_iff_field` of C18J is the instance `Alg.divLaw` of `jacobian_ok_iff_gen` -/
example (f : Array K → Array K) (point : Array K) (delta : K) :
    (∃ J tr, jacobian f point delta = .ok (J, tr)) ↔
      (∀ j, j < point.size → (f (point.modify j (fun p => p + delta))).size = (f point).size) ∧
      (delta ≠ 0 ∨ point.size = 0 ∨ (f point).size = 0) :=
  jacobian_ok_iff_gen f point delta

/-- **the finite-difference Jacobian of an affine map is its matrix, exactly**: for every shape
    `m × n`, every point and every `delta ≠ 0` the call succeeds, evaluates the map `n + 1` times
    and returns the well-formed `m × n` matrix whose entry `(i, j)` is `M i j`. -/
theorem jacobian_affine (M : Nat → Nat → K) (c : Nat → K) (m : Nat) (point : Array K) (delta : K)
    (hd : delta ≠ 0) :
    ∃ J tr, jacobian (affineMap M c point.size m) point delta = .ok (J, tr) ∧
      tr.length = point.size + 1 ∧ Mat.Is J m point.size M :=
  jacobian_affine_gen M c m point delta hd

example (M : Nat → Nat → K) (c : Nat → K) (m : Nat) (point : Array K) (delta : K)
    (hd : delta ≠ 0) :
    ∃ J tr, jacobian (affineMap M c point.size m) point delta = .ok (J, tr) ∧
      tr.length = point.size + 1 ∧ Mat.Is J m point.size M :=
  jacobian_affine M c m point delta hd

end Ordered

section Complex
open Ohsl.RealI Ohsl.CxField Ohsl.Props.C13 Ohsl.Props.C14

/-- the real step of `jacobian_cmplx`, embedded: `toC ⟨d, 0⟩ = d` -/
theorem toC_ofReal (d : ℝ) : toC (⟨d, 0⟩ : Cx ℝ) = (d : ℂ) := rfl

theorem ofReal_ne_zero {d : ℝ} (hd : d ≠ 0) : (⟨d, 0⟩ : Cx ℝ) ≠ 0 := by
  intro h
  have := congrArg Cx.re h
  exact hd this

/-- **entries of the complex finite-difference Jacobian, `delta ≠ 0` only** (`delta` any complex
    step): if `f` returns vectors of the length `m` of `f point` at the `n` perturbed points, the
    call returns a well-formed `m × n` matrix, `f` was called at `point, point + δ e_0, …` in this
    order, and entry `(i, j)`, read in ℂ, is the quotient
    `(toC (f (point + δ e_j))[i] − toC (f point)[i]) / toC δ`. -/
theorem jacobian_entries_cx (f : Array (Cx ℝ) → Array (Cx ℝ)) (point : Array (Cx ℝ))
    (delta : Cx ℝ) (hd : delta ≠ 0)
    (hgood : ∀ j, j < point.size →
      (f (point.modify j (fun p => p + delta))).size = (f point).size) :
    ∃ J, jacobian f point delta
        = .ok (J, point :: (List.range point.size).map
            (fun j => point.modify j (fun p => p + delta))) ∧
      J.rows = (f point).size ∧ J.cols = point.size ∧ J.WF ∧
      ∀ i j (hi : i < (f point).size) (_ : j < point.size)
        (h1 : i < (f (point.modify j (fun p => p + delta))).size),
        ∃ q, J.get i j = .ok q ∧
          toC q = (toC (f (point.modify j (fun p => p + delta)))[i] - toC (f point)[i])
            / toC delta := by
  obtain ⟨J, h1, h2, h3, h4, h5⟩ :=
    @jacobian_entries_gen (Cx ℝ) CxField.field _ _ _ f point delta hd hgood
  refine ⟨J, h1, h2, h3, h4, ?_⟩
  intro i j hi hj h1'
  refine ⟨_, h5 i j hi hj h1', ?_⟩
  exact (toC_div_field _ _).trans (congrArg (· / toC delta) (toC_sub _ _))

set_option linter.unusedVariables false in
/-- **`jacobian_cmplx`**: the step is the real `d ≠ 0`, embedded as `d + 0i`; entry `(i, j)` read
    in ℂ is `(toC (f (point + d e_j))[i] − toC (f point)[i]) / d`. -/
theorem jacobian_entries_cmplx (f : Array (Cx ℝ) → Array (Cx ℝ)) (point : Array (Cx ℝ))
    (d : ℝ) (hd : d ≠ 0)
    (hgood : ∀ j, j < point.size →
      (f (point.modify j (fun p => p + ⟨d, 0⟩))).size = (f point).size) :
    ∃ J, jacobian f point (⟨d, 0⟩ : Cx ℝ)
        = .ok (J, point :: (List.range point.size).map
            (fun j => point.modify j (fun p => p + ⟨d, 0⟩))) ∧
      J.rows = (f point).size ∧ J.cols = point.size ∧ J.WF ∧
      ∀ i j (hi : i < (f point).size) (hj : j < point.size)
        (h1 : i < (f (point.modify j (fun p => p + ⟨d, 0⟩))).size),
        ∃ q, J.get i j = .ok q ∧
          toC q = (toC (f (point.modify j (fun p => p + ⟨d, 0⟩)))[i] - toC (f point)[i])
            / (d : ℂ) :=
  jacobian_entries_cx f point ⟨d, 0⟩ (ofReal_ne_zero hd) hgood

/-- a size change in column `j` of the complex Jacobian: `.error .size` -/
theorem jacobian_rejects_size_change_cx (f : Array (Cx ℝ) → Array (Cx ℝ))
    (point : Array (Cx ℝ)) (delta : Cx ℝ) (hd : delta ≠ 0) (j : Nat) (hj : j < point.size)
    (hgood : ∀ i, i < j → (f (point.modify i (fun p => p + delta))).size = (f point).size)
    (hbad : (f (point.modify j (fun p => p + delta))).size ≠ (f point).size) :
    jacobian f point delta = .error .size :=
  @jacobian_rejects_size_change_gen (Cx ℝ) CxField.field _ _ f point delta hd j hj hgood hbad

/-- **a zero step is rejected by the complex Jacobian**: `n > 0`, `f point` non-empty:
    `.error .arith` (the complex division `Cx.div` fails on an exact zero divisor), for every `f` -/
theorem jacobian_delta_zero_rejects_cx (f : Array (Cx ℝ) → Array (Cx ℝ)) (point : Array (Cx ℝ))
    (hn : 0 < point.size) (hm : 0 < (f point).size) :
    jacobian f point (0 : Cx ℝ) = .error .arith :=
  @jacobian_delta_zero_rejects_gen (Cx ℝ) CxField.field _ _ f point hn hm

/-- `jacobian_cmplx` with the real step `0.0` -/
theorem jacobian_delta_zero_rejects_cmplx (f : Array (Cx ℝ) → Array (Cx ℝ))
    (point : Array (Cx ℝ)) (hn : 0 < point.size) (hm : 0 < (f point).size) :
    jacobian f point (⟨0, 0⟩ : Cx ℝ) = .error .arith :=
  jacobian_delta_zero_rejects_cx f point hn hm

/-- **when the complex Jacobian call returns**: IF AND ONLY IF `f` keeps the length of `f point`
    at every perturbed point and (`delta ≠ 0`, or `n = 0`, or `f point` is empty). -/
theorem jacobian_ok_iff_cx (f : Array (Cx ℝ) → Array (Cx ℝ)) (point : Array (Cx ℝ))
    (delta : Cx ℝ) :
    (∃ J tr, jacobian f point delta = .ok (J, tr)) ↔
      (∀ j, j < point.size → (f (point.modify j (fun p => p + delta))).size = (f point).size) ∧
      (delta ≠ 0 ∨ point.size = 0 ∨ (f point).size = 0) :=
  @jacobian_ok_iff_gen (Cx ℝ) CxField.field _ _ _ f point delta

/-- `f : ℂⁿ → ℂᵐ` on arrays over `Cx ℝ` is the affine map `x ↦ M x + c`, read in ℂ: on every
    vector of length `n` it returns a vector of length `m` with
    `toC (f x)_i = Σ_{j<n} toC (M i j) · toC x_j + toC (c i)` -/
def AffineC (M : Nat → Nat → Cx ℝ) (c : Nat → Cx ℝ) (n m : Nat)
    (f : Array (Cx ℝ) → Array (Cx ℝ)) : Prop :=
  ∀ x : Array (Cx ℝ), x.size = n → (f x).size = m ∧
    ∀ i, i < m → toC ((f x).getD i 0)
      = (∑ j ∈ Finset.range n, toC (M i j) * toC (x.getD j 0)) + toC (c i)

theorem affineC_field {M : Nat → Nat → Cx ℝ} {c : Nat → Cx ℝ} {n m : Nat}
    {f : Array (Cx ℝ) → Array (Cx ℝ)} (hf : AffineC M c n m f) :
    ∀ x : Array (Cx ℝ), x.size = n → (f x).size = m ∧
      ∀ i, i < m → (f x).getD i 0
        = @HAdd.hAdd _ _ _ _ (@Finset.sum _ _ CxField.field.toAddCommMonoid (Finset.range n)
            (fun j => M i j * x.getD j 0)) (c i) := by
  intro x hx
  refine ⟨(hf x hx).1, fun i hi => ?_⟩
  apply toC_injective
  rw [(hf x hx).2 i hi]
  refine ((toC_add _ _).trans ?_).symm
  rw [toC_sum_field]
  simp only [toC_mul]

/-- **the finite-difference Jacobian of a complex affine map is its matrix, exactly**: if `f`,
    read in ℂ, is `x ↦ M x + c` on the vectors of length `n = |point|` (`AffineC`), then for
    every shape `m × n`, every point and every complex step `delta ≠ 0` the call succeeds after
    `n + 1` evaluations and returns the well-formed `m × n` matrix with entries `M i j` — so its
    `toC`-image is the matrix `toC (M i j)` of the map, with no truncation error. -/
theorem jacobian_affine_cx (M : Nat → Nat → Cx ℝ) (c : Nat → Cx ℝ) (m : Nat)
    (f : Array (Cx ℝ) → Array (Cx ℝ)) (point : Array (Cx ℝ)) (delta : Cx ℝ) (hd : delta ≠ 0)
    (hf : AffineC M c point.size m f) :
    ∃ J tr, jacobian f point delta = .ok (J, tr) ∧
      tr = point :: (List.range point.size).map (fun j => point.modify j (fun p => p + delta)) ∧
      tr.length = point.size + 1 ∧ Mat.Is J m point.size M ∧
      ∀ i j, i < m → j < point.size → ∃ q, J.get i j = .ok q ∧ toC q = toC (M i j) := by
  obtain ⟨J, tr, h1, h2, h3, h4⟩ :=
    @jacobian_affine_fun_gen (Cx ℝ) CxField.field _ _ _ M c m f point delta hd (affineC_field hf)
  exact ⟨J, tr, h1, h2, h3, h4, fun i j hi hj => ⟨M i j, h4.entry i j hi hj, rfl⟩⟩

/-- **`jacobian_cmplx` on a complex affine map**: real step `d ≠ 0` -/
theorem jacobian_affine_cmplx (M : Nat → Nat → Cx ℝ) (c : Nat → Cx ℝ) (m : Nat)
    (f : Array (Cx ℝ) → Array (Cx ℝ)) (point : Array (Cx ℝ)) (d : ℝ) (hd : d ≠ 0)
    (hf : AffineC M c point.size m f) :
    ∃ J tr, jacobian f point (⟨d, 0⟩ : Cx ℝ) = .ok (J, tr) ∧
      tr.length = point.size + 1 ∧ Mat.Is J m point.size M := by
  obtain ⟨J, tr, h1, _, h3, h4, _⟩ := jacobian_affine_cx M c m f point ⟨d, 0⟩ (ofReal_ne_zero hd) hf
  exact ⟨J, tr, h1, h3, h4⟩

end Complex

section Examples
open Ohsl.RealI Ohsl.CxField Ohsl.Props.C13 Ohsl.Props.C14

/-- the complex matrix `[[i, 1], [2 + i, -i], [0, 3]]` (3 × 2) -/
def exMX : Mat (Cx ℝ) := ⟨#[⟨0, 1⟩, ⟨1, 0⟩, ⟨2, 1⟩, ⟨0, -1⟩, ⟨0, 0⟩, ⟨3, 0⟩], 3, 2⟩

/-- the complex affine map `ℂ² → ℂ³`, `(x, y) ↦ (i x + y + 1, (2 + i) x − i y, 3 y + i)`, written
    with the model's complex operations -/
def exFX (x : Array (Cx ℝ)) : Array (Cx ℝ) :=
  #[⟨0, 1⟩ * x.getD 0 0 + x.getD 1 0 + ⟨1, 0⟩,
    ⟨2, 1⟩ * x.getD 0 0 - ⟨0, 1⟩ * x.getD 1 0,
    ⟨3, 0⟩ * x.getD 1 0 + ⟨0, 1⟩]

theorem exFX_affine : AffineC (Mat.ent exMX) (fun i => (#[⟨1, 0⟩, 0, ⟨0, 1⟩] : Array (Cx ℝ)).getD i 0)
    2 3 exFX := by
  intro x _
  have one : toC ⟨1, 0⟩ = 1 := rfl
  have zero : toC ⟨0, 0⟩ = 0 := rfl
  have zero' : toC 0 = 0 := rfl
  have negI : toC ⟨0, -1⟩ = -toC ⟨0, 1⟩ := Complex.ext neg_zero.symm rfl
  refine ⟨rfl, fun i hi => ?_⟩
  rw [Finset.sum_range_succ, Finset.sum_range_one]
  match i, hi with
  | 0, _ =>
    show toC (⟨0, 1⟩ * x.getD 0 0 + x.getD 1 0 + ⟨1, 0⟩)
      = toC ⟨0, 1⟩ * toC (x.getD 0 0) + toC ⟨1, 0⟩ * toC (x.getD 1 0) + toC ⟨1, 0⟩
    rw [toC_add, toC_add, toC_mul, one, one_mul]
  | 1, _ =>
    show toC (⟨2, 1⟩ * x.getD 0 0 - ⟨0, 1⟩ * x.getD 1 0)
      = toC ⟨2, 1⟩ * toC (x.getD 0 0) + toC ⟨0, -1⟩ * toC (x.getD 1 0) + toC 0
    rw [toC_sub, toC_mul, toC_mul, negI, zero', add_zero, neg_mul, sub_eq_add_neg]
  | 2, _ =>
    show toC (⟨3, 0⟩ * x.getD 1 0 + ⟨0, 1⟩)
      = toC ⟨0, 0⟩ * toC (x.getD 0 0) + toC ⟨3, 0⟩ * toC (x.getD 1 0) + toC ⟨0, 1⟩
    rw [toC_add, toC_mul, zero, zero_mul, zero_add]

/-- **a complex affine map's Jacobian**: `jacobian_cmplx` of `exFX` at the point `(1 + i, 2 − 3i)`
    with the real step `1/8` returns, after 3 evaluations, the 3 × 2 matrix of the map itself:
    e.g. entry `(1, 0)` is `2 + i` and entry `(1, 1)` is `−i`, exactly -/
example : ∃ J tr, jacobian exFX #[⟨1, 1⟩, ⟨2, -3⟩] (⟨1 / 8, 0⟩ : Cx ℝ) = .ok (J, tr) ∧
    tr.length = 3 ∧ Mat.Is J 3 2 (Mat.ent exMX) ∧
    J.get 1 0 = .ok ⟨2, 1⟩ ∧ J.get 1 1 = .ok ⟨0, -1⟩ := by
  obtain ⟨J, tr, h1, h2, h3⟩ := jacobian_affine_cmplx (Mat.ent exMX) _ 3 exFX
    #[⟨1, 1⟩, ⟨2, -3⟩] (1 / 8) (by norm_num) exFX_affine
  refine ⟨J, tr, h1, h2, h3, ?_, ?_⟩
  · rw [h3.entry 1 0 (by norm_num) (by norm_num)]; simp [Mat.ent, exMX]
  · rw [h3.entry 1 1 (by norm_num) (by norm_num)]; simp [Mat.ent, exMX]

/-- the step may be any non-zero complex number: with `δ = i` the result is the same matrix -/
example : ∃ J tr, jacobian exFX #[⟨1, 1⟩, ⟨2, -3⟩] (⟨0, 1⟩ : Cx ℝ) = .ok (J, tr) ∧
    Mat.Is J 3 2 (Mat.ent exMX) := by
  obtain ⟨J, tr, h1, _, _, h4, _⟩ := jacobian_affine_cx (Mat.ent exMX) _ 3 exFX
    #[⟨1, 1⟩, ⟨2, -3⟩] ⟨0, 1⟩ (by intro h; have := congrArg Cx.im h; simp at this) exFX_affine
  exact ⟨J, tr, h1, h4⟩

/-- a zero step is the arithmetic panic -/
example : jacobian exFX #[⟨1, 1⟩, ⟨2, -3⟩] (⟨0, 0⟩ : Cx ℝ) = .error .arith :=
  jacobian_delta_zero_rejects_cmplx exFX _ (by decide) (by decide)

end Examples

end Ohsl.Props.C18
