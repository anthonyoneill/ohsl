/-
  Property C17 — convergence of the SCALAR Newton iteration from inside the basin of a simple root
  (class R: exact real arithmetic).  The theorems are proved in Ohsl/Props/C18R.lean (section Newton,
  next to the accuracy of the difference quotients they rest on); they are re-exported here under the
  property they decide, so that the C17 check audits them.
-/
import Ohsl.Props.C18R
namespace Ohsl.Props.C17
section Real

alias centraldiff_error := Ohsl.Props.C18.centraldiff_error
alias newton_step_general := Ohsl.Props.C18.newton_step_general
alias newton_scalar_fd_step := Ohsl.Props.C18.newton_scalar_fd_step
alias newton_scalar_model_step := Ohsl.Props.C18.newton_scalar_model_step
alias newton_scalar_fd_converges := Ohsl.Props.C18.newton_scalar_fd_converges
alias newton_scalar_fd_tendsto := Ohsl.Props.C18.newton_scalar_fd_tendsto
alias newton_scalar_model_converges := Ohsl.Props.C18.newton_scalar_model_converges
alias newton_scalar_model_success_within_tol := Ohsl.Props.C18.newton_scalar_model_success_within_tol

end Real
end Ohsl.Props.C17
