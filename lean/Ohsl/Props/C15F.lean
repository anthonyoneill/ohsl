/-
  Property C15 (part F) — rounding-error statements for the vector reductions, the norms and the
  generated sequences in the "rounded reals" interpretation `Fl M` of the model
  (Ohsl/Lemmas/Rounding.lean): the SAME definitions `Vec.sum`, `Vec.sumSlice`, `Vec.norm1`,
  `Vec.norm2`, `Vec.normInf`, `Vec.linspace`, `Vec.powspace` instantiated at real numbers whose
  `+ - * /` round with relative error `≤ u` (standard model, no overflow / underflow).  The transfer
  to the Rust `f64` code rests on the ASSUMPTION stated in Rounding.lean; it is not proved here.

  Notation: `n = a.size`, `exactSum a = Σ xᵢ`, `absSum a = Σ|xᵢ|` (exact 1-norm),
  `exactNorm2 a = √Σxᵢ²`, `IsMaxAbsFl a m` (`m = max|xᵢ|`), `M.gam k = (1+u)^k − 1`.
  There is no global `Transc (Fl M)` instance; theorems that need `f64`-only functions take an
  arbitrary instance `T` and state what they need of it (`hfabs`: `abs` exact; `hpow2`, `hsqrt`,
  `hpowf`: one rounding; `ExactCasts M n`: `k as f64` exact for `k ≤ n` and `n as f64 − 1.0` exact —
  true in binary64 for `n ≤ 2⁵³`).  `C03.flTransc M` satisfies them.

  * `sumSlice_rounding`, `sum_rounding` (+ `_gamma` forms), `norm1_rounding`, `norm2_rounding`: forward
    error of the reductions; `normInf_exact`: `norm_inf` commits no rounding error.
  * laws that survive rounding (constants as proved):
      non-negativity `norm1_nonneg_fl`, `normInf_nonneg_fl`, `norm2_nonneg_fl`;
      definiteness `norm1_zero_fl`, `norm1_eq_zero_fl`;
      homogeneity `norm1_smul_fl` (+ `_computed`), `normInf_smul_fl`, `norm2_smul_fl`;
      triangle inequality `norm1_triangle_fl` (+ `_computed`), `normInf_triangle_fl`, `norm2_triangle_fl`;
      comparisons `normInf_le_norm1_fl` (+ `_mul`), `normInf_le_norm2_fl`, `norm2_le_norm1_fl`
      (+ `_computed`), `norm1_le_normInf_fl`.
  * `linspace_fl`: first node exact, last node and every node against the exact ones
      (`linNode_rounding` is the sharper per-node bound; `linspace_fl_gamma`);
    `linspace_monotone_fl`, `linspace_antitone_fl` under `Monotone M.fl`; `linspace_not_monotone`:
      the standard model alone does not give it; `linspace_one_rejects_fl`.
  * `powspace_fl`, `powNode_rounding`, `powspace_monotone_fl`: the same for the power spacing
      (the rounded abscissa `τ_i = fl(i/(n−1))` is part of the statement, `powT_err`).
-/
import Ohsl.Props.C15N
import Ohsl.Props.C15P
import Ohsl.Props.C03F
import Ohsl.Lemmas.Rounding
import Mathlib.Algebra.BigOperators.Intervals
import Mathlib.Algebra.Order.BigOperators.Group.Finset
import Mathlib.Algebra.BigOperators.Ring.Finset
import Mathlib.Tactic.Ring
import Mathlib.Tactic.Linarith
import Mathlib.Tactic.Positivity
namespace Ohsl.Props.C15
open Ohsl Ohsl.Vec

section Structural
variable {K : Type} [Add K] [Sub K] [Mul K] [Neg K] [Zero K] [One K] [BEq K] [ScalarExt K]

set_option linter.unusedSectionVars false in
/-- `sum()` of the empty vector: `size - 1` underflows -/
theorem sum_empty : Vec.sum (#[] : Array K) = .error .arith := rfl

end Structural

section SumNorm1
variable {M : FlModel}
open Fl FlModel

theorem le_one_add_gam_succ {x y z : ℝ} {n : ℕ} (h1 : x ≤ (1 + M.gam n) * y)
    (h2 : y ≤ (1 + M.u) * z) : x ≤ (1 + M.gam (n + 1)) * z := by
  refine (h1.trans (mul_le_mul_of_nonneg_left h2
    (add_nonneg zero_le_one (M.gam_nonneg n)))).trans_eq ?_
  rw [← mul_assoc, M.one_add_gam, M.one_add_gam, pow_succ]

theorem le_computed {x X Y g G : ℝ} (hg : g ≤ 1) (hG : 0 ≤ G) (h : x ≤ G * X)
    (hY : (1 - g) * X ≤ Y) : (1 - g) * x ≤ G * Y :=
  calc (1 - g) * x ≤ (1 - g) * (G * X) := mul_le_mul_of_nonneg_left h (sub_nonneg.mpr hg)
    _ = G * ((1 - g) * X) := by ring
    _ ≤ G * Y := mul_le_mul_of_nonneg_left hY hG

def exactSum (a : Array (Fl M)) : ℝ := ∑ i ∈ Finset.range a.size, (a.getD i 0).val
/-- `Σ |xᵢ|` — the exact 1-norm -/
def absSum (a : Array (Fl M)) : ℝ := ∑ i ∈ Finset.range a.size, |(a.getD i 0).val|

theorem absSum_nonneg (a : Array (Fl M)) : 0 ≤ absSum a :=
  Finset.sum_nonneg (fun _ _ => abs_nonneg _)

theorem abs_exactSum_le (a : Array (Fl M)) : |exactSum a| ≤ absSum a :=
  Finset.abs_sum_le_sum_abs _ _

/-- **`sum_slice(s, e)`** (`s ≤ e < size`): `e + 1 - s` rounded additions (the first one is
`0 + x_s`, which the abstract model rounds, see `Fl.foldl_sum_rounding_sharp`). -/
theorem sumSlice_rounding (a : Array (Fl M)) (s e : Nat) (hse : s ≤ e) (he : e < a.size) :
    ∃ r, Vec.sumSlice a s e = .ok r ∧
      |r.val - ∑ i ∈ Finset.Ico s (e + 1), (a.getD i 0).val|
        ≤ M.gam (e + 1 - s) * ∑ i ∈ Finset.Ico s (e + 1), |(a.getD i 0).val| := by
  refine ⟨_, sumSlice_eq_fold a s e hse he, ?_⟩
  have h := foldl_sum_rounding ((List.range' s (e + 1 - s)).map (fun j => a.getD j 0))
  rw [List.length_map, List.length_range', rsum_map, asum_map, sum_map_range', sum_map_range'] at h
  have e1 : s + (e + 1 - s) = e + 1 := by omega
  rwa [e1] at h

/-- **`sum()`** of a non-empty vector: `|computed − Σ xᵢ| ≤ gam n · Σ |xᵢ|`, `n = size`. -/
theorem sum_rounding (a : Array (Fl M)) (h : 0 < a.size) :
    ∃ r, Vec.sum a = .ok r ∧ |r.val - exactSum a| ≤ M.gam a.size * absSum a :=
  ⟨_, sum_eq_fold a h, foldl_range_rounding _ _⟩

/-- the classical constant `γ_n = n u / (1 - n u)` for `sum_rounding` -/
theorem sum_rounding_gamma (a : Array (Fl M)) (h : 0 < a.size) (hu : (a.size : ℝ) * M.u < 1) :
    ∃ r, Vec.sum a = .ok r ∧
      |r.val - exactSum a| ≤ (a.size : ℝ) * M.u / (1 - (a.size : ℝ) * M.u) * absSum a := by
  obtain ⟨r, hr, hr'⟩ := sum_rounding a h
  exact ⟨r, hr, hr'.trans (mul_le_mul_of_nonneg_right (M.gam_le_gamma _ hu) (absSum_nonneg a))⟩

/-- **`norm_1`**: `|computed − Σ |xᵢ|| ≤ gam n · Σ |xᵢ|` — a RELATIVE error `gam n` (`Signed::abs`
is exact, `n` rounded additions of non-negative terms). -/
theorem norm1_rounding (a : Array (Fl M)) :
    |(Vec.norm1 a).val - absSum a| ≤ M.gam a.size * absSum a := by
  rw [norm1_eq_fold]
  have h := foldl_range_rounding a.size (fun j => ScalarExt.mag (a.getD j 0))
  simp only [mag_val, abs_abs] at h
  exact h

theorem norm1_rounding_gamma (a : Array (Fl M)) (hu : (a.size : ℝ) * M.u < 1) :
    |(Vec.norm1 a).val - absSum a| ≤ (a.size : ℝ) * M.u / (1 - (a.size : ℝ) * M.u) * absSum a :=
  (norm1_rounding a).trans (mul_le_mul_of_nonneg_right (M.gam_le_gamma _ hu) (absSum_nonneg a))

theorem norm1_bounds (a : Array (Fl M)) :
    (1 - M.gam a.size) * absSum a ≤ (Vec.norm1 a).val ∧
      (Vec.norm1 a).val ≤ (1 + M.gam a.size) * absSum a :=
  rel_bounds (norm1_rounding a)

theorem norm1_nonneg_fl (hu : M.u ≤ 1) (a : Array (Fl M)) : 0 ≤ (Vec.norm1 a).val := by
  rw [norm1_eq_fold]
  apply foldl_add_nonneg hu _ _ (le_refl _)
  intro x hx
  obtain ⟨j, _, rfl⟩ := List.mem_map.mp hx
  rw [mag_val]; exact abs_nonneg _

theorem norm1_zero_fl (a : Array (Fl M)) (h : ∀ i, i < a.size → (a.getD i 0).val = 0) :
    (Vec.norm1 a).val = 0 := by
  have h0 : absSum a = 0 :=
    Finset.sum_eq_zero (fun i hi => by rw [h i (Finset.mem_range.mp hi), abs_zero])
  have := norm1_rounding a
  rw [h0, mul_zero, sub_zero] at this
  exact abs_nonpos_iff.mp this

/-- definiteness survives rounding when `gam n < 1`: computed `norm_1 = 0` ⇒ every entry is zero -/
theorem norm1_eq_zero_fl (a : Array (Fl M)) (hg : M.gam a.size < 1) (h : (Vec.norm1 a).val = 0) :
    ∀ i, i < a.size → (a.getD i 0).val = 0 := by
  have h1 := (norm1_bounds a).1
  rw [h] at h1
  have h0 : absSum a = 0 :=
    le_antisymm (nonpos_of_mul_nonpos_right h1 (sub_pos.mpr hg)) (absSum_nonneg a)
  intro i hi
  exact abs_eq_zero.mp ((Finset.sum_eq_zero_iff_of_nonneg (fun _ _ => abs_nonneg _)).mp h0 i
    (Finset.mem_range.mpr hi))

theorem sum_abs_perturb (n : Nat) (x y : Nat → ℝ) (ε : ℝ)
    (h : ∀ i, i < n → |x i - y i| ≤ ε * |y i|) :
    |(∑ i ∈ Finset.range n, |x i|) - (∑ i ∈ Finset.range n, |y i|)|
      ≤ ε * ∑ i ∈ Finset.range n, |y i| := by
  rw [← Finset.sum_sub_distrib, Finset.mul_sum]
  refine (Finset.abs_sum_le_sum_abs _ _).trans (Finset.sum_le_sum fun i hi => ?_)
  exact (abs_abs_sub_abs_le_abs_sub _ _).trans (h i (Finset.mem_range.mp hi))

theorem absSum_smul (a : Array (Fl M)) (c : Fl M) :
    |absSum (Vec.smul a c) - |c.val| * absSum a| ≤ M.u * (|c.val| * absSum a) := by
  have e : ∑ i ∈ Finset.range a.size, |(a.getD i 0).val * c.val| = |c.val| * absSum a := by
    rw [absSum, Finset.mul_sum]
    exact Finset.sum_congr rfl fun i _ => by rw [abs_mul, mul_comm]
  rw [absSum, sum_getD_smul (fun x : Fl M => |x.val|), ← e]
  exact sum_abs_perturb a.size _ _ M.u fun i _ => Fl.mul_err _ _

/-- **homogeneity of `norm_1` up to rounding**: `|fl‖x c‖₁ − |c| ‖x‖₁| ≤ gam (n+1) · |c| ‖x‖₁`
(one rounding per product, `n` rounded additions). -/
theorem norm1_smul_fl (a : Array (Fl M)) (c : Fl M) :
    |(Vec.norm1 (Vec.smul a c)).val - |c.val| * absSum a|
      ≤ M.gam (a.size + 1) * (|c.val| * absSum a) := by
  have h1 := norm1_rounding (Vec.smul a c)
  rw [smul_size] at h1
  have h2 := absSum_smul a c
  exact (rel_trans (M.gam_nonneg _) h1 (rel_bounds h2).2 h2).trans_eq (by rw [M.gam_succ]; ring)

/-- homogeneity in terms of the two COMPUTED norms -/
theorem norm1_smul_fl_computed (a : Array (Fl M)) (c : Fl M) :
    |(Vec.norm1 (Vec.smul a c)).val - |c.val| * (Vec.norm1 a).val|
      ≤ (M.gam (a.size + 1) + M.gam a.size) * (|c.val| * absSum a) := by
  have e : (Vec.norm1 (Vec.smul a c)).val - |c.val| * (Vec.norm1 a).val
      = ((Vec.norm1 (Vec.smul a c)).val - |c.val| * absSum a)
        - |c.val| * ((Vec.norm1 a).val - absSum a) := by ring
  rw [e]
  refine (abs_sub _ _).trans ?_
  rw [abs_mul, abs_abs, add_mul]
  exact add_le_add (norm1_smul_fl a c)
    ((mul_le_mul_of_nonneg_left (norm1_rounding a) (abs_nonneg _)).trans_eq (by ring))

theorem absSum_add_le (a b : Array (Fl M)) (hs : a.size = b.size) :
    absSum (Array.zipWith (· + ·) a b) ≤ (1 + M.u) * (absSum a + absSum b) := by
  rw [absSum, sum_getD_zipWith (fun x : Fl M => |x.val|) _ a b hs, absSum, absSum, ← hs,
    ← Finset.sum_add_distrib, Finset.mul_sum]
  exact Finset.sum_le_sum fun i _ => Fl.abs_add_val_le _ _

/-- **triangle inequality for `norm_1` up to rounding**:
`fl‖a + b‖₁ ≤ (1 + gam (n+1)) (‖a‖₁ + ‖b‖₁)` with the exact norms on the right. -/
theorem norm1_triangle_fl (a b c : Array (Fl M)) (h : Vec.add a b = .ok c) :
    (Vec.norm1 c).val ≤ (1 + M.gam (a.size + 1)) * (absSum a + absSum b) := by
  obtain ⟨hs, rfl⟩ := (add_ok_iff a b c).mp h
  have h1 := (norm1_bounds (Array.zipWith (· + ·) a b)).2
  rw [Array.size_zipWith, ← hs, Nat.min_self] at h1
  exact le_one_add_gam_succ h1 (absSum_add_le a b hs)

/-- the triangle inequality between the three COMPUTED norms (`gam n < 1`):
`(1 - gam n) fl‖a + b‖₁ ≤ (1 + gam (n+1)) (fl‖a‖₁ + fl‖b‖₁)` -/
theorem norm1_triangle_fl_computed (a b c : Array (Fl M)) (h : Vec.add a b = .ok c)
    (hg : M.gam a.size ≤ 1) :
    (1 - M.gam a.size) * (Vec.norm1 c).val
      ≤ (1 + M.gam (a.size + 1)) * ((Vec.norm1 a).val + (Vec.norm1 b).val) := by
  have hb := (norm1_bounds b).1
  rw [← ((add_ok_iff a b c).mp h).1] at hb
  refine le_computed hg (add_nonneg zero_le_one (M.gam_nonneg _)) (norm1_triangle_fl a b c h) ?_
  rw [mul_add]
  exact add_le_add (norm1_bounds a).1 hb

end SumNorm1

section NormInf
variable {M : FlModel}
open Fl FlModel

/-- `m` is the largest element magnitude of the non-empty vector `a` -/
def IsMaxAbsFl (a : Array (Fl M)) (m : ℝ) : Prop :=
  (∀ i, i < a.size → |(a.getD i 0).val| ≤ m) ∧ ∃ i, i < a.size ∧ m = |(a.getD i 0).val|

theorem IsMaxAbsFl.unique {a : Array (Fl M)} {m m' : ℝ} (h : IsMaxAbsFl a m)
    (h' : IsMaxAbsFl a m') : m = m' := by
  obtain ⟨i, hi, rfl⟩ := h.2
  obtain ⟨j, hj, rfl⟩ := h'.2
  exact le_antisymm (h'.1 i hi) (h.1 j hj)

theorem IsMaxAbsFl.nonneg {a : Array (Fl M)} {m : ℝ} (h : IsMaxAbsFl a m) : 0 ≤ m := by
  obtain ⟨i, _, rfl⟩ := h.2
  exact abs_nonneg _

theorem IsMaxAbsFl.le_absSum {a : Array (Fl M)} {m : ℝ} (h : IsMaxAbsFl a m) : m ≤ absSum a := by
  obtain ⟨i, hi, rfl⟩ := h.2
  exact Finset.single_le_sum (f := fun i => |(a.getD i 0).val|) (fun _ _ => abs_nonneg _)
    (Finset.mem_range.mpr hi)

theorem IsMaxAbsFl.absSum_le {a : Array (Fl M)} {m : ℝ} (h : IsMaxAbsFl a m) :
    absSum a ≤ a.size * m := by
  refine (Finset.sum_le_card_nsmul _ _ m fun i hi => h.1 i (Finset.mem_range.mp hi)).trans_eq ?_
  rw [Finset.card_range, nsmul_eq_mul]

variable [T : Transc (Fl M)]

/-- **`norm_inf` commits no rounding error**: for a non-empty vector and an exact `f64::abs`
(`hfabs`; the comparison `<` is exact in `Fl M`, and there is no NaN in the standard model, so the
test `|x| != |x|` never fires) the result is exactly `max |xᵢ|`. -/
theorem normInf_exact (hfabs : ∀ x : Fl M, (Transc.fabs x).val = |x.val|) (a : Array (Fl M))
    (h : 0 < a.size) : ∃ m, Vec.normInf a = .ok m ∧ IsMaxAbsFl a m.val := by
  obtain ⟨m, hm, hle, i, hi, e⟩ := normInfBy_spec_of_val Fl.val (fun _ _ => rfl)
    (fun _ => beq_self_eq_true _) (Transc.fabs : Fl M → Fl M) a h
  refine ⟨m, hm, fun j hj => ?_, i, hi, ?_⟩
  · rw [getD_of_lt a 0 hj, ← hfabs]
    exact hle j hj
  · rw [getD_of_lt a 0 hi, ← hfabs, e]

/-- the empty vector is rejected (`self.vec[0]` is out of bounds) -/
theorem normInf_empty_fl : Vec.normInf (#[] : Array (Fl M)) = .error .range := rfl

theorem normInf_isMaxAbsFl (hfabs : ∀ x : Fl M, (Transc.fabs x).val = |x.val|) {a : Array (Fl M)}
    {m : Fl M} (h : Vec.normInf a = .ok m) : 0 < a.size ∧ IsMaxAbsFl a m.val := by
  have hs := normInfBy_ok_size_pos h
  obtain ⟨m', hm', hmax⟩ := normInf_exact hfabs a hs
  rw [hm'] at h
  cases h
  exact ⟨hs, hmax⟩

/-- **non-negativity of `norm_inf`** — no hypothesis on `u` (nothing is rounded) -/
theorem normInf_nonneg_fl (hfabs : ∀ x : Fl M, (Transc.fabs x).val = |x.val|) {a : Array (Fl M)}
    {m : Fl M} (h : Vec.normInf a = .ok m) : 0 ≤ m.val :=
  (normInf_isMaxAbsFl hfabs h).2.nonneg

/-- **`‖x‖∞ ≤ ‖x‖₁` up to rounding**: the computed `norm_inf` (exact) is at most the computed
`norm_1` plus the rounding error `gam n · Σ|xᵢ|` of the latter. -/
theorem normInf_le_norm1_fl (hfabs : ∀ x : Fl M, (Transc.fabs x).val = |x.val|) {a : Array (Fl M)}
    {m : Fl M} (h : Vec.normInf a = .ok m) :
    m.val ≤ (Vec.norm1 a).val + M.gam a.size * absSum a :=
  (normInf_isMaxAbsFl hfabs h).2.le_absSum.trans (rel_lower (norm1_rounding a))

/-- the multiplicative form: `(1 - gam n) ‖x‖∞ ≤ fl(‖x‖₁)` when `gam n ≤ 1` -/
theorem normInf_le_norm1_fl_mul (hfabs : ∀ x : Fl M, (Transc.fabs x).val = |x.val|)
    {a : Array (Fl M)} {m : Fl M} (h : Vec.normInf a = .ok m) (hg : M.gam a.size ≤ 1) :
    (1 - M.gam a.size) * m.val ≤ (Vec.norm1 a).val :=
  (mul_le_mul_of_nonneg_left (normInf_isMaxAbsFl hfabs h).2.le_absSum (sub_nonneg.mpr hg)).trans
    (norm1_bounds a).1

/-- the reverse comparison `‖x‖₁ ≤ n ‖x‖∞` up to rounding -/
theorem norm1_le_normInf_fl (hfabs : ∀ x : Fl M, (Transc.fabs x).val = |x.val|) {a : Array (Fl M)}
    {m : Fl M} (h : Vec.normInf a = .ok m) :
    (Vec.norm1 a).val ≤ (1 + M.gam a.size) * (a.size * m.val) :=
  (norm1_bounds a).2.trans (mul_le_mul_of_nonneg_left (normInf_isMaxAbsFl hfabs h).2.absSum_le
    (add_nonneg zero_le_one (M.gam_nonneg _)))

/-- **homogeneity of `norm_inf` up to one rounding**: `|‖x c‖∞ − |c| ‖x‖∞| ≤ u · |c| ‖x‖∞`
(the only roundings are those of the products `xᵢ c`). -/
theorem normInf_smul_fl (hfabs : ∀ x : Fl M, (Transc.fabs x).val = |x.val|) {a : Array (Fl M)}
    {m m' : Fl M} (c : Fl M) (h : Vec.normInf a = .ok m)
    (h' : Vec.normInf (Vec.smul a c) = .ok m') :
    |m'.val - |c.val| * m.val| ≤ M.u * (|c.val| * m.val) := by
  obtain ⟨_, hm⟩ := normInf_isMaxAbsFl hfabs h
  obtain ⟨_, hm'⟩ := normInf_isMaxAbsFl hfabs h'
  rw [abs_le]
  constructor
  · -- the entry of largest magnitude of `x` bounds `‖x c‖∞` from below
    obtain ⟨i, hi, hmi⟩ := hm.2
    have h1 := hm'.1 i (by rw [smul_size]; exact hi)
    rw [smul_getD a c hi, Fl.mul_val] at h1
    have h2 : (1 - M.u) * (|c.val| * m.val) ≤ m'.val := by
      rw [hmi, mul_comm |c.val|, ← abs_mul]
      exact (abs_fl_ge _).trans h1
    rw [one_sub_mul] at h2
    exact neg_le_sub_iff_le_add.mpr (sub_le_iff_le_add.mp h2)
  · -- the entry of largest magnitude of `x c` is a rounded product `xⱼ c`
    obtain ⟨j, hj, hmj⟩ := hm'.2
    rw [smul_size] at hj
    rw [smul_getD a c hj] at hmj
    have h2 : m'.val ≤ (1 + M.u) * (|c.val| * m.val) := by
      rw [hmj, mul_comm |c.val|]
      refine (Fl.abs_mul_val_le _ c).trans (mul_le_mul_of_nonneg_left ?_ M.one_add_u_pos.le)
      rw [abs_mul]
      exact mul_le_mul_of_nonneg_right (hm.1 j hj) (abs_nonneg _)
    rw [one_add_mul] at h2
    exact sub_le_iff_le_add'.mpr h2

/-- **triangle inequality for `norm_inf` up to one rounding**:
`‖a + b‖∞ ≤ (1+u) (‖a‖∞ + ‖b‖∞)` between the three computed (= exact) norms. -/
theorem normInf_triangle_fl (hfabs : ∀ x : Fl M, (Transc.fabs x).val = |x.val|)
    {a b c : Array (Fl M)} {ma mb mc : Fl M} (hadd : Vec.add a b = .ok c)
    (ha : Vec.normInf a = .ok ma) (hb : Vec.normInf b = .ok mb) (hc : Vec.normInf c = .ok mc) :
    mc.val ≤ (1 + M.u) * (ma.val + mb.val) := by
  obtain ⟨hs, rfl⟩ := (add_ok_iff a b c).mp hadd
  obtain ⟨i, hi, hmi⟩ := (normInf_isMaxAbsFl hfabs hc).2.2
  have hia : i < a.size := by rwa [Array.size_zipWith, ← hs, Nat.min_self] at hi
  rw [hmi, getD_zipWith _ a b 0 0 0 hs hia]
  refine (Fl.abs_add_val_le _ _).trans (mul_le_mul_of_nonneg_left ?_ M.one_add_u_pos.le)
  exact add_le_add ((normInf_isMaxAbsFl hfabs ha).2.1 i hia)
    ((normInf_isMaxAbsFl hfabs hb).2.1 i (hs ▸ hia))

end NormInf

section Linspace
variable {M : FlModel}
open Fl FlModel

theorem fl_nonneg_of_monotone (hmono : Monotone M.fl) {x : ℝ} (hx : 0 ≤ x) : 0 ≤ M.fl x :=
  M.fl_zero ▸ hmono hx

theorem fl_nonpos_of_monotone (hmono : Monotone M.fl) {x : ℝ} (hx : x ≤ 0) : M.fl x ≤ 0 :=
  M.fl_zero ▸ hmono hx

theorem linIncr_rounding (A B : ℝ) (n i : Nat) :
    |M.fl (M.fl (M.fl (B - A) / ((n : ℝ) - 1)) * (i : ℝ)) - (B - A) / ((n : ℝ) - 1) * (i : ℝ)|
      ≤ M.gam 3 * |(B - A) / ((n : ℝ) - 1) * (i : ℝ)| :=
  (((M.approx_fl (B - A)).div_const _).fl.mul_const _).fl

/-- the bound of `fl_add_rel` for an increment with three roundings, both sizes below `S`: four
roundings against `S` -/
theorem gam_four_bound {X Y S : ℝ} (hX : X ≤ S) (hY : Y ≤ S) :
    M.u * X + (1 + M.u) * M.gam 3 * Y ≤ M.gam 4 * S := by
  refine (add_le_add (mul_le_mul_of_nonneg_left hX M.u_nonneg) (mul_le_mul_of_nonneg_left hY
    (mul_nonneg M.one_add_u_pos.le (M.gam_nonneg 3)))).trans_eq ?_
  rw [M.gam_succ 3]
  ring

variable [T : Transc (Fl M)]

/-- The casts used by `linspace(a, b, n)` are exact: `k as f64` for `k ≤ n`, and `n as f64 - 1.0`
commits no rounding error.  True in IEEE binary64 for `n ≤ 2⁵³`. -/
def ExactCasts (M' : FlModel) [T' : Transc (Fl M')] (n : Nat) : Prop :=
  (∀ k, k ≤ n → (Transc.ofNat k : Fl M').val = (k : ℝ)) ∧ M'.Rep ((n : ℝ) - 1)

theorem ExactCasts.den {n : Nat} (hc : ExactCasts M n) :
    (Transc.ofNat n - 1 : Fl M).val = (n : ℝ) - 1 := by
  rw [Fl.sub_val, hc.1 n (le_refl _), Fl.one_val]; exact hc.2

theorem ExactCasts.den_ne {n : Nat} (hc : ExactCasts M n) (hn : 2 ≤ n) :
    (Transc.ofNat n - 1 : Fl M).val ≠ 0 := by
  rw [hc.den]
  exact (pred_cast_pos hn).ne'

/-- the node `a + h * (i as f64)`, `h = (b - a) / (n as f64 - 1.0)`, as the code computes it -/
noncomputable def linNode (a b : Fl M) (n i : Nat) : Fl M :=
  a + ((b - a) / (Transc.ofNat n - 1)) * Transc.ofNat i

noncomputable def linX (A B : ℝ) (n i : Nat) : ℝ := A + (B - A) / ((n : ℝ) - 1) * (i : ℝ)

theorem linspace_ok_fl (a b : Fl M) (n : Nat) (hd : (Transc.ofNat n - 1 : Fl M).val ≠ 0) :
    ∃ v, Vec.linspace a b n = .ok v ∧ v.size = n ∧ ∀ i, i < n → v.getD i 0 = linNode a b n i := by
  refine ⟨Array.ofFn (n := n) fun i => linNode a b n i.val, ?_, Array.size_ofFn,
    fun i hi => getD_ofFn _ _ hi⟩
  unfold Vec.linspace
  simp only [divM, hd, if_false, bind, Except.bind, pure, Except.pure]
  rfl

/-- one node: `1 as f64 - 1.0` is an exact zero, `linspace` is rejected (IEEE: `0/0 = NaN`) -/
theorem linspace_one_rejects_fl (a b : Fl M) (h1 : (Transc.ofNat 1 : Fl M).val = 1) :
    Vec.linspace a b 1 = .error .arith := by
  have hd : (Transc.ofNat 1 - 1 : Fl M).val = 0 := by
    rw [Fl.sub_val, h1, Fl.one_val, sub_self, M.fl_zero]
  unfold Vec.linspace
  simp only [divM, hd, if_true, bind, Except.bind]

theorem linNode_val {n i : Nat} (hc : ExactCasts M n) (hi : i ≤ n) (a b : Fl M) :
    (linNode a b n i).val
      = M.fl (a.val + M.fl (M.fl (M.fl (b.val - a.val) / ((n : ℝ) - 1)) * (i : ℝ))) := by
  have hd := hc.den
  rw [Fl.sub_val] at hd
  simp only [linNode, Fl.add_val, Fl.mul_val, Fl.div_val, Fl.sub_val, hd, hc.1 i hi]

/-- **node `i` of `linspace`** against the exact node `X_i = a + (b-a) i/(n-1)`:
`|x_i − X_i| ≤ u |X_i| + (1+u) gam 3 · |b − a| i/(n−1)` (three roundings in the increment
`h·i`, one in the final addition). -/
theorem linNode_rounding {n i : Nat} (hc : ExactCasts M n) (hi : i ≤ n) (a b : Fl M) :
    |(linNode a b n i).val - linX a.val b.val n i|
      ≤ M.u * |linX a.val b.val n i|
        + (1 + M.u) * M.gam 3 * |(b.val - a.val) / ((n : ℝ) - 1) * (i : ℝ)| := by
  rw [linNode_val hc hi]
  exact fl_add_rel (linIncr_rounding a.val b.val n i)

theorem linX_bounds (A B : ℝ) {n i : Nat} (hn : 2 ≤ n) (hi : i < n) :
    |linX A B n i| ≤ |A| + |B| ∧ |(B - A) / ((n : ℝ) - 1) * (i : ℝ)| ≤ |A| + |B| := by
  obtain ⟨h0, h1⟩ := abscissa_mem_unit hn hi
  have e : (B - A) / ((n : ℝ) - 1) * (i : ℝ) = (B - A) * ((i : ℝ) / ((n : ℝ) - 1)) := by ring
  rw [linX, e]
  exact abs_segment_le A B h0 h1

theorem linX_last (A B : ℝ) {n : Nat} (hn : 2 ≤ n) : linX A B n (n - 1) = B := by
  rw [linX, Nat.cast_pred (by omega), div_mul_cancel₀ _ (pred_cast_pos hn).ne', add_sub_cancel]

/-- **`linspace(a, b, n)` over the rounded reals**, `n ≥ 2`, exact casts, `a` representable
(`fl a = a`: every `f64` is): the call succeeds with `n` nodes,
* the first node is EXACTLY `a`  (`h·0 = 0` and `a + 0 = a` are exact),
* the last node satisfies `|x_{n-1} − b| ≤ u |b| + (1+u) gam 3 |b − a| ≤ gam 4 · (|a| + |b|)`,
* every node satisfies `|x_i − (a + (b−a) i/(n−1))| ≤ gam 4 · (|a| + |b|)`
  (`gam 4 = (1+u)⁴ − 1 ≤ 4u/(1−4u)`: four roundings). -/
theorem linspace_fl {n : Nat} (hc : ExactCasts M n) (hn : 2 ≤ n) (a b : Fl M)
    (ha : M.Rep a.val) :
    ∃ v, Vec.linspace a b n = .ok v ∧ v.size = n ∧
      (v.getD 0 0).val = a.val ∧
      |(v.getD (n - 1) 0).val - b.val| ≤ M.u * |b.val| + (1 + M.u) * M.gam 3 * |b.val - a.val| ∧
      |(v.getD (n - 1) 0).val - b.val| ≤ M.gam 4 * (|a.val| + |b.val|) ∧
      ∀ i, i < n →
        |(v.getD i 0).val - (a.val + (b.val - a.val) / ((n : ℝ) - 1) * (i : ℝ))|
          ≤ M.gam 4 * (|a.val| + |b.val|) := by
  obtain ⟨v, hv, hs, hel⟩ := linspace_ok_fl a b n (hc.den_ne hn)
  have hnode : ∀ i, i < n →
      |(linNode a b n i).val - linX a.val b.val n i| ≤ M.gam 4 * (|a.val| + |b.val|) := by
    intro i hi
    obtain ⟨h2, h3⟩ := linX_bounds a.val b.val hn hi
    exact (linNode_rounding hc hi.le a b).trans (gam_four_bound h2 h3)
  have hlast := linX_last a.val b.val hn
  refine ⟨v, hv, hs, ?_, ?_, ?_, fun i hi => ?_⟩
  · rw [hel 0 (by omega), linNode_val hc (Nat.zero_le _), Nat.cast_zero, mul_zero, M.fl_zero,
      add_zero]
    exact ha
  · have h1 := linNode_rounding hc (Nat.sub_le n 1) a b
    rw [hlast, Nat.cast_pred (by omega), div_mul_cancel₀ _ (pred_cast_pos hn).ne'] at h1
    rw [hel (n - 1) (by omega)]
    exact h1
  · have := hnode (n - 1) (by omega)
    rw [hlast] at this
    rw [hel (n - 1) (by omega)]
    exact this
  · rw [hel i hi]
    exact hnode i hi

/-- the classical form of the constant: `gam 4 ≤ 4u / (1 − 4u)` -/
theorem linspace_fl_gamma {n : Nat} (hc : ExactCasts M n) (hn : 2 ≤ n) (a b : Fl M)
    (ha : M.Rep a.val) (hu : 4 * M.u < 1) :
    ∃ v, Vec.linspace a b n = .ok v ∧ v.size = n ∧ (v.getD 0 0).val = a.val ∧
      |(v.getD (n - 1) 0).val - b.val| ≤ 4 * M.u / (1 - 4 * M.u) * (|a.val| + |b.val|) ∧
      ∀ i, i < n →
        |(v.getD i 0).val - (a.val + (b.val - a.val) / ((n : ℝ) - 1) * (i : ℝ))|
          ≤ 4 * M.u / (1 - 4 * M.u) * (|a.val| + |b.val|) := by
  obtain ⟨v, hv, hs, h0, _, hl, hi⟩ := linspace_fl hc hn a b ha
  have hg : M.gam 4 ≤ 4 * M.u / (1 - 4 * M.u) := M.gam_le_gamma 4 hu
  have hab : 0 ≤ |a.val| + |b.val| := add_nonneg (abs_nonneg _) (abs_nonneg _)
  exact ⟨v, hv, hs, h0, hl.trans (mul_le_mul_of_nonneg_right hg hab),
    fun i h => (hi i h).trans (mul_le_mul_of_nonneg_right hg hab)⟩

/-- **monotonicity of the computed sequence** needs a monotone rounding function (true of
round-to-nearest, NOT part of the standard model — see `linspace_not_monotone` below): for
`a ≤ b` the computed nodes are non-decreasing.  (Strict monotonicity cannot survive rounding: for
`|b − a| ≪ u |a|` neighbouring nodes round to the same number.) -/
theorem linspace_monotone_fl (hmono : Monotone M.fl) {n : Nat} (hc : ExactCasts M n) (hn : 2 ≤ n)
    (a b : Fl M) (hab : a.val ≤ b.val) :
    ∃ v, Vec.linspace a b n = .ok v ∧ v.size = n ∧
      ∀ i j, i ≤ j → j < n → (v.getD i 0).val ≤ (v.getD j 0).val := by
  obtain ⟨v, hv, hs, hel⟩ := linspace_ok_fl a b n (hc.den_ne hn)
  refine ⟨v, hv, hs, fun i j hij hj => ?_⟩
  rw [hel i (by omega), hel j hj, linNode_val hc (by omega), linNode_val hc (by omega)]
  have hh : 0 ≤ M.fl (M.fl (b.val - a.val) / ((n : ℝ) - 1)) :=
    fl_nonneg_of_monotone hmono (div_nonneg
      (fl_nonneg_of_monotone hmono (sub_nonneg.mpr hab)) (pred_cast_pos hn).le)
  exact hmono (add_le_add le_rfl (hmono (mul_le_mul_of_nonneg_left (Nat.cast_le.mpr hij) hh)))

theorem linspace_antitone_fl (hmono : Monotone M.fl) {n : Nat} (hc : ExactCasts M n) (hn : 2 ≤ n)
    (a b : Fl M) (hab : b.val ≤ a.val) :
    ∃ v, Vec.linspace a b n = .ok v ∧ v.size = n ∧
      ∀ i j, i ≤ j → j < n → (v.getD j 0).val ≤ (v.getD i 0).val := by
  obtain ⟨v, hv, hs, hel⟩ := linspace_ok_fl a b n (hc.den_ne hn)
  refine ⟨v, hv, hs, fun i j hij hj => ?_⟩
  rw [hel i (by omega), hel j hj, linNode_val hc (by omega), linNode_val hc (by omega)]
  have hh : M.fl (M.fl (b.val - a.val) / ((n : ℝ) - 1)) ≤ 0 :=
    fl_nonpos_of_monotone hmono (div_nonpos_of_nonpos_of_nonneg
      (fl_nonpos_of_monotone hmono (sub_nonpos.mpr hab)) (pred_cast_pos hn).le)
  exact hmono (add_le_add le_rfl (hmono (mul_le_mul_of_nonpos_left (Nat.cast_le.mpr hij) hh)))

end Linspace

section Norm2
variable {M : FlModel}
open Fl FlModel

/-- a relative perturbation `g` of a non-negative number moves its square root by at most `g`
relatively (also when the perturbed number is negative and `Real.sqrt` returns `0`) -/
theorem sqrt_rel {s S g : ℝ} (hS : 0 ≤ S) (h : |s - S| ≤ g * S) :
    |Real.sqrt s - Real.sqrt S| ≤ g * Real.sqrt S := by
  rcases hS.eq_or_lt with rfl | hpos
  · rw [mul_zero, sub_zero] at h
    rw [abs_nonpos_iff.mp h, sub_self, abs_zero, Real.sqrt_zero, mul_zero]
  · have hg : 0 ≤ g := nonneg_of_mul_nonneg_left ((abs_nonneg _).trans h) hpos
    obtain ⟨hlo, hhi⟩ := rel_bounds h
    -- `c √S = √(c² S)`: both bounds `(1 - g) √S ≤ √s ≤ (1 + g) √S` are monotonicity of the root
    have key : ∀ c : ℝ, 0 ≤ c → c * Real.sqrt S = Real.sqrt (c * (c * S)) := fun c hc => by
      rw [← mul_assoc, Real.sqrt_mul (mul_self_nonneg c), Real.sqrt_mul_self hc]
    have h1g : 0 ≤ 1 + g := add_nonneg zero_le_one hg
    rw [abs_sub_le_iff, sub_le_iff_le_add', sub_le_iff_le_add, ← one_add_mul, ← sub_le_iff_le_add',
      ← one_sub_mul]
    constructor
    · rw [key _ h1g]
      exact Real.sqrt_le_sqrt (hhi.trans
        (le_mul_of_one_le_left (mul_nonneg h1g hS) (le_add_of_nonneg_right hg)))
    · rcases le_total g 1 with hg1 | hg1
      · rw [key _ (sub_nonneg.mpr hg1)]
        exact Real.sqrt_le_sqrt ((mul_le_of_le_one_left (mul_nonneg (sub_nonneg.mpr hg1) hS)
          (sub_le_self 1 hg)).trans hlo)
      · exact (mul_nonpos_of_nonpos_of_nonneg (sub_nonpos.mpr hg1) (Real.sqrt_nonneg S)).trans
          (Real.sqrt_nonneg s)

/-- componentwise relative perturbations of size `ε` move the Euclidean norm by at most `ε`
relatively (Minkowski's inequality) -/
theorem sqrt_sum_sq_perturb (n : Nat) (x y : Nat → ℝ) (ε : ℝ) (hε : 0 ≤ ε)
    (h : ∀ i, i < n → |x i - y i| ≤ ε * |y i|) :
    |Real.sqrt (∑ i ∈ Finset.range n, x i ^ 2) - Real.sqrt (∑ i ∈ Finset.range n, y i ^ 2)|
      ≤ ε * Real.sqrt (∑ i ∈ Finset.range n, y i ^ 2) := by
  have hd : ∀ z : Nat → ℝ, (∀ i, i < n → |z i| ≤ ε * |y i|) →
      Real.sqrt (∑ i ∈ Finset.range n, z i ^ 2)
        ≤ ε * Real.sqrt (∑ i ∈ Finset.range n, y i ^ 2) := by
    intro z hz
    rw [← Real.sqrt_sq hε, ← Real.sqrt_mul (sq_nonneg ε), Finset.mul_sum]
    refine Real.sqrt_le_sqrt (Finset.sum_le_sum fun i hi => ?_)
    rw [← mul_pow]
    refine sq_le_sq.mpr ?_
    rw [abs_mul, abs_of_nonneg hε]
    exact hz i (Finset.mem_range.mp hi)
  have h1 := sqrt_sum_add_sq_le (Finset.range n) y (fun i => x i - y i)
  have h2 := sqrt_sum_add_sq_le (Finset.range n) x (fun i => y i - x i)
  simp only [add_sub_cancel] at h1 h2
  have h3 := hd (fun i => x i - y i) h
  have h4 := hd (fun i => y i - x i) (fun i hi => by rw [abs_sub_comm]; exact h i hi)
  exact abs_sub_le_iff.mpr ⟨sub_le_iff_le_add'.mpr (h1.trans (add_le_add le_rfl h3)),
    sub_le_iff_le_add'.mpr (h2.trans (add_le_add le_rfl h4))⟩

/-- the exact Euclidean norm `√(Σ xᵢ²)` of the values -/
noncomputable def exactNorm2 (a : Array (Fl M)) : ℝ :=
  Real.sqrt (∑ i ∈ Finset.range a.size, (a.getD i 0).val ^ 2)

theorem IsMaxAbsFl.le_exactNorm2 {a : Array (Fl M)} {m : ℝ} (h : IsMaxAbsFl a m) :
    m ≤ exactNorm2 a := by
  obtain ⟨i, hi, rfl⟩ := h.2
  exact abs_le_sqrt_sum_sq _ (fun i => (a.getD i 0).val) (Finset.mem_range.mpr hi)

theorem exactNorm2_le_absSum (a : Array (Fl M)) : exactNorm2 a ≤ absSum a :=
  sqrt_sum_sq_le_sum_abs _ _

theorem exactNorm2_smul (a : Array (Fl M)) (c : Fl M) :
    |exactNorm2 (Vec.smul a c) - |c.val| * exactNorm2 a| ≤ M.u * (|c.val| * exactNorm2 a) := by
  have e : Real.sqrt (∑ i ∈ Finset.range a.size, ((a.getD i 0).val * c.val) ^ 2)
      = |c.val| * exactNorm2 a := by
    rw [exactNorm2, ← Real.sqrt_sq_eq_abs, ← Real.sqrt_mul (sq_nonneg _), Finset.mul_sum]
    exact congrArg _ (Finset.sum_congr rfl fun i _ => by rw [mul_pow, mul_comm])
  rw [exactNorm2, sum_getD_smul (fun x : Fl M => x.val ^ 2), ← e]
  exact sqrt_sum_sq_perturb a.size _ _ M.u M.u_nonneg fun i _ => Fl.mul_err _ _

theorem exactNorm2_add_le (a b : Array (Fl M)) (hs : a.size = b.size) :
    exactNorm2 (Array.zipWith (· + ·) a b) ≤ (1 + M.u) * (exactNorm2 a + exactNorm2 b) := by
  have h := sqrt_sum_sq_perturb a.size (fun i => (a.getD i 0 + b.getD i 0).val)
    (fun i => (a.getD i 0).val + (b.getD i 0).val) M.u M.u_nonneg (fun i _ => Fl.add_err _ _)
  rw [exactNorm2, sum_getD_zipWith (fun x : Fl M => x.val ^ 2) _ a b hs, exactNorm2, exactNorm2,
    ← hs]
  exact (rel_bounds h).2.trans (mul_le_mul_of_nonneg_left
    (sqrt_sum_add_sq_le (Finset.range a.size) (fun i => (a.getD i 0).val)
      (fun i => (b.getD i 0).val)) M.one_add_u_pos.le)

variable [T : Transc (Fl M)]

/-- **`norm_2`**: if `powf(|x|, 2.0)` and `sqrt` are computed with relative error `≤ u` (`hpow2`,
`hsqrt`: one rounding each, as in `C03.flTransc`; no weaker assumption on the libm functions makes
sense in the standard model) then
`|computed − √(Σ xᵢ²)| ≤ gam (n+2) · √(Σ xᵢ²)`
(`gam (n+1)` under the root — one rounding per square, `n` additions — halves to first order but
is bounded by itself; one more rounding for the root). -/
theorem norm2_rounding
    (hpow2 : ∀ x : Fl M,
      |(Transc.powf (Transc.fabs x) ((1 : Fl M) + 1)).val - x.val ^ 2| ≤ M.u * x.val ^ 2)
    (hsqrt : ∀ s : Fl M, |(Transc.sqrt s).val - Real.sqrt s.val| ≤ M.u * Real.sqrt s.val)
    (a : Array (Fl M)) :
    |(Vec.norm2 a).val - exactNorm2 a| ≤ M.gam (a.size + 2) * exactNorm2 a := by
  rw [norm2_eq_fold]
  have h2 := (Within.foldl_range a.size
    (fun j => Transc.powf (Transc.fabs (a.getD j 0)) ((1 : Fl M) + 1))
    (fun j => (a.getD j 0).val ^ 2) (fun j => (a.getD j 0).val ^ 2) (k := 1) fun j _ =>
      ⟨by rw [M.gam_one]; exact hpow2 _, (abs_sq _).le⟩).1
  have h3 := sqrt_rel (Finset.sum_nonneg fun _ _ => sq_nonneg _) h2
  rw [exactNorm2]
  exact (rel_trans M.u_nonneg (hsqrt _) (rel_bounds h3).2 h3).trans_eq
    (by rw [M.gam_succ (a.size + 1)]; ring)

theorem norm2_bounds
    (hpow2 : ∀ x : Fl M,
      |(Transc.powf (Transc.fabs x) ((1 : Fl M) + 1)).val - x.val ^ 2| ≤ M.u * x.val ^ 2)
    (hsqrt : ∀ s : Fl M, |(Transc.sqrt s).val - Real.sqrt s.val| ≤ M.u * Real.sqrt s.val)
    (a : Array (Fl M)) :
    (1 - M.gam (a.size + 2)) * exactNorm2 a ≤ (Vec.norm2 a).val ∧
      (Vec.norm2 a).val ≤ (1 + M.gam (a.size + 2)) * exactNorm2 a :=
  rel_bounds (norm2_rounding hpow2 hsqrt a)

/-- **non-negativity of the computed `norm_2`** (`u ≤ 1`; only the final `sqrt` matters) -/
theorem norm2_nonneg_fl (hu : M.u ≤ 1)
    (hsqrt : ∀ s : Fl M, |(Transc.sqrt s).val - Real.sqrt s.val| ≤ M.u * Real.sqrt s.val)
    (a : Array (Fl M)) : 0 ≤ (Vec.norm2 a).val := by
  unfold Vec.norm2
  exact (mul_nonneg (sub_nonneg.mpr hu) (Real.sqrt_nonneg _)).trans (rel_bounds (hsqrt _)).1

/-- **`‖x‖∞ ≤ ‖x‖₂` up to rounding** -/
theorem normInf_le_norm2_fl (hfabs : ∀ x : Fl M, (Transc.fabs x).val = |x.val|)
    (hpow2 : ∀ x : Fl M,
      |(Transc.powf (Transc.fabs x) ((1 : Fl M) + 1)).val - x.val ^ 2| ≤ M.u * x.val ^ 2)
    (hsqrt : ∀ s : Fl M, |(Transc.sqrt s).val - Real.sqrt s.val| ≤ M.u * Real.sqrt s.val)
    {a : Array (Fl M)} {m : Fl M} (h : Vec.normInf a = .ok m) :
    m.val ≤ (Vec.norm2 a).val + M.gam (a.size + 2) * exactNorm2 a :=
  (normInf_isMaxAbsFl hfabs h).2.le_exactNorm2.trans (rel_lower (norm2_rounding hpow2 hsqrt a))

/-- **`‖x‖₂ ≤ ‖x‖₁` up to rounding**, exact 1-norm on the right -/
theorem norm2_le_norm1_fl
    (hpow2 : ∀ x : Fl M,
      |(Transc.powf (Transc.fabs x) ((1 : Fl M) + 1)).val - x.val ^ 2| ≤ M.u * x.val ^ 2)
    (hsqrt : ∀ s : Fl M, |(Transc.sqrt s).val - Real.sqrt s.val| ≤ M.u * Real.sqrt s.val)
    (a : Array (Fl M)) :
    (Vec.norm2 a).val ≤ (1 + M.gam (a.size + 2)) * absSum a :=
  (norm2_bounds hpow2 hsqrt a).2.trans (mul_le_mul_of_nonneg_left (exactNorm2_le_absSum a)
    (add_nonneg zero_le_one (M.gam_nonneg _)))

/-- `‖x‖₂ ≤ ‖x‖₁` between the two COMPUTED norms (`gam n ≤ 1`):
`(1 − gam n) fl‖x‖₂ ≤ (1 + gam (n+2)) fl‖x‖₁` -/
theorem norm2_le_norm1_fl_computed
    (hpow2 : ∀ x : Fl M,
      |(Transc.powf (Transc.fabs x) ((1 : Fl M) + 1)).val - x.val ^ 2| ≤ M.u * x.val ^ 2)
    (hsqrt : ∀ s : Fl M, |(Transc.sqrt s).val - Real.sqrt s.val| ≤ M.u * Real.sqrt s.val)
    (a : Array (Fl M)) (hg : M.gam a.size ≤ 1) :
    (1 - M.gam a.size) * (Vec.norm2 a).val ≤ (1 + M.gam (a.size + 2)) * (Vec.norm1 a).val :=
  le_computed hg (add_nonneg zero_le_one (M.gam_nonneg _)) (norm2_le_norm1_fl hpow2 hsqrt a)
    (norm1_bounds a).1

/-- **homogeneity of `norm_2` up to rounding**:
`|fl‖x c‖₂ − |c| ‖x‖₂| ≤ gam (n+3) · |c| ‖x‖₂` -/
theorem norm2_smul_fl
    (hpow2 : ∀ x : Fl M,
      |(Transc.powf (Transc.fabs x) ((1 : Fl M) + 1)).val - x.val ^ 2| ≤ M.u * x.val ^ 2)
    (hsqrt : ∀ s : Fl M, |(Transc.sqrt s).val - Real.sqrt s.val| ≤ M.u * Real.sqrt s.val)
    (a : Array (Fl M)) (c : Fl M) :
    |(Vec.norm2 (Vec.smul a c)).val - |c.val| * exactNorm2 a|
      ≤ M.gam (a.size + 3) * (|c.val| * exactNorm2 a) := by
  have h1 := norm2_rounding hpow2 hsqrt (Vec.smul a c)
  rw [smul_size] at h1
  have h2 := exactNorm2_smul a c
  exact (rel_trans (M.gam_nonneg _) h1 (rel_bounds h2).2 h2).trans_eq
    (by rw [M.gam_succ (a.size + 2)]; ring)

/-- **triangle inequality for `norm_2` up to rounding**:
`fl‖a + b‖₂ ≤ (1 + gam (n+3)) (‖a‖₂ + ‖b‖₂)` with the exact norms on the right. -/
theorem norm2_triangle_fl
    (hpow2 : ∀ x : Fl M,
      |(Transc.powf (Transc.fabs x) ((1 : Fl M) + 1)).val - x.val ^ 2| ≤ M.u * x.val ^ 2)
    (hsqrt : ∀ s : Fl M, |(Transc.sqrt s).val - Real.sqrt s.val| ≤ M.u * Real.sqrt s.val)
    (a b c : Array (Fl M)) (h : Vec.add a b = .ok c) :
    (Vec.norm2 c).val ≤ (1 + M.gam (a.size + 3)) * (exactNorm2 a + exactNorm2 b) := by
  obtain ⟨hs, rfl⟩ := (add_ok_iff a b c).mp h
  have h1 := (norm2_bounds hpow2 hsqrt (Array.zipWith (· + ·) a b)).2
  rw [Array.size_zipWith, ← hs, Nat.min_self] at h1
  exact le_one_add_gam_succ h1 (exactNorm2_add_le a b hs)

end Norm2

section Powspace
variable {M : FlModel}
open Fl FlModel

variable [T : Transc (Fl M)]

/-- node `i` of `powspace(a, b, n, p)` as the code computes it:
`a + (b - a) * powf(i as f64 / (n as f64 - 1.0), p)` -/
noncomputable def powNode (a b : Fl M) (n : Nat) (p : Fl M) (i : Nat) : Fl M :=
  a + (b - a) * Transc.powf (Transc.ofNat i / (Transc.ofNat n - 1)) p

theorem powspace_ok_fl (a b p : Fl M) (n : Nat) (hd : (Transc.ofNat n - 1 : Fl M).val ≠ 0) :
    ∃ v, Vec.powspace a b n p = .ok v ∧ v.size = n ∧
      ∀ i, i < n → v.getD i 0 = powNode a b n p i := by
  refine ⟨Array.ofFn (n := n) fun i => powNode a b n p i.val, ?_, Array.size_ofFn,
    fun i hi => getD_ofFn _ _ hi⟩
  unfold Vec.powspace
  rw [mapM_ok_arr _ _ (fun i : Nat => powNode a b n p i)]
  · exact congrArg _ Array.map_ofFn
  · intro i _
    simp only [divM, hd, if_false, bind, Except.bind, pure, Except.pure]
    rfl

theorem powspace_zero_size_fl (a b p : Fl M) : Vec.powspace a b 0 p = .ok #[] :=
  powspace_size_zero a b p

/-- the rounded abscissa `fl(i/(n-1))` of node `i` -/
noncomputable def powT (M' : FlModel) (n i : Nat) : ℝ := M'.fl ((i : ℝ) / ((n : ℝ) - 1))

set_option linter.unusedSectionVars false in
theorem powT_err (n i : Nat) :
    |powT M n i - (i : ℝ) / ((n : ℝ) - 1)| ≤ M.u * |(i : ℝ) / ((n : ℝ) - 1)| := M.fl_err _

theorem powArg_val {n k : Nat} (hc : ExactCasts M n) (hk : k ≤ n) :
    (Transc.ofNat k / (Transc.ofNat n - 1) : Fl M).val = powT M n k := by
  rw [Fl.div_val, hc.den, hc.1 k hk, powT]

theorem powNode_val (a b p : Fl M) (n k : Nat) :
    (powNode a b n p k).val = M.fl (a.val + M.fl (M.fl (b.val - a.val)
      * (Transc.powf (Transc.ofNat k / (Transc.ofNat n - 1)) p).val)) := rfl

/-- **node `i` of `powspace`**, for a `powf` with relative error `≤ u` (`hpowf`): with the rounded
abscissa `τ_i = fl(i/(n-1))` (`powT_err`: relative error `≤ u`) and `X_i = a + (b-a) τ_i^p`,
`|x_i − X_i| ≤ u |X_i| + (1+u) gam 3 · |(b-a) τ_i^p|`
(three roundings in the increment — `b - a`, `powf`, the product — and one in the addition).
The rounding of the abscissa is NOT propagated through `t ↦ t^p` (its amplification factor is the
exponent `p`), it is part of the statement. -/
theorem powNode_rounding
    (hpowf : ∀ t q : Fl M, |(Transc.powf t q).val - t.val ^ q.val| ≤ M.u * |t.val ^ q.val|)
    {n i : Nat} (hc : ExactCasts M n) (hi : i ≤ n) (a b p : Fl M) :
    |(powNode a b n p i).val - (a.val + (b.val - a.val) * powT M n i ^ p.val)|
      ≤ M.u * |a.val + (b.val - a.val) * powT M n i ^ p.val|
        + (1 + M.u) * M.gam 3 * |(b.val - a.val) * powT M n i ^ p.val| := by
  have h2 : M.Approx 1 (Transc.powf (Transc.ofNat i / (Transc.ofNat n - 1)) p).val
      (powT M n i ^ p.val) := by
    have := hpowf (Transc.ofNat i / (Transc.ofNat n - 1)) p
    rwa [powArg_val hc hi, ← M.gam_one] at this
  rw [powNode_val]
  exact fl_add_rel (A := a.val) ((M.approx_fl _).mul h2).fl

/-- **`powspace(a, b, n, p)` over the rounded reals**, `n ≥ 2`, exact casts, `powf` with relative
error `≤ u`, `a` and `1` representable: the call succeeds with `n` nodes,
* for `p ≠ 0` the first node is EXACTLY `a`,
* the last node satisfies `|x_{n-1} − b| ≤ u |b| + (1+u) gam 3 |b − a| ≤ gam 4 · (|a| + |b|)`,
* every node satisfies the bound of `powNode_rounding`. -/
theorem powspace_fl
    (hpowf : ∀ t q : Fl M, |(Transc.powf t q).val - t.val ^ q.val| ≤ M.u * |t.val ^ q.val|)
    {n : Nat} (hc : ExactCasts M n) (hn : 2 ≤ n) (a b p : Fl M) (ha : M.Rep a.val)
    (h1 : M.Rep 1) :
    ∃ v, Vec.powspace a b n p = .ok v ∧ v.size = n ∧
      (p.val ≠ 0 → (v.getD 0 0).val = a.val) ∧
      |(v.getD (n - 1) 0).val - b.val| ≤ M.u * |b.val| + (1 + M.u) * M.gam 3 * |b.val - a.val| ∧
      |(v.getD (n - 1) 0).val - b.val| ≤ M.gam 4 * (|a.val| + |b.val|) ∧
      ∀ i, i < n →
        |(v.getD i 0).val - (a.val + (b.val - a.val) * powT M n i ^ p.val)|
          ≤ M.u * |a.val + (b.val - a.val) * powT M n i ^ p.val|
            + (1 + M.u) * M.gam 3 * |(b.val - a.val) * powT M n i ^ p.val| := by
  obtain ⟨v, hv, hs, hel⟩ := powspace_ok_fl a b p n (hc.den_ne hn)
  have hT1 : powT M n (n - 1) = 1 := by
    rw [powT, Nat.cast_pred (by omega), div_self (pred_cast_pos hn).ne']
    exact h1
  have hlast : |(powNode a b n p (n - 1)).val - b.val|
      ≤ M.u * |b.val| + (1 + M.u) * M.gam 3 * |b.val - a.val| := by
    have := powNode_rounding hpowf hc (Nat.sub_le n 1) a b p
    rwa [hT1, Real.one_rpow, mul_one, add_sub_cancel] at this
  refine ⟨v, hv, hs, fun hp => ?_, ?_, ?_, fun i hi => ?_⟩
  · -- `powf(0, p)` is an exact zero, so the increment vanishes
    have hw : (Transc.powf (Transc.ofNat 0 / (Transc.ofNat n - 1) : Fl M) p).val = 0 := by
      have := hpowf (Transc.ofNat 0 / (Transc.ofNat n - 1)) p
      rw [powArg_val hc (Nat.zero_le n), powT, Nat.cast_zero, zero_div, M.fl_zero,
        Real.zero_rpow hp, abs_zero, mul_zero, sub_zero] at this
      exact abs_nonpos_iff.mp this
    rw [hel 0 (by omega), powNode_val, hw, mul_zero, M.fl_zero, add_zero]
    exact ha
  · rw [hel (n - 1) (by omega)]
    exact hlast
  · rw [hel (n - 1) (by omega)]
    exact hlast.trans (gam_four_bound (le_add_of_nonneg_left (abs_nonneg a.val))
      ((abs_sub b.val a.val).trans_eq (add_comm _ _)))
  · rw [hel i hi]
    exact powNode_rounding hpowf hc hi.le a b p

/-- **monotonicity of the computed `powspace`** needs a monotone `fl` AND a `powf` that is
monotone in its first argument on `[0, ∞)` (`hpm`; true of a correctly rounded `powf` with
exponent `p ≥ 0`, see `flTransc_powf_mono`): for `a ≤ b` the computed nodes are non-decreasing. -/
theorem powspace_monotone_fl (hmono : Monotone M.fl) (p : Fl M)
    (hpm : ∀ s t : Fl M, 0 ≤ s.val → s.val ≤ t.val →
      (Transc.powf s p).val ≤ (Transc.powf t p).val)
    {n : Nat} (hc : ExactCasts M n) (hn : 2 ≤ n) (a b : Fl M) (hab : a.val ≤ b.val) :
    ∃ v, Vec.powspace a b n p = .ok v ∧ v.size = n ∧
      ∀ i j, i ≤ j → j < n → (v.getD i 0).val ≤ (v.getD j 0).val := by
  obtain ⟨v, hv, hs, hel⟩ := powspace_ok_fl a b p n (hc.den_ne hn)
  refine ⟨v, hv, hs, fun i j hij hj => ?_⟩
  have hn1 := pred_cast_pos hn
  have hw := hpm (Transc.ofNat i / (Transc.ofNat n - 1)) (Transc.ofNat j / (Transc.ofNat n - 1))
    (by rw [powArg_val hc (by omega)]
        exact fl_nonneg_of_monotone hmono (div_nonneg (Nat.cast_nonneg i) hn1.le))
    (by rw [powArg_val hc (by omega), powArg_val hc (by omega)]
        exact hmono (div_le_div_of_nonneg_right (Nat.cast_le.mpr hij) hn1.le))
  rw [hel i (by omega), hel j hj, powNode_val, powNode_val]
  exact hmono (add_le_add le_rfl (hmono (mul_le_mul_of_nonneg_left hw
    (fl_nonneg_of_monotone hmono (sub_nonneg.mpr hab)))))

end Powspace

section Models
open Fl
attribute [local instance] C03.flTransc

/-- with the instance `C03.flTransc M` (`n as f64` = the integer rounded once) the casts are exact
as soon as the integers `0 … n` are representable -/
theorem exactCasts_flTransc (M : FlModel) {n : Nat} (hn : 1 ≤ n)
    (hrep : ∀ k : ℕ, k ≤ n → M.Rep (k : ℝ)) : ExactCasts M n := by
  refine ⟨fun k hk => hrep k hk, ?_⟩
  have : (n : ℝ) - 1 = ((n - 1 : ℕ) : ℝ) := by rw [Nat.cast_sub hn]; simp
  rw [this]
  exact hrep (n - 1) (by omega)

theorem exactCasts_exact {n : Nat} (hn : 1 ≤ n) : ExactCasts FlModel.exact n :=
  exactCasts_flTransc _ hn (fun _ _ => rfl)

/-- the binary round-to-nearest format with `p + 1` significant bits: the casts of
`linspace(a, b, n)` are exact for `n < 2^(p+1)` (binary64: `n < 2⁵³`) -/
theorem exactCasts_roundBits (p : Nat) {n : Nat} (hn : 1 ≤ n) (h : n < 2 ^ (p + 1)) :
    ExactCasts (FlModel.roundBits p) n :=
  exactCasts_flTransc _ hn fun _ hk => FlModel.roundBits_rep_natCast p (Nat.lt_of_le_of_lt hk h)

theorem flTransc_sqrt (M : FlModel) (s : Fl M) :
    |(Transc.sqrt s).val - Real.sqrt s.val| ≤ M.u * Real.sqrt s.val := by
  have := M.fl_err (Real.sqrt s.val)
  rwa [abs_of_nonneg (Real.sqrt_nonneg _)] at this

theorem flTransc_powf (M : FlModel) (t q : Fl M) :
    |(Transc.powf t q).val - t.val ^ q.val| ≤ M.u * |t.val ^ q.val| := M.fl_err _

/-- `C03.flTransc`: `powf(|x|, 1.0 + 1.0)` is `x²` rounded once, provided `2` is representable -/
theorem flTransc_pow2 (M : FlModel) (h2 : M.Rep 2) (x : Fl M) :
    |(Transc.powf (Transc.fabs x) ((1 : Fl M) + 1)).val - x.val ^ 2| ≤ M.u * x.val ^ 2 := by
  have e : (Transc.powf (Transc.fabs x) ((1 : Fl M) + 1)).val
      = M.fl (|x.val| ^ (M.fl (1 + 1) : ℝ)) := rfl
  have h11 : M.fl (1 + 1) = 2 := by rw [one_add_one_eq_two]; exact h2
  rw [e, h11, Real.rpow_two, sq_abs]
  have := M.fl_err (x.val ^ 2)
  rwa [abs_sq] at this

theorem flTransc_powf_mono (M : FlModel) (hmono : Monotone M.fl) (p : Fl M) (hp : 0 ≤ p.val)
    (s t : Fl M) (hs : 0 ≤ s.val) (hst : s.val ≤ t.val) :
    (Transc.powf s p).val ≤ (Transc.powf t p).val :=
  hmono (Real.rpow_le_rpow hs hst hp)

/-- a model with unit roundoff `u` that is exact everywhere except at the single point `5`, which
it rounds DOWN by the full relative error: `fl 5 = 5 (1 - u)`.  It satisfies the standard model
but `fl` is not monotone (`fl (5 - 5u/2) = 5 - 5u/2 > fl 5`). -/
noncomputable def bump (u : ℝ) (hu : 0 ≤ u) : FlModel := by
  classical
  exact
  { u := u
    fl := fun x => if x = 5 then 5 * (1 - u) else x
    u_nonneg := hu
    fl_err := fun x => by
      split
      · rename_i h
        subst h
        have : 5 * (1 - u) - 5 = -(u * 5) := by ring
        rw [this, abs_neg, abs_mul, abs_of_nonneg hu]
      · simp only [sub_self, abs_zero]; positivity }

theorem bump_fl_ne (u : ℝ) (hu : 0 ≤ u) {x : ℝ} (hx : x ≠ 5) : (bump u hu).fl x = x := by
  classical
  simp [bump, hx]

theorem bump_fl_five (u : ℝ) (hu : 0 ≤ u) : (bump u hu).fl 5 = 5 * (1 - u) := by
  classical
  simp [bump]

/-- **monotonicity of the computed `linspace` does NOT follow from the standard model**: for every
`0 < u < 1` the model `bump u` (unit roundoff `u`, exact casts, representable end points
`a = 5(1-u) < b = 5`) computes the three nodes `5 - 5u, 5 - 5u/2, 5 - 5u`: the last node is below
the middle one. -/
theorem linspace_not_monotone (u : ℝ) (h0 : 0 < u) (h1 : u < 1) :
    let M := bump u h0.le
    let a : Fl M := ⟨5 * (1 - u)⟩
    let b : Fl M := ⟨5⟩
    M.u = u ∧ ExactCasts M 3 ∧ M.Rep a.val ∧ a.val < b.val ∧
      ∃ v, Vec.linspace a b 3 = .ok v ∧ (v.getD 2 0).val < (v.getD 1 0).val := by
  -- none of the numbers that occur except `a + h·2` is the bumped point `5`
  have h5 : (0 : ℝ) < 5 := by norm_num
  have hab : 5 * (1 - u) < 5 := mul_lt_of_lt_one_right h5 (sub_lt_self 1 h0)
  have n2 : 5 * u < 5 := mul_lt_of_lt_one_right h5 h1
  have n3 : 5 * u / 2 < 5 := (div_le_self (mul_pos h5 h0).le one_le_two).trans_lt n2
  have n4 : 5 * (1 - u) + 5 * u / 2 ≠ 5 := fun h => by linarith
  have hlt : 5 * (1 - u) < 5 * (1 - u) + 5 * u / 2 :=
    lt_add_of_pos_right _ (half_pos (mul_pos h5 h0))
  intro M a b
  have key : ∀ x : ℝ, x ≠ 5 → M.fl x = x := fun x hx => bump_fl_ne u h0.le hx
  have hc : ExactCasts M 3 := by
    refine exactCasts_flTransc M (by omega) fun k hk => key _ fun h => ?_
    have : k = 5 := by exact_mod_cast h
    omega
  refine ⟨rfl, hc, key _ hab.ne, hab, ?_⟩
  obtain ⟨v, hv, _, hel⟩ := linspace_ok_fl a b 3 (hc.den_ne (Nat.le_succ 2))
  refine ⟨v, hv, ?_⟩
  rw [hel 2 (by omega), hel 1 (by omega), linNode_val hc (by omega), linNode_val hc (by omega)]
  have e0 : b.val - a.val = 5 * u := by show (5 : ℝ) - 5 * (1 - u) = 5 * u; ring
  have e2 : 5 * u / (((3 : ℕ) : ℝ) - 1) = 5 * u / 2 := by norm_num
  have e4 : 5 * u / 2 * ((2 : ℕ) : ℝ) = 5 * u := by push_cast; ring
  have e5 : 5 * u / 2 * ((1 : ℕ) : ℝ) = 5 * u / 2 := by rw [Nat.cast_one, mul_one]
  have e6 : a.val + 5 * u = 5 := by show 5 * (1 - u) + 5 * u = (5 : ℝ); ring
  rw [e0, key _ n2.ne, e2, key _ n3.ne, e4, e5, key _ n2.ne, key _ n3.ne, e6, key _ n4, bump_fl_five]
  exact hlt

end Models

section Examples
open Fl
attribute [local instance] C03.flTransc

/-- exact arithmetic is a model: there `sum_rounding` says the computed sum is the exact sum -/
example (a : Array (Fl FlModel.exact)) (h : 0 < a.size) :
    ∃ r, Vec.sum a = .ok r ∧ r.val = exactSum a := by
  obtain ⟨r, hr, hr'⟩ := sum_rounding a h
  refine ⟨r, hr, ?_⟩
  exact FlModel.eq_of_abs_sub_le_exact hr'

/-- a model that really rounds (`fl x = (1 + 2⁻⁵³) x`): the bound of `norm1_rounding` is ATTAINED
for the one-element vector `[x]`: computed `(1+u)|x|`, error `gam 1 · |x|` -/
example (x : ℝ) :
    let M := FlModel.scale (2 ^ (-53 : ℤ)) (by positivity)
    let a : Array (Fl M) := #[⟨x⟩]
    |(Vec.norm1 a).val - absSum a| = M.gam a.size * absSum a := by
  intro M a
  have hv : (Vec.norm1 a).val = (1 + M.u) * (0 + |x|) := by
    show (1 + M.u) * (0 + (ScalarExt.mag (⟨x⟩ : Fl M)).val) = _
    rw [Fl.mag_val]
  have e2 : absSum a = |x| := Finset.sum_range_one _
  rw [hv, e2, zero_add, ← pow_one (1 + M.u), M.abs_pow_mul_sub_self, abs_abs]
  rfl

/-- the hypothesis `u ≤ 1` of `norm1_nonneg_fl` cannot be dropped: `fl x = -x` satisfies the
standard model with `u = 2`, and there the computed `norm_1` of `[1]` is `-1` -/
example :
    let M : FlModel := ⟨2, fun x => -x, by norm_num, fun x => by
      have : -x - x = -(2 * x) := by ring
      rw [this, abs_neg, abs_mul]; norm_num⟩
    (Vec.norm1 (#[⟨1⟩] : Array (Fl M))).val = -1 := by
  intro M
  show -(0 + (ScalarExt.mag (⟨1⟩ : Fl M)).val) = -1
  rw [Fl.mag_val]; norm_num

/-- `normInf_exact` with the instance `flTransc` (its `fabs` is exact by `rfl`) in an ARBITRARY
model: `‖[3, -7, 2]‖∞ = 7` exactly -/
example (M : FlModel) : ∃ m, Vec.normInf (#[⟨3⟩, ⟨-7⟩, ⟨2⟩] : Array (Fl M)) = .ok m ∧ m.val = 7 := by
  obtain ⟨m, hm, hmax⟩ := normInf_exact (M := M) (fun _ => rfl) #[⟨3⟩, ⟨-7⟩, ⟨2⟩]
    (Nat.succ_pos 2)
  refine ⟨m, hm, ?_⟩
  have h7 : IsMaxAbsFl (#[⟨3⟩, ⟨-7⟩, ⟨2⟩] : Array (Fl M)) 7 := by
    constructor
    · intro i hi
      have hi' : i < 3 := hi
      rcases (by omega : i = 0 ∨ i = 1 ∨ i = 2) with rfl | rfl | rfl
      · show |(3 : ℝ)| ≤ 7; norm_num
      · show |(-7 : ℝ)| ≤ 7; norm_num
      · show |(2 : ℝ)| ≤ 7; norm_num
    · exact ⟨1, Nat.one_lt_succ_succ 1, by show (7 : ℝ) = |(-7 : ℝ)|; norm_num⟩
  exact hmax.unique h7

theorem exactCasts_binary64_11 : ExactCasts FlModel.binary64 11 :=
  exactCasts_roundBits 52 (by omega) (by norm_num)

/-- `linspace_fl` in the binary64-significand format `FlModel.binary64 = roundBits 52` for
`a = 0, b = 1, n = 11`: all hypotheses hold (`0` is representable, `11 < 2⁵³`); first node exactly
`0`, last node within `gam 4` of `1` -/
example : ∃ v, Vec.linspace (⟨0⟩ : Fl FlModel.binary64) ⟨1⟩ 11 = .ok v ∧ v.size = 11 ∧
    (v.getD 0 0).val = 0 ∧ |(v.getD 10 0).val - 1| ≤ FlModel.binary64.gam 4 := by
  have hc := exactCasts_binary64_11
  obtain ⟨v, hv, hs, h0, _, hl, _⟩ := linspace_fl hc (by omega) (⟨0⟩ : Fl FlModel.binary64) ⟨1⟩
    FlModel.binary64.rep_zero
  refine ⟨v, hv, hs, h0, ?_⟩
  simpa using hl

/-- the hypotheses `hpow2`, `hsqrt` of the `norm_2` theorems hold for `flTransc` in the
binary64-significand format (`2` is representable): `fl‖[3, 4]‖₂` is `5` up to `gam 4` -/
example : |(Vec.norm2 (#[⟨3⟩, ⟨4⟩] : Array (Fl FlModel.binary64))).val - 5|
    ≤ FlModel.binary64.gam 4 * 5 := by
  have h2 : FlModel.binary64.Rep 2 := by
    have := FlModel.roundBits_rep_natCast 52 (k := 2) (by norm_num)
    rwa [Nat.cast_ofNat] at this
  have h := norm2_rounding (flTransc_pow2 _ h2) (flTransc_sqrt _)
    (#[⟨3⟩, ⟨4⟩] : Array (Fl FlModel.binary64))
  have e : exactNorm2 (#[⟨3⟩, ⟨4⟩] : Array (Fl FlModel.binary64)) = 5 := by
    have : ∑ i ∈ Finset.range 2, ((#[⟨3⟩, ⟨4⟩] : Array (Fl FlModel.binary64)).getD i 0).val ^ 2
        = 5 ^ 2 := by
      rw [Finset.sum_range_succ, Finset.sum_range_one]
      show (3 : ℝ) ^ 2 + 4 ^ 2 = 5 ^ 2
      norm_num
    rw [exactNorm2]
    show Real.sqrt (∑ i ∈ Finset.range 2, _) = 5
    rw [this, Real.sqrt_sq (by norm_num)]
  rw [e] at h
  exact h

/-- `powspace_fl` in the binary64-significand format for `a = 0, b = 1, n = 11`, exponent `2`:
first node exactly `0`, last node within `gam 4` of `1` -/
example : ∃ v, Vec.powspace (⟨0⟩ : Fl FlModel.binary64) ⟨1⟩ 11 ⟨2⟩ = .ok v ∧ v.size = 11 ∧
    (v.getD 0 0).val = 0 ∧ |(v.getD 10 0).val - 1| ≤ FlModel.binary64.gam 4 := by
  have hc := exactCasts_binary64_11
  have h1 : FlModel.binary64.Rep 1 := by
    have := FlModel.roundBits_rep_natCast 52 (k := 1) (by norm_num)
    rwa [Nat.cast_one] at this
  obtain ⟨v, hv, hs, h0, _, hl, _⟩ := powspace_fl (flTransc_powf _) hc (by omega)
    (⟨0⟩ : Fl FlModel.binary64) ⟨1⟩ ⟨2⟩ FlModel.binary64.rep_zero h1
  refine ⟨v, hv, hs, h0 (by norm_num), ?_⟩
  simpa using hl

/-- `Monotone fl` is satisfiable by a model that really rounds: `fl x = (1 + u) x` -/
example (u : ℝ) (hu : 0 ≤ u) : Monotone (FlModel.scale u hu).fl := by
  intro x y hxy
  exact mul_le_mul_of_nonneg_left hxy (by linarith)

end Examples

end Ohsl.Props.C15
