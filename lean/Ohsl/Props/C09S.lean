/-
  Property C09S — the accuracy clause of C09 for what the driver actually runs: the four iterative
  solvers AS METHODS of the sparse matrix, `Sp.solveIter s m b x0 maxIter tol Vec.norm2`
  (Ohsl/Model/KrylovSp.lean), on arrays, with the model's own `Vec.norm2`.
  C09A proves the clause for an abstract dense matrix and the function-level solver model; this
  file closes the link to the sparse ARRAY layer.

  Class (R): scalars ℝ with the real interpretation `Ohsl.RealI.transc` (`sqrt`, `le`, `fabs`,
  `powf`), `s : Sp ℝ` a well-formed square compressed-sparse-column storage of order `n`
  (`C08.SqWF s n`), `b x0 : Array ℝ`.

  `spMat s n` is the matrix DENOTED by the storage (entry `(i, j)` is `Sp.entry s i j`, duplicates
  summed; the real-scalar analogue of C08G's `sqMat`); the code's product denotes multiplication by
  it (`multiply_toFn`) and the model's `Vec.norm2` of an array is the Euclidean norm of the function
  it denotes (`norm2_eq_norm`), so C08C's function-level image of the array operations is C09G's
  `spdOps (spMat s n)` and the array run is the image of the dense run (`solveIter_sim_dense`).
  (R) `solveIter_success_forward_error` (a reported success of any method is within the tolerance
      times the spectral condition number of the direct solution; the sizes of `b`, `x0` are not
      hypotheses: they follow from the call returning a value), `solveIter_success_residual` (the
      same success read with the model's `Vec.norm2` on arrays), `solveIter_cg_spd` (the full C09
      statement for `solve_cg` at the array level), `spd2R_runs` (on the storage of `[[2,1],[1,2]]`
      each of the four methods reports success in iteration 1 of its loop, so the hypotheses above
      are met by a non-trivial run).
  NOT proved: that BiCG / BiCGSTAB / QMR do report success (as in C09A); anything about f64
  rounding (class F).
-/
import Ohsl.Props.C09A
import Ohsl.Props.C08K
import Ohsl.Props.C15N
import Mathlib.Algebra.BigOperators.Fin

namespace Ohsl.Props.C09
open Ohsl Ohsl.Krylov Ohsl.Props.C08 Ohsl.Props.C07 Ohsl.CGTheory Matrix

section Denote

/-- the real matrix a square storage of order `n` denotes: entry `(i, j)` is the sum of the stored
    values at row `i` in the slots of column `j` (`Sp.entry`; duplicates are summed) -/
def spMat (s : Sp ℝ) (n : ℕ) : Matrix (Fin n) (Fin n) ℝ :=
  Matrix.of fun i j => Sp.entry s i.1 j.1

theorem spMat_apply (s : Sp ℝ) (n : ℕ) (i j : Fin n) : spMat s n i j = Sp.entry s i.1 j.1 := rfl

theorem sqLin_eq_mulVec {s : Sp ℝ} {n : ℕ} (hc : s.cols = n) (v : Fin n → ℝ) :
    sqLin s n v = spMat s n *ᵥ v := by
  funext i
  show Sp.mulF s (fun j => if hj : j < n then v ⟨j, hj⟩ else 0) i.1 = _
  rw [Sp.mulF_eq_entry, hc, Finset.sum_range]
  simp [Matrix.mulVec, dotProduct, spMat]

theorem sqLin_eq_mulVecLin {s : Sp ℝ} {n : ℕ} (hc : s.cols = n) :
    sqLin s n = Matrix.mulVecLin (spMat s n) :=
  LinearMap.ext fun v => by rw [sqLin_eq_mulVec hc]; rfl

theorem toFn_trueResid {s : Sp ℝ} {n : ℕ} (h : SqWF s n) (b x : Array ℝ) :
    toFn n (trueResid s n b x) = toFn n b - spMat s n *ᵥ toFn n x := by
  rw [← fn_resid_eq h b x, toFn_ofFn, sqLin_eq_mulVec h.cols]

theorem trueResid_size (s : Sp ℝ) (n : ℕ) (b x : Array ℝ) : (trueResid s n b x).size = n := by
  simp [trueResid]

/-- the CODE's sparse product denotes the dense product with the denoted matrix: on a well-formed
    square storage `Sp.multiply s v` returns an array of size `n` whose function is `A *ᵥ v` -/
theorem multiply_toFn {s : Sp ℝ} {n : ℕ} (h : SqWF s n) (v : Array ℝ) (hv : v.size = n) :
    ∃ r, Sp.multiply s v = .ok r ∧ r.size = n ∧ toFn n r = spMat s n *ᵥ toFn n v := by
  obtain ⟨wf, hr, hc⟩ := h
  refine ⟨_, multiply_eq wf v (hv.trans hc.symm), by simp [hr], ?_⟩
  subst hr
  rw [toFn_ofFn, ← sqLin_eq_mulVec hc]
  funext i
  exact (sqLin_toFn ⟨wf, rfl, hc⟩ v i).symm

/-- an array of size `n` denotes the zero function exactly when it is the array of `n` zeros -/
theorem toFn_eq_zero_iff {n : ℕ} (a : Array ℝ) (ha : a.size = n) :
    toFn n a = 0 ↔ a = Array.replicate n 0 := by
  constructor
  · intro h0
    rw [← ofFn_toFn a ha, h0]
    apply Array.ext_getElem?
    intro i
    rw [Array.getElem?_ofFn, Array.getElem?_replicate]
    split <;> simp
  · intro h0
    subst h0
    funext i
    simp [toFn, i.2]

end Denote

section Norm

/-- **the model's `norm_2` on arrays IS the Euclidean norm** of the denoted function (real
    interpretation: `sqrt = Real.sqrt`, `powf (fabs x) 2 = |x| ^ 2 = x²`, left fold = finite sum) -/
theorem norm2_eq_enorm2 {n : ℕ} (a : Array ℝ) (ha : a.size = n) :
    Vec.norm2 a = enorm2 (toFn n a) := by
  rw [Ohsl.Props.C15.norm2_eq, ha, Finset.sum_range]
  unfold enorm2 dotProduct toFn
  congr 1
  refine Finset.sum_congr rfl fun i _ => ?_
  simp [pow_two]

open scoped Matrix.Norms.L2Operator in
/-- … hence Mathlib's norm of the denoted point of Euclidean space -/
theorem norm2_eq_norm {n : ℕ} (a : Array ℝ) (ha : a.size = n) :
    Vec.norm2 a = ‖(WithLp.toLp 2 (toFn n a) : EuclideanSpace ℝ (Fin n))‖ := by
  rw [norm2_eq_enorm2 a ha, enorm2_eq_norm]

/-- the guarded divisor is `‖b‖₂` for a nonzero right-hand side … -/
theorem guardNorm_norm2_of_ne {n : ℕ} (b : Array ℝ) (hb : b.size = n) (hne : toFn n b ≠ 0) :
    guardNorm (Vec.norm2 b) = Vec.norm2 b := by
  rw [norm2_eq_enorm2 b hb]
  exact guardNorm_enorm2_of_ne hne

/-- … and `1` for the zero right-hand side -/
theorem guardNorm_norm2_zero {n : ℕ} (b : Array ℝ) (hb : b.size = n) (h0 : toFn n b = 0) :
    guardNorm (Vec.norm2 b) = 1 := by
  rw [norm2_eq_enorm2 b hb, h0]
  exact guardNorm_enorm2_zero

end Norm

section Accuracy
variable {s : Sp ℝ} {n : ℕ}

theorem solveIter_success_test (h : SqWF s n) (m : Sp.Method) (b x0 : Array ℝ) (maxIter : ℕ)
    (tol : ℝ) (out : KOut ℝ (Array ℝ))
    (hrun : Sp.solveIter s m b x0 maxIter tol Vec.norm2 = .ok out) (hok : out.ok = true) :
    b.size = n ∧ x0.size = n ∧ out.x.size = n ∧
    Transc.le (enorm2 (toFn n b - spMat s n *ᵥ toFn n out.x) / guardNorm (enorm2 (toFn n b))) tol
      = true := by
  obtain ⟨hb, hx, _, rfl⟩ := solveIter_ok_inv h Vec.norm2 m b x0 maxIter tol out hrun
  obtain ⟨hsz, ht⟩ := run_success_sound_sparse h Vec.norm2 m b x0 hb hx maxIter tol hok
  rw [norm2_eq_enorm2 _ (trueResid_size s n b _), norm2_eq_enorm2 b hb, toFn_trueResid h] at ht
  exact ⟨hb, hx, hsz, ht⟩

theorem solveIter_success_forward_error_of_bounds (h : SqWF s n) (hA : IsUnit (spMat s n).det)
    (cinv cM : ℝ) (hc : 0 ≤ cinv)
    (hcinv : ∀ v, enorm2 ((spMat s n)⁻¹ *ᵥ v) ≤ cinv * enorm2 v)
    (hcM : ∀ v, enorm2 (spMat s n *ᵥ v) ≤ cM * enorm2 v)
    (m : Sp.Method) (b x0 : Array ℝ) (maxIter : ℕ) (tol : ℝ) (out : KOut ℝ (Array ℝ))
    (hrun : Sp.solveIter s m b x0 maxIter tol Vec.norm2 = .ok out) (hok : out.ok = true) :
    out.x.size = n ∧
    (toFn n b ≠ 0 →
      enorm2 (toFn n out.x - (spMat s n)⁻¹ *ᵥ toFn n b) ≤ cinv * tol * enorm2 (toFn n b) ∧
      enorm2 (toFn n out.x - (spMat s n)⁻¹ *ᵥ toFn n b) ≤
        (cinv * cM) * tol * enorm2 ((spMat s n)⁻¹ *ᵥ toFn n b)) ∧
    (toFn n b = 0 → enorm2 (toFn n out.x) ≤ cinv * tol) := by
  obtain ⟨hb, hx, hsz, ht⟩ := solveIter_success_test h m b x0 maxIter tol out hrun hok
  refine ⟨hsz, fun hne => ?_, fun h0 => ?_⟩
  · exact forward_error_of_test (spMat s n) hA cinv cM hcinv hcM hne ht
  · rw [h0] at ht
    exact forward_error_of_test_zero (spMat s n) hA cinv hc hcinv ht

open scoped Matrix.Norms.L2Operator in
/-- **C09 accuracy clause for what the driver runs.**  `s` a well-formed square storage of order
    `n` whose denoted matrix `A = spMat s n` is invertible; any of the four methods, any guess,
    budget and tolerance: if `Sp.solveIter s m b x0 maxIter tol Vec.norm2 = .ok out` and
    `out.ok = true` then the returned array (of size `n`) agrees with the direct dense solution
    `A⁻¹ b` to within the tolerance times the spectral condition number `κ₂ = ‖A⁻¹‖₂·‖A‖₂`:
      `‖x − A⁻¹ b‖₂ ≤ ‖A⁻¹‖₂·tol·‖b‖₂ ≤ κ₂·tol·‖A⁻¹ b‖₂`  (`b ≠ 0`),  `‖x‖₂ ≤ ‖A⁻¹‖₂·tol` (`b = 0`). -/
theorem solveIter_success_forward_error (h : SqWF s n) (hA : IsUnit (spMat s n).det)
    (m : Sp.Method) (b x0 : Array ℝ) (maxIter : ℕ) (tol : ℝ) (out : KOut ℝ (Array ℝ))
    (hrun : Sp.solveIter s m b x0 maxIter tol Vec.norm2 = .ok out) (hok : out.ok = true) :
    out.x.size = n ∧
    (toFn n b ≠ 0 →
      enorm2 (toFn n out.x - (spMat s n)⁻¹ *ᵥ toFn n b) ≤
        ‖(spMat s n)⁻¹‖ * tol * enorm2 (toFn n b) ∧
      enorm2 (toFn n out.x - (spMat s n)⁻¹ *ᵥ toFn n b) ≤
        (‖(spMat s n)⁻¹‖ * ‖spMat s n‖) * tol * enorm2 ((spMat s n)⁻¹ *ᵥ toFn n b)) ∧
    (toFn n b = 0 → enorm2 (toFn n out.x) ≤ ‖(spMat s n)⁻¹‖ * tol) :=
  solveIter_success_forward_error_of_bounds h hA ‖(spMat s n)⁻¹‖ ‖spMat s n‖ (norm_nonneg _)
    (opNorm_bound _) (opNorm_bound _) m b x0 maxIter tol out hrun hok

/-- the certified residual bound read with the model's own `Vec.norm2` on arrays: for `b ≠ 0` a
    reported success gives `norm_2 (b − s·x) ≤ tol · norm_2 b` (`b − s·x` the true-residual array of
    C08C, which by `C08.code_resid_eq` is what the code's own `sub` / `multiply` compute), and then
    necessarily `0 ≤ tol` -/
theorem solveIter_success_residual (h : SqWF s n) (m : Sp.Method) (b x0 : Array ℝ) (maxIter : ℕ)
    (tol : ℝ) (out : KOut ℝ (Array ℝ))
    (hrun : Sp.solveIter s m b x0 maxIter tol Vec.norm2 = .ok out) (hok : out.ok = true)
    (hne : toFn n b ≠ 0) :
    Vec.norm2 (trueResid s n b out.x) ≤ tol * Vec.norm2 b ∧ 0 ≤ tol := by
  obtain ⟨hb, hx, hsz, ht⟩ := solveIter_success_test h m b x0 maxIter tol out hrun hok
  rw [norm2_eq_enorm2 _ (trueResid_size s n b out.x), norm2_eq_enorm2 b hb, toFn_trueResid h]
  exact residual_of_test (spMat s n) hne ht

end Accuracy

section SPD
variable {s : Sp ℝ} {n : ℕ}

/-- C08C's function-level image of the array operations, with the model's `Vec.norm2`, IS the
    record of C09G for the denoted matrix: `multiply` ↦ `A *ᵥ ·`, `transpose_multiply` ↦ `Aᵀ *ᵥ ·`,
    the fold of the products ↦ `⬝ᵥ`, `norm_2` ↦ `√(v ⬝ᵥ v)` -/
theorem fnOps_eq_spdOps (h : SqWF s n) : fnOps s n Vec.norm2 = spdOps (spMat s n) := by
  have hA : sqLin s n = Matrix.mulVecLin (spMat s n) := sqLin_eq_mulVecLin h.cols
  have hAt : (fun f : Fin n → ℝ =>
      toFn n ((C08.arrOps s n Vec.norm2).At (Array.ofFn f))) = ⇑(Matrix.mulVecLin (spMat s n)ᵀ) := by
    funext f
    rw [arrAt_eq h Vec.norm2 _ (by simp), toFn_ofFn]
    funext j
    rw [Sp.tmulF_eq_entry h.wf _ (by rw [h.cols]; exact j.2), h.rows, Finset.sum_range]
    simp only [Matrix.mulVecLin_apply, Matrix.mulVec, dotProduct, Matrix.transpose_apply, spMat_apply]
    refine Finset.sum_congr rfl fun i _ => ?_
    simp
  have hdot : (fun f g : Fin n → ℝ =>
      (C08.arrOps s n Vec.norm2).dot (Array.ofFn f) (Array.ofFn g)) = fun u v => u ⬝ᵥ v := by
    funext f g
    show (Array.zipWith (· * ·) (Array.ofFn f) (Array.ofFn g)).foldl (· + ·) 0 = _
    rw [foldl_zipWith_eq_sum _ _ n (by simp) (by simp), Finset.sum_range]
    simp [dotProduct]
  have hnorm : (fun f : Fin n → ℝ => Vec.norm2 (Array.ofFn f)) =
      fun v => Real.sqrt (v ⬝ᵥ v) := by
    funext f
    rw [norm2_eq_enorm2 (n := n) _ (by simp), toFn_ofFn]
    rfl
  unfold fnOps spdOps
  rw [hA, hAt, hdot, hnorm]

/-- the dense function-level run of C09A / C09G that corresponds to a method of the sparse matrix:
    the solver model over `Fin n → ℝ` with `A v = M *ᵥ v`, `At v = Mᵀ *ᵥ v`, `dot = ⬝ᵥ`,
    `norm2 v = √(v ⬝ᵥ v)` (`spdOps M = euclidOps M (Mᵀ *ᵥ ·) (⬝ᵥ)`, `C09.spdOps_eq_euclidOps`) -/
noncomputable def denseRun (M : Matrix (Fin n) (Fin n) ℝ) (m : Sp.Method) (b x0 : Fin n → ℝ)
    (maxIter : ℕ) (tol : ℝ) : KOut ℝ (Fin n → ℝ) :=
  match m with
  | .cg => solveCG (spdOps M) b x0 maxIter tol
  | .bicg itol => solveBiCG (spdOps M) b x0 maxIter tol itol
  | .bicgstab => solveBiCGSTAB (spdOps M) b x0 maxIter tol
  | .qmr => solveQMR (spdOps M) b x0 maxIter tol

theorem denseRun_eq (M : Matrix (Fin n) (Fin n) ℝ) (m : Sp.Method) (b x0 : Fin n → ℝ) (maxIter : ℕ)
    (tol : ℝ) : denseRun M m b x0 maxIter tol = runOn (spdOps M) m b x0 maxIter tol := by
  cases m <;> rfl

theorem run_transfer_dense (h : SqWF s n) (m : Sp.Method) (b x0 : Array ℝ) (hb : b.size = n)
    (hx : x0.size = n) (maxIter : ℕ) (tol : ℝ) :
    (runOn (C08.arrOps s n Vec.norm2) m b x0 maxIter tol).x.size = n ∧
    denseRun (spMat s n) m (toFn n b) (toFn n x0) maxIter tol
      = mapOut (toFn n) (runOn (C08.arrOps s n Vec.norm2) m b x0 maxIter tol) := by
  obtain ⟨hsz, T⟩ := run_transfer h Vec.norm2 m b x0 hb hx maxIter tol
  rw [spOps_eq_fnOps h, fnOps_eq_spdOps h] at T
  exact ⟨hsz, (denseRun_eq _ m _ _ maxIter tol).trans T⟩

/-- **Simulation, all four methods.**  Whatever `Sp.solveIter` returns on a well-formed square
    storage is the array image of the dense function-level run on the denoted matrix and vectors:
    same flag, iteration count and reported error, and the returned array (of size `n`) denotes the
    returned function.  So every theorem of C09A / C09G about `solveCG (spdOps M) …`,
    `solveBiCG (euclidOps M …) …`, … transfers to the arrays the driver computes. -/
theorem solveIter_sim_dense (h : SqWF s n) (m : Sp.Method) (b x0 : Array ℝ) (maxIter : ℕ) (tol : ℝ)
    (out : KOut ℝ (Array ℝ)) (hrun : Sp.solveIter s m b x0 maxIter tol Vec.norm2 = .ok out) :
    out.x.size = n ∧
    (denseRun (spMat s n) m (toFn n b) (toFn n x0) maxIter tol).ok = out.ok ∧
    (denseRun (spMat s n) m (toFn n b) (toFn n x0) maxIter tol).iters = out.iters ∧
    (denseRun (spMat s n) m (toFn n b) (toFn n x0) maxIter tol).err = out.err ∧
    (denseRun (spMat s n) m (toFn n b) (toFn n x0) maxIter tol).x = toFn n out.x := by
  obtain ⟨hb, hx, _, rfl⟩ := solveIter_ok_inv h Vec.norm2 m b x0 maxIter tol out hrun
  obtain ⟨hsz, T⟩ := run_transfer_dense h m b x0 hb hx maxIter tol
  exact ⟨hsz, congrArg KOut.ok T, congrArg KOut.iters T, congrArg KOut.err T, congrArg KOut.x T⟩

theorem solveIter_runs_dense (h : SqWF s n) (m : Sp.Method)
    (hm : ∀ itol, m = .bicg itol → itol = 1 ∨ itol = 2) (b x0 : Array ℝ)
    (hb : b.size = n) (hx : x0.size = n) (maxIter : ℕ) (tol : ℝ) :
    ∃ out, Sp.solveIter s m b x0 maxIter tol Vec.norm2 = .ok out ∧ out.x.size = n ∧
      (denseRun (spMat s n) m (toFn n b) (toFn n x0) maxIter tol).ok = out.ok ∧
      (denseRun (spMat s n) m (toFn n b) (toFn n x0) maxIter tol).iters = out.iters ∧
      (denseRun (spMat s n) m (toFn n b) (toFn n x0) maxIter tol).err = out.err ∧
      (denseRun (spMat s n) m (toFn n b) (toFn n x0) maxIter tol).x = toFn n out.x := by
  have hrun := solveIter_runs_of h Vec.norm2 m hm b x0 hb hx maxIter tol
  exact ⟨_, hrun, solveIter_sim_dense h m b x0 maxIter tol _ hrun⟩

open scoped Matrix.Norms.L2Operator in
/-- **C09 for `solve_cg` on arrays, exact arithmetic.**  `s` a well-formed square storage of order
    `n` whose denoted matrix `A` is symmetric positive definite, `b`, `x0` arrays of size `n`,
    `tol ≥ 0`, budget `≥ n`: the call returns a value, it reports success after at most `n`
    iterations, and the returned array agrees with the direct solution `A⁻¹ b` to within the
    tolerance times the spectral condition number. -/
theorem solveIter_cg_spd (h : SqWF s n) (hM : (spMat s n).PosDef) (b x0 : Array ℝ)
    (hb : b.size = n) (hx : x0.size = n) (maxIter : ℕ) (hmax : n ≤ maxIter) (tol : ℝ)
    (htol : 0 ≤ tol) :
    ∃ out, Sp.solveIter s .cg b x0 maxIter tol Vec.norm2 = .ok out ∧
      out.ok = true ∧ out.iters ≤ n ∧ out.x.size = n ∧
      (toFn n b ≠ 0 →
        enorm2 (toFn n out.x - (spMat s n)⁻¹ *ᵥ toFn n b) ≤
          ‖(spMat s n)⁻¹‖ * tol * enorm2 (toFn n b) ∧
        enorm2 (toFn n out.x - (spMat s n)⁻¹ *ᵥ toFn n b) ≤
          (‖(spMat s n)⁻¹‖ * ‖spMat s n‖) * tol * enorm2 ((spMat s n)⁻¹ *ᵥ toFn n b)) ∧
      (toFn n b = 0 → enorm2 (toFn n out.x) ≤ ‖(spMat s n)⁻¹‖ * tol) := by
  have hrun := solveIter_runs_of h Vec.norm2 .cg (fun _ e => nomatch e) b x0 hb hx maxIter tol
  obtain ⟨_, T⟩ := run_transfer_dense h .cg b x0 hb hx maxIter tol
  obtain ⟨hok, hit⟩ := cg_finite_termination (spMat s n) (toFn n b) (toFn n x0) tol hM maxIter
    hmax htol
  have hok' : (runOn (C08.arrOps s n Vec.norm2) .cg b x0 maxIter tol).ok = true :=
    (congrArg KOut.ok T).symm.trans hok
  have hit' : (runOn (C08.arrOps s n Vec.norm2) .cg b x0 maxIter tol).iters ≤ n :=
    (congrArg KOut.iters T).symm.trans_le hit
  obtain ⟨hsz, hne, h0⟩ := solveIter_success_forward_error h (isUnit_det_of_posDef _ hM) .cg b x0
    maxIter tol _ hrun hok'
  exact ⟨_, hrun, hok', hit', hsz, hne, h0⟩

end SPD

section Example

/-- the symmetric positive definite matrix `[[2,1],[1,2]]` in CSC form (C08C's `spd2`, C08G's
    `spd2F`), real scalars -/
def spd2R : Sp ℝ := ⟨2, 2, 4, #[2, 1, 1, 2], #[0, 1, 0, 1], #[0, 2, 4]⟩

theorem spd2R_sqwf : SqWF spd2R 2 := (full2_sqwf _ rfl).1

theorem spd2R_mat : spMat spd2R 2 = !![2, 1; 1, 2] := by
  obtain ⟨e00, e10, e01, e11⟩ := full2_entry (#[2, 1, 1, 2] : Array ℝ)
  ext i j
  fin_cases i <;> fin_cases j
  · exact e00.trans (by simp)
  · exact e01.trans (by simp)
  · exact e10.trans (by simp)
  · exact e11.trans (by simp)

theorem spd2R_posDef : (spMat spd2R 2).PosDef := by
  rw [spd2R_mat]
  exact posDef_example

theorem spd2R_isUnit_det : IsUnit (spMat spd2R 2).det := isUnit_det_of_posDef _ spd2R_posDef

open scoped Matrix.Norms.L2Operator in
/-- every hypothesis of `solveIter_cg_spd` — and through it every hypothesis of
    `solveIter_success_forward_error` (a run that returns a value reporting success, on an
    invertible well-formed storage, with a nonzero right-hand side) — holds of `solve_cg` on
    `[[2,1],[1,2]] x = [3,3]` from the zero guess with `tol = 1/2` and a budget of 5 -/
example : ∃ out, Sp.solveIter spd2R .cg #[3, 3] #[0, 0] 5 (1/2) Vec.norm2 = .ok out ∧
    out.ok = true ∧ out.iters ≤ 2 ∧ toFn 2 (#[3, 3] : Array ℝ) ≠ 0 ∧
    enorm2 (toFn 2 out.x - (spMat spd2R 2)⁻¹ *ᵥ toFn 2 #[3, 3]) ≤
      (‖(spMat spd2R 2)⁻¹‖ * ‖spMat spd2R 2‖) * (1/2) *
        enorm2 ((spMat spd2R 2)⁻¹ *ᵥ toFn 2 #[3, 3]) := by
  obtain ⟨out, hrun, hok, hit, _, hne, _⟩ := solveIter_cg_spd spd2R_sqwf spd2R_posDef #[3, 3] #[0, 0]
    rfl rfl 5 (by norm_num) (1/2) (by norm_num)
  have hb : toFn 2 (#[3, 3] : Array ℝ) ≠ 0 := by
    intro h0
    have := congrFun h0 0
    simp [toFn] at this
  exact ⟨out, hrun, hok, hit, hb, (hne hb).2⟩

/-! all four methods on `[[2,1],[1,2]] x = [1,0]` from the zero guess, `tol = 1/2`, budget 2: the
    initial test fails and success is reported in iteration 1 of the loop -/

theorem toFn_e1 : toFn 2 (#[1, 0] : Array ℝ) = ![1, 0] := by
  funext i; fin_cases i <;> simp [toFn]

theorem toFn_z2 : toFn 2 (#[0, 0] : Array ℝ) = ![0, 0] := by
  funext i; fin_cases i <;> simp [toFn]

/-- the operations of the dense runs (`spdOps !![2, 1; 1, 2]`, as an instance of `euclidOps`) -/
noncomputable abbrev ops2 : VOps ℝ (Fin 2 → ℝ) :=
  euclidOps !![2, 1; 1, 2] (Matrix.mulVecLin !![2, 1; 1, 2]ᵀ) (fun u v => u ⬝ᵥ v)

theorem spd2_dense_runs :
    ((solveCG (spdOps !![2, 1; 1, 2]) ![1, 0] ![0, 0] 2 (1/2)).ok = true ∧
      (solveCG (spdOps !![2, 1; 1, 2]) ![1, 0] ![0, 0] 2 (1/2)).iters = 1) ∧
    ((solveBiCG (spdOps !![2, 1; 1, 2]) ![1, 0] ![0, 0] 2 (1/2) 1).ok = true ∧
      (solveBiCG (spdOps !![2, 1; 1, 2]) ![1, 0] ![0, 0] 2 (1/2) 1).iters = 1) ∧
    ((solveBiCG (spdOps !![2, 1; 1, 2]) ![1, 0] ![0, 0] 2 (1/2) 2).ok = true ∧
      (solveBiCG (spdOps !![2, 1; 1, 2]) ![1, 0] ![0, 0] 2 (1/2) 2).iters = 1) ∧
    ((solveBiCGSTAB (spdOps !![2, 1; 1, 2]) ![1, 0] ![0, 0] 2 (1/2)).ok = true ∧
      (solveBiCGSTAB (spdOps !![2, 1; 1, 2]) ![1, 0] ![0, 0] 2 (1/2)).iters = 1) ∧
    ((solveQMR (spdOps !![2, 1; 1, 2]) ![1, 0] ![0, 0] 2 (1/2)).ok = true ∧
      (solveQMR (spdOps !![2, 1; 1, 2]) ![1, 0] ![0, 0] 2 (1/2)).iters = 1) := by
  have h4 : Real.sqrt 4 = 2 := by
    rw [show (4 : ℝ) = 2 * 2 by norm_num]; exact Real.sqrt_mul_self (by norm_num)
  have h5 : (2 : ℝ) / √5 * (2 / √5) = 4 / 5 := by
    rw [div_mul_div_comm, Real.mul_self_sqrt (by norm_num)]; norm_num
  have h6 : (√5 : ℝ)⁻¹ ≤ 1 / 2 := by
    have : (2 : ℝ) ≤ √5 := by
      rw [← h4]; exact Real.sqrt_le_sqrt (by norm_num)
    rw [one_div]
    exact inv_anti₀ (by norm_num) this
  rw [show spdOps !![2, 1; 1, 2] = ops2 from rfl]
  have hbi : ∀ itol, (solveBiCG ops2 ![1, 0] ![0, 0] 2 (1/2) itol).ok = true ∧
      (solveBiCG ops2 ![1, 0] ![0, 0] 2 (1/2) itol).iters = 1 := fun itol => by
    norm_num [Transc.le, solveBiCG, iterate, bicgStep, bicgErr_self, bicgDir, guardNorm,
      euclidOps_A_two, euclidOps_At_two, euclidOps_dot_two, euclidOps_norm2_two, euclidOps_add_two,
      euclidOps_sub_two, euclidOps_smul_two, h4]
  refine ⟨?_, hbi 1, hbi 2, ?_, ?_⟩
  · norm_num [Transc.le, solveCG, iterate, cgStep, cgDir, guardNorm, euclidOps_A_two,
      euclidOps_dot_two, euclidOps_norm2_two, euclidOps_add_two, euclidOps_sub_two,
      euclidOps_smul_two, h4]
  · norm_num [Transc.le, solveBiCGSTAB, iterate, stabStep, stabDir, guardNorm, euclidOps_A_two,
      euclidOps_dot_two, euclidOps_norm2_two, euclidOps_add_two, euclidOps_sub_two,
      euclidOps_smul_two, euclidOps_lsmul_two, h4]
  · norm_num [Transc.le, Transc.sqrt, solveQMR, iterate, qmrStep, qmrDir, qmrUpd, guardNorm,
      euclidOps_A_two, euclidOps_At_two, euclidOps_dot_two, euclidOps_norm2_two, euclidOps_add_two,
      euclidOps_sub_two, euclidOps_lsmul_two, euclidOps_sdiv_two, h4, h5, h6]

/-- … and therefore the ARRAY-level calls of all four methods on the storage `spd2R`: each returns a
    value that reports success in iteration 1 -/
theorem spd2R_runs (m : Sp.Method)
    (hm : m = .cg ∨ m = .bicg 1 ∨ m = .bicg 2 ∨ m = .bicgstab ∨ m = .qmr) :
    ∃ out, Sp.solveIter spd2R m #[1, 0] #[0, 0] 2 (1/2) Vec.norm2 = .ok out ∧
      out.ok = true ∧ out.iters = 1 := by
  have hit : ∀ itol, m = .bicg itol → itol = 1 ∨ itol = 2 := by
    intro itol e
    subst e
    rcases hm with e | e | e | e | e <;> cases e <;> simp
  obtain ⟨out, hrun, _, e1, e2, _⟩ := solveIter_runs_dense spd2R_sqwf m hit #[1, 0] #[0, 0] rfl rfl
    2 (1/2)
  rw [spd2R_mat, toFn_e1, toFn_z2] at e1 e2
  refine ⟨out, hrun, ?_⟩
  rw [← e1, ← e2]
  rcases hm with e | e | e | e | e <;> subst e
  · exact spd2_dense_runs.1
  · exact spd2_dense_runs.2.1
  · exact spd2_dense_runs.2.2.1
  · exact spd2_dense_runs.2.2.2.1
  · exact spd2_dense_runs.2.2.2.2

open scoped Matrix.Norms.L2Operator in
/-- every hypothesis of `solveIter_success_forward_error` holds for each of the four methods on
    this system (well-formed invertible storage, a call that returns a value reporting success
    through the loop, nonzero right-hand side), so its conclusion holds of the returned arrays -/
example (m : Sp.Method) (hm : m = .cg ∨ m = .bicg 1 ∨ m = .bicg 2 ∨ m = .bicgstab ∨ m = .qmr) :
    ∃ out, Sp.solveIter spd2R m #[1, 0] #[0, 0] 2 (1/2) Vec.norm2 = .ok out ∧ out.iters = 1 ∧
      enorm2 (toFn 2 out.x - (spMat spd2R 2)⁻¹ *ᵥ toFn 2 #[1, 0]) ≤
        (‖(spMat spd2R 2)⁻¹‖ * ‖spMat spd2R 2‖) * (1/2) *
          enorm2 ((spMat spd2R 2)⁻¹ *ᵥ toFn 2 #[1, 0]) := by
  obtain ⟨out, hrun, hok, hit⟩ := spd2R_runs m hm
  have hb : toFn 2 (#[1, 0] : Array ℝ) ≠ 0 := by
    rw [toFn_e1]; exact e1_ne_zero
  exact ⟨out, hrun, hit,
    ((solveIter_success_forward_error spd2R_sqwf spd2R_isUnit_det m _ _ _ _ out hrun hok).2.1 hb).2⟩

end Example
end Ohsl.Props.C09
