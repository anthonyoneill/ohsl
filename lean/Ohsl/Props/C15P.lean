/-
  Property C15, power-spaced sequences and the p-norm of the vector model (Ohsl/Model/Vec.lean,
  `Vec.powspace`, `Vec.normP`), class (R): interpreted over ℝ with the instances of
  Ohsl/Lemmas/RealTransc.lean (`powf := Real.rpow`, `fabs := |·|`, `ofNat := Nat.cast`, `divM` is
  the exact division that rejects an exact zero divisor).
  NOT proved here: anything about rounding in f64 (class F; see C15F / C15M).  Places where the real
  interpretation deliberately differs from IEEE arithmetic: `powspace_one_rejects` (f64:
  `0.0 / 0.0 = NaN`, no panic), `normP_zero_rejects` (f64: `1.0 / 0.0 = inf`, no panic), both
  spelled out as theorems, and — for NEGATIVE exponents p — Mathlib's `0 ^ p = 0` where f64 has
  `powf(0, p) = inf` (node 0 of `powspace`, zero entries in `normP`): `powspace_spec_real`,
  `normP_nonneg`, `normP_smul` rest on that convention for p < 0 and say nothing about f64 there
  (the property quantifies over p ∈ [1, 8]).
  A successful `norm_p` is `lp` of the entries (C15N), so Minkowski, monotonicity in `p` and
  `‖·‖_∞ ≤ ‖·‖_p` are the same statements as for `norm_2`.
-/
import Ohsl.Props.C15N
import Ohsl.Lemmas.ExceptMapM
import Mathlib.Analysis.SpecialFunctions.Pow.Real
import Mathlib.Analysis.SpecialFunctions.Sqrt
import Mathlib.Tactic.Ring
import Mathlib.Tactic.Positivity
import Mathlib.Tactic.NormNum
namespace Ohsl.Props.C15
open Ohsl Ohsl.Vec Ohsl.RealI

/-- size `0` (any scalar type): the closure is never called, the result is the empty vector -/
theorem powspace_size_zero {K : Type} [Add K] [Sub K] [Mul K] [Neg K] [Zero K] [One K] [BEq K]
    [ScalarExt K] [Transc K] (a b p : K) : Vec.powspace a b 0 p = .ok #[] := by
  unfold Vec.powspace
  rw [Array.ofFn_zero, Array.mapM_empty]
  rfl

section Powspace

theorem powspace_ok (a b p : ℝ) (n : Nat) (hn : 2 ≤ n) :
    Vec.powspace a b n p =
      .ok (Array.ofFn (n := n) fun i => a + (b - a) * ((i.val : ℝ) / ((n : ℝ) - 1)) ^ p) := by
  unfold Vec.powspace
  rw [mapM_ok_arr _ _ (fun i : Nat => a + (b - a) * ((i : ℝ) / ((n : ℝ) - 1)) ^ p)]
  · exact congrArg _ Array.map_ofFn
  · intro i _
    show (do
      let t ← divM ((i : ℕ) : ℝ) ((n : ℝ) - 1)
      pure (a + (b - a) * Transc.powf t p)) = _
    rw [Alg.divM_ne (pred_cast_pos hn).ne']
    rfl

/-- **`powspace(a, b, n, p)`** for `n ≥ 2`: size `n`, node `i` is `a + (b-a) * (i/(n-1)) ^ p`
    (`Real.rpow`), the last node is exactly `b` (for every `p`), and for `p > 0` the first node is
    exactly `a` and the sequence is strictly increasing if `a < b`, strictly decreasing if
    `b < a`. -/
theorem powspace_spec_real (a b p : ℝ) (n : Nat) (hn : 2 ≤ n) :
    ∃ v, Vec.powspace a b n p = .ok v ∧ v.size = n ∧
      (∀ i, i < n → v.getD i 0 = a + (b - a) * ((i : ℝ) / ((n : ℝ) - 1)) ^ p) ∧
      (0 < p → v.getD 0 0 = a) ∧ v.getD (n - 1) 0 = b ∧
      (0 < p → a < b → ∀ i j, i < j → j < n → v.getD i 0 < v.getD j 0) ∧
      (0 < p → b < a → ∀ i j, i < j → j < n → v.getD j 0 < v.getD i 0) := by
  have hpos := pred_cast_pos hn
  have hel : ∀ i, i < n →
      (Array.ofFn (n := n) fun i => a + (b - a) * ((i.val : ℝ) / ((n : ℝ) - 1)) ^ p).getD i 0
        = a + (b - a) * ((i : ℝ) / ((n : ℝ) - 1)) ^ p :=
    fun i hi => getD_ofFn _ _ hi
  have hmono : 0 < p → ∀ i j : Nat, i < j →
      ((i : ℝ) / ((n : ℝ) - 1)) ^ p < ((j : ℝ) / ((n : ℝ) - 1)) ^ p := fun hp i j hij =>
    Real.rpow_lt_rpow (div_nonneg (Nat.cast_nonneg i) hpos.le)
      ((div_lt_div_iff_of_pos_right hpos).mpr (Nat.cast_lt.mpr hij)) hp
  refine ⟨_, powspace_ok a b p n hn, Array.size_ofFn, hel, ?_, ?_, ?_, ?_⟩
  · intro hp
    rw [hel 0 (by omega), Nat.cast_zero, zero_div, Real.zero_rpow hp.ne', mul_zero, add_zero]
  · rw [hel (n - 1) (by omega), Nat.cast_pred (by omega), div_self hpos.ne', Real.one_rpow,
      mul_one, add_sub_cancel]
  · intro hp hab i j hij hj
    rw [hel i (by omega), hel j hj]
    exact (add_lt_add_iff_left a).mpr (mul_lt_mul_of_pos_left (hmono hp i j hij) (sub_pos.mpr hab))
  · intro hp hab i j hij hj
    rw [hel i (by omega), hel j hj]
    exact (add_lt_add_iff_left a).mpr (mul_lt_mul_of_neg_left (hmono hp i j hij) (sub_neg.mpr hab))

/-- for `p > 0` every node lies between the end points -/
theorem powspace_mem_Icc (a b p : ℝ) (n : Nat) (hn : 2 ≤ n) (hp : 0 < p) (hab : a ≤ b)
    {v : Array ℝ} (hv : Vec.powspace a b n p = .ok v) (i : Nat) (hi : i < n) :
    a ≤ v.getD i 0 ∧ v.getD i 0 ≤ b := by
  obtain ⟨v', hv', _, hel, _⟩ := powspace_spec_real a b p n hn
  rw [hv'] at hv
  cases hv
  obtain ⟨ht0, ht1⟩ := abscissa_mem_unit hn hi
  rw [hel i hi]
  constructor
  · exact le_add_of_nonneg_right (mul_nonneg (sub_nonneg.mpr hab) (Real.rpow_nonneg ht0 p))
  · have := mul_le_mul_of_nonneg_left (Real.rpow_le_one ht0 ht1 hp.le) (sub_nonneg.mpr hab)
    rw [mul_one] at this
    exact le_sub_iff_add_le'.mp this

/-- exponent `1`: the nodes are those of `linspace` -/
theorem powspace_one_eq_linspace (a b : ℝ) (n : Nat) (hn : 2 ≤ n) :
    ∃ v w, Vec.powspace a b n 1 = .ok v ∧ Vec.linspace a b n = .ok w ∧ v.size = w.size ∧
      ∀ i, i < n → v.getD i 0 = w.getD i 0 := by
  obtain ⟨v, hv, hvs, hel, _⟩ := powspace_spec_real a b 1 n hn
  obtain ⟨w, hw, hws, hel', _⟩ := linspace_spec_real a b n hn
  refine ⟨v, w, hv, hw, by rw [hvs, hws], fun i hi => ?_⟩
  rw [hel i hi, hel' i hi, Real.rpow_one]
  ring

/-- exponent `0` (`x ^ 0 = 1`, also at `x = 0`): every node is `b` -/
theorem powspace_zero_exponent (a b : ℝ) (n : Nat) (hn : 2 ≤ n) :
    ∃ v, Vec.powspace a b n 0 = .ok v ∧ v.size = n ∧ ∀ i, i < n → v.getD i 0 = b := by
  obtain ⟨v, hv, hvs, hel, _⟩ := powspace_spec_real a b 0 n hn
  refine ⟨v, hv, hvs, fun i hi => ?_⟩
  rw [hel i hi, Real.rpow_zero]
  ring

theorem powspace_zero_size (a b p : ℝ) : Vec.powspace a b 0 p = .ok #[] :=
  powspace_size_zero a b p

/-- size `1`: `size as f64 - 1.0` is an exact zero, the exact division `0 / 0` is rejected
    (in f64 the single node is `NaN`) -/
theorem powspace_one_rejects (a b p : ℝ) : Vec.powspace a b 1 p = .error .arith := by
  unfold Vec.powspace
  have h0 : (Transc.ofNat 1 : ℝ) - 1 = 0 := by
    show ((1 : ℕ) : ℝ) - 1 = 0
    simp
  rw [Array.mapM_eq_mapM_toList]
  simp only [Array.toList_ofFn, List.ofFn_succ, List.ofFn_zero, List.mapM_cons, h0,
    Alg.divM_zero, bind, Except.bind]
  rfl

end Powspace

section NormP

theorem normP_acc_eq (a : Array ℝ) (p : ℝ) :
    a.foldl (fun acc x => acc + Transc.powf (Transc.fabs x) p) 0
      = ∑ i ∈ Finset.range a.size, |a.getD i 0| ^ p := by
  rw [arr_foldl_eq_fold (fun x : ℝ => Transc.powf (Transc.fabs x) p) 0 a 0, foldl_map_range_eq_sum]
  rfl

/-- **`norm_p`** for a non-zero exponent (in particular for `p ≥ 1`):
    `(Σ_i |a_i| ^ p) ^ (1/p)` with `Real.rpow` -/
theorem normP_spec_real (a : Array ℝ) {p : ℝ} (hp : p ≠ 0) :
    Vec.normP a p = .ok ((∑ i ∈ Finset.range a.size, |a.getD i 0| ^ p) ^ (1 / p)) := by
  unfold Vec.normP
  simp only [bind, Except.bind, Alg.divM_ne hp, pure, Except.pure, normP_acc_eq]
  rfl

/-- exponent `0`: the exact division `1 / p` is rejected (in f64: `1/0 = inf`, no panic) -/
theorem normP_zero_rejects (a : Array ℝ) : Vec.normP a 0 = .error .arith := by
  unfold Vec.normP
  simp only [bind, Except.bind, Alg.divM_zero]

theorem normP_ok {a : Array ℝ} {p m : ℝ} (h : Vec.normP a p = .ok m) :
    p ≠ 0 ∧ m = (∑ i ∈ Finset.range a.size, |a.getD i 0| ^ p) ^ (1 / p) := by
  by_cases hp : p = 0
  · subst hp
    rw [normP_zero_rejects] at h
    cases h
  · rw [normP_spec_real a hp] at h
    cases h
    exact ⟨hp, rfl⟩

theorem normP_ok_lp {a : Array ℝ} {p m : ℝ} (h : Vec.normP a p = .ok m) :
    m = lp (Finset.range a.size) (fun i => a.getD i 0) p :=
  (normP_ok h).2

theorem normP_sum_nonneg (a : Array ℝ) (p : ℝ) :
    0 ≤ ∑ i ∈ Finset.range a.size, |a.getD i 0| ^ p :=
  lp_sum_nonneg _ (fun i => a.getD i 0) p

/-- non-negativity (every exponent the model accepts) -/
theorem normP_nonneg {a : Array ℝ} {p m : ℝ} (h : Vec.normP a p = .ok m) : 0 ≤ m := by
  obtain ⟨_, rfl⟩ := normP_ok h
  exact Real.rpow_nonneg (normP_sum_nonneg a p) _

/-- absolute homogeneity (every exponent the model accepts) -/
theorem normP_smul {a : Array ℝ} {p m : ℝ} (h : Vec.normP a p = .ok m) (c : ℝ) :
    Vec.normP (Vec.smul a c) p = .ok (|c| * m) := by
  obtain ⟨hp, rfl⟩ := normP_ok h
  rw [normP_spec_real _ hp, sum_getD_smul (fun x => |x| ^ p)]
  have : ∑ i ∈ Finset.range a.size, |a.getD i 0 * c| ^ p
      = |c| ^ p * ∑ i ∈ Finset.range a.size, |a.getD i 0| ^ p := by
    rw [Finset.mul_sum]
    exact Finset.sum_congr rfl fun i _ => by
      rw [abs_mul, Real.mul_rpow (abs_nonneg _) (abs_nonneg _), mul_comm]
  rw [this, Real.mul_rpow (Real.rpow_nonneg (abs_nonneg c) p) (normP_sum_nonneg a p),
    ← Real.rpow_mul (abs_nonneg c), mul_one_div_cancel hp, Real.rpow_one]

/-- **Minkowski's inequality**: the triangle inequality of `norm_p` for `p ≥ 1` -/
theorem normP_triangle {a b : Array ℝ} {p ma mb mab : ℝ} (hp : 1 ≤ p) (hs : a.size = b.size)
    (ha : Vec.normP a p = .ok ma) (hb : Vec.normP b p = .ok mb)
    (hab : Vec.normP (Array.zipWith (· + ·) a b) p = .ok mab) : mab ≤ ma + mb := by
  rw [normP_ok_lp ha, normP_ok_lp hb, normP_ok_lp hab, lp_zipWith_add hs, ← hs]
  exact lp_add_le _ _ _ hp

/-- the triangle inequality phrased on the checked addition `&a + &b` -/
theorem normP_add_le {a b c : Array ℝ} {p ma mb mc : ℝ} (hp : 1 ≤ p) (h : Vec.add a b = .ok c)
    (ha : Vec.normP a p = .ok ma) (hb : Vec.normP b p = .ok mb) (hc : Vec.normP c p = .ok mc) :
    mc ≤ ma + mb := by
  obtain ⟨hs, rfl⟩ := (add_ok_iff a b c).mp h
  exact normP_triangle hp hs ha hb hc

/-- `‖a‖_∞ ≤ ‖a‖_p` for every `p > 0` (in particular `p ≥ 1`) -/
theorem normInf_le_normP {a : Array ℝ} {p m mp : ℝ} (hp : 0 < p) (hinf : Vec.normInf a = .ok m)
    (hP : Vec.normP a p = .ok mp) : m ≤ mp := by
  obtain ⟨i, hi, rfl⟩ := (normInf_isMaxAbs hinf).2
  exact normP_ok_lp hP ▸ abs_le_lp _ (fun i => a.getD i 0) (Finset.mem_range.mpr hi) hp

/-- the p-norms decrease in `p`: `‖a‖_q ≤ ‖a‖_p` for `0 < p ≤ q` -/
theorem normP_antitone {a : Array ℝ} {p q mp mq : ℝ} (hp : 0 < p) (hpq : p ≤ q)
    (hP : Vec.normP a p = .ok mp) (hQ : Vec.normP a q = .ok mq) : mq ≤ mp := by
  rw [normP_ok_lp hP, normP_ok_lp hQ]
  exact lp_antitone _ _ hp hpq

/-- `norm_p` with exponent `1` is `norm_1` -/
theorem normP_one (a : Array ℝ) : Vec.normP a 1 = .ok (Vec.norm1 a) := by
  rw [norm1_eq_lp]
  exact normP_spec_real a one_ne_zero

/-- `norm_p` with exponent `2` is `norm_2` -/
theorem normP_two (a : Array ℝ) : Vec.normP a 2 = .ok (Vec.norm2 a) := by
  rw [norm2_eq_lp]
  exact normP_spec_real a two_ne_zero

/-- the same with the model's own constant `two = 1 + 1` -/
theorem normP_two' (a : Array ℝ) : Vec.normP a (Vec.two : ℝ) = .ok (Vec.norm2 a) := by
  have : (Vec.two : ℝ) = 2 := by
    show (1 : ℝ) + 1 = 2
    norm_num
  rw [this, normP_two]

/-- `‖a‖_p ≤ ‖a‖_1` for `p ≥ 1` -/
theorem normP_le_norm1 {a : Array ℝ} {p m : ℝ} (hp : 1 ≤ p) (h : Vec.normP a p = .ok m) :
    m ≤ Vec.norm1 a :=
  normP_antitone zero_lt_one hp (normP_one a) h

/-- `‖a‖_p ≤ ‖a‖_2` for `p ≥ 2` and `‖a‖_2 ≤ ‖a‖_p` for `0 < p ≤ 2` -/
theorem normP_vs_norm2 {a : Array ℝ} {p m : ℝ} (h : Vec.normP a p = .ok m) :
    (2 ≤ p → m ≤ Vec.norm2 a) ∧ (0 < p → p ≤ 2 → Vec.norm2 a ≤ m) :=
  ⟨fun hp => normP_antitone two_pos hp (normP_two a) h,
   fun h0 hp => normP_antitone h0 hp h (normP_two a)⟩

/-- definiteness for `p > 0`: `norm_p a = 0` exactly when every element is zero -/
theorem normP_eq_zero_iff {a : Array ℝ} {p : ℝ} (hp : 0 < p) :
    Vec.normP a p = .ok 0 ↔ ∀ i, i < a.size → a.getD i 0 = 0 := by
  rw [normP_spec_real a hp.ne']
  have hne : (1 : ℝ) / p ≠ 0 := by positivity
  constructor
  · intro h i hi
    have h' : (∑ i ∈ Finset.range a.size, |a.getD i 0| ^ p) ^ (1 / p) = 0 := by injection h
    rw [Real.rpow_eq_zero_iff_of_nonneg (normP_sum_nonneg a p)] at h'
    have := (Finset.sum_eq_zero_iff_of_nonneg
      (fun i _ => Real.rpow_nonneg (abs_nonneg (a.getD i 0)) p)).mp h'.1 i (Finset.mem_range.mpr hi)
    rw [Real.rpow_eq_zero_iff_of_nonneg (abs_nonneg _)] at this
    exact abs_eq_zero.mp this.1
  · intro h
    have : ∑ i ∈ Finset.range a.size, |a.getD i 0| ^ p = 0 := by
      refine Finset.sum_eq_zero fun i hi => ?_
      rw [h i (Finset.mem_range.mp hi), abs_zero, Real.zero_rpow hp.ne']
    rw [this, Real.zero_rpow hne]

-- non-vacuity: the hypotheses `normP _ p = .ok _`, `normInf _ = .ok _` are satisfiable
example : ∃ m, Vec.normP (#[3, -4] : Array ℝ) 3 = .ok m := ⟨_, normP_spec_real _ (by norm_num)⟩
example : ∃ m, Vec.normInf (#[3, -4] : Array ℝ) = .ok m := by
  obtain ⟨m, hm, _⟩ := normInf_spec (#[3, -4] : Array ℝ) (by simp)
  exact ⟨m, hm⟩
example : ∃ c, Vec.add (#[3, -4] : Array ℝ) #[1, 2] = .ok c :=
  ⟨#[3 + 1, -4 + 2], by simp [Vec.add]⟩
example : Vec.normP (#[3, -4] : Array ℝ) 2 = .ok 5 := by
  rw [normP_two, norm2_eq]
  refine congrArg _ ?_
  show Real.sqrt (∑ i ∈ Finset.range 2, (#[3, -4] : Array ℝ).getD i 0 ^ 2) = 5
  rw [Finset.sum_range_succ, Finset.sum_range_one]
  show Real.sqrt ((3 : ℝ) ^ 2 + (-4) ^ 2) = 5
  rw [show (3 : ℝ) ^ 2 + (-4) ^ 2 = 5 ^ 2 by norm_num, Real.sqrt_sq (by norm_num)]

end NormP

end Ohsl.Props.C15
