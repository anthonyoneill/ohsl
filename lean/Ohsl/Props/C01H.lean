/-
  Property C01 (part H) — GROWTH of the computed upper factor under partial pivoting, and the
  normwise backward error of `solve_lu` / `solve_basic` RELATIVE TO `A`, in the "rounded reals"
  interpretation `Fl M` of the model (standard model of floating-point arithmetic, Rounding.lean).
  Completes C01F (`solve_lu`) and C01G (`solve_basic`), whose normwise corollaries
  `solveLU_backward_normwise_U` / `solveBasic_backward_normwise_U` bound `‖ΔA‖_∞` by a multiple of
  `‖Û‖_∞`, not of `‖A‖_∞`.  The transfer to the Rust `f64` code rests on the ASSUMPTION stated in
  Rounding.lean (binary64 without overflow/underflow satisfies `FlModel`), not proved here.

  THE GROWTH FACTOR.  One elimination update is `fl(a − fl(l·p))` with a multiplier `|l| ≤ 1 + u`
  (`luDecomp_backward` / `gauss_backward`: a ROUNDED quotient of magnitudes `≤ 1`), so
        `|new| ≤ (1+u)·(|a| + (1+u)²·|p|) ≤ g·max(|a|,|p|)`,   `g = M.gro = (1+u)(1 + (1+u)²)`
  (`g = 2` for `u = 0`, `2 ≤ g ≤ 2(1+u)³` in general: `growth_factor_bounds`).  Row exchanges and
  skipped zero columns do not change the maximum, so with `μ_k` the largest magnitude in the active
  sub-matrix after `k` steps `μ_{k+1} ≤ g μ_k` (`luStep_growth`, `gaussStep_growth`) and row `r` of
  `Û`, which is final after `r` steps, is bounded by `g^r · max|a_ij|`.

  Rounding (F): `luStep_growth`, `gaussStep_growth` (one step of the loops); `lu_growth`,
  `gauss_growth`, `…_norm` (growth of `Û`); `solveLU_backward_normwise_A`,
  `solveBasic_backward_normwise_A`, `…_max`, `…_relative` (Higham, Thm 9.5 + Lemma 9.6);
  `wilkinson_growth` (the bound is ATTAINED in exact arithmetic).  Nothing is `_partial`.

  AN HONEST REMARK ON THE PROPERTY.  The constant `n² (1+u) g^(n−1) ≈ n² 2^(n−1)` is EXPONENTIAL in `n`,
  and by `wilkinson_growth` the factor `2^(n−1)` in the growth of `Û` cannot be improved for Gaussian
  elimination with partial pivoting.  So "a backward error of the order of machine epsilon" (C01) is
  a theorem only in the sense `‖ΔA‖_∞/‖A‖_∞ ≤ ρ_n · p(n) · u` with the growth factor `ρ_n ≤ 2^(n−1)`:
  of the order of `u` for small `n`, or for matrices whose growth is moderate (the generic case in
  practice: the growth factor is almost always small); for Wilkinson-type matrices of large order
  the backward error of `solve_lu` / `solve_basic` really is large.  What is proved WITHOUT any growth
  assumption is the componentwise bound `|ΔA| ≤ c·Pᵀ|L̂||Û|` of C01F / C01G; the float oracle of the
  harness measures the actual backward error on its test matrices.
-/
import Ohsl.Props.C01G
import Ohsl.Lemmas.C01H
import Mathlib.Tactic.Positivity
import Mathlib.Tactic.NormNum
import Mathlib.Tactic.SplitIfs
namespace Ohsl.Props.C01
open Ohsl Ohsl.Mat

section Rounding
variable {M : FlModel}

/-- **one elimination update**: `|fl(a − fl(l·p))| ≤ (1+u)·(|a| + (1+u)²·|p|)` for a multiplier
`|l| ≤ 1 + u` (the bound of `luDecomp_backward` / `gauss_backward`) -/
theorem elim_step_growth (a p l : Fl M) (hl : |l.val| ≤ 1 + M.u) :
    |(a - l * p).val| ≤ (1 + M.u) * (|a.val| + (1 + M.u) ^ 2 * |p.val|) :=
  Fl.abs_elim_le a p l hl

/-- … hence `≤ g·μ`, `g = (1+u)(1+(1+u)²)`, when `|a|, |p| ≤ μ` -/
theorem elim_step_growth_max (a p l : Fl M) (hl : |l.val| ≤ 1 + M.u) {μ : ℝ}
    (ha : |a.val| ≤ μ) (hp : |p.val| ≤ μ) : |(a - l * p).val| ≤ M.gro * μ :=
  Fl.abs_elim_le_gro a p l hl ha hp

/-- the growth factor: `g = (1+u)(1+(1+u)²)`, `2 ≤ g ≤ 2(1+u)³`, `g^k ≤ 2^k (1+u)^(3k)`, and `g = 2`
in exact arithmetic -/
theorem growth_factor_bounds (k : ℕ) :
    M.gro = (1 + M.u) * (1 + (1 + M.u) ^ 2) ∧ 2 ≤ M.gro ∧ M.gro ≤ 2 * (1 + M.u) ^ 3 ∧
      M.gro ^ k ≤ 2 ^ k * (1 + M.u) ^ (3 * k) ∧ FlModel.exact.gro = 2 := by
  refine ⟨rfl, M.two_le_gro, M.gro_le, ?_, FlModel.gro_exact⟩
  have := pow_le_pow_left₀ M.gro_pos.le M.gro_le k
  rwa [mul_pow, ← pow_mul] at this

/-- **one column step of `lu_decomp_in_place`: `μ_{k+1} ≤ g·μ_k`.**  If, before step `i`, the active
sub-matrix (rows and columns `≥ i` of the in-place array) is bounded by `β`, then whenever
`luStep s i` returns `s'`: the rows above `i` are unchanged; the new row `i` — row `i` of `Û`, final
from now on — is bounded by `β` from the diagonal on; the new active sub-matrix (rows and columns
`> i`) is bounded by `g·β`.  Covers the row exchange and the skipped column (all candidates exact
zeros), neither of which increases the maximum. -/
theorem luStep_growth {n i : Nat} {s s' : LU (Fl M)} {β : ℝ} (hw : WFn s.lu n) (hi : i < n)
    (hβ : ∀ r c, i ≤ r → r < n → i ≤ c → c < n → |(ent s.lu r c).val| ≤ β)
    (h : Mat.luStep s i = .ok s') :
    WFn s'.lu n ∧ (∀ r c, r < i → c < n → ent s'.lu r c = ent s.lu r c) ∧
      (∀ c, i ≤ c → c < n → |(ent s'.lu i c).val| ≤ β) ∧
      (∀ r c, i < r → r < n → i < c → c < n → |(ent s'.lu r c).val| ≤ M.gro * β) :=
  luStep_growth_core hw hi hβ h

/-- **one step of `gauss_with_pivot`: `μ_{k+1} ≤ g·μ_k`** (the same recurrence with the right-hand
side carried along; `gaussStep` is the body of the loop of `gaussWithPivot`,
`Mat.gaussWithPivot_eq`) -/
theorem gaussStep_growth {n k : Nat} {mx mx' : Mat (Fl M) × Array (Fl M)} {β : ℝ}
    (hw : WFn mx.1 n) (hx : mx.2.size = n) (hk : k < n)
    (hβ : ∀ r c, k ≤ r → r < n → k ≤ c → c < n → |(ent mx.1 r c).val| ≤ β)
    (h : Mat.gaussStep mx k = .ok mx') :
    WFn mx'.1 n ∧ mx'.2.size = n ∧ (∀ r c, r < k → c < n → ent mx'.1 r c = ent mx.1 r c) ∧
      (∀ c, k ≤ c → c < n → |(ent mx'.1 k c).val| ≤ β) ∧
      (∀ r c, k < r → r < n → k < c → c < n → |(ent mx'.1 r c).val| ≤ M.gro * β) :=
  gaussStep_growth_core hw hx hk hβ h

/-- **growth bound for the LU factorisation with partial pivoting.**  Whenever `luDecomp A` returns
the state `s` in `Fl M` (`A` a well-formed `n × n` matrix): every entry of the computed upper factor
satisfies `|û_rc| ≤ g^r · max|a_ij|` (row `r` is final after `r` steps), hence
`|û_rc| ≤ g^(n−1) · max|a_ij|`. -/
theorem lu_growth {n : Nat} {A : Mat (Fl M)} {a : Nat → Nat → Fl M} (hA : Mat.Is A n n a)
    {s : LU (Fl M)} (h : Mat.luDecomp A = .ok s) :
    ∀ r c, r < n → c < n →
      |Uhat n s r c| ≤ M.gro ^ r * maxEnt n (fun i j => (a i j).val) ∧
      |Uhat n s r c| ≤ M.gro ^ (n - 1) * maxEnt n (fun i j => (a i j).val) := by
  intro r c hr hc
  exact (luDecomp_growth hA.wfn hA.abs_ent_le_maxEnt h).upper (maxEnt_nonneg _ _)
    (Nat.sub_le n 1) hr hc

theorem lu_growth_norm {n : Nat} {A : Mat (Fl M)} {a : Nat → Nat → Fl M} (hA : Mat.Is A n n a)
    {s : LU (Fl M)} (h : Mat.luDecomp A = .ok s) :
    rowNorm n (Uhat n s) ≤ n * (M.gro ^ (n - 1) * maxEnt n (fun i j => (a i j).val)) ∧
    rowNorm n (Uhat n s) ≤ n * (M.gro ^ (n - 1) * rowNorm n (fun i j => (a i j).val)) :=
  (luDecomp_growth hA.wfn hA.abs_ent_le_maxEnt h).rowNorm_upper_A (Nat.sub_le n 1)

theorem gauss_growth {n : Nat} (hn : 1 ≤ n) {A : Mat (Fl M)} {a : Nat → Nat → Fl M}
    (hA : Mat.Is A n n a) {b : Array (Fl M)} (hb : b.size = n) {m' : Mat (Fl M)}
    {y : Array (Fl M)} (h : Mat.gaussWithPivot A b = .ok (m', y)) :
    ∀ r c, r < n → c < n →
      |GUhat n m' r c| ≤ M.gro ^ r * maxEnt n (fun i j => (a i j).val) ∧
      |GUhat n m' r c| ≤ M.gro ^ (n - 1) * maxEnt n (fun i j => (a i j).val) := by
  intro r c hr hc
  exact (gaussWithPivot_growth hn hA.wfn hb hA.abs_ent_le_maxEnt h).upper (maxEnt_nonneg _ _)
    (Nat.le_refl _) hr hc

theorem gauss_growth_norm {n : Nat} (hn : 1 ≤ n) {A : Mat (Fl M)} {a : Nat → Nat → Fl M}
    (hA : Mat.Is A n n a) {b : Array (Fl M)} (hb : b.size = n) {m' : Mat (Fl M)}
    {y : Array (Fl M)} (h : Mat.gaussWithPivot A b = .ok (m', y)) :
    rowNorm n (GUhat n m') ≤ n * (M.gro ^ (n - 1) * maxEnt n (fun i j => (a i j).val)) ∧
    rowNorm n (GUhat n m') ≤ n * (M.gro ^ (n - 1) * rowNorm n (fun i j => (a i j).val)) :=
  (gaussWithPivot_growth hn hA.wfn hb hA.abs_ent_le_maxEnt h).rowNorm_upper_A (Nat.le_refl _)

/-- **`solve_lu`, normwise backward error relative to the largest entry of `A`**:
`(A + ΔA) x̂ = b` EXACTLY with `‖ΔA‖_∞ ≤ (gq n + gq (3n)) · n²(1+u) g^(n−1) · max|a_ij|`. -/
theorem solveLU_backward_normwise_max (hu : M.u < 1) {n : Nat} (hn : 1 ≤ n) {A : Mat (Fl M)}
    {a : Nat → Nat → Fl M} (hA : Mat.Is A n n a) {b x : Array (Fl M)} (hb : b.size = n)
    (h : Mat.solveLU A b = .ok x) :
    ∃ ΔA : Nat → Nat → ℝ,
      (∀ i, i < n →
        ∑ j ∈ Finset.range n, ((a i j).val + ΔA i j) * (vf x j).val = (vf b i).val) ∧
      rowNorm n ΔA ≤ (M.gq n + M.gq (3 * n)) * ((n : ℝ) ^ 2 * (1 + M.u) * M.gro ^ (n - 1))
        * maxEnt n (fun i j => (a i j).val) := by
  obtain ⟨s, hd, ΔA, hsol, hbd⟩ := solveLU_backward_normwise_U hu hn hA hb h
  exact ⟨ΔA, hsol, hbd.trans (normwise_chain
    (add_nonneg (FlModel.gq_nonneg hu _) (FlModel.gq_nonneg hu _)) (Nat.cast_nonneg n)
    M.one_add_u_pos.le (lu_growth_norm hA hd).1)⟩

/-- **`solve_lu`, normwise backward error relative to `A`** (Higham, Thm 9.5 with Lemma 9.6, for the
model's `solve_lu`).  Whenever `solveLU A b` returns `x̂` in `Fl M` (`A` is `n × n`, `n ≥ 1`, `u < 1`):
`(A + ΔA) x̂ = b` EXACTLY with
`‖ΔA‖_∞ ≤ (gq n + gq (3n)) · n² (1+u) g^(n−1) · ‖A‖_∞`, `g = (1+u)(1+(1+u)²)` (`→ 2`).
The constant is EXPONENTIAL in `n`, and the factor `g^(n−1)` (the growth of `Û`) is attained
(`wilkinson_growth`): this is "of the order of machine epsilon" only for small `n` or for matrices
with moderate growth — see the remark in the header. -/
theorem solveLU_backward_normwise_A (hu : M.u < 1) {n : Nat} (hn : 1 ≤ n) {A : Mat (Fl M)}
    {a : Nat → Nat → Fl M} (hA : Mat.Is A n n a) {b x : Array (Fl M)} (hb : b.size = n)
    (h : Mat.solveLU A b = .ok x) :
    ∃ ΔA : Nat → Nat → ℝ,
      (∀ i, i < n →
        ∑ j ∈ Finset.range n, ((a i j).val + ΔA i j) * (vf x j).val = (vf b i).val) ∧
      rowNorm n ΔA ≤ (M.gq n + M.gq (3 * n)) * ((n : ℝ) ^ 2 * (1 + M.u) * M.gro ^ (n - 1))
        * rowNorm n (fun i j => (a i j).val) := by
  obtain ⟨ΔA, hsol, hbd⟩ := solveLU_backward_normwise_max hu hn hA hb h
  exact ⟨ΔA, hsol, hbd.trans (mul_le_mul_of_nonneg_left (maxEnt_le_rowNorm n _) (mul_nonneg
    (add_nonneg (FlModel.gq_nonneg hu _) (FlModel.gq_nonneg hu _)) (growth_coeff_nonneg M n)))⟩

/-- **`solve_lu`: the normwise RELATIVE backward error** `‖ΔA‖_∞/‖A‖_∞ ≤ (gq n + gq (3n))·n²(1+u)g^(n−1)`
(`A ≠ 0`); with `3 n u < 1` the first factor is `≤ γ_n + γ_{3n} ≈ 4 n u` (`solveLU_backward_gamma`) -/
theorem solveLU_backward_relative (hu : M.u < 1) {n : Nat} (hn : 1 ≤ n) {A : Mat (Fl M)}
    {a : Nat → Nat → Fl M} (hA : Mat.Is A n n a) {b x : Array (Fl M)} (hb : b.size = n)
    (hA0 : 0 < rowNorm n (fun i j => (a i j).val)) (h : Mat.solveLU A b = .ok x) :
    ∃ ΔA : Nat → Nat → ℝ,
      (∀ i, i < n →
        ∑ j ∈ Finset.range n, ((a i j).val + ΔA i j) * (vf x j).val = (vf b i).val) ∧
      rowNorm n ΔA / rowNorm n (fun i j => (a i j).val)
        ≤ (M.gq n + M.gq (3 * n)) * ((n : ℝ) ^ 2 * (1 + M.u) * M.gro ^ (n - 1)) := by
  obtain ⟨ΔA, hsol, hbd⟩ := solveLU_backward_normwise_A hu hn hA hb h
  exact ⟨ΔA, hsol, (div_le_iff₀ hA0).mpr hbd⟩

/-- **`solve_basic`, normwise backward error relative to the largest entry of `A`**:
`(A + ΔA) x̂ = b` EXACTLY with `‖ΔA‖_∞ ≤ (gq (n−1) + gq (2n−1)) · n²(1+u) g^(n−1) · max|a_ij|`. -/
theorem solveBasic_backward_normwise_max (hu : M.u < 1) {n : Nat} (hn : 1 ≤ n) {A : Mat (Fl M)}
    {a : Nat → Nat → Fl M} (hA : Mat.Is A n n a) {b x : Array (Fl M)} (hb : b.size = n)
    (h : Mat.solveBasic A b = .ok x) :
    ∃ ΔA : Nat → Nat → ℝ,
      (∀ i, i < n →
        ∑ j ∈ Finset.range n, ((a i j).val + ΔA i j) * (vf x j).val = (vf b i).val) ∧
      rowNorm n ΔA
        ≤ (M.gq (n - 1) + M.gq (2 * n - 1)) * ((n : ℝ) ^ 2 * (1 + M.u) * M.gro ^ (n - 1))
          * maxEnt n (fun i j => (a i j).val) := by
  obtain ⟨m', y, tr, hg, _, ΔA, hsol, hbd⟩ := solveBasic_backward_normwise_U hu hn hA hb h
  have hgw : Mat.gaussWithPivot A b = .ok (m', y) := by
    rw [← Mat.gaussT_fst, hg]; rfl
  exact ⟨ΔA, hsol, hbd.trans (normwise_chain
    (add_nonneg (FlModel.gq_nonneg hu _) (FlModel.gq_nonneg hu _)) (Nat.cast_nonneg n)
    M.one_add_u_pos.le (gauss_growth_norm hn hA hb hgw).1)⟩

/-- **`solve_basic`, normwise backward error relative to `A`**: whenever `solveBasic A b` returns `x̂`
in `Fl M`: `(A + ΔA) x̂ = b` EXACTLY with
`‖ΔA‖_∞ ≤ (gq (n−1) + gq (2n−1)) · n² (1+u) g^(n−1) · ‖A‖_∞`. -/
theorem solveBasic_backward_normwise_A (hu : M.u < 1) {n : Nat} (hn : 1 ≤ n) {A : Mat (Fl M)}
    {a : Nat → Nat → Fl M} (hA : Mat.Is A n n a) {b x : Array (Fl M)} (hb : b.size = n)
    (h : Mat.solveBasic A b = .ok x) :
    ∃ ΔA : Nat → Nat → ℝ,
      (∀ i, i < n →
        ∑ j ∈ Finset.range n, ((a i j).val + ΔA i j) * (vf x j).val = (vf b i).val) ∧
      rowNorm n ΔA
        ≤ (M.gq (n - 1) + M.gq (2 * n - 1)) * ((n : ℝ) ^ 2 * (1 + M.u) * M.gro ^ (n - 1))
          * rowNorm n (fun i j => (a i j).val) := by
  obtain ⟨ΔA, hsol, hbd⟩ := solveBasic_backward_normwise_max hu hn hA hb h
  exact ⟨ΔA, hsol, hbd.trans (mul_le_mul_of_nonneg_left (maxEnt_le_rowNorm n _) (mul_nonneg
    (add_nonneg (FlModel.gq_nonneg hu _) (FlModel.gq_nonneg hu _)) (growth_coeff_nonneg M n)))⟩

/-- **`solve_basic`: the normwise RELATIVE backward error**
`‖ΔA‖_∞/‖A‖_∞ ≤ (gq (n−1) + gq (2n−1))·n²(1+u)g^(n−1)` (`A ≠ 0`); with `3 n u < 1` the first factor is
`≤ γ_{3n}` (`solveBasic_backward_gamma`) -/
theorem solveBasic_backward_relative (hu : M.u < 1) {n : Nat} (hn : 1 ≤ n) {A : Mat (Fl M)}
    {a : Nat → Nat → Fl M} (hA : Mat.Is A n n a) {b x : Array (Fl M)} (hb : b.size = n)
    (hA0 : 0 < rowNorm n (fun i j => (a i j).val)) (h : Mat.solveBasic A b = .ok x) :
    ∃ ΔA : Nat → Nat → ℝ,
      (∀ i, i < n →
        ∑ j ∈ Finset.range n, ((a i j).val + ΔA i j) * (vf x j).val = (vf b i).val) ∧
      rowNorm n ΔA / rowNorm n (fun i j => (a i j).val)
        ≤ (M.gq (n - 1) + M.gq (2 * n - 1)) * ((n : ℝ) ^ 2 * (1 + M.u) * M.gro ^ (n - 1)) := by
  obtain ⟨ΔA, hsol, hbd⟩ := solveBasic_backward_normwise_A hu hn hA hb h
  exact ⟨ΔA, hsol, (div_le_iff₀ hA0).mpr hbd⟩

/-- **Wilkinson's matrix attains the growth bound** (exact arithmetic, `u = 0`, `g = 2`).  Let `A` be
the `n × n` matrix with `1` on the diagonal, `−1` below it, `0` above it and `1` in the last
column.  Then `luDecomp A` succeeds without any row exchange (every pivot candidate has magnitude
`1`; the search keeps the first one, the diagonal), `max|a_ij| = 1`, and the last diagonal entry of
the computed upper factor is `û_{n−1,n−1} = 2^(n−1) = g^(n−1)·max|a_ij|`: equality in `lu_growth`. -/
theorem wilkinson_growth {n : Nat} (hn : 1 ≤ n) {A : Mat (Fl FlModel.exact)}
    {a : Nat → Nat → Fl FlModel.exact} (hA : Mat.Is A n n a)
    (ha : ∀ r c, r < n → c < n → (a r c).val =
      if c = n - 1 then 1 else if c < r then -1 else if c = r then 1 else 0) :
    ∃ s, Mat.luDecomp A = .ok s ∧ s.pivots = 0 ∧
      maxEnt n (fun i j => (a i j).val) = 1 ∧
      Uhat n s (n - 1) (n - 1) = 2 ^ (n - 1) ∧
      |Uhat n s (n - 1) (n - 1)|
        = FlModel.exact.gro ^ (n - 1) * maxEnt n (fun i j => (a i j).val) := by
  have hn0 : 0 < n := hn
  have hA' : Mat.Is A n n (wilk n 0) :=
    hA.congr fun r c hr hc => Fl.ext ((ha r c hr hc).trans (wilkR_zero n r c).symm)
  obtain ⟨s, hs, _, hpv, hI⟩ := luDecomp_wilkinson (powRep_exact n) hA'
  have hmax : maxEnt n (fun i j => (a i j).val) = 1 := by
    apply le_antisymm
    · refine maxEnt_le _ zero_le_one fun r c hr hc => ?_
      show |(a r c).val| ≤ 1
      rw [ha r c hr hc]
      split_ifs <;> simp
    · have h0 : (a 0 0).val = 1 := by
        rw [ha 0 0 hn0 hn0]
        by_cases h : 0 = n - 1
        · rw [if_pos h]
        · rw [if_neg h, if_neg (Nat.lt_irrefl 0), if_pos rfl]
      have := abs_le_maxEnt (fun i j => (a i j).val) hn0 hn0
      rwa [h0, abs_one] at this
  have hU : Uhat n s (n - 1) (n - 1) = 2 ^ (n - 1) := by
    have hl : n - 1 < n := Nat.sub_lt hn0 Nat.one_pos
    rw [Uhat_apply n s hl, if_neg (Nat.lt_irrefl _), hI.ent_eq hl hl]
    show wilkR n n (n - 1) (n - 1) = _
    rw [wilkR_last, Nat.min_eq_left (Nat.sub_le n 1)]
  refine ⟨s, hs, hpv, hmax, hU, ?_⟩
  rw [hU, hmax, FlModel.gro_exact, mul_one]
  exact abs_of_nonneg (pow_nonneg zero_le_two _)

end Rounding

section Examples

/-- Wilkinson's matrix exists for every order `n`: the hypotheses of `wilkinson_growth` are satisfiable -/
example (n : Nat) : ∃ (A : Mat (Fl FlModel.exact)) (a : Nat → Nat → Fl FlModel.exact),
    Mat.Is A n n a ∧ ∀ r c, r < n → c < n → (a r c).val =
      if c = n - 1 then 1 else if c < r then -1 else if c = r then 1 else 0 :=
  ⟨matOfFn n (wilk n 0), wilk n 0, matOfFn_is n _, fun r c _ _ => by simp [wilk, wilkR]⟩

/-- the growth of order `11` is already `1024` -/
example {A : Mat (Fl FlModel.exact)} (hA : Mat.Is A 11 11 (wilk 11 0)) :
    ∃ s, Mat.luDecomp A = .ok s ∧ Uhat 11 s 10 10 = 1024 := by
  obtain ⟨s, hs, _, _, hU, _⟩ := wilkinson_growth (n := 11) (by omega) hA
    (fun r c _ _ => by simp [wilk, wilkR])
  exact ⟨s, hs, by rw [hU]; norm_num⟩

/-- the constants in the binary64 significand format: `u = 2⁻⁵³ < 1`, and the growth factor of one
step is `2 ≤ g ≤ 2(1+2⁻⁵³)³` -/
example : FlModel.binary64.u < 1 ∧ 2 ≤ FlModel.binary64.gro ∧
    FlModel.binary64.gro ≤ 2 * (1 + 2 ^ (-53 : ℤ)) ^ 3 := by
  have h := growth_factor_bounds (M := FlModel.binary64) 0
  refine ⟨by rw [FlModel.binary64_u]; norm_num, h.2.1, ?_⟩
  have := h.2.2.1
  rwa [FlModel.binary64_u] at this

namespace ExH

/-! The `3 × 3` Wilkinson matrix `W3 = [[1,0,1],[−1,1,1],[−1,−1,1]]` with `c3 = W3·[1,1,1] = [2,1,−1]`,
evaluated in EVERY model `M` in which the integers of magnitude `≤ 8` are representable
(`SmallRep M`; `FlModel.exact` and `FlModel.binary64` are such models): all intermediate quantities
are small integers, so no rounding error is committed. -/

/-- the integers of magnitude at most `8` are representable -/
def SmallRep (M : FlModel) : Prop := ∀ k : ℤ, |k| ≤ 8 → M.Rep (k : ℝ)

theorem smallRep_exact : SmallRep FlModel.exact := fun _ _ => rfl
theorem smallRep_binary64 : SmallRep FlModel.binary64 := fun k hk =>
  FlModel.roundBits_rep_int 52 k (lt_of_le_of_lt hk (by norm_num))

variable {M : FlModel}

theorem F.add_eq (a b : Fl M) : a + b = ⟨M.fl (a.val + b.val)⟩ := rfl
theorem F.sub_eq (a b : Fl M) : a - b = ⟨M.fl (a.val - b.val)⟩ := rfl
theorem F.mul_eq (a b : Fl M) : a * b = ⟨M.fl (a.val * b.val)⟩ := rfl
theorem F.lt_eq (a b : Fl M) : ScalarExt.lt a b = decide (a.val < b.val) := rfl
theorem F.divM_eq (a b : Fl M) :
    divM a b = if b.val = 0 then .error .arith else .ok ⟨M.fl (a.val / b.val)⟩ := rfl

noncomputable def W3 : Mat (Fl M) := ⟨#[⟨1⟩, ⟨0⟩, ⟨1⟩, ⟨-1⟩, ⟨1⟩, ⟨1⟩, ⟨-1⟩, ⟨-1⟩, ⟨1⟩], 3, 3⟩
noncomputable def c3 : Array (Fl M) := #[⟨2⟩, ⟨1⟩, ⟨-1⟩]
/-- the in-place result of `luDecomp W3`: multipliers `−1` below the diagonal, `Û = [[1,0,1],[0,1,2],[0,0,4]]` -/
noncomputable def LU3 : Mat (Fl M) := ⟨#[⟨1⟩, ⟨0⟩, ⟨1⟩, ⟨-1⟩, ⟨1⟩, ⟨2⟩, ⟨-1⟩, ⟨-1⟩, ⟨4⟩], 3, 3⟩

theorem W3_is : Mat.Is (W3 : Mat (Fl M)) 3 3 (Mat.ent W3) := Mat.WFn.is ⟨rfl, rfl, rfl⟩
theorem LU3_is : Mat.Is (LU3 : Mat (Fl M)) 3 3 (Mat.ent LU3) := Mat.WFn.is ⟨rfl, rfl, rfl⟩

theorem SmallRep.fl (hM : SmallRep M) :
    M.fl 0 = 0 ∧ M.fl 1 = 1 ∧ M.fl 2 = 2 ∧ M.fl 3 = 3 ∧ M.fl 4 = 4 ∧
      M.fl (-1) = -1 ∧ M.fl (-2) = -2 ∧ M.fl (-3) = -3 := by
  refine ⟨M.fl_zero, ?_, ?_, ?_, ?_, ?_, ?_, ?_⟩
  · simpa [FlModel.Rep] using hM 1 (by norm_num)
  · simpa [FlModel.Rep] using hM 2 (by norm_num)
  · simpa [FlModel.Rep] using hM 3 (by norm_num)
  · simpa [FlModel.Rep] using hM 4 (by norm_num)
  · simpa [FlModel.Rep] using hM (-1) (by norm_num)
  · simpa [FlModel.Rep] using hM (-2) (by norm_num)
  · simpa [FlModel.Rep] using hM (-3) (by norm_num)

theorem SmallRep.powRep (hM : SmallRep M) : PowRep M 3 := fun k hk => by
  have key : ∀ z : ℤ, |z| ≤ 8 → ∀ x : ℝ, x = z → M.Rep x := fun z hz x e => e ▸ hM z hz
  obtain rfl | rfl | rfl : k = 0 ∨ k = 1 ∨ k = 2 := by omega
  · exact ⟨key 1 (by norm_num) _ (by norm_num), key (-1) (by norm_num) _ (by norm_num)⟩
  · exact ⟨key 2 (by norm_num) _ (by norm_num), key (-2) (by norm_num) _ (by norm_num)⟩
  · exact ⟨key 4 (by norm_num) _ (by norm_num), key (-4) (by norm_num) _ (by norm_num)⟩

theorem W3_wilk (r c : Nat) (hr : r < 3) (hc : c < 3) :
    (Mat.ent (W3 : Mat (Fl M)) r c).val = wilkR 3 0 r c ∧
      (Mat.ent (LU3 : Mat (Fl M)) r c).val = wilkR 3 3 r c := by
  have h3 : ∀ k, k < 3 → k = 0 ∨ k = 1 ∨ k = 2 := fun k hk => by omega
  unfold wilkR
  obtain rfl | rfl | rfl := h3 c hc
  · obtain rfl | rfl | rfl := h3 r hr <;> exact ⟨rfl, rfl⟩
  · obtain rfl | rfl | rfl := h3 r hr <;> exact ⟨rfl, rfl⟩
  · -- the last column holds the powers of two
    obtain rfl | rfl | rfl := h3 r hr <;> norm_num <;> exact ⟨rfl, rfl⟩

theorem luDecomp_W3 (hM : SmallRep M) :
    Mat.luDecomp (W3 : Mat (Fl M)) = .ok ⟨LU3, ⟨#[1, 0, 0, 0, 1, 0, 0, 0, 1], 3, 3⟩, 0⟩ := by
  have e : (eye 3 : Res (Mat (Fl M))) = .ok ⟨#[1, 0, 0, 0, 1, 0, 0, 0, 1], 3, 3⟩ := rfl
  obtain ⟨s, hs, hp, hpv, hI⟩ := luDecomp_wilkinson hM.powRep
    (W3_is.congr fun r c hr hc => Fl.ext (W3_wilk r c hr hc).1)
  rw [hs]
  obtain ⟨lu, perm, pv⟩ := s
  have e1 : lu = LU3 :=
    hI.unique (LU3_is.congr fun r c hr hc => Fl.ext (W3_wilk r c hr hc).2)
  have e2 : perm = ⟨#[1, 0, 0, 0, 1, 0, 0, 0, 1], 3, 3⟩ := Except.ok.inj (hp.symm.trans e)
  have e3 : pv = 0 := hpv
  rw [e1, e2, e3]

theorem mulVec_I_c3 (hM : SmallRep M) :
    Mat.mulVec (⟨#[1, 0, 0, 0, 1, 0, 0, 0, 1], 3, 3⟩ : Mat (Fl M)) c3 = .ok #[⟨2⟩, ⟨1⟩, ⟨-1⟩] := by
  obtain ⟨f0, f1, f2, f3, f4, g1, g2, g3⟩ := hM.fl
  norm_num only [model_eval, c3, mulVec, F.add_eq, F.mul_eq, Fl.ext_iff, Fl.zero_val, Fl.one_val,
    f0, f1, f2, f3, g1]

theorem forwardSub_LU3 (hM : SmallRep M) :
    Mat.forwardSub (LU3 : Mat (Fl M)) #[⟨2⟩, ⟨1⟩, ⟨-1⟩] = .ok #[⟨2⟩, ⟨3⟩, ⟨4⟩] := by
  obtain ⟨f0, f1, f2, f3, f4, g1, g2, g3⟩ := hM.fl
  norm_num only [model_eval, LU3, forwardSub, F.sub_eq, F.mul_eq, Fl.ext_iff,
    f0, f1, f2, f3, f4, g1, g2, g3]

/-- back substitution with `Û = [[1,0,1],[0,1,2],[0,0,4]]` and `ŷ = [2,3,4]`; what stands below the
diagonal (multipliers for `solve_lu`, residues for `solve_basic`) is not read -/
theorem backsolve_U3 (hM : SmallRep M) (a b c : Fl M) :
    Mat.backsolve (⟨#[⟨1⟩, ⟨0⟩, ⟨1⟩, a, ⟨1⟩, ⟨2⟩, b, c, ⟨4⟩], 3, 3⟩ : Mat (Fl M)) #[⟨2⟩, ⟨3⟩, ⟨4⟩]
      = .ok #[⟨1⟩, ⟨1⟩, ⟨1⟩] := by
  obtain ⟨f0, f1, f2, f3, f4, g1, g2, g3⟩ := hM.fl
  norm_num only [model_eval, backsolve, F.sub_eq, F.mul_eq, F.divM_eq, Fl.ext_iff,
    f0, f1, f2, f3, f4]

theorem solveLU_W3_c3 (hM : SmallRep M) :
    Mat.solveLU (W3 : Mat (Fl M)) c3 = .ok #[⟨1⟩, ⟨1⟩, ⟨1⟩] := by
  have h1 : ¬ (W3 : Mat (Fl M)).rows ≠ (c3 : Array (Fl M)).size := by simp [W3, c3]
  have h2 : ¬ (W3 : Mat (Fl M)).rows ≠ (W3 : Mat (Fl M)).cols := by simp [W3]
  simp only [solveLU, h1, h2, if_false, luDecomp_W3 hM, mulVec_I_c3 hM, forwardSub_LU3 hM, bind,
    Except.bind]
  exact backsolve_U3 hM _ _ _

theorem gaussWithPivot_W3_c3 (hM : SmallRep M) :
    Mat.gaussWithPivot (W3 : Mat (Fl M)) c3
      = .ok (⟨#[⟨1⟩, ⟨0⟩, ⟨1⟩, ⟨0⟩, ⟨1⟩, ⟨2⟩, ⟨0⟩, ⟨0⟩, ⟨4⟩], 3, 3⟩, #[⟨2⟩, ⟨3⟩, ⟨4⟩]) := by
  obtain ⟨f0, f1, f2, f3, f4, g1, g2, g3⟩ := hM.fl
  norm_num only [model_eval, W3, c3, gaussWithPivot, partialPivot, maxAbsInColumn, swapRows_self,
    Vec.swap_self, elimRow,
    F.sub_eq, F.mul_eq, F.divM_eq, F.lt_eq, Fl.mag_eq, Fl.ext_iff, Fl.zero_val, Fl.neg_val,
    f0, f1, f2, f3, f4, g1, g2, g3]

theorem solveBasic_W3_c3 (hM : SmallRep M) :
    Mat.solveBasic (W3 : Mat (Fl M)) c3 = .ok #[⟨1⟩, ⟨1⟩, ⟨1⟩] := by
  have h1 : ¬ (W3 : Mat (Fl M)).rows ≠ (c3 : Array (Fl M)).size := by simp [W3, c3]
  have h2 : ¬ (W3 : Mat (Fl M)).rows ≠ (W3 : Mat (Fl M)).cols := by simp [W3]
  simp only [solveBasic, h1, h2, if_false, gaussWithPivot_W3_c3 hM, bind, Except.bind]
  exact backsolve_U3 hM _ _ _

/-- **the hypotheses of `lu_growth`, `solveLU_backward_normwise_A` and `solveBasic_backward_normwise_A`
are satisfiable on a concrete `3 × 3` system in every model with `SmallRep` and `u < 1`**, and the
conclusions hold there: `solve_lu` and `solve_basic` return `x̂`, `û₂₂ = 4`, and there are backward
errors `ΔA`, `ΔA'` with the proved normwise bounds -/
theorem W3_all (hM : SmallRep M) (hu : M.u < 1) :
    ∃ (A : Mat (Fl M)) (b x : Array (Fl M)) (s : LU (Fl M)),
      Mat.Is A 3 3 (Mat.ent A) ∧ b.size = 3 ∧
      Mat.luDecomp A = .ok s ∧ Mat.solveLU A b = .ok x ∧ Mat.solveBasic A b = .ok x ∧
      Uhat 3 s 2 2 = 4 ∧ maxEnt 3 (fun i j => (Mat.ent A i j).val) = 1 ∧
      |Uhat 3 s 2 2| ≤ M.gro ^ 2 * maxEnt 3 (fun i j => (Mat.ent A i j).val) ∧
      (∃ ΔA : Nat → Nat → ℝ,
        (∀ i, i < 3 →
          ∑ j ∈ Finset.range 3, ((Mat.ent A i j).val + ΔA i j) * (vf x j).val = (vf b i).val) ∧
        rowNorm 3 ΔA ≤ (M.gq 3 + M.gq (3 * 3)) * (((3 : ℕ) : ℝ) ^ 2 * (1 + M.u) * M.gro ^ (3 - 1))
          * rowNorm 3 (fun i j => (Mat.ent A i j).val)) ∧
      (∃ ΔA : Nat → Nat → ℝ,
        (∀ i, i < 3 →
          ∑ j ∈ Finset.range 3, ((Mat.ent A i j).val + ΔA i j) * (vf x j).val = (vf b i).val) ∧
        rowNorm 3 ΔA
          ≤ (M.gq (3 - 1) + M.gq (2 * 3 - 1)) * (((3 : ℕ) : ℝ) ^ 2 * (1 + M.u) * M.gro ^ (3 - 1))
            * rowNorm 3 (fun i j => (Mat.ent A i j).val)) := by
  have hU : Uhat 3 (⟨LU3, ⟨#[1, 0, 0, 0, 1, 0, 0, 0, 1], 3, 3⟩, 0⟩ : LU (Fl M)) 2 2 = 4 := by
    rw [Uhat_apply 3 _ (by omega : 2 < 3), if_neg (by omega)]
    simp [Mat.ent, LU3]
  have hmax : maxEnt 3 (fun i j => ((Mat.ent (W3 : Mat (Fl M))) i j).val) = 1 := by
    norm_num only [maxEnt, maxRow, Mat.ent, W3, model_eval, Option.getD_some, abs_one, abs_neg,
      abs_zero, max_self, max_eq_right, max_eq_left]
  refine ⟨W3, c3, _, _, W3_is, rfl, luDecomp_W3 hM, solveLU_W3_c3 hM, solveBasic_W3_c3 hM, hU,
    hmax, ?_, solveLU_backward_normwise_A hu (by omega) W3_is rfl (solveLU_W3_c3 hM),
    solveBasic_backward_normwise_A hu (by omega) W3_is rfl (solveBasic_W3_c3 hM)⟩
  exact (lu_growth W3_is (luDecomp_W3 hM) 2 2 (by omega) (by omega)).1

/-- … in exact arithmetic, where moreover the growth bound is attained: `û₂₂ = 4 = g²·max|a_ij|` -/
example : ∃ (A : Mat (Fl FlModel.exact)) (b x : Array (Fl FlModel.exact)) (s : LU (Fl FlModel.exact)),
    Mat.Is A 3 3 (Mat.ent A) ∧ b.size = 3 ∧ FlModel.exact.u < 1 ∧
      Mat.luDecomp A = .ok s ∧ Mat.solveLU A b = .ok x ∧ Mat.solveBasic A b = .ok x ∧
      |Uhat 3 s 2 2| = FlModel.exact.gro ^ 2 * maxEnt 3 (fun i j => (Mat.ent A i j).val) := by
  have hu := FlModel.exact_u_lt_one
  obtain ⟨A, b, x, s, h1, h2, h3, h4, h5, h6, h7, _⟩ := W3_all smallRep_exact hu
  refine ⟨A, b, x, s, h1, h2, hu, h3, h4, h5, ?_⟩
  rw [h6, h7, FlModel.gro_exact]
  norm_num

/-- … and in the binary64 significand format (`u = 2⁻⁵³`) -/
example : ∃ (A : Mat (Fl FlModel.binary64)) (b x : Array (Fl FlModel.binary64))
    (s : LU (Fl FlModel.binary64)),
    Mat.Is A 3 3 (Mat.ent A) ∧ b.size = 3 ∧ FlModel.binary64.u < 1 ∧
      Mat.luDecomp A = .ok s ∧ Mat.solveLU A b = .ok x ∧ Mat.solveBasic A b = .ok x ∧
      Uhat 3 s 2 2 = 4 ∧
      |Uhat 3 s 2 2| ≤ FlModel.binary64.gro ^ 2 * maxEnt 3 (fun i j => (Mat.ent A i j).val) := by
  have hu : FlModel.binary64.u < 1 := by rw [FlModel.binary64_u]; norm_num
  obtain ⟨A, b, x, s, h1, h2, h3, h4, h5, h6, _, h8, _⟩ := W3_all smallRep_binary64 hu
  exact ⟨A, b, x, s, h1, h2, hu, h3, h4, h5, h6, h8⟩

end ExH

end Examples

end Ohsl.Props.C01
