/-
  Property C17 (continued), class (R) — LOCAL CONVERGENCE of the COMPLEX SYSTEM Newton iteration
  (`Newton<Vector<Cmplx>>::solve_jacobian` / `::solve`; model `Ohsl.Jac.solveSys` at element type
  `Cx ℝ`, norm `Vec.normInfC` = largest modulus of the residual, real test `r <= tol`) from inside
  the basin of a simple root, in exact arithmetic.  Complex companion of Ohsl/Props/C17K.lean.
  Space: `ℂⁿ = Fin n → ℂ` with the sup norm (the model's `norm_inf` of a complex vector); arrays over
  the model's `Cx ℝ` are read as vectors of `ℂⁿ` through `vecC n a = fun j => toC a[j]`.

  The user closure `f : Array (Cx ℝ) → Array (Cx ℝ)` DENOTES `G : ℂⁿ → ℂⁿ` (`Denotes n f G`: on
  arrays of length `n` it returns an array of length `n` whose `toC`-image is `G` of the
  `toC`-image of the argument).

  The abstract real theorems of C17K are reused through `restrictScalars ℝ`: a complex Fréchet
  derivative is a real one with the same operator norm; the linear solve over ℂ is C01X.
  (R) `cx_sys_newton_step` (one exact step); `SysBallC` (the hypotheses on `G`);
      `model_step_supplied_cx` (one model iteration is the Newton step);
      `solveSys_converges_supplied_cx`, `solveSys_converges_fd_cx` (the model's run with the supplied
      Jacobian and with `jacobian_cmplx`, real step), both from `solveSys_converges_gen` of C17K
      with `K := Cx ℝ`.
  As in C17K the stopping test is on the residual `‖G(x_k)‖∞ ≤ tol` of the point the step STARTS
  from and the UPDATED point is returned.
  NOT proved here: `O(δ²)`-type refinements for holomorphic `G`; rounding (class F).
-/
import Ohsl.Props.C17K
import Ohsl.Props.C01X
import Ohsl.Props.C18X
import Ohsl.Props.C15V
import Mathlib.Analysis.Complex.Basic
import Mathlib.Analysis.Calculus.FDeriv.RestrictScalars
namespace Ohsl.Props.C17
open Ohsl Ohsl.Mat Ohsl.Jac Set
open Ohsl.RealI Ohsl.CxField Ohsl.Props.C13 Ohsl.Props.C14

section AbstractC
variable {E : Type*} [NormedAddCommGroup E] [NormedSpace ℂ E] [NormedSpace ℝ E]
  [IsScalarTower ℝ ℂ E]

/-- the complex derivative read as a real-linear map -/
noncomputable def realD (G' : E → E →L[ℂ] E) : E → E →L[ℝ] E :=
  fun x => (G' x).restrictScalars ℝ

theorem realD_apply (G' : E → E →L[ℂ] E) (x v : E) : realD G' x v = G' x v := rfl

theorem norm_realD (G' : E → E →L[ℂ] E) (x : E) : ‖realD G' x‖ = ‖G' x‖ :=
  ContinuousLinearMap.norm_restrictScalars _

theorem norm_restrict_sub (A B : E →L[ℂ] E) :
    ‖A.restrictScalars ℝ - B.restrictScalars ℝ‖ = ‖A - B‖ :=
  ContinuousLinearMap.norm_restrictScalars (A - B)

/-- **one exact Newton step contracts quadratically**: `G'(x)` invertible (`A`) with
    `‖G'(x)⁻¹‖ ≤ β`; `x⁺ = x − G'(x)⁻¹ G(x)` satisfies `‖x⁺ − r‖ ≤ (βL/2) ‖x − r‖²`. -/
theorem cx_sys_newton_step (G : E → E) (G' : E → E →L[ℂ] E) (B : Set E) (hB : Convex ℝ B)
    (x r : E) (L β : ℝ) (hx : x ∈ B) (hr : r ∈ B)
    (hG : ∀ z ∈ B, HasFDerivWithinAt G (G' z) B z)
    (hL : ∀ z ∈ B, ‖G' z - G' x‖ ≤ L * ‖z - x‖) (hroot : G r = 0)
    (A : E ≃L[ℂ] E) (hA : (A : E →L[ℂ] E) = G' x) (hAβ : ‖(A.symm : E →L[ℂ] E)‖ ≤ β) :
    ‖x - A.symm (G x) - r‖ ≤ β * L / 2 * ‖x - r‖ ^ 2 := by
  have h := newton_sys_step_core G (realD G') B hB x r L β 0 hx hr
    (fun z hz => (hG z hz).restrictScalars ℝ) (fun z hz => (norm_restrict_sub _ _).trans_le (hL z hz))
    hroot ((norm_nonneg _).trans hAβ) ((A : E →L[ℂ] E).restrictScalars ℝ) (bddBelow_of_symm A hAβ)
    ((norm_restrict_sub _ _).trans_le (by rw [hA, sub_self, norm_zero])) (x - A.symm (G x))
    (by rw [sub_sub_cancel, ContinuousLinearMap.coe_restrictScalars', ContinuousLinearEquiv.coe_coe,
      A.apply_symm_apply])
  exact h.trans_eq (by ring)

/-- hypotheses on `G` around the root `r`: COMPLEX differentiable within the closed ball of radius
    `ρ`, derivative `G'` `γ`-Lipschitz there -/
structure SysBallC (G : E → E) (G' : E → E →L[ℂ] E) (r : E) (ρ γ : ℝ) : Prop where
  hroot : G r = 0
  hγ : 0 ≤ γ
  hF : ∀ z ∈ Metric.closedBall r ρ, HasFDerivWithinAt G (G' z) (Metric.closedBall r ρ) z
  hL : ∀ x ∈ Metric.closedBall r ρ, ∀ z ∈ Metric.closedBall r ρ, ‖G' z - G' x‖ ≤ γ * ‖z - x‖

theorem SysBallC.toReal {G : E → E} {G' : E → E →L[ℂ] E} {r : E} {ρ γ : ℝ}
    (H : SysBallC G G' r ρ γ) : SysBall G (realD G') r ρ γ where
  hroot := H.hroot
  hγ := H.hγ
  hF := fun z hz => (H.hF z hz).restrictScalars ℝ
  hL := fun x hx z hz => (norm_restrict_sub _ _).trans_le (H.hL x hx z hz)

end AbstractC

theorem SysBallC.mono {E : Type*} [NormedAddCommGroup E] [NormedSpace ℂ E] {G : E → E}
    {G' : E → E →L[ℂ] E} {r : E} {ρ ρ' γ : ℝ}
    (H : SysBallC G G' r ρ' γ) (h : ρ ≤ ρ') : SysBallC G G' r ρ γ where
  hroot := H.hroot
  hγ := H.hγ
  hF := fun z hz => (H.hF z (Metric.closedBall_subset_closedBall h hz)).mono
    (Metric.closedBall_subset_closedBall h)
  hL := fun x hx z hz => H.hL x (Metric.closedBall_subset_closedBall h hx) z
    (Metric.closedBall_subset_closedBall h hz)

section ModelC

/-- the tower `ℝ, ℂ, ℂⁿ` that every use of `realD` on `ℂⁿ` asks for, as a direct instance -/
instance (n : ℕ) : IsScalarTower ℝ ℂ (Fin n → ℂ) := Pi.isScalarTower

/-- the vector of `ℂⁿ` of an array over `Cx ℝ` (coordinates beyond its size read as 0) -/
noncomputable def vecC (n : ℕ) (a : Array (Cx ℝ)) : Fin n → ℂ := fun j => toC (a.getD j 0)

/-- the closure `f` on arrays over `Cx ℝ` denotes `G : ℂⁿ → ℂⁿ` -/
def Denotes (n : ℕ) (f : Array (Cx ℝ) → Array (Cx ℝ)) (G : (Fin n → ℂ) → (Fin n → ℂ)) : Prop :=
  ∀ x : Array (Cx ℝ), x.size = n → (f x).size = n ∧ vecC n (f x) = G (vecC n x)

/-- the array over `Cx ℝ` of a vector of `ℂⁿ` -/
noncomputable def arrC {n : ℕ} (w : Fin n → ℂ) : Array (Cx ℝ) := Array.ofFn fun j => ofC (w j)

theorem vecC_arrC {n : ℕ} (w : Fin n → ℂ) : vecC n (arrC w) = w := by
  funext j
  simp [vecC, arrC, Array.getD]

theorem arrC_vecC {n : ℕ} {a : Array (Cx ℝ)} (h : a.size = n) : arrC (vecC n a) = a := by
  apply Array.ext
  · simp [arrC, h]
  · intro i h1 h2
    simp [arrC, vecC, Array.getD, h2]

/-- every `G` is denoted by some closure -/
theorem denotes_arrC {n : ℕ} (G : (Fin n → ℂ) → (Fin n → ℂ)) :
    Denotes n (fun a => arrC (G (vecC n a))) G := by
  intro x _
  exact ⟨by simp [arrC], vecC_arrC _⟩

theorem normInfC_vecC {n : ℕ} (hn : 1 ≤ n) {a : Array (Cx ℝ)} (ha : a.size = n) :
    Vec.normInfC a = .ok ‖vecC n a‖ := by
  obtain ⟨i, hi⟩ := exists_pi_norm_eq hn (vecC n a)
  have hi' : (i : ℕ) < a.size := by rw [ha]; exact i.2
  refine (C15.normInfC_ok_iff _ _).2
    ⟨fun k hk => ?_, i, hi', by simpa [vecC, Array.getD, hi'] using hi⟩
  have hk' : k < n := by rw [← ha]; exact hk
  simpa [vecC, Array.getD, hk] using norm_le_pi_norm (vecC n a) ⟨k, hk'⟩

/-- `matCLMK` (C17K) over ℂ, `n` explicit: the complex-linear map of an `n × n` matrix -/
noncomputable def matCLMc (n : ℕ) (e : ℕ → ℕ → ℂ) : (Fin n → ℂ) →L[ℂ] (Fin n → ℂ) :=
  LinearMap.toContinuousLinearMap (Matrix.toLin' (Matrix.of fun i j : Fin n => e i j))

theorem matCLMc_apply (n : ℕ) (e : ℕ → ℕ → ℂ) (v : Fin n → ℂ) (i : Fin n) :
    matCLMc n e v i = ∑ j : Fin n, e i j * v j :=
  matCLMK_apply e v i

theorem matCLMc_eq {n : ℕ} (e : ℕ → ℕ → ℂ) (A : (Fin n → ℂ) →L[ℂ] (Fin n → ℂ))
    (h : ∀ i j : Fin n, e i j = A (Pi.single j 1) i) : matCLMc n e = A :=
  matCLMK_eq e A h

/-- one iteration of the model over `Cx ℝ` is a (quasi-)Newton step in ℂⁿ: completeness and soundness
    of `solve_basic` over complex scalars (C01X) -/
theorem model_step_gen_cx {n : ℕ} (hn : 1 ≤ n) (f : Array (Cx ℝ) → Array (Cx ℝ))
    (cur : Array (Cx ℝ)) (hc : cur.size = n) (hfs : (f cur).size = n)
    {J : Mat (Cx ℝ)} {e : ℕ → ℕ → Cx ℝ} (hJ : Mat.Is J n n e) {β : ℝ}
    (hb : ∀ v, ‖v‖ ≤ β * ‖matCLMc n (fun i j => toC (e i j)) v‖) :
    ∃ dx cur', Vec.normInfC (f cur) = .ok ‖vecC n (f cur)‖ ∧
      Mat.solveBasic J (f cur) = .ok dx ∧ Vec.sub cur dx = .ok cur' ∧ cur'.size = n ∧
      matCLMc n (fun i j => toC (e i j)) (vecC n cur - vecC n cur') = vecC n (f cur) := by
  obtain ⟨dx, hdx⟩ := (C01.solveBasic_ok_iff_cx hn hJ hfs).2
    (det_ne_zero_of_bddBelow (fun i j => toC (e i j)) β hb)
  obtain ⟨hs, hsol⟩ := C01.solveBasic_sound_cx hn hJ hfs hdx
  obtain ⟨cur', s1, s2, s3⟩ := update_of_solution toC toC_sub hc hs hsol
  exact ⟨dx, cur', normInfC_vecC hn hfs, hdx, s1, s2, s3⟩

section ConvC
variable {n : ℕ}

theorem model_step_qstep_cx (hn : 1 ≤ n) (f : Array (Cx ℝ) → Array (Cx ℝ))
    (G : (Fin n → ℂ) → (Fin n → ℂ)) (hf : Denotes n f G)
    (G' : (Fin n → ℂ) → (Fin n → ℂ) →L[ℂ] (Fin n → ℂ)) (β₀ ε : ℝ) (hβ : 0 ≤ β₀)
    (hsmall : β₀ * ε < 1) (cur : Array (Cx ℝ)) (hc : cur.size = n)
    (hinv : ∀ v, ‖v‖ ≤ β₀ * ‖G' (vecC n cur) v‖)
    {J : Mat (Cx ℝ)} {e : ℕ → ℕ → Cx ℝ} (hJ : Mat.Is J n n e)
    (hε : ‖matCLMc n (fun i j => toC (e i j)) - G' (vecC n cur)‖ ≤ ε) :
    ∃ dx cur', Vec.normInfC (f cur) = .ok ‖G (vecC n cur)‖ ∧
      Mat.solveBasic J (f cur) = .ok dx ∧ Vec.sub cur dx = .ok cur' ∧ cur'.size = n ∧
      QStep G (realD G') (pertB β₀ ε) ε (vecC n cur) (vecC n cur') := by
  obtain ⟨hfs, hfG⟩ := hf cur hc
  have hb := bddBelow_perturb (G' (vecC n cur)) (matCLMc n (fun i j => toC (e i j))) β₀ ε hβ hinv
    hε hsmall
  obtain ⟨dx, cur', h1, h2, h3, h4, h5⟩ := model_step_gen_cx hn f cur hc hfs hJ hb
  rw [hfG] at h1 h5
  exact ⟨dx, cur', h1, h2, h3, h4, (matCLMc n (fun i j => toC (e i j))).restrictScalars ℝ, hb,
    (norm_restrict_sub _ _).trans_le hε, h5⟩

/-- **the model bridge for ONE iteration, supplied Jacobian**: if the supplied routine returned a
    well-formed `n × n` matrix over `Cx ℝ` whose `toC`-image is the matrix of `G'(cur)` and
    `G'(cur)` is bounded below by `1/β`, all four sub-computations of the iteration return, the
    tested number is `‖G(cur)‖∞`, and the new point `cur'` satisfies
    `G'(cur) (cur − cur') = G(cur)` in ℂⁿ: it IS the exact Newton update `cur − G'(cur)⁻¹ G(cur)`. -/
theorem model_step_supplied_cx (hn : 1 ≤ n) (f : Array (Cx ℝ) → Array (Cx ℝ))
    (G : (Fin n → ℂ) → (Fin n → ℂ)) (hf : Denotes n f G)
    (G' : (Fin n → ℂ) → (Fin n → ℂ) →L[ℂ] (Fin n → ℂ)) (β : ℝ) (cur : Array (Cx ℝ))
    (hc : cur.size = n) (hinv : ∀ v, ‖v‖ ≤ β * ‖G' (vecC n cur) v‖)
    {J : Mat (Cx ℝ)} {e : ℕ → ℕ → Cx ℝ} (hJ : Mat.Is J n n e)
    (he : ∀ i j : Fin n, toC (e i j) = G' (vecC n cur) (Pi.single j 1) i) :
    ∃ dx cur', Vec.normInfC (f cur) = .ok ‖G (vecC n cur)‖ ∧
      Mat.solveBasic J (f cur) = .ok dx ∧ Vec.sub cur dx = .ok cur' ∧ cur'.size = n ∧
      G' (vecC n cur) (vecC n cur - vecC n cur') = G (vecC n cur) := by
  obtain ⟨hfs, hfG⟩ := hf cur hc
  have hm := matCLMc_eq (fun i j => toC (e i j)) _ he
  obtain ⟨dx, cur', h1, h2, h3, h4, h5⟩ := model_step_gen_cx hn f cur hc hfs hJ (β := β)
    (by rw [hm]; exact hinv)
  rw [hm, hfG] at h5
  rw [hfG] at h1
  exact ⟨dx, cur', h1, h2, h3, h4, h5⟩

/-- **local convergence of the model's COMPLEX system Newton iteration, SUPPLIED Jacobian**
    (`Newton<Vector<Cmplx>>::solve_jacobian`; exact arithmetic, sup norm on `ℂⁿ`, `n ≥ 1`).  The
    closure `f` denotes `G : ℂⁿ → ℂⁿ`; `G` is complex differentiable with a `γ`-Lipschitz
    derivative on the ball `B(r, ρ)` around the root `r`, `‖G'(x)⁻¹‖∞ ≤ β` there (so `r` is a simple
    root and the complex `solve_basic` never refuses), the supplied routine returns at every point
    of the ball a well-formed matrix whose `toC`-image is the matrix of `G'`, and
    `q = β γ ρ / 2 < 1`.  From any guess in the ball, any `tol`, any budget `m`: the run returns;
    the returned point is never farther from `r` than the guess; a failure has error
    `≤ q^m ‖x₀ − r‖`; a success returns the Newton update `x` of an iterate `c` with
    `‖G c‖∞ ≤ tol`, `‖c − r‖ ≤ q^k ‖x₀ − r‖`, and `‖x − r‖ ≤ (βγ/2) ‖c − r‖² ≤ q ‖c − r‖`
    (QUADRATIC convergence), `(1 − q) ‖c − r‖ ≤ β tol`, `(1 − q) ‖x − r‖ ≤ q β tol` — a distance of
    the order of the tolerance; and success IS reported once
    `(‖G' r‖ + γρ/2) q^(m−1) ‖x₀ − r‖ ≤ tol`. -/
theorem solveSys_converges_supplied_cx (hn : 1 ≤ n) (f : Array (Cx ℝ) → Array (Cx ℝ))
    (G : (Fin n → ℂ) → (Fin n → ℂ)) (hf : Denotes n f G)
    (G' : (Fin n → ℂ) → (Fin n → ℂ) →L[ℂ] (Fin n → ℂ)) (r : Fin n → ℂ) (ρ γ β : ℝ)
    (H : SysBallC G G' r ρ γ) (hβ : 0 ≤ β)
    (hinv : ∀ x, ‖x - r‖ ≤ ρ → ∀ v, ‖v‖ ≤ β * ‖G' x v‖)
    (hq : β * γ * ρ / 2 < 1)
    (jacF : Array (Cx ℝ) → Res (Mat (Cx ℝ) × List (Array (Cx ℝ))))
    (hJac : ∀ cur : Array (Cx ℝ), cur.size = n → ‖vecC n cur - r‖ ≤ ρ → ∃ J jtr e,
      jacF cur = .ok (J, jtr) ∧ Mat.Is J n n e ∧
      ∀ i j : Fin n, toC (e i j) = G' (vecC n cur) (Pi.single j 1) i)
    (tol : ℝ) (m : ℕ) (guess : Array (Cx ℝ)) (hg : guess.size = n)
    (hg' : ‖vecC n guess - r‖ ≤ ρ) (tr : List (Array (Cx ℝ))) :
    ∃ out tr', solveSys f jacF Vec.normInfC (fun s => Transc.le s tol) m guess tr
        = .ok (out, tr') ∧
      out.x.size = n ∧ ‖vecC n out.x - r‖ ≤ ‖vecC n guess - r‖ ∧
      (out.ok = false → ‖vecC n out.x - r‖ ≤ (β * γ * ρ / 2) ^ m * ‖vecC n guess - r‖) ∧
      (out.ok = true → ∃ k c, k < m ∧ c.size = n ∧
        ‖vecC n c - r‖ ≤ (β * γ * ρ / 2) ^ k * ‖vecC n guess - r‖ ∧
        ‖G (vecC n c)‖ ≤ tol ∧
        ‖vecC n out.x - r‖ ≤ β * γ / 2 * ‖vecC n c - r‖ ^ 2 ∧
        ‖vecC n out.x - r‖ ≤ β * γ * ρ / 2 * ‖vecC n c - r‖ ∧
        (1 - β * γ * ρ / 2) * ‖vecC n c - r‖ ≤ β * tol ∧
        (1 - β * γ * ρ / 2) * ‖vecC n out.x - r‖ ≤ β * γ * ρ / 2 * (β * tol)) ∧
      (1 ≤ m → (‖G' r‖ + γ * ρ / 2) * (β * γ * ρ / 2) ^ (m - 1) * ‖vecC n guess - r‖ ≤ tol →
        out.ok = true) := by
  have h0 : β * 0 < 1 := by rw [mul_zero]; exact one_pos
  obtain ⟨out, tr', e, o1, o2, o3, o4, o5⟩ := solveSys_converges_gen (vecC n) G _ r ρ γ β 0
    H.toReal hβ le_rfl h0 hinv (by rw [pertB_zero, sysQ_zero]; exact hq) f Vec.normInfC jacF
    (by
      intro cur hc hcb
      obtain ⟨J, jtr, e, j1, j2, j3⟩ := hJac cur hc hcb
      obtain ⟨dx, cur', s⟩ := model_step_qstep_cx hn f G hf G' β 0 hβ h0 cur hc
        (hinv _ hcb) j2 (by rw [matCLMc_eq _ _ j3, sub_self, norm_zero])
      exact ⟨J, jtr, dx, cur', j1, s⟩)
    tol m guess hg hg' tr
  rw [norm_realD] at o5
  rw [pertB_zero, sysQ_zero] at o3 o4 o5
  refine ⟨out, tr', e, o1, o2, o3, fun ho => ?_, o5⟩
  obtain ⟨k, c, c0, c1, c2, c3, c4, c5, c6, c7⟩ := o4 ho
  exact ⟨k, c, c0, c1, c2, c3, c4.trans_eq (by ring), c5, c6, c7⟩

theorem cx_fd_column_error (G : (Fin n → ℂ) → (Fin n → ℂ))
    (G' : (Fin n → ℂ) → (Fin n → ℂ) →L[ℂ] (Fin n → ℂ)) (r : Fin n → ℂ) (ρ γ δ : ℝ)
    (H : SysBallC G G' r (ρ + |δ|) γ) (hδ : δ ≠ 0) (x : Fin n → ℂ) (hx : ‖x - r‖ ≤ ρ)
    (i j : Fin n) :
    ‖(G (x + Pi.single j (δ : ℂ)) i - G x i) / (δ : ℂ) - G' x (Pi.single j 1) i‖
      ≤ γ * |δ| / 2 := by
  have hd0 : (δ : ℂ) ≠ 0 := Complex.ofReal_ne_zero.2 hδ
  have hnd : ‖(δ : ℂ)‖ = |δ| := Complex.norm_real δ
  -- only the norm of the step `w = δ e_j` and `G'(x) w = δ · G'(x) e_j` are used
  obtain ⟨w, hw⟩ : ∃ w : Fin n → ℂ, w = Pi.single j (δ : ℂ) := ⟨_, rfl⟩
  obtain ⟨e, he⟩ : ∃ e : Fin n → ℂ, e = Pi.single j 1 := ⟨_, rfl⟩
  have hs : ‖w‖ = |δ| := by rw [hw, Pi.norm_single, hnd]
  have hlin : G' x w = (δ : ℂ) • G' x e := by
    rw [hw, he, ← (G' x).map_smul, ← Pi.single_smul, smul_eq_mul, mul_one]
  rw [← hw, ← he]
  have hx' : ‖x - r‖ ≤ ρ + |δ| := hx.trans (le_add_of_nonneg_right (abs_nonneg δ))
  have hy' : ‖x + w - r‖ ≤ ρ + |δ| := hs ▸ (NewtonAnalysis.norm_shift_le hx w).1
  have hT := H.toReal.taylor hx' hy'
  rw [add_sub_cancel_left, hs] at hT
  have hi := le_trans (norm_le_pi_norm _ i) hT
  have eq : (G (x + w) i - G x i) / (δ : ℂ) - G' x e i = (G (x + w) - G x - G' x w) i / (δ : ℂ) := by
    rw [hlin, Pi.sub_apply, Pi.sub_apply, Pi.smul_apply, smul_eq_mul, sub_div _ (_ * _),
      mul_div_cancel_left₀ _ hd0]
  rw [eq, norm_div, hnd, div_le_iff₀ (abs_pos.mpr hδ)]
  refine le_trans hi (le_of_eq ?_)
  ring

theorem vecC_modify {a : Array (Cx ℝ)} (ha : a.size = n) (j : Fin n) (d : ℝ) :
    vecC n (a.modify j (fun p => p + ⟨d, 0⟩)) = vecC n a + Pi.single j (d : ℂ) := by
  funext k
  have hk : (k : ℕ) < a.size := by rw [ha]; exact k.2
  by_cases h : (j : ℕ) = k
  · have hkj : k = j := Fin.ext h.symm
    subst hkj
    simp [vecC, Array.getD, hk, Array.getElem_modify, toC_add, toC_ofReal]
  · have hkj : ¬ k = j := fun e => h (by rw [e])
    simp [vecC, Array.getD, hk, Array.getElem_modify, h, hkj]

theorem jacobian_cmplx_denotes (f : Array (Cx ℝ) → Array (Cx ℝ))
    (G : (Fin n → ℂ) → (Fin n → ℂ)) (hf : Denotes n f G) (δ : ℝ) (hδ : δ ≠ 0)
    (cur : Array (Cx ℝ)) (hc : cur.size = n) :
    ∃ J jtr e, jacobian f cur (⟨δ, 0⟩ : Cx ℝ) = .ok (J, jtr) ∧ Mat.Is J n n e ∧
      ∀ i j : Fin n, toC (e i j)
        = (G (vecC n cur + Pi.single j (δ : ℂ)) i - G (vecC n cur) i) / (δ : ℂ) := by
  have hmod : ∀ j, (cur.modify j (fun p => p + (⟨δ, 0⟩ : Cx ℝ))).size = n := by
    intro j; rw [Array.size_modify, hc]
  obtain ⟨hfs, hfG⟩ := hf cur hc
  obtain ⟨J, h1, h2, h3, h4, h5⟩ := C18.jacobian_entries_cmplx f cur δ hδ
    (fun j _ => by rw [(hf _ (hmod j)).1, hfs])
  rw [hfs] at h2
  rw [hc] at h3
  have hIs : Mat.Is J n n (Mat.ent J) := Mat.WFn.is ⟨h4, h2, h3⟩
  refine ⟨J, _, Mat.ent J, h1, hIs, ?_⟩
  intro i j
  obtain ⟨hys, hyG⟩ := hf _ (hmod j)
  obtain ⟨q, hq1, hq2⟩ := h5 i j (by rw [hfs]; exact i.2) (by rw [hc]; exact j.2)
    (by rw [hys]; exact i.2)
  have hq : q = Mat.ent J i j := by
    have := hIs.entry i j i.2 j.2
    rw [hq1] at this
    exact Except.ok.inj this
  rw [← hq, hq2, ← vecC_modify hc j δ, ← hyG, ← hfG]
  have hi1 : (i : ℕ) < (f (cur.modify j (fun p => p + (⟨δ, 0⟩ : Cx ℝ)))).size := by
    rw [hys]; exact i.2
  have hi2 : (i : ℕ) < (f cur).size := by rw [hfs]; exact i.2
  simp [vecC, Array.getD, hi1, hi2]

/-- **local convergence of the model's COMPLEX system Newton iteration, FINITE-DIFFERENCE
    Jacobian** (`Newton<Vector<Cmplx>>::solve` with `jacobian_cmplx`, real step `δ ≠ 0` embedded
    as `δ + 0i`; exact arithmetic, sup norm on `ℂⁿ`, `n ≥ 1`).  As `solveSys_converges_supplied_cx`,
    with `G'` `γ`-Lipschitz on the slightly larger ball `B(r, ρ + |δ|)` (the Jacobian evaluates `G`
    at `x + δ e_j`): every entry of the computed Jacobian is within `γ|δ|/2` of `G'`
    (`cx_fd_column_error`), hence the matrix is within `ε = n γ |δ| / 2` in operator norm; if
    `β₀ ε < 1` it is nonsingular with inverse bounded by `β = β₀/(1 − β₀ ε)` (no hypothesis on the
    computed matrix is needed) and if `q = β (γρ/2 + ε) < 1` the conclusions of
    `solveSys_converges_gen` (C17K) hold: geometric decrease with ratio `q`, one-step estimate
    `‖x⁺ − r‖ ≤ β (γ/2 ‖x − r‖² + ε ‖x − r‖)` (quadratic up to the `O(δ)` linear term), success
    within a distance of the order of `tol`. -/
theorem solveSys_converges_fd_cx (hn : 1 ≤ n) (f : Array (Cx ℝ) → Array (Cx ℝ))
    (G : (Fin n → ℂ) → (Fin n → ℂ)) (hf : Denotes n f G)
    (G' : (Fin n → ℂ) → (Fin n → ℂ) →L[ℂ] (Fin n → ℂ)) (r : Fin n → ℂ) (ρ γ β₀ δ : ℝ)
    (H : SysBallC G G' r (ρ + |δ|) γ) (hβ : 0 ≤ β₀) (hδ : δ ≠ 0)
    (hsmall : β₀ * (n * (γ * |δ| / 2)) < 1)
    (hinv : ∀ x, ‖x - r‖ ≤ ρ → ∀ v, ‖v‖ ≤ β₀ * ‖G' x v‖)
    (hq : sysQ (pertB β₀ (n * (γ * |δ| / 2))) γ ρ (n * (γ * |δ| / 2)) < 1)
    (tol : ℝ) (m : ℕ) (guess : Array (Cx ℝ)) (hg : guess.size = n)
    (hg' : ‖vecC n guess - r‖ ≤ ρ) (tr : List (Array (Cx ℝ))) :
    ∃ out tr', solveSys f (fun x => jacobian f x (⟨δ, 0⟩ : Cx ℝ)) Vec.normInfC
        (fun s => Transc.le s tol) m guess tr = .ok (out, tr') ∧
      out.x.size = n ∧ ‖vecC n out.x - r‖ ≤ ‖vecC n guess - r‖ ∧
      (out.ok = false → ‖vecC n out.x - r‖
        ≤ sysQ (pertB β₀ (n * (γ * |δ| / 2))) γ ρ (n * (γ * |δ| / 2)) ^ m * ‖vecC n guess - r‖) ∧
      (out.ok = true → ∃ k c, k < m ∧ c.size = n ∧
        ‖vecC n c - r‖
          ≤ sysQ (pertB β₀ (n * (γ * |δ| / 2))) γ ρ (n * (γ * |δ| / 2)) ^ k * ‖vecC n guess - r‖ ∧
        ‖G (vecC n c)‖ ≤ tol ∧
        ‖vecC n out.x - r‖ ≤ pertB β₀ (n * (γ * |δ| / 2)) *
          (γ / 2 * ‖vecC n c - r‖ ^ 2 + n * (γ * |δ| / 2) * ‖vecC n c - r‖) ∧
        ‖vecC n out.x - r‖
          ≤ sysQ (pertB β₀ (n * (γ * |δ| / 2))) γ ρ (n * (γ * |δ| / 2)) * ‖vecC n c - r‖ ∧
        (1 - β₀ * γ * ρ / 2) * ‖vecC n c - r‖ ≤ β₀ * tol ∧
        (1 - β₀ * γ * ρ / 2) * ‖vecC n out.x - r‖
          ≤ sysQ (pertB β₀ (n * (γ * |δ| / 2))) γ ρ (n * (γ * |δ| / 2)) * (β₀ * tol)) ∧
      (1 ≤ m → (‖G' r‖ + γ * ρ / 2) *
          sysQ (pertB β₀ (n * (γ * |δ| / 2))) γ ρ (n * (γ * |δ| / 2)) ^ (m - 1) *
          ‖vecC n guess - r‖ ≤ tol → out.ok = true) := by
  have hη : 0 ≤ γ * |δ| / 2 := div_nonneg (mul_nonneg H.hγ (abs_nonneg δ)) zero_le_two
  rw [← norm_realD G' r]
  refine solveSys_converges_gen (vecC n) G (realD G') r ρ γ β₀ (n * (γ * |δ| / 2))
    (H.mono (le_add_of_nonneg_right (abs_nonneg δ))).toReal hβ (mul_nonneg n.cast_nonneg hη) hsmall
    hinv hq f Vec.normInfC _
    (fun cur hc hcb => ?_) tol m guess hg hg' tr
  obtain ⟨J, jtr, e, j1, j2, j3⟩ := jacobian_cmplx_denotes f G hf δ hδ cur hc
  obtain ⟨dx, cur', s⟩ := model_step_qstep_cx hn f G hf G' β₀ _ hβ hsmall cur hc (hinv _ hcb) j2
    (opNorm_sub_le_of_entries (fun i j => toC (e i j)) _ _ hη (fun i j => by
      rw [j3 i j]
      exact cx_fd_column_error G G' r ρ γ δ H hδ (vecC n cur) hcb i j))
  exact ⟨J, jtr, dx, cur', j1, s⟩

end ConvC

end ModelC

section ExamplesC

/-- `G(z, w) = (z² + w, z + w² − (1 + i))`, simple root `(i, 1)` -/
noncomputable def exWG : (Fin 2 → ℂ) → (Fin 2 → ℂ) :=
  fun v => ![v 0 ^ 2 + v 1, v 0 + v 1 ^ 2 - (1 + Complex.I)]

/-- the root `(i, 1)` -/
noncomputable def exWr : Fin 2 → ℂ := ![Complex.I, 1]

/-- its Jacobian matrix `[[2z, 1], [1, 2w]]` -/
noncomputable def exWGJ (x : Fin 2 → ℂ) : ℕ → ℕ → ℂ := fun i j =>
  if i = 0 then (if j = 0 then 2 * x 0 else 1) else (if j = 0 then 1 else 2 * x 1)

noncomputable def exWG' (x : Fin 2 → ℂ) : (Fin 2 → ℂ) →L[ℂ] (Fin 2 → ℂ) := matCLMc 2 (exWGJ x)

theorem exWG'_apply (x v : Fin 2 → ℂ) :
    exWG' x v = ![2 * x 0 * v 0 + v 1, v 0 + 2 * x 1 * v 1] := by
  funext i
  fin_cases i <;> simp [exWG', matCLMc_apply, Fin.sum_univ_two, exWGJ]

theorem exWG_hasFDerivAt (x : Fin 2 → ℂ) : HasFDerivAt exWG (exWG' x) x := by
  have p0 := hasFDerivAt_apply (𝕜 := ℂ) (0 : Fin 2) x
  have p1 := hasFDerivAt_apply (𝕜 := ℂ) (1 : Fin 2) x
  rw [hasFDerivAt_pi']
  intro i
  fin_cases i
  · exact ((p0.pow 2).add p1).congr_fderiv (by ext v; simp [exWG'_apply])
  · exact ((p0.add (p1.pow 2)).sub_const (1 + Complex.I)).congr_fderiv
      (by ext v; simp [exWG'_apply])

theorem exWG'_lipschitz (x z : Fin 2 → ℂ) : ‖exWG' z - exWG' x‖ ≤ 2 * ‖z - x‖ := by
  refine ContinuousLinearMap.opNorm_le_bound _ (by positivity) (fun v => ?_)
  rw [pi_norm_le_iff_of_nonneg (by positivity)]
  intro i
  have hz := norm_le_pi_norm (z - x) i
  have hv := norm_le_pi_norm v i
  have key : (exWG' z - exWG' x) v i = 2 * (z - x) i * v i := by
    rw [sub_apply, exWG'_apply, exWG'_apply]
    fin_cases i <;> simp <;> ring
  rw [key, norm_mul, norm_mul]
  have h2 : ‖(2 : ℂ)‖ = 2 := by simp
  rw [h2]
  have := mul_le_mul hz hv (norm_nonneg _) (norm_nonneg _)
  linarith

/-- at the root `(i, 1)` the Jacobian `[[2i, 1], [1, 2]]` (determinant `4i − 1`, not real) has
    `‖·⁻¹‖∞ = 3/√17 ≤ 3/4` -/
theorem exWG'_root_bddBelow (v : Fin 2 → ℂ) : ‖v‖ ≤ 3 / 4 * ‖exWG' exWr v‖ := by
  rw [pi_norm_le_iff_of_nonneg (by positivity)]
  obtain ⟨u, hu⟩ : ∃ u, u = exWG' exWr v := ⟨_, rfl⟩
  rw [← hu]
  have h0 := norm_le_pi_norm u 0
  have h1 := norm_le_pi_norm u 1
  have e0 : u 0 = 2 * Complex.I * v 0 + v 1 := by rw [hu, exWG'_apply]; simp [exWr]
  have e1 : u 1 = v 0 + 2 * v 1 := by rw [hu, exWG'_apply]; simp [exWr]
  have hk : (4 : ℝ) ≤ ‖(4 * Complex.I - 1 : ℂ)‖ := by
    simpa using Complex.abs_im_le_norm (4 * Complex.I - 1 : ℂ)
  have h2 : ‖(2 : ℂ)‖ = 2 := by simp
  -- Cramer's rule: `(4i - 1) v_k` combines `u 0`, `u 1` with coefficients of modulus 2 and 1
  have key : ∀ a b : ℂ, (4 * Complex.I - 1) * a = b → ‖b‖ ≤ 3 * ‖u‖ → ‖a‖ ≤ 3 / 4 * ‖u‖ :=
    fun a b e hb => by
      have := mul_le_mul_of_nonneg_right hk (norm_nonneg a)
      rw [← norm_mul, e] at this
      linarith
  intro i
  fin_cases i
  · refine key (v 0) (2 * u 0 - u 1) (by rw [e0, e1]; ring) ((norm_sub_le _ _).trans ?_)
    rw [norm_mul, h2]
    linarith
  · refine key (v 1) (2 * Complex.I * u 1 - u 0) (by rw [e0, e1]; ring)
      ((norm_sub_le _ _).trans ?_)
    rw [norm_mul, norm_mul, h2, Complex.norm_I, mul_one]
    linarith

theorem exWG_sysBall (ρ : ℝ) : SysBallC exWG exWG' exWr ρ 2 where
  hroot := by
    funext i
    fin_cases i
    · simp [exWG, exWr]
    · simp [exWG, exWr]; ring
  hγ := by norm_num
  hF := fun z _ => (exWG_hasFDerivAt z).hasFDerivWithinAt
  hL := fun x _ z _ => exWG'_lipschitz x z

/-- on the ball of radius `1/8 + 1/1000` around `(i, 1)`: `‖G'(x)⁻¹‖∞ ≤ 1` (perturbation lemma:
    `(3/4) / (1 − (3/4)·2·(1/8 + 1/1000)) ≤ 1`) -/
theorem exWG'_bddBelow (x : Fin 2 → ℂ) (hx : ‖x - exWr‖ ≤ 1 / 8 + 1 / 1000) (v : Fin 2 → ℂ) :
    ‖v‖ ≤ 1 * ‖exWG' x v‖ := by
  refine (bddBelow_perturb (exWG' exWr) (exWG' x) (3 / 4) (2 * (1 / 8 + 1 / 1000)) (by norm_num)
    exWG'_root_bddBelow ((exWG'_lipschitz exWr x).trans (mul_le_mul_of_nonneg_left hx zero_le_two))
    (by norm_num) v).trans (mul_le_mul_of_nonneg_right (by norm_num) (norm_nonneg _))

/-- the user closure of `G`, written with the model's complex operations -/
def exWf (x : Array (Cx ℝ)) : Array (Cx ℝ) :=
  #[x.getD 0 0 * x.getD 0 0 + x.getD 1 0, x.getD 0 0 + x.getD 1 0 * x.getD 1 0 - ⟨1, 1⟩]

theorem exWf_denotes : Denotes 2 exWf exWG := by
  intro x _
  refine ⟨rfl, ?_⟩
  funext i
  fin_cases i
  · simp [vecC, exWf, exWG, toC_add, toC_mul, pow_two]
  · simp [vecC, exWf, exWG, toC_add, toC_mul, toC_sub, pow_two]
    apply Complex.ext <;> simp [toC]

/-- the user-supplied Jacobian routine of `G` -/
def exWJac : Array (Cx ℝ) → Res (Mat (Cx ℝ) × List (Array (Cx ℝ))) :=
  fun a => .ok (⟨#[⟨2, 0⟩ * a.getD 0 0, ⟨1, 0⟩, ⟨1, 0⟩, ⟨2, 0⟩ * a.getD 1 0], 2, 2⟩, [])

theorem exWJac_spec (cur : Array (Cx ℝ)) : ∃ J jtr e, exWJac cur = .ok (J, jtr) ∧ Mat.Is J 2 2 e ∧
    ∀ i j : Fin 2, toC (e i j) = exWG' (vecC 2 cur) (Pi.single j 1) i := by
  refine ⟨_, _, _, rfl, Mat.WFn.is ⟨rfl, rfl, rfl⟩, fun i j => ?_⟩
  have h2 : toC (⟨2, 0⟩ : Cx ℝ) = 2 := rfl
  have h1 : toC (⟨1, 0⟩ : Cx ℝ) = 1 := rfl
  refine Eq.trans ?_ (matCLMK_single (exWGJ (vecC 2 cur)) i j).symm
  fin_cases i <;> fin_cases j <;> simp [Mat.ent, exWGJ, vecC, toC_mul, h1, h2]

/-- the guess `(1/10 + i, 1 − i/10)` -/
noncomputable def exWGuess : Array (Cx ℝ) := #[⟨1 / 10, 1⟩, ⟨1, -1 / 10⟩]

theorem exWGuess_mem : ‖vecC 2 exWGuess - exWr‖ ≤ 1 / 8 := by
  rw [pi_norm_le_iff_of_nonneg (by norm_num)]
  intro i
  refine le_trans (Complex.norm_le_abs_re_add_abs_im _) ?_
  fin_cases i
  · simp [vecC, exWGuess, exWr, toC]
    norm_num
  · simp [vecC, exWGuess, exWr, toC]
    rw [abs_of_neg (by norm_num : (-1 / 10 : ℝ) < 0)]
    norm_num

/-- **non-vacuity, supplied Jacobian**: `G(z, w) = (z² + w, z + w² − (1 + i))` near its simple
    NON-REAL root `(i, 1)`: `ρ = 1/8`, `γ = 2`, `β = 1`, `q = 1/8`.  From the guess
    `(1/10 + i, 1 − i/10)` the model's complex `solve_jacobian` returns for every `tol` and every
    budget, stays within `1/8` of the root, a failure has error `≤ (1/8)^m / 8`, and a reported
    success is within `tol / 7` of the root. -/
example (tol : ℝ) (m : ℕ) :
    ∃ out tr', solveSys exWf exWJac Vec.normInfC (fun s => Transc.le s tol) m exWGuess []
        = .ok (out, tr') ∧
      ‖vecC 2 out.x - exWr‖ ≤ 1 / 8 ∧
      (out.ok = false → ‖vecC 2 out.x - exWr‖ ≤ (1 / 8) ^ m * (1 / 8)) ∧
      (out.ok = true → ‖vecC 2 out.x - exWr‖ ≤ 1 / 7 * tol) := by
  obtain ⟨out, tr', e, _, o2, o3, o4, _⟩ := solveSys_converges_supplied_cx (n := 2) (by norm_num)
    exWf exWG exWf_denotes exWG' exWr (1 / 8) 2 1 (exWG_sysBall _) (by norm_num)
    (fun x hx => exWG'_bddBelow x (hx.trans (by norm_num))) (by norm_num)
    exWJac (fun cur _ _ => exWJac_spec cur) tol m exWGuess rfl exWGuess_mem []
  have hq : (1 : ℝ) * 2 * (1 / 8) / 2 = 1 / 8 := by norm_num
  rw [hq] at o3 o4
  refine ⟨out, tr', e, le_trans o2 exWGuess_mem, fun ho => le_trans (o3 ho) ?_, fun ho => ?_⟩
  · exact mul_le_mul_of_nonneg_left exWGuess_mem (by positivity)
  · obtain ⟨k, c, _, _, _, _, _, _, _, c7⟩ := o4 ho
    exact ((le_div_iff₀' (by norm_num)).mpr c7).trans_eq (by ring)

/-- **non-vacuity, `jacobian_cmplx`**: the same system with the real step `δ = 1/1000`
    (`ε = 1/500`, `β = 500/499`, `q = 127/998`): the model's complex `solve` returns from the guess
    `(1/10 + i, 1 − i/10)` for every `tol` and budget, stays within `1/8` of the root, a failure
    has error `≤ (127/998)^m / 8`, a reported success is within `(8/7)(127/998) tol`. -/
example (tol : ℝ) (m : ℕ) :
    ∃ out tr', solveSys exWf (fun x => jacobian exWf x (⟨1 / 1000, 0⟩ : Cx ℝ)) Vec.normInfC
        (fun s => Transc.le s tol) m exWGuess [] = .ok (out, tr') ∧
      ‖vecC 2 out.x - exWr‖ ≤ 1 / 8 ∧
      (out.ok = false → ‖vecC 2 out.x - exWr‖ ≤ (127 / 998) ^ m * (1 / 8)) ∧
      (out.ok = true → ‖vecC 2 out.x - exWr‖ ≤ 8 / 7 * (127 / 998 * tol)) := by
  have hδ : |(1 / 1000 : ℝ)| = 1 / 1000 := abs_of_pos (by norm_num)
  have hε : ((2 : ℕ) : ℝ) * (2 * |(1 / 1000 : ℝ)| / 2) = 1 / 500 := by rw [hδ]; norm_num
  have hB : pertB 1 (1 / 500) = 500 / 499 := by rw [pertB]; norm_num
  have hQ : sysQ (500 / 499) 2 (1 / 8) (1 / 500) = 127 / 998 := by rw [sysQ]; norm_num
  obtain ⟨out, tr', e, _, o2, o3, o4, _⟩ := solveSys_converges_fd_cx (n := 2) (by norm_num) exWf
    exWG exWf_denotes exWG' exWr (1 / 8) 2 1 (1 / 1000) (exWG_sysBall _) (by norm_num)
    (by norm_num) (by rw [hε]; norm_num)
    (fun x hx => exWG'_bddBelow x (hx.trans (by norm_num))) (by rw [hε, hB, hQ]; norm_num)
    tol m exWGuess rfl exWGuess_mem []
  rw [hε, hB, hQ] at o3 o4
  refine ⟨out, tr', e, le_trans o2 exWGuess_mem, fun ho => le_trans (o3 ho) ?_, fun ho => ?_⟩
  · exact mul_le_mul_of_nonneg_left exWGuess_mem (by positivity)
  · obtain ⟨k, c, _, _, _, _, _, _, _, c7⟩ := o4 ho
    exact ((le_div_iff₀' (by norm_num)).mpr c7).trans_eq (by ring)

end ExamplesC

end Ohsl.Props.C17
