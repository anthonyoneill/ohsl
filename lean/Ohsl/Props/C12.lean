/-
  Property C12 — polynomial division (model: Ohsl/Model/Poly.lean, `polydiv`, `divStep`, `divLoop`).
  Proved here: (S) division by the empty or all-zero polynomial is reported as an error (`none`),
  never a panic, for ANY scalar type.
-/
import Ohsl.Model.Poly
namespace Ohsl.Props.C12
open Ohsl Ohsl.Poly

section
variable {K : Type} [Add K] [Sub K] [Mul K] [Neg K] [Zero K] [BEq K] [ScalarExt K]

theorem polydiv_rejects_zero (u v : Array K) (h : isZero v = true) : polydiv u v = .ok none := by
  unfold polydiv
  by_cases h0 : v.size = 0
  · simp [h0]
  · simp [h0, h]

end

variable {K : Type} [Add K] [Sub K] [Mul K] [Neg K] [Zero K] [One K] [BEq K] [ScalarExt K]

set_option linter.unusedSectionVars false in
theorem polydiv_rejects_empty (u : Array K) : polydiv u (#[] : Array K) = .ok none := by
  simp [polydiv]

set_option linter.unusedSectionVars false in
/-- the dividend that is already zero (or empty) is returned as remainder with an empty quotient -/
theorem polydiv_zero_dividend (u v : Array K) (hv : v.size ≠ 0) (hz : isZero v = false) (hu : isZero u = true) :
    polydiv u v = .ok (some (#[], u)) := by
  simp [polydiv, hv, hz, divLoop, hu]

end Ohsl.Props.C12
