/-
  Property C05 — tridiagonal matrix (model: Ohsl/Model/Tridiag.lean).
  Proved here, class (S) (any scalar type): element access maps (i,j) to one of the three
  diagonals and rejects everything else; transpose exchanges sub- and super-diagonal; the 1×1
  product is the diagonal entry alone; `solve` refuses a zero leading pivot and a right-hand side of
  the wrong length instead of returning a value.
  `WF` is the storage invariant every C05 file assumes.
-/
import Ohsl.Model.Tridiag
import Ohsl.Lemmas.MatIdx
set_option linter.unusedSectionVars false
namespace Ohsl.Props.C05
open Ohsl Ohsl.Tri

section Storage
variable {K : Type}

/-- storage invariant: `sub`, `main`, `sup` have n-1, n, n-1 entries, n ≥ 1 -/
structure WF (t : Tri K) : Prop where
  pos : 1 ≤ t.n
  main : t.main.size = t.n
  sub : t.sub.size = t.n - 1
  sup : t.sup.size = t.n - 1

theorem WF.mid {t : Tri K} (h : WF t) {k : Nat} (hk2 : k < t.n - 1) :
    k - 1 < t.sub.size ∧ k < t.main.size ∧ k < t.sup.size ∧ k - 1 < t.n ∧ k < t.n ∧ k + 1 < t.n :=
  have c : k + 1 < t.n := Nat.add_lt_of_lt_sub hk2
  have c' : k < t.n := Nat.lt_of_succ_lt c
  ⟨h.sub ▸ Nat.lt_of_le_of_lt (Nat.sub_le k 1) hk2, h.main ▸ c', h.sup ▸ hk2,
    Nat.lt_of_le_of_lt (Nat.sub_le k 1) c', c', c⟩

theorem WF.step {t : Tri K} (h : WF t) {m : Nat} (hk : m + 1 < t.n) :
    m < t.sup.size ∧ m < t.sub.size ∧ m + 1 < t.main.size :=
  have c := Nat.lt_sub_of_add_lt hk
  ⟨h.sup ▸ c, h.sub ▸ c, h.main ▸ hk⟩

theorem rows_of_slot {n k : Nat} (hk : k < n - 1) : k < n ∧ k + 1 < n :=
  have c := Nat.add_lt_of_lt_sub hk
  ⟨Nat.lt_of_succ_lt c, c⟩

theorem WF.ends {t : Tri K} (h : WF t) (h1 : ¬ t.n = 1) :
    0 < t.sup.size ∧ t.n - 2 < t.sub.size ∧ t.n - 1 < t.main.size ∧ 1 < t.n ∧ t.n - 2 < t.n ∧
      t.n - 1 < t.n :=
  have c : 1 < t.n := Nat.lt_of_le_of_ne h.pos (Ne.symm h1)
  ⟨h.sup ▸ Nat.sub_pos_of_lt c, h.sub ▸ Nat.sub_lt_sub_left c (Nat.lt_succ_self 1),
    Nat.lt_of_lt_of_eq (Nat.sub_lt h.pos Nat.one_pos) h.main.symm, c,
    Nat.sub_lt h.pos (Nat.succ_pos 1),
    Nat.sub_lt h.pos Nat.one_pos⟩

end Storage

variable {K : Type} [Add K] [Sub K] [Mul K] [Neg K] [Zero K] [One K] [BEq K] [ScalarExt K]

theorem withVecs_wf (sub main sup : Array K) (hn : 1 ≤ main.size) (h1 : sub.size = main.size - 1)
    (h2 : sup.size = main.size - 1) : ∃ t, withVecs sub main sup = .ok t ∧ WF t ∧ t.n = main.size := by
  refine ⟨⟨sub, main, sup, main.size⟩, ?_, ⟨hn, rfl, h1, h2⟩, rfl⟩
  simp [withVecs, usub, hn, h1, h2, bind, Except.bind, pure, Except.pure]

theorem withVecs_rejects (sub main sup : Array K) (h : main.size = 0 ∨ sub.size ≠ main.size - 1 ∨ sup.size ≠ main.size - 1) :
    ∃ e, withVecs sub main sup = .error e := by
  unfold withVecs usub
  by_cases h0 : 1 ≤ main.size
  · have h' : sub.size ≠ main.size - 1 ∨ sup.size ≠ main.size - 1 := by omega
    exact ⟨.size, by simp [h0, h', bind, Except.bind]⟩
  · exact ⟨.arith, by simp [h0, bind, Except.bind]⟩

set_option linter.unusedVariables false in
/-- index operator: the three in-band cases, everything else is rejected -/
theorem get_spec (t : Tri K) (h : WF t) (i j : Nat) :
    (i < t.n → j = i → get t i j = aget t.main i) ∧
    (i < t.n → j + 1 = i → get t i j = aget t.sub j) ∧
    (j < t.n → i + 1 = j → get t i j = aget t.sup i) ∧
    ((i ≥ t.n ∨ j ≥ t.n ∨ (i ≠ j ∧ i ≠ j + 1 ∧ i + 1 ≠ j)) → get t i j = .error .range) := by
  refine ⟨?_, ?_, ?_, ?_⟩
  · intro hi hj
    subst hj
    have h0 : ¬ t.n ≤ j := by omega
    simp [Tri.get, h0]
  · intro hi hj
    subst hj
    have h1 : ¬ (j + 1 ≥ t.n ∨ j ≥ t.n) := by omega
    simp [Tri.get, h1]
  · intro hj hij
    subst hij
    have h1 : ¬ (i ≥ t.n ∨ i + 1 ≥ t.n) := by omega
    have h3 : ¬ i = i + 1 + 1 := by omega
    simp [Tri.get, h1, h3]
  · intro hc
    unfold Tri.get
    by_cases h1 : i ≥ t.n ∨ j ≥ t.n
    · simp [h1]
    · have : i ≠ j ∧ i ≠ j + 1 ∧ i + 1 ≠ j := by
        rcases hc with hc | hc | hc
        · exact absurd (Or.inl hc) h1
        · exact absurd (Or.inr hc) h1
        · exact hc
      simp [h1, this.1, this.2.1, this.2.2]

/-- in-band reads of a well-formed matrix never fail -/
theorem get_inband_ok (t : Tri K) (h : WF t) (i j : Nat) (hi : i < t.n) (hj : j < t.n)
    (hb : i = j ∨ i = j + 1 ∨ i + 1 = j) : ∃ v, get t i j = .ok v := by
  rcases hb with hb | hb | hb
  · subst hb
    rw [(get_spec t h i i).1 hi rfl]
    exact ⟨_, Mat.aget_ok (by rw [h.main]; exact hi)⟩
  · rw [(get_spec t h i j).2.1 hi hb.symm]
    exact ⟨_, Mat.aget_ok (by rw [h.sub]; omega)⟩
  · rw [(get_spec t h i j).2.2.1 hj hb]
    exact ⟨_, Mat.aget_ok (by rw [h.sup]; omega)⟩

/-- transpose = exchange of sub- and super-diagonal, hence (Tᵀ)[i,j] = T[j,i] -/
theorem transpose_get (t : Tri K) (i j : Nat) : get (transpose t) i j = get t j i := by
  unfold Tri.get transpose
  by_cases h1 : i ≥ t.n ∨ j ≥ t.n
  · have h1' : j ≥ t.n ∨ i ≥ t.n := h1.symm
    simp [h1, h1']
  · have h1' : ¬ (j ≥ t.n ∨ i ≥ t.n) := fun h => h1 h.symm
    simp only [h1, h1', if_false]
    by_cases e : i = j
    · subst e; simp
    · have e' : ¬ j = i := fun h => e h.symm
      simp only [e, e', if_false]
      by_cases a : i = j + 1
      · subst a
        have : ¬ j = j + 1 + 1 := by omega
        simp [this]
      · by_cases b : i + 1 = j
        · subst b
          simp [a]
        · have : ¬ j = i + 1 := fun h => b h.symm
          have c : ¬ j + 1 = i := fun h => a h.symm
          simp [a, b, this, c]

theorem transpose_transpose (t : Tri K) : transpose (transpose t) = t := by
  cases t; rfl

/-- every size n ≥ 1 including n = 1: the 1×1 product is `main[0] * v[0]` -/
theorem mulVec_one (t : Tri K) (v : Array K) (hn : t.n = 1) (hv : v.size = 1) (m0 v0 : K)
    (hm : t.main[0]? = some m0) (hx : v[0]? = some v0) : mulVec t v = .ok #[m0 * v0] := by
  have e1 : aget t.main 0 = .ok m0 := Mat.aget_eq_ok.mpr hm
  have e2 : aget v 0 = .ok v0 := Mat.aget_eq_ok.mpr hx
  simp [mulVec, hn, hv, e1, e2, aset, bind, Except.bind]

theorem mulVec_rejects (t : Tri K) (v : Array K) (h : t.n ≠ v.size) : mulVec t v = .error .size := by
  simp [mulVec, h]

/-- `solve` refuses instead of lying: wrong length, or a zero leading pivot -/
theorem solve_rejects_size (t : Tri K) (r : Array K) (h : t.n ≠ r.size) : solve t r = .error .size := by
  simp [solve, h]

theorem solve_refuses_zero_lead (t : Tri K) (r : Array K) (h : t.n = r.size) (m0 : K)
    (hm : t.main[0]? = some m0) (hz : (m0 == 0) = true) : solve t r = .error .zeroPivot := by
  have e1 : aget t.main 0 = .ok m0 := Mat.aget_eq_ok.mpr hm
  have : ¬ t.n ≠ r.size := by omega
  simp [solve, this, e1, hz, bind, Except.bind]

end Ohsl.Props.C05
