/-
  Property C02 (continued) — `lu_decomp_in_place`, `determinant()` and `inverse()` against exact
  linear algebra for EVERY exact element type, complex scalars included.
  Model: Ohsl/Model/Solve.lean.  See the head of Ohsl/Props/C01X.lean for the set-up.

  Generic theorems (`…_gen`): `K` any field with ANY `ScalarExt K` / lawful `BEq K` satisfying
  `Alg.PivotLaws K`.  C02D is the instance `Alg.pivotLaws` (ordered field, `|·|`).

  Complex theorems (`…_cx`): matrices over the model's `Cx ℝ` with the model's own instances
  (`mag z = |z| + 0i`, lexicographic `<`, `Cx.div`, `Cx.beq`).  Determinants, products and the
  identity matrix are Mathlib's over ℂ, through `toC : Cx ℝ → ℂ`:
  `toCMat n a = Matrix.of fun i j : Fin n => toC (a i j)`, `detC n a = Matrix.det (toCMat n a)`.
-/
import Ohsl.Props.C02D
import Ohsl.Props.C01X
import Ohsl.Lemmas.CxField
set_option linter.unusedSectionVars false
namespace Ohsl.Props.C02
open Ohsl Ohsl.Mat

section Gen
variable {K : Type} [Field K] [BEq K] [LawfulBEq K] [ScalarExt K] [DecidableEq K]
  [Alg.PivotLaws K]

/-- the in-place LU factorisation with partial pivoting never fails on a well-formed square
    matrix and returns well-formed `n × n` factors and permutation -/
theorem luDecomp_total_gen {A : Mat K} {n : Nat} {a : Nat → Nat → K} (h : Mat.Is A n n a) :
    ∃ s, luDecomp A = .ok s ∧ s.lu.WF ∧ s.lu.rows = n ∧ s.lu.cols = n ∧
      s.perm.WF ∧ s.perm.rows = n ∧ s.perm.cols = n := by
  obtain ⟨s, w, pe, hs, hw, hpe, _⟩ := Mat.luDecomp_spec h
  exact ⟨s, hs, hw.wf, hw.rows, hw.cols, hpe.wf, hpe.rows, hpe.cols⟩

/-- **`lu_decomp_in_place` factorises**: `P·A = L·U`, `det P = (-1)^pivots`,
    `det U = (-1)^pivots · det A` (`L = Mat.Lfn w` unit lower, `U = Mat.Umat n n w`). -/
theorem luDecomp_correct_gen {A : Mat K} {n : Nat} {a : Nat → Nat → K} (h : Mat.Is A n n a) :
    ∃ (s : LU K) (w pe : Nat → Nat → K), luDecomp A = .ok s ∧ Mat.Is s.lu n n w ∧
      Mat.Is s.perm n n pe ∧
      Mat.toMat n pe * Mat.toMat n a = Mat.toMat n (Mat.Lfn w) * Mat.Umat n n w ∧
      Matrix.det (Mat.toMat n pe) = (-1) ^ s.pivots ∧
      Matrix.det (Mat.Umat n n w) = (-1) ^ s.pivots * Matrix.det (Mat.toMat n a) :=
  Mat.luDecomp_spec h

/-- MAIN THEOREM, any exact element type: `determinant` returns a value, and that value is the
    determinant -/
theorem determinant_correct_gen {A : Mat K} {n : Nat} {a : Nat → Nat → K} (h : Mat.Is A n n a) :
    ∃ d, Mat.determinant A = .ok d ∧
      d = Matrix.det (Matrix.of fun (i j : Fin n) => a i.val j.val) :=
  ⟨_, determinant_spec h, rfl⟩

/-- a singular matrix is not an error: the result is exactly 0 -/
theorem determinant_singular_gen {A : Mat K} {n : Nat} {a : Nat → Nat → K} (h : Mat.Is A n n a)
    (hs : Matrix.det (Matrix.of fun (i j : Fin n) => a i.val j.val) = 0) :
    Mat.determinant A = .ok 0 := by
  rw [determinant_spec h, hs]

/-- **`inverse()` computes the inverse**: `det A ≠ 0 → inverse A = .ok B`, `A·B = 1`, `B·A = 1` -/
theorem inverse_correct_gen {A : Mat K} {n : Nat} {a : Nat → Nat → K} (h : Mat.Is A n n a)
    (hdet : Matrix.det (Mat.toMat n a) ≠ 0) :
    ∃ (B : Mat K) (b : Nat → Nat → K), Mat.inverse A = .ok B ∧ Mat.Is B n n b ∧
      Mat.toMat n a * Mat.toMat n b = 1 ∧ Mat.toMat n b * Mat.toMat n a = 1 :=
  Mat.inverse_spec h hdet

/-- `inverse` returns a value exactly on the non-singular matrices -/
theorem inverse_ok_iff_gen {A : Mat K} {n : Nat} {a : Nat → Nat → K} (h : Mat.Is A n n a) :
    (∃ B, Mat.inverse A = .ok B) ↔ Matrix.det (Mat.toMat n a) ≠ 0 :=
  Mat.inverse_ok_iff h

/-- the returned matrix is Mathlib's `A⁻¹` -/
theorem inverse_eq_inv_gen {A : Mat K} {n : Nat} {a : Nat → Nat → K} (h : Mat.Is A n n a)
    (hdet : Matrix.det (Mat.toMat n a) ≠ 0) :
    ∃ (B : Mat K) (b : Nat → Nat → K), Mat.inverse A = .ok B ∧ Mat.Is B n n b ∧
      Mat.toMat n b = (Mat.toMat n a)⁻¹ :=
  Mat.inverse_eq_inv h hdet

end Gen

section
variable {K : Type} [Field K] [BEq K] [LawfulBEq K] [ScalarExt K] [Alg.PivotLaws K]

theorem inverse_singular_rejects_gen {A : Mat K} {n : Nat} {a : Nat → Nat → K}
    (h : Mat.Is A n n a) (hdet : Matrix.det (Mat.toMat n a) = 0) :
    Mat.inverse A = .error .arith :=
  Mat.inverse_singular h hdet

end

section Ordered
variable {K : Type} [Field K] [LinearOrder K] [IsStrictOrderedRing K]
attribute [local instance] Alg.scalarExt

/-- over a linearly ordered field `Mat.determinant_spec` is used at the instance `Alg.pivotLaws` -/
example {A : Mat K} {n : Nat} {a : Nat → Nat → K} (h : Mat.Is A n n a) :
    Mat.determinant A = .ok (Matrix.det (Matrix.of fun (i j : Fin n) => a i.val j.val)) :=
  determinant_spec h

end Ordered

section Complex
open Ohsl.RealI Ohsl.CxField Ohsl.Props.C13 Ohsl.Props.C14 Ohsl.Props.C01

variable {n : Nat} {A : Mat (Cx ℝ)} {a : Nat → Nat → Cx ℝ}

/-- the unit lower factor stored in place, as a complex matrix -/
noncomputable def LC (n : Nat) (w : Nat → Nat → Cx ℝ) : Matrix (Fin n) (Fin n) ℂ :=
  Matrix.of fun r k => if k.val < r.val then toC (w r.val k.val) else if k = r then 1 else 0

/-- the upper factor stored in place, as a complex matrix -/
noncomputable def UC (n : Nat) (w : Nat → Nat → Cx ℝ) : Matrix (Fin n) (Fin n) ℂ :=
  Matrix.of fun r c => if c.val < r.val then 0 else toC (w r.val c.val)

section Maps
attribute [local instance] CxField.field

theorem mapMatrix_Lfn (n : Nat) (w : Nat → Nat → Cx ℝ) :
    toCHom.mapMatrix (Mat.toMat n (Mat.Lfn w)) = LC n w := by
  ext r k
  simp only [RingHom.mapMatrix_apply, Matrix.map_apply, Mat.toMat, Matrix.of_apply, Mat.Lfn, LC]
  by_cases h1 : k.val < r.val
  · rw [if_pos h1, if_pos h1]; rfl
  · by_cases h2 : k = r
    · rw [if_neg h1, if_neg h1, if_pos (congrArg Fin.val h2), if_pos h2]; exact toC_one
    · rw [if_neg h1, if_neg h1, if_neg (fun e => h2 (Fin.ext e)), if_neg h2]; exact toC_zero

theorem mapMatrix_Umat (n : Nat) (w : Nat → Nat → Cx ℝ) :
    toCHom.mapMatrix (Mat.Umat n n w) = UC n w := by
  ext r c
  simp only [RingHom.mapMatrix_apply, Matrix.map_apply, Mat.Umat, Matrix.of_apply, UC]
  by_cases h1 : c.val < r.val
  · rw [if_pos ⟨c.isLt, h1⟩, if_pos h1]; exact toC_zero
  · rw [if_neg (fun h => h1 h.2), if_neg h1]; rfl

end Maps

theorem luDecomp_correct_cx (h : Mat.Is A n n a) :
    ∃ (s : LU (Cx ℝ)) (w pe : Nat → Nat → Cx ℝ), luDecomp A = .ok s ∧ Mat.Is s.lu n n w ∧
      Mat.Is s.perm n n pe ∧
      toCMat n pe * toCMat n a = LC n w * UC n w ∧
      Matrix.det (toCMat n pe) = (-1) ^ s.pivots ∧
      Matrix.det (UC n w) = (-1) ^ s.pivots * detC n a := by
  obtain ⟨s, w, pe, hs, hw, hpe, hPA, hdP, hdU⟩ :=
    @Mat.luDecomp_spec (Cx ℝ) CxField.field _ _ _ _ A n a h
  let _ := CxField.field
  refine ⟨s, w, pe, hs, hw, hpe, ?_, ?_, ?_⟩
  · have := congrArg toCHom.mapMatrix hPA
    rwa [RingHom.map_mul, RingHom.map_mul, mapMatrix_Lfn, mapMatrix_Umat] at this
  · have := congrArg toCHom hdP
    rwa [RingHom.map_det, RingHom.map_pow, RingHom.map_neg, RingHom.map_one] at this
  · have := congrArg toCHom hdU
    rwa [RingHom.map_det, RingHom.map_mul, RingHom.map_pow, RingHom.map_neg, RingHom.map_one,
      mapMatrix_Umat, RingHom.map_det] at this

/-- **complex `determinant()` computes the determinant**: on every well-formed square complex
    matrix — singular ones included — the call returns `d` with `toC d = det A` (over ℂ). -/
theorem determinant_correct_cx (h : Mat.Is A n n a) :
    ∃ d, Mat.determinant A = .ok d ∧ toC d = detC n a := by
  refine ⟨_, @determinant_spec (Cx ℝ) CxField.field _ _ _ _ A n a h, ?_⟩
  exact (CxField.det_toC n a).symm

/-- soundness alone: any value returned by the complex `determinant` is the determinant -/
theorem determinant_sound_cx (h : Mat.Is A n n a) (d : Cx ℝ) (hd : Mat.determinant A = .ok d) :
    toC d = detC n a := by
  obtain ⟨d', hd', e⟩ := determinant_correct_cx h
  rw [hd] at hd'
  cases hd'
  exact e

/-- a singular complex matrix is not an error: the result is exactly `0` -/
theorem determinant_singular_cx (h : Mat.Is A n n a) (hs : detC n a = 0) :
    Mat.determinant A = .ok 0 := by
  obtain ⟨d, hd, e⟩ := determinant_correct_cx h
  rw [hs] at e
  rw [hd, toC_eq_zero.mp e]

/-- **complex `inverse()` computes the inverse**: `det A ≠ 0` (over ℂ) ⇒ the call returns a
    well-formed `n × n` matrix `B` with `A·B = 1` and `B·A = 1` over ℂ. -/
theorem inverse_correct_cx (h : Mat.Is A n n a) (hdet : detC n a ≠ 0) :
    ∃ (B : Mat (Cx ℝ)) (b : Nat → Nat → Cx ℝ), Mat.inverse A = .ok B ∧ Mat.Is B n n b ∧
      toCMat n a * toCMat n b = 1 ∧ toCMat n b * toCMat n a = 1 := by
  obtain ⟨B, b, hB, hb, h1, h2⟩ :=
    @inverse_correct_gen (Cx ℝ) CxField.field _ _ _ (Classical.decEq _) _ A n a h
      ((CxField.det_ne_zero_iff n a).2 hdet)
  let _ := CxField.field
  refine ⟨B, b, hB, hb, ?_, ?_⟩
  · have := congrArg toCHom.mapMatrix h1
    rwa [RingHom.map_mul, RingHom.map_one] at this
  · have := congrArg toCHom.mapMatrix h2
    rwa [RingHom.map_mul, RingHom.map_one] at this

theorem inverse_singular_rejects_cx (h : Mat.Is A n n a) (hdet : detC n a = 0) :
    Mat.inverse A = .error .arith := by
  refine @inverse_singular_rejects_gen (Cx ℝ) CxField.field _ _ _ _ A n a h ?_
  by_contra hne
  exact (CxField.det_ne_zero_iff n a).1 hne hdet

/-- complex `inverse` returns a value exactly on the non-singular matrices -/
theorem inverse_ok_iff_cx (h : Mat.Is A n n a) :
    (∃ B, Mat.inverse A = .ok B) ↔ detC n a ≠ 0 :=
  (@inverse_ok_iff_gen (Cx ℝ) CxField.field _ _ _ (Classical.decEq _) _ A n a h).trans
    (CxField.det_ne_zero_iff n a)

end Complex

/-! ### examples over `Cx ℝ`: `exA = [[0, 1], [i, 1]]` (zero first pivot candidate, exchange decided
    by the modulus, `det = -i`), `exS = [[1, i], [i, -1]]` (singular) -/
section Examples
open Ohsl.RealI Ohsl.CxField Ohsl.Props.C13 Ohsl.Props.C14 Ohsl.Props.C01

/-- one exchange: the returned determinant is `-i` (sign `-1` times the product `i · 1`) -/
example : ∃ d, Mat.determinant exA = .ok d ∧ toC d = -Complex.I := by
  obtain ⟨d, hd, e⟩ := determinant_correct_cx exA_is
  exact ⟨d, hd, e.trans exA_detC⟩

example : ∃ B, Mat.inverse exA = .ok B := (inverse_ok_iff_cx exA_is).2 exA_det

example : Mat.determinant exS = .ok 0 ∧ Mat.inverse exS = .error .arith :=
  ⟨determinant_singular_cx exS_is exS_det, inverse_singular_rejects_cx exS_is exS_det⟩

end Examples
end Ohsl.Props.C02
