/-
  Property C08 (part F) — the rounding drift between the RECURRENCE residual `r_k` carried by the
  iterative solvers and the TRUE residual `b − A x_k`, in the standard model of floating-point
  arithmetic (`Ohsl/Lemmas/Rounding.lean`).  This is the quantitative clause of C08: "whenever CG …
  reports success, its true relative residual is at most the requested tolerance, up to the rounding
  drift of the residual recurrence (proportional to machine epsilon, the iteration count, ‖A‖ and the
  largest iterate)".  The bound proved has two further terms: `u‖b‖` (the initial residual) and
  `iters·u·R`, `R` the largest recurrence residual.

  In exact arithmetic `r_k = b − A x_k` holds exactly (`cgStep_residual`, C08.lean).  In rounded
  arithmetic the two differ, and the difference only comes from the THREE VECTOR UPDATES of an
  iteration (`q = A p`, `x += p·α`, `r −= q·α`): whatever scalars `α_i` and directions `p_i` the run
  produced (rounded dot products, norms and divisions are irrelevant), the drift
  `d_i = (b − A x_i) − r_i` obeys a one-step inequality (`drift_step`), which is summed.  Two layers:

  (1) ABSTRACT (any real seminormed space `E`, `A` linear with `‖A v‖ ≤ a ‖v‖`): a run of `k`
      iterations is given by arbitrary `α_i : ℝ`, `p_i q_i x_i r_i : E` satisfying the PERTURBED
      recurrences `DriftRun A a u εA k x r p q α` (a product with relative error `εA`, each update
      rounded twice).  (F) `DriftRun.bound`, `success_true_residual_gen`, `success_true_residual`:
      the accumulated drift and the true residual of a run that stopped on its test; `DriftRun.mono`,
      `DriftRun.mono_eps`.
      The same algebra covers every solver whose updates have the form `x += α p`, `r −= α q` with
      `q` a computed `A p`: CG, BiCG (`z = A p`), and BiCGSTAB (two such sub-steps per iteration,
      C08H).  It does NOT cover QMR, whose update vector `s ≈ A d` is itself maintained by a
      recurrence (its error is not a one-product error).

  (2) MODEL (CG and BiCG).  `flOps mv mvT dot norm2` is the operation record over vectors
      `Fin n → Fl M` with componentwise rounded `add/sub/smul/lsmul/sdiv` (the forms of the source:
      `v[i] * s`, `s * v[i]`), ARBITRARY `dot`, `norm2`, transposed product and ARBITRARY `Transc (Fl M)`
      instance (comparison), and a computed product `mv` assumed to satisfy `FlMatVec` (a relative
      error `εA` in the ∞-norm against a bound `a` of `‖A‖∞`; implied by the classical componentwise
      bound; (F) `flMatVec_mvRound`: the exact product rounded once per component satisfies it).
      Only the recurrences of the un-tested state sequence are analysed, whatever `p`, `α` are, and
      the analysis is stated over a span of operation records `o₁ ←ι— o₀ —φ→ flOps …` (run over `o₁`,
      analysis over `flOps`), of which the following are the instances `ι = φ = id` and C08G's
      statements about arrays the instances `ι = Subtype.val`, `φ = arrFn`.
      (F) `cg_init_drift`, `cg_success_true_residual`, `bicg_success_true_residual`: the drift of the
      true residual from the recurrence residual the model tested; the `…_norm` forms add a
      hypothesis on the arbitrary `norm2`, `/` and `le` and bound `‖b − A x_out‖∞` itself.
      `X`, `R` are hypotheses: a-posteriori bounds of the computed iterates and residuals.
      That the model's sparse product satisfies `FlMatVec`, and the transport from `Array (Fl M)`
      (`arrOps`) to `Fin n → Fl M`, are in C08G.

  The transfer to Rust `f64` rests on the assumption stated in Rounding.lean.
-/
import Ohsl.Props.C08B
import Ohsl.Lemmas.KrylovHom
import Ohsl.Lemmas.Rounding
import Mathlib.Analysis.Normed.Module.Basic
import Mathlib.Algebra.Order.BigOperators.Group.Finset
import Mathlib.Tactic.Abel
import Mathlib.Tactic.Ring
import Mathlib.Tactic.Linarith
import Mathlib.Tactic.Positivity

namespace Ohsl.Props.C08
open Ohsl Ohsl.Krylov

section Rounding

section Updates
variable {E : Type} [SeminormedAddCommGroup E]

/-- **two roundings, addition**: `x' = fl(x + t)`, `t = fl(v)` (in norm form) -/
theorem update_err (u : ℝ) (hu : 0 ≤ u) (x v t x' : E)
    (ht : ‖t - v‖ ≤ u * ‖v‖) (hx : ‖x' - (x + t)‖ ≤ u * ‖x + t‖) :
    ‖x' - (x + v)‖ ≤ u * ‖x‖ + (2 * u + u ^ 2) * ‖v‖ := by
  have h1 := norm_sub_le_norm_sub_add_norm_sub x' (x + t) (x + v)
  rw [add_sub_add_left_eq_sub] at h1
  -- `‖x + t‖ ≤ ‖x‖ + (‖v‖ + ‖t − v‖)`
  have h4 : u * ‖x + t‖ ≤ u * (‖x‖ + (‖v‖ + u * ‖v‖)) :=
    mul_le_mul_of_nonneg_left ((norm_add_le x t).trans
      (add_le_add_right ((norm_le_insert' t v).trans (add_le_add_right ht _)) _)) hu
  linarith

/-- **two roundings, subtraction**: `r' = fl(r − t)`, `t = fl(v)` -/
theorem update_err_sub (u : ℝ) (hu : 0 ≤ u) (r v t r' : E)
    (ht : ‖t - v‖ ≤ u * ‖v‖) (hr : ‖r' - (r - t)‖ ≤ u * ‖r - t‖) :
    ‖r' - (r - v)‖ ≤ u * ‖r‖ + (2 * u + u ^ 2) * ‖v‖ := by
  have h := update_err u hu r (-v) (-t) r' (by rwa [neg_sub_neg, norm_sub_rev, norm_neg])
    (by rwa [← sub_eq_add_neg])
  rwa [← sub_eq_add_neg, norm_neg] at h

theorem two_mul_add_sq_le {u : ℝ} (hu : 0 ≤ u) (hu8 : u ≤ 1 / 8) : 2 * u + u ^ 2 ≤ 17 / 8 * u := by
  calc 2 * u + u ^ 2 = (2 + u) * u := by ring
    _ ≤ (2 + 1 / 8) * u := mul_le_mul_of_nonneg_right (add_le_add_right hu8 2) hu
    _ = 17 / 8 * u := by ring

theorem update_le_iterates {u : ℝ} (hu : 0 ≤ u) (hu8 : u ≤ 1 / 8) (X : ℝ) (x v x' : E)
    (h0 : ‖x‖ ≤ X) (h1 : ‖x'‖ ≤ X)
    (hx : ‖x' - (x + v)‖ ≤ u * ‖x‖ + (2 * u + u ^ 2) * ‖v‖) : ‖v‖ ≤ 3 * X := by
  -- `v = (x' − x) − (x' − (x + v))`
  have h2 := norm_sub_le (x' - x) (x' - (x + v))
  rw [sub_sub_sub_cancel_left, add_sub_cancel_left] at h2
  have h3 := norm_sub_le x' x
  have h4 : (2 * u + u ^ 2) * ‖v‖ ≤ 17 / 8 * (1 / 8) * ‖v‖ :=
    mul_le_mul_of_nonneg_right ((two_mul_add_sq_le hu hu8).trans
      (mul_le_mul_of_nonneg_left hu8 (by norm_num))) (norm_nonneg _)
  have h5 : u * ‖x‖ ≤ 1 / 8 * X := mul_le_mul hu8 h0 (norm_nonneg _) (by norm_num)
  linarith [norm_nonneg x]

end Updates

section Abstract
variable {E : Type} [SeminormedAddCommGroup E] [NormedSpace ℝ E]

/-- the drift `d = (b − A x) − r` between the true and the recurrence residual -/
def drift (A : E →ₗ[ℝ] E) (b x r : E) : E := (b - A x) - r

theorem norm_resid_le (A : E →ₗ[ℝ] E) (b x r : E) : ‖b - A x‖ ≤ ‖r‖ + ‖drift A b x r‖ :=
  norm_le_insert' _ _

/-- `k` iterations with perturbed recurrences: `q_i` a product `A p_i` with relative error `εA`
(against `a ‖p_i‖`), the updates of `x` and `r` rounded twice with unit roundoff `u`; `α_i`, `p_i` are
arbitrary -/
structure DriftRun (A : E →ₗ[ℝ] E) (a u εA : ℝ) (k : ℕ) (x r p q : ℕ → E) (α : ℕ → ℝ) : Prop where
  a_nonneg : 0 ≤ a
  u_nonneg : 0 ≤ u
  ε_nonneg : 0 ≤ εA
  opA : ∀ v, ‖A v‖ ≤ a * ‖v‖
  hq : ∀ i, i < k → ‖q i - A (p i)‖ ≤ εA * a * ‖p i‖
  hx : ∀ i, i < k →
    ‖x (i + 1) - (x i + α i • p i)‖ ≤ u * ‖x i‖ + (2 * u + u ^ 2) * ‖α i • p i‖
  hr : ∀ i, i < k →
    ‖r (i + 1) - (r i - α i • q i)‖ ≤ u * ‖r i‖ + (2 * u + u ^ 2) * ‖α i • q i‖

/-- the per-step constant multiplying `a ‖α p‖`: `(2u+u²)(2+εA) + εA` -/
def stepC (u εA : ℝ) : ℝ := (2 * u + u ^ 2) * (2 + εA) + εA

theorem stepC_nonneg {u εA : ℝ} (hu : 0 ≤ u) (hε : 0 ≤ εA) : 0 ≤ stepC u εA := by
  unfold stepC; positivity

theorem stepC_le {u εA cA : ℝ} (hu : 0 ≤ u) (hε : 0 ≤ εA) (hcA : 0 ≤ cA) (hεc : εA ≤ cA * u)
    (hu8 : u ≤ 1 / 8) : stepC u εA ≤ u * (5 + 2 * cA) := by
  have h1 : εA ≤ cA * (1 / 8) := hεc.trans (mul_le_mul_of_nonneg_left hu8 hcA)
  have h2 : (2 * u + u ^ 2) * (2 + εA) ≤ 17 / 8 * u * (2 + cA * (1 / 8)) :=
    mul_le_mul (two_mul_add_sq_le hu hu8) (add_le_add_right h1 2) (add_nonneg zero_le_two hε)
      (mul_nonneg (by norm_num) hu)
  have h3 : 0 ≤ u * cA := mul_nonneg hu hcA
  unfold stepC
  linarith

/-- `d' − d = −A ex − er + (w − A v)` where `ex = x' − (x + v)`, `er = r' − (r − w)`; `v = α p` is the
exact, `w = α q` the computed update -/
theorem drift_step (A : E →ₗ[ℝ] E) {a u εA : ℝ} (ha : 0 ≤ a) (hu : 0 ≤ u)
    (hA : ∀ v, ‖A v‖ ≤ a * ‖v‖) (b x r v w x' r' : E) (hw : ‖w - A v‖ ≤ εA * a * ‖v‖)
    (hx : ‖x' - (x + v)‖ ≤ u * ‖x‖ + (2 * u + u ^ 2) * ‖v‖)
    (hr : ‖r' - (r - w)‖ ≤ u * ‖r‖ + (2 * u + u ^ 2) * ‖w‖) :
    ‖drift A b x' r'‖ ≤ ‖drift A b x r‖ + u * (a * ‖x‖ + ‖r‖) + stepC u εA * a * ‖v‖ := by
  have e : drift A b x' r'
      = drift A b x r - A (x' - (x + v)) - (r' - (r - w)) + (w - A v) := by
    simp only [drift, A.map_sub, A.map_add]
    abel
  rw [e]
  refine (norm_add_le_of_le (norm_sub_le_of_le (norm_sub_le_of_le le_rfl (hA _)) le_rfl)
    le_rfl).trans ?_
  have hwn : ‖w‖ ≤ a * ‖v‖ + εA * a * ‖v‖ :=
    (norm_le_insert' w (A v)).trans (add_le_add (hA v) hw)
  have h1 := mul_le_mul_of_nonneg_left hx ha
  have h2 := mul_le_mul_of_nonneg_left hwn (add_nonneg (mul_nonneg zero_le_two hu) (sq_nonneg u))
  unfold stepC
  linarith

variable {A : E →ₗ[ℝ] E} {a u εA : ℝ} {k : ℕ} {x r p q : ℕ → E} {α : ℕ → ℝ}

theorem DriftRun.mono (H : DriftRun A a u εA k x r p q α) {j : ℕ} (hj : j ≤ k) :
    DriftRun A a u εA j x r p q α :=
  ⟨H.a_nonneg, H.u_nonneg, H.ε_nonneg, H.opA, fun i hi => H.hq i (hi.trans_le hj),
    fun i hi => H.hx i (hi.trans_le hj), fun i hi => H.hr i (hi.trans_le hj)⟩

theorem DriftRun.mono_eps (H : DriftRun A a u εA k x r p q α) {ε' : ℝ} (h : εA ≤ ε') :
    DriftRun A a u ε' k x r p q α :=
  ⟨H.a_nonneg, H.u_nonneg, H.ε_nonneg.trans h, H.opA,
    fun i hi => (H.hq i hi).trans (mul_le_mul_of_nonneg_right
      (mul_le_mul_of_nonneg_right h H.a_nonneg) (norm_nonneg _)),
    H.hx, H.hr⟩

theorem DriftRun.step (H : DriftRun A a u εA k x r p q α) (b : E) (i : ℕ) (hi : i < k) :
    ‖drift A b (x (i + 1)) (r (i + 1))‖
      ≤ ‖drift A b (x i) (r i)‖ + u * (a * ‖x i‖ + ‖r i‖) + stepC u εA * a * ‖α i • p i‖ := by
  refine drift_step A H.a_nonneg H.u_nonneg H.opA b _ _ _ _ _ _ ?_ (H.hx i hi) (H.hr i hi)
  -- the computed update `α q` against the exact one `A (α p)`
  rw [A.map_smul, ← smul_sub, norm_smul, norm_smul]
  exact (mul_le_mul_of_nonneg_left (H.hq i hi) (norm_nonneg _)).trans_eq (mul_left_comm _ _ _)

theorem DriftRun.bound_sum (H : DriftRun A a u εA k x r p q α) (b : E) :
    ∀ j, j ≤ k → ‖drift A b (x j) (r j)‖ ≤ ‖drift A b (x 0) (r 0)‖
      + ∑ i ∈ Finset.range j, (u * (a * ‖x i‖ + ‖r i‖) + stepC u εA * a * ‖α i • p i‖)
  | 0, _ => by simp
  | j + 1, hj => by
    rw [Finset.sum_range_succ, ← add_assoc]
    exact ((H.step b j hj).trans_eq (add_assoc _ _ _)).trans
      (add_le_add (DriftRun.bound_sum H b j (Nat.le_of_succ_le hj)) le_rfl)

/-- **accumulated drift**: with `‖x_i‖ ≤ X`, `‖r_i‖ ≤ R`, `‖α_i p_i‖ ≤ W` (`i < k`)
`‖(b − A x_k) − r_k‖ ≤ ‖d_0‖ + k · (u (a X + R) + stepC u εA · a · W)` -/
theorem DriftRun.bound (H : DriftRun A a u εA k x r p q α) (b : E) (X R W : ℝ)
    (hX : ∀ i, i < k → ‖x i‖ ≤ X) (hR : ∀ i, i < k → ‖r i‖ ≤ R)
    (hW : ∀ i, i < k → ‖α i • p i‖ ≤ W) :
    ‖drift A b (x k) (r k)‖ ≤ ‖drift A b (x 0) (r 0)‖
      + k * (u * (a * X + R) + stepC u εA * a * W) := by
  have hle : ∑ i ∈ Finset.range k, (u * (a * ‖x i‖ + ‖r i‖) + stepC u εA * a * ‖α i • p i‖)
      ≤ ∑ _i ∈ Finset.range k, (u * (a * X + R) + stepC u εA * a * W) := by
    refine Finset.sum_le_sum fun i hi => ?_
    have hi' : i < k := Finset.mem_range.mp hi
    exact add_le_add
      (mul_le_mul_of_nonneg_left
        (add_le_add (mul_le_mul_of_nonneg_left (hX i hi') H.a_nonneg) (hR i hi')) H.u_nonneg)
      (mul_le_mul_of_nonneg_left (hW i hi')
        (mul_nonneg (stepC_nonneg H.u_nonneg H.ε_nonneg) H.a_nonneg))
  rw [Finset.sum_const, Finset.card_range, nsmul_eq_mul] at hle
  exact (H.bound_sum b k le_rfl).trans (add_le_add le_rfl hle)

theorem DriftRun.bound_u (H : DriftRun A a u εA k x r p q α) (b : E) (hu8 : u ≤ 1 / 8)
    (cA : ℝ) (hcA : 0 ≤ cA) (hεc : εA ≤ cA * u)
    (X R : ℝ) (hX : ∀ i, i ≤ k → ‖x i‖ ≤ X) (hR : ∀ i, i < k → ‖r i‖ ≤ R) :
    ‖drift A b (x k) (r k)‖ ≤ ‖drift A b (x 0) (r 0)‖
      + k * u * ((16 + 6 * cA) * a * X + R) := by
  have h := H.bound b X R (3 * X) (fun i hi => hX i hi.le) hR
    (fun i hi => update_le_iterates H.u_nonneg hu8 X _ _ _ (hX i hi.le) (hX (i + 1) hi) (H.hx i hi))
  have hX0 : 0 ≤ X := (norm_nonneg _).trans (hX 0 (Nat.zero_le _))
  have h1 : (k : ℝ) * (stepC u εA * (a * X)) ≤ k * (u * (5 + 2 * cA) * (a * X)) :=
    mul_le_mul_of_nonneg_left (mul_le_mul_of_nonneg_right
      (stepC_le H.u_nonneg H.ε_nonneg hcA hεc hu8) (mul_nonneg H.a_nonneg hX0)) (Nat.cast_nonneg k)
  linarith

/-- **initial drift**: `r_0 = fl(b − y)`, `y = fl(A x_0)` (in norm form) -/
theorem drift_init (A : E →ₗ[ℝ] E) (a u εA : ℝ) (hu : 0 ≤ u)
    (hA : ∀ v, ‖A v‖ ≤ a * ‖v‖) (b x0 y r0 : E)
    (hy : ‖y - A x0‖ ≤ εA * a * ‖x0‖) (hr : ‖r0 - (b - y)‖ ≤ u * ‖b - y‖) :
    ‖drift A b x0 r0‖ ≤ u * (‖b‖ + (1 + εA) * a * ‖x0‖) + εA * a * ‖x0‖ := by
  have e : drift A b x0 r0 = (y - A x0) - (r0 - (b - y)) := by unfold drift; abel
  -- `‖b − y‖ ≤ ‖b‖ + (‖A x_0‖ + ‖y − A x_0‖)`
  have h4 : u * ‖b - y‖ ≤ u * (‖b‖ + (a * ‖x0‖ + εA * a * ‖x0‖)) :=
    mul_le_mul_of_nonneg_left ((norm_sub_le b y).trans
      (add_le_add_right ((norm_le_insert' y (A x0)).trans (add_le_add (hA x0) hy)) _)) hu
  rw [e]
  exact (norm_sub_le_of_le hy (hr.trans h4)).trans_eq (by ring)

theorem drift_init_u (A : E →ₗ[ℝ] E) (a u εA : ℝ) (ha : 0 ≤ a) (hu : 0 ≤ u) (hε : 0 ≤ εA)
    (hA : ∀ v, ‖A v‖ ≤ a * ‖v‖) (b x0 y r0 : E)
    (hy : ‖y - A x0‖ ≤ εA * a * ‖x0‖) (hr : ‖r0 - (b - y)‖ ≤ u * ‖b - y‖)
    (hu8 : u ≤ 1 / 8) (cA : ℝ) (hcA : 0 ≤ cA) (hεc : εA ≤ cA * u) (X : ℝ) (hX : ‖x0‖ ≤ X) :
    ‖drift A b x0 r0‖ ≤ u * (‖b‖ + (1 + 2 * cA) * a * X) := by
  have h := drift_init A a u εA hu hA b x0 y r0 hy hr
  have hax : a * ‖x0‖ ≤ a * X := mul_le_mul_of_nonneg_left hX ha
  have hax0 : 0 ≤ a * ‖x0‖ := mul_nonneg ha (norm_nonneg x0)
  -- `εA (a ‖x_0‖) ≤ cA u (a X)` and `u` times it is at most an eighth of that
  have h1 : εA * (a * ‖x0‖) ≤ cA * u * (a * X) := mul_le_mul hεc hax hax0 (mul_nonneg hcA hu)
  have h2 : u * (εA * (a * ‖x0‖)) ≤ 1 / 8 * (cA * u * (a * X)) :=
    mul_le_mul hu8 h1 (mul_nonneg hε hax0) (by norm_num)
  have h3 : u * (a * ‖x0‖) ≤ u * (a * X) := mul_le_mul_of_nonneg_left hax hu
  linarith [(mul_nonneg hε hax0).trans h1]

/-- **true residual, general form**: `‖b − A x_k‖ ≤ ‖r_k‖ + ‖d_0‖ + k (u (a X + R) + stepC a W)` -/
theorem success_true_residual_gen (H : DriftRun A a u εA k x r p q α) (b : E) (X R W : ℝ)
    (hX : ∀ i, i < k → ‖x i‖ ≤ X) (hR : ∀ i, i < k → ‖r i‖ ≤ R)
    (hW : ∀ i, i < k → ‖α i • p i‖ ≤ W) :
    ‖b - A (x k)‖ ≤ ‖r k‖ + ‖drift A b (x 0) (r 0)‖
      + k * (u * (a * X + R) + stepC u εA * a * W) := by
  exact (norm_resid_le A b (x k) (r k)).trans
    ((add_le_add le_rfl (H.bound b X R W hX hR hW)).trans_eq (add_assoc _ _ _).symm)

/-- **C08, quantitative clause (abstract form)**: a run of `k` iterations with perturbed
recurrences (`u ≤ 1/8`, product error `εA ≤ cA u`), started from `r_0 = fl(b − fl(A x_0))`, whose
iterates are bounded by `X` and recurrence residuals by `R`, and which stops because
`‖r_k‖ ≤ tol ‖b‖`, has TRUE residual
`‖b − A x_k‖ ≤ tol ‖b‖ + u (‖b‖ + (1 + 2 cA) a X) + k · u · ((16 + 6 cA) a X + R)`. -/
theorem success_true_residual (H : DriftRun A a u εA k x r p q α) (b y : E)
    (hy : ‖y - A (x 0)‖ ≤ εA * a * ‖x 0‖) (hr0 : ‖r 0 - (b - y)‖ ≤ u * ‖b - y‖)
    (hu8 : u ≤ 1 / 8) (cA : ℝ) (hcA : 0 ≤ cA) (hεc : εA ≤ cA * u)
    (X R : ℝ) (hX : ∀ i, i ≤ k → ‖x i‖ ≤ X) (hR : ∀ i, i < k → ‖r i‖ ≤ R)
    (tol : ℝ) (hstop : ‖r k‖ ≤ tol * ‖b‖) :
    ‖b - A (x k)‖ ≤ tol * ‖b‖ + u * (‖b‖ + (1 + 2 * cA) * a * X)
      + k * u * ((16 + 6 * cA) * a * X + R) := by
  have h0 := drift_init_u A a u εA H.a_nonneg H.u_nonneg H.ε_nonneg H.opA b (x 0) y (r 0) hy hr0
    hu8 cA hcA hεc X (hX 0 (Nat.zero_le _))
  exact (norm_resid_le A b (x k) (r k)).trans ((add_le_add hstop
    ((H.bound_u b hu8 cA hcA hεc X R hX hR).trans (add_le_add h0 le_rfl))).trans_eq
      (add_assoc _ _ _).symm)

end Abstract

section Model
variable {M : FlModel} {n : ℕ}

/-- the real vector a vector of rounded reals denotes -/
def vval (v : Fin n → Fl M) : Fin n → ℝ := fun i => (v i).val

/-- The operation record over `Fin n → Fl M`: componentwise rounded vector operations in the forms
of the source (`v[i] * s`, `s * v[i]`, `v[i] / s`), arbitrary dot product, norm and products.  Field
for field this is `pwOps` (Lemmas/ArrFn) at the scalars `Fl M`; C08G's `fnHomF` relies on that. -/
noncomputable def flOps (mv mvT : (Fin n → Fl M) → (Fin n → Fl M)) (dot : (Fin n → Fl M) → (Fin n → Fl M) → Fl M)
    (norm2 : (Fin n → Fl M) → Fl M) : VOps (Fl M) (Fin n → Fl M) where
  add v w := fun i => v i + w i
  sub v w := fun i => v i - w i
  smul v k := fun i => v i * k
  lsmul k v := fun i => k * v i
  sdiv v k := fun i => v i / k
  dot := dot
  norm2 := norm2
  zero := fun _ => 0
  A := mv
  At := mvT

theorem norm_sub_le_of_componentwise (u : ℝ) (hu : 0 ≤ u) (w z : Fin n → ℝ)
    (h : ∀ i, |w i - z i| ≤ u * |z i|) : ‖w - z‖ ≤ u * ‖z‖ := by
  refine (pi_norm_le_iff_of_nonneg (mul_nonneg hu (norm_nonneg z))).2 fun i => ?_
  have h1 := norm_le_pi_norm z i
  rw [Real.norm_eq_abs] at h1
  rw [Real.norm_eq_abs, Pi.sub_apply]
  exact (h i).trans (mul_le_mul_of_nonneg_left h1 hu)

theorem vval_add_err (v w : Fin n → Fl M) :
    ‖vval (fun i => v i + w i) - (vval v + vval w)‖ ≤ M.u * ‖vval v + vval w‖ :=
  norm_sub_le_of_componentwise M.u M.u_nonneg _ _ (fun i => Fl.add_err (v i) (w i))

theorem vval_sub_err (v w : Fin n → Fl M) :
    ‖vval (fun i => v i - w i) - (vval v - vval w)‖ ≤ M.u * ‖vval v - vval w‖ :=
  norm_sub_le_of_componentwise M.u M.u_nonneg _ _ (fun i => Fl.sub_err (v i) (w i))

theorem vval_smul_err (v : Fin n → Fl M) (k : Fl M) :
    ‖vval (fun i => v i * k) - k.val • vval v‖ ≤ M.u * ‖k.val • vval v‖ :=
  norm_sub_le_of_componentwise M.u M.u_nonneg _ _ (fun i => by
    have := Fl.mul_err (v i) k
    simpa [vval, mul_comm] using this)

theorem vval_lsmul_err (k : Fl M) (v : Fin n → Fl M) :
    ‖vval (fun i => k * v i) - k.val • vval v‖ ≤ M.u * ‖k.val • vval v‖ :=
  norm_sub_le_of_componentwise M.u M.u_nonneg _ _ (fun i => by
    have := Fl.mul_err k (v i)
    simpa [vval] using this)

/-- The assumption on the computed matrix–vector product `mv` (the `A` field of the record):
`A` is a real linear map with ∞-norm bound `a`, and `mv` computes it with relative error `εA`
w.r.t. `a ‖v‖∞` (implied by the componentwise bound `|mv v − A v| ≤ εA |A| |v|`, see
`flMatVec_of_componentwise`). -/
structure FlMatVec (mv : (Fin n → Fl M) → (Fin n → Fl M)) (A : (Fin n → ℝ) →ₗ[ℝ] (Fin n → ℝ))
    (a εA : ℝ) : Prop where
  a_nonneg : 0 ≤ a
  ε_nonneg : 0 ≤ εA
  opA : ∀ v, ‖A v‖ ≤ a * ‖v‖
  err : ∀ v, ‖vval (mv v) - A (vval v)‖ ≤ εA * a * ‖vval v‖

/-- the linear map `v ↦ (Σ_j A_ij v_j)_i` of the matrix `Am` -/
def rowLin (Am : Fin n → Fin n → ℝ) : (Fin n → ℝ) →ₗ[ℝ] (Fin n → ℝ) where
  toFun v i := ∑ j, Am i j * v j
  map_add' v w := by
    funext i
    simp only [Pi.add_apply, mul_add, Finset.sum_add_distrib]
  map_smul' c v := by
    funext i
    simp only [Pi.smul_apply, smul_eq_mul, RingHom.id_apply, Finset.mul_sum]
    apply Finset.sum_congr rfl
    intro j _
    ring

theorem rowLin_apply (Am : Fin n → Fin n → ℝ) (v : Fin n → ℝ) (i : Fin n) :
    rowLin Am v i = ∑ j, Am i j * v j := rfl

theorem abs_row_le (Am : Fin n → Fin n → ℝ) (a : ℝ) (hrow : ∀ i, ∑ j, |Am i j| ≤ a)
    (v : Fin n → ℝ) (i : Fin n) : ∑ j, |Am i j| * |v j| ≤ a * ‖v‖ := by
  have h1 : ∑ j, |Am i j| * |v j| ≤ ∑ j, |Am i j| * ‖v‖ := by
    apply Finset.sum_le_sum
    intro j _
    have := norm_le_pi_norm v j
    rw [Real.norm_eq_abs] at this
    exact mul_le_mul_of_nonneg_left this (abs_nonneg _)
  rw [← Finset.sum_mul] at h1
  exact h1.trans (mul_le_mul_of_nonneg_right (hrow i) (norm_nonneg v))

theorem rowLin_norm_le (Am : Fin n → Fin n → ℝ) (a : ℝ) (ha : 0 ≤ a)
    (hrow : ∀ i, ∑ j, |Am i j| ≤ a) (v : Fin n → ℝ) : ‖rowLin Am v‖ ≤ a * ‖v‖ := by
  refine (pi_norm_le_iff_of_nonneg (mul_nonneg ha (norm_nonneg v))).2 fun i => ?_
  rw [Real.norm_eq_abs, rowLin_apply]
  refine (Finset.abs_sum_le_sum_abs _ _).trans ?_
  simp only [abs_mul]
  exact abs_row_le Am a hrow v i

theorem flMatVec_of_majorant (mv : (Fin n → Fl M) → (Fin n → Fl M))
    (Am Bm : Fin n → Fin n → ℝ) (a εA : ℝ) (ha : 0 ≤ a) (hε : 0 ≤ εA)
    (hAB : ∀ i j, |Am i j| ≤ Bm i j) (hrow : ∀ i, ∑ j, Bm i j ≤ a)
    (h : ∀ v i, |(mv v i).val - ∑ j, Am i j * (v j).val| ≤ εA * ∑ j, Bm i j * |(v j).val|) :
    FlMatVec mv (rowLin Am) a εA where
  a_nonneg := ha
  ε_nonneg := hε
  opA := rowLin_norm_le Am a ha (fun i => (Finset.sum_le_sum (fun j _ => hAB i j)).trans (hrow i))
  err v := by
    refine (pi_norm_le_iff_of_nonneg
      (mul_nonneg (mul_nonneg hε ha) (norm_nonneg (vval v)))).2 fun i => ?_
    rw [Real.norm_eq_abs, Pi.sub_apply, rowLin_apply, mul_assoc]
    refine (h v i).trans (mul_le_mul_of_nonneg_left ?_ hε)
    have hB : ∀ i j, |Bm i j| = Bm i j := fun i j => abs_of_nonneg ((abs_nonneg _).trans (hAB i j))
    have := abs_row_le Bm a (fun i => by simp only [hB]; exact hrow i) (vval v) i
    simp only [hB] at this
    exact this

theorem flMatVec_of_componentwise (mv : (Fin n → Fl M) → (Fin n → Fl M))
    (Am : Fin n → Fin n → ℝ) (a εA : ℝ) (ha : 0 ≤ a) (hε : 0 ≤ εA)
    (hrow : ∀ i, ∑ j, |Am i j| ≤ a)
    (h : ∀ v i, |(mv v i).val - ∑ j, Am i j * (v j).val| ≤ εA * ∑ j, |Am i j| * |(v j).val|) :
    FlMatVec mv (rowLin Am) a εA :=
  flMatVec_of_majorant mv Am (fun i j => |Am i j|) a εA ha hε (fun _ _ => le_rfl) hrow h

theorem fl_init_drift {mv : (Fin n → Fl M) → (Fin n → Fl M)} {A : (Fin n → ℝ) →ₗ[ℝ] (Fin n → ℝ)}
    {a εA : ℝ} (H : FlMatVec mv A a εA) (b x0 : Fin n → Fl M) (hu8 : M.u ≤ 1 / 8) (cA : ℝ)
    (hcA : 0 ≤ cA) (hεc : εA ≤ cA * M.u) (X : ℝ) (hX : ‖vval x0‖ ≤ X) :
    ‖drift A (vval b) (vval x0) (vval fun i => b i - mv x0 i)‖
      ≤ M.u * (‖vval b‖ + (1 + 2 * cA) * a * X) :=
  drift_init_u A a M.u εA H.a_nonneg M.u_nonneg H.ε_nonneg H.opA (vval b) (vval x0) (vval (mv x0)) _
    (H.err x0) (vval_sub_err b (mv x0)) hu8 cA hcA hεc X hX

/-- only the recurrences `r_0 = b − A x_0`, `x_{j+1} = x_j + p_j·α_j`, `r_{j+1} = r_j − (A p_j)·α_j` in the
operations of `o₀` are used, whatever the directions `p_j` and scalars `α_j`: read through `φ` they are
the perturbed recurrences of a `DriftRun` with `u = M.u` in the ∞-norm -/
theorem fl_drift_bound {V₀ : Type} {o₀ : VOps (Fl M) V₀} {φ : V₀ → Fin n → Fl M}
    {mv mvT : (Fin n → Fl M) → (Fin n → Fl M)} {dot : (Fin n → Fl M) → (Fin n → Fl M) → Fl M}
    {norm2 : (Fin n → Fl M) → Fl M} {A : (Fin n → ℝ) →ₗ[ℝ] (Fin n → ℝ)} {a εA : ℝ}
    (Hφ : VHom o₀ (flOps mv mvT dot norm2) φ) (H : FlMatVec mv A a εA) (b : V₀) (x r p : ℕ → V₀)
    (α : ℕ → Fl M) (hr0 : r 0 = o₀.sub b (o₀.A (x 0)))
    (hx : ∀ j, x (j + 1) = o₀.add (x j) (o₀.smul (p j) (α j)))
    (hr : ∀ j, r (j + 1) = o₀.sub (r j) (o₀.smul (o₀.A (p j)) (α j)))
    (hu8 : M.u ≤ 1 / 8) (cA : ℝ) (hcA : 0 ≤ cA) (hεc : εA ≤ cA * M.u) (X R : ℝ) (k : ℕ)
    (hX : ∀ j, j ≤ k → ‖vval (φ (x j))‖ ≤ X) (hR : ∀ j, j < k → ‖vval (φ (r j))‖ ≤ R) :
    ‖(vval (φ b) - A (vval (φ (x k)))) - vval (φ (r k))‖
      ≤ M.u * (‖vval (φ b)‖ + (1 + 2 * cA) * a * X) + k * M.u * ((16 + 6 * cA) * a * X + R) := by
  have D : DriftRun A a M.u εA k (fun j => vval (φ (x j))) (fun j => vval (φ (r j)))
      (fun j => vval (φ (p j))) (fun j => vval (mv (φ (p j)))) (fun j => (α j).val) :=
    ⟨H.a_nonneg, M.u_nonneg, H.ε_nonneg, H.opA, fun _ _ => H.err _,
      fun j _ => by
        simp only [hx j, Hφ.add, Hφ.smul]
        exact update_err M.u M.u_nonneg _ _ _ _ (vval_smul_err _ _) (vval_add_err _ _),
      fun j _ => by
        simp only [hr j, Hφ.sub, Hφ.smul, Hφ.A]
        exact update_err_sub M.u M.u_nonneg _ _ _ _ (vval_smul_err _ _) (vval_sub_err _ _)⟩
  have h0 := fl_init_drift H (φ b) (φ (x 0)) hu8 cA hcA hεc X (hX 0 (Nat.zero_le _))
  have e : φ (r 0) = fun i => φ b i - mv (φ (x 0)) i := by rw [hr0, Hφ.sub, Hφ.A]; rfl
  rw [← e] at h0
  exact (D.bound_u (vval (φ b)) hu8 cA hcA hεc X R hX hR).trans (add_le_add h0 le_rfl)

variable [Transc (Fl M)]
variable {mv mvT : (Fin n → Fl M) → (Fin n → Fl M)}
  {dot : (Fin n → Fl M) → (Fin n → Fl M) → Fl M} {norm2 : (Fin n → Fl M) → Fl M}
  {A : (Fin n → ℝ) →ₗ[ℝ] (Fin n → ℝ)} {a εA : ℝ}

set_option linter.unusedSectionVars false in
/-- **initial drift of the model's CG**: `r_0 = b − mv x_0` componentwise rounded -/
theorem cg_init_drift (H : FlMatVec mv A a εA) (b x0 : Fin n → Fl M) (normb : Fl M) :
    ‖drift A (vval b) (vval (cgInit (flOps mv mvT dot norm2) b x0 normb).x)
        (vval (cgInit (flOps mv mvT dot norm2) b x0 normb).r)‖
      ≤ M.u * (‖vval b‖ + (1 + εA) * a * ‖vval x0‖) + εA * a * ‖vval x0‖ :=
  drift_init A a M.u εA M.u_nonneg H.opA (vval b) (vval x0) (vval (mv x0)) _
    (H.err x0) (vval_sub_err b (mv x0))

/-- **CG in rounded arithmetic, over a span of operation records** `o₁ ←ι— o₀ —φ→ flOps …`.  The run
and the hypotheses live over `o₁`, whose vectors `ρ` reads as real vectors (on the image of `ι` it is
`vval ∘ φ`); the rounding analysis lives over `flOps`.  Only the recurrences `r_0 = b − A x_0`,
`x' = x + p·α`, `r' = r − (A p)·α` are pushed through `φ` (`fl_drift_bound`), not the solver.  `ι = φ = id` is the
function-level statement `cg_success_true_residual`; `ι = Subtype.val`, `φ = arrFn` the one about
arrays (C08G). -/
theorem cg_drift_span {V₀ V₁ : Type} {o₀ : VOps (Fl M) V₀} {o₁ : VOps (Fl M) V₁} {ι : V₀ → V₁}
    {φ : V₀ → Fin n → Fl M} (Hι : VHom o₀ o₁ ι) (Hφ : VHom o₀ (flOps mv mvT dot norm2) φ)
    (H : FlMatVec mv A a εA) (ρ : V₁ → Fin n → ℝ) (hρ : ∀ v, ρ (ι v) = vval (φ v))
    (b x0 : V₀) (maxIter : ℕ) (tol : Fl M) (hu8 : M.u ≤ 1 / 8) (cA : ℝ) (hcA : 0 ≤ cA)
    (hεc : εA ≤ cA * M.u) (X R : ℝ)
    (hok : (solveCG o₁ (ι b) (ι x0) maxIter tol).ok = true)
    (hX : ∀ j, j ≤ (solveCG o₁ (ι b) (ι x0) maxIter tol).iters →
      ‖ρ (cgStates o₁ (guardNorm (o₁.norm2 (ι b)))
        (cgInit o₁ (ι b) (ι x0) (guardNorm (o₁.norm2 (ι b)))) j).x‖ ≤ X)
    (hR : ∀ j, j < (solveCG o₁ (ι b) (ι x0) maxIter tol).iters →
      ‖ρ (cgStates o₁ (guardNorm (o₁.norm2 (ι b)))
        (cgInit o₁ (ι b) (ι x0) (guardNorm (o₁.norm2 (ι b)))) j).r‖ ≤ R) :
    (∃ y, (solveCG o₁ (ι b) (ι x0) maxIter tol).x = ι y) ∧
    (solveCG o₁ (ι b) (ι x0) maxIter tol).iters ≤ maxIter ∧
    ∃ r₀ : V₀,
      ι r₀ = (cgStates o₁ (guardNorm (o₁.norm2 (ι b)))
        (cgInit o₁ (ι b) (ι x0) (guardNorm (o₁.norm2 (ι b))))
        (solveCG o₁ (ι b) (ι x0) maxIter tol).iters).r ∧
      Transc.le (o₁.norm2 (ι r₀) / guardNorm (o₁.norm2 (ι b))) tol = true ∧
      ‖(ρ (ι b) - A (ρ (solveCG o₁ (ι b) (ι x0) maxIter tol).x)) - ρ (ι r₀)‖
        ≤ M.u * (‖ρ (ι b)‖ + (1 + 2 * cA) * a * X)
          + (solveCG o₁ (ι b) (ι x0) maxIter tol).iters * M.u * ((16 + 6 * cA) * a * X + R) := by
  obtain ⟨h1, h2, h3⟩ := solveCG_trace o₁ (ι b) (ι x0) maxIter tol hok
  let st := cgStates o₀ (guardNorm (o₁.norm2 (ι b))) (cgInit o₀ b x0 (guardNorm (o₁.norm2 (ι b))))
  have ES : ∀ j, cgStates o₁ (guardNorm (o₁.norm2 (ι b)))
      (cgInit o₁ (ι b) (ι x0) (guardNorm (o₁.norm2 (ι b)))) j = mapCG ι (st j) :=
    cgStates_hom Hι b x0 _
  simp only [ES, mapCG, hρ] at hX hR h2 h3 ⊢
  refine ⟨⟨_, h2⟩, h1, _, rfl, h3, ?_⟩
  rw [h2, hρ]
  exact fl_drift_bound Hφ H b (fun j => (st j).x) (fun j => (st j).r)
    (fun j => cgP o₀ (j + 1) (st j)) (fun j => cgAlpha o₀ (j + 1) (st j)) rfl (fun _ => rfl)
    (fun _ => rfl)
    hu8 cA hcA hεc X R _ hX hR

/-- **C08 quantitative clause for the model's CG** (standard model, ∞-norm).  Let
`solveCG (flOps mv mvT dot norm2) b x0 maxIter tol` report success, `X` bound the iterates `‖x_j‖∞` (`j ≤ iters`), `R` the recurrence residuals `‖r_j‖∞`
(`j < iters`), `M.u ≤ 1/8` and the product error be `εA ≤ cA · u`.  Then the recurrence residual
`rk` of the exit state passed the model's test, and the TRUE residual of the returned `x` differs
from it by at most
`u (‖b‖ + (1 + 2 cA) a X) + iters · u · ((16 + 6 cA) a X + R)`. -/
theorem cg_success_true_residual (H : FlMatVec mv A a εA) (b x0 : Fin n → Fl M) (maxIter : ℕ)
    (tol : Fl M) (hu8 : M.u ≤ 1 / 8) (cA : ℝ) (hcA : 0 ≤ cA) (hεc : εA ≤ cA * M.u) (X R : ℝ)
    (hok : (solveCG (flOps mv mvT dot norm2) b x0 maxIter tol).ok = true)
    (hX : ∀ j, j ≤ (solveCG (flOps mv mvT dot norm2) b x0 maxIter tol).iters →
      ‖vval (cgStates (flOps mv mvT dot norm2) (guardNorm (norm2 b))
        (cgInit (flOps mv mvT dot norm2) b x0 (guardNorm (norm2 b))) j).x‖ ≤ X)
    (hR : ∀ j, j < (solveCG (flOps mv mvT dot norm2) b x0 maxIter tol).iters →
      ‖vval (cgStates (flOps mv mvT dot norm2) (guardNorm (norm2 b))
        (cgInit (flOps mv mvT dot norm2) b x0 (guardNorm (norm2 b))) j).r‖ ≤ R) :
    ∃ rk : Fin n → Fl M,
      rk = (cgStates (flOps mv mvT dot norm2) (guardNorm (norm2 b))
        (cgInit (flOps mv mvT dot norm2) b x0 (guardNorm (norm2 b)))
        (solveCG (flOps mv mvT dot norm2) b x0 maxIter tol).iters).r ∧
      (solveCG (flOps mv mvT dot norm2) b x0 maxIter tol).iters ≤ maxIter ∧
      Transc.le (norm2 rk / guardNorm (norm2 b)) tol = true ∧
      ‖(vval b - A (vval (solveCG (flOps mv mvT dot norm2) b x0 maxIter tol).x)) - vval rk‖
        ≤ M.u * (‖vval b‖ + (1 + 2 * cA) * a * X)
          + (solveCG (flOps mv mvT dot norm2) b x0 maxIter tol).iters * M.u
              * ((16 + 6 * cA) * a * X + R) := by
  obtain ⟨_, hit, rk, hrk, ht, hd⟩ := cg_drift_span (VHom.refl _) (VHom.refl (flOps mv mvT dot norm2))
    H vval (fun _ => rfl) b x0 maxIter tol hu8 cA hcA hεc X R hok hX hR
  exact ⟨rk, hrk, hit, ht, hd⟩

/-- the same with the norm of the recurrence residual: if passing the model's stopping test
(arbitrary `norm2`, rounded `/`, arbitrary comparison) implies `‖r‖∞ ≤ τ`, then on success
`‖b − A x_out‖∞ ≤ τ + u (‖b‖ + (1 + 2 cA) a X) + iters · u · ((16 + 6 cA) a X + R)`. -/
theorem cg_success_true_residual_norm (H : FlMatVec mv A a εA) (b x0 : Fin n → Fl M)
    (maxIter : ℕ) (tol : Fl M) (hu8 : M.u ≤ 1 / 8) (cA : ℝ) (hcA : 0 ≤ cA) (hεc : εA ≤ cA * M.u)
    (X R τ : ℝ)
    (htest : ∀ r : Fin n → Fl M, Transc.le (norm2 r / guardNorm (norm2 b)) tol = true →
      ‖vval r‖ ≤ τ)
    (hok : (solveCG (flOps mv mvT dot norm2) b x0 maxIter tol).ok = true)
    (hX : ∀ j, j ≤ (solveCG (flOps mv mvT dot norm2) b x0 maxIter tol).iters →
      ‖vval (cgStates (flOps mv mvT dot norm2) (guardNorm (norm2 b))
        (cgInit (flOps mv mvT dot norm2) b x0 (guardNorm (norm2 b))) j).x‖ ≤ X)
    (hR : ∀ j, j < (solveCG (flOps mv mvT dot norm2) b x0 maxIter tol).iters →
      ‖vval (cgStates (flOps mv mvT dot norm2) (guardNorm (norm2 b))
        (cgInit (flOps mv mvT dot norm2) b x0 (guardNorm (norm2 b))) j).r‖ ≤ R) :
    ‖vval b - A (vval (solveCG (flOps mv mvT dot norm2) b x0 maxIter tol).x)‖
      ≤ τ + M.u * (‖vval b‖ + (1 + 2 * cA) * a * X)
          + (solveCG (flOps mv mvT dot norm2) b x0 maxIter tol).iters * M.u
              * ((16 + 6 * cA) * a * X + R) := by
  obtain ⟨rk, _, _, ht, hd⟩ :=
    cg_success_true_residual H b x0 maxIter tol hu8 cA hcA hεc X R hok hX hR
  exact (norm_le_insert' _ (vval rk)).trans
    ((add_le_add (htest rk ht) hd).trans_eq (add_assoc _ _ _).symm)

theorem bicg_drift_span {V₀ V₁ : Type} {o₀ : VOps (Fl M) V₀} {o₁ : VOps (Fl M) V₁} {ι : V₀ → V₁}
    {φ : V₀ → Fin n → Fl M} (Hι : VHom o₀ o₁ ι) (Hφ : VHom o₀ (flOps mv mvT dot norm2) φ)
    (H : FlMatVec mv A a εA) (ρ : V₁ → Fin n → ℝ) (hρ : ∀ v, ρ (ι v) = vval (φ v))
    (b x0 : V₀) (maxIter : ℕ) (tol : Fl M) (itol : ℕ) (hu8 : M.u ≤ 1 / 8) (cA : ℝ) (hcA : 0 ≤ cA)
    (hεc : εA ≤ cA * M.u) (X R : ℝ)
    (hok : (solveBiCG o₁ (ι b) (ι x0) maxIter tol itol).ok = true)
    (hX : ∀ j, j ≤ (solveBiCG o₁ (ι b) (ι x0) maxIter tol itol).iters →
      ‖ρ (bicgStates o₁ (guardNorm (o₁.norm2 (ι b))) itol
        (bicgInit o₁ (ι b) (ι x0) (guardNorm (o₁.norm2 (ι b))) itol) j).x‖ ≤ X)
    (hR : ∀ j, j < (solveBiCG o₁ (ι b) (ι x0) maxIter tol itol).iters →
      ‖ρ (bicgStates o₁ (guardNorm (o₁.norm2 (ι b))) itol
        (bicgInit o₁ (ι b) (ι x0) (guardNorm (o₁.norm2 (ι b))) itol) j).r‖ ≤ R) :
    (∃ y, (solveBiCG o₁ (ι b) (ι x0) maxIter tol itol).x = ι y) ∧
    (solveBiCG o₁ (ι b) (ι x0) maxIter tol itol).iters ≤ maxIter ∧
    ∃ r₀ : V₀,
      ι r₀ = (bicgStates o₁ (guardNorm (o₁.norm2 (ι b))) itol
        (bicgInit o₁ (ι b) (ι x0) (guardNorm (o₁.norm2 (ι b))) itol)
        (solveBiCG o₁ (ι b) (ι x0) maxIter tol itol).iters).r ∧
      Transc.le (o₁.norm2 (ι r₀) / guardNorm (o₁.norm2 (ι b))) tol = true ∧
      ‖(ρ (ι b) - A (ρ (solveBiCG o₁ (ι b) (ι x0) maxIter tol itol).x)) - ρ (ι r₀)‖
        ≤ M.u * (‖ρ (ι b)‖ + (1 + 2 * cA) * a * X)
          + (solveBiCG o₁ (ι b) (ι x0) maxIter tol itol).iters * M.u * ((16 + 6 * cA) * a * X + R) := by
  obtain ⟨h1, h2, h3⟩ := solveBiCG_trace o₁ (ι b) (ι x0) maxIter tol itol hok
  let st := bicgStates o₀ (guardNorm (o₁.norm2 (ι b))) itol
    (bicgInit o₀ b x0 (guardNorm (o₁.norm2 (ι b))) itol)
  have ES : ∀ j, bicgStates o₁ (guardNorm (o₁.norm2 (ι b))) itol
      (bicgInit o₁ (ι b) (ι x0) (guardNorm (o₁.norm2 (ι b))) itol) j = mapBiCG ι (st j) :=
    bicgStates_hom Hι b x0 _ itol
  simp only [ES, mapBiCG, hρ] at hX hR h2 h3 ⊢
  refine ⟨⟨_, h2⟩, h1, _, rfl, h3, ?_⟩
  rw [h2, hρ]
  exact fl_drift_bound Hφ H b (fun j => (st j).x) (fun j => (st j).r)
    (fun j => bicgP o₀ (j + 1) (st j)) (fun j => bicgAlpha o₀ (j + 1) (st j)) rfl (fun _ => rfl)
    (fun _ => rfl)
    hu8 cA hcA hεc X R _ hX hR

/-- **C08 quantitative clause for the model's BiCG** (`itol` 1 and 2; standard model, ∞-norm):
the statement of `cg_success_true_residual` for `solveBiCG`. -/
theorem bicg_success_true_residual (H : FlMatVec mv A a εA) (b x0 : Fin n → Fl M) (maxIter : ℕ)
    (tol : Fl M) (itol : ℕ) (hu8 : M.u ≤ 1 / 8) (cA : ℝ) (hcA : 0 ≤ cA) (hεc : εA ≤ cA * M.u)
    (X R : ℝ)
    (hok : (solveBiCG (flOps mv mvT dot norm2) b x0 maxIter tol itol).ok = true)
    (hX : ∀ j, j ≤ (solveBiCG (flOps mv mvT dot norm2) b x0 maxIter tol itol).iters →
      ‖vval (bicgStates (flOps mv mvT dot norm2) (guardNorm (norm2 b)) itol
        (bicgInit (flOps mv mvT dot norm2) b x0 (guardNorm (norm2 b)) itol) j).x‖ ≤ X)
    (hR : ∀ j, j < (solveBiCG (flOps mv mvT dot norm2) b x0 maxIter tol itol).iters →
      ‖vval (bicgStates (flOps mv mvT dot norm2) (guardNorm (norm2 b)) itol
        (bicgInit (flOps mv mvT dot norm2) b x0 (guardNorm (norm2 b)) itol) j).r‖ ≤ R) :
    ∃ rk : Fin n → Fl M,
      rk = (bicgStates (flOps mv mvT dot norm2) (guardNorm (norm2 b)) itol
        (bicgInit (flOps mv mvT dot norm2) b x0 (guardNorm (norm2 b)) itol)
        (solveBiCG (flOps mv mvT dot norm2) b x0 maxIter tol itol).iters).r ∧
      (solveBiCG (flOps mv mvT dot norm2) b x0 maxIter tol itol).iters ≤ maxIter ∧
      Transc.le (norm2 rk / guardNorm (norm2 b)) tol = true ∧
      ‖(vval b - A (vval (solveBiCG (flOps mv mvT dot norm2) b x0 maxIter tol itol).x)) - vval rk‖
        ≤ M.u * (‖vval b‖ + (1 + 2 * cA) * a * X)
          + (solveBiCG (flOps mv mvT dot norm2) b x0 maxIter tol itol).iters * M.u
              * ((16 + 6 * cA) * a * X + R) := by
  obtain ⟨_, hit, rk, hrk, ht, hd⟩ := bicg_drift_span (VHom.refl _)
    (VHom.refl (flOps mv mvT dot norm2)) H vval (fun _ => rfl) b x0 maxIter tol itol hu8 cA hcA hεc X R
    hok hX hR
  exact ⟨rk, hrk, hit, ht, hd⟩

/-- the BiCG statement with the norm of the recurrence residual (cf.
`cg_success_true_residual_norm`) -/
theorem bicg_success_true_residual_norm (H : FlMatVec mv A a εA) (b x0 : Fin n → Fl M)
    (maxIter : ℕ) (tol : Fl M) (itol : ℕ) (hu8 : M.u ≤ 1 / 8) (cA : ℝ) (hcA : 0 ≤ cA)
    (hεc : εA ≤ cA * M.u) (X R τ : ℝ)
    (htest : ∀ r : Fin n → Fl M, Transc.le (norm2 r / guardNorm (norm2 b)) tol = true →
      ‖vval r‖ ≤ τ)
    (hok : (solveBiCG (flOps mv mvT dot norm2) b x0 maxIter tol itol).ok = true)
    (hX : ∀ j, j ≤ (solveBiCG (flOps mv mvT dot norm2) b x0 maxIter tol itol).iters →
      ‖vval (bicgStates (flOps mv mvT dot norm2) (guardNorm (norm2 b)) itol
        (bicgInit (flOps mv mvT dot norm2) b x0 (guardNorm (norm2 b)) itol) j).x‖ ≤ X)
    (hR : ∀ j, j < (solveBiCG (flOps mv mvT dot norm2) b x0 maxIter tol itol).iters →
      ‖vval (bicgStates (flOps mv mvT dot norm2) (guardNorm (norm2 b)) itol
        (bicgInit (flOps mv mvT dot norm2) b x0 (guardNorm (norm2 b)) itol) j).r‖ ≤ R) :
    ‖vval b - A (vval (solveBiCG (flOps mv mvT dot norm2) b x0 maxIter tol itol).x)‖
      ≤ τ + M.u * (‖vval b‖ + (1 + 2 * cA) * a * X)
          + (solveBiCG (flOps mv mvT dot norm2) b x0 maxIter tol itol).iters * M.u
              * ((16 + 6 * cA) * a * X + R) := by
  obtain ⟨rk, _, _, ht, hd⟩ :=
    bicg_success_true_residual H b x0 maxIter tol itol hu8 cA hcA hεc X R hok hX hR
  exact (norm_le_insert' _ (vval rk)).trans
    ((add_le_add (htest rk ht) hd).trans_eq (add_assoc _ _ _).symm)

/-- the exact product of the values, each component rounded once -/
noncomputable def mvRound (Am : Fin n → Fin n → ℝ) (v : Fin n → Fl M) : Fin n → Fl M :=
  fun i => ⟨M.fl (∑ j, Am i j * (v j).val)⟩

set_option linter.unusedSectionVars false in
/-- `mvRound` satisfies the product assumption with `εA = u` (so `cA = 1`), in every model -/
theorem flMatVec_mvRound (Am : Fin n → Fin n → ℝ) (a : ℝ) (ha : 0 ≤ a)
    (hrow : ∀ i, ∑ j, |Am i j| ≤ a) :
    FlMatVec (M := M) (mvRound Am) (rowLin Am) a M.u where
  a_nonneg := ha
  ε_nonneg := M.u_nonneg
  opA := rowLin_norm_le Am a ha hrow
  err v := by
    have h1 : ‖vval (mvRound (M := M) Am v) - rowLin Am (vval v)‖ ≤ M.u * ‖rowLin Am (vval v)‖ :=
      norm_sub_le_of_componentwise M.u M.u_nonneg _ _ (fun i => M.fl_err _)
    have h2 := rowLin_norm_le Am a ha hrow (vval v)
    rw [mul_assoc]
    exact h1.trans (mul_le_mul_of_nonneg_left h2 M.u_nonneg)

end Model
end Rounding

/-- finitely many reals have a common bound: the a-posteriori bounds `X`, `R` of the computed
iterates and residuals that the theorems take as hypotheses always exist -/
theorem exists_bound (f : ℕ → ℝ) (N : ℕ) : ∃ X, ∀ j, j < N → f j ≤ X :=
  ((Finset.range N).image f).exists_le.imp fun _ h _ hj =>
    h _ (Finset.mem_image_of_mem f (Finset.mem_range.mpr hj))

/-- two finite families of reals and a further real have a common bound (BiCGSTAB has two iterates
and two residuals per iteration, C08H) -/
theorem exists_bound_pair (f g : ℕ → ℝ) (c : ℝ) (N : ℕ) :
    ∃ X, c ≤ X ∧ ∀ j, j < N → f j ≤ X ∧ g j ≤ X := by
  obtain ⟨X₁, h₁⟩ := exists_bound f N
  obtain ⟨X₂, h₂⟩ := exists_bound g N
  exact ⟨max c (max X₁ X₂), le_max_left _ _, fun j hj =>
    ⟨(h₁ j hj).trans ((le_max_left _ _).trans (le_max_right _ _)),
      (h₂ j hj).trans ((le_max_right _ _).trans (le_max_right _ _))⟩⟩

section Examples

/-- **`u = 0` gives zero drift**: an exact run (`q = A p`, exact updates, `r_0 = b − A x_0`) is a
`DriftRun` with `u = εA = 0`, all hypotheses of `success_true_residual` are satisfiable, and its
conclusion is the exact-arithmetic statement `‖b − A x_k‖ ≤ tol ‖b‖`. -/
example {E : Type} [SeminormedAddCommGroup E] [NormedSpace ℝ E] (A : E →ₗ[ℝ] E) (a : ℝ)
    (ha : 0 ≤ a) (hA : ∀ v, ‖A v‖ ≤ a * ‖v‖) (b : E) (x r p : ℕ → E) (α : ℕ → ℝ) (k : ℕ)
    (hx : ∀ i, x (i + 1) = x i + α i • p i) (hr : ∀ i, r (i + 1) = r i - α i • A (p i))
    (h0 : r 0 = b - A (x 0)) (tol : ℝ) (hstop : ‖r k‖ ≤ tol * ‖b‖) :
    ‖b - A (x k)‖ ≤ tol * ‖b‖ := by
  have H : DriftRun A a 0 0 k x r p (fun i => A (p i)) α :=
    ⟨ha, le_rfl, le_rfl, hA, fun i _ => by simp, fun i _ => by simp [hx], fun i _ => by simp [hr]⟩
  obtain ⟨X, hX⟩ := exists_bound (fun i => ‖x i‖) (k + 1)
  obtain ⟨R, hR⟩ := exists_bound (fun i => ‖r i‖) k
  have h := success_true_residual H b (A (x 0)) (by simp) (by simp [h0]) (by norm_num) 0 le_rfl
    (by simp) X R (fun i hi => hX i (by omega)) hR tol hstop
  simpa using h

/-- the general statement is not about `u = 0` only: in EVERY model `M` with `u ≤ 1/8` (e.g.
`FlModel.binary64`, `FlModel.scale`) the hypotheses of `cg_success_true_residual` are satisfiable —
`mvRound Am` satisfies `FlMatVec` with `εA = u`, `cA = 1`, and bounds `X`, `R` of the finitely many
computed iterates exist — so a successful model run has drift `≤ u (‖b‖ + 3 a X) + iters·u·(22 a X + R)`. -/
example {M : FlModel} {n : ℕ} [Transc (Fl M)] (hu8 : M.u ≤ 1 / 8) (Am : Fin n → Fin n → ℝ) (a : ℝ)
    (ha : 0 ≤ a) (hrow : ∀ i, ∑ j, |Am i j| ≤ a) (mvT : (Fin n → Fl M) → (Fin n → Fl M))
    (dot : (Fin n → Fl M) → (Fin n → Fl M) → Fl M) (norm2 : (Fin n → Fl M) → Fl M)
    (b x0 : Fin n → Fl M) (maxIter : ℕ) (tol : Fl M)
    (hok : (solveCG (flOps (mvRound Am) mvT dot norm2) b x0 maxIter tol).ok = true) :
    ∃ X R : ℝ, ∃ rk : Fin n → Fl M,
      Transc.le (norm2 rk / guardNorm (norm2 b)) tol = true ∧
      ‖(vval b - rowLin Am (vval (solveCG (flOps (mvRound Am) mvT dot norm2) b x0 maxIter tol).x))
          - vval rk‖
        ≤ M.u * (‖vval b‖ + 3 * a * X)
          + (solveCG (flOps (mvRound Am) mvT dot norm2) b x0 maxIter tol).iters * M.u
              * (22 * a * X + R) := by
  have hit := cg_iter_bound (flOps (mvRound Am) mvT dot norm2) b x0 maxIter tol
  obtain ⟨X, hX⟩ := exists_bound (fun j => ‖vval (cgStates (flOps (mvRound Am) mvT dot norm2)
    (guardNorm (norm2 b)) (cgInit (flOps (mvRound Am) mvT dot norm2) b x0 (guardNorm (norm2 b))) j).x‖)
    (maxIter + 1)
  obtain ⟨R, hR⟩ := exists_bound (fun j => ‖vval (cgStates (flOps (mvRound Am) mvT dot norm2)
    (guardNorm (norm2 b)) (cgInit (flOps (mvRound Am) mvT dot norm2) b x0 (guardNorm (norm2 b))) j).r‖)
    maxIter
  obtain ⟨rk, _, _, ht, hd⟩ := cg_success_true_residual (flMatVec_mvRound Am a ha hrow) b x0 maxIter
    tol hu8 1 zero_le_one (by simp) X R hok (fun j hj => hX j (by omega)) (fun j hj => hR j (by omega))
  refine ⟨X, R, rk, ht, ?_⟩
  have e1 : (1 + 2 * (1 : ℝ)) = 3 := by norm_num
  have e2 : (16 + 6 * (1 : ℝ)) = 22 := by norm_num
  rw [e1, e2] at hd
  exact hd

/-- **exact model (`u = 0`) recovers the exact theorem** at the model level: over
`Fl FlModel.exact` the recurrence residual tested by a successful `solveCG` IS the true residual of
the returned `x` (cf. `cg_success_sound`). -/
example {n : ℕ} [Transc (Fl FlModel.exact)] (Am : Fin n → Fin n → ℝ) (a : ℝ)
    (ha : 0 ≤ a) (hrow : ∀ i, ∑ j, |Am i j| ≤ a)
    (mvT : (Fin n → Fl FlModel.exact) → (Fin n → Fl FlModel.exact))
    (dot : (Fin n → Fl FlModel.exact) → (Fin n → Fl FlModel.exact) → Fl FlModel.exact)
    (norm2 : (Fin n → Fl FlModel.exact) → Fl FlModel.exact)
    (b x0 : Fin n → Fl FlModel.exact) (maxIter : ℕ) (tol : Fl FlModel.exact)
    (hok : (solveCG (flOps (mvRound Am) mvT dot norm2) b x0 maxIter tol).ok = true) :
    ∃ rk : Fin n → Fl FlModel.exact,
      Transc.le (norm2 rk / guardNorm (norm2 b)) tol = true ∧
      vval b - rowLin Am (vval (solveCG (flOps (mvRound Am) mvT dot norm2) b x0 maxIter tol).x)
        = vval rk := by
  have hit := cg_iter_bound (flOps (mvRound Am) mvT dot norm2) b x0 maxIter tol
  obtain ⟨X, hX⟩ := exists_bound (fun j => ‖vval (cgStates (flOps (mvRound Am) mvT dot norm2)
    (guardNorm (norm2 b)) (cgInit (flOps (mvRound Am) mvT dot norm2) b x0 (guardNorm (norm2 b))) j).x‖)
    (maxIter + 1)
  obtain ⟨R, hR⟩ := exists_bound (fun j => ‖vval (cgStates (flOps (mvRound Am) mvT dot norm2)
    (guardNorm (norm2 b)) (cgInit (flOps (mvRound Am) mvT dot norm2) b x0 (guardNorm (norm2 b))) j).r‖)
    maxIter
  obtain ⟨rk, _, _, ht, hd⟩ := cg_success_true_residual (flMatVec_mvRound Am a ha hrow) b x0 maxIter
    tol (by rw [FlModel.exact_u]; norm_num) 1 zero_le_one (by simp) X R hok (fun j hj => hX j (by omega))
    (fun j hj => hR j (by omega))
  refine ⟨rk, ht, ?_⟩
  rw [FlModel.exact_u] at hd
  simp only [zero_mul, mul_zero, add_zero] at hd
  exact sub_eq_zero.mp (norm_le_zero_iff.mp hd)

end Examples

end Ohsl.Props.C08
