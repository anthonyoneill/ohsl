/-
  Property C01 — dense direct solvers (model: Ohsl/Model/Solve.lean).
  Proved here: (S) the entry guards — a non-square matrix or a right-hand side of the wrong
  length is rejected by both solvers before anything is computed, for ANY scalar type.
  The exact-arithmetic theorems are in C01S (soundness, uniqueness, agreement), C01C (completeness,
  iff det ≠ 0), C01X (generic pivot order, complex scalars), C01O (order 0); the rounded-arithmetic
  ones in C01F / C01G.
-/
import Ohsl.Model.Solve
namespace Ohsl.Props.C01
open Ohsl Ohsl.Mat

section
variable {K : Type} [Sub K] [Mul K] [Zero K] [ScalarExt K]

theorem solveBasic_rejects (m : Mat K) (b : Array K) (h : m.rows ≠ b.size ∨ m.rows ≠ m.cols) :
    solveBasic m b = .error .size := by
  unfold solveBasic
  by_cases h1 : m.rows ≠ b.size
  · simp [h1]
  · have h2 : m.rows ≠ m.cols := h.resolve_left h1
    simp [h1, h2]

end

section
variable {K : Type} [Add K] [Sub K] [Mul K] [Zero K] [One K] [BEq K] [ScalarExt K]

theorem solveLU_rejects (m : Mat K) (b : Array K) (h : m.rows ≠ b.size ∨ m.rows ≠ m.cols) :
    solveLU m b = .error .size := by
  unfold solveLU
  by_cases h1 : m.rows ≠ b.size
  · simp [h1]
  · have h2 : m.rows ≠ m.cols := h.resolve_left h1
    simp [h1, h2]

end

variable {K : Type} [Add K] [Sub K] [Mul K] [Neg K] [Zero K] [One K] [BEq K] [ScalarExt K]

set_option linter.unusedSectionVars false in
/-- an order-0 system is rejected (`rows - 1` underflows), it never returns a value -/
theorem solveBasic_order0 (m : Mat K) (b : Array K) (h0 : m.rows = 0) (hc : m.cols = 0) (hb : b.size = 0) :
    solveBasic m b = .error .arith := by
  simp [solveBasic, h0, hc, hb, gaussWithPivot, usub, bind, Except.bind]

end Ohsl.Props.C01
