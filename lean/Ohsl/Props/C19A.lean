/-
  Property C19 (continued) — meshes: `assign`, `apply`, `mesh[(i,j)][var] = x`, and refinement of
  ARBITRARY histories of node writes to a reference model (model: Ohsl/Model/Mesh.lean).

  All statements are class (S): any value type `T`, any coordinate type `X`, no algebraic law.

  The reference view of a mesh is `abs2` / `abs1` (node, node, variable ↦ value, read through
  `get_nodes_vars`); every other access path (`index`, cross-sections followed by 1-D reads,
  `var_as_matrix`) returns the same values (`views_inv2`).  The writes: `assign_spec`, `apply_spec`,
  `setVar_spec2`.  A history is a list of `Op2`: `Op2.run` are the MODEL functions, `Op2.ref` is the
  reference step; one step refines (`step_refines2`) and lifts to lists by Lemmas/Sim:
  `history_refines2` (a panic aborts), `history_views2` (a rejected call is caught), both from
  `Mesh2D::new`, their `_from` forms from any mesh over the grid; `history_refines1`,
  `history_views1` for the 1-D mesh.
-/
import Ohsl.Props.C19M
import Ohsl.Lemmas.Sim
namespace Ohsl.Props.C19
open Ohsl

section Flat
variable {T : Type}

/-- entry `w` of the vector stored at flat address `a` (`none` outside the storage) -/
def ent (vs : Array (Array T)) (a w : Nat) : Option T := (vs[a]?).bind (fun row => row[w]?)

/-- `N` node vectors, each of length `nv` -/
def Shaped (vs : Array (Array T)) (N nv : Nat) : Prop :=
  vs.size = N ∧ ∀ k (hk : k < vs.size), vs[k].size = nv

theorem ent_eq {vs : Array (Array T)} {a : Nat} (ha : a < vs.size) (w : Nat) :
    ent vs a w = vs[a][w]? := by
  simp [ent, ha]

theorem ent_none {vs : Array (Array T)} {N nv : Nat} (h : Shaped vs N nv) {a w : Nat}
    (hw : N ≤ a ∨ nv ≤ w) : ent vs a w = none := by
  by_cases ha : a < vs.size
  · rw [ent_eq ha]
    exact Array.getElem?_eq_none (h.2 a ha ▸ hw.resolve_left (Nat.not_le.2 (h.1 ▸ ha)))
  · simp [ent, Nat.le_of_not_lt ha]

theorem ent_some {vs : Array (Array T)} {N nv : Nat} (h : Shaped vs N nv) {a w : Nat}
    (ha : a < N) (hw : w < nv) : ∃ x, ent vs a w = some x := by
  have ha' : a < vs.size := by rw [h.1]; exact ha
  have hw' : w < vs[a].size := by rw [h.2 a ha']; exact hw
  exact ⟨vs[a][w], by rw [ent_eq ha']; simp [hw']⟩

theorem row_of_ent {vs : Array (Array T)} {N nv : Nat} (h : Shaped vs N nv) {a : Nat} (ha : a < N) :
    ∃ row, aget vs a = .ok row ∧ row.size = nv ∧ ∀ w, row[w]? = ent vs a w := by
  have ha' : a < vs.size := by rw [h.1]; exact ha
  exact ⟨vs[a], Mat.aget_ok ha', h.2 a ha', fun w => (ent_eq ha' w).symm⟩

/-- `vs[a] = v` -/
theorem put_ok {vs : Array (Array T)} {N nv : Nat} (h : Shaped vs N nv) {a : Nat} (ha : a < N)
    {v : Array T} (hv : v.size = nv) :
    ∃ vs', aset vs a v = .ok vs' ∧ Shaped vs' N nv ∧
      ∀ b u, ent vs' b u = if b = a then v[u]? else ent vs b u := by
  have ha' : a < vs.size := by rw [h.1]; exact ha
  refine ⟨vs.setIfInBounds a v, Mat.aset_ok v ha', ⟨by simpa using h.1, ?_⟩, ?_⟩
  · intro k hk
    have hk' : k < vs.size := by simpa using hk
    by_cases e : a = k
    · subst e; simp [hv]
    · rw [Array.getElem_setIfInBounds, if_neg e]; exact h.2 k hk'
  · intro b u
    by_cases e : b = a
    · subst e; simp [ent, ha']
    · have e' : a ≠ b := fun q => e q.symm
      simp [ent, e, e']

/-- `vs[a][w] = x` (the body of every elementwise mesh loop) -/
theorem poke_ok {vs : Array (Array T)} {N nv : Nat} (h : Shaped vs N nv) {a w : Nat} (ha : a < N)
    (hw : w < nv) (x : T) :
    ∃ vs', (do let row ← aget vs a; let row ← aset row w x; aset vs a row : Res (Array (Array T)))
        = .ok vs' ∧ Shaped vs' N nv ∧
      ∀ b u, ent vs' b u = if b = a ∧ u = w then some x else ent vs b u := by
  have ha' : a < vs.size := by rw [h.1]; exact ha
  have hw' : w < vs[a].size := by rw [h.2 a ha']; exact hw
  obtain ⟨vs', h1, h2, h3⟩ := put_ok h ha (v := vs[a].setIfInBounds w x)
    (by simpa using h.2 a ha')
  refine ⟨vs', ?_, h2, ?_⟩
  · simp only [Mat.aget_ok ha', Mat.aset_ok x hw', bind, Except.bind]
    exact h1
  · intro b u
    rw [h3 b u]
    by_cases e : b = a
    · subst e
      by_cases e2 : u = w
      · subst e2; simp [hw']
      · have e2' : w ≠ u := fun q => e2 q.symm
        simp [e2, e2', ent_eq ha']
    · simp [e]

theorem poke_err {vs : Array (Array T)} {N nv : Nat} (h : Shaped vs N nv) {a w : Nat} (ha : a < N)
    (hw : nv ≤ w) (x : T) :
    (do let row ← aget vs a; let row ← aset row w x; aset vs a row : Res (Array (Array T)))
      = .error .range := by
  have ha' : a < vs.size := by rw [h.1]; exact ha
  have hw' : vs[a].size ≤ w := by rw [h.2 a ha']; exact hw
  simp only [Mat.aget_ok ha', Mat.aset_err x hw', bind, Except.bind]

theorem poke_err_addr {vs : Array (Array T)} {a w : Nat} (ha : vs.size ≤ a) (x : T) :
    (do let row ← aget vs a; let row ← aset row w x; aset vs a row : Res (Array (Array T)))
      = .error .range := by
  simp only [Mat.aget_err ha, bind, Except.bind]

/-- loop invariant of the elementwise loops: `s` has the shape of the storage, the cells selected
    by `C` hold their target value `tgt`, every other cell is as in the initial storage `vs` -/
def Upd (vs s : Array (Array T)) (N nv : Nat) (tgt : Nat → Nat → Option T)
    (C : Nat → Nat → Prop) : Prop :=
  Shaped s N nv ∧ ∀ b u, (C b u → ent s b u = tgt b u) ∧ (¬ C b u → ent s b u = ent vs b u)

theorem Upd.init {vs : Array (Array T)} {N nv : Nat} {tgt : Nat → Nat → Option T}
    {C : Nat → Nat → Prop} (h : Shaped vs N nv) (hC : ∀ b u, ¬ C b u) : Upd vs vs N nv tgt C :=
  ⟨h, fun b u => ⟨fun c => absurd c (hC b u), fun _ => rfl⟩⟩

theorem Upd.congr {vs s : Array (Array T)} {N nv : Nat} {tgt : Nat → Nat → Option T}
    {C C' : Nat → Nat → Prop} (h : Upd vs s N nv tgt C) (hc : ∀ b u, C' b u ↔ C b u) :
    Upd vs s N nv tgt C' :=
  ⟨h.1, fun b u => ⟨fun c => (h.2 b u).1 ((hc b u).1 c),
    fun c => (h.2 b u).2 (fun q => c ((hc b u).2 q))⟩⟩

theorem Upd.step {vs s : Array (Array T)} {N nv : Nat} {tgt : Nat → Nat → Option T}
    {C C' : Nat → Nat → Prop} (h : Upd vs s N nv tgt C) {a w : Nat} (ha : a < N) (hw : w < nv)
    {x : T} (hx : tgt a w = some x) (hc : ∀ b u, C' b u ↔ (b = a ∧ u = w) ∨ C b u) :
    ∃ s', (do let row ← aget s a; let row ← aset row w x; aset s a row : Res (Array (Array T)))
        = .ok s' ∧ Upd vs s' N nv tgt C' := by
  obtain ⟨s', h1, h2, h3⟩ := poke_ok h.1 ha hw x
  refine ⟨s', h1, h2, fun b u => ⟨fun c => ?_, fun c => ?_⟩⟩
  · rw [h3 b u]
    by_cases e : b = a ∧ u = w
    · rw [if_pos e, e.1, e.2, hx]
    · rw [if_neg e]
      exact (h.2 b u).1 (((hc b u).1 c).resolve_left e)
  · have e : ¬ (b = a ∧ u = w) := fun q => c ((hc b u).2 (Or.inl q))
    rw [h3 b u, if_neg e]
    exact (h.2 b u).2 (fun q => c ((hc b u).2 (Or.inr q)))

theorem assign_loop {vs : Array (Array T)} {nx ny nv : Nat} (h : Shaped vs (nx * ny) nv) (x : T) :
    ∃ vs', Mat.forM' 0 nx vs (fun vs i =>
        Mat.forM' 0 ny vs (fun vs j =>
          Mat.forM' 0 nv vs (fun vs v => do
            let row ← aget vs (i * ny + j)
            let row ← aset row v x
            aset vs (i * ny + j) row))) = .ok vs' ∧
      Upd vs vs' (nx * ny) nv (fun _ _ => some x) (fun b u => b < nx * ny ∧ u < nv) := by
  refine Mat.forM'_inv
    (fun i s => Upd vs s (nx * ny) nv (fun _ _ => some x) (fun b u => b < i * ny ∧ u < nv))
    0 nx vs _ (Nat.zero_le _) (Upd.init h fun b u c => Nat.not_lt_zero b (Nat.zero_mul ny ▸ c.1))
    fun i s _ hi hI => ?_
  refine Mat.forM'_inv_of
    (fun j s => Upd vs s (nx * ny) nv (fun _ _ => some x) (fun b u => b < i * ny + j ∧ u < nv))
    0 ny s _ (Nat.zero_le _) (hI.congr fun _ _ => Iff.rfl) (fun j s _ hj hJ => ?_)
    fun s hP => hP.congr (by intro b u; rw [Nat.succ_mul])
  have ha : i * ny + j < nx * ny := Mat.idx_lt hi hj
  refine Mat.forM'_inv_of
    (fun v s => Upd vs s (nx * ny) nv (fun _ _ => some x)
      (fun b u => (b < i * ny + j ∧ u < nv) ∨ (b = i * ny + j ∧ u < v)))
    0 nv s _ (Nat.zero_le _) (hJ.congr fun b u => or_iff_left fun q => Nat.not_lt_zero u q.2)
    (fun v s _ hv hV => hV.step ha hv rfl (by
      intro b u
      rw [Nat.lt_succ_iff_lt_or_eq, and_or_left, or_comm (a := b = i * ny + j ∧ u < v),
        or_left_comm]))
    fun s hP => hP.congr (by
      intro b u
      rw [← Nat.add_assoc, Nat.lt_succ_iff_lt_or_eq, or_and_right])

end Flat

/-- value written by `apply` at flat address `b` (row-major: `b = i*ny + j`) -/
def tgtA {T X : Type} (f : X → X → T) (xn yn : Array X) (ny : Nat) : Nat → Nat → Option T :=
  fun b _ => (xn[b / ny]?).bind fun x => (yn[b % ny]?).map fun y => f x y

theorem tgtA_eq {T X : Type} (f : X → X → T) (xn yn : Array X) {ny i j : Nat} (hi : i < xn.size)
    (hj : j < yn.size) (hy : yn.size = ny) (u : Nat) :
    tgtA f xn yn ny (i * ny + j) u = some (f xn[i] yn[j]) := by
  have hj' : j < ny := Nat.lt_of_lt_of_eq hj hy
  simp [tgtA, Mat.idx_div hj', Mat.idx_mod hj', hi, hj]

theorem apply_loop {T X : Type} {vs : Array (Array T)} {nx ny nv : Nat} {xn yn : Array X}
    (hx : xn.size = nx) (hy : yn.size = ny) (h : Shaped vs (nx * ny) nv) (f : X → X → T)
    {var : Nat} (hv : var < nv) :
    ∃ vs', Mat.forM' 0 nx vs (fun vs i => do
        let x ← aget xn i
        Mat.forM' 0 ny vs (fun vs j => do
          let y ← aget yn j
          let row ← aget vs (i * ny + j)
          let row ← aset row var (f x y)
          aset vs (i * ny + j) row)) = .ok vs' ∧
      Upd vs vs' (nx * ny) nv (tgtA f xn yn ny) (fun b u => b < nx * ny ∧ u = var) := by
  refine Mat.forM'_inv
    (fun i s => Upd vs s (nx * ny) nv (tgtA f xn yn ny) (fun b u => b < i * ny ∧ u = var))
    0 nx vs _ (Nat.zero_le _) (Upd.init h fun b u c => Nat.not_lt_zero b (Nat.zero_mul ny ▸ c.1))
    fun i s _ hi hI => ?_
  have hi' : i < xn.size := Nat.lt_of_lt_of_eq hi hx.symm
  rw [Mat.aget_ok hi']
  refine Mat.forM'_inv_of
    (fun j s => Upd vs s (nx * ny) nv (tgtA f xn yn ny) (fun b u => b < i * ny + j ∧ u = var))
    0 ny s _ (Nat.zero_le _) (hI.congr fun _ _ => Iff.rfl) (fun j s _ hj hJ => ?_)
    fun s hP => hP.congr (by intro b u; rw [Nat.succ_mul])
  have hj' : j < yn.size := Nat.lt_of_lt_of_eq hj hy.symm
  rw [Mat.aget_ok hj']
  exact hJ.step (C' := fun b u => b < i * ny + (j + 1) ∧ u = var) (Mat.idx_lt hi hj) hv
    (tgtA_eq f xn yn hi' hj' hy var) (by
      intro b u
      rw [← Nat.add_assoc, Nat.lt_succ_iff_lt_or_eq, or_and_right, or_comm])

theorem apply_loop_err {T X : Type} {vs : Array (Array T)} {nx ny nv : Nat} {xn yn : Array X}
    (hx : xn.size = nx) (hy : yn.size = ny) (h : Shaped vs (nx * ny) nv) (f : X → X → T)
    {var : Nat} (hv : nv ≤ var) (hnx : 0 < nx) (hny : 0 < ny) :
    Mat.forM' 0 nx vs (fun vs i => do
        let x ← aget xn i
        Mat.forM' 0 ny vs (fun vs j => do
          let y ← aget yn j
          let row ← aget vs (i * ny + j)
          let row ← aset row var (f x y)
          aset vs (i * ny + j) row)) = .error .range := by
  apply Mat.forM'_first_error 0 nx _ _ _ hnx
  have hi' : 0 < xn.size := Nat.lt_of_lt_of_eq hnx hx.symm
  have hj' : 0 < yn.size := Nat.lt_of_lt_of_eq hny hy.symm
  rw [Mat.aget_ok hi']
  show Mat.forM' 0 ny vs _ = _
  apply Mat.forM'_first_error 0 ny _ _ _ hny
  rw [Mat.aget_ok hj']
  exact poke_err h (Mat.idx_lt hnx hny) hv _

theorem apply_loop_noop {T X : Type} {vs : Array (Array T)} {nx ny : Nat} {xn yn : Array X}
    (hx : xn.size = nx) (f : X → X → T) {var : Nat} (h0 : nx = 0 ∨ ny = 0) :
    Mat.forM' 0 nx vs (fun vs i => do
        let x ← aget xn i
        Mat.forM' 0 ny vs (fun vs j => do
          let y ← aget yn j
          let row ← aget vs (i * ny + j)
          let row ← aset row var (f x y)
          aset vs (i * ny + j) row)) = .ok vs := by
  refine Mat.forM'_eq_of_inv (fun _ => vs) 0 nx vs _ (Nat.zero_le _) rfl fun i _ hi => ?_
  rw [Mat.aget_ok (hx ▸ hi)]
  exact Mat.forM'_empty 0 ny _ _ ((h0.resolve_left (Nat.ne_of_gt (Nat.zero_lt_of_lt hi))).le)

section Views
variable {T X : Type}

/-- reference state of a 2-D mesh: (x node, y node, variable) ↦ value -/
abbrev Ref2 (T : Type) := Nat → Nat → Nat → Option T
/-- reference state of a 1-D mesh: (node, variable) ↦ value -/
abbrev Ref1 (T : Type) := Nat → Nat → Option T

/-- abstraction: what `get_nodes_vars(i, j)[w]` returns (`none` when the call or the index panics) -/
def abs2 (m : Mesh2 T X) : Ref2 T := fun i j w =>
  match Mesh2.getNodesVars m i j with
  | .ok row => row[w]?
  | .error _ => none

def abs1 (m : Mesh1 T X) : Ref1 T := fun k w =>
  match Mesh1.getNodesVars m k with
  | .ok row => row[w]?
  | .error _ => none

/-- every stored node vector of the 1-D mesh has `nvars` entries (any element type) -/
def RowSized1 (m : Mesh1 T X) : Prop := ∀ k (hk : k < m.vars.size), m.vars[k].size = m.nvars

theorem shaped2 {m : Mesh2 T X} (h : WF2 m) (hs : Sized2 m) :
    Shaped m.vars (m.nx * m.ny) m.nvars := ⟨h.1, hs⟩

theorem shaped1 {m : Mesh1 T X} (h : WF1 m) (hs : RowSized1 m) :
    Shaped m.vars m.nodes.size m.nvars := ⟨h, hs⟩

/-- under `WF1` the 1-D reference view is the entry function of the storage: beyond the last node
    the storage ends too -/
theorem abs1_ent {m : Mesh1 T X} (h : WF1 m) : abs1 m = ent m.vars := by
  funext k w
  by_cases hg : k < m.nodes.size
  · have hlt : k < m.vars.size := h.symm ▸ hg
    simp only [abs1, Mesh1.getNodesVars, ge_iff_le, Nat.not_le.2 hg, if_false, Mat.aget_ok hlt,
      ent_eq hlt]
  · have hn : m.vars.size ≤ k := h.symm ▸ Nat.le_of_not_lt hg
    simp only [abs1, Mesh1.getNodesVars, ge_iff_le, Nat.le_of_not_lt hg, if_true, ent,
      Array.getElem?_eq_none hn, Option.bind_none]

variable [Zero T]

theorem new_rowSized1 (nodes : Array X) (nvars : Nat) :
    RowSized1 (Mesh1.new nodes nvars : Mesh1 T X) := by
  intro k hk; simp [Mesh1.new]

theorem abs2_eq {m : Mesh2 T X} (h : WF2 m) (i j w : Nat) :
    abs2 m i j w = if i < m.nx ∧ j < m.ny then ent m.vars (i * m.ny + j) w else none := by
  by_cases hg : i < m.nx ∧ j < m.ny
  · obtain ⟨hlt, hget⟩ := get_ok2 m h hg.1 hg.2
    simp only [abs2, hget, if_pos hg, ent_eq hlt]
  · obtain ⟨e, he⟩ := get_rejects2 m i j (not_lt_and hg)
    simp only [abs2, he, if_neg hg]

theorem abs2_none {m : Mesh2 T X} (h : WF2 m) (hs : Sized2 m) {i j w : Nat}
    (ho : m.nx ≤ i ∨ m.ny ≤ j ∨ m.nvars ≤ w) : abs2 m i j w = none := by
  rw [abs2_eq h]
  by_cases hg : i < m.nx ∧ j < m.ny
  · rw [if_pos hg]
    exact ent_none (shaped2 h hs)
      (Or.inr ((ho.resolve_left (Nat.not_le.2 hg.1)).resolve_left (Nat.not_le.2 hg.2)))
  · rw [if_neg hg]

theorem abs2_val2 {m : Mesh2 T X} (h : WF2 m) (hs : Sized2 m) {i j w : Nat} (hi : i < m.nx)
    (hj : j < m.ny) (hw : w < m.nvars) : abs2 m i j w = some (val2 m i j w) := by
  obtain ⟨h1, h2, e⟩ := val2_eq m h hs hi hj hw
  rw [abs2_eq h, if_pos ⟨hi, hj⟩, ent_eq h1, e]
  simp [h2]

theorem view_get2 (m : Mesh2 T X) (h : WF2 m) (hs : Sized2 m) {i j : Nat} (hi : i < m.nx)
    (hj : j < m.ny) :
    ∃ row, Mesh2.getNodesVars m i j = .ok row ∧ Mesh2.index m i j = .ok row ∧
      row.size = m.nvars ∧ ∀ w, row[w]? = abs2 m i j w := by
  obtain ⟨hlt, hget⟩ := get_ok2 m h hi hj
  refine ⟨_, hget, Mat.aget_ok hlt, hs _ hlt, fun w => ?_⟩
  simp only [abs2, hget]

theorem view_collect (m : Mesh2 T X) (h : WF2 m) (hs : Sized2 m) (nodes : Array X) (n : Nat)
    (hn : nodes.size = n) (a b : Nat → Nat) (ha : ∀ k, k < n → a k < m.nx)
    (hb : ∀ k, k < n → b k < m.ny) :
    ∃ s, Mat.forM' 0 n (Mesh1.new nodes m.nvars) (fun s k => do
        let v ← Mesh2.getNodesVars m (a k) (b k)
        Mesh1.setNodesVars s k v) = .ok s ∧
      WF1 s ∧ RowSized1 s ∧ s.nvars = m.nvars ∧ s.nodes = nodes ∧
      ∀ k, k < n → Mesh1.getNodesVars s k = Mesh2.getNodesVars m (a k) (b k) ∧
        Mesh1.index s k = Mesh2.getNodesVars m (a k) (b k) ∧
        ∀ w, abs1 s k w = abs2 m (a k) (b k) w := by
  obtain ⟨s, h1, h2, h3, h4, h5⟩ := collect_spec m h hs nodes n hn a b ha hb
  have hsz : s.vars.size = n := by rw [h2, h4, hn]
  refine ⟨s, h1, h2, fun k hk => ?_, h3, h4, fun k hk => ?_⟩
  · have hk' : k < n := hsz ▸ hk
    have hlt : a k * m.ny + b k < m.vars.size := by
      rw [h.1]; exact Mat.idx_lt (ha k hk') (hb k hk')
    have e := (h5 k hk').1
    rw [Array.getElem?_eq_getElem hk, Array.getElem?_eq_getElem hlt] at e
    rw [Option.some.inj e, h3]
    exact hs _ hlt
  · have hnn : ¬ k ≥ s.nodes.size := by rw [h4, hn]; exact Nat.not_le.2 hk
    have e := (h5 k hk).2
    refine ⟨e, ?_, fun w => ?_⟩
    · rw [← e]; simp only [Mesh1.index, Mesh1.getNodesVars, hnn, if_false]
    · simp only [abs1, abs2, e]

theorem view_crossX (m : Mesh2 T X) (h : WF2 m) (hs : Sized2 m) {i : Nat} (hi : i < m.nx) :
    ∃ s, Mesh2.crossSectionX m i = .ok s ∧ WF1 s ∧ RowSized1 s ∧ s.nvars = m.nvars ∧
      s.nodes = m.ynodes ∧
      ∀ j, j < m.ny → Mesh1.getNodesVars s j = Mesh2.getNodesVars m i j ∧
        Mesh1.index s j = Mesh2.getNodesVars m i j ∧ ∀ w, abs1 s j w = abs2 m i j w :=
  view_collect m h hs m.ynodes m.ny h.2.2 (fun _ => i) id (fun _ _ => hi) (fun _ hk => hk)

theorem view_crossY (m : Mesh2 T X) (h : WF2 m) (hs : Sized2 m) {j : Nat} (hj : j < m.ny) :
    ∃ s, Mesh2.crossSectionY m j = .ok s ∧ WF1 s ∧ RowSized1 s ∧ s.nvars = m.nvars ∧
      s.nodes = m.xnodes ∧
      ∀ i, i < m.nx → Mesh1.getNodesVars s i = Mesh2.getNodesVars m i j ∧
        Mesh1.index s i = Mesh2.getNodesVars m i j ∧ ∀ w, abs1 s i w = abs2 m i j w :=
  view_collect m h hs m.xnodes m.nx h.2.1 id (fun _ => j) (fun _ hk => hk) (fun _ _ => hj)

theorem view_matrix (m : Mesh2 T X) (h : WF2 m) (hs : Sized2 m) {var : Nat} (hv : var < m.nvars) :
    ∃ M, Mesh2.varAsMatrix m var = .ok M ∧ M.WF ∧ M.rows = m.nx ∧ M.cols = m.ny ∧
      ∀ i j, i < m.nx → j < m.ny → ∃ x, M.get i j = .ok x ∧ abs2 m i j var = some x := by
  obtain ⟨M, hM, hI⟩ := varAsMatrix_spec m h hs hv
  exact ⟨M, hM, hI.wf, hI.rows, hI.cols, fun i j hi hj =>
    ⟨_, hI.entry i j hi hj, abs2_val2 h hs hi hj hv⟩⟩

end Views

section Ops
variable {T X : Type}

/-- `m'` lives on the grid of `m`, with as many variables, and satisfies the invariants: what every
    successful write keeps -/
def SameGrid (m m' : Mesh2 T X) : Prop :=
  WF2 m' ∧ Sized2 m' ∧ m'.nx = m.nx ∧ m'.ny = m.ny ∧ m'.nvars = m.nvars ∧ m'.xnodes = m.xnodes ∧
    m'.ynodes = m.ynodes

theorem SameGrid.of_vars {m : Mesh2 T X} (h : WF2 m) {vs' : Array (Array T)}
    (hS : Shaped vs' (m.nx * m.ny) m.nvars) : SameGrid m { m with vars := vs' } :=
  ⟨⟨hS.1, h.2.1, h.2.2⟩, hS.2, rfl, rfl, rfl, rfl, rfl⟩

theorem poke_bind {β : Type} (vs : Array (Array T)) (a w : Nat) (x : T)
    (k : Array (Array T) → Res β) :
    (do let row ← aget vs a; let row ← aset row w x; let s ← aset vs a row; k s) =
    (do let s ← (do let row ← aget vs a; let row ← aset row w x; aset vs a row); k s) := by
  cases h1 : aget vs a with
  | error e => rfl
  | ok row =>
    cases h2 : aset row w x with
    | error e => simp only [bind, Except.bind, h2]
    | ok row' => simp only [bind, Except.bind, h2]

theorem setNodesVars_abs1 (m : Mesh1 T X) (h : WF1 m) (hs : RowSized1 m) {node : Nat}
    {v : Array T} (hn : node < m.nodes.size) (hv : v.size = m.nvars) :
    ∃ m', Mesh1.setNodesVars m node v = .ok m' ∧ WF1 m' ∧ RowSized1 m' ∧ m'.nodes = m.nodes ∧
      m'.nvars = m.nvars ∧
      ∀ k w, abs1 m' k w = if k = node then v[w]? else abs1 m k w := by
  obtain ⟨vs', h1, h2, h3⟩ := put_ok (shaped1 h hs) hn hv
  have hn' : ¬ node ≥ m.nodes.size := Nat.not_le.2 hn
  have hv' : ¬ v.size ≠ m.nvars := not_not.2 hv
  have hwf : WF1 ({ m with vars := vs' } : Mesh1 T X) := h2.1
  refine ⟨{ m with vars := vs' }, ?_, hwf, h2.2, rfl, rfl, fun k w => ?_⟩
  · simp only [Mesh1.setNodesVars, hn', hv', h1, bind, Except.bind, pure, Except.pure, if_false]
  · rw [abs1_ent hwf, abs1_ent h]; exact h3 k w

theorem setVar_spec1 (m : Mesh1 T X) (h : WF1 m) (hs : RowSized1 m) {node var : Nat}
    (hn : node < m.nodes.size) (hv : var < m.nvars) (x : T) :
    ∃ m', Mesh1.setVar m node var x = .ok m' ∧ WF1 m' ∧ RowSized1 m' ∧ m'.nodes = m.nodes ∧
      m'.nvars = m.nvars ∧
      ∀ k w, abs1 m' k w = if k = node ∧ w = var then some x else abs1 m k w := by
  obtain ⟨vs', h1, h2, h3⟩ := poke_ok (shaped1 h hs) hn hv x
  have hwf : WF1 ({ m with vars := vs' } : Mesh1 T X) := h2.1
  refine ⟨{ m with vars := vs' }, ?_, hwf, h2.2, rfl, rfl, fun k w => ?_⟩
  · unfold Mesh1.setVar
    rw [poke_bind, h1]; rfl
  · rw [abs1_ent hwf, abs1_ent h]; exact h3 k w

theorem setVar_rejects1 (m : Mesh1 T X) (h : WF1 m) (hs : RowSized1 m) {node var : Nat} (x : T)
    (ho : m.nodes.size ≤ node ∨ m.nvars ≤ var) :
    Mesh1.setVar m node var x = .error .range := by
  unfold Mesh1.setVar
  rw [poke_bind]
  by_cases ha : node < m.nodes.size
  · rw [poke_err (shaped1 h hs) ha (ho.resolve_left (Nat.not_le.2 ha))]; rfl
  · rw [poke_err_addr (by rw [h]; exact Nat.le_of_not_lt ha)]; rfl

theorem setVar_rejects2 (m : Mesh2 T X) (h : WF2 m) (hs : Sized2 m) {i j var : Nat} (x : T)
    (ho : m.nx * m.ny ≤ i * m.ny + j ∨ m.nvars ≤ var) :
    Mesh2.setVar m i j var x = .error .range := by
  unfold Mesh2.setVar
  rw [poke_bind]
  by_cases ha : i * m.ny + j < m.nx * m.ny
  · rw [poke_err (shaped2 h hs) ha (ho.resolve_left (Nat.not_le.2 ha))]; rfl
  · rw [poke_err_addr (by rw [h.1]; exact Nat.le_of_not_lt ha)]; rfl

/-- **`apply(f, var)` for a variable that does not exist**: the very first write
    `vars[0][var] = …` is an index panic — unless the mesh has no node at all (an empty x or y
    direction), in which case the loops do not run and the call silently returns the mesh
    unchanged -/
theorem apply_rejects (m : Mesh2 T X) (h : WF2 m) (hs : Sized2 m) (f : X → X → T) {var : Nat}
    (hv : m.nvars ≤ var) :
    Mesh2.apply m f var = if 0 < m.nx ∧ 0 < m.ny then .error .range else .ok m := by
  unfold Mesh2.apply
  by_cases h0 : 0 < m.nx ∧ 0 < m.ny
  · rw [if_pos h0, apply_loop_err h.2.1 h.2.2 (shaped2 h hs) f hv h0.1 h0.2]; rfl
  · rw [if_neg h0, apply_loop_noop h.2.1 f ((not_lt_and h0).imp Nat.le_zero.1 Nat.le_zero.1)]; rfl

variable [Zero T]

theorem setNodesVars_abs2 (m : Mesh2 T X) (h : WF2 m) (hs : Sized2 m) {i j : Nat} {v : Array T}
    (hi : i < m.nx) (hj : j < m.ny) (hv : v.size = m.nvars) :
    ∃ m', Mesh2.setNodesVars m i j v = .ok m' ∧ SameGrid m m' ∧
      ∀ a b w, abs2 m' a b w = if a = i ∧ b = j then v[w]? else abs2 m a b w := by
  obtain ⟨vs', h1, h2, h3⟩ := put_ok (shaped2 h hs) (Mat.idx_lt hi hj) hv
  have hw := SameGrid.of_vars h h2
  have hv' : ¬ v.size ≠ m.nvars := not_not.2 hv
  refine ⟨_, ?_, hw, fun a b w => ?_⟩
  · simp only [Mesh2.setNodesVars, guard_ok m hi hj, hv', h1, bind, Except.bind, pure,
      Except.pure, if_false]
  · rw [abs2_eq hw.1, abs2_eq h]
    show (if a < m.nx ∧ b < m.ny then ent vs' (a * m.ny + b) w else none) = _
    by_cases hg : a < m.nx ∧ b < m.ny
    · rw [if_pos hg, if_pos hg, h3]
      by_cases e : a = i ∧ b = j
      · rw [if_pos e, if_pos (by rw [e.1, e.2])]
      · rw [if_neg e, if_neg]
        intro q
        exact e (Mat.idx_inj hg.2 hj q)
    · rw [if_neg hg, if_neg hg]
      have e : ¬ (a = i ∧ b = j) := fun q => hg ⟨q.1 ▸ hi, q.2 ▸ hj⟩
      rw [if_neg e]

theorem raw_offset_iff {nx ny i j a b : Nat} {P : Prop} (hi : i < nx) (hj : j < ny) :
    (a < nx ∧ b < ny ∧ a * ny + b = i * ny + j ∧ P) ↔ (a = i ∧ b = j ∧ P) :=
  ⟨fun q => have := Mat.idx_inj q.2.1 hj q.2.2.1; ⟨this.1, this.2, q.2.2.2⟩,
    fun q => ⟨q.1 ▸ hi, q.2.1 ▸ hj, by rw [q.1, q.2.1], q.2.2⟩⟩

/-- **raw `mesh[(i,j)][var] = x`**, exactly as the code does it: only the flat offset `i*ny + j`
    is checked, so the write lands on the grid node with that offset (which is `(i, j)` itself
    when `j < ny`, see `setVar_spec2`); one variable of one node changes, nothing else -/
theorem setVar_spec2_raw (m : Mesh2 T X) (h : WF2 m) (hs : Sized2 m) {i j var : Nat}
    (ha : i * m.ny + j < m.nx * m.ny) (hv : var < m.nvars) (x : T) :
    ∃ m', Mesh2.setVar m i j var x = .ok m' ∧ SameGrid m m' ∧
      ∀ a b w, abs2 m' a b w =
        if a < m.nx ∧ b < m.ny ∧ a * m.ny + b = i * m.ny + j ∧ w = var then some x
        else abs2 m a b w := by
  obtain ⟨vs', h1, h2, h3⟩ := poke_ok (shaped2 h hs) ha hv x
  have hw := SameGrid.of_vars h h2
  refine ⟨_, ?_, hw, fun a b w => ?_⟩
  · unfold Mesh2.setVar
    rw [poke_bind, h1]; rfl
  · rw [abs2_eq hw.1, abs2_eq h]
    show (if a < m.nx ∧ b < m.ny then ent vs' (a * m.ny + b) w else none) = _
    by_cases hg : a < m.nx ∧ b < m.ny
    · rw [if_pos hg, if_pos hg, h3]
      exact if_congr ⟨fun q => ⟨hg.1, hg.2, q⟩, fun q => q.2.2⟩ rfl rfl
    · rw [if_neg hg, if_neg hg, if_neg (fun q => hg ⟨q.1, q.2.1⟩)]

/-- **`mesh[(i,j)][var] = x` at a grid node**: variable `var` at node `(i, j)` becomes `x`,
    every other variable at every node is unchanged -/
theorem setVar_spec2 (m : Mesh2 T X) (h : WF2 m) (hs : Sized2 m) {i j var : Nat}
    (hi : i < m.nx) (hj : j < m.ny) (hv : var < m.nvars) (x : T) :
    ∃ m', Mesh2.setVar m i j var x = .ok m' ∧ WF2 m' ∧ Sized2 m' ∧ m'.nx = m.nx ∧ m'.ny = m.ny ∧
      m'.nvars = m.nvars ∧ m'.xnodes = m.xnodes ∧ m'.ynodes = m.ynodes ∧
      ∀ a b w, abs2 m' a b w = if a = i ∧ b = j ∧ w = var then some x else abs2 m a b w := by
  obtain ⟨m', h1, ⟨h2, h3, h4, h5, h6, h7, h8⟩, h9⟩ :=
    setVar_spec2_raw m h hs (Mat.idx_lt hi hj) hv x
  refine ⟨m', h1, h2, h3, h4, h5, h6, h7, h8, fun a b w => ?_⟩
  rw [h9]
  exact if_congr (raw_offset_iff hi hj) rfl rfl

theorem assign_abs (m : Mesh2 T X) (h : WF2 m) (hs : Sized2 m) (x : T) :
    ∃ m', Mesh2.assign m x = .ok m' ∧ SameGrid m m' ∧
      ∀ i j w, abs2 m' i j w = if i < m.nx ∧ j < m.ny ∧ w < m.nvars then some x else none := by
  obtain ⟨vs', h1, h2, h3⟩ := assign_loop (shaped2 h hs) x
  have hw := SameGrid.of_vars h h2
  refine ⟨_, ?_, hw, fun i j w => ?_⟩
  · unfold Mesh2.assign
    rw [h1]; rfl
  · rw [abs2_eq hw.1]
    show (if i < m.nx ∧ j < m.ny then ent vs' (i * m.ny + j) w else none) = _
    by_cases hg : i < m.nx ∧ j < m.ny
    · rw [if_pos hg]
      by_cases hv : w < m.nvars
      · rw [if_pos ⟨hg.1, hg.2, hv⟩]
        exact (h3 _ _).1 ⟨Mat.idx_lt hg.1 hg.2, hv⟩
      · rw [if_neg (fun q => hv q.2.2)]
        exact ent_none h2 (Or.inr (Nat.le_of_not_lt hv))
    · rw [if_neg hg, if_neg (fun q => hg ⟨q.1, q.2.1⟩)]

/-- **`assign(x)`**: the call always succeeds, keeps the grid and the invariants, and afterwards
    every access path returns `x` for every variable at every node -/
theorem assign_spec (m : Mesh2 T X) (h : WF2 m) (hs : Sized2 m) (x : T) :
    ∃ m', Mesh2.assign m x = .ok m' ∧ WF2 m' ∧ Sized2 m' ∧ m'.nx = m.nx ∧ m'.ny = m.ny ∧
      m'.nvars = m.nvars ∧ m'.xnodes = m.xnodes ∧ m'.ynodes = m.ynodes ∧
      (∀ i j, i < m.nx → j < m.ny →
        Mesh2.getNodesVars m' i j = .ok (Array.replicate m.nvars x) ∧
        Mesh2.index m' i j = .ok (Array.replicate m.nvars x)) ∧
      (∀ i j w, i < m.nx → j < m.ny → w < m.nvars → val2 m' i j w = x) ∧
      (∀ var, var < m.nvars →
        ∃ M, Mesh2.varAsMatrix m' var = .ok M ∧ Mat.Is M m.nx m.ny (fun _ _ => x)) ∧
      (∀ i, i < m.nx → ∃ s, Mesh2.crossSectionX m' i = .ok s ∧ s.nodes = m.ynodes ∧
        ∀ j, j < m.ny → Mesh1.getNodesVars s j = .ok (Array.replicate m.nvars x) ∧
          Mesh1.index s j = .ok (Array.replicate m.nvars x)) ∧
      (∀ j, j < m.ny → ∃ s, Mesh2.crossSectionY m' j = .ok s ∧ s.nodes = m.xnodes ∧
        ∀ i, i < m.nx → Mesh1.getNodesVars s i = .ok (Array.replicate m.nvars x) ∧
          Mesh1.index s i = .ok (Array.replicate m.nvars x)) := by
  obtain ⟨m', h1, ⟨h2, h3, h4, h5, h6, h7, h8⟩, h9⟩ := assign_abs m h hs x
  have hget : ∀ i j, i < m.nx → j < m.ny →
      Mesh2.getNodesVars m' i j = .ok (Array.replicate m.nvars x) ∧
      Mesh2.index m' i j = .ok (Array.replicate m.nvars x) := by
    intro i j hi hj
    obtain ⟨row, r1, r2, r3, r4⟩ := view_get2 m' h2 h3 (i := i) (j := j) (h4 ▸ hi) (h5 ▸ hj)
    have : row = Array.replicate m.nvars x := by
      apply Array.ext_getElem?
      intro w
      rw [r4, h9, Array.getElem?_replicate]
      exact if_congr ⟨fun q => q.2.2, fun q => ⟨hi, hj, q⟩⟩ rfl rfl
    rw [← this]; exact ⟨r1, r2⟩
  have hval : ∀ i j w, i < m.nx → j < m.ny → w < m.nvars → val2 m' i j w = x := by
    intro i j w hi hj hw
    have e := abs2_val2 h2 h3 (i := i) (j := j) (w := w) (h4 ▸ hi) (h5 ▸ hj) (h6 ▸ hw)
    rw [h9, if_pos ⟨hi, hj, hw⟩] at e
    exact (Option.some.inj e).symm
  refine ⟨m', h1, h2, h3, h4, h5, h6, h7, h8, hget, hval, ?_, ?_, ?_⟩
  · intro var hv
    obtain ⟨M, hM, hI⟩ := varAsMatrix_spec m' h2 h3 (var := var) (h6 ▸ hv)
    rw [h4, h5] at hI
    exact ⟨M, hM, hI.wf, hI.rows, hI.cols, fun i j hi hj => by
      rw [hI.entry i j hi hj, hval i j var hi hj hv]⟩
  · intro i hi
    obtain ⟨s, s1, _, _, _, s5, s6⟩ := view_crossX m' h2 h3 (i := i) (h4 ▸ hi)
    refine ⟨s, s1, by rw [s5, h8], fun j hj => ?_⟩
    obtain ⟨e1, e2, _⟩ := s6 j (h5 ▸ hj)
    rw [e1, e2]
    exact ⟨(hget i j hi hj).1, (hget i j hi hj).1⟩
  · intro j hj
    obtain ⟨s, s1, _, _, _, s5, s6⟩ := view_crossY m' h2 h3 (j := j) (h5 ▸ hj)
    refine ⟨s, s1, by rw [s5, h7], fun i hi => ?_⟩
    obtain ⟨e1, e2, _⟩ := s6 i (h4 ▸ hi)
    rw [e1, e2]
    exact ⟨(hget i j hi hj).1, (hget i j hi hj).1⟩

theorem apply_abs (m : Mesh2 T X) (h : WF2 m) (hs : Sized2 m) (f : X → X → T) {var : Nat}
    (hv : var < m.nvars) :
    ∃ m', Mesh2.apply m f var = .ok m' ∧ SameGrid m m' ∧
      ∀ i j w, abs2 m' i j w =
        if hh : i < m.xnodes.size ∧ j < m.ynodes.size ∧ w = var
        then some (f (m.xnodes[i]'hh.1) (m.ynodes[j]'hh.2.1)) else abs2 m i j w := by
  obtain ⟨vs', h1, h2, h3⟩ := apply_loop h.2.1 h.2.2 (shaped2 h hs) f hv
  have hw := SameGrid.of_vars h h2
  refine ⟨_, ?_, hw, fun i j w => ?_⟩
  · unfold Mesh2.apply
    rw [h1]; rfl
  · rw [abs2_eq hw.1, abs2_eq h]
    show (if i < m.nx ∧ j < m.ny then ent vs' (i * m.ny + j) w else none) = _
    by_cases hg : i < m.nx ∧ j < m.ny
    · have hi : i < m.xnodes.size := by rw [h.2.1]; exact hg.1
      have hj : j < m.ynodes.size := by rw [h.2.2]; exact hg.2
      rw [if_pos hg, if_pos hg]
      by_cases e : w = var
      · rw [dif_pos ⟨hi, hj, e⟩, (h3 _ _).1 ⟨Mat.idx_lt hg.1 hg.2, e⟩]
        exact tgtA_eq f m.xnodes m.ynodes hi hj h.2.2 w
      · rw [dif_neg (fun q => e q.2.2)]
        exact (h3 _ _).2 (fun q => e q.2)
    · rw [if_neg hg, if_neg hg, dif_neg]
      intro q
      exact hg ⟨by rw [← h.2.1]; exact q.1, by rw [← h.2.2]; exact q.2.1⟩

/-- **`apply(f, var)`** for an existing variable: variable `var` at node `(i, j)` becomes
    `f x_i y_j` with `(x_i, y_j) = coord(i, j)`; every other variable at every node is unchanged;
    grid, shape and invariants are kept -/
theorem apply_spec (m : Mesh2 T X) (h : WF2 m) (hs : Sized2 m) (f : X → X → T) {var : Nat}
    (hv : var < m.nvars) :
    ∃ m', Mesh2.apply m f var = .ok m' ∧ WF2 m' ∧ Sized2 m' ∧ m'.nx = m.nx ∧ m'.ny = m.ny ∧
      m'.nvars = m.nvars ∧ m'.xnodes = m.xnodes ∧ m'.ynodes = m.ynodes ∧
      (∀ i j, i < m.nx → j < m.ny → ∃ x y, Mesh2.coord m i j = .ok (x, y) ∧
        abs2 m' i j var = some (f x y) ∧ val2 m' i j var = f x y) ∧
      (∀ i j w, w ≠ var → abs2 m' i j w = abs2 m i j w) ∧
      (∀ i j w, i < m.nx → j < m.ny → w < m.nvars → w ≠ var → val2 m' i j w = val2 m i j w) := by
  obtain ⟨m', h1, ⟨h2, h3, h4, h5, h6, h7, h8⟩, h9⟩ := apply_abs m h hs f hv
  refine ⟨m', h1, h2, h3, h4, h5, h6, h7, h8, ?_, ?_, ?_⟩
  · intro i j hi hj
    have hi' : i < m.xnodes.size := by rw [h.2.1]; exact hi
    have hj' : j < m.ynodes.size := by rw [h.2.2]; exact hj
    have e : abs2 m' i j var = some (f m.xnodes[i] m.ynodes[j]) := by
      rw [h9, dif_pos ⟨hi', hj', rfl⟩]
    refine ⟨m.xnodes[i], m.ynodes[j], ?_, e, ?_⟩
    · simp only [Mesh2.coord, Mat.aget_ok hi', Mat.aget_ok hj', bind, Except.bind, pure,
        Except.pure]
    · have e2 := abs2_val2 h2 h3 (i := i) (j := j) (w := var) (h4 ▸ hi) (h5 ▸ hj) (h6 ▸ hv)
      rw [e] at e2
      exact (Option.some.inj e2).symm
  · intro i j w hw
    rw [h9, dif_neg (fun q => hw q.2.2)]
  · intro i j w hi hj hw hne
    have e1 := abs2_val2 h2 h3 (i := i) (j := j) (w := w) (h4 ▸ hi) (h5 ▸ hj) (h6 ▸ hw)
    have e2 := abs2_val2 h hs hi hj hw
    rw [h9, dif_neg (fun q => hne q.2.2), e2] at e1
    exact (Option.some.inj e1).symm

end Ops

section Histories2
variable {T X : Type}

/-- the arguments of `Mesh2D::new`: they fix the grid and the number of variables for the whole
    life of the mesh -/
structure Grid (X : Type) where
  xn : Array X
  yn : Array X
  nvars : Nat

/-- representation invariant of a mesh built over the grid `g` -/
def Inv2 (g : Grid X) (m : Mesh2 T X) : Prop :=
  WF2 m ∧ Sized2 m ∧ m.xnodes = g.xn ∧ m.ynodes = g.yn ∧ m.nvars = g.nvars

theorem Inv2.nx {g : Grid X} {m : Mesh2 T X} (h : Inv2 g m) : g.xn.size = m.nx := by
  rw [← h.2.2.1]; exact h.1.2.1
theorem Inv2.ny {g : Grid X} {m : Mesh2 T X} (h : Inv2 g m) : g.yn.size = m.ny := by
  rw [← h.2.2.2.1]; exact h.1.2.2
theorem Inv2.nv {g : Grid X} {m : Mesh2 T X} (h : Inv2 g m) : g.nvars = m.nvars :=
  h.2.2.2.2.symm

theorem Inv2.of_same {g : Grid X} {m m' : Mesh2 T X} (h : Inv2 g m) (hg : SameGrid m m') :
    Inv2 g m' :=
  ⟨hg.1, hg.2.1, hg.2.2.2.2.2.1.trans h.2.2.1, hg.2.2.2.2.2.2.trans h.2.2.2.1,
    hg.2.2.2.2.1.trans h.2.2.2.2⟩

/-- "the concrete result refines the reference result": both succeed, the new mesh satisfies the
    invariant and its reference view is the reference state — or both panic -/
def Refines2 (g : Grid X) (c : Res (Mesh2 T X)) : Option (Ref2 T) → Prop
  | some r' => ∃ m', c = .ok m' ∧ Inv2 g m' ∧ abs2 m' = r'
  | none => ∃ e, c = .error e

def Rel2 (g : Grid X) (m : Mesh2 T X) (r : Ref2 T) : Prop := Inv2 g m ∧ abs2 m = r

theorem refines2_iff {g : Grid X} {c : Res (Mesh2 T X)} {o : Option (Ref2 T)} :
    Refines2 g c o ↔ Sim.Out (Rel2 g) (fun c => ∃ e, c = .error e) c o := by
  cases o <;> exact Iff.rfl

variable [Zero T]

def Grid.mesh (g : Grid X) : Mesh2 T X := Mesh2.new g.xn g.yn g.nvars

/-- the write operations of `Mesh2D` -/
inductive Op2 (T X : Type) where
  /-- `mesh.set_nodes_vars(i, j, v)` -/
  | setNodesVars (i j : Nat) (v : Array T)
  /-- `mesh[(i, j)][var] = x` -/
  | setVar (i j var : Nat) (x : T)
  /-- `mesh.assign(x)` -/
  | assign (x : T)
  /-- `mesh.apply(&f, var)` -/
  | apply (f : X → X → T) (var : Nat)

/-- concrete step: the MODEL functions -/
def Op2.run : Op2 T X → Mesh2 T X → Res (Mesh2 T X)
  | .setNodesVars i j v, m => Mesh2.setNodesVars m i j v
  | .setVar i j var x, m => Mesh2.setVar m i j var x
  | .assign x, m => Mesh2.assign m x
  | .apply f var, m => Mesh2.apply m f var

/-- reference step on `(node, node, variable) ↦ value` maps; `none` = the call panics.
    * `set_nodes_vars` needs a grid node and a vector of `nvars` entries;
    * the raw `mesh[(i,j)][var] = x` needs the flat offset `i*ny + j` inside the storage and an
      existing variable, and writes the node with that offset (`(i, j)` itself when `j < ny`);
    * `assign` never panics;
    * `apply` on a variable that does not exist panics iff the mesh has at least one node. -/
def Op2.ref (g : Grid X) : Op2 T X → Ref2 T → Option (Ref2 T)
  | .setNodesVars i j v, r =>
      if i < g.xn.size ∧ j < g.yn.size ∧ v.size = g.nvars then
        some (fun a b w => if a = i ∧ b = j then v[w]? else r a b w)
      else none
  | .setVar i j var x, r =>
      if i * g.yn.size + j < g.xn.size * g.yn.size ∧ var < g.nvars then
        some (fun a b w =>
          if a < g.xn.size ∧ b < g.yn.size ∧ a * g.yn.size + b = i * g.yn.size + j ∧ w = var
          then some x else r a b w)
      else none
  | .assign x, r =>
      some (fun a b w => if a < g.xn.size ∧ b < g.yn.size ∧ w < g.nvars then some x else r a b w)
  | .apply f var, r =>
      if var < g.nvars then
        some (fun a b w =>
          if hh : a < g.xn.size ∧ b < g.yn.size ∧ w = var then some (f g.xn[a] g.yn[b])
          else r a b w)
      else if 0 < g.xn.size ∧ 0 < g.yn.size then none else some r

set_option linter.unusedSectionVars false in
/-- for a grid node the raw write of `Op2.ref` is the write of variable `var` at node `(i, j)` -/
theorem Op2.ref_setVar_grid (g : Grid X) {i j var : Nat} (x : T) (r : Ref2 T)
    (hi : i < g.xn.size) (hj : j < g.yn.size) (hv : var < g.nvars) :
    (Op2.setVar i j var x : Op2 T X).ref g r =
      some (fun a b w => if a = i ∧ b = j ∧ w = var then some x else r a b w) := by
  simp only [Op2.ref]
  rw [if_pos ⟨Mat.idx_lt hi hj, hv⟩]
  congr 1
  funext a b w
  exact if_congr (raw_offset_iff hi hj) rfl rfl

theorem step_refines2 (g : Grid X) (op : Op2 T X) {m : Mesh2 T X} (h : Inv2 g m) :
    Refines2 g (op.run m) (op.ref g (abs2 m)) := by
  have hnx := h.nx
  have hny := h.ny
  have hnv := h.nv
  cases op with
  | setNodesVars i j v =>
    simp only [Op2.ref, Op2.run]
    by_cases hc : i < g.xn.size ∧ j < g.yn.size ∧ v.size = g.nvars
    · rw [if_pos hc]
      obtain ⟨m', h1, hg, h9⟩ := setNodesVars_abs2 m h.1 h.2.1
        (Nat.lt_of_lt_of_eq hc.1 hnx) (Nat.lt_of_lt_of_eq hc.2.1 hny) (hc.2.2.trans hnv)
      exact ⟨m', h1, h.of_same hg, by funext a b w; exact h9 a b w⟩
    · rw [if_neg hc]
      rw [hnx, hny, hnv] at hc
      exact set_rejects2 m i j v (not_lt_and_and hc)
  | setVar i j var x =>
    simp only [Op2.ref, Op2.run]
    by_cases hc : i * g.yn.size + j < g.xn.size * g.yn.size ∧ var < g.nvars
    · rw [if_pos hc]
      rw [hnx, hny, hnv] at hc
      obtain ⟨m', h1, hg, h9⟩ := setVar_spec2_raw m h.1 h.2.1 hc.1 hc.2 x
      refine ⟨m', h1, h.of_same hg, ?_⟩
      funext a b w
      rw [h9, hnx, hny]
    · rw [if_neg hc]
      rw [hnx, hny, hnv] at hc
      exact ⟨_, setVar_rejects2 m h.1 h.2.1 x (not_lt_and hc)⟩
  | assign x =>
    simp only [Op2.ref, Op2.run]
    obtain ⟨m', h1, hg, h9⟩ := assign_abs m h.1 h.2.1 x
    refine ⟨m', h1, h.of_same hg, ?_⟩
    funext a b w
    rw [h9, hnx, hny, hnv]
    by_cases hc : a < m.nx ∧ b < m.ny ∧ w < m.nvars
    · rw [if_pos hc, if_pos hc]
    · rw [if_neg hc, if_neg hc]
      exact (abs2_none h.1 h.2.1
        ((not_lt_and_and hc).imp_right (Or.imp_right Nat.le_of_not_lt))).symm
  | apply f var =>
    obtain ⟨xn, yn, nv⟩ := g
    obtain ⟨hw, hs, rfl, rfl, rfl⟩ := h
    simp only [Op2.ref, Op2.run]
    by_cases hc : var < m.nvars
    · rw [if_pos hc]
      obtain ⟨m', h1, ⟨h2, h3, _, _, h6, h7, h8⟩, h9⟩ := apply_abs m hw hs f hc
      exact ⟨m', h1, ⟨h2, h3, h7, h8, h6⟩, by funext a b w; exact h9 a b w⟩
    · rw [if_neg hc, apply_rejects m hw hs f (Nat.le_of_not_lt hc), hw.2.1, hw.2.2]
      by_cases h0 : 0 < m.nx ∧ 0 < m.ny
      · rw [if_pos h0, if_pos h0]; exact ⟨_, rfl⟩
      · rw [if_neg h0, if_neg h0]; exact ⟨m, rfl, ⟨hw, hs, rfl, rfl, rfl⟩, rfl⟩

theorem step_out2 (g : Grid X) (op : Op2 T X) (m : Mesh2 T X) (r : Ref2 T) (h : Rel2 g m r) :
    Sim.Out (Rel2 g) (fun c => ∃ e, c = .error e) (op.run m) (op.ref g r) :=
  refines2_iff.1 (h.2 ▸ step_refines2 g op h.1)

/-- a history in which a panic aborts everything that follows -/
def run2 (ops : List (Op2 T X)) (m : Mesh2 T X) : Res (Mesh2 T X) :=
  ops.foldlM (fun m op => op.run m) m

def refRun2 (g : Grid X) (ops : List (Op2 T X)) (r : Ref2 T) : Option (Ref2 T) :=
  ops.foldlM (fun r op => op.ref g r) r

/-- a history in which a rejected call is caught and leaves the mesh as it was.  (In the model a
    panic carries no state; that each rejected call panics before its first write is visible in
    the rejection lemmas: the guards of `set_nodes_vars` precede the write, the raw write fails in
    the index expression, and `apply` fails in iteration `(0, 0)`, see `apply_loop_err`.) -/
def stepSkip2 (m : Mesh2 T X) (op : Op2 T X) : Mesh2 T X :=
  match op.run m with
  | .ok m' => m'
  | .error _ => m

def refSkip2 (g : Grid X) (r : Ref2 T) (op : Op2 T X) : Ref2 T := (op.ref g r).getD r

def runSkip2 (ops : List (Op2 T X)) (m : Mesh2 T X) : Mesh2 T X := ops.foldl stepSkip2 m
def refRunSkip2 (g : Grid X) (ops : List (Op2 T X)) (r : Ref2 T) : Ref2 T :=
  ops.foldl (refSkip2 g) r

/-- reference state of the freshly constructed mesh: zero everywhere on the grid -/
def ref0 (g : Grid X) : Ref2 T := fun a b w =>
  if a < g.xn.size ∧ b < g.yn.size ∧ w < g.nvars then some 0 else none

theorem inv2_new (g : Grid X) : Inv2 g (g.mesh : Mesh2 T X) :=
  ⟨new_wf2 _ _ _, new_sized2 _ _ _, rfl, rfl, rfl⟩

theorem abs2_new (g : Grid X) : abs2 (g.mesh : Mesh2 T X) = ref0 g := by
  funext a b w
  rw [abs2_eq (inv2_new g).1]
  show (if a < g.xn.size ∧ b < g.yn.size then
    ent (Array.replicate (g.xn.size * g.yn.size) (Array.replicate g.nvars (0 : T)))
      (a * g.yn.size + b) w else none) = _
  by_cases hg : a < g.xn.size ∧ b < g.yn.size
  · have := Mat.idx_lt hg.1 hg.2
    rw [if_pos hg]
    by_cases hw : w < g.nvars
    · simp [ref0, ent, hg, this, hw]
    · simp [ref0, ent, hg, this, hw]
  · rw [if_neg hg, ref0, if_neg (fun q => hg ⟨q.1, q.2.1⟩)]

theorem history_refines2_from (g : Grid X) (ops : List (Op2 T X)) {m : Mesh2 T X} (h : Inv2 g m) :
    Refines2 g (run2 ops m) (refRun2 g ops (abs2 m)) :=
  refines2_iff.2 (Sim.foldlM Sim.fails_any ops (fun op _ => step_out2 g op) ⟨h, rfl⟩)

theorem history_views2_from (g : Grid X) (ops : List (Op2 T X)) {m : Mesh2 T X} (h : Inv2 g m) :
    Inv2 g (runSkip2 ops m) ∧ abs2 (runSkip2 ops m) = refRunSkip2 g ops (abs2 m) :=
  Sim.foldl_skip Sim.fails_any (fun m op m' h => by rw [stepSkip2, h])
    (fun m op e h => by rw [stepSkip2, h]) ops (fun op _ => step_out2 g op) ⟨h, rfl⟩

/-- **arbitrary histories of node writes starting from `Mesh2D::new`** refine the reference
    model: the model history succeeds iff the reference history is defined, and then the final
    mesh satisfies the invariant and reads (through `get_nodes_vars`) exactly the reference state -/
theorem history_refines2 (g : Grid X) (ops : List (Op2 T X)) :
    Refines2 g (run2 ops (g.mesh : Mesh2 T X)) (refRun2 g ops (ref0 g)) := by
  rw [← abs2_new g]
  exact history_refines2_from g ops (inv2_new g)

theorem history_value2 (g : Grid X) (ops : List (Op2 T X)) {i j w : Nat} {x : T}
    (h : (refRun2 g ops (ref0 g)).bind (fun r => r i j w) = some x) :
    ∃ m, run2 ops (g.mesh : Mesh2 T X) = .ok m ∧ Inv2 g m ∧ abs2 m i j w = some x := by
  have R := history_refines2 g ops
  cases hr : refRun2 g ops (ref0 g) with
  | none => rw [hr] at h; cases h
  | some r =>
    rw [hr] at R h
    obtain ⟨m, h1, h2, h3⟩ := R
    exact ⟨m, h1, h2, h3 ▸ h⟩

theorem views_inv2 (g : Grid X) {m : Mesh2 T X} (h : Inv2 g m) :
    (∀ i j, i < g.xn.size → j < g.yn.size →
      ∃ row, Mesh2.getNodesVars m i j = .ok row ∧ Mesh2.index m i j = .ok row ∧
        row.size = g.nvars ∧ ∀ w, row[w]? = abs2 m i j w) ∧
    (∀ i, i < g.xn.size → ∃ s, Mesh2.crossSectionX m i = .ok s ∧ s.nodes = g.yn ∧
      s.nvars = g.nvars ∧
      ∀ j, j < g.yn.size → ∃ row, Mesh1.getNodesVars s j = .ok row ∧ Mesh1.index s j = .ok row ∧
        row.size = g.nvars ∧ ∀ w, row[w]? = abs2 m i j w) ∧
    (∀ j, j < g.yn.size → ∃ s, Mesh2.crossSectionY m j = .ok s ∧ s.nodes = g.xn ∧
      s.nvars = g.nvars ∧
      ∀ i, i < g.xn.size → ∃ row, Mesh1.getNodesVars s i = .ok row ∧ Mesh1.index s i = .ok row ∧
        row.size = g.nvars ∧ ∀ w, row[w]? = abs2 m i j w) ∧
    (∀ var, var < g.nvars → ∃ M, Mesh2.varAsMatrix m var = .ok M ∧ M.WF ∧
      M.rows = g.xn.size ∧ M.cols = g.yn.size ∧
      ∀ i j, i < g.xn.size → j < g.yn.size → ∃ x, M.get i j = .ok x ∧ abs2 m i j var = some x) := by
  have hnx := h.nx
  have hny := h.ny
  have hnv := h.nv
  obtain ⟨hw, hs, hx, hy, _⟩ := h
  rw [hnx, hny, hnv]
  refine ⟨fun i j hi hj => view_get2 m hw hs hi hj, fun i hi => ?_, fun j hj => ?_,
    fun var hv => view_matrix m hw hs hv⟩
  · obtain ⟨s, s1, _, _, s4, s5, s6⟩ := view_crossX m hw hs hi
    refine ⟨s, s1, s5.trans hy, s4, fun j hj => ?_⟩
    obtain ⟨row, r1, _, r3, r4⟩ := view_get2 m hw hs hi hj
    obtain ⟨e1, e2, _⟩ := s6 j hj
    exact ⟨row, e1.trans r1, e2.trans r1, r3, r4⟩
  · obtain ⟨s, s1, _, _, s4, s5, s6⟩ := view_crossY m hw hs hj
    refine ⟨s, s1, s5.trans hx, s4, fun i hi => ?_⟩
    obtain ⟨row, r1, _, r3, r4⟩ := view_get2 m hw hs hi hj
    obtain ⟨e1, e2, _⟩ := s6 i hi
    exact ⟨row, e1.trans r1, e2.trans r1, r3, r4⟩

/-- **after any history of write calls** (rejected ones caught), `get_nodes_vars`, raw indexing,
    both cross-sections followed by 1-D reads, and `var_as_matrix` all return the values of the
    reference state -/
theorem history_views2 (g : Grid X) (ops : List (Op2 T X)) :
    (∀ i j, i < g.xn.size → j < g.yn.size →
      ∃ row, Mesh2.getNodesVars (runSkip2 ops (g.mesh : Mesh2 T X)) i j = .ok row ∧
        Mesh2.index (runSkip2 ops (g.mesh : Mesh2 T X)) i j = .ok row ∧
        row.size = g.nvars ∧ ∀ w, row[w]? = refRunSkip2 g ops (ref0 g) i j w) ∧
    (∀ i, i < g.xn.size → ∃ s, Mesh2.crossSectionX (runSkip2 ops (g.mesh : Mesh2 T X)) i = .ok s ∧
      s.nodes = g.yn ∧ s.nvars = g.nvars ∧
      ∀ j, j < g.yn.size → ∃ row, Mesh1.getNodesVars s j = .ok row ∧ Mesh1.index s j = .ok row ∧
        row.size = g.nvars ∧ ∀ w, row[w]? = refRunSkip2 g ops (ref0 g) i j w) ∧
    (∀ j, j < g.yn.size → ∃ s, Mesh2.crossSectionY (runSkip2 ops (g.mesh : Mesh2 T X)) j = .ok s ∧
      s.nodes = g.xn ∧ s.nvars = g.nvars ∧
      ∀ i, i < g.xn.size → ∃ row, Mesh1.getNodesVars s i = .ok row ∧ Mesh1.index s i = .ok row ∧
        row.size = g.nvars ∧ ∀ w, row[w]? = refRunSkip2 g ops (ref0 g) i j w) ∧
    (∀ var, var < g.nvars →
      ∃ M, Mesh2.varAsMatrix (runSkip2 ops (g.mesh : Mesh2 T X)) var = .ok M ∧ M.WF ∧
        M.rows = g.xn.size ∧ M.cols = g.yn.size ∧
        ∀ i j, i < g.xn.size → j < g.yn.size →
          ∃ x, M.get i j = .ok x ∧ refRunSkip2 g ops (ref0 g) i j var = some x) := by
  obtain ⟨h1, h2⟩ := history_views2_from (T := T) g ops (inv2_new g)
  rw [abs2_new] at h2
  rw [← h2]
  exact views_inv2 g h1

/-- a panic-propagating history that ran to completion: the reference history is defined, its
    result is the reference view of the final mesh, and the invariant holds — so `views_inv2`
    applies to the final mesh -/
theorem history_views2_ok (g : Grid X) (ops : List (Op2 T X)) {m : Mesh2 T X}
    (hrun : run2 ops (g.mesh : Mesh2 T X) = .ok m) :
    refRun2 g ops (ref0 g) = some (abs2 m) ∧ Inv2 g m := by
  obtain ⟨r, h1, h2, rfl⟩ :=
    (refines2_iff.1 (history_refines2 (T := T) g ops)).of_ok Sim.fails_any hrun
  exact ⟨h1, h2⟩

end Histories2

section Histories1
variable {T X : Type}

/-- the arguments of `Mesh1D::new` -/
structure Line (X : Type) where
  nodes : Array X
  nvars : Nat

def Inv1 (l : Line X) (m : Mesh1 T X) : Prop :=
  WF1 m ∧ RowSized1 m ∧ m.nodes = l.nodes ∧ m.nvars = l.nvars

/-- the write operations of `Mesh1D` -/
inductive Op1 (T : Type) where
  /-- `mesh.set_nodes_vars(node, v)` -/
  | setNodesVars (node : Nat) (v : Array T)
  /-- `mesh[node][var] = x` -/
  | setVar (node var : Nat) (x : T)

def Op1.run : Op1 T → Mesh1 T X → Res (Mesh1 T X)
  | .setNodesVars node v, m => Mesh1.setNodesVars m node v
  | .setVar node var x, m => Mesh1.setVar m node var x

def Op1.ref (l : Line X) : Op1 T → Ref1 T → Option (Ref1 T)
  | .setNodesVars node v, r =>
      if node < l.nodes.size ∧ v.size = l.nvars then
        some (fun k w => if k = node then v[w]? else r k w)
      else none
  | .setVar node var x, r =>
      if node < l.nodes.size ∧ var < l.nvars then
        some (fun k w => if k = node ∧ w = var then some x else r k w)
      else none

def Refines1 (l : Line X) (c : Res (Mesh1 T X)) : Option (Ref1 T) → Prop
  | some r' => ∃ m', c = .ok m' ∧ Inv1 l m' ∧ abs1 m' = r'
  | none => ∃ e, c = .error e

theorem step_refines1 (l : Line X) (op : Op1 T) {m : Mesh1 T X} (h : Inv1 l m) :
    Refines1 l (op.run m) (op.ref l (abs1 m)) := by
  obtain ⟨nodes, nv⟩ := l
  obtain ⟨hw, hs, rfl, rfl⟩ := h
  cases op with
  | setNodesVars node v =>
    simp only [Op1.ref, Op1.run]
    by_cases hc : node < m.nodes.size ∧ v.size = m.nvars
    · rw [if_pos hc]
      obtain ⟨m', h1, h2, h3, h4, h5, h6⟩ := setNodesVars_abs1 m hw hs hc.1 hc.2
      exact ⟨m', h1, ⟨h2, h3, h4, h5⟩, by funext k w; exact h6 k w⟩
    · rw [if_neg hc]
      exact set_rejects m node v (not_lt_and_of hc)
  | setVar node var x =>
    simp only [Op1.ref, Op1.run]
    by_cases hc : node < m.nodes.size ∧ var < m.nvars
    · rw [if_pos hc]
      obtain ⟨m', h1, h2, h3, h4, h5, h6⟩ := setVar_spec1 m hw hs hc.1 hc.2 x
      exact ⟨m', h1, ⟨h2, h3, h4, h5⟩, by funext k w; exact h6 k w⟩
    · rw [if_neg hc]
      exact ⟨_, setVar_rejects1 m hw hs x (not_lt_and hc)⟩

def Rel1 (l : Line X) (m : Mesh1 T X) (r : Ref1 T) : Prop := Inv1 l m ∧ abs1 m = r

theorem refines1_iff {l : Line X} {c : Res (Mesh1 T X)} {o : Option (Ref1 T)} :
    Refines1 l c o ↔ Sim.Out (Rel1 l) (fun c => ∃ e, c = .error e) c o := by
  cases o <;> exact Iff.rfl

theorem step_out1 (l : Line X) (op : Op1 T) (m : Mesh1 T X) (r : Ref1 T) (h : Rel1 l m r) :
    Sim.Out (Rel1 l) (fun c => ∃ e, c = .error e) (op.run m) (op.ref l r) :=
  refines1_iff.1 (h.2 ▸ step_refines1 l op h.1)

def run1 (ops : List (Op1 T)) (m : Mesh1 T X) : Res (Mesh1 T X) :=
  ops.foldlM (fun m op => op.run m) m

def refRun1 (l : Line X) (ops : List (Op1 T)) (r : Ref1 T) : Option (Ref1 T) :=
  ops.foldlM (fun r op => op.ref l r) r

def stepSkip1 (m : Mesh1 T X) (op : Op1 T) : Mesh1 T X :=
  match op.run m with
  | .ok m' => m'
  | .error _ => m

def refSkip1 (l : Line X) (r : Ref1 T) (op : Op1 T) : Ref1 T := (op.ref l r).getD r

def runSkip1 (ops : List (Op1 T)) (m : Mesh1 T X) : Mesh1 T X := ops.foldl stepSkip1 m
def refRunSkip1 (l : Line X) (ops : List (Op1 T)) (r : Ref1 T) : Ref1 T :=
  ops.foldl (refSkip1 l) r

theorem history_refines1_from (l : Line X) (ops : List (Op1 T)) {m : Mesh1 T X} (h : Inv1 l m) :
    Refines1 l (run1 ops m) (refRun1 l ops (abs1 m)) :=
  refines1_iff.2 (Sim.foldlM Sim.fails_any ops (fun op _ => step_out1 l op) ⟨h, rfl⟩)

theorem history_views1_from (l : Line X) (ops : List (Op1 T)) {m : Mesh1 T X} (h : Inv1 l m) :
    Inv1 l (runSkip1 ops m) ∧ abs1 (runSkip1 ops m) = refRunSkip1 l ops (abs1 m) :=
  Sim.foldl_skip Sim.fails_any (fun m op m' h => by rw [stepSkip1, h])
    (fun m op e h => by rw [stepSkip1, h]) ops (fun op _ => step_out1 l op) ⟨h, rfl⟩

variable [Zero T]

def Line.mesh (l : Line X) : Mesh1 T X := Mesh1.new l.nodes l.nvars

/-- reference state of the freshly constructed 1-D mesh -/
def ref01 (l : Line X) : Ref1 T := fun k w =>
  if k < l.nodes.size ∧ w < l.nvars then some 0 else none

theorem inv1_new (l : Line X) : Inv1 l (l.mesh : Mesh1 T X) :=
  ⟨new_wf _ _, new_rowSized1 _ _, rfl, rfl⟩

theorem abs1_new (l : Line X) : abs1 (l.mesh : Mesh1 T X) = ref01 l := by
  rw [abs1_ent (inv1_new l).1]
  funext k w
  show ent (Array.replicate l.nodes.size (Array.replicate l.nvars (0 : T))) k w = _
  by_cases hg : k < l.nodes.size
  · by_cases hw : w < l.nvars
    · simp [ref01, ent, hg, hw]
    · simp [ref01, ent, hg, hw]
  · rw [ent_none (N := l.nodes.size) (nv := l.nvars) ⟨by simp, by simp⟩
      (Or.inl (Nat.le_of_not_lt hg)), ref01, if_neg (fun q => hg q.1)]

/-- **arbitrary histories of node writes on the 1-D mesh, from `Mesh1D::new`**, refine the
    reference model -/
theorem history_refines1 (l : Line X) (ops : List (Op1 T)) :
    Refines1 l (run1 ops (l.mesh : Mesh1 T X)) (refRun1 l ops (ref01 l)) := by
  rw [← abs1_new l]
  exact history_refines1_from l ops (inv1_new l)

/-- after any 1-D history both read paths return the reference values -/
theorem history_views1 (l : Line X) (ops : List (Op1 T)) :
    ∀ k, k < l.nodes.size →
      ∃ row, Mesh1.getNodesVars (runSkip1 ops (l.mesh : Mesh1 T X)) k = .ok row ∧
        Mesh1.index (runSkip1 ops (l.mesh : Mesh1 T X)) k = .ok row ∧ row.size = l.nvars ∧
        ∀ w, row[w]? = refRunSkip1 l ops (ref01 l) k w := by
  obtain ⟨⟨hw, hs, hn, hv⟩, h2⟩ := history_views1_from (T := T) l ops (inv1_new l)
  rw [abs1_new] at h2
  intro k hk
  rw [← h2]
  obtain ⟨row, r1, r2, r3⟩ := row_of_ent (shaped1 hw hs) (a := k) (by rw [hn]; exact hk)
  have hn' : ¬ k ≥ (runSkip1 ops (l.mesh : Mesh1 T X)).nodes.size := by
    rw [hn]; exact Nat.not_le.2 hk
  refine ⟨row, ?_, r1, r2.trans hv, fun w => ?_⟩
  · simp only [Mesh1.getNodesVars, hn', if_false]; exact r1
  · rw [r3, abs1_ent hw]

end Histories1

section Examples

/-- x nodes `10, 20`; y nodes `1, 2, 3`; two variables -/
def exGrid : Grid Int := ⟨#[10, 20], #[1, 2, 3], 2⟩

/-- a history mixing all four writes, one rejected `set_nodes_vars` (wrong length), one rejected
    `apply` (variable 2 does not exist) and one rejected raw write (variable 5) -/
def exOps : List (Op2 Int Int) :=
  [.assign 7, .setNodesVars 1 2 #[4, 5], .setNodesVars 0 0 #[1, 2, 3], .apply (fun x y => x + y) 1,
   .apply (fun x y => x * y) 2, .setVar 0 1 0 (-3), .setVar 0 1 5 9]

/-- the reference state after the history: variable 1 is `x + y` everywhere, variable 0 is `7`
    except for the two written nodes -/
theorem exOps_ref :
    refRunSkip2 exGrid exOps (ref0 exGrid) 1 2 0 = some 4 ∧
    refRunSkip2 exGrid exOps (ref0 exGrid) 1 2 1 = some 23 ∧
    refRunSkip2 exGrid exOps (ref0 exGrid) 0 1 0 = some (-3) ∧
    refRunSkip2 exGrid exOps (ref0 exGrid) 0 0 0 = some 7 ∧
    refRunSkip2 exGrid exOps (ref0 exGrid) 0 0 1 = some 11 ∧
    refRunSkip2 exGrid exOps (ref0 exGrid) 2 0 0 = none := by
  refine ⟨?_, ?_, ?_, ?_, ?_, ?_⟩ <;> decide

example :
    refRunSkip2 exGrid exOps (ref0 exGrid) 1 2 0 = some 4 ∧
    refRunSkip2 exGrid exOps (ref0 exGrid) 1 2 1 = some 23 ∧
    refRunSkip2 exGrid exOps (ref0 exGrid) 0 1 0 = some (-3) ∧
    refRunSkip2 exGrid exOps (ref0 exGrid) 0 0 0 = some 7 ∧
    refRunSkip2 exGrid exOps (ref0 exGrid) 0 0 1 = some 11 ∧
    refRunSkip2 exGrid exOps (ref0 exGrid) 2 0 0 = none := exOps_ref

/-- … and, by `history_views2`, the model returns exactly these values through every access path -/
example :
    (∃ row, Mesh2.getNodesVars (runSkip2 exOps (exGrid.mesh : Mesh2 Int Int)) 1 2 = .ok row ∧
      Mesh2.index (runSkip2 exOps (exGrid.mesh : Mesh2 Int Int)) 1 2 = .ok row ∧
      row[0]? = some 4 ∧ row[1]? = some 23) ∧
    (∃ s, Mesh2.crossSectionY (runSkip2 exOps (exGrid.mesh : Mesh2 Int Int)) 1 = .ok s ∧
      ∃ row, Mesh1.getNodesVars s 0 = .ok row ∧ row[0]? = some (-3)) ∧
    (∃ M, Mesh2.varAsMatrix (runSkip2 exOps (exGrid.mesh : Mesh2 Int Int)) 1 = .ok M ∧
      M.rows = 2 ∧ M.cols = 3 ∧ M.get 0 0 = .ok 11) := by
  obtain ⟨hA, _, hC, hD⟩ := history_views2 exGrid exOps
  obtain ⟨v120, v121, v010, -, v001, -⟩ := exOps_ref
  refine ⟨?_, ?_, ?_⟩
  · obtain ⟨row, r1, r2, _, r4⟩ := hA 1 2 (by decide) (by decide)
    exact ⟨row, r1, r2, (r4 0).trans v120, (r4 1).trans v121⟩
  · obtain ⟨s, s1, _, _, s4⟩ := hC 1 (by decide)
    obtain ⟨row, r1, _, _, r4⟩ := s4 0 (by decide)
    exact ⟨s, s1, row, r1, (r4 0).trans v010⟩
  · obtain ⟨M, m1, _, m3, m4, m5⟩ := hD 1 (by decide)
    obtain ⟨x, x1, x2⟩ := m5 0 0 (by decide) (by decide)
    exact ⟨M, m1, m3, m4, x1.trans (congrArg Except.ok (Option.some.inj (x2.symm.trans v001)))⟩

/-- the panic-propagating semantics: the same history aborts at the wrong-length vector … -/
example : ∃ e, run2 exOps (exGrid.mesh : Mesh2 Int Int) = .error e := by
  have R := history_refines2 (T := Int) exGrid exOps
  have e : refRun2 exGrid exOps (ref0 exGrid : Ref2 Int) = none := by decide
  rw [e] at R
  exact R

/-- … while a history of accepted calls runs to completion -/
example : ∃ m, run2 [.assign 7, .setNodesVars 1 2 #[4, 5], .apply (fun x y => x + y) 1,
      .setVar 0 1 0 (-3)] (exGrid.mesh : Mesh2 Int Int) = .ok m ∧ Inv2 exGrid m ∧
      abs2 m 1 2 1 = some 23 :=
  history_value2 exGrid _ (by decide)

end Examples

end Ohsl.Props.C19
