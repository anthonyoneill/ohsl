/-
  Property C10 (continued) — the low-degree paths of the root finder WITH polishing, the degree-1
  path, the zero-leading-coefficient boundary, and the iteration count of `laguer` stated through
  the model's own recursion (model: Ohsl/Model/Roots.lean).

  Coefficient order of the model (as in the Rust code): `coeffs[i]` is the coefficient of `X^i`, so
  `#[c0, c1]` is `c1 X + c0` and the LAST entry is the leading coefficient.
  Polishing is `laguer coeffs ·` applied to every closed-form value; there is NO snapping of small
  imaginary parts in the polishing step (the snap `|Im x| ≤ 2 eps |Re x| ⇒ Im x := 0` exists only
  inside the deflation loop, degree ≥ 4).

  (S) `laguerLoop_trace`, `laguerTrace_unique`, `laguer_trace` (with `LaguerTrace` of C10Q): the value
      of the model's `laguerLoop` (no copy of the recursion, no counter) is the end of a UNIQUE chain
      of successful `laguerStep`s; `laguer` evaluates the step at most 79 times.
  (R) real interpretation, transported to Mathlib's ℂ with `toC`:
      * `polySolve_deg1`, `rootsReal_deg1`: degree 1, refined or not;
      * `polySolve_deg2_refine`, `polySolve_deg2_roots`, `polySolve_deg3_roots`: for a non-zero
        leading coefficient the result IS the closed form, i.e. all zeros with multiplicity, and
        polishing returns every value unchanged;
      * `polySolve_deg1_zero_lead`, `polySolve_deg1_zero_lead_refine`: the boundary `c1 = 0`.  Over ℝ
        (Mathlib's totalised `x / 0 = 0`) the model returns `#[0]`; with polishing and `c0 ≠ 0` the
        Laguerre loop never stops (the polynomial is the non-zero constant `c0`): all 79 fall-back
        updates are performed.  In `f64` the same input gives `NaN + NaN i` (`0/0`); (`±inf` when
        `c1 ≠ 0` but `|c1|²` underflows to 0).  The value at this boundary depends on the division
        convention: it is outside property C10 (non-zero leading coefficient) and `roots_length`
        only says that ONE value is returned.
  NOT proved: anything about rounding (class F); convergence of Laguerre for degree ≥ 4.
-/
import Ohsl.Props.C10D
namespace Ohsl.Props.C10
open Ohsl Ohsl.Roots Ohsl.Cx Ohsl.RealI Ohsl.Props.C14 Polynomial

section Structural
variable {K : Type} [Add K] [Sub K] [Mul K] [Neg K] [Div K] [Zero K] [One K] [BEq K] [ScalarExt K] [Transc K] [OfScientific K]

/-- degree 1 is `−c0 / c1` (complex division with the component type's total `/`) -/
theorem polySolve_deg1_eq (c0 c1 : Cx K) :
    polySolve #[c0, c1] false = .ok #[divT (-c0) c1] :=
  polySolve_eq #[c0, c1] false (Nat.le_refl 2)

/-- polishing is one call of `laguer` on the undeflated coefficients per value; the result of
    `laguer` is stored as it is (no snap of the imaginary part) -/
theorem polySolve_deg1_refine_eq (c0 c1 : Cx K) :
    polySolve #[c0, c1] true = .ok #[laguer #[c0, c1] (divT (-c0) c1)] := by
  rw [polySolve_eq #[c0, c1] _ (Nat.le_refl 2), rawRoots_two, if_pos rfl, List.map_toArray]; rfl

theorem polySolve_deg2_refine_eq (c0 c1 c2 : Cx K) :
    polySolve #[c0, c1, c2] true =
      .ok ((quadraticSolve c2 c1 c0).map (fun r => laguer #[c0, c1, c2] r)) := by
  rw [polySolve_eq #[c0, c1, c2] _ (show 2 ≤ 3 by decide), rawRoots_three]; rfl

theorem polySolve_deg3_refine_eq (c0 c1 c2 c3 : Cx K) :
    polySolve #[c0, c1, c2, c3] true =
      .ok ((cubicSolve c3 c2 c1 c0).map (fun r => laguer #[c0, c1, c2, c3] r)) := by
  rw [polySolve_eq #[c0, c1, c2, c3] _ (show 2 ≤ 4 by decide), rawRoots_four]; rfl

set_option linter.unusedSectionVars false in
/-- **The model's `laguerLoop` as a chain of at most `fuel` steps** (statement about `laguerLoop` and
    `laguerStep` only) -/
theorem laguerLoop_trace (a : Array (Cx K)) (m fuel iter : Nat) (x : Cx K) :
    ∃ k xs, LaguerTrace a m fuel iter x k xs ∧ laguerLoop a m fuel iter x = xs k := by
  obtain ⟨k, xs, h⟩ := laguerLoop_trace_exists a m fuel iter x
  exact ⟨k, xs, h, (laguerTrace_value a m fuel iter x k xs h).1⟩

set_option linter.unusedSectionVars false in
/-- the trace is unique: its length and all its points `xs 0 … xs k` are determined -/
theorem laguerTrace_unique (a : Array (Cx K)) (m fuel iter : Nat) (x : Cx K) (k k' : Nat)
    (xs xs' : Nat → Cx K) (h : LaguerTrace a m fuel iter x k xs)
    (h' : LaguerTrace a m fuel iter x k' xs') : k = k' ∧ ∀ i, i ≤ k → xs i = xs' i := by
  have hk : k = k' :=
    (laguerTrace_value a m fuel iter x k xs h).2.symm.trans (laguerTrace_value a m fuel iter x k' xs' h').2
  subst hk
  refine ⟨rfl, fun i => ?_⟩
  induction i with
  | zero => intro _; rw [h.2.1, h'.2.1]
  | succ i ih =>
    intro hi
    have e := ih (by omega)
    have s1 := h.2.2.1 i (by omega)
    have s2 := h'.2.2.1 i (by omega)
    rw [e, s2] at s1
    exact (Option.some.inj s1).symm

/-- **`laguer` evaluates the Laguerre step at most 79 times**: its value is the end `xs k` of the
    unique chain of `k ≤ 79` successful steps from `x`, the iteration counter running through
    `1, 2, …`; the step is evaluated `k + [k < 79] ≤ 79` times -/
theorem laguer_trace (a : Array (Cx K)) (x : Cx K) :
    ∃ k xs, LaguerTrace a (a.size - 1) 79 1 x k xs ∧ laguer a x = xs k ∧
      k + (if k < 79 then 1 else 0) ≤ 79 := by
  obtain ⟨k, xs, h, e⟩ := laguerLoop_trace a (a.size - 1) 79 1 x
  exact ⟨k, xs, h, e, laguerTrace_evals_le _ _ _ _ _ _ _ h⟩

end Structural

section RealInterp

theorem cpoly1_eval (c0 c1 : Cx ℝ) (z : ℂ) :
    (cpoly #[c0, c1] 1).eval z = toC c1 * z + toC c0 := by
  rw [eval_cpoly]
  simp only [Finset.sum_range_succ, Finset.sum_range_zero]
  show 0 + toC c0 * z ^ 0 + toC c1 * z ^ 1 = _
  ring

theorem cpoly2_eval (c0 c1 c2 : Cx ℝ) (z : ℂ) :
    (cpoly #[c0, c1, c2] 2).eval z = toC c2 * z ^ 2 + toC c1 * z + toC c0 := by
  rw [eval_cpoly]
  simp only [Finset.sum_range_succ, Finset.sum_range_zero]
  show 0 + toC c0 * z ^ 0 + toC c1 * z ^ 1 + toC c2 * z ^ 2 = _
  ring

theorem cpoly3_eval (c0 c1 c2 c3 : Cx ℝ) (z : ℂ) :
    (cpoly #[c0, c1, c2, c3] 3).eval z =
      toC c3 * z ^ 3 + toC c2 * z ^ 2 + toC c1 * z + toC c0 := by
  rw [eval_cpoly]
  simp only [Finset.sum_range_succ, Finset.sum_range_zero]
  show 0 + toC c0 * z ^ 0 + toC c1 * z ^ 1 + toC c2 * z ^ 2 + toC c3 * z ^ 3 = _
  ring

/-- **Degree 1.**  For `c1 X + c0` with `c1 ≠ 0` the model returns the single value `−c0/c1`, which
    is an exact zero — without polishing and with polishing (`laguer` started at an exact zero stops
    at its first test `|P(x)| ≤ eps·err` and returns it). -/
theorem polySolve_deg1 (c0 c1 : Cx ℝ) (refine : Bool) (h : toC c1 ≠ 0) :
    polySolve #[c0, c1] refine = .ok #[divT (-c0) c1] ∧
    toC (divT (-c0) c1) = -toC c0 / toC c1 ∧
    toC c1 * toC (divT (-c0) c1) + toC c0 = 0 := by
  have hr : toC (divT (-c0) c1) = -toC c0 / toC c1 := by rw [divT_eq, toC_neg]
  have hz : toC c1 * toC (divT (-c0) c1) + toC c0 = 0 := by
    rw [hr]; field_simp; ring
  refine ⟨?_, hr, hz⟩
  cases refine
  · exact polySolve_deg1_eq c0 c1
  · rw [polySolve_deg1_refine_eq, laguer_at_root]
    show (cpoly #[c0, c1] 1).eval _ = 0
    rw [cpoly1_eval]; exact hz

/-- the same through `Polynomial<f64>::roots` (real coefficients): `#[c0, c1] ↦ −c0/c1 + 0i` -/
theorem rootsReal_deg1 (c0 c1 : ℝ) (refine : Bool) (h : c1 ≠ 0) :
    rootsReal #[c0, c1] refine = .ok #[⟨-c0 / c1, 0⟩] ∧ c1 * (-c0 / c1) + c0 = 0 := by
  have h1 : toC (⟨c1, 0⟩ : Cx ℝ) ≠ 0 := by
    intro e; apply h; simpa [toC] using congrArg Complex.re e
  have hv : divT (-(⟨c0, 0⟩ : Cx ℝ)) ⟨c1, 0⟩ = ⟨-c0 / c1, 0⟩ := by
    rw [← toC_inj, divT_eq, toC_neg]
    apply Complex.ext <;> simp [toC, Complex.div_re, Complex.div_im, Complex.normSq_apply]
    field_simp
  refine ⟨?_, by field_simp; ring⟩
  have hm : rootsReal #[c0, c1] refine = polySolve #[(⟨c0, 0⟩ : Cx ℝ), ⟨c1, 0⟩] refine := by
    simp [rootsReal]
  rw [hm, (polySolve_deg1 _ _ refine h1).1, hv]

/-- **Degree 2, refined or not.**  For a non-zero leading coefficient the result IS the closed form:
    every value of `quadraticSolve` is an exact zero (`quadratic_roots`), so polishing returns it
    unchanged (`polish_at_roots`); there is no snapping in the polishing step, hence no further
    hypothesis. -/
theorem polySolve_deg2_refine (c0 c1 c2 : Cx ℝ) (refine : Bool) (h : toC c2 ≠ 0) :
    polySolve #[c0, c1, c2] refine = .ok (quadraticSolve c2 c1 c0) := by
  cases refine
  · exact polySolve_deg2 c0 c1 c2
  · rw [polySolve_deg2_refine_eq, polish_at_roots]
    intro r hr
    show (cpoly #[c0, c1, c2] 2).eval _ = 0
    rw [cpoly2_eval]; exact quadratic_roots c2 c1 c0 h r hr

/-- degree 2: the two returned values are all the zeros with multiplicity, refined or not -/
theorem polySolve_deg2_roots (c0 c1 c2 : Cx ℝ) (refine : Bool) (h : toC c2 ≠ 0) :
    ∃ r0 r1 : Cx ℝ, polySolve #[c0, c1, c2] refine = .ok #[r0, r1] ∧
      (∀ X : ℂ, toC c2 * (X - toC r0) * (X - toC r1) = toC c2 * X ^ 2 + toC c1 * X + toC c0) ∧
      toC c2 * toC r0 ^ 2 + toC c1 * toC r0 + toC c0 = 0 ∧
      toC c2 * toC r1 ^ 2 + toC c1 * toC r1 + toC c0 = 0 := by
  obtain ⟨r0, r1, hs, hX⟩ := quadratic_factor c2 c1 c0 h
  refine ⟨r0, r1, by rw [polySolve_deg2_refine c0 c1 c2 refine h, hs], hX, ?_, ?_⟩
  · rw [← hX]; ring
  · rw [← hX]; ring

theorem polySolve_deg3_refine (c0 c1 c2 c3 : Cx ℝ) (refine : Bool) (h : toC c3 ≠ 0) :
    polySolve #[c0, c1, c2, c3] refine = .ok (cubicSolve c3 c2 c1 c0) := by
  cases refine
  · exact polySolve_deg3 c0 c1 c2 c3
  · rw [polySolve_deg3_refine_eq, polish_at_roots]
    intro r hr
    show (cpoly #[c0, c1, c2, c3] 3).eval _ = 0
    rw [cpoly3_eval]; exact cubic_roots c3 c2 c1 c0 h r hr

/-- degree 3: the three returned values are all the zeros with multiplicity, refined or not -/
theorem polySolve_deg3_roots (c0 c1 c2 c3 : Cx ℝ) (refine : Bool) (h : toC c3 ≠ 0) :
    ∃ r0 r1 r2 : Cx ℝ, polySolve #[c0, c1, c2, c3] refine = .ok #[r0, r1, r2] ∧
      (∀ X : ℂ, toC c3 * (X - toC r0) * (X - toC r1) * (X - toC r2) =
        toC c3 * X ^ 3 + toC c2 * X ^ 2 + toC c1 * X + toC c0) ∧
      ∀ r ∈ #[r0, r1, r2], toC c3 * toC r ^ 3 + toC c2 * toC r ^ 2 + toC c1 * toC r + toC c0 = 0 := by
  obtain ⟨r0, r1, r2, hs, hX⟩ := cubic_factor c3 c2 c1 c0 h
  refine ⟨r0, r1, r2, by rw [polySolve_deg3_refine c0 c1 c2 c3 refine h, hs], hX, ?_⟩
  intro r hr
  rw [← hs] at hr
  exact cubic_roots c3 c2 c1 c0 h r hr

/-- **Zero leading coefficient (convention-dependent boundary).**  `#[c0, 0]` is the constant `c0`
    presented as a "degree-1" polynomial.  The code computes `−c0 / (0 + 0i)`, i.e. both components
    are divided by `0² + 0² = 0`.  In the real interpretation (Mathlib's totalised `x / 0 = 0`) the
    model therefore returns `#[0]`, whatever `c0` is — which is a zero of the polynomial only if
    `c0 = 0`.  In `f64` the same input returns `NaN + NaN i` (`(∓0)/0`), and `±inf` components arise
    when `c1 ≠ 0` but `|c1|²` underflows.  This input is outside property C10 (which requires a
    non-zero leading coefficient); `roots_length` needs no such hypothesis because it only counts
    the returned values. -/
theorem polySolve_deg1_zero_lead (c0 : Cx ℝ) : polySolve #[c0, 0] false = .ok #[0] := by
  have hv : divT (-c0) (0 : Cx ℝ) = 0 := by
    rw [← toC_inj, divT_eq, toC_zero, div_zero]
  rw [polySolve_deg1_eq, hv]

theorem cpoly_const (c0 : Cx ℝ) : cpoly #[c0, 0] 1 = C (toC c0) := by
  simp [cpoly, Finset.sum_range_succ, cf, toC_zero]

theorem hornerErr_const (c x : ℂ) : hornerErr (C c) 1 x = ‖c‖ := by
  simp [hornerErr, Finset.sum_range_succ, divX_C]

/-- on a constant polynomial both Laguerre denominators vanish: the fall-back step is taken -/
theorem laguerDx_const (c x : ℂ) (iter : ℕ) :
    laguerDx (C c) 1 iter x = ((1 + ‖x‖ : ℝ) : ℂ) * Complex.exp (((iter : ℝ) : ℂ) * Complex.I) := by
  simp [laguerDx]

/-- on a non-zero constant (`a` denotes `C c`, `m = 1`) the step never stops: there is no zero to
    converge to, and the fall-back correction `(1 + |x|) e^{i·iter}` is never `0` -/
theorem laguerStep_const (a : Array (Cx ℝ)) (c : ℂ) (hc : c ≠ 0) (hP : cpoly a 1 = C c)
    (iter : ℕ) (x : Cx ℝ) :
    ∃ y, laguerStep a 1 iter x = some y ∧
      toC y = toC x - ((1 + ‖toC x‖ : ℝ) : ℂ) * Complex.exp (((iter : ℝ) : ℂ) * Complex.I)
        * ((stepFrac iter : ℝ) : ℂ) := by
  cases hs : laguerStep a 1 iter x with
  | none =>
    exfalso
    rcases (laguerStep_none_iff a 1 iter x).mp hs with h | h
    · rw [hP, hornerErr_const, eval_C] at h
      exact not_le_mul_eps (norm_pos_iff.mpr hc) h
    · rw [hP, laguerDx_const] at h
      have h1 : ((1 + ‖toC x‖ : ℝ) : ℂ) ≠ 0 := by
        have : (0 : ℝ) < 1 + ‖toC x‖ := by positivity
        exact_mod_cast this.ne'
      exact mul_ne_zero h1 (Complex.exp_ne_zero _) h
  | some y =>
    refine ⟨y, rfl, ?_⟩
    rw [(laguerStep_some a 1 iter x y hs).1, hP, laguerDx_const]

theorem laguerSteps_const (a : Array (Cx ℝ)) (c : ℂ) (hc : c ≠ 0) (hP : cpoly a 1 = C c)
    (fuel iter : ℕ) (x : Cx ℝ) : laguerSteps a 1 fuel iter x = fuel := by
  induction fuel generalizing iter x with
  | zero => simp [laguerSteps]
  | succ f ih =>
    obtain ⟨y, hy, -⟩ := laguerStep_const a c hc hP iter x
    simp [laguerSteps, hy, ih]

/-- **Zero leading coefficient with polishing.**  The polished value is `laguer #[c0, 0]` started at
    the unrefined value `0`.  If `c0 = 0` (the zero polynomial) the start value is a zero and is
    returned.  If `c0 ≠ 0` the polynomial has no zero: `laguer` exhausts its 79 iterations, every
    one a fall-back step (`laguerStep_const`), so every trace has length 79; the returned value is an
    artefact of the iteration, not a root.  (In `f64` the start value is already `NaN + NaN i`, the
    first test `|b| ≤ err` is false, `x1` is non-finite and the loop returns the NaN start value.) -/
theorem polySolve_deg1_zero_lead_refine (c0 : Cx ℝ) :
    polySolve #[c0, 0] true = .ok #[laguer #[c0, 0] 0] ∧
    (toC c0 = 0 → laguer #[c0, 0] 0 = 0) ∧
    (toC c0 ≠ 0 → laguerSteps #[c0, 0] 1 79 1 0 = 79 ∧
      ∀ k xs, LaguerTrace #[c0, 0] 1 79 1 (0 : Cx ℝ) k xs → k = 79) := by
  have hv : divT (-c0) (0 : Cx ℝ) = 0 := by
    rw [← toC_inj, divT_eq, toC_zero, div_zero]
  refine ⟨by rw [polySolve_deg1_refine_eq, hv], fun h0 => ?_, fun h0 => ?_⟩
  · apply laguer_at_root
    show (cpoly #[c0, 0] 1).eval _ = 0
    rw [cpoly_const, h0]; simp
  · have hst := laguerSteps_const #[c0, 0] (toC c0) h0 (cpoly_const c0) 79 1 0
    refine ⟨hst, fun k xs htr => ?_⟩
    rw [← (laguerTrace_value _ _ _ _ _ k xs htr).2, hst]

/-- `2x + 4` over ℝ: the model returns `−2`, refined or not -/
example (refine : Bool) : rootsReal (#[4, 2] : Array ℝ) refine = .ok #[⟨-2, 0⟩] := by
  rw [(rootsReal_deg1 4 2 refine (by norm_num)).1]
  norm_num

/-- `2x + 4` with complex coefficients: hypothesis and conclusion of `polySolve_deg1` -/
example (refine : Bool) :
    toC (⟨2, 0⟩ : Cx ℝ) ≠ 0 ∧
    polySolve #[(⟨4, 0⟩ : Cx ℝ), ⟨2, 0⟩] refine = .ok #[divT (-⟨4, 0⟩) ⟨2, 0⟩] := by
  have h : toC (⟨2, 0⟩ : Cx ℝ) ≠ 0 := by
    intro e; simpa [toC] using congrArg Complex.re e
  exact ⟨h, (polySolve_deg1 _ _ refine h).1⟩

/-- `x² − 3x + 2` with polishing: the model returns `1` and `2` (in some order) -/
example : ∃ r0 r1 : Cx ℝ,
    polySolve #[(⟨2, 0⟩ : Cx ℝ), ⟨-3, 0⟩, ⟨1, 0⟩] true = .ok #[r0, r1] ∧
    ((toC r0 = 1 ∧ toC r1 = 2) ∨ (toC r0 = 2 ∧ toC r1 = 1)) := by
  have h1 : toC (⟨1, 0⟩ : Cx ℝ) = 1 := rfl
  have h2 : toC (⟨2, 0⟩ : Cx ℝ) = 2 := rfl
  have h3 : toC (⟨-3, 0⟩ : Cx ℝ) = -3 := Complex.ext rfl neg_zero.symm
  obtain ⟨r0, r1, hs, hX, -, -⟩ := polySolve_deg2_roots ⟨2, 0⟩ ⟨-3, 0⟩ ⟨1, 0⟩ true (by rw [h1]; norm_num)
  refine ⟨r0, r1, hs, ?_⟩
  rw [h1, h2, h3] at hX
  have e0 := hX 0
  have e1 := hX 1
  have hsum : toC r0 + toC r1 = 3 := by linear_combination e0 - e1
  have hprod : (1 - toC r0) * (1 - toC r1) = 0 := by linear_combination e1
  rcases mul_eq_zero.mp hprod with h | h
  · left; exact ⟨by linear_combination -h, by linear_combination hsum + h⟩
  · right; exact ⟨by linear_combination hsum + h, by linear_combination -h⟩

/-- `x³ − 6x² + 11x − 6` with polishing: hypothesis of `polySolve_deg3_roots` -/
example : ∃ r0 r1 r2 : Cx ℝ,
    polySolve #[(⟨-6, 0⟩ : Cx ℝ), ⟨11, 0⟩, ⟨-6, 0⟩, ⟨1, 0⟩] true = .ok #[r0, r1, r2] := by
  have h1 : toC (⟨1, 0⟩ : Cx ℝ) ≠ 0 := by
    intro e; simpa [toC] using congrArg Complex.re e
  obtain ⟨r0, r1, r2, hs, -, -⟩ := polySolve_deg3_roots ⟨-6, 0⟩ ⟨11, 0⟩ ⟨-6, 0⟩ ⟨1, 0⟩ true h1
  exact ⟨r0, r1, r2, hs⟩

/-- the constant `5` presented as `0·x + 5`: the real-interpretation model returns `0` (f64: NaN),
    and with polishing the Laguerre loop runs all its 79 iterations -/
example : polySolve #[(⟨5, 0⟩ : Cx ℝ), 0] false = .ok #[0] ∧
    laguerSteps #[(⟨5, 0⟩ : Cx ℝ), 0] 1 79 1 0 = 79 := by
  refine ⟨polySolve_deg1_zero_lead _, ((polySolve_deg1_zero_lead_refine ⟨5, 0⟩).2.2 ?_).1⟩
  intro e; simpa [toC] using congrArg Complex.re e

end RealInterp
end Ohsl.Props.C10
