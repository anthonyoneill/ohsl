/-
  Property C20 (part C) — the `var` argument of the quadrature functions
  `Mesh1.trapezium`, `Mesh2.trapWith` (`Mesh2.trapezium`, `Mesh2.squareTrapezium`).

  These functions read `row[var]` with a raw slice access (`aget`), like the raw index operators
  that property C20 places outside its claim: there is no entry guard on `var`.  The theorems below
  document the model's (= the code's) behaviour exactly, for a mesh that satisfies the shape
  invariant of the other mesh theorems (`C19.WF1`, `C19.RowSized1` resp. `C19.WF2`, `C19.Sized2`:
  one row of `nvars` entries per node) and `var ≥ nvars`: `trapezium_var_classes`,
  `trapezium2_var_classes` (the case tables; their cases `trapezium_var_rejects`,
  `trapezium_var_no_cell`, `trapezium2_var_rejects`, `trapezium2_var_no_cell`).  Class (S): any
  scalar type, arbitrary operations.  The `.ok 0` cases hold WHATEVER `var` is (no read happens):
  the value `0` is the initial sum.

  The coverage table of C20B.lean (Model/Mesh.lean) has the row for this access.
-/
import Ohsl.Props.C20B
namespace Ohsl.Props.C20
open Ohsl
section OneD
variable {K : Type} [Add K] [Sub K] [Mul K] [Zero K] [Transc K]

theorem trapezium_var_rejects (m : Mesh1 K K) (h : C19.WF1 m) (hs : C19.RowSized1 m) (var : Nat)
    (hn : 2 ≤ m.nodes.size) (hv : m.nvars ≤ var) : Mesh1.trapezium m var = .error .range := by
  unfold Mesh1.trapezium
  rw [usub_ok (Nat.le_of_succ_le hn)]
  show Mat.forM' 0 (m.nodes.size - 1) (0 : K) _ = _
  apply Mat.forM'_first_error 0 (m.nodes.size - 1) _ _ _ (Nat.sub_pos_of_lt hn)
  have h0 : 0 < m.vars.size := Nat.lt_of_lt_of_eq (Nat.lt_of_succ_lt hn) h.symm
  have hr : m.vars[0].size ≤ var := by rw [hs 0 h0]; exact hv
  simp only [Mat.aget_ok (Nat.lt_of_succ_lt hn), Mat.aget_ok (show 0 + 1 < m.nodes.size from hn),
    Mat.aget_ok h0, Mat.aget_err hr, bind, Except.bind]

theorem trapezium_var_no_cell (m : Mesh1 K K) (var : Nat) (hn : m.nodes.size = 1) :
    Mesh1.trapezium m var = .ok 0 := by
  unfold Mesh1.trapezium
  rw [usub_ok (Nat.le_of_eq hn.symm)]
  show Mat.forM' 0 (m.nodes.size - 1) (0 : K) _ = _
  exact Mat.forM'_empty _ _ _ _ (Nat.sub_le_of_le_add (Nat.le_of_eq hn))

end OneD

section OneDTable
variable {K : Type} [Add K] [Sub K] [Mul K] [Neg K] [Div K] [Zero K] [One K] [BEq K] [ScalarExt K]
  [Transc K]

/-- the whole case table of `trapezium(var)` for an unknown variable, by the number `n` of nodes:
    n = 0   `.error .arith`  (`n - 1` underflows; C20.rejects_mesh_empty)
    n = 1   `.ok 0`          no cell, nothing is read
    n ≥ 2   `.error .range`  the first cell reads `vars[0][var]` -/
theorem trapezium_var_classes (m : Mesh1 K K) (h : C19.WF1 m) (hs : C19.RowSized1 m) (var : Nat)
    (hv : m.nvars ≤ var) :
    Mesh1.trapezium m var =
      if m.nodes.size = 0 then .error .arith else if m.nodes.size = 1 then .ok 0
      else .error .range := by
  by_cases h0 : m.nodes.size = 0
  · rw [if_pos h0]; exact ((rejects_mesh_empty m default 0 var id).1 h0).2
  · rw [if_neg h0]
    by_cases h1 : m.nodes.size = 1
    · rw [if_pos h1]; exact trapezium_var_no_cell m var h1
    · rw [if_neg h1]; exact trapezium_var_rejects m h hs var ((Nat.two_le_iff _).2 ⟨h0, h1⟩) hv

end OneDTable

section TwoD
variable {K : Type} [Add K] [Sub K] [Mul K] [Zero K] [One K] [Transc K]

theorem trapezium2_var_rejects (m : Mesh2 K K) (h : C19.WF2 m) (hs : C19.Sized2 m) (var : Nat)
    (g : K → K) (hx : 2 ≤ m.nx) (hy : 2 ≤ m.ny) (hv : m.nvars ≤ var) :
    Mesh2.trapWith g m var = .error .range ∧ Mesh2.trapezium m var = .error .range ∧
    Mesh2.squareTrapezium m var = .error .range := by
  obtain ⟨hvs, hxn, hyn⟩ := h
  have key : ∀ g : K → K, Mesh2.trapWith g m var = .error .range := by
    intro g
    unfold Mesh2.trapWith
    rw [usub_ok (Nat.le_of_succ_le hx)]
    show Mat.forM' 0 (m.nx - 1) (0 : K) _ = _
    apply Mat.forM'_first_error 0 (m.nx - 1) _ _ _ (Nat.sub_pos_of_lt hx)
    simp only [Mat.aget_ok (Nat.lt_of_lt_of_eq (Nat.lt_of_succ_lt hx) hxn.symm),
      Mat.aget_ok (Nat.lt_of_lt_of_eq hx hxn.symm), usub_ok (Nat.le_of_succ_le hy),
      bind, Except.bind]
    apply Mat.forM'_first_error 0 (m.ny - 1) _ _ _ (Nat.sub_pos_of_lt hy)
    have h0 : 0 * m.ny + 0 < m.vars.size := by
      rw [hvs, Nat.zero_mul]
      exact Nat.mul_pos (Nat.lt_of_succ_lt hx) (Nat.lt_of_succ_lt hy)
    have hr : m.vars[0 * m.ny + 0].size ≤ var := by rw [hs _ h0]; exact hv
    simp only [Mat.aget_ok (Nat.lt_of_lt_of_eq (Nat.lt_of_succ_lt hy) hyn.symm),
      Mat.aget_ok (Nat.lt_of_lt_of_eq hy hyn.symm), Mat.aget_ok h0, Mat.aget_err hr]
  exact ⟨key g, key _, key _⟩

theorem trapezium2_var_no_cell (m : Mesh2 K K) (var : Nat) (g : K → K)
    (hc : m.nx = 1 ∨ (2 ≤ m.nx ∧ m.xnodes.size = m.nx ∧ m.ny = 1)) :
    Mesh2.trapWith g m var = .ok 0 ∧ Mesh2.trapezium m var = .ok 0 ∧
    Mesh2.squareTrapezium m var = .ok 0 := by
  have key : ∀ g : K → K, Mesh2.trapWith g m var = .ok 0 := by
    intro g
    unfold Mesh2.trapWith
    rcases hc with h1 | ⟨hx, hxn, hy⟩
    · rw [usub_ok (Nat.le_of_eq h1.symm)]
      show Mat.forM' 0 (m.nx - 1) (0 : K) _ = _
      exact Mat.forM'_empty _ _ _ _ (Nat.sub_le_of_le_add (Nat.le_of_eq h1))
    · rw [usub_ok (Nat.le_of_succ_le hx)]
      show Mat.forM' 0 (m.nx - 1) (0 : K) _ = _
      refine Mat.forM'_eq_of_inv (fun _ => 0) 0 _ _ _ (Nat.zero_le _) rfl fun i _ hi => ?_
      have hi1 : i + 1 < m.xnodes.size := Nat.lt_of_lt_of_eq (Nat.add_lt_of_lt_sub hi) hxn.symm
      simp only [Mat.aget_ok (Nat.lt_of_succ_lt hi1), Mat.aget_ok hi1,
        usub_ok (Nat.le_of_eq hy.symm), bind, Except.bind]
      exact Mat.forM'_empty _ _ _ _ (Nat.sub_le_of_le_add (Nat.le_of_eq hy))
  exact ⟨key g, key _, key _⟩

end TwoD

section TwoDTable
variable {K : Type} [Add K] [Sub K] [Mul K] [Neg K] [Div K] [Zero K] [One K] [BEq K] [ScalarExt K]
  [Transc K]

/-- the whole case table of the 2-D cell loop for an unknown variable, by the grid `nx × ny`:
    nx = 0            `.error .arith`  (C20.rejects_mesh_empty)
    nx = 1            `.ok 0`          the x loop is empty, `ny` is not even looked at
    nx ≥ 2, ny = 0    `.error .arith`  (`ny - 1` underflows in the first x cell)
    nx ≥ 2, ny = 1    `.ok 0`          every y loop is empty
    nx ≥ 2, ny ≥ 2    `.error .range`  the first cell reads `vars[0][var]` -/
theorem trapezium2_var_classes (m : Mesh2 K K) (h : C19.WF2 m) (hs : C19.Sized2 m) (var : Nat)
    (g : K → K) (hv : m.nvars ≤ var) :
    Mesh2.trapWith g m var =
      if m.nx = 0 then .error .arith else if m.nx = 1 then .ok 0
      else if m.ny = 0 then .error .arith else if m.ny = 1 then .ok 0 else .error .range := by
  by_cases h0 : m.nx = 0
  · rw [if_pos h0]; exact ((rejects_mesh_empty (default : Mesh1 K K) m 0 var g).2 (Or.inl h0)).1
  · rw [if_neg h0]
    by_cases h1 : m.nx = 1
    · rw [if_pos h1]; exact (trapezium2_var_no_cell m var g (Or.inl h1)).1
    · rw [if_neg h1]
      have hx : 2 ≤ m.nx := (Nat.two_le_iff _).2 ⟨h0, h1⟩
      by_cases h2 : m.ny = 0
      · rw [if_pos h2]
        exact ((rejects_mesh_empty (default : Mesh1 K K) m 0 var g).2
          (Or.inr ⟨hx, h.2.1 ▸ hx, h2⟩)).1
      · rw [if_neg h2]
        by_cases h3 : m.ny = 1
        · rw [if_pos h3]
          exact (trapezium2_var_no_cell m var g (Or.inr ⟨hx, h.2.1, h3⟩)).1
        · rw [if_neg h3]
          exact (trapezium2_var_rejects m h hs var g hx ((Nat.two_le_iff _).2 ⟨h2, h3⟩) hv).1

end TwoDTable

section Examples
/-- the f64-only operations at `Rat`, for the examples only (no theorem depends on the values) -/
local instance transcRat : Transc Rat :=
  { sqrt := id, sin := id, cos := id, tan := id, exp := id, ln := id, sinh := id, cosh := id,
    fabs := fun x => if x < 0 then -x else x, atan2 := fun y _ => y, powf := fun x _ => x * x,
    fmax := max, ofNat := fun n => n, le := fun a b => decide (a ≤ b), half := 1 / 2, piHalf := 0,
    eps := 0, snap := 0 }

/-- two nodes, three variables, `var = 3`: rejected -/
example : Mesh1.trapezium (Mesh1.new #[(0 : Rat), 1] 3 : Mesh1 Rat Rat) 3 = .error .range :=
  trapezium_var_rejects _ (C19.new_wf _ _) (C19.new_rowSized1 _ _) 3 (by simp [Mesh1.new])
    (by simp [Mesh1.new])

/-- one node, three variables, `var = 3`: nothing is read, the result is `0` -/
example : Mesh1.trapezium (Mesh1.new #[(0 : Rat)] 3 : Mesh1 Rat Rat) 3 = .ok 0 :=
  trapezium_var_no_cell _ 3 (by simp [Mesh1.new])

/-- a 2 × 2 grid, `var = nvars`: rejected -/
example : Mesh2.trapezium (Mesh2.new #[(0 : Rat), 1] #[(0 : Rat), 1] 3 : Mesh2 Rat Rat) 3
    = .error .range :=
  (trapezium2_var_rejects _ (C19.new_wf2 _ _ _) (C19.new_sized2 _ _ _) 3 id (by simp [Mesh2.new])
    (by simp [Mesh2.new]) (by simp [Mesh2.new])).2.1

/-- a 2 × 1 grid, `var = nvars`: no cell, the result is `0` -/
example : Mesh2.squareTrapezium (Mesh2.new #[(0 : Rat), 1] #[(0 : Rat)] 3 : Mesh2 Rat Rat) 3
    = .ok 0 :=
  (trapezium2_var_no_cell _ 3 id (Or.inr ⟨by simp [Mesh2.new], by simp [Mesh2.new],
    by simp [Mesh2.new]⟩)).2.2

end Examples

end Ohsl.Props.C20
