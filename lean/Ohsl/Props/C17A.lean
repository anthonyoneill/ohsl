/-
  Property C17 (continued) — the SYSTEM Newton iteration `Jac.solveSys` on AFFINE systems and at
  exact roots, exact arithmetic.

  IMPORTANT (read off the model and the source, src/newton.rs:100-128): the stopping test of the
  system iteration is on the RESIDUAL of the point the step STARTS from
  (`max_residual = ‖F(current)‖∞ <= tol`, evaluated before the update), not on the step; the
  update `current -= dx` is made before the test and the updated point is what is returned.

  The `_gen` / `_genK` theorems are stated for any field `K` and any `ScalarExt K` whose checked
  division is the field division (`Alg.DivLaw K`: soundness of `solve_basic`, C01X) and, where the
  linear solves must return, whose pivot search obeys `Alg.PivotLaws K` (its completeness); the norm
  and the tolerance test are parameters `normInf`, `leTol` as in `solveSys`; `f` is ANY function
  that is the residual `x ↦ M x − c` on the vectors of length `n` (`IsAffineRes`).
  A linearly ordered field with `Alg.scalarExt` is one instance: `newton_sys_fixed_point`,
  `newton_sys_fixed_point_fd` here and the theorems of C17B, with the model's `Vec.normInf` and
  `fun r => Transc.le r tol`, under `Transc.le = (· ≤ ·)`, `Transc.fabs 0 = 0`, `0 ≤ tol`.  The
  model's complex numbers are another (C17X).
-/
import Ohsl.Props.C17S
import Ohsl.Props.C18E
import Ohsl.Props.C01X
import Ohsl.Props.C18X
import Ohsl.Lemmas.C17X
namespace Ohsl.Props.C17
open Ohsl Ohsl.Newton Ohsl.Jac Ohsl.Mat

section AffineSys
variable {K : Type} [Field K] [LinearOrder K]
attribute [local instance] Ohsl.Alg.scalarExt

/-- the residual map `x ↦ M x − c` of the `n × n` linear system `M x = c`, on arrays -/
def affineRes (M : Nat → Nat → K) (c : Nat → K) (n : Nat) : Array K → Array K :=
  C18.affineMap M (fun i => -c i) n n

/-- `x` has length `n` and solves `M x = c` exactly -/
def IsRoot (M : Nat → Nat → K) (c : Nat → K) (n : Nat) (x : Array K) : Prop :=
  x.size = n ∧ ∀ i, i < n → ∑ j ∈ Finset.range n, M i j * (x[j]?.getD 0) = c i

set_option linter.unusedSectionVars false in
/-- a well-formed matrix is determined by its shape and entries -/
theorem Is_unique {r c : Nat} {e : Nat → Nat → K} {A B : Mat K} (hA : Mat.Is A r c e)
    (hB : Mat.Is B r c e) : A = B :=
  C17X.Is_unique_any hA hB

end AffineSys

/-- `f` is the residual map `x ↦ M x − c` of the `n × n` linear system `M x = c` on the vectors
    of length `n` (nothing is assumed about `f` elsewhere) -/
def IsAffineRes {K : Type} [Field K] (M : Nat → Nat → K) (c : Nat → K) (n : Nat)
    (f : Array K → Array K) : Prop :=
  ∀ x : Array K, x.size = n → (f x).size = n ∧
    ∀ i, i < n → (f x)[i]?.getD 0 = (∑ j ∈ Finset.range n, M i j * (x[j]?.getD 0)) - c i

/-- `affineRes M c n` is such a map -/
theorem affineRes_isAffineRes {K : Type} [Field K] (M : Nat → Nat → K) (c : Nat → K) (n : Nat) :
    IsAffineRes M c n (affineRes M c n) := by
  intro x _
  refine ⟨Array.size_ofFn, fun i hi => ?_⟩
  rw [affineRes, C18.affineMap, Array.getElem?_ofFn, dif_pos hi, Option.getD_some,
    ← sub_eq_add_neg]
  simp only [Array.getD_eq_getD_getElem?]

theorem isAffineRes_root {K : Type} [Field K] {M : Nat → Nat → K} {c : Nat → K} {n : Nat}
    {f : Array K → Array K} (hF : IsAffineRes M c n f) {x : Array K} (h : IsRoot M c n x) :
    f x = Array.replicate n 0 := by
  obtain ⟨hs, he⟩ := hF x h.1
  apply Array.ext (hs.trans Array.size_replicate.symm)
  intro i h1 h2
  have := he i (hs ▸ h1)
  rw [Array.getElem?_eq_getElem h1, Option.getD_some, h.2 i (hs ▸ h1), sub_self] at this
  rw [this, Array.getElem_replicate]

section JacAffine
variable {K : Type} [Field K] [BEq K] [ScalarExt K] [Alg.DivLaw K]

theorem jacobian_isAffineRes_gen {M : Nat → Nat → K} {c : Nat → K} {n : Nat}
    {f : Array K → Array K} (hF : IsAffineRes M c n f) (delta : K) (hd : delta ≠ 0)
    (x : Array K) (hx : x.size = n) :
    ∃ J jtr, jacobian f x delta = .ok (J, jtr) ∧ jtr.length = n + 1 ∧ Mat.Is J n n M := by
  obtain ⟨J, jtr, h1, _, h3, h4⟩ := C18.jacobian_affine_fun_gen M (fun i => -c i) n f x delta hd
    (by
      intro y hy
      rw [hx] at hy ⊢
      refine ⟨(hF y hy).1, fun i hi => ?_⟩
      have := (hF y hy).2 i hi
      simp only [Array.getD_eq_getD_getElem?]
      rw [this, sub_eq_add_neg])
  rw [hx] at h3 h4
  exact ⟨J, jtr, h1, h3, h4⟩

end JacAffine

section Gen
variable {K : Type} [Field K] [BEq K] [LawfulBEq K] [ScalarExt K]

section Div
variable [Alg.DivLaw K]

theorem solveBasic_zero_rhs_gen {n : Nat} (hn : 1 ≤ n) {J : Mat K} {a : Nat → Nat → K}
    (hJ : Mat.Is J n n a) {dx : Array K}
    (h : Mat.solveBasic J (Array.replicate n (0 : K)) = .ok dx) : dx = Array.replicate n 0 := by
  have hb : (Array.replicate n (0 : K)).size = n := Array.size_replicate
  classical
  obtain ⟨hs, _⟩ := C01.solveBasic_sound_gen hn hJ hb h
  -- the zero vector solves the system, and the solution is unique
  have hu := C01.solveBasic_unique_gen hn hJ hb h (fun _ => 0) (fun i hi => by simp [hi])
  apply Array.ext (hs.trans Array.size_replicate.symm)
  intro j h1 h2
  have := hu j (hs ▸ h1)
  rw [Array.getElem?_eq_getElem h1, Option.getD_some] at this
  rw [← this, Array.getElem_replicate]

theorem affine_step_root_gen {M : Nat → Nat → K} {c : Nat → K} {n : Nat} (hn : 1 ≤ n)
    {f : Array K → Array K} (hF : IsAffineRes M c n f) {J : Mat K}
    (hJ : Mat.Is J n n M) {x dx : Array K} (hx : x.size = n)
    (h : Mat.solveBasic J (f x) = .ok dx) :
    ∃ x', Vec.sub x dx = .ok x' ∧ IsRoot M c n x' := by
  obtain ⟨hfs, hfe⟩ := hF x hx
  classical
  obtain ⟨hs, hsol⟩ := C01.solveBasic_sound_gen hn hJ hfs h
  obtain ⟨x', hx'⟩ := (C17X.vecSub_ok_iff x dx).2 (hx.trans hs.symm)
  refine ⟨x', hx', (vecSub_size hx').trans hx, fun i hi => ?_⟩
  -- `M x' = M x − M dx = M x − (M x − c)`
  rw [Finset.sum_congr rfl fun j hj => by
      rw [C17X.vecSub_get hx' (hx ▸ Finset.mem_range.mp hj), mul_sub],
    Finset.sum_sub_distrib, hsol i hi, hfe i hi, sub_sub_cancel]

theorem affine_root_unique_gen {M : Nat → Nat → K} {c : Nat → K} {n : Nat} (hn : 1 ≤ n)
    {f : Array K → Array K} (hF : IsAffineRes M c n f) {J : Mat K}
    (hJ : Mat.Is J n n M) {x dx x' : Array K} (hx : x.size = n)
    (h : Mat.solveBasic J (f x) = .ok dx) (hsub : Vec.sub x dx = .ok x') :
    ∀ ys, IsRoot M c n ys → ys = x' := by
  intro ys hy
  obtain ⟨hfs, hfe⟩ := hF x hx
  -- `x − ys` solves the system of the step, so it is `dx`
  classical
  have hu := C01.solveBasic_unique_gen hn hJ hfs h (fun j => x[j]?.getD 0 - ys[j]?.getD 0) (by
    intro i hi
    rw [hfe i hi, ← hy.2 i hi, ← Finset.sum_sub_distrib]
    exact Finset.sum_congr rfl fun j _ => mul_sub _ _ _)
  have hx's : x'.size = n := (vecSub_size hsub).trans hx
  apply Array.ext (hy.1.trans hx's.symm)
  intro j h1 h2
  have hj : j < n := hy.1 ▸ h1
  have e := C17X.vecSub_get hsub (hx.symm ▸ hj)
  rw [← hu j hj, sub_sub_cancel, Array.getElem?_eq_getElem h1, Array.getElem?_eq_getElem h2] at e
  exact e.symm

/-- **an exact root is a fixed point reported at once** (any exact field, generic norm): for
    ANY `f`, if `f x0` is the zero vector of length `n = |x0| ≥ 1`, the Jacobian call at `x0`
    returns a well-formed `n × n` matrix and the linear solve returns, then the step is exactly
    zero and every run with `maxIter ≥ 1` reports `Ok(x0)` in its first iteration. -/
theorem newton_sys_fixed_point_genK {R : Type} (f : Array K → Array K)
    (jacF : Array K → Res (Mat K × List (Array K)))
    (normInf : Array K → Res R) (leTol : R → Bool) (n : Nat) (hn : 1 ≤ n)
    (x0 : Array K) (hx : x0.size = n) (hroot : f x0 = Array.replicate n 0)
    {J : Mat K} {jtr : List (Array K)} (hjac : jacF x0 = .ok (J, jtr)) (hJ : Mat.WFn J n)
    (hsolve : ∃ dx, Mat.solveBasic J (f x0) = .ok dx)
    (hN : ∀ v : Array K, v.size = n → ∃ r, normInf v = .ok r)
    (hN0 : ∀ r, normInf (Array.replicate n (0 : K)) = .ok r → leTol r = true)
    (tr : List (Array K)) :
    Mat.solveBasic J (f x0) = .ok (Array.replicate n 0) ∧
    IsStep f jacF normInf leTol true x0 x0 ∧
    ∀ maxIter, 1 ≤ maxIter →
      solveSys f jacF normInf leTol maxIter x0 tr = .ok (⟨true, x0⟩, tr ++ [x0] ++ jtr) := by
  obtain ⟨dx, hdx⟩ := hsolve
  obtain rfl : dx = Array.replicate n 0 := solveBasic_zero_rhs_gen hn hJ.is (hroot ▸ hdx)
  obtain ⟨r0, hr⟩ := hN (f x0) (by rw [hroot, Array.size_replicate])
  have hle : leTol r0 = true := hN0 r0 (hroot ▸ hr)
  have hsub : Vec.sub x0 (Array.replicate n (0 : K)) = .ok x0 := C17X.vecSub_zero_field hx
  refine ⟨hdx, ⟨r0, J, jtr, _, hr, hle, hjac, hdx, hsub⟩, ?_⟩
  intro maxIter hm
  obtain ⟨k, rfl⟩ := Nat.exists_eq_add_of_le' hm
  rw [sys_unfold _ _ _ _ k x0 tr hr hjac hdx hsub, hle]
  rfl

end Div

section Pivot
variable [Alg.PivotLaws K]

/-- **Newton on a NONSINGULAR affine system, supplied Jacobian — any exact field.**
    `f x = M x − c` on the vectors of length `n ≥ 1` (`IsAffineRes`), `det M ≠ 0` (Mathlib's
    determinant over `K`); `jacF` returns a well-formed `n × n` matrix with entries `M` at every
    point of length `n`; the norm is defined on vectors of length `n` and the zero vector passes
    the tolerance test.  Then from ANY guess of length `n`:
    * the first step `guess ↦ x*` is computed and `x*` is THE solution of `M x = c`;
    * at `x*` the residual is the zero vector, the linear solve returns the zero step;
    * `maxIter = 1`: the model returns `x*`, flagged `Ok` iff the residual norm `r0` of the GUESS
      met the tolerance (else `Err(x*)` although `x*` solves the system exactly);
    * every `maxIter ≥ 2`: the model returns `Ok(x*)`, after one iteration if `r0` met the
      tolerance and after exactly two otherwise. -/
theorem newton_affine_sys_supplied_det_gen {R : Type} (M : Nat → Nat → K) (c : Nat → K)
    (n : Nat) (hn : 1 ≤ n)
    (hdet : Matrix.det (Matrix.of fun (i j : Fin n) => M i.val j.val) ≠ 0)
    (f : Array K → Array K) (hF : IsAffineRes M c n f)
    (jacF : Array K → Res (Mat K × List (Array K)))
    (hJ : ∀ x : Array K, x.size = n → ∃ J jtr, jacF x = .ok (J, jtr) ∧ Mat.Is J n n M)
    (normInf : Array K → Res R) (leTol : R → Bool)
    (hN : ∀ v : Array K, v.size = n → ∃ r, normInf v = .ok r)
    (hN0 : ∀ r, normInf (Array.replicate n (0 : K)) = .ok r → leTol r = true)
    (guess : Array K) (hg : guess.size = n) (tr : List (Array K)) :
    ∃ (xs : Array K) (r0 : R) (jtr0 jtr1 : List (Array K)),
      IsRoot M c n xs ∧ (∀ ys, IsRoot M c n ys → ys = xs) ∧
      normInf (f guess) = .ok r0 ∧
      (∃ J0, jacF guess = .ok (J0, jtr0)) ∧
      IsStep f jacF normInf leTol (leTol r0) guess xs ∧
      f xs = Array.replicate n 0 ∧
      (∃ J1, jacF xs = .ok (J1, jtr1) ∧
        Mat.solveBasic J1 (f xs) = .ok (Array.replicate n 0)) ∧
      IsStep f jacF normInf leTol true xs xs ∧
      solveSys f jacF normInf leTol 1 guess tr
        = .ok (⟨leTol r0, xs⟩, tr ++ [guess] ++ jtr0) ∧
      ∀ maxIter, 2 ≤ maxIter →
        solveSys f jacF normInf leTol maxIter guess tr
          = .ok (⟨true, xs⟩, if leTol r0 then tr ++ [guess] ++ jtr0
                              else tr ++ [guess] ++ jtr0 ++ [xs] ++ jtr1) := by
  -- first step: from the guess to a root `xs`
  obtain ⟨r0, hr0⟩ := hN (f guess) (hF guess hg).1
  obtain ⟨J0, jtr0, hj0, hI0⟩ := hJ guess hg
  obtain ⟨dx0, hdx0⟩ := Mat.solveBasic_complete hn hI0 (hF guess hg).1 hdet
  obtain ⟨xs, hsub0, hroot⟩ := affine_step_root_gen hn hF hI0 hg hdx0
  -- from `xs` on, the run is that of `newton_sys_fixed_point_genK`
  have hF1 : f xs = Array.replicate n 0 := isAffineRes_root hF hroot
  obtain ⟨J1, jtr1, hj1, hI1⟩ := hJ xs hroot.1
  obtain ⟨hdx1, hstep1, hrun1⟩ := newton_sys_fixed_point_genK f jacF normInf leTol n hn xs hroot.1
    hF1 hj1 ⟨hI1.wf, hI1.rows, hI1.cols⟩
    (Mat.solveBasic_complete hn hI1 (hF xs hroot.1).1 hdet) hN hN0 (tr ++ [guess] ++ jtr0)
  refine ⟨xs, r0, jtr0, jtr1, hroot, affine_root_unique_gen hn hF hI0 hg hdx0 hsub0, hr0, ⟨J0, hj0⟩,
    ⟨r0, J0, jtr0, dx0, hr0, rfl, hj0, hdx0, hsub0⟩, hF1, ⟨J1, hj1, hdx1⟩, hstep1, ?_, ?_⟩
  · rw [sys_unfold _ _ _ _ 0 guess tr hr0 hj0 hdx0 hsub0]
    cases leTol r0 <;> rfl
  · intro maxIter hm
    obtain ⟨k, rfl⟩ := Nat.exists_eq_add_of_le' hm
    rw [sys_unfold _ _ _ _ (k + 1) guess tr hr0 hj0 hdx0 hsub0]
    cases hl : leTol r0
    · rw [if_neg Bool.false_ne_true, if_neg Bool.false_ne_true]
      exact hrun1 (k + 1) (Nat.succ_pos k)
    · rfl

/-- **Newton on a NONSINGULAR affine system, finite-difference Jacobian — any exact field**: over
    a field the finite-difference Jacobian of `x ↦ M x − c` is exactly `M` for every `delta ≠ 0`
    (`C18.jacobian_affine_fun_gen`), so the statement of `newton_affine_sys_supplied_det_gen`
    holds with `jacF x = jacobian f x delta`; each Jacobian evaluates `f` `n + 1` times. -/
theorem newton_affine_sys_fd_det_gen {R : Type} (M : Nat → Nat → K) (c : Nat → K)
    (n : Nat) (hn : 1 ≤ n)
    (hdet : Matrix.det (Matrix.of fun (i j : Fin n) => M i.val j.val) ≠ 0)
    (f : Array K → Array K) (hF : IsAffineRes M c n f) (delta : K) (hd : delta ≠ 0)
    (normInf : Array K → Res R) (leTol : R → Bool)
    (hN : ∀ v : Array K, v.size = n → ∃ r, normInf v = .ok r)
    (hN0 : ∀ r, normInf (Array.replicate n (0 : K)) = .ok r → leTol r = true)
    (guess : Array K) (hg : guess.size = n) (tr : List (Array K)) :
    ∃ (xs : Array K) (r0 : R) (jtr0 jtr1 : List (Array K)),
      IsRoot M c n xs ∧ (∀ ys, IsRoot M c n ys → ys = xs) ∧
      normInf (f guess) = .ok r0 ∧
      jtr0.length = n + 1 ∧ jtr1.length = n + 1 ∧
      (∃ J0, jacobian f guess delta = .ok (J0, jtr0) ∧ Mat.Is J0 n n M) ∧
      IsStep f (fun x => jacobian f x delta) normInf leTol (leTol r0) guess xs ∧
      f xs = Array.replicate n 0 ∧
      (∃ J1, jacobian f xs delta = .ok (J1, jtr1) ∧ Mat.Is J1 n n M ∧
        Mat.solveBasic J1 (f xs) = .ok (Array.replicate n 0)) ∧
      IsStep f (fun x => jacobian f x delta) normInf leTol true xs xs ∧
      solveSys f (fun x => jacobian f x delta) normInf leTol 1 guess tr
        = .ok (⟨leTol r0, xs⟩, tr ++ [guess] ++ jtr0) ∧
      ∀ maxIter, 2 ≤ maxIter →
        solveSys f (fun x => jacobian f x delta) normInf leTol maxIter guess tr
          = .ok (⟨true, xs⟩, if leTol r0 then tr ++ [guess] ++ jtr0
                              else tr ++ [guess] ++ jtr0 ++ [xs] ++ jtr1) := by
  -- every returning Jacobian call at a point of length `n` returns `M` after `n + 1` evaluations
  have hjac : ∀ {x : Array K} {J : Mat K} {jtr : List (Array K)}, x.size = n →
      jacobian f x delta = .ok (J, jtr) → Mat.Is J n n M ∧ jtr.length = n + 1 := by
    intro x J jtr hx h
    obtain ⟨J', jtr', e, hl, hI⟩ := jacobian_isAffineRes_gen hF delta hd x hx
    rw [h] at e
    cases e
    exact ⟨hI, hl⟩
  obtain ⟨xs, r0, jtr0, jtr1, h1, hu, h2, ⟨J0, h3⟩, h4, h5, ⟨J1, h6, h6'⟩, h7, h8, h9⟩ :=
    newton_affine_sys_supplied_det_gen M c n hn hdet f hF (fun x => jacobian f x delta)
      (fun x hx => by
        obtain ⟨J, jtr, e, _, hI⟩ := jacobian_isAffineRes_gen hF delta hd x hx
        exact ⟨J, jtr, e, hI⟩)
      normInf leTol hN hN0 guess hg tr
  exact ⟨xs, r0, jtr0, jtr1, h1, hu, h2, (hjac hg h3).2, (hjac h1.1 h6).2, ⟨J0, h3, (hjac hg h3).1⟩,
    h4, h5, ⟨J1, h6, (hjac h1.1 h6).1, h6'⟩, h7, h8, h9⟩

theorem newton_sys_fixed_point_det_genK {R : Type} (f : Array K → Array K)
    (jacF : Array K → Res (Mat K × List (Array K)))
    (normInf : Array K → Res R) (leTol : R → Bool) (n : Nat) (hn : 1 ≤ n)
    (x0 : Array K) (hx : x0.size = n) (hroot : f x0 = Array.replicate n 0)
    {J : Mat K} {jtr : List (Array K)} (hjac : jacF x0 = .ok (J, jtr)) (hJ : Mat.WFn J n)
    (hdet : Matrix.det (Matrix.of fun (i j : Fin n) => Mat.ent J i.val j.val) ≠ 0)
    (hN : ∀ v : Array K, v.size = n → ∃ r, normInf v = .ok r)
    (hN0 : ∀ r, normInf (Array.replicate n (0 : K)) = .ok r → leTol r = true)
    (tr : List (Array K)) :
    Mat.solveBasic J (f x0) = .ok (Array.replicate n 0) ∧
    IsStep f jacF normInf leTol true x0 x0 ∧
    ∀ maxIter, 1 ≤ maxIter →
      solveSys f jacF normInf leTol maxIter x0 tr = .ok (⟨true, x0⟩, tr ++ [x0] ++ jtr) :=
  newton_sys_fixed_point_genK f jacF normInf leTol n hn x0 hx hroot hjac hJ
    (Mat.solveBasic_complete hn hJ.is (by rw [hroot, Array.size_replicate]) hdet) hN hN0 tr

end Pivot

end Gen

section AffineSys
variable {K : Type} [Field K] [LinearOrder K]
attribute [local instance] Ohsl.Alg.scalarExt

section Concrete
variable [Transc K]

/-- **an exact root is reported at once**: for ANY `f`, if `f x0 = 0` (the zero vector of length
    `n = |x0| ≥ 1`), the Jacobian call at `x0` returns a well-formed `n × n` matrix and the linear
    solve returns, then the step is exactly zero and every run with `maxIter ≥ 1`, `tol ≥ 0`
    reports `Ok(x0)` in its first iteration. -/
theorem newton_sys_fixed_point
    (hle : ∀ x y : K, Transc.le x y = decide (x ≤ y)) (habs0 : Transc.fabs (0 : K) = 0)
    (f : Array K → Array K) (jacF : Array K → Res (Mat K × List (Array K)))
    (tol : K) (htol : 0 ≤ tol) (n : Nat) (hn : 1 ≤ n)
    (x0 : Array K) (hx : x0.size = n) (hroot : f x0 = Array.replicate n 0)
    {J : Mat K} {jtr : List (Array K)} (hjac : jacF x0 = .ok (J, jtr)) (hJ : Mat.WFn J n)
    (hsolve : ∃ dx, Mat.solveBasic J (f x0) = .ok dx) :
    Mat.solveBasic J (f x0) = .ok (Array.replicate n 0) ∧
    IsStep f jacF Vec.normInf (fun r => Transc.le r tol) true x0 x0 ∧
    ∀ maxIter, 1 ≤ maxIter →
      solveSys f jacF Vec.normInf (fun r => Transc.le r tol) maxIter x0 []
        = .ok (⟨true, x0⟩, [x0] ++ jtr) := by
  obtain ⟨hN, hN0⟩ := C17X.concrete_norm hle habs0 tol htol n hn
  exact newton_sys_fixed_point_genK f jacF Vec.normInf (fun r => Transc.le r tol) n hn x0 hx hroot
    hjac hJ hsolve hN hN0 []

/-- the same with the finite-difference Jacobian: `f` only has to return vectors of length `n`
    on arguments of length `n`, and `delta ≠ 0`; the run evaluates `f` `n + 2` times. -/
theorem newton_sys_fixed_point_fd
    (hle : ∀ x y : K, Transc.le x y = decide (x ≤ y)) (habs0 : Transc.fabs (0 : K) = 0)
    (f : Array K → Array K) (delta : K) (hd : delta ≠ 0)
    (tol : K) (htol : 0 ≤ tol) (n : Nat) (hn : 1 ≤ n)
    (hf : ∀ x : Array K, x.size = n → (f x).size = n)
    (x0 : Array K) (hx : x0.size = n) (hroot : f x0 = Array.replicate n 0)
    (hsolve : ∀ J jtr, jacobian f x0 delta = .ok (J, jtr) →
      ∃ dx, Mat.solveBasic J (f x0) = .ok dx) :
    ∃ J jtr, jacobian f x0 delta = .ok (J, jtr) ∧ jtr.length = n + 1 ∧
      Mat.solveBasic J (f x0) = .ok (Array.replicate n 0) ∧
      ∀ maxIter, 1 ≤ maxIter →
        solveSys f (fun x => jacobian f x delta) Vec.normInf (fun r => Transc.le r tol) maxIter
          x0 [] = .ok (⟨true, x0⟩, [x0] ++ jtr) := by
  have hdiv : ∀ a : K, ∃ q, divM a delta = .ok q := fun a => ⟨a / delta, Alg.divM_ne hd⟩
  obtain ⟨J, h1, h2, h3, h4, _⟩ := C18.jacobian_entries f x0 delta n
    (fun x h => hf x (by rw [h, hx])) hdiv
  have hJ : Mat.WFn J n := ⟨h4, h2, h3.trans hx⟩
  obtain ⟨a, _, c⟩ := newton_sys_fixed_point hle habs0 f (fun x => jacobian f x delta) tol htol n
    hn x0 hx hroot h1 hJ (hsolve _ _ h1)
  exact ⟨J, _, h1, hx ▸ jacobian_trace_length f x0 delta J _ h1, a, c⟩

end Concrete

end AffineSys

section Examples
attribute [local instance] Ohsl.Alg.scalarExt

/-- `[[2,1],[1,3]]` has determinant `5`, so every linear solve with it returns (`solveBasic_complete`) -/
theorem exJ_solves {J : Mat ℚ} (hJ : Mat.Is J 2 2 (Mat.ent ⟨#[2, 1, 1, 3], 2, 2⟩)) {b : Array ℚ}
    (hb : b.size = 2) : ∃ dx, Mat.solveBasic J b = .ok dx := by
  refine Mat.solveBasic_complete (by omega) hJ hb ?_
  rw [Matrix.det_fin_two]
  show (2 : ℚ) * 3 - 1 * 1 ≠ 0
  norm_num

/-- **non-vacuity** of the situation of the affine-system theorems (a supplied Jacobian with the
    entries `M`, linear solves that return — what `det M ≠ 0` provides in
    `newton_affine_sys_supplied_det_gen`): ℚ with `le := decide (· ≤ ·)`, `fabs := |·|`, the 2×2 system
    `2x + y = 3, x + 3y = 5` (root `(4/5, 7/5)`), the constant supplied Jacobian, the guess
    `(7, -4)`: both linear solves return for every matrix with these entries. -/
example : ∃ (_ : Transc ℚ) (M : Nat → Nat → ℚ) (c : Nat → ℚ)
    (jacF : Array ℚ → Res (Mat ℚ × List (Array ℚ))) (guess : Array ℚ),
    (∀ x y : ℚ, Transc.le x y = decide (x ≤ y)) ∧ Transc.fabs (0 : ℚ) = 0 ∧ guess.size = 2 ∧
    (∀ x : Array ℚ, x.size = 2 → ∃ J jtr, jacF x = .ok (J, jtr) ∧ Mat.Is J 2 2 M) ∧
    (∀ J : Mat ℚ, Mat.Is J 2 2 M →
      (∃ dx, Mat.solveBasic J (affineRes M c 2 guess) = .ok dx) ∧
      (∃ dx, Mat.solveBasic J (Array.replicate 2 (0 : ℚ)) = .ok dx)) := by
  refine ⟨transcQ, Mat.ent ⟨#[2, 1, 1, 3], 2, 2⟩, fun i => (#[3, 5] : Array ℚ)[i]?.getD 0,
     fun _ => .ok (⟨#[2, 1, 1, 3], 2, 2⟩, []), #[7, -4], fun _ _ => rfl, abs_zero, rfl, ?_, ?_⟩
  · intro x _
    exact ⟨_, _, rfl, Mat.WFn.is ⟨rfl, rfl, rfl⟩⟩
  · intro J hJ
    exact ⟨exJ_solves hJ (C18.affineMap_size _ _ _ _ _), exJ_solves hJ rfl⟩

/-- **non-vacuity** of `newton_sys_fixed_point`: the same system as a black-box `f`, started at
    its exact root `(4/5, 7/5)`. -/
example : ∃ (_ : Transc ℚ) (f : Array ℚ → Array ℚ)
    (jacF : Array ℚ → Res (Mat ℚ × List (Array ℚ))) (x0 : Array ℚ) (J : Mat ℚ)
    (jtr : List (Array ℚ)),
    (∀ x y : ℚ, Transc.le x y = decide (x ≤ y)) ∧ Transc.fabs (0 : ℚ) = 0 ∧ x0.size = 2 ∧
    f x0 = Array.replicate 2 0 ∧ jacF x0 = .ok (J, jtr) ∧ Mat.WFn J 2 ∧
    ∃ dx, Mat.solveBasic J (f x0) = .ok dx :=
  ⟨transcQ, fun x => #[2 * x.getD 0 0 + x.getD 1 0 - 3, x.getD 0 0 + 3 * x.getD 1 0 - 5],
    fun _ => .ok (⟨#[2, 1, 1, 3], 2, 2⟩, []), #[4 / 5, 7 / 5], ⟨#[2, 1, 1, 3], 2, 2⟩, [],
    fun _ _ => rfl, abs_zero, rfl, by decide +kernel, rfl, ⟨rfl, rfl, rfl⟩,
    exJ_solves (Mat.WFn.is ⟨rfl, rfl, rfl⟩) rfl⟩

end Examples

end Ohsl.Props.C17
