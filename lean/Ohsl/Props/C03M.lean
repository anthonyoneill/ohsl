/-
  Property C03 (continued) — the remaining dense-matrix operations follow their definitions for
  every shape.  All statements are class (S): ANY scalar type with arbitrary operations, no
  algebraic law, so they also hold of f64.  `Is m r c e` = "`m` is a well-formed `r × c` matrix
  whose entry (i,j) is `e i j`".

  Covered: elementwise `+`, `-`, unary `-`, scalar `*`, `/`, `+`, `-`; `set_row`, `swap_rows`,
  `delete_row`, `fill`, `fill_diag`, `fill_row`, `fill_col`, `fill_band`, `fill_tridiag`, `eye`,
  `resize`, `transpose_in_place` (both code paths) / `transpose`; and arbitrary operation
  histories (`history_refines`, `history_wf`).
-/
import Ohsl.Props.C03
import Ohsl.Lemmas.MatSpec2

set_option linter.unusedSectionVars false
namespace Ohsl.Props.C03
open Ohsl Ohsl.Mat

section Structural
variable {K : Type} [Add K] [Sub K] [Mul K] [Neg K] [Zero K] [One K] [BEq K] [ScalarExt K]

/-- the generic binary elementwise loop: entry (i,j) is `g a_ij b_ij` -/
theorem map2_correct (g : K → K → K) {a b : Mat K} {r c : Nat} {ea eb : Nat → Nat → K}
    (ha : Is a r c ea) (hb : Is b r c eb) :
    ∃ m', map2 g a b = .ok m' ∧ Is m' r c (fun i j => g (ea i j) (eb i j)) :=
  Mat.map2_spec g ha hb

/-- `&a + &b`: entrywise sum for equal shapes -/
theorem add_correct {a b : Mat K} {r c : Nat} {ea eb : Nat → Nat → K}
    (ha : Is a r c ea) (hb : Is b r c eb) :
    ∃ m', add a b = .ok m' ∧ Is m' r c (fun i j => ea i j + eb i j) :=
  Mat.add_spec ha hb

/-- mismatched shapes are a size panic -/
theorem add_guard (a b : Mat K) (h : a.rows ≠ b.rows ∨ a.cols ≠ b.cols) :
    add a b = .error .size := Mat.add_rejects a b h

theorem sub_correct {a b : Mat K} {r c : Nat} {ea eb : Nat → Nat → K}
    (ha : Is a r c ea) (hb : Is b r c eb) :
    ∃ m', sub a b = .ok m' ∧ Is m' r c (fun i j => ea i j - eb i j) :=
  Mat.sub_spec ha hb

theorem sub_guard (a b : Mat K) (h : a.rows ≠ b.rows ∨ a.cols ≠ b.cols) :
    sub a b = .error .size := Mat.sub_rejects a b h

/-- the generic unary elementwise loop with a fallible scalar function that succeeds on every
    entry -/
theorem mapM1_correct (f : K → Res K) (g : K → K) {a : Mat K} {r c : Nat} {e : Nat → Nat → K}
    (ha : Is a r c e) (hf : ∀ i j, i < r → j < c → f (e i j) = .ok (g (e i j))) :
    ∃ m', mapM1 f a = .ok m' ∧ Is m' r c (fun i j => g (e i j)) :=
  Mat.mapM1_spec f g ha hf

/-- a scalar function failing on the first entry makes the whole call fail with that error -/
theorem mapM1_guard (f : K → Res K) {a : Mat K} {r c : Nat} {e : Nat → Nat → K}
    (ha : Is a r c e) (hr : 0 < r) (hc : 0 < c) (err : Err) (hf : f (e 0 0) = .error err) :
    mapM1 f a = .error err := Mat.mapM1_rejects f ha hr hc err hf

theorem neg_correct {a : Mat K} {r c : Nat} {e : Nat → Nat → K} (ha : Is a r c e) :
    ∃ m', neg a = .ok m' ∧ Is m' r c (fun i j => - e i j) := Mat.neg_spec ha

theorem smul_correct {a : Mat K} {r c : Nat} {e : Nat → Nat → K} (ha : Is a r c e) (s : K) :
    ∃ m', smul a s = .ok m' ∧ Is m' r c (fun i j => e i j * s) := Mat.smul_spec ha s

theorem addS_correct {a : Mat K} {r c : Nat} {e : Nat → Nat → K} (ha : Is a r c e) (s : K) :
    ∃ m', addS a s = .ok m' ∧ Is m' r c (fun i j => e i j + s) := Mat.addS_spec ha s

theorem subS_correct {a : Mat K} {r c : Nat} {e : Nat → Nat → K} (ha : Is a r c e) (s : K) :
    ∃ m', subS a s = .ok m' ∧ Is m' r c (fun i j => e i j - s) := Mat.subS_spec ha s

/-- `matrix / scalar`, provided the scalar division succeeds on every entry -/
theorem sdiv_correct {a : Mat K} {r c : Nat} {e : Nat → Nat → K} (ha : Is a r c e) (s : K)
    (q : K → K) (hq : ∀ i j, i < r → j < c → ScalarExt.divM (e i j) s = .ok (q (e i j))) :
    ∃ m', sdiv a s = .ok m' ∧ Is m' r c (fun i j => q (e i j)) := Mat.sdiv_spec ha s q hq

/-- `set_row`: writes exactly row `row`; frame condition included -/
theorem setRow_correct {m : Mat K} {r c : Nat} {e : Nat → Nat → K} (h : Is m r c e) {row : Nat}
    (v : Array K) (hv : v.size = c) (hr : row < r) :
    ∃ m', setRow m row v = .ok m' ∧
      Is m' r c (fun i j => if i = row then v[j]?.getD (e i j) else e i j) :=
  Mat.setRow_spec h v hv hr

theorem setRow_guard (m : Mat K) (row : Nat) (v : Array K) (h : v.size ≠ m.cols ∨ m.rows ≤ row) :
    ∃ e, setRow m row v = .error e := Mat.setRow_rejects m row v h

/-- `swap_rows`: the two rows are exchanged, everything else is unchanged -/
theorem swapRows_correct {m : Mat K} {r c : Nat} {e : Nat → Nat → K} (h : Is m r c e) {r1 r2 : Nat}
    (h1 : r1 < r) (h2 : r2 < r) :
    ∃ m', swapRows m r1 r2 = .ok m' ∧
      Is m' r c (fun i j => if i = r1 then e r2 j else if i = r2 then e r1 j else e i j) :=
  Mat.swapRows_spec h h1 h2

theorem swapRows_guard (m : Mat K) (r1 r2 : Nat) (h : m.rows ≤ r1 ∨ m.rows ≤ r2) :
    swapRows m r1 r2 = .error .range := Mat.swapRows_rejects m r1 r2 h

/-- `delete_row`: rows above unchanged, rows below shifted up, one row fewer -/
theorem deleteRow_correct {m : Mat K} {r c : Nat} {e : Nat → Nat → K} (h : Is m r c e) {row : Nat}
    (hr : row < r) :
    ∃ m', deleteRow m row = .ok m' ∧
      Is m' (r - 1) c (fun i j => if i < row then e i j else e (i + 1) j) :=
  Mat.deleteRow_spec h hr

theorem deleteRow_guard (m : Mat K) (row : Nat) (h : m.rows ≤ row) :
    deleteRow m row = .error .range := Mat.deleteRow_rejects m row h

theorem fill_correct {m : Mat K} {r c : Nat} {e : Nat → Nat → K} (h : Is m r c e) (x : K) :
    ∃ m', fill m x = .ok m' ∧ Is m' r c (fun _ _ => x) := Mat.fill_spec h x

theorem fillDiag_correct {m : Mat K} {r c : Nat} {e : Nat → Nat → K} (h : Is m r c e) (x : K) :
    ∃ m', fillDiag m x = .ok m' ∧ Is m' r c (fun i j => if i = j then x else e i j) :=
  Mat.fillDiag_spec h x

theorem fillRow_correct {m : Mat K} {r c : Nat} {e : Nat → Nat → K} (h : Is m r c e) {row : Nat}
    (hr : row < r) (x : K) :
    ∃ m', fillRow m row x = .ok m' ∧ Is m' r c (fun i j => if i = row then x else e i j) :=
  Mat.fillRow_spec h hr x

theorem fillRow_guard (m : Mat K) (row : Nat) (x : K) (h : m.rows ≤ row) :
    fillRow m row x = .error .range := Mat.fillRow_rejects m row x h

theorem fillCol_correct {m : Mat K} {r c : Nat} {e : Nat → Nat → K} (h : Is m r c e) {col : Nat}
    (hc : col < c) (x : K) :
    ∃ m', fillCol m col x = .ok m' ∧ Is m' r c (fun i j => if j = col then x else e i j) :=
  Mat.fillCol_spec h hc x

theorem fillCol_guard (m : Mat K) (col : Nat) (x : K) (h : m.cols ≤ col) :
    fillCol m col x = .error .range := Mat.fillCol_rejects m col x h

/-- `fill_band(offset, x)` never panics: exactly the in-range entries `(row, row+offset)` are set -/
theorem fillBand_correct {m : Mat K} {r c : Nat} {e : Nat → Nat → K} (h : Is m r c e) (offset : Int)
    (x : K) :
    ∃ m', fillBand m offset x = .ok m' ∧
      Is m' r c (fun i j => if (j : Int) = (i : Int) + offset then x else e i j) :=
  Mat.fillBand_spec h offset x

theorem fillTridiag_correct {m : Mat K} {r c : Nat} {e : Nat → Nat → K} (h : Is m r c e)
    (lower diag upper : K) :
    ∃ m', fillTridiag m lower diag upper = .ok m' ∧
      Is m' r c (fun i j => if j = i + 1 then upper else if i = j then diag
                            else if j + 1 = i then lower else e i j) :=
  Mat.fillTridiag_spec h lower diag upper

/-- `eye(n)`: 1 on the diagonal, 0 elsewhere -/
theorem eye_correct (n : Nat) :
    ∃ m', (eye n : Res (Mat K)) = .ok m' ∧ Is m' n n (fun i j => if i = j then 1 else 0) :=
  Mat.eye_spec n

/-- `resize(nr, nc)` for every old and new shape: overlap copied, zero elsewhere -/
theorem resize_correct {m : Mat K} {r c : Nat} {e : Nat → Nat → K} (h : Is m r c e) (nr nc : Nat) :
    ∃ m', resize m nr nc = .ok m' ∧
      Is m' nr nc (fun i j => if i < r ∧ j < c then e i j else 0) :=
  Mat.resize_spec h nr nc

/-- `transpose_in_place` for BOTH code paths (square: pairwise swaps; non-square: column-major
    rebuild): the result is the well-formed `c × r` matrix with entry (i,j) = old entry (j,i) -/
theorem transposeInPlace_correct {m : Mat K} {r c : Nat} {e : Nat → Nat → K} (h : Is m r c e) :
    ∃ m', transposeInPlace m = .ok m' ∧ Is m' c r (fun i j => e j i) :=
  Mat.transposeInPlace_spec h

theorem transpose_correct {m : Mat K} {r c : Nat} {e : Nat → Nat → K} (h : Is m r c e) :
    ∃ m', transpose m = .ok m' ∧ Is m' c r (fun i j => e j i) :=
  Mat.transpose_spec h

/-- transposing twice gives back a matrix with the original description -/
theorem transpose_involutive {m : Mat K} {r c : Nat} {e : Nat → Nat → K} (h : Is m r c e) :
    ∃ m1 m2, transpose m = .ok m1 ∧ transpose m1 = .ok m2 ∧ Is m2 r c e := by
  obtain ⟨m1, h1, hI1⟩ := Mat.transpose_spec h
  obtain ⟨m2, h2, hI2⟩ := Mat.transpose_spec hI1
  exact ⟨m1, m2, h1, h2, hI2⟩

/-- every well-formed matrix is described by its own buffer -/
theorem wf_is {m : Mat K} (h : m.WF) : Is m m.rows m.cols (entryOf m) := Is.of_wf h

/-- one operation of the representative set `MatOp` refines the reference semantics
    `MatOp.ref` on `(rows, cols, entries)` triples: success with a related state, or both reject -/
theorem step_refines (op : MatOp K) (hv : op.Valid) {m : Mat K} {s : Ref K} (h : Rel m s) :
    Refines (op.apply m) (op.ref s) := Mat.step_refines op hv h

/-- **arbitrary histories**: by induction over the operation list, the model's state after the
    history is `Is`-related to the reference state (and both reject together) -/
theorem history_refines (ops : List (MatOp K)) (hv : ∀ op ∈ ops, op.Valid) {m : Mat K} {s : Ref K}
    (h : Rel m s) : Refines (run ops m) (refRun ops s) := Mat.run_refines ops hv h

/-- unfolded form of `history_refines` -/
theorem history_refines' (ops : List (MatOp K)) (hv : ∀ op ∈ ops, op.Valid) {m : Mat K}
    {r c : Nat} {e : Nat → Nat → K} (h : Is m r c e) :
    (∀ s', refRun ops ⟨r, c, e⟩ = some s' →
        ∃ m', ops.foldlM (fun m op => op.apply m) m = .ok m' ∧ Is m' s'.rows s'.cols s'.entry) ∧
    (refRun ops ⟨r, c, e⟩ = none →
        ∃ err, ops.foldlM (fun m op => op.apply m) m = .error err) := by
  have R := Mat.run_refines ops hv (m := m) (s := ⟨r, c, e⟩) h
  rw [run_eq_foldlM] at R
  exact R.unfold

/-- `len == rows * cols` is invariant under every history that does not panic -/
theorem history_wf (ops : List (MatOp K)) (hv : ∀ op ∈ ops, op.Valid) {m m' : Mat K} (h : m.WF)
    (hrun : run ops m = .ok m') : m'.WF := Mat.run_wf ops hv h hrun

end Structural

section Examples
attribute [local instance] Alg.scalarExt

example : ∃ t, transpose A = .ok t ∧ t.rows = 3 ∧ t.cols = 2 ∧ t.get 2 1 = .ok 6 := by
  obtain ⟨t, ht, hI⟩ := transpose_correct A_is
  refine ⟨t, ht, hI.rows, hI.cols, ?_⟩
  rw [hI.entry 2 1 (by omega) (by omega)]
  simp [A]

/-- `sdiv_correct`'s hypothesis is satisfiable: division by a non-zero rational -/
example : ∃ p, sdiv A 2 = .ok p ∧ p.rows = 2 ∧ p.cols = 3 := by
  obtain ⟨p, hp, hI⟩ := sdiv_correct A_is (2 : ℚ) (fun x => x / 2)
    (fun i j _ _ => by simp [ScalarExt.divM])
  exact ⟨p, hp, hI.rows, hI.cols⟩

/-- a history mixing shape-changing operations -/
example : ∃ p, run [.transpose, .fillDiag 7, .resize 4 4, .swapRows 0 3, .deleteRow 1, .add (Mat.new 3 4 1)] A
    = .ok p ∧ p.WF ∧ p.rows = 3 ∧ p.cols = 4 ∧ p.get 2 0 = .ok 8 := by
  have hv : ∀ op ∈ ([.transpose, .fillDiag 7, .resize 4 4, .swapRows 0 3, .deleteRow 1,
      .add (Mat.new 3 4 1)] : List (MatOp ℚ)), op.Valid := by
    intro op hop
    simp only [List.mem_cons, List.mem_nil_iff, or_false] at hop
    rcases hop with rfl | rfl | rfl | rfl | rfl | rfl <;> trivial
  -- the reference run is evaluated (`rfl`), and its entry function only at the entry asked for
  obtain ⟨p, hp, hI⟩ := (history_refines' _ hv A_is).1 _ rfl
  rw [← run_eq_foldlM] at hp
  refine ⟨p, hp, hI.wf, hI.rows, hI.cols, ?_⟩
  rw [hI.entry 2 0 (by decide) (by decide)]
  norm_num [entryOf, A, Mat.new]

/-- a rejected step makes the whole history panic -/
example : ∃ err, run [.transpose, .swapRows 0 3] A = .error err := by
  rw [run_eq_foldlM]
  exact (history_refines' _ (fun op hop => by
    simp only [List.mem_cons, List.mem_nil_iff, or_false] at hop
    rcases hop with rfl | rfl <;> trivial) A_is).2 rfl

end Examples

end Ohsl.Props.C03
