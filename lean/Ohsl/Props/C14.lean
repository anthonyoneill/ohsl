/-
  Property C14 — complex functions (model: Ohsl/Model/CxFun.lean), interpreted over ℝ with
  Mathlib's real functions (Ohsl/Lemmas/RealTransc.lean) and transported to Mathlib's ℂ by `toC`.
  First the bridges for the arithmetic of `Cx ℝ` (`toC_add`, …).
  Proved here, class (R): the model's exp, sin, cos, sinh, cosh ARE Mathlib's complex functions;
  ln has real part log|z| and imaginary part arg z ∈ (−π, π]; |z| is the complex norm; polar form
  round-trips; tan/sec/csc/cot/tanh/sech/csch/coth are by definition the quotients / reciprocals;
  on the real axis the functions reduce to the real ones.
  NOT proved: agreement to a few ulps in f64, and the behaviour of signed zeros on the cuts
  (class F; ℝ has one zero) — bit-exact correspondence + sampled oracle only.
-/
import Ohsl.Lemmas.RealTransc
import Ohsl.Lemmas.CxDiv
namespace Ohsl.Props.C14
open Ohsl Ohsl.Cx Ohsl.RealI Real

theorem toC_mk (a b : ℝ) : toC ⟨a, b⟩ = ⟨a, b⟩ := rfl

theorem toC_eq_re_im (w : Cx ℝ) : toC w = (w.re : ℂ) + (w.im : ℂ) * Complex.I := by
  apply Complex.ext <;> simp [toC]

theorem toC_add (a b : Cx ℝ) : toC (a + b) = toC a + toC b := by
  apply Complex.ext <;> rfl
theorem toC_sub (a b : Cx ℝ) : toC (a - b) = toC a - toC b := by
  apply Complex.ext <;> simp [toC] <;> rfl
theorem toC_mul (a b : Cx ℝ) : toC (a * b) = toC a * toC b := by
  apply Complex.ext <;> simp [toC] <;> rfl
theorem toC_neg (a : Cx ℝ) : toC (-a) = -toC a := by
  apply Complex.ext <;> rfl
theorem toC_I : toC (Cx.I : Cx ℝ) = Complex.I := by
  apply Complex.ext <;> rfl
theorem toC_one : toC (1 : Cx ℝ) = 1 := by
  apply Complex.ext <;> rfl
theorem toC_zero : toC (0 : Cx ℝ) = 0 := by
  apply Complex.ext <;> rfl
theorem toC_addR (a : Cx ℝ) (r : ℝ) : toC (addR a r) = toC a + (r : ℂ) := by
  apply Complex.ext <;> simp [toC, addR]
theorem toC_subR (a : Cx ℝ) (r : ℝ) : toC (subR a r) = toC a - (r : ℂ) := by
  apply Complex.ext <;> simp [toC, subR]
theorem toC_mulR (a : Cx ℝ) (r : ℝ) : toC (mulR a r) = toC a * (r : ℂ) := by
  apply Complex.ext <;> simp [toC, mulR]
theorem toC_divRT (z : Cx ℝ) (r : ℝ) : toC (divRT z r) = toC z / (r : ℂ) := by
  apply Complex.ext <;> simp [toC, divRT, Complex.div_ofReal_re, Complex.div_ofReal_im]
theorem toC_ofReal (x : ℝ) : toC ⟨x, 0⟩ = (x : ℂ) := rfl
theorem toC_inj {a b : Cx ℝ} : toC a = toC b ↔ a = b := by
  constructor
  · intro h
    have h1 : a.re = b.re := congrArg Complex.re h
    have h2 : a.im = b.im := congrArg Complex.im h
    cases a; cases b; simp_all
  · rintro rfl; rfl
theorem toC_beq (a b : Cx ℝ) : (a == b) = true ↔ toC a = toC b :=
  (Cx.beq_eq_true_iff a b).trans toC_inj.symm

theorem toC_re (z : Cx ℝ) : (toC z).re = z.re := rfl
theorem toC_im (z : Cx ℝ) : (toC z).im = z.im := rfl

theorem toC_polar_form (r t : ℝ) :
    toC ⟨r * Real.cos t, r * Real.sin t⟩ = (r : ℂ) * Complex.exp ((t : ℂ) * Complex.I) := by
  apply Complex.ext <;>
    simp [toC, Complex.exp_ofReal_mul_I_re, Complex.exp_ofReal_mul_I_im]

theorem cexp_eq (z : Cx ℝ) : toC (cexp z) = Complex.exp (toC z) := by
  apply Complex.ext
  · simp [toC, cexp, Transc.exp, Transc.cos, Complex.exp_re]
  · simp [toC, cexp, Transc.exp, Transc.sin, Complex.exp_im]

theorem csin_eq (z : Cx ℝ) : toC (csin z) = Complex.sin (toC z) := by
  rw [Complex.sin_eq]
  apply Complex.ext <;>
    simp [toC, csin, Transc.sin, Transc.cos, Transc.sinh, Transc.cosh, ← Complex.ofReal_sin, ← Complex.ofReal_cos,
      ← Complex.ofReal_sinh, ← Complex.ofReal_cosh]
theorem ccos_eq (z : Cx ℝ) : toC (ccos z) = Complex.cos (toC z) := by
  rw [Complex.cos_eq]
  apply Complex.ext <;>
    simp [toC, ccos, Transc.sin, Transc.cos, Transc.sinh, Transc.cosh, ← Complex.ofReal_sin, ← Complex.ofReal_cos,
      ← Complex.ofReal_sinh, ← Complex.ofReal_cosh]

theorem csinh_eq (z : Cx ℝ) : toC (csinh z) = Complex.sinh (toC z) := by
  rw [toC_eq_re_im z, Complex.sinh_add, Complex.cosh_mul_I, Complex.sinh_mul_I]
  apply Complex.ext <;>
    simp [toC, csinh, Transc.sin, Transc.cos, Transc.sinh, Transc.cosh, ← Complex.ofReal_sin, ← Complex.ofReal_cos,
      ← Complex.ofReal_sinh, ← Complex.ofReal_cosh]
theorem ccosh_eq (z : Cx ℝ) : toC (ccosh z) = Complex.cosh (toC z) := by
  rw [toC_eq_re_im z, Complex.cosh_add, Complex.cosh_mul_I, Complex.sinh_mul_I]
  apply Complex.ext <;>
    simp [toC, ccosh, Transc.sin, Transc.cos, Transc.sinh, Transc.cosh, ← Complex.ofReal_sin, ← Complex.ofReal_cos,
      ← Complex.ofReal_sinh, ← Complex.ofReal_cosh]

theorem abs_eq (z : Cx ℝ) : Cx.abs z = ‖toC z‖ := by
  simp [Cx.abs, absSqr, Transc.sqrt, toC, Complex.norm_def, Complex.normSq_apply]
theorem arg_eq (z : Cx ℝ) : Cx.arg z = Complex.arg (toC z) := rfl

theorem cln_eq (z : Cx ℝ) : toC (cln z) = Complex.log (toC z) := by
  apply Complex.ext
  · simp [toC, cln, Transc.ln, Complex.log_re, abs_eq]
  · simp [toC, cln, Complex.log_im, arg_eq]
theorem cln_im_range (z : Cx ℝ) : -π < (cln z).im ∧ (cln z).im ≤ π := by
  show -π < Complex.arg (toC z) ∧ Complex.arg (toC z) ≤ π
  exact ⟨Complex.neg_pi_lt_arg _, Complex.arg_le_pi _⟩

theorem cexp_cln (z : Cx ℝ) (hz : toC z ≠ 0) : toC (cexp (cln z)) = toC z := by
  rw [cexp_eq, cln_eq, Complex.exp_log hz]

theorem polar_abs_arg (z : Cx ℝ) : toC (polar (Cx.abs z) (Cx.arg z)) = toC z := by
  rw [show polar (Cx.abs z) (Cx.arg z)
      = ⟨Cx.abs z * Real.cos (Cx.arg z), Cx.abs z * Real.sin (Cx.arg z)⟩ from rfl,
    toC_polar_form, abs_eq, arg_eq]
  exact Complex.norm_mul_exp_arg_mul_I (toC z)

theorem quotient_defs (z : Cx ℝ) :
    ctan z = divT (csin z) (ccos z) ∧ csec z = divT 1 (ccos z) ∧ ccsc z = divT 1 (csin z) ∧
    ccot z = divT 1 (ctan z) ∧ ctanh z = divT (csinh z) (ccosh z) ∧ csech z = divT 1 (ccosh z) ∧
    ccsch z = divT 1 (csinh z) ∧ ccoth z = divT 1 (ctanh z) := ⟨rfl, rfl, rfl, rfl, rfl, rfl, rfl, rfl⟩

theorem divT_eq (a b : Cx ℝ) : toC (divT a b) = toC a / toC b := by
  apply Complex.ext
  · rw [Complex.div_re]; exact add_div _ _ _
  · rw [Complex.div_im]; exact sub_div _ _ _

theorem ctan_eq (z : Cx ℝ) : toC (ctan z) = Complex.tan (toC z) := by
  rw [(quotient_defs z).1, divT_eq, csin_eq, ccos_eq, Complex.tan_eq_sin_div_cos]

theorem ctanh_eq (z : Cx ℝ) : toC (ctanh z) = Complex.tanh (toC z) := by
  rw [ctanh, divT_eq, csinh_eq, ccosh_eq, Complex.tanh_eq_sinh_div_cosh]

theorem real_axis (x : ℝ) :
    cexp ⟨x, 0⟩ = ⟨Real.exp x, 0⟩ ∧ csin ⟨x, 0⟩ = ⟨Real.sin x, 0⟩ ∧ ccos ⟨x, 0⟩ = ⟨Real.cos x, 0⟩ ∧
    csinh ⟨x, 0⟩ = ⟨Real.sinh x, 0⟩ ∧ ccosh ⟨x, 0⟩ = ⟨Real.cosh x, 0⟩ := by
  refine ⟨?_, ?_, ?_, ?_, ?_⟩ <;>
    simp [cexp, csin, ccos, csinh, ccosh, Transc.exp, Transc.sin, Transc.cos, Transc.sinh, Transc.cosh]

end Ohsl.Props.C14
