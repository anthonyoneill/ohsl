/-
  Property C18 — the column loop of the finite-difference Jacobian (model: `Ohsl.Jac.jacobian`,
  Ohsl/Model/Newton.lean): ENTRIES and CALL SEQUENCE.

  Class (S) — every user function `f`, any element type, arbitrary arithmetic.  In column `k` the
  body evaluates `f` at `evalPt point delta k`, i.e. `point` with coordinate `k` replaced by
  `point[k] + delta` and EVERY other coordinate untouched, and puts the saved coordinate back after
  the perturbation (ohsl after repair D15; before it the coordinate was restored as
  `(point[i] + delta) - delta`, which in floating point is not `point[i]` in general), so the
  working copy is `point` again (`stateAt`).  The body computes the column of difference quotients
  (`colOf`: `fnew - f0`, then `/ delta`; a computation that does not depend on the loop state) and
  stores it.  There is one loop invariant, `jacLoop_ok`: whenever the loop over the columns `< j`
  returns, the working copy is the point, the trace is `point, x⁽¹⁾, …, x⁽ʲ⁾`, and the matrix is
  well-formed `m × n` with the computed columns (`HasCols`); every later statement about a
  returning or panicking call (here, C17S, C18, C18J) is read off from it, without a second
  induction.
  End results: `jacobian_entries` (the call succeeds; its trace and its entries as computed),
  `jacobian_restore_exact` (every evaluation point is exactly `point + δ e_j`, for any element
  type: no algebraic law is needed), `evalPt_exact`, `stateAt_size`, `stateAt_get`.
  Class (E): the affine map `affineMap M c n m` (`x ↦ M x + c`); that the Jacobian of an affine map
  is exactly `M` is `jacobian_affine_fun_gen` / `jacobian_affine` in C18X.
-/
import Ohsl.Lemmas.MatSpec
import Ohsl.Lemmas.ArrayIndex
import Ohsl.Lemmas.ExceptMapM
import Ohsl.Model.Newton
import Mathlib.Algebra.Field.Basic
import Mathlib.Tactic.Ring
import Mathlib.Algebra.BigOperators.Group.Finset.Basic
import Mathlib.Algebra.BigOperators.Group.Finset.Piecewise
namespace Ohsl.Props.C18
open Ohsl Ohsl.Mat Ohsl.Jac

section States
variable {E : Type} [Add E]

set_option linter.unusedVariables false in
/-- the loop's working copy of the point after `j` iterations: each iteration perturbs coordinate
    `j` and then puts the SAVED coordinate back (repair D15), so the working copy is `point` itself
    at every stage (`delta` and the iteration count are kept as arguments for the callers) -/
def stateAt (point : Array E) (delta : E) (j : Nat) : Array E := point

/-- the point at which `f` is evaluated in iteration `j` (`x⁽ʲ⁺¹⁾`) -/
def evalPt (point : Array E) (delta : E) (j : Nat) : Array E :=
  (stateAt point delta j).modify j (fun p => p + delta)

section Fixed
variable [Sub E]

set_option linter.unusedSectionVars false in
@[simp] theorem stateAt_size (point : Array E) (delta : E) (j : Nat) :
    (stateAt point delta j).size = point.size := rfl

set_option linter.unusedSectionVars false in
set_option linter.unusedVariables false in
theorem stateAt_get (point : Array E) (delta : E) (j i : Nat) (h : i < (stateAt point delta j).size)
    (h' : i < point.size) :
    (stateAt point delta j)[i] = point[i] := rfl

end Fixed

@[simp] theorem evalPt_size (point : Array E) (delta : E) (j : Nat) :
    (evalPt point delta j).size = point.size := by simp [evalPt]

theorem evalPt_get (point : Array E) (delta : E) (j i : Nat) (h : i < (evalPt point delta j).size)
    (h' : i < point.size) :
    (evalPt point delta j)[i] =
      if i = j then point[i] + delta else point[i] := by
  have hi : i < (stateAt point delta j).size := by simpa using h'
  simp only [evalPt, Array.getElem_modify, stateAt]
  by_cases h1 : j = i
  · subst h1; simp
  · have h2 : ¬ i = j := fun e => h1 e.symm
    simp [h1, h2]

theorem evalPt_eq_set (point : Array E) (delta : E) (k : Nat) (hk : k < point.size) :
    (stateAt point delta k).setIfInBounds k
      ((stateAt point delta k)[k]'(by simpa using hk) + delta) = evalPt point delta k := by
  rw [evalPt, modify_eq_set _ _ _ (by simpa using hk)]

theorem stateAt_succ_eq_set (point : Array E) (delta : E) (k : Nat) (hk : k < point.size) :
    (evalPt point delta k).setIfInBounds k ((stateAt point delta k)[k]'(by simpa using hk))
      = stateAt point delta (k + 1) := by
  apply Array.ext_getElem?
  intro i
  simp only [Array.getElem?_setIfInBounds, evalPt, Array.getElem?_modify, Array.size_modify,
    stateAt]
  by_cases e : k = i
  · subst e; simp [hk]
  · simp [e]

theorem modify_add_zero {α : Type} [AddZeroClass α] (x : Array α) (j : Nat) :
    x.modify j (fun p => p + 0) = x := by
  apply Array.ext
  · simp
  · intro k h1 h2
    simp only [Array.getElem_modify]
    split <;> simp

end States

section S
variable {E : Type} [Add E] [Sub E] [ScalarExt E]

/-- the body of the column loop of `jacobian`, on the state (matrix, working copy, trace) -/
def jacBody (f : Array E → Array E) (point : Array E) (delta : E)
    (x : Mat E × Array E × List (Array E)) (i : Nat) : Res (Mat E × Array E × List (Array E)) := do
  let xi ← aget x.2.1 i
  let state ← aset x.2.1 i (xi + delta)
  let fnew := f state
  let state' ← aset state i xi
  let diff ← Vec.sub fnew (f point)
  let col ← Vec.sdiv diff delta
  let jac ← Mat.setCol x.1 i col
  pure (jac, state', x.2.2 ++ [state])

theorem jacBody_unfold (f : Array E → Array E) (point : Array E) (delta : E) (jac : Mat E)
    (tr : List (Array E)) (k : Nat) (hk : k < point.size) :
    jacBody f point delta (jac, stateAt point delta k, tr) k =
      (Vec.sub (f (evalPt point delta k)) (f point)) >>= fun diff =>
        (Vec.sdiv diff delta) >>= fun col =>
          (Mat.setCol jac k col) >>= fun jac' =>
            pure (jac', stateAt point delta (k + 1), tr ++ [evalPt point delta k]) := by
  have hk' : k < (stateAt point delta k).size := by simpa using hk
  have hk2 : k < (evalPt point delta k).size := by simpa using hk
  unfold jacBody
  simp only [aget_ok hk', aset_ok _ hk', evalPt_eq_set point delta k hk, aset_ok _ hk2,
    stateAt_succ_eq_set point delta k hk, bind, Except.bind, pure, Except.pure]

section Col
variable (f : Array E → Array E) (point : Array E) (delta : E)

/-- the difference quotients of column `k` as the body computes them -/
def colOf (k : Nat) : Res (Array E) :=
  Vec.sub (f (evalPt point delta k)) (f point) >>= fun diff => Vec.sdiv diff delta

theorem colOf_ok_iff (k : Nat) (col : Array E) :
    colOf f point delta k = .ok col ↔
      (f (evalPt point delta k)).size = (f point).size ∧ col.size = (f point).size ∧
      ∀ i (h1 : i < (f (evalPt point delta k)).size) (h0 : i < (f point).size) (h2 : i < col.size),
        divM ((f (evalPt point delta k))[i] - (f point)[i]) delta = .ok col[i] := by
  have hz : (f (evalPt point delta k)).size = (f point).size →
      (Array.zipWith (· - ·) (f (evalPt point delta k)) (f point)).size = (f point).size :=
    fun hs => by rw [Array.size_zipWith, hs, Nat.min_self]
  constructor
  · intro h
    obtain ⟨d, hd, hc⟩ := bind_eq_ok h
    obtain ⟨hs, rfl⟩ := Vec.sub_eq_ok_iff.1 hd
    obtain ⟨h1, h2⟩ := (mapM_arr_ok_iff _ _ col).1 hc
    refine ⟨hs, h1.symm.trans (hz hs), fun i a b c => ?_⟩
    have := h2 i (hz hs ▸ b) c
    rwa [Array.getElem_zipWith] at this
  · rintro ⟨hs, h1, h2⟩
    rw [colOf, Vec.sub_eq_ok_iff.2 ⟨hs, rfl⟩]
    refine (mapM_arr_ok_iff _ _ col).2 ⟨(hz hs).trans h1.symm, fun i a b => ?_⟩
    rw [Array.getElem_zipWith]
    exact h2 i (hs ▸ hz hs ▸ a) (hz hs ▸ a) b

theorem colOf_size_error {k : Nat}
    (hbad : (f (evalPt point delta k)).size ≠ (f point).size) :
    colOf f point delta k = .error .size := by
  rw [colOf, Vec.sub_eq_error_iff.2 ⟨hbad, rfl⟩]
  rfl

theorem jacBody_eq (jac : Mat E) (tr : List (Array E)) (k : Nat) (hk : k < point.size) :
    jacBody f point delta (jac, stateAt point delta k, tr) k =
      colOf f point delta k >>= fun col => Mat.setCol jac k col >>= fun jac' =>
        pure (jac', stateAt point delta (k + 1), tr ++ [evalPt point delta k]) := by
  rw [jacBody_unfold f point delta jac tr k hk, colOf]
  cases Vec.sub (f (evalPt point delta k)) (f point) <;> rfl

theorem jacBody_error (jac : Mat E) (tr : List (Array E)) {k : Nat} (hk : k < point.size) {e : Err}
    (h : colOf f point delta k = .error e) :
    jacBody f point delta (jac, stateAt point delta k, tr) k = .error e := by
  rw [jacBody_eq f point delta jac tr k hk, h]
  rfl

/-- the entry function after column `k` has been overwritten by `col` -/
def putCol (e : Nat → Nat → E) (k : Nat) (col : Array E) : Nat → Nat → E :=
  fun i j => if j = k then col[i]?.getD (e i j) else e i j

theorem jacBody_ok {jac : Mat E} {e : Nat → Nat → E} (hI : Is jac (f point).size point.size e)
    {k : Nat} (hk : k < point.size) (tr : List (Array E)) (s' : Mat E × Array E × List (Array E))
    (h : jacBody f point delta (jac, stateAt point delta k, tr) k = .ok s') :
    ∃ jac' col, colOf f point delta k = .ok col ∧
      s' = (jac', stateAt point delta (k + 1), tr ++ [evalPt point delta k]) ∧
      Is jac' (f point).size point.size (putCol e k col) := by
  rw [jacBody_eq f point delta jac tr k hk] at h
  cases hc : colOf f point delta k with
  | error e' => rw [hc] at h; cases h
  | ok col =>
    obtain ⟨jac', h1, h2⟩ := setCol_spec hI col ((colOf_ok_iff f point delta k col).1 hc).2.1 hk
    rw [hc] at h
    simp only [bind, Except.bind, h1, pure, Except.pure] at h
    cases h
    exact ⟨jac', col, rfl, rfl, h2⟩

theorem jacBody_returns {jac : Mat E} {e : Nat → Nat → E} (hI : Is jac (f point).size point.size e)
    {k : Nat} (hk : k < point.size) (tr : List (Array E)) {col : Array E}
    (hc : colOf f point delta k = .ok col) :
    ∃ s', jacBody f point delta (jac, stateAt point delta k, tr) k = .ok s' := by
  obtain ⟨jac', h1, _⟩ := setCol_spec hI col ((colOf_ok_iff f point delta k col).1 hc).2.1 hk
  exact ⟨_, by rw [jacBody_eq f point delta jac tr k hk, hc]; simp only [bind, Except.bind, h1]; rfl⟩

end Col

end S

section Sdiv
variable {E : Type} [ScalarExt E]

/-- `v / delta` returns when every division by `delta` does (nothing is divided if `v` is empty) -/
theorem sdiv_total (delta : E) (v : Array E) (hdiv : 0 < v.size → ∀ a : E, ∃ q, divM a delta = .ok q) :
    ∃ w, Vec.sdiv v delta = .ok w := by
  cases h : Vec.sdiv v delta with
  | ok w => exact ⟨w, rfl⟩
  | error e =>
    obtain ⟨k, hk, he, _⟩ := (mapM_arr_error_iff _ v e).1 h
    obtain ⟨q, hq⟩ := hdiv (Nat.zero_lt_of_lt hk) v[k]
    rw [hq] at he
    cases he

end Sdiv

section Loop
variable {E : Type} [Add E] [Sub E] [Zero E] [ScalarExt E]

/-- the initial state of the column loop -/
def jacInit (f : Array E → Array E) (point : Array E) : Mat E × Array E × List (Array E) :=
  (Mat.new (f point).size point.size (0 : E), point, [point])

theorem jacobian_eq (f : Array E → Array E) (point : Array E) (delta : E) :
    jacobian f point delta =
      (Mat.forM' 0 point.size (jacInit f point) (jacBody f point delta)) >>=
        (fun r => pure (r.1, r.2.2)) := rfl

section Run
variable (f : Array E → Array E) (point : Array E) (delta : E)

/-- `jac` is a well-formed `m × n` matrix whose columns `< j` are the computed ones -/
def HasCols (j : Nat) (jac : Mat E) : Prop :=
  ∃ e, Is jac (f point).size point.size e ∧
    ∀ c, c < j → ∃ col, colOf f point delta c = .ok col ∧
      ∀ i, i < (f point).size → e i c = col[i]?.getD 0

/-- **what a returned prefix of the column loop has done**: the working copy is the point, `f` was
    called at `point, x⁽¹⁾, …, x⁽ʲ⁾`, the matrix is a well-formed `m × n` matrix, and every column
    `c < j` was computed (`colOf`) and stored -/
theorem jacLoop_ok (j : Nat) (hj : j ≤ point.size) (s : Mat E × Array E × List (Array E))
    (h : Mat.forM' 0 j (jacInit f point) (jacBody f point delta) = .ok s) :
    ∃ jac, s = (jac, stateAt point delta j, point :: (List.range j).map (evalPt point delta)) ∧
      HasCols f point delta j jac := by
  refine forM'_ok_inv (fun k s => ∃ jac,
      s = (jac, stateAt point delta k, point :: (List.range k).map (evalPt point delta)) ∧
      HasCols f point delta k jac)
    0 j _ s _ (Nat.zero_le j)
    ⟨_, rfl, _, Is.of_new _ _ 0, fun c hc => absurd hc (Nat.not_lt_zero c)⟩ ?_ h
  rintro k _ s1 _ hk ⟨jac, rfl, e, hI, hE⟩ hb
  obtain ⟨jac', col, hc, rfl, hI'⟩ := jacBody_ok f point delta hI (Nat.lt_of_lt_of_le hk hj) _ _ hb
  have hcs := ((colOf_ok_iff f point delta k col).1 hc).2.1
  refine ⟨jac', by rw [List.range_succ, List.map_append]; rfl, _, hI', fun c hc' => ?_⟩
  by_cases hck : c = k
  · subst hck
    refine ⟨col, hc, fun i hi => ?_⟩
    rw [putCol, if_pos rfl, Array.getElem?_eq_getElem (hcs ▸ hi)]
    rfl
  · obtain ⟨col', h1, h2⟩ := hE c (Nat.lt_of_le_of_ne (Nat.le_of_lt_succ hc') hck)
    exact ⟨col', h1, fun i hi => by rw [putCol, if_neg hck]; exact h2 i hi⟩

theorem jacLoop_returns (j : Nat) (hj : j ≤ point.size)
    (hcol : ∀ c, c < j → ∃ col, colOf f point delta c = .ok col) :
    ∃ s, Mat.forM' 0 j (jacInit f point) (jacBody f point delta) = .ok s := by
  cases hr : Mat.forM' 0 j (jacInit f point) (jacBody f point delta) with
  | ok s => exact ⟨s, rfl⟩
  | error e' =>
    -- a failing loop has a returned prefix (described by `jacLoop_ok`) whose next body fails;
    -- but on such a state the body of a computed column returns
    obtain ⟨c, s', _, hc, hpre, hbody⟩ := forM'_error_split 0 j _ _ e' hr
    obtain ⟨jac, rfl, e, hI, _⟩ := jacLoop_ok f point delta c (Nat.le_trans (Nat.le_of_lt hc) hj) s' hpre
    obtain ⟨col, hcol⟩ := hcol c hc
    obtain ⟨s'', hs''⟩ := jacBody_returns f point delta hI (Nat.lt_of_lt_of_le hc hj) _ hcol
    rw [hs''] at hbody
    cases hbody

theorem jacobian_ok (J : Mat E) (tr : List (Array E)) (h : jacobian f point delta = .ok (J, tr)) :
    tr = point :: (List.range point.size).map (evalPt point delta) ∧
      HasCols f point delta point.size J := by
  obtain ⟨r, hr, h⟩ := bind_eq_ok ((jacobian_eq f point delta).symm.trans h)
  obtain ⟨jac, rfl, hc⟩ := jacLoop_ok f point delta _ (Nat.le_refl _) r hr
  cases h
  exact ⟨rfl, hc⟩

theorem jacobian_prefix (j : Nat) (hj : j ≤ point.size)
    (hdiv : 0 < (f point).size → ∀ a : E, ∃ q, divM a delta = .ok q)
    (hgood : ∀ i, i < j → (f (evalPt point delta i)).size = (f point).size) :
    ∃ jac e, Mat.forM' 0 j (jacInit f point) (jacBody f point delta)
        = .ok (jac, stateAt point delta j, point :: (List.range j).map (evalPt point delta)) ∧
      Is jac (f point).size point.size e ∧
      ∀ i c, i < (f point).size → c < j →
        ∀ (h1 : i < (f (evalPt point delta c)).size) (h0 : i < (f point).size),
          divM ((f (evalPt point delta c))[i] - (f point)[i]) delta = .ok (e i c) := by
  obtain ⟨s, hs⟩ := jacLoop_returns f point delta j hj fun c hc => by
    rw [colOf, Vec.sub_eq_ok_iff.2 ⟨hgood c hc, rfl⟩]
    exact sdiv_total delta _ (fun h => hdiv (by
      rwa [Array.size_zipWith, hgood c hc, Nat.min_self] at h))
  obtain ⟨jac, rfl, e, hI, hE⟩ := jacLoop_ok f point delta j hj s hs
  refine ⟨jac, e, hs, hI, fun i c hi hc h1 h0 => ?_⟩
  obtain ⟨col, h2, h3⟩ := hE c hc
  obtain ⟨_, h4, h5⟩ := (colOf_ok_iff f point delta c col).1 h2
  rw [h3 i hi, Array.getElem?_eq_getElem (h4 ▸ hi)]
  exact h5 i h1 h0 _

end Run

/-- **shape, entries and call sequence under a LOCAL size hypothesis**: the statement of
    `C18.jacobian_entries`, with `f` required to return vectors of length `m` only at the `n + 1`
    points at which it is actually called (not at every vector of length `n`), and division by
    `delta` required not to panic only if there is something to divide (`m > 0`). -/
theorem jacobian_entries_local (f : Array E → Array E) (point : Array E) (delta : E)
    (hgood : ∀ j, j < point.size → (f (evalPt point delta j)).size = (f point).size)
    (hdiv : 0 < (f point).size → ∀ a : E, ∃ q, divM a delta = .ok q) :
    ∃ J, jacobian f point delta
        = .ok (J, point :: (List.range point.size).map (evalPt point delta)) ∧
      J.rows = (f point).size ∧ J.cols = point.size ∧ J.WF ∧
      ∀ i j (_ : i < (f point).size) (_ : j < point.size)
        (h1 : i < (f (evalPt point delta j)).size) (h0 : i < (f point).size),
        ∃ q, divM ((f (evalPt point delta j))[i] - (f point)[i]) delta = .ok q ∧
          J.get i j = .ok q := by
  obtain ⟨jac, e, hpre, hI, hE⟩ :=
    jacobian_prefix f point delta point.size (Nat.le_refl _) hdiv hgood
  refine ⟨jac, ?_, hI.rows, hI.cols, hI.wf, ?_⟩
  · rw [jacobian_eq, hpre]; rfl
  · intro i j hi hj h1 h0
    exact ⟨e i j, hE i j hi hj _ _, hI.entry i j hi hj⟩

end Loop

section Entries
variable {E : Type} [Add E] [Sub E] [Mul E] [Neg E] [Zero E] [One E] [BEq E] [ScalarExt E]

set_option linter.unusedSectionVars false in
set_option linter.unusedVariables false in
/-- **entries and call sequence**: for a map of constant output size `m` the call succeeds with a
    well-formed `m × n` matrix; `f` is called at `point` and then at `x⁽¹⁾, …, x⁽ⁿ⁾`
    (`evalPt point delta j`, see `evalPt_get`), in this order; and entry `(i, j)` is the computed
    quotient `((f x⁽ʲ⁺¹⁾)[i] - (f point)[i]) / delta`. -/
theorem jacobian_entries (f : Array E → Array E) (point : Array E) (delta : E) (m : Nat)
    (hf : ∀ x : Array E, x.size = point.size → (f x).size = m)
    (hdiv : ∀ a : E, ∃ q, divM a delta = .ok q) :
    ∃ J, jacobian f point delta
        = .ok (J, point :: (List.range point.size).map (evalPt point delta)) ∧
      J.rows = m ∧ J.cols = point.size ∧ J.WF ∧
      ∀ i j (hi : i < m) (hj : j < point.size)
        (h1 : i < (f (evalPt point delta j)).size) (h0 : i < (f point).size),
        ∃ q, divM ((f (evalPt point delta j))[i] - (f point)[i]) delta = .ok q ∧
          J.get i j = .ok q := by
  have hm : (f point).size = m := hf point rfl
  obtain ⟨J, h1, h2, h3, h4, h5⟩ := jacobian_entries_local f point delta
    (fun j _ => by rw [hf _ (by simp), hm]) (fun _ => hdiv)
  exact ⟨J, h1, h2.trans hm, h3, h4, fun i j hi hj s1 s0 => h5 i j s0 hj s1 s0⟩

end Entries

section Exact

theorem restore_exact {G : Type} [Add G] [Sub G] (point : Array G) (delta : G) (j : Nat) :
    stateAt point delta j = point := rfl

/-- the `j`-th perturbed point is exactly `point + δ e_j` -/
theorem evalPt_exact {G : Type} [Add G] [Sub G] (point : Array G) (delta : G) (j : Nat) :
    evalPt point delta j = point.modify j (fun p => p + delta) := by
  rw [evalPt, restore_exact]

set_option linter.unusedVariables false in
/-- **exact restore**: for every element type (any `divM` that does not fail on `delta`; no field
    law is needed, the saved coordinate is put back) the Jacobian call evaluates `f` at `point` and
    at `point + δ e_j`, `j = 0, …, n-1`, in this order, and entry `(i, j)` is the computed quotient
    of `(f (point + δ e_j))[i] - (f point)[i]` by `δ`. -/
theorem jacobian_restore_exact {K : Type} [Add K] [Sub K] [Mul K] [Neg K] [Zero K] [One K] [BEq K]
    [ScalarExt K]
    (f : Array K → Array K) (point : Array K) (delta : K) (m : Nat)
    (hf : ∀ x : Array K, x.size = point.size → (f x).size = m)
    (hdiv : ∀ a : K, ∃ q, divM a delta = .ok q) :
    ∃ J, jacobian f point delta
        = .ok (J, point :: (List.range point.size).map
            (fun j => point.modify j (fun p => p + delta))) ∧
      J.rows = m ∧ J.cols = point.size ∧ J.WF ∧
      ∀ i j (hi : i < m) (hj : j < point.size)
        (h1 : i < (f (point.modify j (fun p => p + delta))).size) (h0 : i < (f point).size),
        ∃ q, divM ((f (point.modify j (fun p => p + delta)))[i] - (f point)[i]) delta = .ok q ∧
          J.get i j = .ok q := by
  obtain ⟨J, h1, h2, h3, h4, h5⟩ := jacobian_entries f point delta m hf hdiv
  have e : evalPt point delta = fun j => point.modify j (fun p => p + delta) :=
    funext (evalPt_exact point delta)
  rw [e] at h1 h5
  exact ⟨J, h1, h2, h3, h4, h5⟩

/-- the affine map `x ↦ M x + c` from `Kⁿ` to `Kᵐ` on arrays (coordinates beyond the size of the
    argument read as 0) -/
def affineMap {K : Type} [Field K] (M : Nat → Nat → K) (c : Nat → K) (n m : Nat)
    (x : Array K) : Array K :=
  Array.ofFn (n := m) (fun i => (∑ j ∈ Finset.range n, M i.val j * x.getD j 0) + c i.val)

@[simp] theorem affineMap_size {K : Type} [Field K] (M : Nat → Nat → K) (c : Nat → K) (n m : Nat)
    (x : Array K) : (affineMap M c n m x).size = m := by
  simp [affineMap]

theorem affineMap_getD {K : Type} [Field K] (M : Nat → Nat → K) (c : Nat → K) (n : Nat) {m i : Nat}
    (x : Array K) (hi : i < m) :
    (affineMap M c n m x).getD i 0 = (∑ j ∈ Finset.range n, M i j * x.getD j 0) + c i := by
  rw [getD_of_lt _ _ (by simpa using hi)]
  simp only [affineMap, Array.getElem_ofFn]

theorem sum_mul_modify_sub {K : Type} [Field K] (a : Nat → K) (x : Array K) (j : Nat) (δ : K)
    (hj : j < x.size) :
    (∑ t ∈ Finset.range x.size, a t * (x.modify j (fun p => p + δ)).getD t 0)
      - ∑ t ∈ Finset.range x.size, a t * x.getD t 0 = a j * δ := by
  rw [← Finset.sum_sub_distrib, Finset.sum_eq_single_of_mem j (Finset.mem_range.mpr hj)
      (fun t ht e => by
        rw [getD_modify _ _ _ _ 0 (Finset.mem_range.mp ht), if_neg (Ne.symm e), sub_self]),
    getD_modify _ _ _ _ 0 hj, if_pos rfl, ← mul_sub, add_sub_cancel_left]

end Exact

end Ohsl.Props.C18
