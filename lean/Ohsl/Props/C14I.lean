/-
  Property C14 (continued) — inverse functions, square root, powers of the complex model
  (Ohsl/Model/CxFun.lean) in the real interpretation, transported to Mathlib's ℂ by `toC`.
  Every function `f` has a bridge `toC (f z) = F (toC z)`; for the square root and the inverse
  functions, which Mathlib does not have on ℂ, `F` is in Ohsl/Lemmas/CFun.lean and each identity,
  range or real-axis value is the bridge followed by the lemma about `F`.
-/
import Ohsl.Props.C14
import Ohsl.Lemmas.CFun
import Ohsl.Lemmas.CxDiv
import Mathlib.Tactic.Ring
import Mathlib.Tactic.FieldSimp
import Mathlib.Tactic.Linarith
import Mathlib.Tactic.LinearCombination
namespace Ohsl.Props.C14
open Ohsl Ohsl.Cx Ohsl.RealI Real

theorem toC_csqrt (z : Cx ℝ) : toC (csqrt z) = CFun.sqrt (toC z) := by
  rw [CFun.sqrt, ← toC_polar_form, ← abs_eq, ← arg_eq]; rfl

theorem csqrt_sq (z : Cx ℝ) : toC (csqrt z) * toC (csqrt z) = toC z := by
  rw [toC_csqrt, CFun.sqrt_mul_self]

/-- principal branch: the real part of the square root is non-negative -/
theorem csqrt_re_nonneg (z : Cx ℝ) : 0 ≤ (csqrt z).re := by
  rw [← toC_re, toC_csqrt]; exact CFun.sqrt_re_nonneg _

/-- principal branch, boundary: when the real part vanishes the imaginary part is non-negative -/
theorem csqrt_im_nonneg_of_re_eq_zero (z : Cx ℝ) (h : (csqrt z).re = 0) : 0 ≤ (csqrt z).im := by
  rw [← toC_re, toC_csqrt] at h
  rw [← toC_im, toC_csqrt]; exact CFun.sqrt_im_nonneg_of_re_eq_zero _ h

/-- the model's square root is Mathlib's principal complex power `z ^ (1/2)` -/
theorem csqrt_spec (z : Cx ℝ) : toC (csqrt z) = toC z ^ (1 / 2 : ℂ) := by
  rw [toC_csqrt, CFun.sqrt_eq_cpow]

theorem absSqr_eq (z : Cx ℝ) : absSqr z = ‖toC z‖ ^ 2 := by
  rw [← abs_eq]
  show absSqr z = Real.sqrt (absSqr z) ^ 2
  rw [Real.sq_sqrt]
  exact add_nonneg (mul_self_nonneg _) (mul_self_nonneg _)

theorem cpow_spec (z w : Cx ℝ) (hz : toC z ≠ 0) :
    toC (cpow z w) = Complex.exp (toC w * Complex.log (toC z)) := by
  have hr : 0 < ‖toC z‖ := norm_pos_iff.mpr hz
  have hr2 : 0 < ‖toC z‖ ^ 2 := by positivity
  have hform : toC (cpow z w) =
      ((((‖toC z‖ ^ 2) ^ (1 / 2 * w.re) * Real.exp (-w.im * Complex.arg (toC z)) : ℝ)) : ℂ) *
      Complex.exp (((w.re * Complex.arg (toC z) + 1 / 2 * w.im * Real.log (‖toC z‖ ^ 2) : ℝ) : ℂ) *
        Complex.I) := by
    rw [← toC_polar_form, ← absSqr_eq, ← arg_eq]; rfl
  rw [hform, Real.rpow_def_of_pos hr2, Real.log_pow, ← Real.exp_add, Complex.ofReal_exp,
    ← Complex.exp_add, toC_eq_re_im w, Complex.log]
  congr 1
  push_cast
  linear_combination (-(w.im : ℂ) * Complex.arg (toC z)) * Complex.I_sq

/-- over ℝ the power with a real exponent is the complex power at the exponent `x + 0i` (in `f64`
the two are computed differently) -/
theorem cpowf_as_cpow (z : Cx ℝ) (x : ℝ) : cpowf z x = cpow z ⟨x, 0⟩ := by
  simp [cpowf, cpow, Transc.exp]

theorem cpowf_spec (z : Cx ℝ) (x : ℝ) (hz : toC z ≠ 0) :
    toC (cpowf z x) = Complex.exp ((x : ℂ) * Complex.log (toC z)) := by
  rw [cpowf_as_cpow, cpow_spec z _ hz]
  rfl

theorem clog_spec (z b : Cx ℝ) : toC (clog z b) = Complex.log (toC z) / Complex.log (toC b) := by
  rw [clog, divT_eq, cln_eq, cln_eq]

theorem cpow_eq_cpow (z w : Cx ℝ) (hz : toC z ≠ 0) : toC (cpow z w) = toC z ^ toC w := by
  rw [cpow_spec z w hz, Complex.cpow_def_of_ne_zero hz, mul_comm]

theorem toC_casin (z : Cx ℝ) : toC (casin z) = CFun.asin (toC z) := by
  simp only [casin, CFun.asin, toC_mul, toC_neg, toC_I, cln_eq, toC_add, toC_csqrt, toC_sub, toC_one]

theorem toC_cacos (z : Cx ℝ) : toC (cacos z) = CFun.acos (toC z) := by
  simp only [cacos, CFun.acos, toC_addR, toC_mul, toC_I, cln_eq, toC_add, toC_csqrt, toC_sub, toC_one]
  rfl

theorem csin_casin (z : Cx ℝ) : toC (csin (casin z)) = toC z := by
  rw [csin_eq, toC_casin, CFun.sin_asin]

theorem ccos_cacos (z : Cx ℝ) : toC (ccos (cacos z)) = toC z := by
  rw [ccos_eq, toC_cacos, CFun.cos_acos]

theorem toC_casinh (z : Cx ℝ) : toC (casinh z) = CFun.asinh (toC z) := by
  simp only [casinh, CFun.asinh, cln_eq, toC_add, toC_csqrt, toC_addR, toC_mul, Complex.ofReal_one]

theorem toC_cacosh (z : Cx ℝ) : toC (cacosh z) = CFun.acosh (toC z) := by
  simp only [cacosh, CFun.acosh, cln_eq, toC_add, toC_mul, toC_csqrt, toC_subR, toC_addR,
    Complex.ofReal_one]

theorem csinh_casinh (z : Cx ℝ) : toC (csinh (casinh z)) = toC z := by
  rw [csinh_eq, toC_casinh, CFun.sinh_asinh]

theorem ccosh_cacosh (z : Cx ℝ) : toC (ccosh (cacosh z)) = toC z := by
  rw [ccosh_eq, toC_cacosh, CFun.cosh_acosh]

theorem toC_catanh (z : Cx ℝ) : toC (catanh z) = CFun.atanh (toC z) := by
  simp only [catanh, toC_mulR, toC_sub, cln_eq, toC_addR, toC_one, Complex.ofReal_one]
  show _ * ((1 / 2 : ℝ) : ℂ) = _
  rw [CFun.atanh]; push_cast; ring

theorem toC_catan (z : Cx ℝ) : toC (catan z) = CFun.atan (toC z) := by
  simp only [catan, toC_mulR, toC_mul, toC_sub, cln_eq, toC_add, toC_I, toC_one]
  show _ * ((1 / 2 : ℝ) : ℂ) = _
  rw [CFun.atan, CFun.atanh, add_comm 1]; push_cast; ring

theorem ctan_catan (z : Cx ℝ) (h1 : toC z ≠ Complex.I) (h2 : toC z ≠ -Complex.I) :
    toC (ctan (catan z)) = toC z := by
  rw [ctan_eq, toC_catan, CFun.tan_atan h1 h2]

theorem ctanh_catanh (z : Cx ℝ) (h1 : toC z ≠ 1) (h2 : toC z ≠ -1) :
    toC (ctanh (catanh z)) = toC z := by
  rw [ctanh_eq, toC_catanh, CFun.tanh_atanh h1 h2]

/- Reciprocal-argument inverses.  `divT` is the total quotient, which over ℝ follows Mathlib's
    convention `x / 0 = 0`; with it the four identities below hold for every `z`.  At `z = 0` they
    hold only through that convention (`1/0 = 0`, `1/(1/0) = 0`) and say nothing about `f64`, where
    `1/0 = ∞`; for `z ≠ 0` they are the genuine statements. -/

theorem csec_casec (z : Cx ℝ) : toC (csec (casec z)) = toC z := by
  rw [csec, casec, divT_eq, ccos_cacos, divT_eq, toC_one, one_div_one_div]
theorem ccsc_cacsc (z : Cx ℝ) : toC (ccsc (cacsc z)) = toC z := by
  rw [ccsc, cacsc, divT_eq, csin_casin, divT_eq, toC_one, one_div_one_div]
theorem csech_casech (z : Cx ℝ) : toC (csech (casech z)) = toC z := by
  rw [csech, casech, divT_eq, ccosh_cacosh, divT_eq, toC_one, one_div_one_div]
theorem ccsch_cacsch (z : Cx ℝ) : toC (ccsch (cacsch z)) = toC z := by
  rw [ccsch, cacsch, divT_eq, csinh_casinh, divT_eq, toC_one, one_div_one_div]

/-- at `z = 0` only through `1/0 = 0`, see above -/
theorem ccot_cacot (z : Cx ℝ) (h1 : toC z ≠ Complex.I) (h2 : toC z ≠ -Complex.I) :
    toC (ccot (cacot z)) = toC z := by
  have hd : toC (divT 1 z) = 1 / toC z := by rw [divT_eq, toC_one]
  have g1 : toC (divT 1 z) ≠ Complex.I := by
    intro h; apply h2
    rw [← one_div_one_div (toC z), ← hd, h, one_div, Complex.inv_I]
  have g2 : toC (divT 1 z) ≠ -Complex.I := by
    intro h; apply h1
    rw [← one_div_one_div (toC z), ← hd, h, one_div, inv_neg, Complex.inv_I, neg_neg]
  rw [ccot, cacot, divT_eq, ctan_catan _ g1 g2, hd, toC_one, one_div_one_div]

/-- at `z = 0` only through `1/0 = 0`, see above -/
theorem ccoth_cacoth (z : Cx ℝ) (h1 : toC z ≠ 1) (h2 : toC z ≠ -1) :
    toC (ccoth (cacoth z)) = toC z := by
  have hd : toC (divT 1 z) = 1 / toC z := by rw [divT_eq, toC_one]
  have g1 : toC (divT 1 z) ≠ 1 := by
    intro h; apply h1
    rw [← one_div_one_div (toC z), ← hd, h, one_div, inv_one]
  have g2 : toC (divT 1 z) ≠ -1 := by
    intro h; apply h2
    rw [← one_div_one_div (toC z), ← hd, h, one_div, inv_neg, inv_one]
  rw [ccoth, cacoth, divT_eq, ctanh_catanh _ g1 g2, hd, toC_one, one_div_one_div]

/-- the hypotheses of `ctan_catan`, `ctanh_catanh`, … are satisfiable by a non-trivial value -/
example : toC (⟨2, 3⟩ : Cx ℝ) ≠ Complex.I ∧ toC (⟨2, 3⟩ : Cx ℝ) ≠ -Complex.I ∧
    toC (⟨2, 3⟩ : Cx ℝ) ≠ 1 ∧ toC (⟨2, 3⟩ : Cx ℝ) ≠ -1 ∧ toC (⟨2, 3⟩ : Cx ℝ) ≠ 0 := by
  refine ⟨?_, ?_, ?_, ?_, ?_⟩ <;>
    (intro h; have := congrArg Complex.re h; (simp [toC] at this) <;> norm_num at this)

theorem casin_re_range (z : Cx ℝ) : -(π / 2) ≤ (casin z).re ∧ (casin z).re ≤ π / 2 := by
  rw [← toC_re, toC_casin]; exact CFun.asin_re_range _

theorem cacos_re_range (z : Cx ℝ) : 0 ≤ (cacos z).re ∧ (cacos z).re ≤ π := by
  rw [← toC_re, toC_cacos]; exact CFun.acos_re_range _

/-- asin z + acos z = π/2 (the two are computed from the same logarithm) -/
theorem casin_add_cacos (z : Cx ℝ) : toC (casin z) + toC (cacos z) = ((π / 2 : ℝ) : ℂ) := by
  rw [toC_casin, toC_cacos, CFun.asin_add_acos]; push_cast; ring

theorem casinh_im_range (z : Cx ℝ) : -(π / 2) ≤ (casinh z).im ∧ (casinh z).im ≤ π / 2 := by
  rw [← toC_im, toC_casinh]; exact CFun.asinh_im_range _

end Ohsl.Props.C14
