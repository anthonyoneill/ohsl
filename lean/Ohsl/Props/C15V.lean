/-
  Property C15, contents of the results — what every remaining `Vector<T>` operation of
  Ohsl/Model/Vec.lean RETURNS (the other C15 files prove sizes, norms, sort, find, the sequences).

  Edits and element-wise operations: class (S), any element type, entry by entry and on the plain list
  `toList`; in `sdiv` / `divS` the first failing entry decides.  The reductions through a map `φ` that
  preserves `+ * 0` (`ScalarHom`), at `φ = id` (class E) and at `φ = toC : Cx ℝ → ℂ`: `dot` of complex
  vectors is BILINEAR, no conjugation.  `normInfC` (class R) is the largest modulus of the entries.
-/
import Ohsl.Props.C15P
import Ohsl.Props.C13R
import Mathlib.Data.Finset.Lattice.Fold
import Mathlib.Algebra.BigOperators.Group.Finset.Basic
import Mathlib.Algebra.BigOperators.Intervals
import Mathlib.Tactic.Ring
set_option linter.unusedSectionVars false
namespace Ohsl.Props.C15
open Ohsl Ohsl.Vec

section EditGuards
variable {K : Type}

theorem insert_ok_iff (a c : Array K) (p : Nat) (x : K) :
    insert a p x = .ok c ↔ p ≤ a.size ∧ c = a.extract 0 p ++ #[x] ++ a.extract p a.size :=
  guard_ok_iff _ c _

theorem swap_rejects (a : Array K) (i j : Nat) (h : a.size ≤ i ∨ a.size ≤ j) :
    swap a i j = .error .range := by
  unfold swap aget
  by_cases hi : i < a.size
  · rw [Array.getElem?_eq_getElem hi, Array.getElem?_eq_none (h.resolve_left (Nat.not_le_of_lt hi))]
    rfl
  · rw [Array.getElem?_eq_none (Nat.le_of_not_lt hi)]
    rfl

end EditGuards

section Edits
variable {K : Type} [Add K] [Sub K] [Mul K] [Neg K] [Zero K] [One K] [BEq K] [ScalarExt K]

theorem insert_toList (a c : Array K) (p : Nat) (x : K) (h : insert a p x = .ok c) :
    c.toList = a.toList.take p ++ x :: a.toList.drop p := by
  obtain ⟨hp, rfl⟩ := (insert_ok_iff a c p x).mp h
  simp only [Array.append_singleton, Array.toList_append, Array.toList_push, Array.toList_extract,
    List.extract_eq_take_drop, Nat.sub_zero, List.drop_zero, List.append_assoc, List.cons_append,
    List.nil_append, List.append_cancel_left_eq, List.cons.injEq, List.take_eq_self_iff,
    List.length_drop, Array.length_toList, Nat.le_refl, and_self]

/-- every entry of a successful `insert(pos, x)`: entries before `pos` stay, `x` sits at `pos`,
    the rest moves up by one; nothing beyond (`a[k-1]? = none` for `k > size`) -/
theorem insert_contents (a c : Array K) (p : Nat) (x : K) (h : insert a p x = .ok c) (k : Nat) :
    c[k]? = if k < p then a[k]? else if k = p then some x else a[k - 1]? := by
  have hp : min p a.toList.length = p := Nat.min_eq_left ((insert_ok_iff a c p x).mp h).1
  rw [← Array.getElem?_toList, insert_toList a c p x h, List.getElem?_append, List.length_take, hp,
    List.getElem?_take, ← Array.getElem?_toList (xs := a), ← Array.getElem?_toList (xs := a)]
  rcases Nat.lt_trichotomy k p with hk | rfl | hk
  · simp only [if_pos hk]
  · simp only [if_neg (Nat.lt_irrefl k), if_true, Nat.sub_self, List.getElem?_cons_zero]
  · obtain ⟨d, rfl⟩ := Nat.exists_eq_add_of_lt hk
    rw [if_neg (Nat.lt_asymm hk), if_neg (Nat.lt_asymm hk), if_neg (Nat.ne_of_gt hk),
      Nat.add_assoc, Nat.add_sub_cancel_left, List.getElem?_cons_succ, List.getElem?_drop]
    rfl

theorem resize_toList (a : Array K) (n : Nat) :
    (resize a n).toList = a.toList.take n ++ List.replicate (n - a.size) 0 := by
  unfold resize
  split
  · rw [Array.toList_extract, List.extract_eq_take_drop, Nat.sub_eq_zero_of_le ‹n ≤ a.size›]
    exact (List.append_nil _).symm
  · rw [Array.toList_append, Array.toList_replicate,
      List.take_of_length_le (Nat.le_of_not_le ‹¬n ≤ a.size›)]

/-- `resize(n)`: the first `min n size` entries are kept, the rest (up to `n`) is `0` -/
theorem resize_contents (a : Array K) (n k : Nat) :
    (resize a n)[k]? = if k < n then some (a.getD k 0) else none := by
  rw [Array.getD_eq_getD_getElem?, resize]
  by_cases h : n ≤ a.size
  · rw [if_pos h, Array.getElem?_extract, Nat.min_eq_left h, Nat.sub_zero, Nat.zero_add]
    by_cases hk : k < n
    · rw [if_pos hk, if_pos hk, Array.getElem?_eq_getElem (Nat.lt_of_lt_of_le hk h)]
      rfl
    · rw [if_neg hk, if_neg hk]
  · rw [if_neg h, Array.getElem?_append, Array.getElem?_replicate]
    by_cases hk : k < a.size
    · rw [if_pos hk, if_pos (Nat.lt_trans hk (Nat.lt_of_not_le h)), Array.getElem?_eq_getElem hk]
      rfl
    · rw [if_neg hk, Array.getElem?_eq_none (Nat.le_of_not_lt hk)]
      exact if_congr (Nat.sub_lt_sub_iff_right (Nat.le_of_not_lt hk)) rfl rfl

/-- `assign(x)`: every entry becomes `x` -/
theorem assign_contents (a : Array K) (x : K) : assign a x = Array.replicate a.size x :=
  Array.map_const'

theorem push_contents (a : Array K) (x : K) (k : Nat) :
    (push a x)[k]? = if k = a.size then some x else a[k]? :=
  Array.getElem?_push

theorem push_toList (a : Array K) (x : K) : (push a x).toList = a.toList ++ [x] :=
  Array.toList_push

theorem pushFront_toList (a : Array K) (x : K) : (pushFront a x).toList = x :: a.toList :=
  Array.toList_append

theorem pushFront_contents (a : Array K) (x : K) :
    (pushFront a x).size = a.size + 1 ∧ (pushFront a x)[0]? = some x ∧
      ∀ k, (pushFront a x)[k + 1]? = a[k]? := by
  simp only [← Array.getElem?_toList, pushFront_toList, Array.size_eq_length_toList]
  exact ⟨rfl, rfl, fun _ => rfl⟩

/-- `pop()` returns `(x, b)` exactly when the vector was `b` followed by `x` -/
theorem pop_ok_iff (a b : Array K) (x : K) : pop a = .ok (x, b) ↔ a = b.push x := by
  constructor
  · intro h
    unfold pop at h
    split at h
    · obtain ⟨ys, rfl⟩ := Array.back?_eq_some_iff.mp ‹_›
      cases h
      rw [Array.pop_push]
    · cases h
  · rintro rfl
    rw [pop, Array.back?_push, Array.pop_push]

/-- `pop()` fails (class `unwrap`) exactly on the empty vector -/
theorem pop_error_iff (a : Array K) (e : Err) : pop a = .error e ↔ a = #[] ∧ e = .unwrap := by
  unfold pop
  split
  next v hv => exact ⟨nofun, fun h => nomatch (Array.back?_eq_none_iff.mpr h.1).symm.trans hv⟩
  next hn =>
    exact ⟨fun h => ⟨Array.back?_eq_none_iff.mp hn, (Except.error.inj h).symm⟩, fun h => h.2 ▸ rfl⟩

/-- `swap(i, j)` with both indices in range exchanges the two entries and nothing else -/
theorem swap_contents (a : Array K) (i j : Nat) (hi : i < a.size) (hj : j < a.size) :
    ∃ c, swap a i j = .ok c ∧ c.size = a.size ∧
      ∀ k, c[k]? = if k = j then a[i]? else if k = i then a[j]? else a[k]? := by
  refine ⟨(a.setIfInBounds i a[j]).setIfInBounds j a[i], ?_,
    Array.size_setIfInBounds.trans Array.size_setIfInBounds, fun k => ?_⟩
  · simp only [swap, aget, aset, Array.getElem?_eq_getElem hi, Array.getElem?_eq_getElem hj, bind,
      Except.bind, if_pos hi, Array.size_setIfInBounds, if_pos hj]
  · rw [Array.getElem?_setIfInBounds, Array.getElem?_setIfInBounds, Array.size_setIfInBounds,
      if_pos hj, if_pos hi, Array.getElem?_eq_getElem hi, Array.getElem?_eq_getElem hj]
    exact if_congr eq_comm rfl (if_congr eq_comm rfl rfl)

theorem swap_ok_iff (a : Array K) (i j : Nat) :
    (∃ c, swap a i j = .ok c) ↔ i < a.size ∧ j < a.size := by
  constructor
  · rintro ⟨c, hc⟩
    by_contra hn
    have hr := swap_rejects a i j (not_lt_and hn)
    cases hr.symm.trans hc
  · rintro ⟨hi, hj⟩
    obtain ⟨c, hc, _⟩ := swap_contents a i j hi hj
    exact ⟨c, hc⟩

/-- swapping twice restores the vector -/
theorem swap_swap (a c : Array K) (i j : Nat) (h : swap a i j = .ok c) : swap c i j = .ok a := by
  obtain ⟨hi, hj⟩ := (swap_ok_iff a i j).mp ⟨c, h⟩
  obtain ⟨c', hc', hs, hk⟩ := swap_contents a i j hi hj
  cases hc'.symm.trans h
  obtain ⟨d, hd, -, hdk⟩ := swap_contents c i j (hs ▸ hi) (hs ▸ hj)
  rw [hd]
  congr 1
  apply Array.ext_getElem?
  intro k
  rw [hdk k, hk i, hk j, hk k]
  by_cases h1 : k = j
  · subst h1
    rw [if_pos rfl]
    by_cases h0 : i = k
    · rw [if_pos h0, h0]
    · rw [if_neg h0, if_pos rfl]
  · rw [if_neg h1, if_neg h1]
    by_cases h2 : k = i
    · subst h2
      rw [if_pos rfl, if_pos rfl]
    · rw [if_neg h2, if_neg h2]

theorem clear_contents (a : Array K) : clear a = #[] := rfl

end Edits

section Elementwise
variable {K : Type} [Add K] [Sub K] [Mul K] [Neg K] [Zero K] [One K] [BEq K] [ScalarExt K]

/-- all the infallible element-wise operations keep the size -/
theorem elementwise_size (a : Array K) (s : K) :
    (neg a).size = a.size ∧ (Vec.abs a).size = a.size ∧ (smul a s).size = a.size ∧
    (addS a s).size = a.size ∧ (subS a s).size = a.size ∧ (mulS a s).size = a.size :=
  ⟨Array.size_map, Array.size_map, Array.size_map, Array.size_map, Array.size_map, Array.size_map⟩

theorem mulS_contents (a : Array K) (s : K) (k : Nat) : (mulS a s)[k]? = a[k]?.map (· * s) :=
  Array.getElem?_map
/-- `*= T` is `vector * scalar`; `/= T` is `vector / scalar`; `+= Vector`, `-= Vector` are `+`, `-` -/
theorem assign_forms (a b : Array K) (s : K) :
    mulS a s = smul a s ∧ divS a s = sdiv a s ∧ addAssign a b = add a b ∧ subAssign a b = sub a b :=
  ⟨rfl, rfl, rfl, rfl⟩

end Elementwise

section ElementwiseEntries
variable {K : Type}

theorem neg_contents [Neg K] (a : Array K) (k : Nat) : (neg a)[k]? = a[k]?.map (fun x => -x) :=
  Array.getElem?_map
/-- `abs()` applies `Signed::abs` to every entry -/
theorem abs_contents [ScalarExt K] (a : Array K) (k : Nat) : (Vec.abs a)[k]? = a[k]?.map ScalarExt.mag :=
  Array.getElem?_map
/-- `vector * scalar`: the scalar is the RIGHT factor -/
theorem smul_contents [Mul K] (a : Array K) (s : K) (k : Nat) : (smul a s)[k]? = a[k]?.map (· * s) :=
  Array.getElem?_map
theorem addS_contents [Add K] (a : Array K) (s : K) (k : Nat) : (addS a s)[k]? = a[k]?.map (· + s) :=
  Array.getElem?_map
theorem subS_contents [Sub K] (a : Array K) (s : K) (k : Nat) : (subS a s)[k]? = a[k]?.map (· - s) :=
  Array.getElem?_map

theorem zipWith_contents {op : K → K → K} {a b c : Array K}
    (h : a.size = b.size ∧ c = Array.zipWith op a b) :
    c.size = a.size ∧ c.size = b.size ∧
      ∀ k (h1 : k < a.size) (h2 : k < b.size), c[k]? = some (op a[k] b[k]) := by
  obtain ⟨hs, rfl⟩ := h
  have hc : (Array.zipWith op a b).size = a.size := by rw [Array.size_zipWith, ← hs, Nat.min_self]
  refine ⟨hc, hc.trans hs, fun k h1 h2 => ?_⟩
  rw [Array.getElem?_eq_getElem (hc ▸ h1), Array.getElem_zipWith]

theorem add_contents [Add K] (a b c : Array K) (h : add a b = .ok c) :
    c.size = a.size ∧ c.size = b.size ∧
      ∀ k (h1 : k < a.size) (h2 : k < b.size), c[k]? = some (a[k] + b[k]) :=
  zipWith_contents ((add_ok_iff a b c).mp h)

theorem sub_contents [Sub K] (a b c : Array K) (h : sub a b = .ok c) :
    c.size = a.size ∧ c.size = b.size ∧
      ∀ k (h1 : k < a.size) (h2 : k < b.size), c[k]? = some (a[k] - b[k]) :=
  zipWith_contents (Vec.sub_eq_ok_iff.mp h)

end ElementwiseEntries

section ScalarDivision
variable {K : Type} [ScalarExt K]

theorem sdiv_ok_iff (a c : Array K) (s : K) :
    sdiv a s = .ok c ↔
      a.size = c.size ∧ ∀ k (h1 : k < a.size) (h2 : k < c.size), divM a[k] s = .ok c[k] :=
  mapM_arr_ok_iff _ a c

theorem sdiv_error_iff (a : Array K) (s : K) (e : Err) :
    sdiv a s = .error e ↔
      ∃ k, ∃ hk : k < a.size, divM a[k] s = .error e ∧
        ∀ j (hj : j < k), ∃ y, divM (a[j]'(Nat.lt_trans hj hk)) s = .ok y :=
  mapM_arr_error_iff _ a e

theorem sdiv_head_error (a : Array K) (s : K) (e : Err) (ha : 0 < a.size)
    (h : divM a[0] s = .error e) : sdiv a s = .error e :=
  (sdiv_error_iff a s e).mpr ⟨0, ha, h, nofun⟩

theorem sdiv_empty (s : K) : sdiv (#[] : Array K) s = .ok #[] :=
  (sdiv_ok_iff #[] #[] s).mpr ⟨rfl, nofun⟩

end ScalarDivision

section ElementwiseDivLaw
variable {K : Type} [Field K] [ScalarExt K] [Alg.DivLaw K]

theorem sdiv_zero_law (a : Array K) (ha : 0 < a.size) : sdiv a (0 : K) = .error .arith :=
  sdiv_head_error a 0 _ ha (Alg.divM_law_zero _)

theorem sdiv_ne_law (a : Array K) {s : K} (hs : s ≠ 0) : sdiv a s = .ok (a.map (· / s)) :=
  mapM_ok_arr a _ _ fun _ _ => Alg.divM_law_ne hs

end ElementwiseDivLaw

section ElementwiseExact
variable {K : Type} [Field K] [LinearOrder K]
attribute [local instance] Ohsl.Alg.scalarExt

/-- `vector / scalar` over a field: entry-wise quotients; a zero divisor is rejected (class
    `arith`) exactly when there is an entry to divide -/
theorem sdiv_exact (a : Array K) (s : K) :
    sdiv a s = if s = 0 ∧ 0 < a.size then .error .arith else .ok (a.map (· / s)) := by
  by_cases hs : s = 0
  · by_cases ha : 0 < a.size
    · rw [if_pos ⟨hs, ha⟩, hs]
      exact sdiv_zero_law a ha
    · obtain rfl := Array.eq_empty_of_size_eq_zero (Nat.eq_zero_of_not_pos ha)
      rw [if_neg (fun h => ha h.2), Array.map_empty]
      exact sdiv_empty s
  · rw [if_neg (fun h => hs h.1)]
    exact sdiv_ne_law a hs

theorem sdiv_zero_rejects_iff (a : Array K) : sdiv a (0 : K) = .error .arith ↔ a ≠ #[] := by
  rw [sdiv_exact, ← Array.size_pos_iff]
  by_cases ha : 0 < a.size
  · rw [if_pos ⟨rfl, ha⟩]
    exact iff_of_true rfl ha
  · rw [if_neg (fun h => ha h.2)]
    exact iff_of_false nofun ha

/-- `/= T` likewise -/
theorem divS_exact (a : Array K) (s : K) :
    divS a s = if s = 0 ∧ 0 < a.size then .error .arith else .ok (a.map (· / s)) :=
  sdiv_exact a s

example : sdiv (#[1, 2] : Array ℚ) 0 = .error .arith :=
  (sdiv_zero_rejects_iff _).mpr (Array.size_pos_iff.mp (Nat.succ_pos 1))
example : sdiv (#[] : Array ℚ) 0 = .ok #[] := sdiv_empty 0

end ElementwiseExact

section ExactReductions
variable {K : Type} [CommRing K] [BEq K] [ScalarExt K]

theorem sum_eq (a : Array K) (h : 0 < a.size) :
    Vec.sum a = .ok (∑ i ∈ Finset.range a.size, a.getD i 0) :=
  ok_of_hom_id (sum_hom scalarHom_id a h)

theorem product_eq (a : Array K) (h : 0 < a.size) :
    product a = .ok (∏ i ∈ Finset.range a.size, a.getD i 0) :=
  ok_of_hom_id (product_hom scalarHom_id a h)

theorem dot_eq_sum_ring (a b : Array K) (h : a.size = b.size) :
    dot a b = .ok (∑ i ∈ Finset.range a.size, a.getD i 0 * b.getD i 0) :=
  ok_of_hom_id (dot_hom scalarHom_id a b h)

end ExactReductions

section ComplexReductions
open Ohsl.RealI Ohsl.Props.C14

theorem toC_scalarHom : ScalarHom toC := ⟨toC_add, toC_mul, toC_zero⟩

/-- `dot` of two complex vectors is the BILINEAR form `Σ aᵢ bᵢ` (no conjugation) -/
theorem dot_complex (a b : Array (Cx ℝ)) (h : a.size = b.size) :
    ∃ d, dot a b = .ok d ∧
      toC d = ∑ i ∈ Finset.range a.size, toC (a.getD i 0) * toC (b.getD i 0) :=
  dot_hom toC_scalarHom a b h

/-- … so `dot [i] [i] = -1`, not `1` -/
example : ∃ d, dot (#[⟨0, 1⟩] : Array (Cx ℝ)) #[⟨0, 1⟩] = .ok d ∧ toC d = -1 := by
  obtain ⟨d, hd, e⟩ := dot_complex #[⟨0, 1⟩] #[⟨0, 1⟩] rfl
  refine ⟨d, hd, ?_⟩
  rw [e]
  have : toC (⟨0, 1⟩ : Cx ℝ) = Complex.I := rfl
  simp [this]

theorem sum_complex (a : Array (Cx ℝ)) (h : 0 < a.size) :
    ∃ r, Vec.sum a = .ok r ∧ toC r = ∑ i ∈ Finset.range a.size, toC (a.getD i 0) :=
  sum_hom toC_scalarHom a h

theorem sumSlice_complex (a : Array (Cx ℝ)) (s e : Nat) (hse : s ≤ e) (he : e < a.size) :
    ∃ r, sumSlice a s e = .ok r ∧ toC r = ∑ i ∈ Finset.Icc s e, toC (a.getD i 0) :=
  sumSlice_hom toC_scalarHom a s e hse he

theorem product_complex (a : Array (Cx ℝ)) (h : 0 < a.size) :
    ∃ r, product a = .ok r ∧ toC r = ∏ i ∈ Finset.range a.size, toC (a.getD i 0) :=
  product_hom toC_scalarHom a h

theorem productSlice_complex (a : Array (Cx ℝ)) (s e : Nat) (hse : s ≤ e) (he : e < a.size) :
    ∃ r, productSlice a s e = .ok r ∧ toC r = ∏ i ∈ Finset.Icc s e, toC (a.getD i 0) :=
  productSlice_hom toC_scalarHom a s e hse he

/-- `Signed::abs` of a complex number is its modulus with zero imaginary part -/
theorem toC_mag (z : Cx ℝ) : toC (ScalarExt.mag z) = ((‖toC z‖ : ℝ) : ℂ) := by
  show toC ⟨Cx.abs z, 0⟩ = _
  rw [abs_eq]; rfl

/-- `norm_1` of a complex vector is the (real) sum of the moduli -/
theorem norm1_complex (a : Array (Cx ℝ)) :
    toC (norm1 a) = ((∑ i ∈ Finset.range a.size, ‖toC (a.getD i 0)‖ : ℝ) : ℂ) := by
  rw [norm1_hom toC_scalarHom]
  simp [toC_mag]

end ComplexReductions

section NormInfBy
open Ohsl.RealI Ohsl.Props.C14

/-- `norm_inf` of a non-empty complex vector is the largest modulus of its entries -/
theorem normInfC_spec (a : Array (Cx ℝ)) (h : 0 < a.size) :
    ∃ m, Vec.normInfC a = .ok m ∧ (∀ i (hi : i < a.size), ‖toC a[i]‖ ≤ m) ∧
      ∃ i, ∃ hi : i < a.size, m = ‖toC a[i]‖ := by
  obtain ⟨m, hm, hle, i, hi, e⟩ := normInfBy_spec (fun z : Cx ℝ => Cx.abs z) a h
  refine ⟨m, hm, fun j hj => ?_, i, hi, ?_⟩
  · rw [← abs_eq]; exact hle j hj
  · rw [← abs_eq]; exact e

theorem normInfC_ok_iff (a : Array (Cx ℝ)) (m : ℝ) :
    Vec.normInfC a = .ok m ↔
      (∀ i (hi : i < a.size), ‖toC a[i]‖ ≤ m) ∧ ∃ i, ∃ hi : i < a.size, m = ‖toC a[i]‖ := by
  unfold Vec.normInfC
  rw [normInfBy_ok_iff]
  simp only [abs_eq]

theorem normInfC_eq_sup' (a : Array (Cx ℝ)) (h : 0 < a.size) :
    Vec.normInfC a = .ok ((Finset.range a.size).sup' ⟨0, Finset.mem_range.mpr h⟩
      (fun i => ‖toC (a.getD i 0)‖)) := by
  rw [normInfC_ok_iff]
  constructor
  · intro i hi
    have := Finset.le_sup' (fun i => ‖toC (a.getD i 0)‖) (Finset.mem_range.mpr hi)
    simpa [Array.getD, hi] using this
  · obtain ⟨i, hi, e⟩ := Finset.exists_mem_eq_sup' ⟨0, Finset.mem_range.mpr h⟩
      (fun i => ‖toC (a.getD i 0)‖)
    have hi' : i < a.size := Finset.mem_range.mp hi
    refine ⟨i, hi', ?_⟩
    rw [e]
    simp [Array.getD, hi']

theorem normInfC_empty : Vec.normInfC (#[] : Array (Cx ℝ)) = .error .range :=
  normInfBy_empty _

theorem normInfC_nonneg {a : Array (Cx ℝ)} {m : ℝ} (h : Vec.normInfC a = .ok m) : 0 ≤ m := by
  obtain ⟨_, i, hi, rfl⟩ := (normInfC_ok_iff a m).mp h
  exact norm_nonneg _

end NormInfBy

section ComplexEntries
variable {K : Type}

theorem conj_contents [Neg K] (a : Array (Cx K)) (k : Nat) : (conj a)[k]? = a[k]?.map Cx.conj :=
  Array.getElem?_map
theorem real_contents (a : Array (Cx K)) (k : Nat) : (real a)[k]? = a[k]?.map (·.re) :=
  Array.getElem?_map

end ComplexEntries

section ComplexVec
variable {K : Type} [Add K] [Sub K] [Mul K] [Neg K] [Zero K] [One K] [BEq K] [ScalarExt K]

theorem conj_real_size (a : Array (Cx K)) : (conj a).size = a.size ∧ (real a).size = a.size :=
  ⟨Array.size_map, Array.size_map⟩

/-- conjugation does not touch the real parts (class S) -/
theorem real_conj (a : Array (Cx K)) : real (conj a) = real a :=
  Array.map_map

/-- `f64 * vector`: the scalar is the LEFT factor -/
theorem lsmul_contents [Transc K] (s : K) (a : Array K) (k : Nat) :
    (lsmul s a)[k]? = a[k]?.map (s * ·) :=
  Array.getElem?_map

end ComplexVec

/-- conjugating twice is the identity wherever `- - x = x` (class E) -/
theorem conj_conj {K : Type} [Ring K] [BEq K] [ScalarExt K] (a : Array (Cx K)) :
    conj (conj a) = a := by
  have h : Cx.conj ∘ Cx.conj = (id : Cx K → Cx K) :=
    funext fun z => congrArg (Cx.mk z.re) (neg_neg z.im)
  rw [conj, conj, Array.map_map, h, Array.map_id]

theorem getElem?_map_through {α β γ : Type} {g : α → β} {φ : β → γ} {ψ : α → γ}
    (h : ∀ z, φ (g z) = ψ z) (a : Array α) (k : Nat) : (a.map g)[k]?.map φ = a[k]?.map ψ := by
  rw [Array.getElem?_map, Option.map_map]
  exact congrArg (Option.map · a[k]?) (funext h)

section ComplexVecReal
open Ohsl.RealI Ohsl.Props.C14 Ohsl.Props.C13

/-- `conj` is entry-wise complex conjugation -/
theorem conj_toC (a : Array (Cx ℝ)) (k : Nat) :
    (conj a)[k]?.map toC = a[k]?.map (fun z => (starRingEnd ℂ) (toC z)) :=
  getElem?_map_through toC_conj a k

/-- `real` takes the real parts -/
theorem real_toC (a : Array (Cx ℝ)) (k : Nat) :
    (real a)[k]? = a[k]?.map (fun z => (toC z).re) :=
  real_contents a k

/-- `abs` of a complex vector: every entry becomes its modulus, as a complex number with zero
    imaginary part -/
theorem abs_complex (a : Array (Cx ℝ)) (k : Nat) :
    (Vec.abs a)[k]?.map toC = a[k]?.map (fun z => ((‖toC z‖ : ℝ) : ℂ)) :=
  getElem?_map_through toC_mag a k

theorem abs_complex_im (a : Array (Cx ℝ)) (z : Cx ℝ) (hz : z ∈ Vec.abs a) : z.im = 0 := by
  obtain ⟨w, _, rfl⟩ := Array.mem_map.mp hz
  rfl

theorem neg_toC (a : Array (Cx ℝ)) (k : Nat) :
    (neg a)[k]?.map toC = a[k]?.map (fun z => -toC z) :=
  getElem?_map_through toC_neg a k

theorem smul_toC (a : Array (Cx ℝ)) (s : Cx ℝ) (k : Nat) :
    (smul a s)[k]?.map toC = a[k]?.map (fun z => toC z * toC s) :=
  getElem?_map_through (toC_mul · s) a k

theorem addS_subS_toC (a : Array (Cx ℝ)) (s : Cx ℝ) (k : Nat) :
    (addS a s)[k]?.map toC = a[k]?.map (fun z => toC z + toC s) ∧
    (subS a s)[k]?.map toC = a[k]?.map (fun z => toC z - toC s) :=
  ⟨getElem?_map_through (toC_add · s) a k, getElem?_map_through (toC_sub · s) a k⟩

theorem add_sub_toC (a b c : Array (Cx ℝ)) (k : Nat) (h1 : k < a.size) (h2 : k < b.size) :
    (add a b = .ok c → c[k]?.map toC = some (toC a[k] + toC b[k])) ∧
    (sub a b = .ok c → c[k]?.map toC = some (toC a[k] - toC b[k])) := by
  constructor
  · intro h
    rw [(add_contents a b c h).2.2 k h1 h2]
    exact congrArg some (toC_add _ _)
  · intro h
    rw [(sub_contents a b c h).2.2 k h1 h2]
    exact congrArg some (toC_sub _ _)

/-- `vector / complex scalar`: entry-wise division in ℂ; the divisor `0` is rejected (class
    `arith`) exactly when there is an entry to divide -/
theorem sdiv_complex (a : Array (Cx ℝ)) (s : Cx ℝ) :
    (toC s = 0 ∧ 0 < a.size ∧ sdiv a s = .error .arith) ∨
    ((toC s ≠ 0 ∨ a.size = 0) ∧ ∃ c, sdiv a s = .ok c ∧ c.size = a.size ∧
      ∀ k : Nat, c[k]?.map toC = a[k]?.map (fun z => toC z / toC s)) := by
  by_cases hs : toC s = 0
  · by_cases ha : 0 < a.size
    · exact Or.inl ⟨hs, ha, sdiv_head_error a s _ ha ((toC_div_error _ s).mpr hs)⟩
    · obtain rfl := Array.eq_empty_of_size_eq_zero (Nat.eq_zero_of_not_pos ha)
      exact Or.inr ⟨Or.inr rfl, #[], sdiv_empty s, rfl, fun k => rfl⟩
  · refine Or.inr ⟨Or.inl hs, ?_⟩
    choose g hg1 hg2 using fun z => toC_div_ok z s hs
    exact ⟨a.map g, mapM_ok_arr a _ g (fun x _ => hg1 x), Array.size_map,
      getElem?_map_through hg2 a⟩

example : sdiv (#[⟨1, 2⟩] : Array (Cx ℝ)) ⟨0, 0⟩ = .error .arith := by
  rcases sdiv_complex #[⟨1, 2⟩] ⟨0, 0⟩ with h | h
  · exact h.2.2
  · rcases h.1 with h | h
    · exact absurd rfl h
    · cases h

end ComplexVecReal

end Ohsl.Props.C15
