/-
  Property C14 (continued) — complex functions of the model
  (Ohsl/Model/CxFun.lean) in the real interpretation (Ohsl/Lemmas/RealTransc.lean).
  (A) the reciprocal functions are Mathlib's (convention-free versions away from poles); (B) the
  interpretation's `atan2` is the textbook one; (C) what the model returns for a ZERO base in `cpow` /
  `cpowf`; (D) real-axis reductions.
-/
import Ohsl.Props.C14I
import Mathlib.Analysis.SpecialFunctions.Trigonometric.Arctan
import Mathlib.Analysis.SpecialFunctions.Arsinh
import Mathlib.Analysis.SpecialFunctions.Artanh
import Mathlib.Analysis.SpecialFunctions.Arcosh
import Mathlib.Analysis.SpecialFunctions.Pow.Complex
import Mathlib.Tactic.Ring
import Mathlib.Tactic.FieldSimp
import Mathlib.Tactic.Linarith
import Mathlib.Tactic.Positivity
namespace Ohsl.Props.C14
open Ohsl Ohsl.Cx Ohsl.RealI Real

/- A. reciprocal functions.
`divT` is the component type's total division.  Over ℝ this is Mathlib's `/` with `x / 0 = 0`,
so the unconditional identifications below say, AT A POLE (denominator `= 0`), only that both
sides are `0` by that convention.  This is NOT what `f64` returns there (`1/0 = ±inf`,
`0/0 = NaN`), and exact poles are not hit by finite floats anyway (π is irrational).  The
`…_mul_…` versions carry the hypothesis that the denominator is non-zero and do not mention
division at all; they determine the value uniquely and do not depend on the convention. -/

theorem csec_eq (z : Cx ℝ) : toC (csec z) = (Complex.cos (toC z))⁻¹ := by
  rw [csec, divT_eq, ccos_eq, toC_one, one_div]

theorem ccsc_eq (z : Cx ℝ) : toC (ccsc z) = (Complex.sin (toC z))⁻¹ := by
  rw [ccsc, divT_eq, csin_eq, toC_one, one_div]

/-- at a zero of cos the model forms `1 / (sin/0) = 1/0 = 0`, f64 forms `1/±inf = 0` -/
theorem ccot_eq (z : Cx ℝ) : toC (ccot z) = Complex.cos (toC z) / Complex.sin (toC z) := by
  rw [ccot, divT_eq, ctan_eq, toC_one, Complex.tan_eq_sin_div_cos, one_div_div]

theorem ccot_eq_inv_tan (z : Cx ℝ) : toC (ccot z) = (Complex.tan (toC z))⁻¹ := by
  rw [ccot, divT_eq, ctan_eq, toC_one, one_div]

theorem csech_eq (z : Cx ℝ) : toC (csech z) = (Complex.cosh (toC z))⁻¹ := by
  rw [csech, divT_eq, ccosh_eq, toC_one, one_div]

theorem ccsch_eq (z : Cx ℝ) : toC (ccsch z) = (Complex.sinh (toC z))⁻¹ := by
  rw [ccsch, divT_eq, csinh_eq, toC_one, one_div]

theorem ccoth_eq (z : Cx ℝ) : toC (ccoth z) = Complex.cosh (toC z) / Complex.sinh (toC z) := by
  rw [ccoth, divT_eq, ctanh_eq, toC_one, Complex.tanh_eq_sinh_div_cosh, one_div_div]

theorem ccoth_eq_inv_tanh (z : Cx ℝ) : toC (ccoth z) = (Complex.tanh (toC z))⁻¹ := by
  rw [ccoth, divT_eq, ctanh_eq, toC_one, one_div]

theorem csec_mul_cos (z : Cx ℝ) (h : Complex.cos (toC z) ≠ 0) :
    toC (csec z) * Complex.cos (toC z) = 1 := by
  rw [csec_eq, inv_mul_cancel₀ h]

theorem ccsc_mul_sin (z : Cx ℝ) (h : Complex.sin (toC z) ≠ 0) :
    toC (ccsc z) * Complex.sin (toC z) = 1 := by
  rw [ccsc_eq, inv_mul_cancel₀ h]

set_option linter.unusedVariables false in
/-- away from the zeros of sin AND of cos (where the intermediate tangent is a genuine quotient) -/
theorem ccot_mul_sin (z : Cx ℝ) (hs : Complex.sin (toC z) ≠ 0) (hc : Complex.cos (toC z) ≠ 0) :
    toC (ccot z) * Complex.sin (toC z) = Complex.cos (toC z) := by
  rw [ccot_eq, div_mul_cancel₀ _ hs]

theorem ccot_mul_tan (z : Cx ℝ) (hs : Complex.sin (toC z) ≠ 0) (hc : Complex.cos (toC z) ≠ 0) :
    toC (ccot z) * toC (ctan z) = 1 := by
  rw [ccot_eq, ctan_eq, Complex.tan_eq_sin_div_cos]
  field_simp

theorem csech_mul_cosh (z : Cx ℝ) (h : Complex.cosh (toC z) ≠ 0) :
    toC (csech z) * Complex.cosh (toC z) = 1 := by
  rw [csech_eq, inv_mul_cancel₀ h]

theorem ccsch_mul_sinh (z : Cx ℝ) (h : Complex.sinh (toC z) ≠ 0) :
    toC (ccsch z) * Complex.sinh (toC z) = 1 := by
  rw [ccsch_eq, inv_mul_cancel₀ h]

set_option linter.unusedVariables false in
theorem ccoth_mul_sinh (z : Cx ℝ) (hs : Complex.sinh (toC z) ≠ 0) (hc : Complex.cosh (toC z) ≠ 0) :
    toC (ccoth z) * Complex.sinh (toC z) = Complex.cosh (toC z) := by
  rw [ccoth_eq, div_mul_cancel₀ _ hs]

theorem ccoth_mul_tanh (z : Cx ℝ) (hs : Complex.sinh (toC z) ≠ 0) (hc : Complex.cosh (toC z) ≠ 0) :
    toC (ccoth z) * toC (ctanh z) = 1 := by
  rw [ccoth_eq, ctanh_eq, Complex.tanh_eq_sinh_div_cosh]
  field_simp

theorem ctan_mul_cos (z : Cx ℝ) (h : Complex.cos (toC z) ≠ 0) :
    toC (ctan z) * Complex.cos (toC z) = Complex.sin (toC z) := by
  rw [ctan_eq, Complex.tan_eq_sin_div_cos, div_mul_cancel₀ _ h]

theorem ctanh_mul_cosh (z : Cx ℝ) (h : Complex.cosh (toC z) ≠ 0) :
    toC (ctanh z) * Complex.cosh (toC z) = Complex.sinh (toC z) := by
  rw [ctanh_eq, Complex.tanh_eq_sinh_div_cosh, div_mul_cancel₀ _ h]

/-- the non-vanishing hypotheses above are satisfiable (z = 1 + i) -/
example : Complex.sin (toC ⟨1, 1⟩) ≠ 0 ∧ Complex.cos (toC ⟨1, 1⟩) ≠ 0 ∧
    Complex.sinh (toC ⟨1, 1⟩) ≠ 0 ∧ Complex.cosh (toC ⟨1, 1⟩) ≠ 0 := by
  have h1 : Real.sin 1 ≠ 0 := (Real.sin_pos_of_pos_of_lt_pi one_pos (by linarith [Real.two_le_pi])).ne'
  have h2 : Real.cos 1 ≠ 0 := Real.cos_one_pos.ne'
  have h3 : Real.sinh 1 ≠ 0 := (Real.sinh_pos_iff.mpr one_pos).ne'
  have h4 : Real.cosh 1 ≠ 0 := (Real.cosh_pos 1).ne'
  -- each value has a non-zero real part: `sin 1 cosh 1`, `cos 1 cosh 1`, `sinh 1 cos 1`, `cosh 1 cos 1`
  have re_ne : ∀ {w : ℂ}, w.re ≠ 0 → w ≠ 0 := fun h e => h (e ▸ rfl)
  refine ⟨?_, ?_, ?_, ?_⟩
  · rw [← csin_eq]; exact re_ne (by simp [toC, csin, Transc.sin, Transc.cosh, h1, h4])
  · rw [← ccos_eq]; exact re_ne (by simp [toC, ccos, Transc.cos, Transc.cosh, h2, h4])
  · rw [← csinh_eq]; exact re_ne (by simp [toC, csinh, Transc.sinh, Transc.cos, h2, h3])
  · rw [← ccosh_eq]; exact re_ne (by simp [toC, ccosh, Transc.cosh, Transc.cos, h2, h4])

/- B. the interpretation's `atan2`.
`Ohsl/Lemmas/RealTransc.lean` DEFINES `Transc.atan2 y x := Complex.arg ⟨x, y⟩`, which makes
`arg_eq` a `rfl`.  The theorems below characterise that function independently of `Complex.arg`:
it is the textbook two-argument arctangent, which is what `f64::atan2` implements (signed zeros
aside: ℝ has one zero, so `atan2 (-0.0) x` for `x < 0`, which is `-π` in IEEE, is not
represented). -/

theorem atan2_def (y x : ℝ) : Transc.atan2 y x = Complex.arg ⟨x, y⟩ := rfl

/-- right half plane: `atan2 y x = arctan (y/x)` -/
theorem atan2_pos (y x : ℝ) (hx : 0 < x) : Transc.atan2 y x = Real.arctan (y / x) := by
  rw [atan2_def]
  exact CFun.arg_of_re_pos (w := ⟨x, y⟩) hx

/-- second quadrant and negative real axis: `atan2 y x = arctan (y/x) + π` -/
theorem atan2_neg_nonneg (y x : ℝ) (hx : x < 0) (hy : 0 ≤ y) :
    Transc.atan2 y x = Real.arctan (y / x) + π := by
  have h := atan2_pos (-y) (-x) (neg_pos.mpr hx)
  rw [neg_div_neg_eq, atan2_def, show (⟨-x, -y⟩ : ℂ) = -⟨x, y⟩ from rfl,
    Complex.arg_neg_eq_arg_sub_pi_iff.mpr (hy.lt_or_eq.imp id fun e => ⟨e.symm, hx⟩)] at h
  rw [atan2_def, ← h, sub_add_cancel]

/-- third quadrant: `atan2 y x = arctan (y/x) − π` -/
theorem atan2_neg_neg (y x : ℝ) (hx : x < 0) (hy : y < 0) :
    Transc.atan2 y x = Real.arctan (y / x) - π := by
  have h := atan2_pos (-y) (-x) (neg_pos.mpr hx)
  rw [neg_div_neg_eq, atan2_def, show (⟨-x, -y⟩ : ℂ) = -⟨x, y⟩ from rfl,
    Complex.arg_neg_eq_arg_add_pi_of_im_neg hy] at h
  rw [atan2_def, ← h, add_sub_cancel_right]

theorem atan2_zero_pos (y : ℝ) (hy : 0 < y) : Transc.atan2 y 0 = π / 2 := by
  rw [atan2_def]
  have : (⟨0, y⟩ : ℂ) = (y : ℂ) * Complex.I := by apply Complex.ext <;> simp
  rw [this, Complex.arg_real_mul _ hy, Complex.arg_I]

theorem atan2_zero_neg (y : ℝ) (hy : y < 0) : Transc.atan2 y 0 = -(π / 2) := by
  rw [atan2_def]
  have : (⟨0, y⟩ : ℂ) = ((-y : ℝ) : ℂ) * (-Complex.I) := by apply Complex.ext <;> simp
  rw [this, Complex.arg_real_mul _ (by linarith), Complex.arg_neg_I]

/-- IEEE `atan2(+0, +0) = +0` as well -/
theorem atan2_zero_zero : Transc.atan2 (0 : ℝ) 0 = 0 := by
  rw [atan2_def]
  exact Complex.arg_zero

theorem atan2_range (y x : ℝ) : -π < Transc.atan2 y x ∧ Transc.atan2 y x ≤ π :=
  ⟨Complex.neg_pi_lt_arg _, Complex.arg_le_pi _⟩

/-- the six cases determine `atan2`, hence `Cx.arg`, without reference to `Complex.arg` -/
theorem arg_cases (z : Cx ℝ) :
    Cx.arg z =
      if 0 < z.re then Real.arctan (z.im / z.re)
      else if z.re < 0 then (if 0 ≤ z.im then Real.arctan (z.im / z.re) + π
        else Real.arctan (z.im / z.re) - π)
      else if 0 < z.im then π / 2 else if z.im < 0 then -(π / 2) else 0 := by
  show Transc.atan2 z.im z.re = _
  rcases lt_trichotomy z.re 0 with h | h | h
  · rw [if_neg h.not_gt, if_pos h]
    split_ifs with h3
    exacts [atan2_neg_nonneg _ _ h h3, atan2_neg_neg _ _ h (not_le.mp h3)]
  · rw [h, if_neg (lt_irrefl _), if_neg (lt_irrefl _)]
    split_ifs with h4 h5
    · exact atan2_zero_pos _ h4
    · exact atan2_zero_neg _ h5
    · rw [le_antisymm (not_lt.mp h4) (not_lt.mp h5)]; exact atan2_zero_zero
  · rw [if_pos h]; exact atan2_pos _ _ h

/- C. zero base in `cpow` / `cpowf`.
`cpow_spec`, `cpowf_spec`, `cpow_eq_cpow` assume `toC z ≠ 0`.  For `z = 0` the model evaluates
`r2 = 0`, `th = atan2 0 0 = 0`, `powf 0 (w.re/2)`, and `ln 0`.  In the real interpretation
`Real.log 0 = 0` and `0 ^ y = if y = 0 then 1 else 0` (Mathlib conventions), which gives the
values below.  CAVEAT (class F, not provable here): in `f64`, `ln 0 = -inf`, so `cpow` with a zero
base forms `cos (±inf)` or `0 · (-inf)` and returns NaN + NaN i for EVERY exponent, and
`powf 0 (negative) = +inf`; the real-interpretation values for `cpow` at a zero base therefore say
nothing about `f64`.  For `cpowf` (which does not call `ln`) the values below agree with `f64` for
`x ≥ 0` (`0^0 = 1`, `0^x = 0`) and differ for `x < 0` (`f64`: `inf + NaN i`). -/

/-- the model's `0 ^ w` over ℝ: `1` when `Re w = 0` (whatever `Im w` is), `0` otherwise -/
theorem cpow_zero_base (z w : Cx ℝ) (hz : toC z = 0) :
    cpow z w = if w.re = 0 then ⟨1, 0⟩ else ⟨0, 0⟩ := by
  obtain rfl : z = ⟨0, 0⟩ := toC_inj.mp hz
  have ha : Complex.arg ⟨0, 0⟩ = 0 := Complex.arg_zero
  by_cases h : w.re = 0 <;>
    simp [cpow, Cx.absSqr, Cx.arg, Transc.powf, Transc.exp, Transc.cos, Transc.sin, Transc.ln,
      Transc.atan2, Transc.half, ha, h]

/-- the model's `0 ^ x` (real exponent) over ℝ: `1` for `x = 0`, `0` otherwise -/
theorem cpowf_zero_base (z : Cx ℝ) (x : ℝ) (hz : toC z = 0) :
    cpowf z x = if x = 0 then ⟨1, 0⟩ else ⟨0, 0⟩ := by
  rw [cpowf_as_cpow, cpow_zero_base z _ hz]

/-- with `cpow_eq_cpow`: for a zero base the model agrees with Mathlib's `0 ^ w`
    (`= if w = 0 then 1 else 0`) EXCEPT on the non-zero purely imaginary exponents, where the
    model gives `1` and Mathlib `0` -/
theorem cpow_zero_base_eq_cpow_iff (z w : Cx ℝ) (hz : toC z = 0) :
    toC (cpow z w) = toC z ^ toC w ↔ (w.re = 0 → w.im = 0) := by
  rw [cpow_zero_base z w hz, hz]
  by_cases h : w.re = 0
  · by_cases h' : w.im = 0
    · have : toC w = 0 := by apply Complex.ext <;> simp [toC, h, h']
      simp [h, h', this]; rfl
    · have : toC w ≠ 0 := by
        intro e; exact h' (congrArg Complex.im e)
      simp only [h, if_true, Complex.zero_cpow this, h', imp_false, not_true_eq_false, iff_false]
      intro e
      have := congrArg Complex.re e
      simp [toC] at this
  · have : toC w ≠ 0 := by
      intro e; exact h (congrArg Complex.re e)
    simp [h, Complex.zero_cpow this]; rfl

/-- whole-domain statement for `cpow`: Mathlib's principal power unless the base is zero and the
    exponent is non-zero purely imaginary -/
theorem cpow_eq_cpow_of (z w : Cx ℝ) (h : toC z ≠ 0 ∨ (w.re = 0 → w.im = 0)) :
    toC (cpow z w) = toC z ^ toC w := by
  by_cases hz : toC z = 0
  · exact (cpow_zero_base_eq_cpow_iff z w hz).mpr (h.resolve_left (not_not.mpr hz))
  · exact cpow_eq_cpow z w hz

theorem cpowf_eq_cpow (z : Cx ℝ) (x : ℝ) : toC (cpowf z x) = toC z ^ (x : ℂ) := by
  rw [cpowf_as_cpow]
  exact cpow_eq_cpow_of z ⟨x, 0⟩ (Or.inr fun _ => rfl)

/- D. real-axis reductions (continuation of `real_axis`).
All for `z = ⟨x, 0⟩`.  The quotient functions are stated unconditionally; AT A POLE
(`cos x = 0`, `sin x = 0`, `x = 0` for csch/coth) both sides are `0` by Mathlib's `x/0 = 0`
(and `Real.tan x = sin x / cos x = 0` there), which is not what f64 returns — away from the
poles the statements are the genuine ones. -/

theorem eq_of_toC_eq_ofReal {z : Cx ℝ} {r : ℝ} (h : toC z = (r : ℂ)) : z = ⟨r, 0⟩ :=
  toC_inj.mp h

theorem csqrt_real_nonneg (x : ℝ) (hx : 0 ≤ x) : csqrt ⟨x, 0⟩ = ⟨Real.sqrt x, 0⟩ :=
  eq_of_toC_eq_ofReal (by rw [toC_csqrt, toC_ofReal, CFun.sqrt_ofReal hx])

/-- sqrt on the negative real axis: `i √(-x)` (principal branch, upper side of the cut) -/
theorem csqrt_real_neg (x : ℝ) (hx : x < 0) : csqrt ⟨x, 0⟩ = ⟨0, Real.sqrt (-x)⟩ := by
  apply toC_inj.mp
  rw [toC_csqrt, toC_ofReal, CFun.sqrt_ofReal_neg hx]
  apply Complex.ext <;> simp [toC]

theorem cln_real_pos (x : ℝ) (hx : 0 < x) : cln ⟨x, 0⟩ = ⟨Real.log x, 0⟩ := by
  apply eq_of_toC_eq_ofReal
  rw [cln_eq, toC_ofReal, Complex.ofReal_log hx.le]

/-- ln on the negative real axis: `log (-x) + iπ` (principal branch, upper side of the cut) -/
theorem cln_real_neg (x : ℝ) (hx : x < 0) : cln ⟨x, 0⟩ = ⟨Real.log (-x), π⟩ := by
  apply toC_inj.mp
  rw [cln_eq, toC_ofReal]
  apply Complex.ext
  · simp [toC, Complex.log_re]
  · simp [toC, Complex.log_im, Complex.arg_ofReal_of_neg hx]

theorem ctan_real (x : ℝ) : ctan ⟨x, 0⟩ = ⟨Real.tan x, 0⟩ := by
  apply eq_of_toC_eq_ofReal
  rw [ctan_eq, toC_ofReal, Complex.ofReal_tan]

theorem ctanh_real (x : ℝ) : ctanh ⟨x, 0⟩ = ⟨Real.tanh x, 0⟩ := by
  apply eq_of_toC_eq_ofReal
  rw [ctanh_eq, toC_ofReal, Complex.ofReal_tanh]

theorem csec_real (x : ℝ) : csec ⟨x, 0⟩ = ⟨(Real.cos x)⁻¹, 0⟩ := by
  apply eq_of_toC_eq_ofReal
  rw [csec_eq, toC_ofReal, Complex.ofReal_inv, Complex.ofReal_cos]

theorem ccsc_real (x : ℝ) : ccsc ⟨x, 0⟩ = ⟨(Real.sin x)⁻¹, 0⟩ := by
  apply eq_of_toC_eq_ofReal
  rw [ccsc_eq, toC_ofReal, Complex.ofReal_inv, Complex.ofReal_sin]

theorem ccot_real (x : ℝ) : ccot ⟨x, 0⟩ = ⟨Real.cos x / Real.sin x, 0⟩ := by
  apply eq_of_toC_eq_ofReal
  rw [ccot_eq, toC_ofReal, Complex.ofReal_div, Complex.ofReal_cos, Complex.ofReal_sin]

theorem csech_real (x : ℝ) : csech ⟨x, 0⟩ = ⟨(Real.cosh x)⁻¹, 0⟩ := by
  apply eq_of_toC_eq_ofReal
  rw [csech_eq, toC_ofReal, Complex.ofReal_inv, Complex.ofReal_cosh]

theorem ccsch_real (x : ℝ) : ccsch ⟨x, 0⟩ = ⟨(Real.sinh x)⁻¹, 0⟩ := by
  apply eq_of_toC_eq_ofReal
  rw [ccsch_eq, toC_ofReal, Complex.ofReal_inv, Complex.ofReal_sinh]

theorem ccoth_real (x : ℝ) : ccoth ⟨x, 0⟩ = ⟨Real.cosh x / Real.sinh x, 0⟩ := by
  apply eq_of_toC_eq_ofReal
  rw [ccoth_eq, toC_ofReal, Complex.ofReal_div, Complex.ofReal_cosh, Complex.ofReal_sinh]

/-- convention-free forms of the real-axis reciprocals: the value is real and is THE number whose
    product with the non-zero denominator is the numerator -/
theorem reciprocals_real_mul (x : ℝ) :
    (Real.cos x ≠ 0 → (ctan ⟨x, 0⟩).im = 0 ∧ (ctan ⟨x, 0⟩).re * Real.cos x = Real.sin x) ∧
    (Real.cos x ≠ 0 → (csec ⟨x, 0⟩).im = 0 ∧ (csec ⟨x, 0⟩).re * Real.cos x = 1) ∧
    (Real.sin x ≠ 0 → (ccsc ⟨x, 0⟩).im = 0 ∧ (ccsc ⟨x, 0⟩).re * Real.sin x = 1) ∧
    (Real.sin x ≠ 0 → (ccot ⟨x, 0⟩).im = 0 ∧ (ccot ⟨x, 0⟩).re * Real.sin x = Real.cos x) ∧
    ((ctanh ⟨x, 0⟩).im = 0 ∧ (ctanh ⟨x, 0⟩).re * Real.cosh x = Real.sinh x) ∧
    ((csech ⟨x, 0⟩).im = 0 ∧ (csech ⟨x, 0⟩).re * Real.cosh x = 1) ∧
    (x ≠ 0 → (ccsch ⟨x, 0⟩).im = 0 ∧ (ccsch ⟨x, 0⟩).re * Real.sinh x = 1) ∧
    (x ≠ 0 → (ccoth ⟨x, 0⟩).im = 0 ∧ (ccoth ⟨x, 0⟩).re * Real.sinh x = Real.cosh x) := by
  have hc : Real.cosh x ≠ 0 := (Real.cosh_pos x).ne'
  rw [ctan_real, csec_real, ccsc_real, ccot_real, ctanh_real, csech_real, ccsch_real, ccoth_real]
  refine ⟨fun h => ⟨rfl, ?_⟩, fun h => ⟨rfl, ?_⟩, fun h => ⟨rfl, ?_⟩, fun h => ⟨rfl, ?_⟩,
    ⟨rfl, ?_⟩, ⟨rfl, ?_⟩, fun h => ⟨rfl, ?_⟩, fun h => ⟨rfl, ?_⟩⟩
  · show Real.tan x * Real.cos x = Real.sin x
    rw [Real.tan_eq_sin_div_cos, div_mul_cancel₀ _ h]
  · exact inv_mul_cancel₀ h
  · exact inv_mul_cancel₀ h
  · exact div_mul_cancel₀ _ h
  · show Real.tanh x * Real.cosh x = Real.sinh x
    rw [Real.tanh_eq_sinh_div_cosh, div_mul_cancel₀ _ hc]
  · exact inv_mul_cancel₀ hc
  · exact inv_mul_cancel₀ (by rwa [Ne, Real.sinh_eq_zero])
  · exact div_mul_cancel₀ _ (by rwa [Ne, Real.sinh_eq_zero])

theorem casin_real (x : ℝ) (h1 : -1 ≤ x) (h2 : x ≤ 1) : casin ⟨x, 0⟩ = ⟨Real.arcsin x, 0⟩ :=
  eq_of_toC_eq_ofReal (by rw [toC_casin, toC_ofReal, CFun.asin_ofReal x h1 h2])

theorem cacos_real (x : ℝ) (h1 : -1 ≤ x) (h2 : x ≤ 1) : cacos ⟨x, 0⟩ = ⟨Real.arccos x, 0⟩ :=
  eq_of_toC_eq_ofReal (by rw [toC_cacos, toC_ofReal, CFun.acos_ofReal x h1 h2])

theorem catan_real (x : ℝ) : catan ⟨x, 0⟩ = ⟨Real.arctan x, 0⟩ :=
  eq_of_toC_eq_ofReal (by rw [toC_catan, toC_ofReal, CFun.atan_ofReal])

theorem casinh_real (x : ℝ) : casinh ⟨x, 0⟩ = ⟨Real.arsinh x, 0⟩ :=
  eq_of_toC_eq_ofReal (by rw [toC_casinh, toC_ofReal, CFun.asinh_ofReal])

theorem catanh_real (x : ℝ) (h1 : -1 < x) (h2 : x < 1) : catanh ⟨x, 0⟩ = ⟨Real.artanh x, 0⟩ :=
  eq_of_toC_eq_ofReal (by rw [toC_catanh, toC_ofReal, CFun.atanh_ofReal x h1 h2])

theorem cacosh_real (x : ℝ) (h1 : 1 ≤ x) : cacosh ⟨x, 0⟩ = ⟨Real.arcosh x, 0⟩ :=
  eq_of_toC_eq_ofReal (by rw [toC_cacosh, toC_ofReal, CFun.acosh_ofReal x h1])

/-- real exponent, non-negative real base: `Real.rpow` (including `0 ^ 0 = 1`, `0 ^ y = 0`) -/
theorem cpowf_real (x y : ℝ) (hx : 0 ≤ x) : cpowf ⟨x, 0⟩ y = ⟨x ^ y, 0⟩ := by
  apply eq_of_toC_eq_ofReal
  rw [cpowf_eq_cpow, toC_ofReal, Complex.ofReal_cpow hx]

theorem cpow_real (x y : ℝ) (hx : 0 < x) : cpow ⟨x, 0⟩ ⟨y, 0⟩ = ⟨x ^ y, 0⟩ := by
  apply eq_of_toC_eq_ofReal
  have hz : toC (⟨x, 0⟩ : Cx ℝ) ≠ 0 := by
    rw [toC_ofReal]; exact_mod_cast hx.ne'
  rw [cpow_eq_cpow _ _ hz, toC_ofReal, toC_ofReal, Complex.ofReal_cpow hx.le]

/-- `cpow_real` at the zero base (through `Real.log 0 = 0`; f64 returns NaN here, see section C) -/
theorem cpow_real_zero (y : ℝ) : cpow ⟨0, 0⟩ ⟨y, 0⟩ = ⟨(0 : ℝ) ^ y, 0⟩ := by
  rw [cpow_zero_base _ _ rfl]
  by_cases h : y = 0
  · simp [h]
  · simp [h, Real.zero_rpow h]

/-- real exponent, negative real base: `|x|^y (cos πy + i sin πy)` (principal branch) -/
theorem cpowf_real_neg (x y : ℝ) (hx : x < 0) :
    cpowf ⟨x, 0⟩ y = ⟨(-x) ^ y * Real.cos (y * π), (-x) ^ y * Real.sin (y * π)⟩ := by
  have ha : Complex.arg ⟨x, 0⟩ = π := Complex.arg_ofReal_of_neg hx
  have hp : (x * x + 0 * 0 : ℝ) ^ (1 / 2 * y) = (-x) ^ y := by
    rw [show (x * x + 0 * 0 : ℝ) = (-x) ^ (2 : ℝ) by rw [Real.rpow_two]; ring,
      ← Real.rpow_mul (neg_pos.mpr hx).le]
    congr 1; ring
  simp only [cpowf, Cx.absSqr, Cx.arg, Transc.powf, Transc.cos, Transc.sin, Transc.atan2,
    Transc.half, ha, hp]

end Ohsl.Props.C14
