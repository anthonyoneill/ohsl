/-
  Property C06 (sparse matrix views / CSC well-formedness), part H — histories of operations.
  Model: Ohsl/Model/Sparse.lean.  Class (S): ANY scalar type with a `Zero` (the fill value of
  `transpose` / `to_dense`) and a `Mul` (`scale`); no algebraic law is used anywhere in this file,
  so every statement also holds of IEEE floats.

  One packaged refinement theorem: the compressed-sparse-column storage `Sp K`, driven by an
  arbitrary history of `insert` / `scale` / `transpose` calls (`SpOp`, `stepC`, `runC`), refines a
  partial function matrix `Ref K = (rows, cols, Nat → Nat → Option K)` driven by the obvious
  abstract steps (`stepR`, `runR`) through the abstraction `refOf` ("the value `get` finds").  The
  reference entry is `Sp.lookup` of the stored triplets and both sorts are stable, so one step
  refines on ANY well-formed storage (`step_refinesWF`); histories follow by `Sim.foldlM`.
  * one step: `step_refines`, `step_ok_iff`;
  * histories: `history_refines`, `history_wf`, `history_refines_fromTriplets`;
  * all views after a history: `refOf_views`, `history_views`, `history_views_fromTriplets`;
  * `nonzero` counts the stored positions of the reference: `history_nonzero`,
    `history_nonzero_fromTriplets`, `nnz_stepR`.
  Note on `scale`: the code never drops entries, a stored value that becomes zero stays stored
  (`stepR` maps `some x` to `some (x * a)`).
-/
import Ohsl.Props.C06W
import Ohsl.Lemmas.Sim
namespace Ohsl.Props.C06
open Ohsl Ohsl.Sp
variable {K : Type}

/-- the operations of a history -/
inductive SpOp (K : Type) where
  | insert (i j : Nat) (v : K)
  | scale (a : K)
  | transpose

/-- reference model: a partial function matrix -/
structure Ref (K : Type) where
  rows : Nat
  cols : Nat
  ent : Nat → Nat → Option K

theorem Ref.ext_ent {r r' : Ref K} (h1 : r.rows = r'.rows) (h2 : r.cols = r'.cols)
    (h3 : ∀ i j, r.ent i j = r'.ent i j) : r = r' := by
  cases r
  cases r'
  simp only at h1 h2 h3
  subst h1; subst h2
  congr
  funext i j
  exact h3 i j

/-- number of stored positions of the reference matrix -/
def Ref.nnz (r : Ref K) : Nat :=
  ((Finset.range r.rows ×ˢ Finset.range r.cols).filter (fun p => (r.ent p.1 p.2).isSome)).card

section Abstraction
variable [Zero K]

/-- abstraction: shape, and at every position the value of the first slot holding it (this is what
    `get` returns, `get_spec`) -/
def refOf (s : Sp K) : Ref K := ⟨s.rows, s.cols, fun i j => (firstSlot s i j).map s.vl⟩

/-- the reference matrix of a triplet list: first triplet at the position (`Sp.lookup ts`, written
    out) -/
def refOfTriplets (rows cols : Nat) (ts : List (Nat × Nat × K)) : Ref K :=
  ⟨rows, cols, fun i j => (ts.find? (fun t => t.1 == i && t.2.1 == j)).map (·.2.2)⟩

theorem refOf_ent (s : Sp K) (i j : Nat) : (refOf s).ent i j = lookup (trips s) i j :=
  firstSlot_vl_eq_lookup s i j

theorem refOf_outside {s : Sp K} (h : WF s) {i j : Nat} (ho : s.rows ≤ i ∨ s.cols ≤ j) :
    (refOf s).ent i j = none := by
  show (firstSlot s i j).map s.vl = none
  have : firstSlot s i j = none := by
    apply firstSlot_eq_none.mpr
    rintro k hk ⟨rfl, rfl⟩
    exact ho.elim (Nat.not_le_of_lt (h.riLt k hk)) (Nat.not_le_of_lt (h.colOf_lt hk))
  rw [this]; rfl

theorem fromTriplets_refOf (rows cols : Nat) (ts : List (Nat × Nat × K))
    (hr : ∀ t, t ∈ ts → t.1 < rows ∧ t.2.1 < cols) (hnd : PosNodup ts) :
    ∃ s, fromTriplets rows cols ts = .ok s ∧ WF s ∧ C07.NoDup s ∧
      refOf s = refOfTriplets rows cols ts := by
  obtain ⟨s, h1, h2, h3, h4, h6, h7⟩ := fromTriplets_lookup rows cols ts hr
  exact ⟨s, h1, h2, noDup_of_posNodup h2 (h6 ▸ hnd.perm (sortByCol_perm ts).symm),
    Ref.ext_ent h3 h4 fun i j => by rw [refOf_ent, h7]; rfl⟩

theorem toDense_refOf {s : Sp K} (h : WF s) (hnd : C07.NoDup s) :
    ∃ d, toDense s = .ok d ∧
      Mat.Is d s.rows s.cols (fun i j => ((refOf s).ent i j).getD 0) :=
  h.toDense_firstSlot fun _ _ hk hk' => C07.slot_inj h hnd hk hk'

/-- **all views of a well-formed duplicate-free storage describe its reference matrix**:
    `get` returns the reference entry (index panic outside the shape), `to_triplets` lists exactly
    the stored positions of the reference (each once, `nonzero` many), `col_index` gives the column
    of every stored triplet, `to_dense` is the reference matrix with `0` for the empty positions -/
theorem refOf_views {s : Sp K} (h : WF s) (hnd : C07.NoDup s) :
    (∀ i j, i < s.rows → j < s.cols → get s i j = .ok ((refOf s).ent i j)) ∧
    (∀ i j, s.rows ≤ i ∨ s.cols ≤ j → get s i j = .error .range ∧ (refOf s).ent i j = none) ∧
    (∃ l, toTriplets s = .ok l ∧ l.length = s.nonzero ∧ PosNodup l ∧
      (∀ i j v, (i, j, v) ∈ l ↔ (refOf s).ent i j = some v) ∧
      ∃ ci, colIndex s = .ok ci ∧ ci.size = s.nonzero ∧
        ∀ k, k < s.nonzero → ∃ c, ci[k]? = some c ∧ c < s.cols ∧ s.ri k < s.rows ∧
          l[k]? = some (s.ri k, c, s.vl k) ∧ (refOf s).ent (s.ri k) c = some (s.vl k)) ∧
    (∃ d, toDense s = .ok d ∧
      Mat.Is d s.rows s.cols (fun i j => ((refOf s).ent i j).getD 0)) := by
  refine ⟨fun i j hi hj => h.get_spec hi hj, ?_, ?_, toDense_refOf h hnd⟩
  · intro i j ho
    exact ⟨get_outside s i j ho, refOf_outside h ho⟩
  · obtain ⟨ci, c1, c2, c3⟩ := h.colIndex_spec
    refine ⟨trips s, h.toTriplets_spec, length_trips s, posNodup_trips h hnd,
      fun i j v => (firstSlot_vl_eq_some_iff h hnd i j v).symm, ci, c1, c2, ?_⟩
    intro k hk
    refine ⟨s.colOf k, c3 k hk, h.colOf_lt hk, h.riLt k hk, getElem?_trips s hk, ?_⟩
    exact (firstSlot_vl_eq_some_iff h hnd _ _ _).mpr (mem_trips.mpr ⟨k, hk, rfl⟩)

theorem nonzero_eq_nnz {s : Sp K} (h : WF s) (hnd : C07.NoDup s) : s.nonzero = (refOf s).nnz := by
  have himg : ((Finset.range (refOf s).rows ×ˢ Finset.range (refOf s).cols).filter
      (fun p => ((refOf s).ent p.1 p.2).isSome)) =
      (Finset.range s.nonzero).image (fun k => (s.ri k, s.colOf k)) := by
    ext p
    simp only [Finset.mem_filter, Finset.mem_product, Finset.mem_range, Finset.mem_image]
    constructor
    · intro ⟨_, hs⟩
      have hs' : ((firstSlot s p.1 p.2).map s.vl).isSome = true := hs
      cases hf : firstSlot s p.1 p.2 with
      | none => rw [hf] at hs'; cases hs'
      | some k =>
        obtain ⟨a, ⟨b1, b2⟩, _⟩ := firstSlot_eq_some.mp hf
        exact ⟨k, a, by rw [b1, b2]⟩
    · intro ⟨k, hk, e⟩
      subst e
      refine ⟨⟨h.riLt k hk, h.colOf_lt hk⟩, ?_⟩
      show ((firstSlot s (s.ri k) (s.colOf k)).map s.vl).isSome = true
      cases hf : firstSlot s (s.ri k) (s.colOf k) with
      | none => exact absurd ⟨rfl, rfl⟩ (firstSlot_eq_none.mp hf k hk)
      | some k0 => rfl
  unfold Ref.nnz
  rw [himg, Finset.card_image_of_injOn, Finset.card_range]
  intro k hk k' hk' e
  exact C07.slot_inj h hnd (Finset.mem_range.mp (Finset.mem_coe.mp hk))
    (Finset.mem_range.mp (Finset.mem_coe.mp hk')) (congrArg Prod.fst e) (congrArg Prod.snd e)

/-- refinement of outcomes: success with a well-formed, duplicate-free storage that abstracts to
    the reference state, or a rejected reference step and an index panic -/
def Refines : Res (Sp K) → Option (Ref K) → Prop
  | x, some r => ∃ s', x = .ok s' ∧ WF s' ∧ C07.NoDup s' ∧ refOf s' = r
  | x, none => x = .error .range

/-- the state relation of the refinement: with duplicate-freeness (`Refines`, `refines_iff`) … -/
def RelS (s : Sp K) (r : Ref K) : Prop := WF s ∧ C07.NoDup s ∧ refOf s = r

/-- … and without: a position may be stored twice, `refOf` reads its first slot -/
def RelWF (s : Sp K) (r : Ref K) : Prop := WF s ∧ refOf s = r

theorem refines_iff {c : Res (Sp K)} {o : Option (Ref K)} :
    Refines c o ↔ Sim.Out RelS (fun c => c = .error .range) c o := by
  cases o <;> exact Iff.rfl

end Abstraction

section S
variable [Zero K] [Mul K]

/-- concrete step: the MODEL functions -/
def stepC (s : Sp K) : SpOp K → Res (Sp K)
  | .insert i j v => Sp.insert s i j v
  | .scale a => Sp.scale s a
  | .transpose => Sp.transpose s

/-- reference step: `insert` sets an in-range position (and is rejected otherwise), `scale`
    multiplies every stored value (nothing is dropped), `transpose` swaps -/
def stepR (r : Ref K) : SpOp K → Option (Ref K)
  | .insert i j v =>
    if i < r.rows ∧ j < r.cols then
      some ⟨r.rows, r.cols, fun i' j' => if i' = i ∧ j' = j then some v else r.ent i' j'⟩
    else none
  | .scale a => some ⟨r.rows, r.cols, fun i j => (r.ent i j).map (· * a)⟩
  | .transpose => some ⟨r.cols, r.rows, fun i j => r.ent j i⟩

/-- growth of the number of stored positions caused by an accepted operation on the reference `r`:
    1 for an `insert` at an empty position, 0 otherwise (overwrite, `scale`, `transpose`) -/
def growth (r : Ref K) : SpOp K → Nat
  | .insert i j _ => if (r.ent i j).isSome then 0 else 1
  | _ => 0

/-- a history on the storage (`?` after every call: the first panic aborts) -/
def runC (ops : List (SpOp K)) (s : Sp K) : Res (Sp K) := ops.foldlM stepC s

/-- the same history on the reference -/
def runR (ops : List (SpOp K)) (r : Ref K) : Option (Ref K) := ops.foldlM stepR r

/-- one operation refines the reference step on EVERY well-formed storage: the reference matrix is
    what `get` returns (the first slot of a position), `insert` overwrites that slot, and both sorts
    are stable, so the first triplet at a position stays the first (Lemmas/SparseLookup) -/
theorem step_refinesWF {s : Sp K} (h : WF s) (op : SpOp K) :
    Sim.Out RelWF (fun c => c = .error .range) (stepC s op) (stepR (refOf s) op) := by
  cases op with
  | insert i j v =>
    by_cases hin : i < s.rows ∧ j < s.cols
    · rw [show stepR (refOf s) (.insert i j v) = some _ from if_pos hin]
      obtain ⟨s', e, h', r1, r2, hl⟩ := h.insert_lookup hin.1 hin.2 v
      exact ⟨s', e, h', Ref.ext_ent r1 r2 fun a b =>
        (refOf_ent s' a b).trans ((hl a b).trans (by rw [← refOf_ent]))⟩
    · rw [show stepR (refOf s) (.insert i j v) = none from if_neg hin]
      exact insert_outside s i j v (not_lt_and hin)
  | scale a =>
    exact ⟨_, scale_eq s h.valSize a, h.with_val _ (Array.size_map ..), Ref.ext_ent rfl rfl
      fun i j => (refOf_ent _ i j).trans
        ((lookup_trips_map h.valSize (· * a) i j).trans (by rw [← refOf_ent]))⟩
  | transpose =>
    obtain ⟨t, e, h', r1, r2, hl⟩ := h.transpose_lookup
    exact ⟨t, e, h', Ref.ext_ent r1 r2 fun i j =>
      (refOf_ent t i j).trans ((hl i j).trans (refOf_ent s j i).symm)⟩

theorem step_noDup {s s' : Sp K} (h : WF s) (hnd : C07.NoDup s) (op : SpOp K)
    (hs : stepC s op = .ok s') (h' : WF s') : C07.NoDup s' := by
  have hp := posNodup_trips h hnd
  cases op with
  | insert i j v =>
    by_cases hin : i < s.rows ∧ j < s.cols
    · cases hf : firstSlot s i j with
      | some k => cases (h.insert_hit hin.1 hin.2 v hf).symm.trans hs; exact hnd
      | none =>
        have hn := firstSlot_eq_none.mp hf
        obtain ⟨s'', h1, _, _, _, _, n2⟩ := insert_new h hin.1 hin.2 v hn
        cases h1.symm.trans hs
        refine noDup_of_posNodup h' ?_
        rw [Except.ok.inj (h'.toTriplets_spec.symm.trans n2)]
        refine PosNodup.perm ((List.perm_append_singleton _ _).symm.trans (sortByCol_perm _).symm)
          (posNodup_cons.mpr ⟨fun u hu hpos => ?_, hp⟩)
        obtain ⟨k, hk, rfl⟩ := mem_trips.mp hu
        exact hn k hk hpos
    · cases (insert_outside s i j v (not_lt_and hin)).symm.trans hs
  | scale a => cases (scale_eq s h.valSize a).symm.trans hs; exact hnd
  | transpose =>
    obtain ⟨t, h1, _, _, _, _, h6⟩ := h.transpose_trips
    cases h1.symm.trans hs
    refine noDup_of_posNodup h' (h6 ▸ PosNodup.perm (sortByCol_perm _).symm ?_)
    unfold PosNodup at hp ⊢
    have e : (((trips s).map swapT).map fun t => (t.1, t.2.1)) =
        ((trips s).map fun t => (t.1, t.2.1)).map Prod.swap := by
      rw [List.map_map, List.map_map]; rfl
    rw [e]
    exact hp.map Prod.swap_injective

/-- **one operation refines the reference step**: for well-formed duplicate-free storage the model
    call succeeds iff the reference step is defined; then the result is again well formed and
    duplicate free and abstracts to the reference result.  If the reference step rejects (an
    out-of-range `insert`), the call is an index panic (no new state). -/
theorem step_refines {s : Sp K} (h : WF s) (hnd : C07.NoDup s) (op : SpOp K) :
    Refines (stepC s op) (stepR (refOf s) op) := by
  have R := step_refinesWF h op
  cases hr : stepR (refOf s) op with
  | none => rw [hr] at R; exact R
  | some r =>
    rw [hr] at R
    obtain ⟨s', e, h', rfl⟩ := R
    exact ⟨s', e, h', step_noDup h hnd op e h', rfl⟩

/-- the call succeeds iff the reference step is defined (and only `insert` can be rejected:
    exactly when the position is out of range) -/
theorem step_ok_iff {s : Sp K} (h : WF s) (hnd : C07.NoDup s) (op : SpOp K) :
    ((∃ s', stepC s op = .ok s') ↔ (stepR (refOf s) op).isSome) ∧
    ((stepR (refOf s) op).isSome ↔
      match op with
      | .insert i j _ => i < s.rows ∧ j < s.cols
      | _ => True) := by
  have R := step_refines h hnd op
  constructor
  · cases hr : stepR (refOf s) op with
    | none =>
      rw [hr] at R
      have R' : stepC s op = .error .range := R
      simp [R']
    | some r =>
      rw [hr] at R
      obtain ⟨s', e, _⟩ := R
      simp [e]
  · cases op with
    | insert i j v =>
      by_cases hin : i < s.rows ∧ j < s.cols
      · have hin' : i < (refOf s).rows ∧ j < (refOf s).cols := hin
        simp [stepR, hin', hin]
      · have hin' : ¬ (i < (refOf s).rows ∧ j < (refOf s).cols) := hin
        simp only [stepR, hin', if_false, hin]
        simp
    | scale a => simp [stepR]
    | transpose => simp [stepR]

/-- **arbitrary histories** from ANY well-formed duplicate-free storage (e.g. raw arrays whose rows
    are in any order inside a column): by induction over the operation list, the model's storage
    after the history is well formed, duplicate free and abstracts to the reference matrix put
    through the same history; the history panics (index panic) iff the reference rejects it -/
theorem history_refines (ops : List (SpOp K)) : ∀ {s : Sp K}, WF s → C07.NoDup s →
    Refines (runC ops s) (runR ops (refOf s)) := fun h hnd =>
  refines_iff.2 (Sim.foldlM (Sim.fails_eq _) ops
    (fun op _ _ _ hs => refines_iff.1 (hs.2.2 ▸ step_refines hs.1 hs.2.1 op)) ⟨h, hnd, rfl⟩)

/-- well-formedness and duplicate-freeness are invariant under every history that does not panic -/
theorem history_wf (ops : List (SpOp K)) {s s' : Sp K} (h : WF s) (hnd : C07.NoDup s)
    (hrun : runC ops s = .ok s') : WF s' ∧ C07.NoDup s' := by
  obtain ⟨_, _, h1, h2, _⟩ :=
    (refines_iff.1 (history_refines ops h hnd)).of_ok (Sim.fails_eq _) hrun
  exact ⟨h1, h2⟩

/-- **arbitrary histories starting from `from_triplets`** -/
theorem history_refines_fromTriplets (rows cols : Nat) (ts : List (Nat × Nat × K))
    (hr : ∀ t, t ∈ ts → t.1 < rows ∧ t.2.1 < cols) (hnd : PosNodup ts) (ops : List (SpOp K)) :
    Refines (fromTriplets rows cols ts >>= fun s => runC ops s)
      (runR ops (refOfTriplets rows cols ts)) := by
  obtain ⟨s, h1, h2, h3, h4⟩ := fromTriplets_refOf rows cols ts hr hnd
  rw [h1, ← h4]
  exact history_refines ops h2 h3

/-- **packaged history theorem**: start from any well-formed duplicate-free storage, run any
    history.  If the reference accepts the history (result `r`), the model run succeeds with a
    well-formed duplicate-free storage of the reference shape on which `get`, `to_triplets`,
    `col_index` and `to_dense` all describe `r`; if the reference rejects it, the model run is an
    index panic. -/
theorem history_views (ops : List (SpOp K)) {s : Sp K} (h : WF s) (hnd : C07.NoDup s) :
    (∀ r, runR ops (refOf s) = some r →
      ∃ s', runC ops s = .ok s' ∧ WF s' ∧ C07.NoDup s' ∧ s'.rows = r.rows ∧ s'.cols = r.cols ∧
        (∀ i j, i < r.rows → j < r.cols → get s' i j = .ok (r.ent i j)) ∧
        (∀ i j, r.rows ≤ i ∨ r.cols ≤ j → get s' i j = .error .range ∧ r.ent i j = none) ∧
        (∃ l, toTriplets s' = .ok l ∧ l.length = s'.nonzero ∧ PosNodup l ∧
          (∀ i j v, (i, j, v) ∈ l ↔ r.ent i j = some v) ∧
          ∃ ci, colIndex s' = .ok ci ∧ ci.size = s'.nonzero ∧
            ∀ k, k < s'.nonzero → ∃ c, ci[k]? = some c ∧ c < r.cols ∧ s'.ri k < r.rows ∧
              l[k]? = some (s'.ri k, c, s'.vl k) ∧ r.ent (s'.ri k) c = some (s'.vl k)) ∧
        (∃ d, toDense s' = .ok d ∧ Mat.Is d r.rows r.cols (fun i j => (r.ent i j).getD 0))) ∧
    (runR ops (refOf s) = none → runC ops s = .error .range) := by
  have R := history_refines ops h hnd
  constructor
  · intro r hr
    rw [hr] at R
    obtain ⟨s', e, h', hnd', rfl⟩ := R
    obtain ⟨v1, v2, v3, v4⟩ := refOf_views h' hnd'
    exact ⟨s', e, h', hnd', rfl, rfl, v1, v2, v3, v4⟩
  · intro hr
    rw [hr] at R
    exact R

/-- the packaged theorem for histories that start with `from_triplets` (in-range triplets with
    pairwise distinct positions, in any order) -/
theorem history_views_fromTriplets (rows cols : Nat) (ts : List (Nat × Nat × K))
    (hr : ∀ t, t ∈ ts → t.1 < rows ∧ t.2.1 < cols) (hnd : PosNodup ts) (ops : List (SpOp K)) :
    (∀ r, runR ops (refOfTriplets rows cols ts) = some r →
      ∃ s', (fromTriplets rows cols ts >>= fun s => runC ops s) = .ok s' ∧ WF s' ∧
        C07.NoDup s' ∧ s'.rows = r.rows ∧ s'.cols = r.cols ∧
        (∀ i j, i < r.rows → j < r.cols → get s' i j = .ok (r.ent i j)) ∧
        (∀ i j, r.rows ≤ i ∨ r.cols ≤ j → get s' i j = .error .range ∧ r.ent i j = none) ∧
        (∃ l, toTriplets s' = .ok l ∧ l.length = s'.nonzero ∧ PosNodup l ∧
          (∀ i j v, (i, j, v) ∈ l ↔ r.ent i j = some v) ∧
          ∃ ci, colIndex s' = .ok ci ∧ ci.size = s'.nonzero ∧
            ∀ k, k < s'.nonzero → ∃ c, ci[k]? = some c ∧ c < r.cols ∧ s'.ri k < r.rows ∧
              l[k]? = some (s'.ri k, c, s'.vl k) ∧ r.ent (s'.ri k) c = some (s'.vl k)) ∧
        (∃ d, toDense s' = .ok d ∧ Mat.Is d r.rows r.cols (fun i j => (r.ent i j).getD 0))) ∧
    (runR ops (refOfTriplets rows cols ts) = none →
      (fromTriplets rows cols ts >>= fun s => runC ops s) = .error .range) := by
  obtain ⟨s, h1, h2, h3, h4⟩ := fromTriplets_refOf rows cols ts hr hnd
  rw [h1, ← h4]
  exact history_views ops h2 h3

theorem step_nonzero {s s' : Sp K} (h : WF s) (op : SpOp K) (hstep : stepC s op = .ok s') :
    s'.nonzero = s.nonzero + growth (refOf s) op := by
  cases op with
  | insert i j v =>
    by_cases hin : i < s.rows ∧ j < s.cols
    · obtain ⟨s'', h1, _, _, _, hcase⟩ := insert_spec h hin.1 hin.2 v
      cases h1.symm.trans hstep
      rcases hcase with ⟨k, hf, n1, _⟩ | ⟨hf, n1, _⟩
      · rw [n1, growth, show (refOf s).ent i j = _ from congrArg (Option.map s.vl) hf]
        rfl
      · rw [n1, growth, show (refOf s).ent i j = _ from congrArg (Option.map s.vl) hf]
        rfl
    · cases (insert_outside s i j v (not_lt_and hin)).symm.trans hstep
  | scale a =>
    cases (scale_eq s h.valSize a).symm.trans hstep
    rfl
  | transpose =>
    obtain ⟨t, h1, _, _, _, h5⟩ := transpose_wf h
    cases h1.symm.trans hstep
    exact h5

/-- **after any history `nonzero` is the number of stored positions of the reference** -/
theorem history_nonzero (ops : List (SpOp K)) {s : Sp K} (h : WF s) (hnd : C07.NoDup s) {r : Ref K}
    (hr : runR ops (refOf s) = some r) :
    ∃ s', runC ops s = .ok s' ∧ s'.nonzero = r.nnz := by
  have R := history_refines ops h hnd
  rw [hr] at R
  obtain ⟨s', e, h', hnd', rfl⟩ := R
  exact ⟨s', e, nonzero_eq_nnz h' hnd'⟩

/-- the same for histories that start with `from_triplets` -/
theorem history_nonzero_fromTriplets (rows cols : Nat) (ts : List (Nat × Nat × K))
    (hr : ∀ t, t ∈ ts → t.1 < rows ∧ t.2.1 < cols) (hnd : PosNodup ts) (ops : List (SpOp K))
    {r : Ref K} (hrun : runR ops (refOfTriplets rows cols ts) = some r) :
    ∃ s', (fromTriplets rows cols ts >>= fun s => runC ops s) = .ok s' ∧ s'.nonzero = r.nnz := by
  obtain ⟨s, h1, h2, h3, h4⟩ := fromTriplets_refOf rows cols ts hr hnd
  rw [h1]
  rw [← h4] at hrun
  exact history_nonzero ops h2 h3 hrun

/-- on the reference side (for every reference matrix that is the abstraction of a storage): the
    number of stored positions is kept by overwrites, `scale`, `transpose` and grows by one with an
    insertion at an empty position -/
theorem nnz_stepR {s : Sp K} (h : WF s) (hnd : C07.NoDup s) (op : SpOp K) {r : Ref K}
    (hr : stepR (refOf s) op = some r) :
    r.nnz = (refOf s).nnz + growth (refOf s) op := by
  have R := step_refines h hnd op
  rw [hr] at R
  obtain ⟨s', e, h', hnd', rfl⟩ := R
  rw [← nonzero_eq_nnz h' hnd', ← nonzero_eq_nnz h hnd]
  exact step_nonzero h op e

end S

/-- the 3×2 matrix `[[6,0],[0,7],[5,0]]`; column 0 stores row 2 BEFORE row 0 (unsorted rows) -/
def demoH : Sp ℤ := ⟨3, 2, 3, #[5, 6, 7], #[2, 0, 1], #[0, 2, 3]⟩

theorem demoH_wf : WF demoH ∧ C07.NoDup demoH := by decide

/-- an overwrite of the stored position (0,0), a transpose, a scaling, a new insertion -/
def demoOps : List (SpOp ℤ) := [.insert 0 0 9, .transpose, .scale 2, .insert 1 2 4]

theorem demoRef : ∃ r, runR demoOps (refOf demoH) = some r ∧ r.rows = 2 ∧ r.cols = 3 ∧
    r.ent 0 0 = some 18 ∧ r.ent 0 2 = some 10 ∧ r.ent 1 1 = some 14 ∧ r.ent 1 2 = some 4 ∧
    r.ent 0 1 = none ∧ r.nnz = 4 := by
  refine ⟨_, rfl, rfl, rfl, ?_, ?_, ?_, ?_, ?_, ?_⟩ <;> decide

/-- the hypotheses of `history_views` / `history_nonzero` are satisfiable by a non-trivial storage
    (unsorted rows inside a column) and a non-trivial history; the conclusions determine the result -/
example : ∃ s', runC demoOps demoH = .ok s' ∧ WF s' ∧ C07.NoDup s' ∧ s'.rows = 2 ∧ s'.cols = 3 ∧
    s'.nonzero = 4 ∧ get s' 0 0 = .ok (some 18) ∧ get s' 0 2 = .ok (some 10) ∧
    get s' 1 1 = .ok (some 14) ∧ get s' 1 2 = .ok (some 4) ∧ get s' 0 1 = .ok none ∧
    get s' 2 0 = .error .range ∧
    ∃ d, toDense s' = .ok d ∧ d.get 0 0 = .ok 18 ∧ d.get 0 1 = .ok 0 := by
  obtain ⟨r, hr, r1, r2, e1, e2, e3, e4, e5, e6⟩ := demoRef
  obtain ⟨s', g1, g2, g3, g4, g5, g6, g7, _, d, g8, g9⟩ :=
    (history_views demoOps demoH_wf.1 demoH_wf.2).1 r hr
  obtain ⟨s'', k1, k2⟩ := history_nonzero demoOps demoH_wf.1 demoH_wf.2 hr
  cases g1.symm.trans k1
  rw [r1] at g4 g6 g7 g9
  rw [r2] at g5 g6 g7 g9
  refine ⟨s', g1, g2, g3, g4, g5, by rw [k2, e6], ?_, ?_, ?_, ?_, ?_, ?_, d, g8, ?_, ?_⟩
  · rw [g6 0 0 (by decide) (by decide), e1]
  · rw [g6 0 2 (by decide) (by decide), e2]
  · rw [g6 1 1 (by decide) (by decide), e3]
  · rw [g6 1 2 (by decide) (by decide), e4]
  · rw [g6 0 1 (by decide) (by decide), e5]
  · exact (g7 2 0 (Or.inl (by decide))).1
  · rw [g9.entry 0 0 (by decide) (by decide), e1]; rfl
  · rw [g9.entry 0 1 (by decide) (by decide), e5]; rfl

/-- the same history is an index panic as soon as one `insert` is out of range (row 2 of the
    transposed 2×3 matrix) -/
example : runC [.insert 0 0 9, .transpose, .insert 2 0 1, .scale 2] demoH = .error .range :=
  (history_views _ demoH_wf.1 demoH_wf.2).2 rfl

/-- from unsorted triplets -/
example : ∃ s', (fromTriplets 3 2 [((1 : Nat), (1 : Nat), (7 : ℤ)), (2, 0, 5), (0, 0, 6)] >>=
      fun s => runC demoOps s) = .ok s' ∧ WF s' ∧ C07.NoDup s' ∧ get s' 0 0 = .ok (some 18) ∧
    s'.nonzero = 4 := by
  have hr : ∀ t, t ∈ [((1 : Nat), (1 : Nat), (7 : ℤ)), (2, 0, 5), (0, 0, 6)] → t.1 < 3 ∧ t.2.1 < 2 := by
    decide
  have hnd : PosNodup [((1 : Nat), (1 : Nat), (7 : ℤ)), (2, 0, 5), (0, 0, 6)] := by
    unfold PosNodup; decide
  have hR : ∃ r, runR demoOps (refOfTriplets 3 2 [((1 : Nat), (1 : Nat), (7 : ℤ)), (2, 0, 5), (0, 0, 6)])
      = some r ∧ r.rows = 2 ∧ r.cols = 3 ∧ r.ent 0 0 = some 18 ∧ r.nnz = 4 := by
    refine ⟨_, rfl, rfl, rfl, ?_, ?_⟩ <;> decide
  obtain ⟨r, hr', r1, r2, e1, e6⟩ := hR
  obtain ⟨s', g1, g2, g3, g4, g5, g6, _⟩ := (history_views_fromTriplets 3 2 _ hr hnd demoOps).1 r hr'
  obtain ⟨s'', k1, k2⟩ := history_nonzero_fromTriplets 3 2 _ hr hnd demoOps hr'
  cases g1.symm.trans k1
  exact ⟨s', g1, g2, g3, by rw [g6 0 0 (by omega) (by omega), e1], by rw [k2, e6]⟩

end Ohsl.Props.C06
