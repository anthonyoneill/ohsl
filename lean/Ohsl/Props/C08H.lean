/-
  Property C08 (part H) — the rounding drift between the RECURRENCE residual and the TRUE residual
  `b − A x` for **BiCGSTAB** (`Krylov.solveBiCGSTAB`, `Sp.solveIter s .bicgstab`), in the standard
  model of floating-point arithmetic (`Fl M`, Ohsl/Lemmas/Rounding.lean).  C08F proves the drift
  bound for CG and BiCG through the abstract layer `DriftRun` (runs of updates `x += α p`,
  `r −= α q`, `q` a rounded product `A p`); C08G ties it to the model's sparse products.  This file
  does the same for BiCGSTAB, at all three levels (abstract run, `flOps`, `Sp.solveIter`).

  THE UPDATE ORDER OF THE MODEL (and of src/sparse.rs:406-436), per iteration `i` from state
  `(x, r, …)`:
      v = A p̂;  α = ρ/(r̃·v);  s = r − v·α;
      half-step test on `‖s‖`:  on exit  x ← x + p̂·α  (`smul`, `p̂[i]*α`)  and return;
      t = A ŝ (ŝ = s);  ω = (t·s)/(t·t);
      x ← x + α·p̂ ;  x ← x + ω·ŝ        (TWO `+=` statements, each `lsmul` then `add`)
      r = s − t·ω;  full-step test (strict `<`) on `‖r‖`.
  So the x-update is NOT one three-term sum: the code (and the model, `stabStep`) performs
  `(x + α p̂) + ω ŝ` as two separate rounded updates through the intermediate vector
  `x_mid = fl(x + fl(α p̂))`.  Each iteration therefore IS two sub-steps of the `DriftRun` kind
      (x, r) → (x_mid, s)   with (α, p̂, v = fl(A p̂)),      (x_mid, s) → (x', r')   with (ω, ŝ, t = fl(A ŝ)),
  and the half-step exit returns `fl(x + fl(p̂·α))`, which has the same VALUE as `x_mid` because the
  rounded product is commutative (`stabHalfX_eq_mid`).

  (1) STRUCTURAL (any scalar type): the quantities of iteration `i` as functions of the state
      (`stabRho … stabNext`) and the un-tested state sequence (`stabSeq`, from C08B's `stabInit`,
      with `stabSeqS`, `stabSeqMid`, `stabSeqHalf`); (S) `stabSeq_succ`, `stabSeqHalf_hom`.  A run that
      reports success stopped at the initial test, at the half-step exit of iteration `k+1`
      (returning `stabSeqHalf k`, the tested vector is `stabSeqS k`) or at its full-step exit
      (returning the `x` of state `k+1`, whose `r` passed the strict test): `solveBiCGSTAB_trace`.
  (2) ABSTRACT (real seminormed space): `StabRun A a u εA m …` — the perturbed recurrences of `m`
      HALF-steps (`m = 2k`: `k` full iterations; `m = 2k+1`: plus the first half of iteration `k+1`).
      The interleaved sequences `x₀, x_mid₀, x₁, x_mid₁, …` / `r₀, s₀, r₁, s₁, …` form a `DriftRun` of
      length `m` (`StabRun.driftRun`), so all of C08F applies: (F) `StabRun.bound_full`,
      `StabRun.bound_half` (the accumulated drift after `k` iterations / at the half-step of iteration
      `k+1`: twice the CG constants, since there are two updates per iteration), `StabRun.mono`.
  (3) MODEL over C08F's `flOps mv mvT dot norm2`, the product `mv` with `FlMatVec mv A a εA`:
      (F) `stab_drift_bound` (state `k`), `stab_success_true_residual` (on a reported success, any of
      the three exits, the drift of the true residual from the vector the model tested: `r_0`; `s` at
      the half-step exit; `r` at the full-step exit), `stab_success_true_residual_norm`.  Stated over
      a span of operation records `o₁ ←ι— o₀ —φ→ flOps …` (`stab_drift_span`), of which these are
      the instance `ι = φ = id`.
  (4) SPARSE (`Sp.solveIter s .bicgstab` at scalars `Fl M`): the instance `ι = Subtype.val`,
      `φ = arrFn` (C08C's `valHomS`, C08G's `fnHomF`) with C08G's product theorems:
      (F) `stab_success_true_residual_sparse`, `stab_success_true_residual_norm_sparse` (`a = ‖A‖∞`,
      explicit constants), `solveIter_runs_stab`.
  `X`, `R` are hypotheses (a-posteriori quantities of the run, read at the level of the statement):
  `X` bounds the iterates `x_j`, the intermediate iterates `x_mid_j` (`j < iters`) and the returned
  `x`; `R` bounds the recurrence residuals `r_j` and the half-step residuals `s_j` (`j < iters`).

  QMR has no drift theorem: its update vector `s ≈ A d` is itself maintained by a
  recurrence (`s = η·(A p) + c·s`), so the per-step product error is not a one-product error and the
  algebra of `drift_step` does not apply.

  The transfer to Rust `f64` rests on the assumption stated in Rounding.lean.
-/
import Ohsl.Props.C08G

namespace Ohsl.Props.C08
open Ohsl Ohsl.Krylov

section States
variable {K V : Type}

/-- `ρ = r̃ · r` of the iteration started in state `s` -/
def stabRho (o : VOps K V) (rt : V) (s : StabState K V) : K := o.dot rt s.r

theorem stabRho_hom {W : Type} {o₁ : VOps K V} {o₂ : VOps K W} {φ : V → W} (H : VHom o₁ o₂ φ)
    (rt : V) (s : StabState K V) :
    stabRho o₂ (φ rt) (mapStab φ s) = stabRho o₁ rt s := by
  unfold stabRho
  simp only [mapStab, H.dot]

variable [Mul K] [Div K]

/-- the direction `p = p̂` of iteration `i` -/
def stabP (o : VOps K V) (rt : V) (i : Nat) (s : StabState K V) : V := stabDir o i s (stabRho o rt s)

/-- `v = A p̂` -/
def stabV (o : VOps K V) (rt : V) (i : Nat) (s : StabState K V) : V := o.A (stabP o rt i s)

/-- `α = ρ / (r̃ · v)` -/
def stabAlpha (o : VOps K V) (rt : V) (i : Nat) (s : StabState K V) : K :=
  stabRho o rt s / o.dot rt (stabV o rt i s)

/-- the half-step residual `s = r − v·α` (`= ŝ`) -/
def stabS (o : VOps K V) (rt : V) (i : Nat) (s : StabState K V) : V :=
  o.sub s.r (o.smul (stabV o rt i s) (stabAlpha o rt i s))

/-- the `x` returned at the half-step exit: `x + p̂·α` -/
def stabHalfX (o : VOps K V) (rt : V) (i : Nat) (s : StabState K V) : V :=
  o.add s.x (o.smul (stabP o rt i s) (stabAlpha o rt i s))

/-- the intermediate iterate of a full step: `x + α·p̂` (the first of the two `+=`) -/
def stabMidX (o : VOps K V) (rt : V) (i : Nat) (s : StabState K V) : V :=
  o.add s.x (o.lsmul (stabAlpha o rt i s) (stabP o rt i s))

/-- `t = A ŝ` -/
def stabT (o : VOps K V) (rt : V) (i : Nat) (s : StabState K V) : V := o.A (stabS o rt i s)

/-- `ω = (t · s) / (t · t)` -/
def stabOmega (o : VOps K V) (rt : V) (i : Nat) (s : StabState K V) : K :=
  o.dot (stabT o rt i s) (stabS o rt i s) / o.dot (stabT o rt i s) (stabT o rt i s)

/-- the state after iteration `i` (all tests ignored) -/
def stabNext (o : VOps K V) (rt : V) (normb : K) (i : Nat) (s : StabState K V) : StabState K V :=
  ⟨o.add (stabMidX o rt i s) (o.lsmul (stabOmega o rt i s) (stabS o rt i s)),
   o.sub (stabS o rt i s) (o.smul (stabT o rt i s) (stabOmega o rt i s)),
   stabP o rt i s,
   stabV o rt i s,
   stabRho o rt s,
   stabAlpha o rt i s,
   stabOmega o rt i s,
   o.norm2 (o.sub (stabS o rt i s) (o.smul (stabT o rt i s) (stabOmega o rt i s))) / normb⟩

/-- the un-tested BiCGSTAB state sequence: state `j` is the state after `j` full iterations -/
def stabStates (o : VOps K V) (rt : V) (normb : K) (s0 : StabState K V) : Nat → StabState K V :=
  loopStates (stabNext o rt normb) s0

section StepHom
variable {W : Type} {o₁ : VOps K V} {o₂ : VOps K W} {φ : V → W}

theorem stabP_hom (H : VHom o₁ o₂ φ) (rt : V) (i : Nat) (s : StabState K V) :
    stabP o₂ (φ rt) i (mapStab φ s) = φ (stabP o₁ rt i s) := by
  unfold stabP
  rw [stabRho_hom H, stabDir_hom H]

theorem stabV_hom (H : VHom o₁ o₂ φ) (rt : V) (i : Nat) (s : StabState K V) :
    stabV o₂ (φ rt) i (mapStab φ s) = φ (stabV o₁ rt i s) := by
  unfold stabV
  rw [stabP_hom H, H.A]

theorem stabAlpha_hom (H : VHom o₁ o₂ φ) (rt : V) (i : Nat) (s : StabState K V) :
    stabAlpha o₂ (φ rt) i (mapStab φ s) = stabAlpha o₁ rt i s := by
  unfold stabAlpha
  rw [stabRho_hom H, stabV_hom H, ← H.dot]

theorem stabS_hom (H : VHom o₁ o₂ φ) (rt : V) (i : Nat) (s : StabState K V) :
    stabS o₂ (φ rt) i (mapStab φ s) = φ (stabS o₁ rt i s) := by
  unfold stabS
  rw [stabV_hom H, stabAlpha_hom H, H.sub, H.smul]
  rfl

theorem stabHalfX_hom (H : VHom o₁ o₂ φ) (rt : V) (i : Nat) (s : StabState K V) :
    stabHalfX o₂ (φ rt) i (mapStab φ s) = φ (stabHalfX o₁ rt i s) := by
  unfold stabHalfX
  rw [stabP_hom H, stabAlpha_hom H, H.add, H.smul]
  rfl

theorem stabMidX_hom (H : VHom o₁ o₂ φ) (rt : V) (i : Nat) (s : StabState K V) :
    stabMidX o₂ (φ rt) i (mapStab φ s) = φ (stabMidX o₁ rt i s) := by
  unfold stabMidX
  rw [stabP_hom H, stabAlpha_hom H, H.add, H.lsmul]
  rfl

theorem stabT_hom (H : VHom o₁ o₂ φ) (rt : V) (i : Nat) (s : StabState K V) :
    stabT o₂ (φ rt) i (mapStab φ s) = φ (stabT o₁ rt i s) := by
  unfold stabT
  rw [stabS_hom H, H.A]

theorem stabOmega_hom (H : VHom o₁ o₂ φ) (rt : V) (i : Nat) (s : StabState K V) :
    stabOmega o₂ (φ rt) i (mapStab φ s) = stabOmega o₁ rt i s := by
  unfold stabOmega
  rw [stabT_hom H, stabS_hom H, ← H.dot, ← H.dot]

theorem stabNext_hom (H : VHom o₁ o₂ φ) (rt : V) (normb : K) (i : Nat) (s : StabState K V) :
    stabNext o₂ (φ rt) normb i (mapStab φ s) = mapStab φ (stabNext o₁ rt normb i s) := by
  unfold stabNext
  rw [stabMidX_hom H, stabOmega_hom H, stabS_hom H, stabT_hom H, stabP_hom H, stabV_hom H,
    stabRho_hom H, stabAlpha_hom H]
  simp only [mapStab, H.add, H.sub, H.smul, H.lsmul, H.norm2]

theorem stabStates_hom (H : VHom o₁ o₂ φ) (rt : V) (normb : K) (s0 : StabState K V) (j : Nat) :
    stabStates o₂ (φ rt) normb (mapStab φ s0) j = mapStab φ (stabStates o₁ rt normb s0 j) :=
  loopStates_hom (mapStab φ) _ _ (stabNext_hom H rt normb) s0 j

end StepHom

section Step
variable [Zero K] [BEq K] [Transc K]

theorem stabStep_eq_next (o : VOps K V) (rt : V) (normb tol : K) (i : Nat) (s : StabState K V) :
    stabStep o rt normb tol i s =
      if stabRho o rt s == 0 then .done ⟨false, i, o.norm2 s.r / normb, s.x⟩
      else if Transc.le (o.norm2 (stabS o rt i s) / normb) tol
      then .done ⟨true, i, o.norm2 (stabS o rt i s) / normb, stabHalfX o rt i s⟩
      else if stabLt (stabNext o rt normb i s).resid tol
      then .done ⟨true, i, (stabNext o rt normb i s).resid, (stabNext o rt normb i s).x⟩
      else if stabOmega o rt i s == 0
      then .done ⟨false, i, (stabNext o rt normb i s).resid, (stabNext o rt normb i s).x⟩
      else .cont (stabNext o rt normb i s) := rfl

theorem stabStep_sat (o : VOps K V) (rt : V) (normb tol : K) (i : Nat) (s : StabState K V) :
    (stabStep o rt normb tol i s).Sat (· = stabNext o rt normb i s)
      (fun r => r.ok = true → r.iters = i ∧
        ((r.x = stabHalfX o rt i s ∧ Transc.le (o.norm2 (stabS o rt i s) / normb) tol = true) ∨
         (r.x = (stabNext o rt normb i s).x ∧ stabLt (stabNext o rt normb i s).resid tol = true))) := by
  rw [stabStep_eq_next]
  exact .ite (fun _ hok => absurd hok Bool.false_ne_true) fun _ =>
    .ite (fun c _ => ⟨rfl, Or.inl ⟨rfl, c⟩⟩) fun _ => .ite (fun c _ => ⟨rfl, Or.inr ⟨rfl, c⟩⟩) fun _ =>
    .ite (fun _ hok => absurd hok Bool.false_ne_true) fun _ => rfl

end Step

variable [Zero K] [One K] [BEq K]

/-- the state sequence of `solveBiCGSTAB o b x …` (`r̃ = r_0 = b − A x`, divisor `guardNorm ‖b‖`) -/
def stabSeq (o : VOps K V) (b x : V) (j : Nat) : StabState K V :=
  stabStates o (o.sub b (o.A x)) (guardNorm (o.norm2 b)) (stabInit o b x (guardNorm (o.norm2 b))) j

/-- the half-step residual `s` computed in iteration `j+1` (from state `j`) -/
def stabSeqS (o : VOps K V) (b x : V) (j : Nat) : V :=
  stabS o (o.sub b (o.A x)) (j + 1) (stabSeq o b x j)

/-- the intermediate iterate `x_j + α·p̂` computed in iteration `j+1` -/
def stabSeqMid (o : VOps K V) (b x : V) (j : Nat) : V :=
  stabMidX o (o.sub b (o.A x)) (j + 1) (stabSeq o b x j)

/-- the vector `x_j + p̂·α` returned by the half-step exit of iteration `j+1` -/
def stabSeqHalf (o : VOps K V) (b x : V) (j : Nat) : V :=
  stabHalfX o (o.sub b (o.A x)) (j + 1) (stabSeq o b x j)

theorem stabSeq_zero (o : VOps K V) (b x : V) :
    stabSeq o b x 0 = stabInit o b x (guardNorm (o.norm2 b)) := rfl

section SeqHom
variable {W : Type} {o₁ : VOps K V} {o₂ : VOps K W} {φ : V → W}

theorem stabSeq_hom (H : VHom o₁ o₂ φ) (b x : V) (j : Nat) :
    stabSeq o₂ (φ b) (φ x) j = mapStab φ (stabSeq o₁ b x j) := by
  unfold stabSeq
  rw [← H.norm2, ← H.A, ← H.sub, stabInit_hom H, stabStates_hom H]

theorem stabSeqS_hom (H : VHom o₁ o₂ φ) (b x : V) (j : Nat) :
    stabSeqS o₂ (φ b) (φ x) j = φ (stabSeqS o₁ b x j) := by
  unfold stabSeqS
  rw [stabSeq_hom H, ← H.A, ← H.sub, stabS_hom H]

theorem stabSeqMid_hom (H : VHom o₁ o₂ φ) (b x : V) (j : Nat) :
    stabSeqMid o₂ (φ b) (φ x) j = φ (stabSeqMid o₁ b x j) := by
  unfold stabSeqMid
  rw [stabSeq_hom H, ← H.A, ← H.sub, stabMidX_hom H]

end SeqHom

variable [Transc K]

/-- (S) **`solveBiCGSTAB` on success**: `iters ≤ maxIter`, and the run stopped
* at the initial test (`iters = 0`, `x` unchanged, `r_0` passed `≤`), or
* at the half-step exit of iteration `k+1 = iters`: it returns `stabSeqHalf k = x_k + p̂·α` and the
  half-step residual `stabSeqS k` passed `≤`, or
* at the full-step exit of iteration `k+1 = iters`: it returns the `x` of state `k+1`, whose `r`
  passed the strict test. -/
theorem solveBiCGSTAB_trace (o : VOps K V) (b x : V) (maxIter : Nat) (tol : K)
    (hok : (solveBiCGSTAB o b x maxIter tol).ok = true) :
    (solveBiCGSTAB o b x maxIter tol).iters ≤ maxIter ∧
    (((solveBiCGSTAB o b x maxIter tol).iters = 0 ∧ (solveBiCGSTAB o b x maxIter tol).x = x ∧
        Transc.le (o.norm2 (stabSeq o b x 0).r / guardNorm (o.norm2 b)) tol = true) ∨
     (∃ k, (solveBiCGSTAB o b x maxIter tol).iters = k + 1 ∧
        (solveBiCGSTAB o b x maxIter tol).x = stabSeqHalf o b x k ∧
        Transc.le (o.norm2 (stabSeqS o b x k) / guardNorm (o.norm2 b)) tol = true) ∨
     (∃ k, (solveBiCGSTAB o b x maxIter tol).iters = k + 1 ∧
        (solveBiCGSTAB o b x maxIter tol).x = (stabSeq o b x (k + 1)).x ∧
        stabLt (o.norm2 (stabSeq o b x (k + 1)).r / guardNorm (o.norm2 b)) tol = true)) := by
  rw [solveBiCGSTAB_eq_run] at hok ⊢
  revert hok
  exact krylovRun_rule (fun j s => ∃ m, j = m + 1 ∧ s = stabSeq o b x m)
    (fun out => out.ok = true → out.iters ≤ maxIter ∧
      ((out.iters = 0 ∧ out.x = x ∧
          Transc.le (o.norm2 (stabSeq o b x 0).r / guardNorm (o.norm2 b)) tol = true) ∨
       (∃ k, out.iters = k + 1 ∧ out.x = stabSeqHalf o b x k ∧
          Transc.le (o.norm2 (stabSeqS o b x k) / guardNorm (o.norm2 b)) tol = true) ∨
       (∃ k, out.iters = k + 1 ∧ out.x = (stabSeq o b x (k + 1)).x ∧
          stabLt (o.norm2 (stabSeq o b x (k + 1)).r / guardNorm (o.norm2 b)) tol = true)))
    (fun h _ => ⟨Nat.zero_le _, Or.inl ⟨rfl, rfl, h⟩⟩) ⟨0, rfl, rfl⟩
    (fun j s _ hj h => by
      obtain ⟨m, rfl, rfl⟩ := h
      exact (stabStep_sat o _ _ tol (m + 1) _).mono (fun s' hs' => ⟨m + 1, rfl, hs'⟩)
        (fun r hr hok => ⟨by rw [(hr hok).1]; omega,
          Or.inr ((hr hok).2.imp (fun h => ⟨m, (hr hok).1, h⟩) (fun h => ⟨m, (hr hok).1, h⟩))⟩))
    (fun _ _ hok => Bool.noConfusion hok)

end States

section Structural
variable {K V : Type} [Add K] [Sub K] [Mul K] [Neg K] [Div K] [Zero K] [One K] [BEq K] [Transc K]

set_option linter.unusedSectionVars false in
theorem stabSeq_succ (o : VOps K V) (b x : V) (j : Nat) :
    stabSeq o b x (j + 1)
      = stabNext o (o.sub b (o.A x)) (guardNorm (o.norm2 b)) (j + 1) (stabSeq o b x j) := rfl

section StatesHom
variable {W : Type} {o₁ : VOps K V} {o₂ : VOps K W} {φ : V → W}

set_option linter.unusedSectionVars false in
theorem stabSeqHalf_hom (H : VHom o₁ o₂ φ) (b x : V) (j : Nat) :
    stabSeqHalf o₂ (φ b) (φ x) j = φ (stabSeqHalf o₁ b x j) := by
  unfold stabSeqHalf
  rw [stabSeq_hom H, ← H.A, ← H.sub, stabHalfX_hom H]

end StatesHom

end Structural

section Rounding

section Abstract
variable {E : Type} [SeminormedAddCommGroup E] [NormedSpace ℝ E]

/-- `f 0, g 0, f 1, g 1, …` -/
def interleave {β : Type} (f g : ℕ → β) (i : ℕ) : β := if i % 2 = 0 then f (i / 2) else g (i / 2)

theorem interleave_even {β : Type} (f g : ℕ → β) (j : ℕ) : interleave f g (2 * j) = f j := by
  have h1 : (2 * j) % 2 = 0 := by omega
  have h2 : 2 * j / 2 = j := by omega
  simp only [interleave, h1, h2, if_true]

theorem interleave_odd {β : Type} (f g : ℕ → β) (j : ℕ) : interleave f g (2 * j + 1) = g j := by
  have h1 : ¬ (2 * j + 1) % 2 = 0 := by omega
  have h2 : (2 * j + 1) / 2 = j := by omega
  simp only [interleave, h1, h2, if_false]

theorem interleave_odd_succ {β : Type} (f g : ℕ → β) (j : ℕ) :
    interleave f g (2 * j + 1 + 1) = f (j + 1) := by
  have e : 2 * j + 1 + 1 = 2 * (j + 1) := by omega
  rw [e, interleave_even]

theorem interleave_zero {β : Type} (f g : ℕ → β) : interleave f g 0 = f 0 :=
  interleave_even f g 0

theorem interleave_forall {β : Type} (f g : ℕ → β) (P : β → Prop) (m : ℕ)
    (hf : ∀ j, 2 * j < m → P (f j)) (hg : ∀ j, 2 * j + 1 < m → P (g j)) :
    ∀ i, i < m → P (interleave f g i) := by
  intro i hi
  obtain ⟨j, rfl | rfl⟩ := Nat.even_or_odd' i
  · rw [interleave_even]; exact hf j hi
  · rw [interleave_odd]; exact hg j hi

theorem interleave_forall_even {β : Type} (f g : ℕ → β) (P : β → Prop) (k : ℕ)
    (hf : ∀ j, j < k → P (f j)) (hg : ∀ j, j < k → P (g j)) :
    ∀ i, i < 2 * k → P (interleave f g i) :=
  interleave_forall f g P (2 * k) (fun j hj => hf j (by omega)) (fun j hj => hg j (by omega))

theorem interleave_forall_odd {β : Type} (f g : ℕ → β) (P : β → Prop) (k : ℕ)
    (hf : ∀ j, j ≤ k → P (f j)) (hg : ∀ j, j < k → P (g j)) :
    ∀ i, i < 2 * k + 1 → P (interleave f g i) :=
  interleave_forall f g P (2 * k + 1) (fun j hj => hf j (by omega)) (fun j hj => hg j (by omega))

/-- The perturbed recurrences of `m` HALF-steps of a BiCGSTAB-style run: iteration `i+1` goes from
`(x i, r i)` through `(xm i, s i)` (update `α i`, direction `p i`, computed product `v i ≈ A (p i)`) to
`(x (i+1), r (i+1))` (update `ω i`, direction `s i`, computed product `t i ≈ A (s i)`).  The first
half of iteration `i+1` is half-step `2i`, the second half is half-step `2i+1`; `m = 2k` is `k` full
iterations, `m = 2k+1` adds the first half of iteration `k+1`. -/
structure StabRun (A : E →ₗ[ℝ] E) (a u εA : ℝ) (m : ℕ) (x xm r s p v t : ℕ → E) (α ω : ℕ → ℝ) :
    Prop where
  a_nonneg : 0 ≤ a
  u_nonneg : 0 ≤ u
  ε_nonneg : 0 ≤ εA
  opA : ∀ w, ‖A w‖ ≤ a * ‖w‖
  hv : ∀ i, 2 * i < m → ‖v i - A (p i)‖ ≤ εA * a * ‖p i‖
  hxm : ∀ i, 2 * i < m →
    ‖xm i - (x i + α i • p i)‖ ≤ u * ‖x i‖ + (2 * u + u ^ 2) * ‖α i • p i‖
  hs : ∀ i, 2 * i < m →
    ‖s i - (r i - α i • v i)‖ ≤ u * ‖r i‖ + (2 * u + u ^ 2) * ‖α i • v i‖
  ht : ∀ i, 2 * i + 1 < m → ‖t i - A (s i)‖ ≤ εA * a * ‖s i‖
  hx : ∀ i, 2 * i + 1 < m →
    ‖x (i + 1) - (xm i + ω i • s i)‖ ≤ u * ‖xm i‖ + (2 * u + u ^ 2) * ‖ω i • s i‖
  hr : ∀ i, 2 * i + 1 < m →
    ‖r (i + 1) - (s i - ω i • t i)‖ ≤ u * ‖s i‖ + (2 * u + u ^ 2) * ‖ω i • t i‖

variable {A : E →ₗ[ℝ] E} {a u εA : ℝ} {m k : ℕ} {x xm r s p v t : ℕ → E} {α ω : ℕ → ℝ}

theorem StabRun.mono (H : StabRun A a u εA m x xm r s p v t α ω) {m' : ℕ} (h : m' ≤ m) :
    StabRun A a u εA m' x xm r s p v t α ω :=
  ⟨H.a_nonneg, H.u_nonneg, H.ε_nonneg, H.opA, fun i hi => H.hv i (hi.trans_le h),
    fun i hi => H.hxm i (hi.trans_le h), fun i hi => H.hs i (hi.trans_le h),
    fun i hi => H.ht i (hi.trans_le h), fun i hi => H.hx i (hi.trans_le h),
    fun i hi => H.hr i (hi.trans_le h)⟩

/-- **a BiCGSTAB-style run of `m` half-steps IS a `DriftRun` of length `m`** of the interleaved
sequences `x₀, xm₀, x₁, …`, `r₀, s₀, r₁, …`, directions `p₀, s₀, p₁, …`, products `v₀, t₀, v₁, …`,
scalars `α₀, ω₀, α₁, …` — so every theorem of C08F about `DriftRun` applies. -/
theorem StabRun.driftRun (H : StabRun A a u εA m x xm r s p v t α ω) :
    DriftRun A a u εA m (interleave x xm) (interleave r s) (interleave p s) (interleave v t)
      (interleave α ω) where
  a_nonneg := H.a_nonneg
  u_nonneg := H.u_nonneg
  ε_nonneg := H.ε_nonneg
  opA := H.opA
  hq i hi := by
    obtain ⟨j, rfl | rfl⟩ := Nat.even_or_odd' i
    · simp only [interleave_even]
      exact H.hv j hi
    · simp only [interleave_odd]
      exact H.ht j hi
  hx i hi := by
    obtain ⟨j, rfl | rfl⟩ := Nat.even_or_odd' i
    · simp only [interleave_even, interleave_odd]
      exact H.hxm j hi
    · simp only [interleave_odd, interleave_odd_succ]
      exact H.hx j hi
  hr i hi := by
    obtain ⟨j, rfl | rfl⟩ := Nat.even_or_odd' i
    · simp only [interleave_even, interleave_odd]
      exact H.hs j hi
    · simp only [interleave_odd, interleave_odd_succ]
      exact H.hr j hi

/-- **accumulated drift after `k` full iterations** (`u ≤ 1/8`, `εA ≤ cA u`; `X` bounds `x_j`
(`j ≤ k`) and `xm_j` (`j < k`), `R` bounds `r_j`, `s_j` (`j < k`)):
`‖(b − A x_k) − r_k‖ ≤ ‖d_0‖ + k · u · ((32 + 12 cA) · a · X + 2 R)`
— twice the constants of `DriftRun.bound_u`: two updates per iteration. -/
theorem StabRun.bound_full (H : StabRun A a u εA (2 * k) x xm r s p v t α ω) (b : E)
    (hu8 : u ≤ 1 / 8) (cA : ℝ) (hcA : 0 ≤ cA) (hεc : εA ≤ cA * u) (X R : ℝ)
    (hX : ∀ j, j ≤ k → ‖x j‖ ≤ X) (hXm : ∀ j, j < k → ‖xm j‖ ≤ X)
    (hR : ∀ j, j < k → ‖r j‖ ≤ R) (hS : ∀ j, j < k → ‖s j‖ ≤ R) :
    ‖drift A b (x k) (r k)‖ ≤ ‖drift A b (x 0) (r 0)‖
      + k * u * ((32 + 12 * cA) * a * X + 2 * R) := by
  have h := H.driftRun.bound_u b hu8 cA hcA hεc X R
    (fun i hi => interleave_forall_odd x xm (‖·‖ ≤ X) k hX hXm i (Nat.lt_succ_of_le hi))
    (interleave_forall_even r s (‖·‖ ≤ R) k hR hS)
  rw [interleave_even, interleave_even, interleave_zero, interleave_zero] at h
  have e : ((2 * k : ℕ) : ℝ) * u * ((16 + 6 * cA) * a * X + R)
      = k * u * ((32 + 12 * cA) * a * X + 2 * R) := by push_cast; ring
  rw [e] at h
  exact h

/-- **accumulated drift at the half-step of iteration `k+1`** (`2k+1` half-steps; `X` bounds `x_j`,
`xm_j` (`j ≤ k`), `R` bounds `r_j` (`j ≤ k`), `s_j` (`j < k`)):
`‖(b − A xm_k) − s_k‖ ≤ ‖d_0‖ + (2k+1) · u · ((16 + 6 cA) · a · X + R)`. -/
theorem StabRun.bound_half (H : StabRun A a u εA (2 * k + 1) x xm r s p v t α ω) (b : E)
    (hu8 : u ≤ 1 / 8) (cA : ℝ) (hcA : 0 ≤ cA) (hεc : εA ≤ cA * u) (X R : ℝ)
    (hX : ∀ j, j ≤ k → ‖x j‖ ≤ X) (hXm : ∀ j, j ≤ k → ‖xm j‖ ≤ X)
    (hR : ∀ j, j ≤ k → ‖r j‖ ≤ R) (hS : ∀ j, j < k → ‖s j‖ ≤ R) :
    ‖drift A b (xm k) (s k)‖ ≤ ‖drift A b (x 0) (r 0)‖
      + (2 * k + 1) * u * ((16 + 6 * cA) * a * X + R) := by
  have h := H.driftRun.bound_u b hu8 cA hcA hεc X R
    (fun i hi => interleave_forall_even x xm (‖·‖ ≤ X) (k + 1)
      (fun j hj => hX j (Nat.le_of_lt_succ hj)) (fun j hj => hXm j (Nat.le_of_lt_succ hj)) i
      (Nat.lt_succ_of_le hi))
    (interleave_forall_odd r s (‖·‖ ≤ R) k hR hS)
  rw [interleave_odd, interleave_odd, interleave_zero, interleave_zero] at h
  have e : ((2 * k + 1 : ℕ) : ℝ) = 2 * k + 1 := by push_cast; ring
  rw [e] at h
  exact h

theorem StabRun.bound_half' (H : StabRun A a u εA (2 * k + 1) x xm r s p v t α ω) (b : E)
    (hu8 : u ≤ 1 / 8) (cA : ℝ) (hcA : 0 ≤ cA) (hεc : εA ≤ cA * u) (X R : ℝ)
    (hX : ∀ j, j ≤ k → ‖x j‖ ≤ X) (hXm : ∀ j, j ≤ k → ‖xm j‖ ≤ X)
    (hR : ∀ j, j ≤ k → ‖r j‖ ≤ R) (hS : ∀ j, j < k → ‖s j‖ ≤ R) :
    ‖drift A b (xm k) (s k)‖ ≤ ‖drift A b (x 0) (r 0)‖
      + ((k + 1 : ℕ) : ℝ) * u * ((32 + 12 * cA) * a * X + 2 * R) := by
  have h := H.bound_half b hu8 cA hcA hεc X R hX hXm hR hS
  have hX0 : 0 ≤ X := (norm_nonneg _).trans (hX 0 (Nat.zero_le _))
  have hR0 : 0 ≤ R := (norm_nonneg _).trans (hR 0 (Nat.zero_le _))
  have hc : 0 ≤ (16 + 6 * cA) * a * X + R := by
    have := H.a_nonneg
    positivity
  have hu := H.u_nonneg
  have huc : 0 ≤ u * ((16 + 6 * cA) * a * X + R) := mul_nonneg hu hc
  have e : ((k + 1 : ℕ) : ℝ) * u * ((32 + 12 * cA) * a * X + 2 * R)
      = (2 * k + 1) * u * ((16 + 6 * cA) * a * X + R) + u * ((16 + 6 * cA) * a * X + R) := by
    push_cast; ring
  rw [e]
  exact h.trans (add_le_add le_rfl (le_add_of_nonneg_right huc))

end Abstract

section ModelStates
variable {M : FlModel} {n : ℕ} {mv mvT : (Fin n → Fl M) → (Fin n → Fl M)}
  {dot : (Fin n → Fl M) → (Fin n → Fl M) → Fl M} {norm2 : (Fin n → Fl M) → Fl M}
  {A : (Fin n → ℝ) →ₗ[ℝ] (Fin n → ℝ)} {a εA : ℝ}

/-- over `Fl M` the vector returned by the half-step exit (`x + p̂·α`, components `p̂[i] * α`) IS
the intermediate iterate of the full step (`x + α·p̂`, components `α * p̂[i]`): the rounded product is
commutative -/
theorem stabHalfX_eq_mid (rt : Fin n → Fl M) (i : ℕ) (s : StabState (Fl M) (Fin n → Fl M)) :
    stabHalfX (flOps mv mvT dot norm2) rt i s = stabMidX (flOps mv mvT dot norm2) rt i s := by
  funext l
  show s.x l + stabP (flOps mv mvT dot norm2) rt i s l * stabAlpha (flOps mv mvT dot norm2) rt i s = s.x l + stabAlpha (flOps mv mvT dot norm2) rt i s * stabP (flOps mv mvT dot norm2) rt i s l
  congr 1
  exact Fl.ext (by simp only [Fl.mul_val, mul_comm])

theorem stabSeqHalf_eq_mid (b x0 : Fin n → Fl M) (j : ℕ) :
    stabSeqHalf (flOps mv mvT dot norm2) b x0 j = stabSeqMid (flOps mv mvT dot norm2) b x0 j := stabHalfX_eq_mid _ _ _

theorem stab_stabRun (H : FlMatVec mv A a εA) (rt : Fin n → Fl M) (normb : Fl M)
    (s0 : StabState (Fl M) (Fin n → Fl M)) (m : ℕ) :
    StabRun A a M.u εA m
      (fun j => vval (stabStates (flOps mv mvT dot norm2) rt normb s0 j).x)
      (fun j => vval (stabMidX (flOps mv mvT dot norm2) rt (j + 1) (stabStates (flOps mv mvT dot norm2) rt normb s0 j)))
      (fun j => vval (stabStates (flOps mv mvT dot norm2) rt normb s0 j).r)
      (fun j => vval (stabS (flOps mv mvT dot norm2) rt (j + 1) (stabStates (flOps mv mvT dot norm2) rt normb s0 j)))
      (fun j => vval (stabP (flOps mv mvT dot norm2) rt (j + 1) (stabStates (flOps mv mvT dot norm2) rt normb s0 j)))
      (fun j => vval (mv (stabP (flOps mv mvT dot norm2) rt (j + 1) (stabStates (flOps mv mvT dot norm2) rt normb s0 j))))
      (fun j => vval (mv (stabS (flOps mv mvT dot norm2) rt (j + 1) (stabStates (flOps mv mvT dot norm2) rt normb s0 j))))
      (fun j => (stabAlpha (flOps mv mvT dot norm2) rt (j + 1) (stabStates (flOps mv mvT dot norm2) rt normb s0 j)).val)
      (fun j => (stabOmega (flOps mv mvT dot norm2) rt (j + 1) (stabStates (flOps mv mvT dot norm2) rt normb s0 j)).val) where
  a_nonneg := H.a_nonneg
  u_nonneg := M.u_nonneg
  ε_nonneg := H.ε_nonneg
  opA := H.opA
  hv _ _ := H.err _
  hxm _ _ := update_err M.u M.u_nonneg _ _ _ _ (vval_lsmul_err _ _) (vval_add_err _ _)
  hs _ _ := update_err_sub M.u M.u_nonneg _ _ _ _ (vval_smul_err _ _) (vval_sub_err _ _)
  ht _ _ := H.err _
  hx _ _ := update_err M.u M.u_nonneg _ _ _ _ (vval_lsmul_err _ _) (vval_add_err _ _)
  hr _ _ := update_err_sub M.u M.u_nonneg _ _ _ _ (vval_smul_err _ _) (vval_sub_err _ _)

/-- **the drift at the half-step of iteration `k+1`**: the vector `x_k + p̂·α` returned by the
half-step exit (it received only `α p̂`) against the half-step residual `s_k` the model tests there:
`‖(b − A (x_k + p̂ α)) − s_k‖∞ ≤ u (‖b‖ + (1 + 2 cA) a X) + (k+1) · u · ((32 + 12 cA) a X + 2 R)`
(`X` bounds `x_j`, `x_j + α p̂` for `j ≤ k`; `R` bounds `r_j` for `j ≤ k` and `s_j` for `j < k`). -/
theorem stab_drift_bound_half (H : FlMatVec mv A a εA) (b x0 : Fin n → Fl M) (k : ℕ)
    (hu8 : M.u ≤ 1 / 8) (cA : ℝ) (hcA : 0 ≤ cA) (hεc : εA ≤ cA * M.u) (X R : ℝ)
    (hX : ∀ j, j ≤ k → ‖vval (stabSeq (flOps mv mvT dot norm2) b x0 j).x‖ ≤ X)
    (hXm : ∀ j, j ≤ k → ‖vval (stabSeqMid (flOps mv mvT dot norm2) b x0 j)‖ ≤ X)
    (hR : ∀ j, j ≤ k → ‖vval (stabSeq (flOps mv mvT dot norm2) b x0 j).r‖ ≤ R)
    (hS : ∀ j, j < k → ‖vval (stabSeqS (flOps mv mvT dot norm2) b x0 j)‖ ≤ R) :
    ‖(vval b - A (vval (stabSeqHalf (flOps mv mvT dot norm2) b x0 k))) - vval (stabSeqS (flOps mv mvT dot norm2) b x0 k)‖
      ≤ M.u * (‖vval b‖ + (1 + 2 * cA) * a * X)
        + ((k + 1 : ℕ) : ℝ) * M.u * ((32 + 12 * cA) * a * X + 2 * R) := by
  rw [stabSeqHalf_eq_mid]
  have D := stab_stabRun (mvT := mvT) (dot := dot) (norm2 := norm2) H
    (fun i => b i - mv x0 i) (guardNorm (norm2 b)) (stabInit (flOps mv mvT dot norm2) b x0 (guardNorm (norm2 b)))
    (2 * k + 1)
  have hb := D.bound_half' (vval b) hu8 cA hcA hεc X R hX hXm hR hS
  have h0 := fl_init_drift H b x0 hu8 cA hcA hεc X (hX 0 (Nat.zero_le _))
  exact hb.trans (add_le_add h0 le_rfl)

end ModelStates

section Model
variable {M : FlModel} {n : ℕ}

variable [Transc (Fl M)]
variable {mv mvT : (Fin n → Fl M) → (Fin n → Fl M)}
  {dot : (Fin n → Fl M) → (Fin n → Fl M) → Fl M} {norm2 : (Fin n → Fl M) → Fl M}
  {A : (Fin n → ℝ) →ₗ[ℝ] (Fin n → ℝ)} {a εA : ℝ}

local notation "oF" => flOps mv mvT dot norm2

set_option linter.unusedSectionVars false in
/-- **the drift of the model's BiCGSTAB after `k` full iterations** (standard
model, ∞-norm).  For the computed states `stabSeq … j` of `solveBiCGSTAB (flOps mv …) b x0 …`,
`X` a bound of the iterates `x_j` (`j ≤ k`) and of the intermediate iterates `x_j + α p̂` (`j < k`),
`R` a bound of the recurrence residuals `r_j` and of the half-step residuals `s_j` (`j < k`),
`M.u ≤ 1/8` and product error `εA ≤ cA · u`:
`‖(b − A x_k) − r_k‖∞ ≤ u (‖b‖ + (1 + 2 cA) a X) + k · u · ((32 + 12 cA) a X + 2 R)`
(the first term bounds the initial drift of `r_0 = b − mv x_0`). -/
theorem stab_drift_bound (H : FlMatVec mv A a εA) (b x0 : Fin n → Fl M) (k : ℕ)
    (hu8 : M.u ≤ 1 / 8) (cA : ℝ) (hcA : 0 ≤ cA) (hεc : εA ≤ cA * M.u) (X R : ℝ)
    (hX : ∀ j, j ≤ k → ‖vval (stabSeq oF b x0 j).x‖ ≤ X)
    (hXm : ∀ j, j < k → ‖vval (stabSeqMid oF b x0 j)‖ ≤ X)
    (hR : ∀ j, j < k → ‖vval (stabSeq oF b x0 j).r‖ ≤ R)
    (hS : ∀ j, j < k → ‖vval (stabSeqS oF b x0 j)‖ ≤ R) :
    ‖(vval b - A (vval (stabSeq oF b x0 k).x)) - vval (stabSeq oF b x0 k).r‖
      ≤ M.u * (‖vval b‖ + (1 + 2 * cA) * a * X)
        + k * M.u * ((32 + 12 * cA) * a * X + 2 * R) := by
  have D := stab_stabRun (mvT := mvT) (dot := dot) (norm2 := norm2) H
    (fun i => b i - mv x0 i) (guardNorm (norm2 b)) (stabInit oF b x0 (guardNorm (norm2 b))) (2 * k)
  have hb := D.bound_full (vval b) hu8 cA hcA hεc X R hX hXm hR hS
  have h0 := fl_init_drift H b x0 hu8 cA hcA hεc X (hX 0 (Nat.zero_le _))
  exact hb.trans (add_le_add h0 le_rfl)

/-- **BiCGSTAB in rounded arithmetic, over a span of operation records** `o₁ ←ι— o₀ —φ→ flOps …`
(cf. `cg_drift_span`, C08F): the run and the hypotheses live over `o₁`, read as real vectors by `ρ`
(`ρ ∘ ι = vval ∘ φ`); the three exits are told apart once, on the trace of the `o₁`-run, and each is
bounded by `stab_drift_bound` / `stab_drift_bound_half` read on the `φ`-images of the sequences.
`ι = φ = id` is `stab_success_true_residual`; `ι = Subtype.val`, `φ = arrFn` the statement about
arrays. -/
theorem stab_drift_span {V₀ V₁ : Type} {o₀ : VOps (Fl M) V₀} {o₁ : VOps (Fl M) V₁} {ι : V₀ → V₁}
    {φ : V₀ → Fin n → Fl M} (Hι : VHom o₀ o₁ ι) (Hφ : VHom o₀ (flOps mv mvT dot norm2) φ)
    (H : FlMatVec mv A a εA) (ρ : V₁ → Fin n → ℝ) (hρ : ∀ v, ρ (ι v) = vval (φ v))
    (b x0 : V₀) (maxIter : ℕ) (tol : Fl M) (hu8 : M.u ≤ 1 / 8) (cA : ℝ) (hcA : 0 ≤ cA)
    (hεc : εA ≤ cA * M.u) (X R : ℝ)
    (hok : (solveBiCGSTAB o₁ (ι b) (ι x0) maxIter tol).ok = true)
    (hX : ∀ j, j < (solveBiCGSTAB o₁ (ι b) (ι x0) maxIter tol).iters →
      ‖ρ (stabSeq o₁ (ι b) (ι x0) j).x‖ ≤ X)
    (hXm : ∀ j, j < (solveBiCGSTAB o₁ (ι b) (ι x0) maxIter tol).iters →
      ‖ρ (stabSeqMid o₁ (ι b) (ι x0) j)‖ ≤ X)
    (hXo : ‖ρ (solveBiCGSTAB o₁ (ι b) (ι x0) maxIter tol).x‖ ≤ X)
    (hR : ∀ j, j < (solveBiCGSTAB o₁ (ι b) (ι x0) maxIter tol).iters →
      ‖ρ (stabSeq o₁ (ι b) (ι x0) j).r‖ ≤ R)
    (hS : ∀ j, j < (solveBiCGSTAB o₁ (ι b) (ι x0) maxIter tol).iters →
      ‖ρ (stabSeqS o₁ (ι b) (ι x0) j)‖ ≤ R) :
    (∃ y, (solveBiCGSTAB o₁ (ι b) (ι x0) maxIter tol).x = ι y) ∧
    (solveBiCGSTAB o₁ (ι b) (ι x0) maxIter tol).iters ≤ maxIter ∧
    ∃ r₀ : V₀,
      (ι r₀ = (stabSeq o₁ (ι b) (ι x0) (solveBiCGSTAB o₁ (ι b) (ι x0) maxIter tol).iters).r ∨
        ∃ k, (solveBiCGSTAB o₁ (ι b) (ι x0) maxIter tol).iters = k + 1 ∧
          ι r₀ = stabSeqS o₁ (ι b) (ι x0) k) ∧
      Transc.le (o₁.norm2 (ι r₀) / guardNorm (o₁.norm2 (ι b))) tol = true ∧
      ‖(ρ (ι b) - A (ρ (solveBiCGSTAB o₁ (ι b) (ι x0) maxIter tol).x)) - ρ (ι r₀)‖
        ≤ M.u * (‖ρ (ι b)‖ + (1 + 2 * cA) * a * X)
          + (solveBiCGSTAB o₁ (ι b) (ι x0) maxIter tol).iters * M.u
              * ((32 + 12 * cA) * a * X + 2 * R) := by
  obtain ⟨hit, hcase⟩ := solveBiCGSTAB_trace o₁ (ι b) (ι x0) maxIter tol hok
  -- the sequences of the run are the `ι`-images of those over `o₀` …
  have ES := stabSeq_hom Hι b x0
  have ESS := stabSeqS_hom Hι b x0
  have ESM := stabSeqMid_hom Hι b x0
  have ESH := stabSeqHalf_hom Hι b x0
  -- … whose `φ`-images are the sequences the function-level bounds speak about
  have full := fun k => stab_drift_bound (mvT := mvT) (dot := dot) (norm2 := norm2) H (φ b) (φ x0) k
    hu8 cA hcA hεc X R
  have half := fun k => stab_drift_bound_half (mvT := mvT) (dot := dot) (norm2 := norm2) H (φ b) (φ x0) k
    hu8 cA hcA hεc X R
  simp only [stabSeq_hom Hφ, stabSeqS_hom Hφ, stabSeqMid_hom Hφ, stabSeqHalf_hom Hφ, mapStab]
    at full half
  simp only [ES, ESS, ESM, ESH, mapStab, hρ] at hX hXm hR hS hcase ⊢
  rcases hcase with ⟨e0, ex, ht⟩ | ⟨k, ek, ex, ht⟩ | ⟨k, ek, ex, ht⟩
  · rw [ex, hρ] at hXo
    refine ⟨⟨_, ex⟩, hit, (stabSeq o₀ b x0 0).r, Or.inl (by rw [e0]), ht, ?_⟩
    rw [e0, ex, hρ]
    exact full 0 (fun j hj => Nat.le_zero.mp hj ▸ hXo)
      (fun j hj => absurd hj (Nat.not_lt_zero _)) (fun j hj => absurd hj (Nat.not_lt_zero _))
      (fun j hj => absurd hj (Nat.not_lt_zero _))
  · rw [ek] at hX hXm hR hS
    refine ⟨⟨_, ex⟩, hit, stabSeqS o₀ b x0 k, Or.inr ⟨k, ek, rfl⟩, ht, ?_⟩
    rw [ek, ex, hρ]
    exact half k (fun j hj => hX j (Nat.lt_succ_of_le hj)) (fun j hj => hXm j (Nat.lt_succ_of_le hj))
      (fun j hj => hR j (Nat.lt_succ_of_le hj)) (fun j hj => hS j (Nat.lt_succ_of_lt hj))
  · rw [ek] at hX hXm hR hS
    rw [ex, hρ] at hXo
    refine ⟨⟨_, ex⟩, hit, (stabSeq o₀ b x0 (k + 1)).r, Or.inl (by rw [ek]), stabLt_le ht, ?_⟩
    rw [ek, ex, hρ]
    exact full (k + 1) (fun j hj => (Nat.lt_or_eq_of_le hj).elim (hX j) fun e => e ▸ hXo) hXm hR hS

/-- **C08 quantitative clause for the model's BiCGSTAB** (standard model, ∞-norm).  Let
`out = solveBiCGSTAB (flOps mv mvT dot norm2) b x0 maxIter tol` report success.  Let `X` bound the
computed iterates `x_j`, the intermediate iterates `x_j + α p̂` (`j < iters`) and the returned `x`,
and `R` the recurrence residuals `r_j` and the half-step residuals `s_j` (`j < iters`); `M.u ≤ 1/8`,
product error `εA ≤ cA · u`.  Then the vector `rk` the model tested at its exit — `r` of state
`iters` (initial test, or full-step exit of iteration `iters`) or the half-step residual `s` of
iteration `iters` (half-step exit, where `x` has received only `α p̂`) — passed the model's test
and the TRUE residual of the returned `x` differs from it by at most
`u (‖b‖ + (1 + 2 cA) a X) + iters · u · ((32 + 12 cA) a X + 2 R)`. -/
theorem stab_success_true_residual (H : FlMatVec mv A a εA) (b x0 : Fin n → Fl M) (maxIter : ℕ)
    (tol : Fl M) (hu8 : M.u ≤ 1 / 8) (cA : ℝ) (hcA : 0 ≤ cA) (hεc : εA ≤ cA * M.u) (X R : ℝ)
    (hok : (solveBiCGSTAB oF b x0 maxIter tol).ok = true)
    (hX : ∀ j, j < (solveBiCGSTAB oF b x0 maxIter tol).iters → ‖vval (stabSeq oF b x0 j).x‖ ≤ X)
    (hXm : ∀ j, j < (solveBiCGSTAB oF b x0 maxIter tol).iters → ‖vval (stabSeqMid oF b x0 j)‖ ≤ X)
    (hXo : ‖vval (solveBiCGSTAB oF b x0 maxIter tol).x‖ ≤ X)
    (hR : ∀ j, j < (solveBiCGSTAB oF b x0 maxIter tol).iters → ‖vval (stabSeq oF b x0 j).r‖ ≤ R)
    (hS : ∀ j, j < (solveBiCGSTAB oF b x0 maxIter tol).iters → ‖vval (stabSeqS oF b x0 j)‖ ≤ R) :
    ∃ rk : Fin n → Fl M,
      (rk = (stabSeq oF b x0 (solveBiCGSTAB oF b x0 maxIter tol).iters).r ∨
        ∃ k, (solveBiCGSTAB oF b x0 maxIter tol).iters = k + 1 ∧ rk = stabSeqS oF b x0 k) ∧
      (solveBiCGSTAB oF b x0 maxIter tol).iters ≤ maxIter ∧
      Transc.le (norm2 rk / guardNorm (norm2 b)) tol = true ∧
      ‖(vval b - A (vval (solveBiCGSTAB oF b x0 maxIter tol).x)) - vval rk‖
        ≤ M.u * (‖vval b‖ + (1 + 2 * cA) * a * X)
          + (solveBiCGSTAB oF b x0 maxIter tol).iters * M.u * ((32 + 12 * cA) * a * X + 2 * R) := by
  obtain ⟨_, hit, rk, hrk, ht, hd⟩ := stab_drift_span (VHom.refl _) (VHom.refl oF) H vval (fun _ => rfl)
    b x0 maxIter tol hu8 cA hcA hεc X R hok hX hXm hXo hR hS
  exact ⟨rk, hrk, hit, ht, hd⟩

/-- the same with the norm of the tested vector: if passing the model's stopping test (arbitrary
`norm2`, rounded `/`, arbitrary comparison) implies `‖rk‖∞ ≤ τ`, then on success
`‖b − A x_out‖∞ ≤ τ + u (‖b‖ + (1 + 2 cA) a X) + iters · u · ((32 + 12 cA) a X + 2 R)`. -/
theorem stab_success_true_residual_norm (H : FlMatVec mv A a εA) (b x0 : Fin n → Fl M)
    (maxIter : ℕ) (tol : Fl M) (hu8 : M.u ≤ 1 / 8) (cA : ℝ) (hcA : 0 ≤ cA) (hεc : εA ≤ cA * M.u)
    (X R τ : ℝ)
    (htest : ∀ r : Fin n → Fl M, Transc.le (norm2 r / guardNorm (norm2 b)) tol = true →
      ‖vval r‖ ≤ τ)
    (hok : (solveBiCGSTAB oF b x0 maxIter tol).ok = true)
    (hX : ∀ j, j < (solveBiCGSTAB oF b x0 maxIter tol).iters → ‖vval (stabSeq oF b x0 j).x‖ ≤ X)
    (hXm : ∀ j, j < (solveBiCGSTAB oF b x0 maxIter tol).iters → ‖vval (stabSeqMid oF b x0 j)‖ ≤ X)
    (hXo : ‖vval (solveBiCGSTAB oF b x0 maxIter tol).x‖ ≤ X)
    (hR : ∀ j, j < (solveBiCGSTAB oF b x0 maxIter tol).iters → ‖vval (stabSeq oF b x0 j).r‖ ≤ R)
    (hS : ∀ j, j < (solveBiCGSTAB oF b x0 maxIter tol).iters → ‖vval (stabSeqS oF b x0 j)‖ ≤ R) :
    ‖vval b - A (vval (solveBiCGSTAB oF b x0 maxIter tol).x)‖
      ≤ τ + M.u * (‖vval b‖ + (1 + 2 * cA) * a * X)
        + (solveBiCGSTAB oF b x0 maxIter tol).iters * M.u * ((32 + 12 * cA) * a * X + 2 * R) := by
  obtain ⟨rk, _, _, ht, hd⟩ :=
    stab_success_true_residual H b x0 maxIter tol hu8 cA hcA hεc X R hok hX hXm hXo hR hS
  exact (norm_le_insert' _ (vval rk)).trans
    ((add_le_add (htest rk ht) hd).trans_eq (add_assoc _ _ _).symm)

end Model

section Sparse
variable {M : FlModel} [Transc (Fl M)]
open Ohsl.Props.C07 (entryR rowCount colCount NoDup)

/-- on a well-formed square storage over `Fl M` with right-hand side and guess of size `n` the call
`solve_bicgstab` does return a value: the iteration over `arrOps` -/
theorem solveIter_runs_stab {s : Sp (Fl M)} {n : Nat} (h : SqWF s n) (norm2 : Array (Fl M) → Fl M)
    (b x0 : Array (Fl M)) (hb : b.size = n) (hx : x0.size = n) (maxIter : ℕ) (tol : Fl M) :
    Sp.solveIter s .bicgstab b x0 maxIter tol norm2
      = .ok (solveBiCGSTAB (Sp.arrOps s n norm2) b x0 maxIter tol) :=
  solveIter_runs_of h norm2 .bicgstab (fun _ hm => by cases hm) b x0 hb hx maxIter tol

/-- **`solve_bicgstab` of the model, any real matrix the product is known to approximate**: the
product assumption `FlMatVec (mvOf s n) A a εA` about the MODEL's product is a hypothesis
(`flMatVec_multiply` provides it for duplicate-free storage, `flMatVec_multiply_slots` for every
well-formed storage). -/
theorem stab_success_true_residual_sparse_of {s : Sp (Fl M)} {n : Nat} (h : SqWF s n)
    {A : (Fin n → ℝ) →ₗ[ℝ] (Fin n → ℝ)} {a εA : ℝ} (H : FlMatVec (mvOf s n) A a εA)
    (norm2 : Array (Fl M) → Fl M) (b x0 : Array (Fl M)) (maxIter : ℕ) (tol : Fl M)
    (out : KOut (Fl M) (Array (Fl M)))
    (hrun : Sp.solveIter s .bicgstab b x0 maxIter tol norm2 = .ok out) (hok : out.ok = true)
    (hu8 : M.u ≤ 1 / 8) (cA : ℝ) (hcA : 0 ≤ cA) (hεc : εA ≤ cA * M.u) (X R : ℝ)
    (hX : ∀ j, j < out.iters → ‖rval n (stabSeq (Sp.arrOps s n norm2) b x0 j).x‖ ≤ X)
    (hXm : ∀ j, j < out.iters → ‖rval n (stabSeqMid (Sp.arrOps s n norm2) b x0 j)‖ ≤ X)
    (hXo : ‖rval n out.x‖ ≤ X)
    (hR : ∀ j, j < out.iters → ‖rval n (stabSeq (Sp.arrOps s n norm2) b x0 j).r‖ ≤ R)
    (hS : ∀ j, j < out.iters → ‖rval n (stabSeqS (Sp.arrOps s n norm2) b x0 j)‖ ≤ R) :
    out.x.size = n ∧ out.iters ≤ maxIter ∧
    ∃ rk : Array (Fl M),
      (rk = (stabSeq (Sp.arrOps s n norm2) b x0 out.iters).r ∨
        ∃ k, out.iters = k + 1 ∧ rk = stabSeqS (Sp.arrOps s n norm2) b x0 k) ∧
      rk.size = n ∧
      Transc.le (norm2 rk / guardNorm (norm2 b)) tol = true ∧
      ‖(rval n b - A (rval n out.x)) - rval n rk‖
        ≤ M.u * (‖rval n b‖ + (1 + 2 * cA) * a * X)
          + out.iters * M.u * ((32 + 12 * cA) * a * X + 2 * R) := by
  obtain ⟨hb, hx, _, rfl⟩ := solveIter_ok_inv h norm2 .bicgstab b x0 maxIter tol out hrun
  obtain ⟨⟨y, hy⟩, hit, rk, hrk, ht, hd⟩ := stab_drift_span (valHomS h norm2) (fnHomF h norm2) H
    (rval n) (fun _ => rfl) ⟨b, hb⟩ ⟨x0, hx⟩ maxIter tol hu8 cA hcA hεc X R hok hX hXm hXo hR hS
  exact ⟨hy ▸ y.2, hit, rk.1, hrk, rk.2, ht, hd⟩

/-- **C08, quantitative clause, for the model's `solve_bicgstab`** (`Sp.solveIter s .bicgstab` at
scalars `Fl M`, standard model of floating-point arithmetic, ∞-norm).  Let `s` be a well-formed
duplicate-free square storage of order `n`, `A = sqMat s n` the REAL matrix it denotes, `a` a bound
of its absolute row sums (`a ≥ ‖A‖∞`), `kA` a bound of the number of stored entries per row,
`M.u ≤ 1/8` and `(1+u)^(kA+1) − 1 ≤ cA · u`.  If the call returns `out` reporting success, `X` bounds
the computed iterates `x_j`, intermediate iterates `x_j + α p̂` (`j < iters`) and the returned `x`,
and `R` the recurrence residuals `r_j` and half-step residuals `s_j` (`j < iters`), then `out.x` has
size `n`, `out.iters ≤ maxIter`, the vector `rk` tested at the exit (`r` of state `iters`, or `s` of
iteration `iters` at the half-step exit) passed the model's test, and the TRUE residual
`b − A·out.x`, formed in REAL arithmetic from the values of the arrays, differs from it by at most
`u (‖b‖ + (1 + 2 cA) a X) + iters · u · ((32 + 12 cA) a X + 2 R)`.
`norm2` and the comparison `Transc.le` are arbitrary; the product and the dot product are the
model's (`Sp.multiply`, fold of rounded products). -/
theorem stab_success_true_residual_sparse {s : Sp (Fl M)} {n : Nat} (h : SqWF s n) (hnd : NoDup s)
    (norm2 : Array (Fl M) → Fl M) (b x0 : Array (Fl M)) (maxIter : ℕ) (tol : Fl M)
    (out : KOut (Fl M) (Array (Fl M)))
    (hrun : Sp.solveIter s .bicgstab b x0 maxIter tol norm2 = .ok out) (hok : out.ok = true)
    (a : ℝ) (ha : 0 ≤ a) (hrow : ∀ i, ∑ j, |sqMat s n i j| ≤ a)
    (kA : ℕ) (hk : ∀ i, i < n → rowCount s i ≤ kA)
    (hu8 : M.u ≤ 1 / 8) (cA : ℝ) (hcA : 0 ≤ cA) (hεc : M.gam (kA + 1) ≤ cA * M.u) (X R : ℝ)
    (hX : ∀ j, j < out.iters → ‖rval n (stabSeq (Sp.arrOps s n norm2) b x0 j).x‖ ≤ X)
    (hXm : ∀ j, j < out.iters → ‖rval n (stabSeqMid (Sp.arrOps s n norm2) b x0 j)‖ ≤ X)
    (hXo : ‖rval n out.x‖ ≤ X)
    (hR : ∀ j, j < out.iters → ‖rval n (stabSeq (Sp.arrOps s n norm2) b x0 j).r‖ ≤ R)
    (hS : ∀ j, j < out.iters → ‖rval n (stabSeqS (Sp.arrOps s n norm2) b x0 j)‖ ≤ R) :
    out.x.size = n ∧ out.iters ≤ maxIter ∧
    ∃ rk : Array (Fl M),
      (rk = (stabSeq (Sp.arrOps s n norm2) b x0 out.iters).r ∨
        ∃ k, out.iters = k + 1 ∧ rk = stabSeqS (Sp.arrOps s n norm2) b x0 k) ∧
      rk.size = n ∧
      Transc.le (norm2 rk / guardNorm (norm2 b)) tol = true ∧
      ‖(rval n b - rowLin (sqMat s n) (rval n out.x)) - rval n rk‖
        ≤ M.u * (‖rval n b‖ + (1 + 2 * cA) * a * X)
          + out.iters * M.u * ((32 + 12 * cA) * a * X + 2 * R) :=
  stab_success_true_residual_sparse_of h (flMatVec_multiply h hnd a ha hrow kA hk) norm2 b x0
    maxIter tol out hrun hok hu8 cA hcA hεc X R hX hXm hXo hR hS

/-- **the same with the norm of the tested vector and explicit constants**: `a = ‖A‖∞` (`normInf`),
`εA = (1+u)^(n+1) − 1 ≤ 2(n+1)u` when `(n+1) u ≤ 1/2` (so `cA = 2(n+1)`).  If passing the model's
stopping test (arbitrary `norm2`, rounded `/`, arbitrary comparison) implies `‖r‖∞ ≤ τ` for arrays of
size `n`, then on success
`‖b − A·out.x‖∞ ≤ τ + u (‖b‖ + (4n+5) ‖A‖∞ X) + iters · u · ((24n+56) ‖A‖∞ X + 2 R)`. -/
theorem stab_success_true_residual_norm_sparse {s : Sp (Fl M)} {n : Nat} (h : SqWF s n)
    (hnd : NoDup s) (norm2 : Array (Fl M) → Fl M) (b x0 : Array (Fl M)) (maxIter : ℕ) (tol : Fl M)
    (out : KOut (Fl M) (Array (Fl M)))
    (hrun : Sp.solveIter s .bicgstab b x0 maxIter tol norm2 = .ok out) (hok : out.ok = true)
    (hu8 : M.u ≤ 1 / 8) (hnu : ((n + 1 : ℕ) : ℝ) * M.u ≤ 1 / 2) (X R τ : ℝ)
    (htest : ∀ r : Array (Fl M), r.size = n →
      Transc.le (norm2 r / guardNorm (norm2 b)) tol = true → ‖rval n r‖ ≤ τ)
    (hX : ∀ j, j < out.iters → ‖rval n (stabSeq (Sp.arrOps s n norm2) b x0 j).x‖ ≤ X)
    (hXm : ∀ j, j < out.iters → ‖rval n (stabSeqMid (Sp.arrOps s n norm2) b x0 j)‖ ≤ X)
    (hXo : ‖rval n out.x‖ ≤ X)
    (hR : ∀ j, j < out.iters → ‖rval n (stabSeq (Sp.arrOps s n norm2) b x0 j).r‖ ≤ R)
    (hS : ∀ j, j < out.iters → ‖rval n (stabSeqS (Sp.arrOps s n norm2) b x0 j)‖ ≤ R) :
    ‖rval n b - rowLin (sqMat s n) (rval n out.x)‖
      ≤ τ + M.u * (‖rval n b‖ + (4 * n + 5) * normInf (sqMat s n) * X)
        + out.iters * M.u * ((24 * n + 56) * normInf (sqMat s n) * X + 2 * R) := by
  obtain ⟨_, _, rk, _, hsz, ht, hd⟩ := stab_success_true_residual_sparse_of h
    (flMatVec_multiply_normInf h hnd) norm2 b x0 maxIter tol out hrun hok hu8 (2 * ((n : ℝ) + 1))
    (by positivity) (gam_succ_le n hnu) X R hX hXm hXo hR hS
  exact (norm_le_insert' _ (rval n rk)).trans
    ((add_le_add (htest rk hsz ht) hd).trans_eq (by ring))

end Sparse

end Rounding

section Examples
open Ohsl.Props.C07 (rowCount colCount NoDup)

theorem solveBiCGSTAB_first_half {K V : Type} [Add K] [Sub K] [Mul K] [Neg K] [Div K] [Zero K]
    [One K] [BEq K] [Transc K] (o : VOps K V) (b x : V) (m : Nat) (tol : K)
    (h0 : Transc.le (o.norm2 (o.sub b (o.A x)) / guardNorm (o.norm2 b)) tol = false)
    (hρ : (stabRho o (o.sub b (o.A x)) (stabSeq o b x 0) == 0) = false)
    (h1 : Transc.le (o.norm2 (stabSeqS o b x 0) / guardNorm (o.norm2 b)) tol = true) :
    solveBiCGSTAB o b x (m + 1) tol
      = ⟨true, 1, o.norm2 (stabSeqS o b x 0) / guardNorm (o.norm2 b), stabSeqHalf o b x 0⟩ := by
  rw [solveBiCGSTAB_eq_run, krylovRun, if_neg (by rw [h0]; exact Bool.false_ne_true)]
  unfold iterate
  rw [stabStep_eq_next]
  have hρ' : (stabRho o (o.sub b (o.A x)) (stabInit o b x (guardNorm (o.norm2 b))) == 0) = false := hρ
  rw [if_neg (by rw [hρ']; exact Bool.false_ne_true)]
  have h1' : Transc.le (o.norm2 (stabS o (o.sub b (o.A x)) 1
      (stabInit o b x (guardNorm (o.norm2 b)))) / guardNorm (o.norm2 b)) tol = true := h1
  rw [if_pos h1']
  rfl

private theorem Fl_mk_add' {M : FlModel} (a b : ℝ) : ((⟨a⟩ : Fl M) + ⟨b⟩) = ⟨M.fl (a + b)⟩ := rfl
private theorem Fl_mk_sub' {M : FlModel} (a b : ℝ) : ((⟨a⟩ : Fl M) - ⟨b⟩) = ⟨M.fl (a - b)⟩ := rfl
private theorem Fl_mk_mul' {M : FlModel} (a b : ℝ) : ((⟨a⟩ : Fl M) * ⟨b⟩) = ⟨M.fl (a * b)⟩ := rfl
private theorem Fl_mk_div' {M : FlModel} (a b : ℝ) : ((⟨a⟩ : Fl M) / ⟨b⟩) = ⟨M.fl (a / b)⟩ := rfl
private theorem Fl_zero_mk' {M : FlModel} (a : ℝ) : (0 : Fl M) + ⟨a⟩ = ⟨M.fl (0 + a)⟩ := rfl

/-- **a BiCGSTAB run that succeeds THROUGH THE LOOP, in every model in which the integers
`0, ±1, ±2` are representable** (`binary64`, `exact`, …): the model's BiCGSTAB on
`[[2,1],[1,2]] x = [1,−1]` from `x₀ = 0` with `tol = 0` is not accepted at the initial check
(relative residual `1`), has `ρ = 2 ≠ 0`, `α = 1`, half-step residual `s = [0,0]`, and leaves at the
HALF-STEP exit of iteration 1 with `x = x₀ + p̂·α = [1,−1]`. -/
theorem spd2F_stab_run (M : FlModel) (hrep : ∀ k : ℤ, |k| ≤ 2 → M.fl k = k) :
    letI := leTransc M
    solveBiCGSTAB (Sp.arrOps (spd2F M) 2 nrm1) #[⟨1⟩, ⟨-1⟩] #[⟨0⟩, ⟨0⟩] 5 ⟨0⟩
      = ⟨true, 1, ⟨0⟩, #[⟨1⟩, ⟨-1⟩]⟩ := by
  let _ := leTransc M
  obtain ⟨f0, f1, f2, fm1, fm2⟩ := fl_small hrep
  obtain ⟨hnb, hr0, hq, hrho⟩ := spd2_start (M := M) hrep
  have hS0 : stabSeq (spd2Ops M) #[⟨1⟩, ⟨-1⟩] #[⟨0⟩, ⟨0⟩] 0
      = ⟨#[⟨0⟩, ⟨0⟩], #[⟨1⟩, ⟨-1⟩], (spd2Ops M).zero, (spd2Ops M).zero, 1, 1, 1, ⟨1⟩⟩ := by
    rw [stabSeq_zero, hnb, stabInit, hr0, spd2Ops_norm2]
    norm_num [Fl.mk_div, f1]
  -- the quantities of iteration 1: `p̂ = r₀`, `v = A p̂ = r₀`, `α = 2/2 = 1`, `s = r₀ − v·α = 0`
  have hP : stabP (spd2Ops M) #[⟨1⟩, ⟨-1⟩] (0 + 1)
      ⟨#[⟨0⟩, ⟨0⟩], #[⟨1⟩, ⟨-1⟩], (spd2Ops M).zero, (spd2Ops M).zero, 1, 1, 1, ⟨1⟩⟩
        = #[⟨1⟩, ⟨-1⟩] := rfl
  have hV : stabV (spd2Ops M) #[⟨1⟩, ⟨-1⟩] (0 + 1)
      ⟨#[⟨0⟩, ⟨0⟩], #[⟨1⟩, ⟨-1⟩], (spd2Ops M).zero, (spd2Ops M).zero, 1, 1, 1, ⟨1⟩⟩
        = #[⟨1⟩, ⟨-1⟩] := by
    rw [stabV, hP, hq]
  have hα : stabAlpha (spd2Ops M) #[⟨1⟩, ⟨-1⟩] (0 + 1)
      ⟨#[⟨0⟩, ⟨0⟩], #[⟨1⟩, ⟨-1⟩], (spd2Ops M).zero, (spd2Ops M).zero, 1, 1, 1, ⟨1⟩⟩ = ⟨1⟩ := by
    rw [stabAlpha, hV, stabRho, hrho]
    norm_num [Fl.mk_div, f1]
  have hSS : stabSeqS (spd2Ops M) #[⟨1⟩, ⟨-1⟩] #[⟨0⟩, ⟨0⟩] 0 = #[⟨0⟩, ⟨0⟩] := by
    rw [stabSeqS, hr0, hS0, stabS, hV, hα]
    show (spd2Ops M).sub #[⟨1⟩, ⟨-1⟩] ((spd2Ops M).smul #[⟨1⟩, ⟨-1⟩] ⟨1⟩) = _
    rw [spd2Ops_smul, spd2Ops_sub]
    norm_num [Fl.mk_mul, Fl.mk_sub, f0, f1, fm1]
  have hSH : stabSeqHalf (spd2Ops M) #[⟨1⟩, ⟨-1⟩] #[⟨0⟩, ⟨0⟩] 0 = #[⟨1⟩, ⟨-1⟩] := by
    rw [stabSeqHalf, hr0, hS0, stabHalfX, hP, hα]
    show (spd2Ops M).add #[⟨0⟩, ⟨0⟩] ((spd2Ops M).smul #[⟨1⟩, ⟨-1⟩] ⟨1⟩) = _
    rw [spd2Ops_smul, spd2Ops_add]
    norm_num [Fl.mk_mul, Fl.mk_add, f0, f1, fm1]
  have hres1 : (spd2Ops M).norm2 #[⟨0⟩, ⟨0⟩] / (⟨2⟩ : Fl M) = ⟨0⟩ := by
    rw [spd2Ops_norm2]
    norm_num [Fl.mk_div, f0]
  rw [solveBiCGSTAB_first_half (spd2Ops M) _ _ 4 ⟨0⟩
    (by
      rw [hr0, hnb, spd2Ops_norm2]
      norm_num [Fl.mk_div, f1]
      show decide ((1 : ℝ) ≤ 0) = false
      norm_num)
    (by
      rw [hr0, hS0, stabRho, hrho]
      simp [Fl.ext_iff])
    (by
      rw [hSS, hnb, hres1]
      show decide ((0 : ℝ) ≤ 0) = true
      norm_num),
    hSS, hSH, hnb, hres1]

private theorem le_add_sum_pair (f g : ℕ → ℝ) (hf : ∀ j, 0 ≤ f j) (hg : ∀ j, 0 ≤ g j) (c : ℝ)
    (hc : 0 ≤ c) (N j : ℕ) (hj : j < N) :
    f j ≤ c + ∑ i ∈ Finset.range N, (f i + g i) ∧ g j ≤ c + ∑ i ∈ Finset.range N, (f i + g i) := by
  have := Finset.single_le_sum (f := fun i => f i + g i) (fun i _ => add_nonneg (hf i) (hg i))
    (Finset.mem_range.mpr hj)
  have h1 := hf j
  have h2 := hg j
  constructor <;> linarith

/-- **all hypotheses of `stab_success_true_residual_sparse` are satisfiable, non-trivially**: for the
2×2 SPD storage `spd2F M` (`SqWF`, `NoDup`, `‖A‖∞ = 3`, two entries per row, so
`εA = (1+u)³ − 1 ≤ 6u`, `cA = 6`) in every model with `u ≤ 1/8` in which `0, ±1, ±2` are
representable — in particular `FlModel.binary64` and `FlModel.exact` (`rep_small_binary64_exact`) —
the call `solve_bicgstab` returns, reports success after ONE iteration of the loop (half-step exit),
and the theorem bounds the drift of its true residual by `u (‖b‖ + 39 X) + 1 · u · (312 X + 2 R)`. -/
example (M : FlModel) (hu8 : M.u ≤ 1 / 8) (hrep : ∀ k : ℤ, |k| ≤ 2 → M.fl k = k) :
    letI := leTransc M
    ∃ out : KOut (Fl M) (Array (Fl M)),
      Sp.solveIter (spd2F M) .bicgstab #[⟨1⟩, ⟨-1⟩] #[⟨0⟩, ⟨0⟩] 5 ⟨0⟩ nrm1 = .ok out ∧
      out.ok = true ∧ out.iters = 1 ∧ out.x = #[⟨1⟩, ⟨-1⟩] ∧
      ∃ X R : ℝ, ∃ rk : Array (Fl M),
        Transc.le (nrm1 rk / guardNorm (nrm1 #[(⟨1⟩ : Fl M), ⟨-1⟩])) ⟨0⟩ = true ∧
        ‖(rval 2 #[(⟨1⟩ : Fl M), ⟨-1⟩] - rowLin (sqMat (spd2F M) 2) (rval 2 out.x)) - rval 2 rk‖
          ≤ M.u * (‖rval 2 #[(⟨1⟩ : Fl M), ⟨-1⟩]‖ + (1 + 2 * 6) * 3 * X)
            + out.iters * M.u * ((32 + 12 * 6) * 3 * X + 2 * R) := by
  let _ := leTransc M
  have hrun := solveIter_runs_stab (spd2F_sqwf M).1 nrm1 #[(⟨1⟩ : Fl M), ⟨-1⟩] #[⟨0⟩, ⟨0⟩] rfl rfl
    5 ⟨0⟩
  have hout := spd2F_stab_run M hrep
  refine ⟨_, hrun, by rw [hout], by rw [hout], by rw [hout], ?_⟩
  obtain ⟨X, hXo, hX⟩ := exists_bound_pair
    (fun j => ‖rval 2 (stabSeq (spd2Ops M) #[(⟨1⟩ : Fl M), ⟨-1⟩] #[⟨0⟩, ⟨0⟩] j).x‖)
    (fun j => ‖rval 2 (stabSeqMid (spd2Ops M) #[(⟨1⟩ : Fl M), ⟨-1⟩] #[⟨0⟩, ⟨0⟩] j)‖)
    ‖rval 2 (solveBiCGSTAB (spd2Ops M) #[(⟨1⟩ : Fl M), ⟨-1⟩] #[⟨0⟩, ⟨0⟩] 5 ⟨0⟩).x‖ 1
  obtain ⟨R, _, hR⟩ := exists_bound_pair
    (fun j => ‖rval 2 (stabSeq (spd2Ops M) #[(⟨1⟩ : Fl M), ⟨-1⟩] #[⟨0⟩, ⟨0⟩] j).r‖)
    (fun j => ‖rval 2 (stabSeqS (spd2Ops M) #[(⟨1⟩ : Fl M), ⟨-1⟩] #[⟨0⟩, ⟨0⟩] j)‖)
    0 1
  have hlt : ∀ j, j < (solveBiCGSTAB (Sp.arrOps (spd2F M) 2 nrm1) #[(⟨1⟩ : Fl M), ⟨-1⟩]
      #[⟨0⟩, ⟨0⟩] 5 ⟨0⟩).iters → j < 1 := fun j hj => by rwa [hout] at hj
  obtain ⟨_, _, rk, _, _, ht, hd⟩ := stab_success_true_residual_sparse (spd2F_sqwf M).1
    (spd2F_sqwf M).2 nrm1 #[(⟨1⟩ : Fl M), ⟨-1⟩] #[⟨0⟩, ⟨0⟩] 5 ⟨0⟩ _ hrun (by rw [hout]) 3
    (by norm_num) (spd2F_rows M).1 2 (spd2F_rows M).2 hu8 6 (by norm_num)
    (by have := gam_le_two_mul (M := M) 3 (by push_cast; linarith); push_cast at this; linarith)
    X R (fun j hj => (hX j (hlt j hj)).1) (fun j hj => (hX j (hlt j hj)).2) hXo
    (fun j hj => (hR j (hlt j hj)).1) (fun j hj => (hR j (hlt j hj)).2)
  exact ⟨X, R, rk, ht, hd⟩

/-- in the exact model (`u = 0`) the drift bound collapses, at EVERY exit: the true residual of a
successful `solve_bicgstab` IS the vector that passed the test (`r_0`, the half-step residual `s`, or
the full-step residual `r`; cf. `stab_success_sound_sparse`) -/
example [Transc (Fl FlModel.exact)] {s : Sp (Fl FlModel.exact)} {n : Nat} (h : SqWF s n)
    (hnd : NoDup s) (norm2 : Array (Fl FlModel.exact) → Fl FlModel.exact)
    (b x0 : Array (Fl FlModel.exact)) (maxIter : ℕ) (tol : Fl FlModel.exact)
    (out : KOut (Fl FlModel.exact) (Array (Fl FlModel.exact)))
    (hrun : Sp.solveIter s .bicgstab b x0 maxIter tol norm2 = .ok out) (hok : out.ok = true) :
    ∃ rk : Array (Fl FlModel.exact), Transc.le (norm2 rk / guardNorm (norm2 b)) tol = true ∧
      rval n b - rowLin (sqMat s n) (rval n out.x) = rval n rk := by
  obtain ⟨X, hXo, hX⟩ := exists_bound_pair
    (fun j => ‖rval n (stabSeq (Sp.arrOps s n norm2) b x0 j).x‖)
    (fun j => ‖rval n (stabSeqMid (Sp.arrOps s n norm2) b x0 j)‖)
    ‖rval n out.x‖ out.iters
  obtain ⟨R, _, hR⟩ := exists_bound_pair
    (fun j => ‖rval n (stabSeq (Sp.arrOps s n norm2) b x0 j).r‖)
    (fun j => ‖rval n (stabSeqS (Sp.arrOps s n norm2) b x0 j)‖)
    0 out.iters
  obtain ⟨_, _, rk, _, _, ht, hd⟩ := stab_success_true_residual_sparse h hnd norm2 b x0 maxIter tol
    out hrun hok (normInf (sqMat s n)) (normInf_nonneg _) (row_le_normInf _) n
    (fun i _ => by have := C07.rowCount_le_cols h.wf hnd i; rw [h.cols] at this; exact this)
    (by rw [FlModel.exact_u]; norm_num) 0 le_rfl (by simp) X R
    (fun j hj => (hX j hj).1) (fun j hj => (hX j hj).2) hXo
    (fun j hj => (hR j hj).1) (fun j hj => (hR j hj).2)
  refine ⟨rk, ht, ?_⟩
  rw [FlModel.exact_u] at hd
  simp only [zero_mul, mul_zero, add_zero] at hd
  exact sub_eq_zero.mp (norm_le_zero_iff.mp hd)

/-- the abstract recurrences are satisfiable beyond the model: an EXACT BiCGSTAB-style run
(`v = A p`, `t = A s`, exact updates) is a `StabRun` with `u = εA = 0`, for which `bound_full` gives
`(b − A x_k) − r_k = (b − A x_0) − r_0`, i.e. zero accumulated drift. -/
example {E : Type} [SeminormedAddCommGroup E] [NormedSpace ℝ E] (A : E →ₗ[ℝ] E) (a : ℝ)
    (ha : 0 ≤ a) (hA : ∀ w, ‖A w‖ ≤ a * ‖w‖) (b : E) (x r p : ℕ → E) (α ω : ℕ → ℝ) (k : ℕ)
    (hx : ∀ i, x (i + 1) = (x i + α i • p i) + ω i • (r i - α i • A (p i)))
    (hr : ∀ i, r (i + 1) = (r i - α i • A (p i)) - ω i • A (r i - α i • A (p i))) :
    ‖drift A b (x k) (r k)‖ ≤ ‖drift A b (x 0) (r 0)‖ := by
  have H : StabRun A a 0 0 (2 * k) x (fun i => x i + α i • p i) r (fun i => r i - α i • A (p i)) p
      (fun i => A (p i)) (fun i => A (r i - α i • A (p i))) α ω :=
    ⟨ha, le_rfl, le_rfl, hA, fun i _ => by simp, fun i _ => by simp, fun i _ => by simp,
      fun i _ => by simp, fun i _ => by simp [hx], fun i _ => by simp [hr]⟩
  obtain ⟨X, _, hX⟩ := exists_bound_pair (fun i => ‖x i‖) (fun i => ‖x i + α i • p i‖)
    0 (k + 1)
  obtain ⟨R, _, hR⟩ := exists_bound_pair (fun i => ‖r i‖) (fun i => ‖r i - α i • A (p i)‖)
    0 k
  have h := H.bound_full b (by norm_num) 0 le_rfl (by simp) X R
    (fun j hj => (hX j (by omega)).1) (fun j hj => (hX j (by omega)).2)
    (fun j hj => (hR j hj).1) (fun j hj => (hR j hj).2)
  simpa using h

end Examples

end Ohsl.Props.C08
