/-
  Property C18 (part F) — the finite-difference Jacobian (`Ohsl.Jac.jacobian`, Ohsl/Model/Newton.lean)
  in the "rounded reals" interpretation `Fl M` (Ohsl/Lemmas/Rounding.lean): the SAME model definition
  instantiated at real numbers whose `+ - /` round with relative error `≤ u` (standard model of
  floating-point arithmetic, no overflow / underflow).  The transfer to the Rust `f64` code rests on
  the ASSUMPTION stated in Rounding.lean (IEEE binary64 without overflow/underflow satisfies `FlModel`
  with `u = 2⁻⁵³`); it is not proved here.  The user function `f` is a black box
  `Array (Fl M) → Array (Fl M)`.

  Notation: `x = vals point` (the real values of the point), `δ = delta.val ≠ 0`, `n = point.size`,
  `x̃_c = evalPt point delta c` the point at which the model evaluates `f` for column `c` (C18E
  `jacobian_entries`), `drift_c = u|x_c + δ|`, `M.gam 2 = (1+u)² - 1`.

  (F) `restore_rounding`, `restore_exact_of_rep` (the restore step `(x+d) - d`: facts about the
      arithmetic only — before repair D15 ohsl restored the perturbed coordinate this way; the
      repaired loop puts the SAVED coordinate back, so these do not enter the bounds below);
      `evalPoint_drift` (where the model really evaluates `f`); `jacobian_entry_rounding` (what an
      entry is and the rounding of its quotient); `jacobian_total_error` (truncation + rounding +
      displacement of the evaluation point, every shape); `jacobian_total_error_exact` (`u = 0`: the
      statement of C18R).
  NOT proved: optimal choice of `δ` (`≈ 2 sqrt((εf+2u) Gm / M₂)`); overflow/underflow; bounds relative
    to the ACTUAL step `fl(x_c+δ) - x_c` (which would remove the `L u |x_c+δ|/|δ|` term at the price of
    a perturbed `δ`); the complex variant `jacobian_cmplx`.
-/
import Ohsl.Props.C18R
import Ohsl.Lemmas.Rounding
import Mathlib.Algebra.Order.BigOperators.Group.Finset
import Mathlib.Tactic.Ring
import Mathlib.Tactic.Linarith
namespace Ohsl.Props.C18
open Ohsl Ohsl.Mat Ohsl.Jac Set

section Real

theorem modify_modify_add (a : Array ℝ) (k : ℕ) (t s : ℝ) :
    (a.modify k (fun p => p + t)).modify k (fun p => p + s) = a.modify k (fun p => p + (t + s)) := by
  apply Array.ext_getElem?
  intro j
  simp only [Array.getElem?_modify]
  by_cases e : k = j
  · simp only [e, if_true, Option.map_map]
    congr 1
    funext p
    simp [add_assoc]
  · simp [e]

/-- the box `∏ₖ [lo k, hi k] ⊆ ℝⁿ` (arrays of size `n`) -/
def box (n : ℕ) (lo hi : ℕ → ℝ) : Set (Array ℝ) :=
  {y | y.size = n ∧ ∀ k, k < n → lo k ≤ y.getD k 0 ∧ y.getD k 0 ≤ hi k}

theorem box_modify_mem {n : ℕ} {lo hi : ℕ → ℝ} (y : Array ℝ) (hy : y ∈ box n lo hi) (k : ℕ)
    (hk : k < n) (w : ℝ) (h1 : lo k ≤ y.getD k 0 + w) (h2 : y.getD k 0 + w ≤ hi k) (t : ℝ)
    (ht : t ∈ uIcc 0 w) : y.modify k (fun p => p + t) ∈ box n lo hi := by
  refine ⟨by simpa using hy.1, fun j hj => ?_⟩
  rw [getD_modify _ _ _ _ 0 (by rw [hy.1]; exact hj)]
  split
  · subst j
    -- `y_k + t` lies between `y_k` and `y_k + w`, both in `[lo k, hi k]`
    have : y.getD k 0 + t ∈ uIcc (y.getD k 0 + 0) (y.getD k 0 + w) := by
      rw [← image_const_add_uIcc]
      exact mem_image_of_mem _ ht
    exact ordConnected_Icc.uIcc_subset (by rw [add_zero]; exact hy.2 k hk) ⟨h1, h2⟩ this
  · exact hy.2 j hj

theorem partial_shift (φ : Array ℝ → ℝ) (y : Array ℝ) (k : ℕ) (t d : ℝ)
    (h : HasDerivAt (fun s => φ ((y.modify k (fun p => p + t)).modify k (fun p => p + s))) d 0) :
    HasDerivAt (fun s => φ (y.modify k (fun p => p + s))) d t := by
  have h' : HasDerivAt (fun s => φ ((y.modify k (fun p => p + t)).modify k (fun p => p + s))) d
      (t - t) := by rwa [sub_self]
  have hin : HasDerivAt (fun u : ℝ => u - t) 1 t := (hasDerivAt_id t).sub_const t
  have h2 := (HasDerivAt.comp (h := fun u : ℝ => u - t) t h' hin).congr_deriv (mul_one d)
  have e : (fun u => φ ((y.modify k (fun p => p + t)).modify k (fun p => p + (u - t))))
      = fun s => φ (y.modify k (fun p => p + s)) := by
    funext u
    rw [modify_modify_add, add_sub_cancel]
  rw [← e]
  exact h2

theorem partial_lipschitz (G : Array ℝ → Array ℝ) (i n : ℕ) (lo hi : ℕ → ℝ) (L : ℝ)
    (hD : ∀ y ∈ box n lo hi, ∀ k, k < n → ∃ d, HasDerivAt (partialFn G y i k) d 0 ∧ |d| ≤ L)
    (y : Array ℝ) (hy : y ∈ box n lo hi) (k : ℕ) (hk : k < n) (w : ℝ)
    (hw1 : lo k ≤ y.getD k 0 + w) (hw2 : y.getD k 0 + w ≤ hi k) :
    |partialFn G y i k w - partialFn G y i k 0| ≤ L * |w| := by
  have key : ∀ t ∈ uIcc 0 w, ∃ d, HasDerivAt (partialFn G y i k) d t ∧ |d| ≤ L := by
    intro t ht
    obtain ⟨d, hd1, hd2⟩ := hD _ (box_modify_mem y hy k hk w hw1 hw2 t ht) k hk
    exact ⟨d, partial_shift (fun a => (G a).getD i 0) y k t d hd1, hd2⟩
  choose! g' hg' using key
  have := lipschitz_of_deriv_bound (partialFn G y i k) g' (uIcc 0 w) ordConnected_uIcc L
    (fun t ht => (hg' t ht).1) (fun t ht => (hg' t ht).2) w 0 right_mem_uIcc left_mem_uIcc
  rwa [sub_zero] at this

theorem lipschitz_l1_of_partial_bounds (G : Array ℝ → Array ℝ) (i n : ℕ) (lo hi : ℕ → ℝ) (L : ℝ)
    (hD : ∀ y ∈ box n lo hi, ∀ k, k < n → ∃ d, HasDerivAt (partialFn G y i k) d 0 ∧ |d| ≤ L)
    (p q : Array ℝ) (hp : p ∈ box n lo hi) (hq : q ∈ box n lo hi) :
    |(G q).getD i 0 - (G p).getD i 0| ≤ L * ∑ k ∈ Finset.range n, |q.getD k 0 - p.getD k 0| := by
  -- induction on the number `k` of leading coordinates in which `q` may differ from `p`:
  -- setting coordinate `k` of `q` to `p_k` costs `L |q_k - p_k|` and leaves `k` such coordinates
  have main : ∀ k, k ≤ n → ∀ q ∈ box n lo hi, (∀ j, k ≤ j → j < n → q.getD j 0 = p.getD j 0) →
      |(G q).getD i 0 - (G p).getD i 0| ≤ L * ∑ j ∈ Finset.range k, |q.getD j 0 - p.getD j 0| := by
    intro k
    induction k with
    | zero =>
      intro _ q hq hag
      have : q = p := by
        apply Array.ext (hq.1.trans hp.1.symm)
        intro j h1 h2
        rw [← getD_of_lt _ 0 h1, ← getD_of_lt _ 0 h2]
        exact hag j (Nat.zero_le j) (hq.1 ▸ h1)
      rw [this, sub_self, abs_zero, Finset.range_zero, Finset.sum_empty, mul_zero]
    | succ k ih =>
      intro hk q hq hag
      obtain ⟨b1, b2⟩ := hp.2 k hk
      have hpk : q.getD k 0 + -(q.getD k 0 - p.getD k 0) = p.getD k 0 :=
        (sub_eq_add_neg _ _).symm.trans (sub_sub_cancel _ _)
      have hmod : ∀ j, j < n → (q.modify k (fun x => x + -(q.getD k 0 - p.getD k 0))).getD j 0
          = if k = j then q.getD j 0 + -(q.getD k 0 - p.getD k 0) else q.getD j 0 := fun j hj =>
        getD_modify _ _ _ _ 0 (hq.1.symm ▸ hj)
      have st := partial_lipschitz G i n lo hi L hD q hq k hk _ (b1.trans hpk.ge) (hpk.le.trans b2)
      rw [partialFn_zero, abs_neg, abs_sub_comm] at st
      have ih' := ih (Nat.le_of_succ_le hk) _
        (box_modify_mem q hq k hk _ (b1.trans hpk.ge) (hpk.le.trans b2) _ right_mem_uIcc) (fun j hkj hj => by
          rcases hkj.eq_or_lt with rfl | h
          · rw [hmod _ hj, if_pos rfl, hpk]
          · rw [hmod _ hj, if_neg h.ne, hag j h hj])
      rw [Finset.sum_congr rfl (fun j hj => by
        have hjk : j < k := Finset.mem_range.mp hj
        rw [hmod j (hjk.trans hk), if_neg hjk.ne'])] at ih'
      rw [Finset.sum_range_succ, mul_add, add_comm]
      exact (abs_sub_le _ _ _).trans (add_le_add st ih')
  exact main n (le_refl n) q hq (fun j h1 h2 => absurd h2 (Nat.not_lt.2 h1))

/-- the real-number core of the total error estimate: `q` the computed entry, `a`, `b` the returned
    values, `Ga`, `Gb`, `Gc` the exact values of the underlying real function at the model's perturbed
    point, at `x`, and at the ideal perturbed point `x + δ e_c`, `D` the partial derivative. -/
theorem fd_error_combine (q a b Ga Gb Gc D δ εf γ T Dr : ℝ) (hγ : 0 ≤ γ)
    (hq : |q - (a - b) / δ| ≤ γ * |a - b| / |δ|)
    (ha : |a - Ga| ≤ εf * |Ga|) (hb : |b - Gb| ≤ εf * |Gb|)
    (hdr : |Ga - Gc| ≤ Dr)
    (hT : |(Gc - Gb) / δ - D| ≤ T) :
    |q - D| ≤ T + (Dr + εf * (|Ga| + |Gb|) + γ * (|Ga - Gb| + εf * (|Ga| + |Gb|))) / |δ| := by
  have hP : 0 ≤ |δ| := abs_nonneg δ
  -- the returned difference against the exact one
  have hev : |a - b - (Ga - Gb)| ≤ εf * (|Ga| + |Gb|) := by
    rw [sub_sub_sub_comm, mul_add]
    exact (abs_sub _ _).trans (add_le_add ha hb)
  have hab : |a - b| ≤ |Ga - Gb| + εf * (|Ga| + |Gb|) := by
    have := abs_add_le (Ga - Gb) (a - b - (Ga - Gb))
    rw [add_sub_cancel] at this
    exact this.trans (add_le_add_right hev _)
  -- … and against the difference to the ideal point
  have hnum : |a - b - (Gc - Gb)| ≤ Dr + εf * (|Ga| + |Gb|) := by
    rw [add_comm]
    refine (abs_sub_le _ (Ga - Gb) _).trans (add_le_add hev ?_)
    rwa [sub_sub_sub_cancel_right]
  -- from `q` to `D` through `(a - b) / δ` and `(Gc - Gb) / δ`
  rw [add_div, add_comm T, add_comm (_ / _)]
  refine (abs_sub_le _ ((Gc - Gb) / δ) _).trans (add_le_add
    ((abs_sub_le _ ((a - b) / δ) _).trans (add_le_add (hq.trans ?_) ?_)) hT)
  · exact div_le_div_of_nonneg_right (mul_le_mul_of_nonneg_left hab hγ) hP
  · rw [← sub_div, abs_div]
    exact div_le_div_of_nonneg_right hnum hP

theorem fd_error_terms_le_max (Ga Gb δ εf γ Dr Gm : ℝ) (hγ : 0 ≤ γ) (hε : 0 ≤ εf)
    (hGa : |Ga| ≤ Gm) (hGb : |Gb| ≤ Gm) :
    (Dr + εf * (|Ga| + |Gb|) + γ * (|Ga - Gb| + εf * (|Ga| + |Gb|))) / |δ|
      ≤ (Dr + 2 * Gm * ((1 + εf) * (1 + γ) - 1)) / |δ| := by
  refine div_le_div_of_nonneg_right ?_ (abs_nonneg δ)
  have hs : |Ga| + |Gb| ≤ 2 * Gm := (add_le_add hGa hGb).trans_eq (two_mul Gm).symm
  have h1 : εf * (|Ga| + |Gb|) ≤ εf * (2 * Gm) := mul_le_mul_of_nonneg_left hs hε
  have h2 : γ * (|Ga - Gb| + εf * (|Ga| + |Gb|)) ≤ γ * (2 * Gm + εf * (2 * Gm)) :=
    mul_le_mul_of_nonneg_left (add_le_add ((abs_sub Ga Gb).trans hs) h1) hγ
  have e : 2 * Gm * ((1 + εf) * (1 + γ) - 1) = εf * (2 * Gm) + γ * (2 * Gm + εf * (2 * Gm)) := by
    ring
  rw [e, add_assoc]
  exact add_le_add_right (add_le_add h1 h2) Dr

theorem fd_error_combine_max (q a b Ga Gb Gc D δ εf γ T Dr Gm : ℝ) (hγ : 0 ≤ γ)
    (hε : 0 ≤ εf)
    (hq : |q - (a - b) / δ| ≤ γ * |a - b| / |δ|)
    (ha : |a - Ga| ≤ εf * |Ga|) (hb : |b - Gb| ≤ εf * |Gb|)
    (hdr : |Ga - Gc| ≤ Dr)
    (hT : |(Gc - Gb) / δ - D| ≤ T) (hGa : |Ga| ≤ Gm) (hGb : |Gb| ≤ Gm) :
    |q - D| ≤ T + (Dr + 2 * Gm * ((1 + εf) * (1 + γ) - 1)) / |δ| :=
  (fd_error_combine q a b Ga Gb Gc D δ εf γ T Dr hγ hq ha hb hdr hT).trans
    (add_le_add_right (fd_error_terms_le_max Ga Gb δ εf γ Dr Gm hγ hε hGa hGb) T)

end Real

section Rounding
variable {M : FlModel}

/-- **restore, sharp form**: the restored coordinate `fl(fl(x + d) - d)` differs from `x` by at most
    `u |x| + u (1+u) |x + d|` (one rounding of the sum, one of the difference; the second acts on
    `fl(x+d) - d`, whose size is at most `|x| + u |x + d|`). -/
theorem restore_rounding_sharp (x d : Fl M) :
    |((x + d) - d).val - x.val| ≤ M.u * |x.val| + M.u * (1 + M.u) * |x.val + d.val| := by
  have h := fl_add_rel (M := M) (A := -d.val) (Fl.add_err x d)
  rwa [← sub_eq_neg_add, ← sub_eq_neg_add, add_sub_cancel_right, mul_comm (1 + M.u)] at h

/-- **restore**: `|fl(fl(x + d) - d) - x| ≤ ((1+u)² - 1) (|x| + |d|)`. -/
theorem restore_rounding (x d : Fl M) :
    |((x + d) - d).val - x.val| ≤ M.gam 2 * (|x.val| + |d.val|) := by
  have h := (FlModel.Within.of_le (M := M) (abs_add_le x.val d.val)).fl
  exact (FlModel.Within.fl ⟨by rw [sub_right_comm, sub_sub]; exact h.1,
    le_add_of_nonneg_right (abs_nonneg _)⟩).1

/-- the restore is exact when both intermediate results are representable -/
theorem restore_exact_of_rep (x d : Fl M) (h1 : M.Rep (x.val + d.val)) (h2 : M.Rep x.val) :
    ((x + d) - d).val = x.val := by
  have e1 : (x + d).val = x.val + d.val := h1
  show M.fl ((x + d).val - d.val) = x.val
  rw [e1]
  have : x.val + d.val - d.val = x.val := by ring
  rw [this]
  exact h2

/-- the real values of a point whose coordinates are rounded reals -/
def vals (p : Array (Fl M)) : Array ℝ := p.map Fl.val

@[simp] theorem vals_size (p : Array (Fl M)) : (vals p).size = p.size := by simp [vals]

theorem vals_getD (p : Array (Fl M)) (k : ℕ) : (vals p).getD k 0 = (p.getD k 0).val := by
  simp only [vals, Array.getD_eq_getD_getElem?, Array.getElem?_map]
  cases p[k]? <;> simp

/-- the IDEAL evaluation point for column `c`: `x + δ e_c` in exact arithmetic -/
def idealPt (point : Array (Fl M)) (δ : Fl M) (c : ℕ) : Array ℝ :=
  (vals point).modify c (fun p => p + δ.val)

theorem idealPt_getD (point : Array (Fl M)) (δ : Fl M) (c k : ℕ) (hk : k < point.size) :
    (idealPt point δ c).getD k 0 = if k = c then point[k].val + δ.val else point[k].val := by
  have hs : k < (idealPt point δ c).size := by simpa [idealPt] using hk
  rw [getD_of_lt _ _ hs]
  simp only [idealPt, Array.getElem_modify, vals, Array.getElem_map]
  by_cases e : c = k
  · subst e; simp
  · have e' : ¬ k = c := fun h => e h.symm
    simp [e, e']

/-- **the model's evaluation point for column `c`** (`evalPt`, the `(c+1)`-st entry of the call trace
    of `jacobian`, see `jacobian_entries`), coordinate by coordinate, and its distance from the ideal
    point `x + δ e_c`: coordinates `k < c` have been perturbed and then RESTORED FROM THE SAVED VALUE
    (repair D15) — they hold `x_k` exactly (before the repair: `fl(fl(x_k + δ) - δ)`, off by up to
    `((1+u)² - 1)(|x_k| + |δ|)`); coordinate `c` holds `fl(x_c + δ)`, off by at most `u |x_c + δ|`;
    coordinates `k > c` are untouched. -/
theorem evalPoint_drift (point : Array (Fl M)) (δ : Fl M) (c k : ℕ) (hk : k < point.size) :
    (evalPt point δ c).getD k 0
        = (if k = c then point[k] + δ else point[k]) ∧
    (k < c → (evalPt point δ c).getD k 0 = point[k]) ∧
    (k = c → |((evalPt point δ c).getD k 0).val - (point[k].val + δ.val)|
        ≤ M.u * |point[k].val + δ.val|) ∧
    (c < k → (evalPt point δ c).getD k 0 = point[k]) := by
  have hs : k < (evalPt point δ c).size := by simpa using hk
  have h := evalPt_get point δ c k hs hk
  rw [getD_of_lt _ _ hs, h]
  refine ⟨rfl, fun h1 => ?_, fun h1 => ?_, fun h1 => ?_⟩
  · rw [if_neg (Nat.ne_of_lt h1)]
  · rw [if_pos h1]
    exact Fl.add_err _ _
  · rw [if_neg (Nat.ne_of_gt h1)]

/-- the bound on the `ℓ¹` distance between the model's and the ideal evaluation point of column `c`:
    `u |x_c + δ|` — only the rounding of the perturbed coordinate; the earlier coordinates are
    restored exactly (repair D15; for the restore-by-subtraction of the unrepaired code the bound
    carries the extra term `((1+u)² - 1) Σ_{k<c} (|x_k| + |δ|)`) -/
noncomputable def drift (point : Array (Fl M)) (δ : Fl M) (c : ℕ) : ℝ :=
  M.u * |(point.getD c 0).val + δ.val|

theorem drift_nonneg (point : Array (Fl M)) (δ : Fl M) (c : ℕ) : 0 ≤ drift point δ c :=
  mul_nonneg M.u_nonneg (abs_nonneg _)

theorem evalPoint_drift_coord (point : Array (Fl M)) (δ : Fl M) (c k : ℕ) (hk : k < point.size) :
    |(vals (evalPt point δ c)).getD k 0 - (idealPt point δ c).getD k 0|
      ≤ if k = c then drift point δ c else 0 := by
  obtain ⟨_, h1, h2, h3⟩ := evalPoint_drift point δ c k hk
  rw [vals_getD, idealPt_getD point δ c k hk]
  by_cases b : k = c
  · subst b
    rw [if_pos rfl, if_pos rfl, drift, getD_of_lt _ _ hk]
    exact h2 rfl
  · rw [if_neg b, if_neg b]
    rcases Nat.lt_or_gt_of_ne b with a | a
    · rw [h1 a, sub_self, abs_zero]
    · rw [h3 a, sub_self, abs_zero]

theorem evalPoint_drift_l1 (point : Array (Fl M)) (δ : Fl M) (c : ℕ) (hc : c < point.size) :
    ∑ k ∈ Finset.range point.size,
        |(vals (evalPt point δ c)).getD k 0 - (idealPt point δ c).getD k 0|
      ≤ drift point δ c :=
  (Finset.sum_le_sum fun k hk =>
    evalPoint_drift_coord point δ c k (Finset.mem_range.mp hk)).trans_eq
      (by rw [Finset.sum_ite_eq', if_pos (Finset.mem_range.mpr hc)])

theorem quotient_rounding (a b δ : Fl M) :
    |((a - b) / δ).val - (a.val - b.val) / δ.val| ≤ M.gam 2 * |a.val - b.val| / |δ.val| := by
  rw [mul_div_assoc, ← abs_div]
  exact ((M.approx_fl (a.val - b.val)).div_const δ.val).fl

/-- **the model over `Fl M`**: for `δ ≠ 0` and a user function of constant output size `m` the call
    succeeds, `f` is evaluated at `point` and then at the points `evalPt point δ c` (`c = 0,…,n-1`, see
    `evalPoint_drift`), and entry `(i, c)` of the `m × n` result is `fl(fl(a - b) / δ)` with
    `a = f(x̃_c)_i`, `b = f(x)_i` the returned values, hence within `((1+u)² - 1)|a - b|/|δ|` of
    `(a - b)/δ`. -/
theorem jacobian_entry_rounding (f : Array (Fl M) → Array (Fl M)) (point : Array (Fl M)) (δ : Fl M)
    (m : ℕ) (hf : ∀ y : Array (Fl M), y.size = point.size → (f y).size = m) (hδ : δ.val ≠ 0) :
    ∃ J e, jacobian f point δ
        = .ok (J, point :: (List.range point.size).map (evalPt point δ)) ∧
      Mat.Is J m point.size e ∧
      ∀ i c, i < m → c < point.size →
        e i c = ((f (evalPt point δ c)).getD i 0 - (f point).getD i 0) / δ ∧
        |(e i c).val - (((f (evalPt point δ c)).getD i 0).val - ((f point).getD i 0).val) / δ.val|
          ≤ M.gam 2 * |((f (evalPt point δ c)).getD i 0).val - ((f point).getD i 0).val| / |δ.val| := by
  have hdiv : ∀ a : Fl M, ∃ q, divM a δ = .ok q := fun a => ⟨a / δ, Fl.divM_of_val_ne hδ⟩
  obtain ⟨J, h1, h2, h3, h4, h5⟩ := jacobian_entries f point δ m hf hdiv
  refine ⟨J, fun i c => ((f (evalPt point δ c)).getD i 0 - (f point).getD i 0) / δ, h1,
    ⟨h4, h2, h3, ?_⟩, fun i c hi hc => ⟨rfl, quotient_rounding _ _ _⟩⟩
  intro i c hi hc
  have s1 : i < (f (evalPt point δ c)).size := by rw [hf _ (by simp)]; exact hi
  have s0 : i < (f point).size := by rw [hf point rfl]; exact hi
  obtain ⟨q, hq1, hq2⟩ := h5 i c hi hc s1 s0
  rw [hq2, ← hq1, Fl.divM_of_val_ne hδ, getD_of_lt _ _ s1, getD_of_lt _ _ s0]

/-- **truncation + rounding, fine form**, every shape `m × n`: the hypotheses of
    `jacobian_total_error` without the bound `Gm`.  With `Ga = G_i(x̃_c)`, `Gb = G_i(x)`,
    `|Ĵ_ic - ∂G_i/∂x_c(x)| ≤ M₂|δ|/2
        + (L·drift_c + εf(|Ga| + |Gb|) + ((1+u)² - 1)(|Ga - Gb| + εf(|Ga| + |Gb|))) / |δ|`:
    the five terms of `fd_error_combine` are the rounding of the quotient, the two evaluation errors,
    the drift of the evaluation point, and the truncation error (C18R `diffquot_error`).
    Note that the rounding of the quotient is relative to the DIFFERENCE `|Ga - Gb| = O(δ)`, it is
    the evaluation error `εf(|Ga| + |Gb|)/|δ|` that produces the classical `ε|G|/δ` term. -/
theorem jacobian_total_error_fine (f : Array (Fl M) → Array (Fl M)) (G : Array ℝ → Array ℝ)
    (point : Array (Fl M)) (δ : Fl M) (m : ℕ) (M₂ L εf : ℝ)
    (hf : ∀ y : Array (Fl M), y.size = point.size → (f y).size = m) (hδ : δ.val ≠ 0)
    (hL : 0 ≤ L)
    (hsm : ∀ i c, i < m → c < point.size → ∃ g' g'' : ℝ → ℝ,
      (∀ t ∈ uIcc 0 δ.val, HasDerivAt (partialFn G (vals point) i c) (g' t) t) ∧
      (∀ t ∈ uIcc 0 δ.val, HasDerivAt g' (g'' t) t) ∧ ∀ t ∈ uIcc 0 δ.val, |g'' t| ≤ M₂)
    (hret : ∀ p ∈ point :: (List.range point.size).map (evalPt point δ), ∀ i, i < m →
      |((f p).getD i 0).val - (G (vals p)).getD i 0| ≤ εf * |(G (vals p)).getD i 0|)
    (hLip : ∀ i c, i < m → c < point.size →
      |(G (vals (evalPt point δ c))).getD i 0 - (G (idealPt point δ c)).getD i 0|
        ≤ L * ∑ k ∈ Finset.range point.size,
            |(vals (evalPt point δ c)).getD k 0 - (idealPt point δ c).getD k 0|) :
    ∃ J e, jacobian f point δ
        = .ok (J, point :: (List.range point.size).map (evalPt point δ)) ∧
      Mat.Is J m point.size e ∧
      ∀ i c, i < m → c < point.size →
        |(e i c).val - deriv (partialFn G (vals point) i c) 0|
          ≤ M₂ * |δ.val| / 2
            + (L * drift point δ c
                + εf * (|(G (vals (evalPt point δ c))).getD i 0| + |(G (vals point)).getD i 0|)
                + M.gam 2 * (|(G (vals (evalPt point δ c))).getD i 0 - (G (vals point)).getD i 0|
                  + εf * (|(G (vals (evalPt point δ c))).getD i 0| + |(G (vals point)).getD i 0|)))
              / |δ.val| := by
  obtain ⟨J, e, h1, h2, h3⟩ := jacobian_entry_rounding f point δ m hf hδ
  refine ⟨J, e, h1, h2, fun i c hi hc => ?_⟩
  have memc : evalPt point δ c ∈ point :: (List.range point.size).map (evalPt point δ) :=
    List.mem_cons_of_mem _ (List.mem_map.mpr ⟨c, List.mem_range.mpr hc, rfl⟩)
  obtain ⟨g', g'', d1, d2, d3⟩ := hsm i c hi hc
  have z : (0 : ℝ) + δ.val = δ.val := zero_add _
  have hT := diffquot_error (partialFn G (vals point) i c) g' g'' 0 δ.val M₂ hδ
    (by rwa [z]) (by rwa [z]) (by rwa [z])
  rw [z, ← (d1 0 left_mem_uIcc).deriv, partialFn_zero] at hT
  have hdr := (hLip i c hi hc).trans
    (mul_le_mul_of_nonneg_left (evalPoint_drift_l1 point δ c hc) hL)
  exact fd_error_combine _ _ _ _ _ _ _ δ.val εf (M.gam 2) _ _ (M.gam_nonneg 2) (h3 i c hi hc).2
    (hret _ memc i hi) (hret _ List.mem_cons_self i hi) hdr hT

/-- **truncation + rounding, classical form**, every shape `m × n`: `f` returns a real map `G` with
    relative error `≤ εf` at the `n+1` evaluation points, the partial functions of `G` at `x` are `C²`
    on `[[0,δ]]` with `|∂²| ≤ M₂` (as in C18R `jacobian_accuracy`), `G_i` is `ℓ¹`-Lipschitz with
    constant `L` between `x̃_c` and `x + δ e_c`, `|G_i| ≤ Gm` at the evaluation points:
    `|Ĵ_ic - ∂G_i/∂x_c(x)| ≤ M₂|δ|/2 + (L · drift_c + 2 Gm ((1+εf)(1+u)² - 1)) / |δ|`,
    `drift_c = u|x_c + δ|`:
    truncation `O(δ)` plus rounding `≈ 2(εf + 2u) max|G| / |δ|` plus the effect of evaluating at a
    point that is not exactly `x + δ e_c`. -/
theorem jacobian_total_error (f : Array (Fl M) → Array (Fl M)) (G : Array ℝ → Array ℝ)
    (point : Array (Fl M)) (δ : Fl M) (m : ℕ) (M₂ L εf Gm : ℝ)
    (hf : ∀ y : Array (Fl M), y.size = point.size → (f y).size = m) (hδ : δ.val ≠ 0)
    (hε : 0 ≤ εf) (hL : 0 ≤ L)
    (hsm : ∀ i c, i < m → c < point.size → ∃ g' g'' : ℝ → ℝ,
      (∀ t ∈ uIcc 0 δ.val, HasDerivAt (partialFn G (vals point) i c) (g' t) t) ∧
      (∀ t ∈ uIcc 0 δ.val, HasDerivAt g' (g'' t) t) ∧ ∀ t ∈ uIcc 0 δ.val, |g'' t| ≤ M₂)
    (hret : ∀ p ∈ point :: (List.range point.size).map (evalPt point δ), ∀ i, i < m →
      |((f p).getD i 0).val - (G (vals p)).getD i 0| ≤ εf * |(G (vals p)).getD i 0|)
    (hGm : ∀ p ∈ point :: (List.range point.size).map (evalPt point δ), ∀ i, i < m →
      |(G (vals p)).getD i 0| ≤ Gm)
    (hLip : ∀ i c, i < m → c < point.size →
      |(G (vals (evalPt point δ c))).getD i 0 - (G (idealPt point δ c)).getD i 0|
        ≤ L * ∑ k ∈ Finset.range point.size,
            |(vals (evalPt point δ c)).getD k 0 - (idealPt point δ c).getD k 0|) :
    ∃ J e, jacobian f point δ
        = .ok (J, point :: (List.range point.size).map (evalPt point δ)) ∧
      Mat.Is J m point.size e ∧
      ∀ i c, i < m → c < point.size →
        |(e i c).val - deriv (partialFn G (vals point) i c) 0|
          ≤ M₂ * |δ.val| / 2
            + (L * drift point δ c + 2 * Gm * ((1 + εf) * (1 + M.u) ^ 2 - 1)) / |δ.val| := by
  obtain ⟨J, e, h1, h2, h3⟩ := jacobian_total_error_fine f G point δ m M₂ L εf hf hδ hL hsm hret hLip
  refine ⟨J, e, h1, h2, fun i c hi hc => ?_⟩
  have memc : evalPt point δ c ∈ point :: (List.range point.size).map (evalPt point δ) :=
    List.mem_cons_of_mem _ (List.mem_map.mpr ⟨c, List.mem_range.mpr hc, rfl⟩)
  rw [← M.one_add_gam 2]
  exact (h3 i c hi hc).trans (add_le_add_right (fd_error_terms_le_max _ _ _ εf _ _ Gm
    (M.gam_nonneg 2) hε (hGm _ memc i hi) (hGm _ List.mem_cons_self i hi)) _)

/-- `m = n = 1`: `g : ℝ → ℝ` twice differentiable on an interval `I` containing `x`, `x + δ` and the
    rounded perturbed point `fl(x + δ)` -/
theorem jacobian_total_error_scalar (fs : Fl M → Fl M) (g g' g'' : ℝ → ℝ) (I : Set ℝ)
    (hI : I.OrdConnected) (x δ : Fl M) (M₂ L εf Gm : ℝ) (hδ : δ.val ≠ 0) (hε : 0 ≤ εf)
    (h1 : ∀ s ∈ I, HasDerivAt g (g' s) s) (h2 : ∀ s ∈ I, HasDerivAt g' (g'' s) s)
    (hM : ∀ s ∈ I, |g'' s| ≤ M₂) (hL : ∀ s ∈ I, |g' s| ≤ L) (hG : ∀ s ∈ I, |g s| ≤ Gm)
    (hx : x.val ∈ I) (hxδ : x.val + δ.val ∈ I) (hxδ' : (x + δ).val ∈ I)
    (hret : ∀ p : Fl M, p = x ∨ p = x + δ → |(fs p).val - g p.val| ≤ εf * |g p.val|) :
    ∃ J e, jacobian (fun p => #[fs (p.getD 0 0)]) #[x] δ = .ok (J, [#[x], #[x + δ]]) ∧
      Mat.Is J 1 1 e ∧
      |(e 0 0).val - g' x.val|
        ≤ M₂ * |δ.val| / 2
          + (L * (M.u * |x.val + δ.val|) + 2 * Gm * ((1 + εf) * (1 + M.u) ^ 2 - 1)) / |δ.val| := by
  obtain ⟨J, e, j1, j2, j3⟩ := jacobian_entry_rounding (fun p => #[fs (p.getD 0 0)]) #[x] δ 1
    (fun _ _ => rfl) hδ
  -- on the one-coordinate point the trace and the two returned values are found by unfolding:
  -- `evalPt #[x] δ 0` is `#[x + δ]`
  refine ⟨J, e, j1, j2, ?_⟩
  have hq : |(e 0 0).val - ((fs (x + δ)).val - (fs x).val) / δ.val|
      ≤ M.gam 2 * |(fs (x + δ)).val - (fs x).val| / |δ.val| := (j3 0 0 Nat.one_pos Nat.one_pos).2
  have sub : uIcc x.val (x.val + δ.val) ⊆ I := hI.uIcc_subset hx hxδ
  have hT := diffquot_error g g' g'' x.val δ.val M₂ hδ (fun s hs => h1 s (sub hs))
    (fun s hs => h2 s (sub hs)) (fun s hs => hM s (sub hs))
  have hdr := (lipschitz_of_deriv_bound g g' I hI L h1 hL _ _ hxδ' hxδ).trans
    (mul_le_mul_of_nonneg_left (Fl.add_err x δ) ((abs_nonneg _).trans (hL _ hx)))
  have := fd_error_combine_max _ _ _ _ _ _ _ δ.val εf (M.gam 2) _ _ Gm (M.gam_nonneg 2) hε hq
    (hret _ (Or.inr rfl)) (hret _ (Or.inl rfl)) hdr hT (hG _ hxδ') (hG _ hx)
  rwa [M.one_add_gam 2] at this

/-- the classical hypotheses: `D1 i k`, `D2 i k` are the first and second partial derivatives of `G_i`
    on a box `∏ₖ [lo k, hi k]` containing `x`, the evaluation points `x̃_c` and the ideal points
    `x + δ e_c`, bounded by `L`, `M₂`; the Lipschitz hypothesis of `jacobian_total_error` is derived
    (`lipschitz_l1_of_partial_bounds`) -/
theorem jacobian_total_error_box (f : Array (Fl M) → Array (Fl M)) (G : Array ℝ → Array ℝ)
    (D1 D2 : ℕ → ℕ → Array ℝ → ℝ) (point : Array (Fl M)) (δ : Fl M) (m : ℕ) (lo hi : ℕ → ℝ)
    (M₂ L εf Gm : ℝ)
    (hf : ∀ y : Array (Fl M), y.size = point.size → (f y).size = m) (hδ : δ.val ≠ 0)
    (hε : 0 ≤ εf)
    (hB0 : vals point ∈ box point.size lo hi)
    (hBc : ∀ c, c < point.size → vals (evalPt point δ c) ∈ box point.size lo hi)
    (hBi : ∀ c, c < point.size → idealPt point δ c ∈ box point.size lo hi)
    (hD1 : ∀ i k, i < m → k < point.size → ∀ y ∈ box point.size lo hi,
      HasDerivAt (partialFn G y i k) (D1 i k y) 0 ∧ |D1 i k y| ≤ L)
    (hD2 : ∀ i k, i < m → k < point.size → ∀ y ∈ box point.size lo hi,
      HasDerivAt (fun t => D1 i k (y.modify k (fun p => p + t))) (D2 i k y) 0 ∧ |D2 i k y| ≤ M₂)
    (hG : ∀ i, i < m → ∀ y ∈ box point.size lo hi, |(G y).getD i 0| ≤ Gm)
    (hret : ∀ p ∈ point :: (List.range point.size).map (evalPt point δ), ∀ i, i < m →
      |((f p).getD i 0).val - (G (vals p)).getD i 0| ≤ εf * |(G (vals p)).getD i 0|) :
    ∃ J e, jacobian f point δ
        = .ok (J, point :: (List.range point.size).map (evalPt point δ)) ∧
      Mat.Is J m point.size e ∧
      ∀ i c, i < m → c < point.size →
        |(e i c).val - D1 i c (vals point)|
          ≤ M₂ * |δ.val| / 2
            + (L * drift point δ c + 2 * Gm * ((1 + εf) * (1 + M.u) ^ 2 - 1)) / |δ.val| := by
  have hmemB : ∀ p ∈ point :: (List.range point.size).map (evalPt point δ),
      vals p ∈ box point.size lo hi := by
    intro p hp
    rcases List.mem_cons.mp hp with rfl | hp
    · exact hB0
    · obtain ⟨c, hc, rfl⟩ := List.mem_map.mp hp
      exact hBc c (List.mem_range.mp hc)
  obtain ⟨J, e, j1, j2, j3⟩ := jacobian_total_error f G point δ m M₂ (max L 0) εf Gm hf hδ hε
    (le_max_right _ _)
    (by
      intro i c him hc
      refine ⟨fun t => D1 i c ((vals point).modify c (fun p => p + t)),
        fun t => D2 i c ((vals point).modify c (fun p => p + t)), ?_⟩
      have hyt : ∀ t ∈ uIcc 0 δ.val, (vals point).modify c (fun p => p + t) ∈ box point.size lo hi := by
        obtain ⟨c1, c2⟩ := (hBi c hc).2 c hc
        rw [idealPt, getD_modify _ _ _ _ 0 (by simpa using hc), if_pos rfl] at c1 c2
        exact box_modify_mem _ hB0 c hc _ c1 c2
      refine ⟨fun t ht => ?_, fun t ht => ?_, fun t ht => (hD2 i c him hc _ (hyt t ht)).2⟩
      · exact partial_shift (fun a => (G a).getD i 0) (vals point) c t _
          (hD1 i c him hc _ (hyt t ht)).1
      · exact partial_shift (D1 i c) (vals point) c t _ (hD2 i c him hc _ (hyt t ht)).1)
    hret
    (fun p hp i him => hG i him _ (hmemB p hp))
    (by
      intro i c him hc
      have h := lipschitz_l1_of_partial_bounds G i point.size lo hi L
        (fun y hy k hk => ⟨D1 i k y, hD1 i k him hk y hy⟩) _ _ (hBi c hc) (hBc c hc)
      refine h.trans (mul_le_mul_of_nonneg_right (le_max_left _ _)
        (Finset.sum_nonneg (fun k _ => abs_nonneg _))))
  refine ⟨J, e, j1, j2, fun i c him hc => ?_⟩
  have h := j3 i c him hc
  obtain ⟨d1, d2⟩ := hD1 i c him hc _ hB0
  have hL0 : 0 ≤ L := le_trans (abs_nonneg _) d2
  rwa [d1.deriv, max_eq_left hL0] at h

theorem evalPt_vals_exact (point : Array (Fl FlModel.exact)) (δ : Fl FlModel.exact) (c : ℕ) :
    vals (evalPt point δ c) = idealPt point δ c := by
  apply Array.ext
  · simp [idealPt]
  · intro k h1 h2
    have hk : k < point.size := by simpa using h1
    have h := evalPoint_drift_coord point δ c k hk
    rw [getD_of_lt _ _ h1, getD_of_lt _ _ h2] at h
    have hz : (if k = c then drift point δ c else 0) = 0 := by
      split
      · exact zero_mul _
      · rfl
    rw [hz] at h
    exact sub_eq_zero.mp (abs_nonpos_iff.mp h)

/-- **`Fl exact` = exact real arithmetic**: with `u = 0` and a user function that returns `G` exactly,
    the conclusion of `jacobian_total_error` is the conclusion of C18R `jacobian_accuracy`
    (no Lipschitz hypothesis and no bound on `|G|` is needed, all rounding terms vanish). -/
theorem jacobian_total_error_exact (f : Array (Fl FlModel.exact) → Array (Fl FlModel.exact))
    (G : Array ℝ → Array ℝ) (point : Array (Fl FlModel.exact)) (δ : Fl FlModel.exact) (m : ℕ)
    (M₂ : ℝ)
    (hf : ∀ y : Array (Fl FlModel.exact), y.size = point.size → (f y).size = m) (hδ : δ.val ≠ 0)
    (hsm : ∀ i c, i < m → c < point.size → ∃ g' g'' : ℝ → ℝ,
      (∀ t ∈ uIcc 0 δ.val, HasDerivAt (partialFn G (vals point) i c) (g' t) t) ∧
      (∀ t ∈ uIcc 0 δ.val, HasDerivAt g' (g'' t) t) ∧ ∀ t ∈ uIcc 0 δ.val, |g'' t| ≤ M₂)
    (hret : ∀ p ∈ point :: (List.range point.size).map (evalPt point δ), ∀ i, i < m →
      ((f p).getD i 0).val = (G (vals p)).getD i 0) :
    ∃ J e, jacobian f point δ
        = .ok (J, point :: (List.range point.size).map (evalPt point δ)) ∧
      Mat.Is J m point.size e ∧
      ∀ i c, i < m → c < point.size →
        |(e i c).val - deriv (partialFn G (vals point) i c) 0| ≤ M₂ * |δ.val| / 2 := by
  obtain ⟨J, e, j1, j2, j3⟩ := jacobian_total_error_fine f G point δ m M₂ 0 0 hf hδ (le_refl _) hsm
    (fun p hp i hi => by rw [hret p hp i hi, sub_self, abs_zero, zero_mul])
    (fun i c hi hc => by rw [evalPt_vals_exact, sub_self, abs_zero, zero_mul])
  refine ⟨J, e, j1, j2, fun i c hi hc => ?_⟩
  have h := j3 i c hi hc
  have g0 : FlModel.exact.gam 2 = 0 := by simp [FlModel.gam, FlModel.exact]
  simpa only [g0, zero_mul, add_zero, zero_div] using h

end Rounding

section Examples
variable {M : FlModel}

theorem fl_mem_Icc {c b x : ℝ} (hu : M.u ≤ c) (hc : c ≤ 1) (h0 : 0 ≤ x) (hb : (1 + c) * x ≤ b) :
    M.fl x ∈ Icc 0 b := by
  refine ⟨fl_nonneg (hu.trans hc) h0, (le_abs_self _).trans ((M.abs_fl_le x).trans ?_)⟩
  rw [abs_of_nonneg h0]
  exact (mul_le_mul_of_nonneg_right (add_le_add_right hu 1) h0).trans hb

theorem array_two {α : Type} (y : Array α) (h : y.size = 2) : ∃ a b, y = #[a, b] :=
  match y, h with
  | ⟨[a, b]⟩, _ => ⟨a, b, rfl⟩

theorem vals_pair (a b : Fl M) : vals #[a, b] = #[a.val, b.val] := by
  simp [vals]

/-- `g(x) = x²` evaluated as `fl(p · p)` (`εf = u`) at `x = 3` with `δ = 1/4`, in ANY model with
    `u ≤ 1/8`: interval `I = [0, 4]`, `Gm = 16`, `L = 8`, `M₂ = 2`. -/
theorem ex_square (hu : M.u ≤ 1 / 8) :
    ∃ J e, jacobian (fun p : Array (Fl M) => #[p.getD 0 0 * p.getD 0 0]) #[⟨3⟩] (⟨1 / 4⟩ : Fl M)
        = .ok (J, [#[⟨3⟩], #[(⟨3⟩ : Fl M) + ⟨1 / 4⟩]]) ∧
      Mat.Is J 1 1 e ∧
      |(e 0 0).val - 6|
        ≤ 2 * (1 / 4) / 2
          + (8 * (M.u * (13 / 4)) + 2 * 16 * ((1 + M.u) * (1 + M.u) ^ 2 - 1)) / (1 / 4) := by
  have h13 : |(3 : ℝ) + 1 / 4| = 13 / 4 := by rw [abs_of_pos (by norm_num)]; norm_num
  obtain ⟨J, e, j1, j2, j3⟩ := jacobian_total_error_scalar (M := M) (fun p => p * p)
    (fun s => s ^ 2) (fun s => 2 * s) (fun _ => 2) (Icc 0 4) ordConnected_Icc ⟨3⟩ ⟨1 / 4⟩
    2 8 M.u 16 (by norm_num) M.u_nonneg
    (fun s _ => by simpa using hasDerivAt_pow 2 s)
    (fun s _ => ((hasDerivAt_id' s).const_mul 2).congr_deriv (mul_one _))
    (fun s _ => abs_two.le)
    (fun s hs => (abs_of_nonneg (mul_nonneg zero_le_two hs.1)).le.trans
      ((mul_le_mul_of_nonneg_left hs.2 zero_le_two).trans (by norm_num)))
    (fun s hs => (abs_of_nonneg (sq_nonneg s)).le.trans
      ((pow_le_pow_left₀ hs.1 hs.2 2).trans (by norm_num)))
    (by constructor <;> norm_num) (by constructor <;> norm_num)
    (fl_mem_Icc hu (by norm_num) (by norm_num) (by norm_num))
    (fun p _ => by
      show |(p * p).val - p.val ^ 2| ≤ M.u * |p.val ^ 2|
      rw [sq]
      exact M.fl_err _)
  refine ⟨J, e, j1, j2, ?_⟩
  have e6 : (2 : ℝ) * 3 = 6 := by norm_num
  have ed : |(1 / 4 : ℝ)| = 1 / 4 := abs_of_pos (by norm_num)
  rw [h13, ed, e6] at j3
  exact j3

/-- … in particular in binary64 (`u = 2⁻⁵³`) … -/
example : ∃ J e, jacobian (fun p : Array (Fl FlModel.binary64) => #[p.getD 0 0 * p.getD 0 0])
      #[⟨3⟩] (⟨1 / 4⟩ : Fl FlModel.binary64)
        = .ok (J, [#[⟨3⟩], #[(⟨3⟩ : Fl FlModel.binary64) + ⟨1 / 4⟩]]) ∧
      Mat.Is J 1 1 e ∧
      |(e 0 0).val - 6|
        ≤ 2 * (1 / 4) / 2
          + (8 * (FlModel.binary64.u * (13 / 4))
              + 2 * 16 * ((1 + FlModel.binary64.u) * (1 + FlModel.binary64.u) ^ 2 - 1)) / (1 / 4) :=
  ex_square (by rw [FlModel.binary64_u]; norm_num)

/-- … and in exact arithmetic, where the bound is the truncation error `M₂|δ|/2 = 1/4` alone
    (the true error is `δ = 1/4`: the bound of C18R is attained). -/
example : ∃ J e, jacobian (fun p : Array (Fl FlModel.exact) => #[p.getD 0 0 * p.getD 0 0])
      #[⟨3⟩] (⟨1 / 4⟩ : Fl FlModel.exact)
        = .ok (J, [#[⟨3⟩], #[(⟨3⟩ : Fl FlModel.exact) + ⟨1 / 4⟩]]) ∧
      Mat.Is J 1 1 e ∧ |(e 0 0).val - 6| ≤ 1 / 4 := by
  obtain ⟨J, e, j1, j2, j3⟩ := ex_square (M := FlModel.exact) (by rw [FlModel.exact_u]; norm_num)
  refine ⟨J, e, j1, j2, j3.trans (le_of_eq ?_)⟩
  rw [FlModel.exact_u]
  norm_num

/-- a `1 × 2` example for the box form: `G(x, y) = x y` evaluated as `fl(p₀ · p₁)` (`εf = u`) at
    `(1, 2)` with `δ = 1/4`, in ANY model with `u ≤ 1/8`: box `[0, 4]²`, `∂G/∂x = y`, `∂G/∂y = x`,
    `L = 4`, `M₂ = 0`, `Gm = 16`.  Column `1` is evaluated at `(1, fl(2 + δ))`: the first coordinate
    is restored exactly (before repair D15 it held `fl(fl(1 + δ) - δ)` and contributed to the drift). -/
theorem ex_product (hu : M.u ≤ 1 / 8) :
    ∃ J e, jacobian (fun p : Array (Fl M) => #[p.getD 0 0 * p.getD 1 0]) #[⟨1⟩, ⟨2⟩]
        (⟨1 / 4⟩ : Fl M)
        = .ok (J, [#[⟨1⟩, ⟨2⟩], #[(⟨1⟩ : Fl M) + ⟨1 / 4⟩, ⟨2⟩],
            #[(⟨1⟩ : Fl M), (⟨2⟩ : Fl M) + ⟨1 / 4⟩]]) ∧
      Mat.Is J 1 2 e ∧
      |(e 0 0).val - 2| ≤ (4 * (M.u * (5 / 4)) + 2 * 16 * ((1 + M.u) * (1 + M.u) ^ 2 - 1)) / (1 / 4) ∧
      |(e 0 1).val - 1| ≤ (4 * (M.u * (9 / 4))
          + 2 * 16 * ((1 + M.u) * (1 + M.u) ^ 2 - 1)) / (1 / 4) := by
  have hu0 := M.u_nonneg
  have a54 : |(1 : ℝ) + 1 / 4| = 5 / 4 := by rw [abs_of_pos (by norm_num)]; norm_num
  have a94 : |(2 : ℝ) + 1 / 4| = 9 / 4 := by rw [abs_of_pos (by norm_num)]; norm_num
  have ed : |(1 / 4 : ℝ)| = 1 / 4 := abs_of_pos (by norm_num)
  -- the numbers that occur as coordinates lie in `[0, 4]`
  have h18 : (1 / 8 : ℝ) ≤ 1 := by norm_num
  have m1 : (1 : ℝ) ∈ Icc (0 : ℝ) 4 := by constructor <;> norm_num
  have m2 : (2 : ℝ) ∈ Icc (0 : ℝ) 4 := by constructor <;> norm_num
  have m54 : (1 + 1 / 4 : ℝ) ∈ Icc (0 : ℝ) 4 := by constructor <;> norm_num
  have m94 : (2 + 1 / 4 : ℝ) ∈ Icc (0 : ℝ) 4 := by constructor <;> norm_num
  have inbox : ∀ a b : ℝ, a ∈ Icc (0 : ℝ) 4 → b ∈ Icc (0 : ℝ) 4 →
      #[a, b] ∈ box 2 (fun _ => 0) (fun _ => 4) := fun a b ha hb =>
    ⟨rfl, fun k hk => match k, hk with
      | 0, _ => ha
      | 1, _ => hb⟩
  -- every array of the box is `#[a, b]` (`array_two`); on such an array the evaluation points, the
  -- partial functions of `G` and `D1` are found by unfolding
  obtain ⟨J, e, j1, j2, j3⟩ := jacobian_total_error_box (M := M)
    (fun p : Array (Fl M) => #[p.getD 0 0 * p.getD 1 0])
    (fun y : Array ℝ => #[y.getD 0 0 * y.getD 1 0])
    (fun _ k y => if k = 0 then y.getD 1 0 else y.getD 0 0) (fun _ _ _ => 0)
    #[⟨1⟩, ⟨2⟩] ⟨1 / 4⟩ 1 (fun _ => 0) (fun _ => 4) 0 4 M.u 16
    (fun y _ => rfl) (by norm_num) hu0
    (by rw [vals_pair]; exact inbox 1 2 m1 m2)
    (fun c hc => match c, hc with
      | 0, _ => by
        rw [show evalPt #[(⟨1⟩ : Fl M), ⟨2⟩] ⟨1 / 4⟩ 0 = #[⟨1⟩ + ⟨1 / 4⟩, ⟨2⟩] from rfl, vals_pair]
        exact inbox _ 2 (fl_mem_Icc hu h18 m54.1 (by norm_num)) m2
      | 1, _ => by
        rw [show evalPt #[(⟨1⟩ : Fl M), ⟨2⟩] ⟨1 / 4⟩ 1 = #[⟨1⟩, ⟨2⟩ + ⟨1 / 4⟩] from rfl, vals_pair]
        exact inbox 1 _ m1 (fl_mem_Icc hu h18 m94.1 (by norm_num)))
    (fun c hc => by
      rw [idealPt, vals_pair]
      match c, hc with
      | 0, _ => exact inbox _ 2 m54 m2
      | 1, _ => exact inbox 1 _ m1 m94)
    (fun i k hi hk y hy => by
      obtain rfl : i = 0 := Nat.lt_one_iff.mp hi
      obtain ⟨a, b, rfl⟩ := array_two y hy.1
      obtain ⟨a0, a4⟩ : 0 ≤ a ∧ a ≤ 4 := hy.2 0 Nat.zero_lt_two
      obtain ⟨b0, b4⟩ : 0 ≤ b ∧ b ≤ 4 := hy.2 1 Nat.one_lt_two
      match k, hk with
      | 0, _ => exact ⟨(((hasDerivAt_id' 0).const_add a).mul_const b).congr_deriv (one_mul b),
          (abs_of_nonneg b0).le.trans b4⟩
      | 1, _ => exact ⟨(((hasDerivAt_id' 0).const_add b).const_mul a).congr_deriv (mul_one a),
          (abs_of_nonneg a0).le.trans a4⟩)
    (fun i k hi hk y hy => by
      obtain ⟨a, b, rfl⟩ := array_two y hy.1
      match k, hk with
      | 0, _ => exact ⟨hasDerivAt_const (0 : ℝ) b, abs_zero.le⟩
      | 1, _ => exact ⟨hasDerivAt_const (0 : ℝ) a, abs_zero.le⟩)
    (fun i hi y hy => by
      obtain rfl : i = 0 := Nat.lt_one_iff.mp hi
      obtain ⟨a, b, rfl⟩ := array_two y hy.1
      obtain ⟨a0, a4⟩ : 0 ≤ a ∧ a ≤ 4 := hy.2 0 Nat.zero_lt_two
      obtain ⟨b0, b4⟩ : 0 ≤ b ∧ b ≤ 4 := hy.2 1 Nat.one_lt_two
      show |a * b| ≤ 16
      rw [abs_of_nonneg (mul_nonneg a0 b0)]
      exact (mul_le_mul a4 b4 b0 (by norm_num)).trans (by norm_num))
    (fun p _ i hi => by
      obtain rfl : i = 0 := Nat.lt_one_iff.mp hi
      show |(p.getD 0 0 * p.getD 1 0).val - (vals p).getD 0 0 * (vals p).getD 1 0|
        ≤ M.u * |(vals p).getD 0 0 * (vals p).getD 1 0|
      rw [vals_getD, vals_getD]
      exact M.fl_err _)
  refine ⟨J, e, j1, j2, ?_, ?_⟩
  · have h := j3 0 0 Nat.one_pos Nat.zero_lt_two
    rw [zero_mul, zero_div, zero_add, drift, vals_pair] at h
    rw [show |((#[(⟨1⟩ : Fl M), ⟨2⟩].getD 0 0).val + (⟨1 / 4⟩ : Fl M).val)| = 5 / 4 from a54, ed] at h
    exact h
  · have h := j3 0 1 Nat.one_pos Nat.one_lt_two
    rw [zero_mul, zero_div, zero_add, drift, vals_pair] at h
    rw [show |((#[(⟨1⟩ : Fl M), ⟨2⟩].getD 1 0).val + (⟨1 / 4⟩ : Fl M).val)| = 9 / 4 from a94, ed] at h
    exact h

/-- `ex_product` applies in binary64 and in exact arithmetic -/
example := ex_product (M := FlModel.binary64) (by rw [FlModel.binary64_u]; norm_num)
example := ex_product (M := FlModel.exact) (by rw [FlModel.exact_u]; norm_num)

/-- the restore bound is attained: in the model `fl x = (1+u) x`, restoring `x` after perturbing by
    `d = 0` gives `(1+u)² x` -/
example (u : ℝ) (hu : 0 ≤ u) (x : ℝ) :
    let M := FlModel.scale u hu
    |(((⟨x⟩ : Fl M) + 0) - 0).val - x| = M.gam 2 * (|x| + |(0 : ℝ)|) := by
  intro M
  show |(1 + u) * ((1 + u) * (x + 0) - 0) - x| = ((1 + u) ^ 2 - 1) * (|x| + |(0 : ℝ)|)
  have : (1 + u) * ((1 + u) * (x + 0) - 0) - x = ((1 + u) ^ 2 - 1) * x := by ring
  rw [this, abs_mul, abs_zero, add_zero,
    abs_of_nonneg (sub_nonneg.mpr (one_le_pow₀ (le_add_of_nonneg_right hu)))]

end Examples
end Ohsl.Props.C18
