/-
  Property C16 (part F) — rounding-error bounds for the sequential and the threaded dot product in
  the "rounded reals" interpretation `Fl M` of the model (Ohsl/Lemmas/Rounding.lean): the SAME model
  definitions `Vec.dot`, `Dot.dotThreaded` instantiated at real numbers whose `+` and `*` round with
  relative error `≤ u` (standard model of floating-point arithmetic, no overflow / underflow).

  The transfer to the Rust `f64` code rests on the ASSUMPTION stated in Rounding.lean (IEEE binary64
  without overflow/underflow satisfies `FlModel` with `u = 2⁻⁵³`); it is not proved here.

  Notation: `n = a.size = b.size`, `w ≥ 1` workers, `term a b i = aᵢ bᵢ` (exact real product),
  `exactDot a b = Σ aᵢ bᵢ`, `absDot a b = Σ |aᵢ bᵢ|`, `M.gam k = (1+u)^k - 1`,
  `maxChunk n w = n / w + n % w` (length of the longest chunk = the last one).

  * `dot_rounding`, `dotThreaded_rounding` (F): forward error of the two products;
    `dot_rounding_gamma`, `dotThreaded_rounding_gamma`: with the classical constants `γ_k`.
  * `dotThreaded_vs_dot` (F): "the same value up to floating-point re-association".
  * `dotThreaded_exact_data` (F): "bit-identical on data whose partial sums are exact";
    `dotThreaded_exact_of_closed`, `dotThreaded_exact_int`: two sufficient conditions.
  The bounds are read off `dot_within`, `dotThreaded_within`: the computed value is `n+1` resp.
  `maxChunk n w + w + 1` roundings from `exactDot` against `absDot` (`FlModel.Within`); the matrix
  products of C03F are built on `dot_within`.
-/
import Ohsl.Props.C16D
import Ohsl.Lemmas.DotSum
import Ohsl.Lemmas.Rounding
import Mathlib.Algebra.BigOperators.Intervals
import Mathlib.Algebra.Order.BigOperators.Group.Finset
import Mathlib.Algebra.BigOperators.Ring.Finset
namespace Ohsl.Props.C16
open Ohsl Ohsl.Dot

section Structural
variable {K : Type} [Mul K] [Zero K]

/-- length of the longest chunk (the last one) -/
def maxChunk (n w : Nat) : Nat := n / w + n % w

theorem chunk_length_le (len w i : Nat) (hw : 0 < w) :
    (chunk len w i).2 - (chunk len w i).1 ≤ maxChunk len w := by
  unfold chunk maxChunk
  split
  · rename_i e
    -- the last chunk: `len = (w-1) c + c + r`
    have hdm : (w - 1) * (len / w) + len / w + len % w = len := by
      rw [← Nat.succ_mul, Nat.succ_eq_add_one, Nat.sub_add_cancel hw, Nat.div_add_mod]
    show len - i * (len / w) ≤ len / w + len % w
    rw [e]
    exact Nat.sub_le_of_le_add (Nat.le_of_eq (by rw [Nat.add_comm, ← Nat.add_assoc, hdm]))
  · show (i + 1) * (len / w) - i * (len / w) ≤ len / w + len % w
    rw [Nat.succ_mul, Nat.add_sub_cancel_left]
    exact Nat.le_add_right _ _

theorem take_range'_eq (s n m : Nat) :
    (List.range' s n).take m = List.range' s (min m n) := by
  rcases Nat.le_total n m with h | h
  · rw [List.take_range'_of_length_le h, Nat.min_eq_right h]
  · rw [List.take_range'_of_length_ge h, Nat.min_eq_left h]

theorem mem_blocks {w : Nat} {a b : Array K} {l : List K} (hl : l ∈ blocks w a b) :
    ∃ i, i < w ∧ l = (List.range' (chunk a.size w i).1 ((chunk a.size w i).2 - (chunk a.size w i).1)).map
      (fun j => a.getD j 0 * b.getD j 0) := by
  rw [blocks, chunks, List.map_map] at hl
  obtain ⟨i, hi, rfl⟩ := List.mem_map.mp hl
  exact ⟨i, List.mem_range.mp hi, rfl⟩

theorem blocks_length_le (w : Nat) (a b : Array K) (hw : 0 < w) :
    ∀ l ∈ blocks w a b, l.length ≤ maxChunk a.size w := by
  intro l hl
  obtain ⟨i, _, rfl⟩ := mem_blocks hl
  rw [List.length_map, List.length_range']
  exact chunk_length_le a.size w i hw

end Structural

section Rounding
variable {M : FlModel}
open Fl

def term (a b : Array (Fl M)) (i : Nat) : ℝ := (a.getD i 0).val * (b.getD i 0).val
def exactDot (a b : Array (Fl M)) : ℝ := ∑ i ∈ Finset.range a.size, term a b i
def absDot (a b : Array (Fl M)) : ℝ := ∑ i ∈ Finset.range a.size, |term a b i|

theorem dot_within (a b : Array (Fl M)) (h : a.size = b.size) :
    ∃ r, Vec.dot a b = .ok r ∧ M.Within (a.size + 1) r.val (exactDot a b) (absDot a b) :=
  ⟨_, dot_eq_fold a b h,
    FlModel.Within.foldl_range a.size _ (term a b) _ fun _ _ => (M.approx_fl _).within⟩

/-- **sequential dot product**: one rounding per product and `n` rounded additions (the model starts
from `0 + p₀`, which the abstract model rounds; see `Fl.foldl_sum_rounding_sharp`). -/
theorem dot_rounding (a b : Array (Fl M)) (h : a.size = b.size) :
    ∃ r, Vec.dot a b = .ok r
      ∧ |r.val - exactDot a b| ≤ M.gam (a.size + 1) * absDot a b :=
  (dot_within a b h).imp fun _ hr => ⟨hr.1, hr.2.1⟩

theorem dotThreaded_within (w : Nat) (a b : Array (Fl M)) (hw : 0 < w) (h : a.size = b.size) :
    ∃ t, dotThreaded w a b = .ok t
      ∧ M.Within (maxChunk a.size w + w + 1) t.val (exactDot a b) (absDot a b) := by
  refine ⟨_, dotThreaded_eq_blocks w a b hw h, ?_⟩
  have h1 := foldl_blocks_rounding (blocks w a b) (maxChunk a.size w) (blocks_length_le w a b hw)
  rw [blocks_flatten w a b hw, blocks, List.length_map, chunks_length, rsum_map, asum_map] at h1
  have := FlModel.Within.list_sum_trans (List.range a.size) h1
    fun j _ => (M.approx_fl (term a b j)).within
  rwa [sum_map_range, sum_map_range] at this

/-- **threaded dot product**: one rounding per product, at most `maxChunk n w` rounded additions
inside a chunk and `w` rounded additions of the partial sums. -/
theorem dotThreaded_rounding (w : Nat) (a b : Array (Fl M)) (hw : 0 < w) (h : a.size = b.size) :
    ∃ t, dotThreaded w a b = .ok t
      ∧ |t.val - exactDot a b| ≤ M.gam (maxChunk a.size w + w + 1) * absDot a b :=
  (dotThreaded_within w a b hw h).imp fun _ ht => ⟨ht.1, ht.2.1⟩

/-- **C16, "the same value up to floating-point re-association"**: the threaded and the sequential
product differ by at most `(gam (n+1) + gam (maxChunk n w + w + 1)) · Σ|aᵢbᵢ|`
(`≈ (2n + 2 - (w-1)(n/w) + w) u Σ|aᵢbᵢ|` to first order). -/
theorem dotThreaded_vs_dot (w : Nat) (a b : Array (Fl M)) (hw : 0 < w) (h : a.size = b.size) :
    ∃ t r, dotThreaded w a b = .ok t ∧ Vec.dot a b = .ok r
      ∧ |t.val - r.val|
          ≤ (M.gam (a.size + 1) + M.gam (maxChunk a.size w + w + 1)) * absDot a b := by
  obtain ⟨r, hr, hr'⟩ := dot_rounding a b h
  obtain ⟨t, ht, ht'⟩ := dotThreaded_rounding w a b hw h
  refine ⟨t, r, ht, hr, ?_⟩
  have e : t.val - r.val = (t.val - exactDot a b) - (r.val - exactDot a b) := by ring
  rw [e]
  exact (abs_sub _ _).trans ((add_le_add ht' hr').trans_eq (by ring))

/-- the classical form of `dot_rounding`: `γ_{n+1} = (n+1) u / (1 - (n+1) u)` -/
theorem dot_rounding_gamma (a b : Array (Fl M)) (h : a.size = b.size)
    (hu : ((a.size + 1 : ℕ) : ℝ) * M.u < 1) :
    ∃ r, Vec.dot a b = .ok r
      ∧ |r.val - exactDot a b|
          ≤ ((a.size + 1 : ℕ) : ℝ) * M.u / (1 - ((a.size + 1 : ℕ) : ℝ) * M.u) * absDot a b :=
  (dot_within a b h).imp fun _ hr => ⟨hr.1, hr.2.gamma hu⟩

theorem dotThreaded_rounding_gamma (w : Nat) (a b : Array (Fl M)) (hw : 0 < w)
    (h : a.size = b.size) (hu : ((maxChunk a.size w + w + 1 : ℕ) : ℝ) * M.u < 1) :
    ∃ t, dotThreaded w a b = .ok t
      ∧ |t.val - exactDot a b|
          ≤ ((maxChunk a.size w + w + 1 : ℕ) : ℝ) * M.u
              / (1 - ((maxChunk a.size w + w + 1 : ℕ) : ℝ) * M.u) * absDot a b :=
  (dotThreaded_within w a b hw h).imp fun _ ht => ⟨ht.1, ht.2.gamma hu⟩

/-- **C16, "bit-identical on data whose partial sums are exact"**: if every contiguous partial sum
`Σ_{s ≤ i < e} aᵢ bᵢ` (`s ≤ e ≤ n`; `e = s + 1` gives the single products) is representable, then
the threaded product — for every worker count `w ≥ 1` — and the sequential product are equal, and
both are the exact dot product. -/
theorem dotThreaded_exact_data (w : Nat) (a b : Array (Fl M)) (hw : 0 < w) (h : a.size = b.size)
    (hex : ∀ s e, s ≤ e → e ≤ a.size → M.Rep (∑ i ∈ Finset.Ico s e, term a b i)) :
    dotThreaded w a b = Vec.dot a b ∧ Vec.dot a b = .ok ⟨exactDot a b⟩ := by
  have hp : ∀ j, j < a.size → M.Rep (term a b j) := fun j hj => by
    have := hex j (j + 1) (Nat.le_succ j) hj
    rwa [Nat.Ico_succ_singleton, Finset.sum_singleton] at this
  -- the computed products over an index range inside the vectors are the exact ones
  have hsum : ∀ s k, s + k ≤ a.size →
      rsum ((List.range' s k).map (fun j => a.getD j 0 * b.getD j 0))
        = ∑ i ∈ Finset.Ico s (s + k), term a b i := by
    intro s k hsk
    rw [rsum_map, ← sum_map_range']
    exact congrArg _ (List.map_congr_left fun j hj =>
      hp j (by have := List.mem_range'_1.mp hj; omega))
  have hrange : ∀ s k N, s + k ≤ a.size →
      M.Rep (rsum (((List.range' s k).map (fun j => a.getD j 0 * b.getD j 0)).take N)) := by
    intro s k N hsk
    rw [← List.map_take, take_range'_eq, hsum s _ (by omega)]
    exact hex _ _ (by omega) (by omega)
  have hall : ∀ N, M.Rep (rsum (((List.range a.size).map
      (fun j => a.getD j 0 * b.getD j 0)).take N)) := fun N => by
    rw [List.range_eq_range']
    exact hrange 0 a.size N (by omega)
  have hseq : (((List.range a.size).map (fun j => a.getD j 0 * b.getD j 0)).foldl (· + ·) 0).val
      = exactDot a b := by
    rw [foldl_sum_exact _ hall, List.range_eq_range', hsum 0 _ (by omega), exactDot,
      Finset.range_eq_Ico, Nat.zero_add]
  have hthr : (((blocks w a b).map (fun l : List (Fl M) => l.foldl (· + ·) 0)).foldl (· + ·) 0).val
      = exactDot a b := by
    rw [foldl_blocks_exact, blocks_flatten w a b hw, ← foldl_sum_exact _ hall, hseq]
    · intro l hl k
      obtain ⟨i, hi, rfl⟩ := mem_blocks hl
      have := chunk_valid a.size w i hi
      exact hrange _ _ k (by omega)
    · rw [blocks_flatten w a b hw]
      exact hall
  rw [dotThreaded_eq_blocks w a b hw h, dot_eq_fold a b h]
  exact ⟨congrArg _ (Fl.ext (hthr.trans hseq.symm)), congrArg _ (Fl.ext hseq)⟩

/-- the same from a set `S` of representable numbers that contains `0` and all the products and is
closed under addition (e.g. the integers, or the multiples of a fixed power of two, for a rounding
that fixes them) -/
theorem dotThreaded_exact_of_closed (w : Nat) (a b : Array (Fl M)) (hw : 0 < w)
    (h : a.size = b.size) (S : Set ℝ) (hS : ∀ x ∈ S, M.Rep x) (h0 : (0 : ℝ) ∈ S)
    (hadd : ∀ x ∈ S, ∀ y ∈ S, x + y ∈ S) (hprod : ∀ i, i < a.size → term a b i ∈ S) :
    dotThreaded w a b = Vec.dot a b ∧ Vec.dot a b = .ok ⟨exactDot a b⟩ := by
  refine dotThreaded_exact_data w a b hw h fun s e _ he => hS _ ?_
  exact Finset.sum_induction _ (· ∈ S) (fun x y hx hy => hadd x hx y hy) h0
    fun i hi => hprod i (by have := Finset.mem_Ico.mp hi; omega)

/-- **integer data in a binary format**: in the round-to-nearest format with `p+1` significant bits
(`FlModel.roundBits p`; `p = 52` is binary64's significand) the threaded and the sequential product
of vectors whose products `aᵢ bᵢ` are integers with `Σ |aᵢ bᵢ| < 2^(p+1)` are equal (and exact),
for every worker count. -/
theorem dotThreaded_exact_int (p w : Nat) (a b : Array (Fl (FlModel.roundBits p))) (hw : 0 < w)
    (h : a.size = b.size) (k : Nat → ℤ) (hk : ∀ i, i < a.size → term a b i = k i)
    (hsmall : absDot a b < 2 ^ (p + 1)) :
    dotThreaded w a b = Vec.dot a b ∧ Vec.dot a b = .ok ⟨exactDot a b⟩ := by
  apply dotThreaded_exact_data w a b hw h
  intro s e hse he
  have hsum : ∑ i ∈ Finset.Ico s e, term a b i = ((∑ i ∈ Finset.Ico s e, k i : ℤ) : ℝ) := by
    rw [Int.cast_sum]
    exact Finset.sum_congr rfl fun i hi => hk i (by have := Finset.mem_Ico.mp hi; omega)
  have h1 : |∑ i ∈ Finset.Ico s e, term a b i| ≤ absDot a b :=
    (Finset.abs_sum_le_sum_abs _ _).trans (Finset.sum_le_sum_of_subset_of_nonneg
      (fun i hi => Finset.mem_range.mpr (by have := Finset.mem_Ico.mp hi; omega))
      fun _ _ _ => abs_nonneg _)
  rw [hsum] at h1 ⊢
  refine FlModel.roundBits_rep_int _ _ (Int.cast_lt (R := ℝ).mp ?_)
  rw [Int.cast_abs]
  exact (h1.trans_lt hsmall).trans_eq (by push_cast; rfl)

end Rounding

section Examples
open Fl

/-- exact arithmetic is a model; there the bounds collapse to equality with the exact value -/
example (a b : Array (Fl FlModel.exact)) (h : a.size = b.size) :
    ∃ r, Vec.dot a b = .ok r ∧ r.val = exactDot a b := by
  obtain ⟨r, hr, hr'⟩ := dot_rounding a b h
  refine ⟨r, hr, ?_⟩
  exact FlModel.eq_of_abs_sub_le_exact hr'

/-- a model that really rounds (`fl x = (1 + 2⁻⁵³) x`): the bound of `dot_rounding` is attained for
`a = [x], b = [1]`: computed `(1+u)² x`, exact `x`, error `((1+u)² - 1) |x| = gam 2 · |x|`. -/
example (x : ℝ) :
    let M := FlModel.scale (2 ^ (-53 : ℤ)) (by positivity)
    let a : Array (Fl M) := #[⟨x⟩]
    let b : Array (Fl M) := #[1]
    ∃ r, Vec.dot a b = .ok r ∧ |r.val - exactDot a b| = M.gam (a.size + 1) * absDot a b := by
  intro M a b
  refine ⟨_, dot_eq_fold a b rfl, ?_⟩
  have hv : (((List.range a.size).map (fun j => a.getD j 0 * b.getD j 0)).foldl (· + ·) 0).val
      = (1 + M.u) * (0 + (1 + M.u) * (x * 1)) := rfl
  have e1 : exactDot a b = x := (Finset.sum_range_one _).trans (mul_one x)
  have e2 : absDot a b = |x| := (Finset.sum_range_one _).trans (congrArg abs (mul_one x))
  rw [hv, e1, e2, show (1 + M.u) * (0 + (1 + M.u) * (x * 1)) = (1 + M.u) ^ 2 * x by ring,
    M.abs_pow_mul_sub_self]
  rfl

/-- the hypothesis of `dotThreaded_exact_data` is satisfiable in a model that really rounds:
`fl` rounds every non-integer by the relative amount `2⁻⁵³` and fixes the integers; integer data
then give identical threaded and sequential results for every worker count. -/
noncomputable def intExact : FlModel := by
  classical
  exact
  { u := 2 ^ (-53 : ℤ)
    fl := fun x => if ∃ k : ℤ, x = k then x else (1 + 2 ^ (-53 : ℤ)) * x
    u_nonneg := by positivity
    fl_err := fun x => by
      split
      · simp only [sub_self, abs_zero]; positivity
      · have : (1 + (2 : ℝ) ^ (-53 : ℤ)) * x - x = 2 ^ (-53 : ℤ) * x := by ring
        rw [this, abs_mul, abs_of_nonneg (by positivity)] }

theorem intExact_rep (k : ℤ) : intExact.Rep (k : ℝ) := by
  classical
  simp [FlModel.Rep, intExact]

theorem intExact_not_rep : ¬ intExact.Rep (1 / 2 : ℝ) := by
  classical
  have hn : ¬ ∃ j : ℤ, (1 / 2 : ℝ) = j := by
    rintro ⟨j, hj⟩
    have h2 : (2 * j : ℤ) = (1 : ℤ) := by
      have : (2 : ℝ) * j = 1 := by rw [← hj]; norm_num
      exact_mod_cast this
    omega
  simp only [FlModel.Rep, intExact, hn, if_false]
  have : (0 : ℝ) < 2 ^ (-53 : ℤ) := by positivity
  intro h
  linarith

theorem exTerm (M : FlModel) (i : Nat) (hi : i < 5) :
    term (#[⟨1⟩, ⟨-2⟩, ⟨3⟩, ⟨4⟩, ⟨5⟩] : Array (Fl M)) #[⟨6⟩, ⟨7⟩, ⟨-8⟩, ⟨9⟩, ⟨10⟩] i
      = (([6, -14, -24, 36, 50] : List ℤ).getD i 0 : ℤ) := by
  obtain rfl | rfl | rfl | rfl | rfl : i = 0 ∨ i = 1 ∨ i = 2 ∨ i = 3 ∨ i = 4 := by omega
  · show (1 : ℝ) * 6 = ((6 : ℤ) : ℝ); norm_num
  · show (-2 : ℝ) * 7 = ((-14 : ℤ) : ℝ); norm_num
  · show (3 : ℝ) * -8 = ((-24 : ℤ) : ℝ); norm_num
  · show (4 : ℝ) * 9 = ((36 : ℤ) : ℝ); norm_num
  · show (5 : ℝ) * 10 = ((50 : ℤ) : ℝ); norm_num

example (w : Nat) (hw : 0 < w) :
    let a : Array (Fl intExact) := #[⟨1⟩, ⟨-2⟩, ⟨3⟩, ⟨4⟩, ⟨5⟩]
    let b : Array (Fl intExact) := #[⟨6⟩, ⟨7⟩, ⟨-8⟩, ⟨9⟩, ⟨10⟩]
    dotThreaded w a b = Vec.dot a b := by
  intro a b
  refine (dotThreaded_exact_of_closed w a b hw rfl (Set.range (fun k : ℤ => (k : ℝ)))
    ?_ ⟨0, by simp⟩ ?_ ?_).1
  · rintro x ⟨k, rfl⟩; exact intExact_rep k
  · rintro x ⟨k, rfl⟩ y ⟨j, rfl⟩; exact ⟨k + j, by push_cast; ring⟩
  · exact fun i hi => ⟨_, (exTerm intExact i hi).symm⟩

/-- integer data in the binary64-significand format (`FlModel.binary64 = FlModel.roundBits 52`): the
hypotheses of `dotThreaded_exact_int` are satisfiable, the results agree for every worker count -/
example (w : Nat) (hw : 0 < w) :
    let a : Array (Fl (FlModel.roundBits 52)) := #[⟨1⟩, ⟨-2⟩, ⟨3⟩, ⟨4⟩, ⟨5⟩]
    let b : Array (Fl (FlModel.roundBits 52)) := #[⟨6⟩, ⟨7⟩, ⟨-8⟩, ⟨9⟩, ⟨10⟩]
    dotThreaded w a b = Vec.dot a b ∧ Vec.dot a b = (.ok ⟨54⟩ : Res (Fl (FlModel.roundBits 52))) := by
  intro a b
  have hk : ∀ i, i < a.size → term a b i = (([6, -14, -24, 36, 50] : List ℤ).getD i 0 : ℤ) :=
    exTerm _
  -- with integer products, `Σ aᵢbᵢ` and `Σ |aᵢbᵢ|` are sums of integers
  have hex : exactDot a b = ((54 : ℤ) : ℝ) := by
    rw [exactDot, Finset.sum_congr rfl fun i hi => hk i (Finset.mem_range.mp hi), ← Int.cast_sum]
    rfl
  have habs : absDot a b = ((130 : ℤ) : ℝ) := by
    rw [absDot, Finset.sum_congr rfl fun i hi => congrArg abs (hk i (Finset.mem_range.mp hi))]
    simp only [← Int.cast_abs]
    rw [← Int.cast_sum]
    rfl
  have := dotThreaded_exact_int 52 w a b hw rfl _ hk (by rw [habs]; norm_num)
  rwa [hex, Int.cast_ofNat] at this

end Examples

end Ohsl.Props.C16
