/-
  Property C08 (part B) — BiCG, BiCGSTAB, QMR: reported success means solved to the tolerance.
  Model: Ohsl/Model/Krylov.lean.  Same setting as Ohsl/Props/C08.lean (which treats CG).

  (E) `bicg_success_sound`, `stab_success_sound`, `qmr_success_sound`, and `run_success_sound` (the
      four methods at once, `runOn`): the residual carried by each solver equals the true residual
      b − A x (for QMR additionally the auxiliary vector s equals A d), hence a reported success
      certifies that the quantity the code tested, computed from the TRUE residual, passed the
      code's comparison.
  (S) `bicg_iter_bound`, `stab_iter_bound`, `qmr_iter_bound`: any K, any operations.  Each solver is
      the driver `krylovRun` (Lemmas/Iterate) applied to its loop body and start state (`bicgInit`,
      `stabInit`, `qmrInit`); `bicgNext`, `bicgStates`: the state sequence of the BiCG loop with the
      stopping tests ignored, the twin of C08's `cgStates`; both sequences commute with
      homomorphisms of operation records.
-/
import Ohsl.Props.C08
import Ohsl.Lemmas.KrylovHom
import Mathlib.Algebra.Field.Rat

namespace Ohsl.Props.C08
open Ohsl Ohsl.Krylov

section StepCount
variable {K V : Type} [Div K]

/-- with the identity preconditioner (`z = r`) both BiCG error measures are `‖r‖ / bnrm` -/
theorem bicgErr_self (o : VOps K V) (itol : Nat) (r : V) (bnrm : K) :
    bicgErr o itol r r bnrm = o.norm2 r / bnrm := by
  unfold bicgErr
  split <;> rfl

variable [Transc K]

theorem bicgStep_iters (o : VOps K V) (bnrm tol : K) (itol i : Nat) (s : BiCGState K V) :
    (bicgStep o bnrm tol itol i s).Sat (fun _ => True) (fun r => r.iters = i) := by
  unfold bicgStep
  extract_lets
  exact .ite (fun _ => rfl) fun _ => trivial

variable [Mul K] [Zero K] [BEq K]

theorem stabStep_iters (o : VOps K V) (rtilde : V) (normb tol : K) (i : Nat) (s : StabState K V) :
    (stabStep o rtilde normb tol i s).Sat (fun _ => True) (fun r => r.iters = i) := by
  unfold stabStep
  extract_lets
  exact .ite (fun _ => rfl) fun _ => .ite (fun _ => rfl) fun _ => .ite (fun _ => rfl) fun _ =>
    .ite (fun _ => rfl) fun _ => trivial

variable [Add K] [Neg K] [One K]

theorem qmrStep_iters (o : VOps K V) (normb tol : K) (i : Nat) (s : QMRState K V) :
    (qmrStep o normb tol i s).Sat (fun _ => True) (fun r => r.iters = i) := by
  unfold qmrStep
  extract_lets
  exact .ite (fun _ => rfl) fun _ => .ite (fun _ => rfl) fun _ => .ite (fun _ => rfl) fun _ =>
    .ite (fun _ => rfl) fun _ => .ite (fun _ => rfl) fun _ => .ite (fun _ => rfl) fun _ =>
    .ite (fun _ => rfl) fun _ => trivial

end StepCount

section Structural
variable {K V : Type} [Add K] [Sub K] [Mul K] [Neg K] [Div K] [Zero K] [One K] [BEq K] [Transc K]

set_option linter.unusedSectionVars false in
/-- BiCG: the reported iteration count never exceeds the budget -/
theorem bicg_iter_bound (o : VOps K V) (b x : V) (maxIter : Nat) (tol : K) (itol : Nat) :
    (solveBiCG o b x maxIter tol itol).iters ≤ maxIter :=
  krylovRun_iters_le (bicgStep_iters o _ tol itol)

set_option linter.unusedSectionVars false in
/-- BiCGSTAB: the reported iteration count (success or breakdown) never exceeds the budget -/
theorem stab_iter_bound (o : VOps K V) (b x : V) (maxIter : Nat) (tol : K) :
    (solveBiCGSTAB o b x maxIter tol).iters ≤ maxIter :=
  krylovRun_iters_le (stabStep_iters o _ _ tol)

set_option linter.unusedSectionVars false in
/-- QMR: the reported iteration count (success or breakdown) never exceeds the budget -/
theorem qmr_iter_bound (o : VOps K V) (b x : V) (maxIter : Nat) (tol : K) :
    (solveQMR o b x maxIter tol).iters ≤ maxIter :=
  krylovRun_iters_le (step := qmrStep o _ tol) (qmrStep_iters o _ tol)

end Structural

section States
variable {K V : Type} [Div K]

/-- the search direction `p` of BiCG iteration `i` -/
def bicgP (o : VOps K V) (i : Nat) (s : BiCGState K V) : V :=
  bicgDir o i s.z s.p (o.dot s.z s.rr) s.rho2

/-- the shadow direction `pp` of BiCG iteration `i` -/
def bicgPP (o : VOps K V) (i : Nat) (s : BiCGState K V) : V :=
  bicgDir o i s.rr s.pp (o.dot s.z s.rr) s.rho2

/-- the step length of BiCG iteration `i` -/
def bicgAlpha (o : VOps K V) (i : Nat) (s : BiCGState K V) : K :=
  o.dot s.z s.rr / o.dot (o.A (bicgP o i s)) (bicgPP o i s)

/-- the BiCG state after iteration `i` (the stopping test ignored) -/
def bicgNext (o : VOps K V) (bnrm : K) (itol : Nat) (i : Nat) (s : BiCGState K V) :
    BiCGState K V :=
  ⟨o.add s.x (o.smul (bicgP o i s) (bicgAlpha o i s)),
   o.sub s.r (o.smul (o.A (bicgP o i s)) (bicgAlpha o i s)),
   o.sub s.rr (o.smul (o.At (bicgPP o i s)) (bicgAlpha o i s)),
   o.sub s.r (o.smul (o.A (bicgP o i s)) (bicgAlpha o i s)),
   bicgP o i s,
   bicgPP o i s,
   o.dot s.z s.rr,
   bicgErr o itol (o.sub s.r (o.smul (o.A (bicgP o i s)) (bicgAlpha o i s)))
     (o.sub s.r (o.smul (o.A (bicgP o i s)) (bicgAlpha o i s))) bnrm⟩

def bicgStates (o : VOps K V) (bnrm : K) (itol : Nat) (s0 : BiCGState K V) : Nat → BiCGState K V :=
  loopStates (bicgNext o bnrm itol) s0


section Step
variable [Transc K]

theorem bicgStep_eq_next (o : VOps K V) (bnrm tol : K) (itol i : Nat) (s : BiCGState K V) :
    bicgStep o bnrm tol itol i s =
      if Transc.le (bicgNext o bnrm itol i s).err tol
      then .done ⟨true, i, (bicgNext o bnrm itol i s).err, (bicgNext o bnrm itol i s).x⟩
      else .cont (bicgNext o bnrm itol i s) := rfl

end Step

variable [One K]

def bicgInit (o : VOps K V) (b x : V) (bnrm : K) (itol : Nat) : BiCGState K V :=
  ⟨x, o.sub b (o.A x), o.sub b (o.A x), o.sub b (o.A x), o.zero, o.zero, 1,
    bicgErr o itol (o.sub b (o.A x)) (o.sub b (o.A x)) bnrm⟩

def stabInit (o : VOps K V) (b x : V) (normb : K) : StabState K V :=
  ⟨x, o.sub b (o.A x), o.zero, o.zero, 1, 1, 1, o.norm2 (o.sub b (o.A x)) / normb⟩

theorem bicgStates_err (o : VOps K V) (b x : V) (bnrm : K) (itol k : Nat) :
    (bicgStates o bnrm itol (bicgInit o b x bnrm itol) k).err
      = o.norm2 (bicgStates o bnrm itol (bicgInit o b x bnrm itol) k).r / bnrm := by
  rw [← bicgErr_self o itol]
  cases k <;> rfl

variable [Zero K] [BEq K] [Transc K]

theorem solveBiCG_eq_run (o : VOps K V) (b x : V) (maxIter : Nat) (tol : K) (itol : Nat) :
    solveBiCG o b x maxIter tol itol = krylovRun (bicgStep o (guardNorm (o.norm2 b)) tol itol)
      BiCGState.err BiCGState.x x
      (bicgErr o itol (o.sub b (o.A x)) (o.sub b (o.A x)) (guardNorm (o.norm2 b))) tol maxIter
      (bicgInit o b x (guardNorm (o.norm2 b)) itol) := rfl

theorem solveBiCG_trace (o : VOps K V) (b x : V) (maxIter : Nat) (tol : K) (itol : Nat)
    (hok : (solveBiCG o b x maxIter tol itol).ok = true) :
    (solveBiCG o b x maxIter tol itol).iters ≤ maxIter ∧
    (solveBiCG o b x maxIter tol itol).x
      = (bicgStates o (guardNorm (o.norm2 b)) itol (bicgInit o b x (guardNorm (o.norm2 b)) itol)
          (solveBiCG o b x maxIter tol itol).iters).x ∧
    Transc.le (o.norm2 (bicgStates o (guardNorm (o.norm2 b)) itol
          (bicgInit o b x (guardNorm (o.norm2 b)) itol)
          (solveBiCG o b x maxIter tol itol).iters).r / guardNorm (o.norm2 b)) tol = true := by
  rw [← bicgStates_err]
  rw [solveBiCG_eq_run] at hok ⊢
  exact krylovRun_trace (bicgNext o (guardNorm (o.norm2 b)) itol) (bicgStep_eq_next o _ tol itol) rfl
    rfl hok

variable [Mul K]

theorem solveBiCGSTAB_eq_run (o : VOps K V) (b x : V) (maxIter : Nat) (tol : K) :
    solveBiCGSTAB o b x maxIter tol =
      krylovRun (stabStep o (o.sub b (o.A x)) (guardNorm (o.norm2 b)) tol) StabState.resid StabState.x
        x (o.norm2 (o.sub b (o.A x)) / guardNorm (o.norm2 b)) tol maxIter
        (stabInit o b x (guardNorm (o.norm2 b))) := rfl

variable [Add K] [Neg K]

def qmrInit (o : VOps K V) (b x : V) (normb : K) : QMRState K V :=
  ⟨x, o.sub b (o.A x), o.sub b (o.A x), o.sub b (o.A x), o.sub b (o.A x), o.sub b (o.A x),
    o.zero, o.zero, o.zero, o.zero, o.norm2 (o.sub b (o.A x)), o.norm2 (o.sub b (o.A x)), 1, -1, 0, 1,
    o.norm2 (o.sub b (o.A x)) / normb⟩

theorem solveQMR_eq_run (o : VOps K V) (b x : V) (maxIter : Nat) (tol : K) :
    solveQMR o b x maxIter tol = krylovRun (qmrStep o (guardNorm (o.norm2 b)) tol) QMRState.resid
      QMRState.x x (o.norm2 (o.sub b (o.A x)) / guardNorm (o.norm2 b)) tol maxIter
      (qmrInit o b x (guardNorm (o.norm2 b))) := rfl

end States

section StatesHom
variable {K V W : Type} {o₁ : VOps K V} {o₂ : VOps K W} {φ : V → W} [Div K]

theorem cgNext_hom (H : VHom o₁ o₂ φ) (normb : K) (i : Nat) (s : CGState K V) :
    cgNext o₂ normb i (mapCG φ s) = mapCG φ (cgNext o₁ normb i s) := by
  unfold cgNext cgAlpha cgP
  simp only [mapCG, H.dot, H.norm2, H.add, H.sub, H.smul, H.A, cgDir_hom H]

theorem bicgNext_hom (H : VHom o₁ o₂ φ) (bnrm : K) (itol i : Nat) (s : BiCGState K V) :
    bicgNext o₂ bnrm itol i (mapBiCG φ s) = mapBiCG φ (bicgNext o₁ bnrm itol i s) := by
  unfold bicgNext bicgAlpha bicgP bicgPP
  simp only [mapBiCG, H.dot, H.add, H.sub, H.smul, H.A, H.At, bicgDir_hom H,
    bicgErr_hom H]

variable [One K]

theorem cgInit_hom (H : VHom o₁ o₂ φ) (b x : V) (normb : K) :
    cgInit o₂ (φ b) (φ x) normb = mapCG φ (cgInit o₁ b x normb) := by
  unfold cgInit
  simp only [mapCG, H.norm2, H.sub, H.A, H.zero]

theorem cgStates_hom (H : VHom o₁ o₂ φ) (b x : V) (normb : K) (j : Nat) :
    cgStates o₂ normb (cgInit o₂ (φ b) (φ x) normb) j
      = mapCG φ (cgStates o₁ normb (cgInit o₁ b x normb) j) := by
  rw [cgInit_hom H]
  exact loopStates_hom (mapCG φ) _ _ (cgNext_hom H normb) _ j

theorem stabInit_hom (H : VHom o₁ o₂ φ) (b x : V) (normb : K) :
    stabInit o₂ (φ b) (φ x) normb = mapStab φ (stabInit o₁ b x normb) := by
  unfold stabInit
  simp only [mapStab, H.norm2, H.sub, H.A, H.zero]

theorem bicgInit_hom (H : VHom o₁ o₂ φ) (b x : V) (bnrm : K) (itol : Nat) :
    bicgInit o₂ (φ b) (φ x) bnrm itol = mapBiCG φ (bicgInit o₁ b x bnrm itol) := by
  unfold bicgInit
  simp only [mapBiCG, bicgErr_hom H, H.sub, H.A, H.zero]

theorem bicgStates_hom (H : VHom o₁ o₂ φ) (b x : V) (bnrm : K) (itol j : Nat) :
    bicgStates o₂ bnrm itol (bicgInit o₂ (φ b) (φ x) bnrm itol) j
      = mapBiCG φ (bicgStates o₁ bnrm itol (bicgInit o₁ b x bnrm itol) j) := by
  rw [bicgInit_hom H]
  exact loopStates_hom (mapBiCG φ) _ _ (bicgNext_hom H bnrm itol) _ j

end StatesHom


section StrictTest
variable {K : Type} [Transc K]

/-- the strict comparison `a < b` that BiCGSTAB's full-step exit uses, built from `Transc.le` -/
def stabLt (a b : K) : Bool := Transc.le a b && !(Transc.le b a)

/-- `stabLt` is literally the model's local definition -/
theorem stabLt_eq_model (a b : K) : stabLt a b = Ohsl.Krylov.stabStep.ScalarLt.lt a b := rfl

theorem stabLt_le {a b : K} (h : stabLt a b = true) : Transc.le a b = true := by
  unfold stabLt at h
  rw [Bool.and_eq_true] at h
  exact h.1

end StrictTest

section QmrUpdate
variable {K V : Type} [Field K] [AddCommGroup V] [Module K V]
variable (A : V →ₗ[K] V) (At : V → V) (dot : V → V → K) (norm2 : V → K)

theorem qmrUpd_map (i : Nat) (eta c : K) (p d : V) :
    A (qmrUpd (modOps A At dot norm2) i eta p c d) =
      qmrUpd (modOps A At dot norm2) i eta (A p) c (A d) := by
  unfold qmrUpd
  split
  · simp only [modOps, map_add, map_smul]
  · simp only [modOps, map_smul]

theorem qmrUpd_residual (b : V) (i : Nat) (eta c : K) (p x r d sv : V)
    (h : r = b - A x) (hd : sv = A d) :
    (modOps A At dot norm2).sub r
        (qmrUpd (modOps A At dot norm2) i eta ((modOps A At dot norm2).A p) c sv) =
      b - A ((modOps A At dot norm2).add x (qmrUpd (modOps A At dot norm2) i eta p c d)) := by
  subst h hd
  show (b - A x) - qmrUpd (modOps A At dot norm2) i eta (A p) c (A d) =
    b - A (x + qmrUpd (modOps A At dot norm2) i eta p c d)
  rw [A.map_add, qmrUpd_map, sub_sub]

end QmrUpdate

section StepExact
variable {K V : Type} [Field K] [Transc K] [AddCommGroup V] [Module K V]
variable (A : V →ₗ[K] V) (At : V → V) (dot : V → V → K) (norm2 : V → K)

theorem bicgStep_residual (b : V) (bnrm tol : K) (itol i : Nat) (s : BiCGState K V)
    (h : s.r = b - A s.x) :
    (bicgStep (modOps A At dot norm2) bnrm tol itol i s).Sat (fun s' => s'.r = b - A s'.x)
      (fun out => out.ok = true → Transc.le
        (bicgErr (modOps A At dot norm2) itol (b - A out.x) (b - A out.x) bnrm) tol = true) := by
  unfold bicgStep
  extract_lets zz rho1 p pp q alpha zz' x r rr z err
  have hr : r = b - A x := resid_update A b p alpha h
  refine .ite (fun hle _ => ?_) fun _ => hr
  show Transc.le (bicgErr (modOps A At dot norm2) itol (b - A x) (b - A x) bnrm) tol = true
  rw [← hr]
  exact hle

end StepExact

section Exact
variable {K V : Type} [Field K] [DecidableEq K] [Transc K] [AddCommGroup V] [Module K V]

variable (A : V →ₗ[K] V) (At : V → V) (dot : V → V → K) (norm2 : V → K)

/-- **BiCG: success ⇒ the error measure of the true residual passed the test.** -/
theorem bicg_success_sound (b x : V) (maxIter : Nat) (tol : K) (itol : Nat) :
    (solveBiCG (modOps A At dot norm2) b x maxIter tol itol).ok = true →
      Transc.le (bicgErr (modOps A At dot norm2) itol
        (b - A (solveBiCG (modOps A At dot norm2) b x maxIter tol itol).x)
        (b - A (solveBiCG (modOps A At dot norm2) b x maxIter tol itol).x)
        (guardNorm (norm2 b))) tol = true :=
  krylovRun_success (fun s : BiCGState K V => s.r = b - A s.x)
    (fun y => Transc.le (bicgErr (modOps A At dot norm2) itol (b - A y) (b - A y)
      (guardNorm (norm2 b))) tol = true) id rfl
    (bicgStep_residual A At dot norm2 b _ tol itol)

theorem stabStep_residual (b rtilde : V) (normb tol : K) (i : Nat) (s : StabState K V)
    (h : s.r = b - A s.x) :
    (stabStep (modOps A At dot norm2) rtilde normb tol i s).Sat (fun s' => s'.r = b - A s'.x)
      (fun out => out.ok = true →
        (Transc.le (norm2 (b - A out.x) / normb) tol = true ∨
         stabLt (norm2 (b - A out.x) / normb) tol = true)) := by
  unfold stabStep
  extract_lets rho1 p phat v alpha sv resid shat t omega x1 x r resid'
  have hsv : sv = b - A (s.x + alpha • phat) := resid_update A b phat alpha h
  have hr : r = b - A x := resid_update A b shat omega hsv
  refine .ite (fun _ hok => absurd hok Bool.false_ne_true) fun _ =>
    .ite (fun hle _ => Or.inl ?_) fun _ => .ite (fun hlt _ => Or.inr ?_) fun _ =>
    .ite (fun _ hok => absurd hok Bool.false_ne_true) fun _ => hr
  · show Transc.le (norm2 (b - A (s.x + alpha • phat)) / normb) tol = true
    rw [← hsv]
    exact hle
  · show stabLt (norm2 (b - A x) / normb) tol = true
    rw [← hr]
    exact hlt

/-- **BiCGSTAB: success ⇒ the true relative residual passed the test the code applied**
    (`≤ tol` at the initial check and the half-step exit, strict `< tol` at the full-step exit). -/
theorem stab_success_sound (b x : V) (maxIter : Nat) (tol : K) :
    (solveBiCGSTAB (modOps A At dot norm2) b x maxIter tol).ok = true →
      (Transc.le (norm2 (b - A (solveBiCGSTAB (modOps A At dot norm2) b x maxIter tol).x) /
          guardNorm (norm2 b)) tol = true ∨
       stabLt (norm2 (b - A (solveBiCGSTAB (modOps A At dot norm2) b x maxIter tol).x) /
          guardNorm (norm2 b)) tol = true) :=
  krylovRun_success (fun s : StabState K V => s.r = b - A s.x)
    (fun y => Transc.le (norm2 (b - A y) / guardNorm (norm2 b)) tol = true ∨
      stabLt (norm2 (b - A y) / guardNorm (norm2 b)) tol = true) Or.inl rfl
    (stabStep_residual A At dot norm2 b _ _ tol)

theorem qmrStep_residual (b : V) (normb tol : K) (i : Nat) (s : QMRState K V)
    (h : s.r = b - A s.x) (hd : s.s = A s.d) :
    (qmrStep (modOps A At dot norm2) normb tol i s).Sat
      (fun s' => s'.r = b - A s'.x ∧ s'.s = A s'.d)
      (fun out => out.ok = true → Transc.le (norm2 (b - A out.x) / normb) tol = true) := by
  have hr := fun eta c p => qmrUpd_residual A At dot norm2 b i eta c p s.x s.r s.d s.s h hd
  unfold qmrStep
  extract_lets fail
  have hfail : fail.Sat (fun s' => s'.r = b - A s'.x ∧ s'.s = A s'.d)
      (fun out => out.ok = true → Transc.le (norm2 (b - A out.x) / normb) tol = true) :=
    fun hok => absurd hok Bool.false_ne_true
  refine .ite (fun _ => hfail) fun _ => .ite (fun _ => hfail) fun _ => .ite (fun _ => hfail) fun _ =>
    .ite (fun _ => hfail) fun _ => .ite (fun _ => hfail) fun _ => .ite (fun _ => hfail) fun _ =>
    .ite (fun hle _ => ?_) fun _ => ⟨hr _ _ _, ?_⟩
  · exact (congrArg (fun v => Transc.le (norm2 v / normb) tol) (hr _ _ _)).symm.trans hle
  · show qmrUpd _ i _ _ _ s.s = A (qmrUpd _ i _ _ _ s.d)
    rw [hd, qmrUpd_map]
    rfl

/-- **QMR: success ⇒ the true relative residual passed the test.** -/
theorem qmr_success_sound (b x : V) (maxIter : Nat) (tol : K) :
    (solveQMR (modOps A At dot norm2) b x maxIter tol).ok = true →
      Transc.le (norm2 (b - A (solveQMR (modOps A At dot norm2) b x maxIter tol).x) /
        guardNorm (norm2 b)) tol = true :=
  krylovRun_success (fun s : QMRState K V => s.r = b - A s.x ∧ s.s = A s.d)
    (fun y => Transc.le (norm2 (b - A y) / guardNorm (norm2 b)) tol = true) id
    ⟨rfl, (map_zero A).symm⟩
    (fun i s hs => qmrStep_residual A At dot norm2 b _ tol i s hs.1 hs.2)

end Exact

/-- **All four methods: success ⇒ the true relative residual passed the test `≤ tol`.**  For
    BiCGSTAB's full-step exit the code applies the strict test, which implies this one
    (`stabLt_le`); BiCG's two error measures coincide (`bicgErr_self`). -/
theorem run_success_sound {K V : Type} [Field K] [DecidableEq K] [Transc K] [AddCommGroup V]
    [Module K V] (A : V →ₗ[K] V) (At : V → V) (dot : V → V → K) (norm2 : V → K) (m : Sp.Method)
    (b x : V) (maxIter : Nat) (tol : K)
    (hok : (runOn (modOps A At dot norm2) m b x maxIter tol).ok = true) :
    Transc.le (norm2 (b - A (runOn (modOps A At dot norm2) m b x maxIter tol).x) /
      guardNorm (norm2 b)) tol = true := by
  cases m with
  | cg => exact cg_success_sound A At dot norm2 b x maxIter tol hok
  | bicg itol =>
    have := bicg_success_sound A At dot norm2 b x maxIter tol itol hok
    rwa [bicgErr_self] at this
  | bicgstab => exact (stab_success_sound A At dot norm2 b x maxIter tol hok).elim id stabLt_le
  | qmr => exact qmr_success_sound A At dot norm2 b x maxIter tol hok

/-! ### Non-vacuity: the success hypotheses are reachable through the loop (K = V = ℚ) -/
section Examples

/-- a `Transc ℚ` used only by the examples below (`le` is `≤`, `sqrt` is the identity, which is
    correct at the only argument the examples evaluate it at, `sqrt 1 = 1`) -/
@[reducible] private def transcQ : Transc ℚ where
  sqrt := id
  sin := id
  cos := id
  tan := id
  exp := id
  ln := id
  sinh := id
  cosh := id
  fabs := id
  atan2 := fun a _ => a
  powf := fun a _ => a
  fmax := fun a _ => a
  ofNat := fun n => n
  le := fun a b => decide (a ≤ b)
  half := 1 / 2
  piHalf := 0
  eps := 0
  snap := 0

attribute [local instance] transcQ

/-- BiCG succeeds in iteration 1 (not at the initial check) on `1 · x = 1`, `x₀ = 0` -/
example : (solveBiCG (modOps (LinearMap.id : ℚ →ₗ[ℚ] ℚ) id (· * ·) id) 1 0 1 0 1).ok = true ∧
    (solveBiCG (modOps (LinearMap.id : ℚ →ₗ[ℚ] ℚ) id (· * ·) id) 1 0 1 0 1).iters = 1 := by
  decide +kernel

/-- BiCGSTAB, half-step exit in iteration 1 -/
example : (solveBiCGSTAB (modOps (LinearMap.id : ℚ →ₗ[ℚ] ℚ) id (· * ·) id) 1 0 1 0).ok = true ∧
    (solveBiCGSTAB (modOps (LinearMap.id : ℚ →ₗ[ℚ] ℚ) id (· * ·) id) 1 0 1 0).iters = 1 := by
  decide +kernel

/-- BiCGSTAB, full-step exit (strict comparison) in iteration 1: half-step residual `1/9 > 1/10`,
    full-step residual `9/169 < 1/10` (with a non-bilinear `dot`, which the theorems allow) -/
example : (solveBiCGSTAB (modOps ((2 : ℚ) • LinearMap.id : ℚ →ₗ[ℚ] ℚ) id (fun u v => u * v + 1)
      (fun u => u * u)) 1 0 1 (1 / 10)).ok = true ∧
    (solveBiCGSTAB (modOps ((2 : ℚ) • LinearMap.id : ℚ →ₗ[ℚ] ℚ) id (fun u v => u * v + 1)
      (fun u => u * u)) 1 0 1 (1 / 10)).x = 5 / 13 := by
  decide +kernel

example : (solveQMR (modOps (LinearMap.id : ℚ →ₗ[ℚ] ℚ) id (· * ·) id) 1 0 1 0).ok = true ∧
    (solveQMR (modOps (LinearMap.id : ℚ →ₗ[ℚ] ℚ) id (· * ·) id) 1 0 1 0).iters = 1 := by
  decide +kernel

end Examples

end Ohsl.Props.C08
