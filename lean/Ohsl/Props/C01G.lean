/-
  Property C01 (part G) — backward error analysis of `solve_basic` (`Mat.solveBasic`: Gaussian
  elimination with partial pivoting applied to the matrix AND the right-hand side simultaneously,
  `Mat.gaussWithPivot`, followed by back substitution, `Mat.backsolve`) in the "rounded reals"
  interpretation `Fl M` of the model (standard model of floating-point arithmetic, Rounding.lean).
  Sibling of C01F (`solve_lu`); the constants `M.gq k = (1−u)^{−k} − 1` and the factor calculus
  `M.Th` are those of C01F (`u < 1` is the only smallness hypothesis).  The transfer to the Rust
  `f64` code rests on the ASSUMPTION stated in Rounding.lean (binary64 without overflow/underflow
  satisfies `FlModel`), not proved here.

  THE MULTIPLIERS.  `solve_basic` does not store the multipliers `elem = fl(m_ik / m_kk)`; it
  overwrites entry `(i,k)` with the rounded residue `fl(m_ik − fl(elem·m_kk))` (`≈ 0`, in general NOT
  `0`: `Mat.elimRow_struct`; `backsolve` never reads it: `backsolve_upper_only`).  They are DEFINED FROM
  THE RUN by the instrumented elimination `Mat.gaussT` (GaussRounding.lean): the same computation —
  it calls the model's `maxAbsInColumn`, `partialPivot`, `elimRow` — that additionally records, in a
  `GTrace`, `mult` (the multipliers, rows exchanged along with every later row exchange), `perm`
  (`perm r` = the row of the input that is now row `r`) and `reg` (no pivot search has returned a
  row above the diagonal; always `true`, see below).  `gaussT_forget`: forgetting the trace gives
  `gaussWithPivot` exactly (values and failures, every scalar type).  Notation for a returned state
  `((m', ŷ), tr)`: `GLhat tr` (unit lower: `tr.mult` below the diagonal), `GUhat n m'` (the upper triangle of `m'`),
  `absGLU = |L̂||Û|`, `absGLy = |L̂||ŷ|`.

  THE PIVOT SEARCH.  `max_abs_in_column` starts from `max_index = start_row` (the fix commit in /repo;
  the model follows).  Started from `max_index = 0`, as it was before that commit, it returns row `0`
  on a pivot sub-column that is EXACTLY zero, and `partial_pivot` exchanges row `k` with row `0`, a
  FINISHED pivot row.  In exact arithmetic entry `(0,0)` is then an exact `0` and the last division of
  `backsolve` fails (C01S), but in rounded arithmetic it is the rounded residue
  `fl(m_k0 − fl(elem·m_00))`, in general a tiny NON-zero number, so `solve_basic` RETURNS a vector that
  is not the solution of any nearby system (on `f64`: `A = [[49,1,0],[1,t,1],[1,t,2]]`, `t = fl(1/49)`,
  `b = [1,2,3]` gave `x̂ ≈ [4.4·10¹⁵, 1, 1.49]`, relative backward error `1`): the backward error
  theorem is false for such runs.  Started from the diagonal row, the search returns `k ≤ p < n`
  whenever it returns (`Mat.maxAbsInColumn_ge`, `pivotSearch_fl`), every run is regular
  (`gaussT_regular`: `tr.reg = true` always), and the theorems below hold for EVERY returned value
  with `u < 1` as the only hypothesis.  On a numerically singular matrix whose pivot sub-column is
  exactly zero the search returns `p = k`, the pivot is an exact zero, and the next division is the
  `.error .arith` of the abstract model (±inf / NaN over IEEE): nothing is returned
  (`Ex.solveBasic_A3_b3`, the matrix on which the search from row `0` returned a wrong vector).

  THE CONSTANT of `solveBasic_backward` is `gq (n−1) + gq (2n−1)` against the `gq n + gq (3n)` of
  `solve_lu` (C01F): there is no rounded product `P·b` here.  The growth of `Û` is not bounded here.
  Nothing is `_partial`.
-/
import Ohsl.Props.C01F
import Ohsl.Lemmas.GaussRounding
import Mathlib.Algebra.Order.BigOperators.Group.Finset
import Mathlib.Algebra.BigOperators.Ring.Finset
import Mathlib.Tactic.Ring
import Mathlib.Tactic.NormNum
namespace Ohsl.Props.C01
open Ohsl Ohsl.Mat

section Structural
set_option linter.unusedSectionVars false
variable {K : Type} [Add K] [Sub K] [Mul K] [Neg K] [Zero K] [One K] [BEq K] [ScalarExt K]

/-- (S) **the instrumented elimination is the model's elimination**: forgetting the trace of
`gaussT` gives `gaussWithPivot` — the same value or the same failure, for every scalar type -/
theorem gaussT_forget (A : Mat K) (b : Array K) :
    Except.map Prod.fst (Mat.gaussT A b) = Mat.gaussWithPivot A b :=
  Mat.gaussT_fst A b

/-- (S) a value returned by `solve_basic` is the back substitution of the result of a successful
elimination, which is the projection of a successful instrumented elimination -/
theorem solveBasic_traced {n : Nat} {A : Mat K} {a : Nat → Nat → K} (hA : Mat.Is A n n a)
    {b x : Array K} (hb : b.size = n) (h : Mat.solveBasic A b = .ok x) :
    ∃ (m' : Mat K) (y : Array K) (tr : GTrace K), Mat.gaussT A b = .ok ((m', y), tr) ∧
      Mat.gaussWithPivot A b = .ok (m', y) ∧ Mat.backsolve m' y = .ok x :=
  Mat.solveBasic_run hA.wfn hb h

/-- (S) **`backsolve` never reads below the diagonal**: on two `n × n` matrices with the same upper
triangle it gives the same result (value or failure) for every right-hand side.  So the rounded
residues that `solve_basic` leaves below the diagonal do not influence the returned vector. -/
theorem backsolve_upper_only {n : Nat} {U U' : Mat K} {uu uu' : Nat → Nat → K}
    (hU : Mat.Is U n n uu) (hU' : Mat.Is U' n n uu')
    (hup : ∀ i j, i ≤ j → j < n → uu' i j = uu i j) (x : Array K) :
    Mat.backsolve U' x = Mat.backsolve U x := by
  refine Mat.backsolve_congr_upper (by rw [hU'.rows, hU.rows]) ?_ x
  intro i j hij hj
  rw [hU.rows] at hj
  rw [hU'.entry i j (by omega) hj, hU.entry i j (by omega) hj, hup i j hij hj]

/-- (S) **every run is regular**: the pivot search starts at the diagonal row, so whenever the
instrumented elimination returns, no pivot search has returned a row above the diagonal -/
theorem gaussT_regular {n : Nat} {A : Mat K} {a : Nat → Nat → K} (hA : Mat.Is A n n a)
    {b : Array K} (hb : b.size = n) {s : (Mat K × Array K) × GTrace K}
    (h : Mat.gaussT A b = .ok s) : s.2.reg = true :=
  Mat.gaussT_regular hA.wfn hb h

end Structural

section Rounding
variable {M : FlModel}

/-- the unit lower matrix of the recorded multipliers (real values) -/
noncomputable def GLhat (tr : GTrace (Fl M)) : Nat → Nat → ℝ := Lfn (fun a b => (tr.mult a b).val)
/-- the upper triangle of the final matrix of the elimination (real values) -/
noncomputable def GUhat (n : Nat) (m' : Mat (Fl M)) : Nat → Nat → ℝ := Ufn n (valEnt m')
/-- `(|L̂||Û|)_{rc}` -/
noncomputable def absGLU (n : Nat) (tr : GTrace (Fl M)) (m' : Mat (Fl M)) : Nat → Nat → ℝ :=
  fun r c => ∑ k ∈ Finset.range n, |GLhat tr r k| * |GUhat n m' k c|
/-- `(|L̂||ŷ|)_r` -/
noncomputable def absGLy (n : Nat) (tr : GTrace (Fl M)) (y : Array (Fl M)) : Nat → ℝ :=
  fun r => ∑ k ∈ Finset.range n, |GLhat tr r k| * |(vf y k).val|

theorem GLhat_apply (tr : GTrace (Fl M)) (r k : Nat) :
    GLhat tr r k = if k < r then (tr.mult r k).val else if k = r then 1 else 0 := rfl
theorem GUhat_apply (n : Nat) (m' : Mat (Fl M)) {k c : Nat} (hc : c < n) :
    GUhat n m' k c = if c < k then 0 else (ent m' k c).val := by
  simp [GUhat, Ufn, valEnt, hc]
theorem absGLU_nonneg (n : Nat) (tr : GTrace (Fl M)) (m' : Mat (Fl M)) (r c : Nat) :
    0 ≤ absGLU n tr m' r c :=
  Finset.sum_nonneg (fun _ _ => mul_nonneg (abs_nonneg _) (abs_nonneg _))

/-- **the pivot search of `solve_basic` in `Fl M`** (comparisons and `mag` are exact; the search
starts from `max_index = start_row`): whenever it returns, the row `p` satisfies `k ≤ p < n`, its
entry dominates the sub-column `k, …, n−1` of column `k`, and if that whole sub-column is exactly zero
the search returns the diagonal row `p = k` (whose entry, the pivot, is then an exact zero) -/
theorem pivotSearch_fl {n k p : Nat} {m : Mat (Fl M)} {mm : Nat → Nat → Fl M}
    (hm : Mat.Is m n n mm) (hk : k < n) (h : Mat.maxAbsInColumn m k k = .ok p) :
    k ≤ p ∧ p < n ∧
      (∀ i, k ≤ i → i < n → |(mm i k).val| ≤ |(mm p k).val|) ∧
      ((∀ i, k ≤ i → i < n → (mm i k).val = 0) → p = k) := by
  obtain ⟨h1, h2, h3, h4⟩ := Mat.maxAbsInColumn_fl hm.wfn hk h
  refine ⟨h2, h1, ?_, ?_⟩
  · intro i hi1 hi2
    have := h3 i hi1 hi2
    rwa [hm.ent_eq hi2 hk, hm.ent_eq h1 hk] at this
  · intro hz
    refine h4 ?_
    intro i hi1 hi2
    rw [hm.ent_eq hi2 hk]
    exact hz i hi1 hi2

/-- **Forward elimination with partial pivoting of `[A | b]`, backward error** (Higham, Thm 9.3, for
the `kij` elimination of `gauss_with_pivot`: multipliers `l̂_ik = fl(m_ik / m_kk)`, updates
`m_ij ← fl(m_ij − fl(l̂_ik m_kj))` for `j = k, …, n−1` and `y_i ← fl(y_i − fl(l̂_ik y_k))`).  Whenever the
instrumented elimination returns `((m', ŷ), tr)`: `m'`, `ŷ` are what
`gaussWithPivot` returns, `tr.perm` is a permutation `π` of the rows, every multiplier is at most
`1 + u` in magnitude (a rounded quotient of magnitudes `≤ 1`, see C01F), and
`|(L̂Û)_{rc} − a_{π r, c}| ≤ gq (n−1) (|L̂||Û|)_{rc}`, `|(L̂ŷ)_r − b_{π r}| ≤ gq (n−1) (|L̂||ŷ|)_r`. -/
theorem gauss_backward (hu : M.u < 1) {n : Nat} (hn : 1 ≤ n) {A : Mat (Fl M)}
    {a : Nat → Nat → Fl M} (hA : Mat.Is A n n a) {b : Array (Fl M)} (hb : b.size = n)
    {m' : Mat (Fl M)} {y : Array (Fl M)} {tr : GTrace (Fl M)}
    (h : Mat.gaussT A b = .ok ((m', y), tr)) :
    Mat.gaussWithPivot A b = .ok (m', y) ∧ WFn m' n ∧ y.size = n ∧
    ∃ σ : Nat → Nat, PermOK n tr.perm σ ∧
      (∀ r c, r < n → c < r → |GLhat tr r c| ≤ 1 + M.u) ∧
      (∀ r c, r < n → c < n →
        |∑ k ∈ Finset.range n, GLhat tr r k * GUhat n m' k c - (a (tr.perm r) c).val|
          ≤ M.gq (n - 1) * absGLU n tr m' r c) ∧
      (∀ r, r < n →
        |∑ k ∈ Finset.range n, GLhat tr r k * (vf y k).val - (vf b (tr.perm r)).val|
          ≤ M.gq (n - 1) * absGLy n tr y r) := by
  obtain ⟨hwf, hsz, σ, hperm, hmult, hfa, hfb⟩ := Mat.gauss_factor_fl hu hn hA.wfn hb h
  have hproj : Mat.gaussWithPivot A b = .ok (m', y) := by
    rw [← Mat.gaussT_fst, h]; rfl
  refine ⟨hproj, hwf, hsz, σ, hperm, ?_, ?_, ?_⟩
  · intro r c hr hc
    rw [GLhat_apply, if_pos hc]
    exact hmult r c hr hc
  · intro r c hr hc
    obtain ⟨Θ, hΘ, e⟩ := hfa r c hr hc
    rw [← hA.ent_eq (hperm.1 r hr).1 hc, e]
    exact abs_sum_sub_le (GLhat tr r) (fun k => GUhat n m' k c) Θ _
      (fun k _ => by simp only [GLhat, GUhat]; ring)
      (fun k _ => ((hΘ k).mono hu (Nat.le_sub_one_of_lt hr)).abs_sub_one_le hu)
  · intro r hr
    obtain ⟨Θ, hΘ, e⟩ := hfb r hr
    rw [e]
    exact abs_sum_sub_le (GLhat tr r) (fun k => (vf y k).val) Θ _
      (fun k _ => by simp only [GLhat]; ring)
      (fun k _ => ((hΘ k).mono hu (Nat.le_sub_one_of_lt hr)).abs_sub_one_le hu)

/-- **`solve_basic`, backward error, classical form** (Higham, Thm 9.4).  Whenever `solveBasic A b`
returns `x̂` in `Fl M` (`A` is `n × n`, `n ≥ 1`, `u < 1`): `x̂ = backsolve m' ŷ` for the result `(m', ŷ)`
of `gaussWithPivot A b`, which is the projection of the instrumented run `gaussT A b = ((m', ŷ), tr)`;
all pivots `m'_ii` are non-zero; and,
with `π = tr.perm` the row permutation performed, `L̂` the unit lower matrix of the recorded
multipliers (`|l̂_rc| ≤ 1 + u`) and `Û` the upper triangle of `m'`:
`(A + ΔA) x̂ = b` holds EXACTLY — the right-hand side is not perturbed — and
`|ΔA_{π r, c}| ≤ (gq (n−1) + gq (2n−1)) · (|L̂||Û|)_{rc}`, i.e. `|ΔA| ≤ (gq (n−1) + gq (2n−1)) · Pᵀ|L̂||Û|`
(`gq (n−1)`: elimination of `A`; `gq (2n−1) = (1+gq (n−1))(1+gq n) − 1`: elimination of `b`, which plays
the role of the forward substitution, and back substitution). -/
theorem solveBasic_backward (hu : M.u < 1) {n : Nat} (hn : 1 ≤ n) {A : Mat (Fl M)}
    {a : Nat → Nat → Fl M} (hA : Mat.Is A n n a) {b x : Array (Fl M)} (hb : b.size = n)
    (h : Mat.solveBasic A b = .ok x) :
    ∃ (m' : Mat (Fl M)) (y : Array (Fl M)) (tr : GTrace (Fl M)),
      Mat.gaussT A b = .ok ((m', y), tr) ∧ Mat.gaussWithPivot A b = .ok (m', y) ∧
      Mat.backsolve m' y = .ok x ∧
      x.size = n ∧ (∀ i, i < n → (ent m' i i).val ≠ 0) ∧
      ∃ σ : Nat → Nat, PermOK n tr.perm σ ∧
      (∀ r c, r < n → c < r → |GLhat tr r c| ≤ 1 + M.u) ∧
      ∃ ΔA : Nat → Nat → ℝ,
        (∀ i, i < n →
          ∑ j ∈ Finset.range n, ((a i j).val + ΔA i j) * (vf x j).val = (vf b i).val) ∧
        ∀ r c, r < n → c < n →
          |ΔA (tr.perm r) c| ≤ (M.gq (n - 1) + M.gq (2 * n - 1)) * absGLU n tr m' r c := by
  obtain ⟨m', y, tr, hg, hgw, hbs⟩ := Mat.solveBasic_run hA.wfn hb h
  obtain ⟨_, _, _, σ, hperm, hmult, _, _⟩ := gauss_backward hu hn hA hb hg
  obtain ⟨hxs, hpiv, ΔA, hsol, hbd⟩ := Mat.solveBasic_backward_core hu hn hA hb hg hbs
  exact ⟨m', y, tr, hg, hgw, hbs, hxs, hpiv, σ, hperm, hmult, ΔA, hsol, hbd⟩

/-- **`solve_basic`, backward error, two-sided form**: for every returned value
`(A + ΔA) x̂ = b + Δb` EXACTLY with `|ΔA| ≤ (gq (n−1) + gq n) · Pᵀ|L̂||Û|` (elimination of `A`, back
substitution) and `|Δb| ≤ gq (n−1) · Pᵀ|L̂||ŷ|` (elimination of `b`; `ŷ` the transformed right-hand
side). -/
theorem solveBasic_backward_twosided (hu : M.u < 1) {n : Nat} (hn : 1 ≤ n) {A : Mat (Fl M)}
    {a : Nat → Nat → Fl M} (hA : Mat.Is A n n a) {b x : Array (Fl M)} (hb : b.size = n)
    (h : Mat.solveBasic A b = .ok x) :
    ∃ (m' : Mat (Fl M)) (y : Array (Fl M)) (tr : GTrace (Fl M)),
      Mat.gaussT A b = .ok ((m', y), tr) ∧ Mat.backsolve m' y = .ok x ∧
      ∃ σ : Nat → Nat, PermOK n tr.perm σ ∧
      ∃ (ΔA : Nat → Nat → ℝ) (Δb : Nat → ℝ),
        (∀ i, i < n → ∑ j ∈ Finset.range n, ((a i j).val + ΔA i j) * (vf x j).val
          = (vf b i).val + Δb i) ∧
        (∀ r c, r < n → c < n →
          |ΔA (tr.perm r) c| ≤ (M.gq (n - 1) + M.gq n) * absGLU n tr m' r c) ∧
        (∀ r, r < n → |Δb (tr.perm r)| ≤ M.gq (n - 1) * absGLy n tr y r) := by
  obtain ⟨m', y, tr, hg, hgw, hbs⟩ := Mat.solveBasic_run hA.wfn hb h
  obtain ⟨_, _, _, σ, hperm, _, _, _⟩ := gauss_backward hu hn hA hb hg
  obtain ⟨ΔA', Δb', hrow, hbd, hbb⟩ :=
    Mat.solveBasic_backward_core2 hu hn hA.wfn hb hg hbs
  obtain ⟨ΔA, hsol, hΔ⟩ := hperm.reindex (a := fun i j => (a i j).val)
    (x := fun c => (vf x c).val) (b := fun i => (vf b i).val + Δb' (σ i))
    (fun i j hi hj => congrArg Fl.val (hA.ent_eq hi hj))
    (fun r hr => by rw [hrow r hr, (hperm.1 r hr).2])
  refine ⟨m', y, tr, hg, hbs, σ, hperm, ΔA, fun i => Δb' (σ i), hsol, fun r c hr hc => ?_,
    fun r hr => ?_⟩
  · rw [hΔ r c hr]
    exact hbd r c hr hc
  · show |Δb' (σ (tr.perm r))| ≤ _
    rw [(hperm.1 r hr).2]
    exact hbb r hr

/-- **normwise form**: `‖ΔA‖_∞ ≤ (gq (n−1) + gq (2n−1)) · ‖ |L̂||Û| ‖_∞` -/
theorem solveBasic_backward_normwise (hu : M.u < 1) {n : Nat} (hn : 1 ≤ n) {A : Mat (Fl M)}
    {a : Nat → Nat → Fl M} (hA : Mat.Is A n n a) {b x : Array (Fl M)} (hb : b.size = n)
    (h : Mat.solveBasic A b = .ok x) :
    ∃ (m' : Mat (Fl M)) (y : Array (Fl M)) (tr : GTrace (Fl M)),
      Mat.gaussT A b = .ok ((m', y), tr) ∧ Mat.backsolve m' y = .ok x ∧
      ∃ ΔA : Nat → Nat → ℝ,
        (∀ i, i < n →
          ∑ j ∈ Finset.range n, ((a i j).val + ΔA i j) * (vf x j).val = (vf b i).val) ∧
        rowNorm n ΔA ≤ (M.gq (n - 1) + M.gq (2 * n - 1)) * rowNorm n (absGLU n tr m') := by
  obtain ⟨m', y, tr, hg, _, hbs, _, _, σ, hperm, _, ΔA, hsol, hbd⟩ :=
    solveBasic_backward hu hn hA hb h
  exact ⟨m', y, tr, hg, hbs, ΔA, hsol, rowNorm_le_of_perm hperm
    (add_nonneg (FlModel.gq_nonneg hu _) (FlModel.gq_nonneg hu _)) (absGLU_nonneg n tr m') hbd⟩

theorem absGLU_rowNorm_le {n : Nat} {tr : GTrace (Fl M)} (m' : Mat (Fl M))
    (hmult : ∀ r c, r < n → c < r → |GLhat tr r c| ≤ 1 + M.u) :
    rowNorm n (absGLU n tr m') ≤ n * (1 + M.u) * rowNorm n (GUhat n m') :=
  rowNorm_abs_mul_le (GLhat tr) (GUhat n m') (abs_Lfn_le M.one_le_one_add_u
    (fun r k hr hk => by have := hmult r k hr hk; rwa [GLhat_apply, if_pos hk] at this))

/-- **normwise form with partial pivoting**:
`‖ΔA‖_∞ ≤ (gq (n−1) + gq (2n−1)) · n (1+u) · ‖Û‖_∞` (the growth of `Û` is not bounded here) -/
theorem solveBasic_backward_normwise_U (hu : M.u < 1) {n : Nat} (hn : 1 ≤ n) {A : Mat (Fl M)}
    {a : Nat → Nat → Fl M} (hA : Mat.Is A n n a) {b x : Array (Fl M)} (hb : b.size = n)
    (h : Mat.solveBasic A b = .ok x) :
    ∃ (m' : Mat (Fl M)) (y : Array (Fl M)) (tr : GTrace (Fl M)),
      Mat.gaussT A b = .ok ((m', y), tr) ∧ Mat.backsolve m' y = .ok x ∧
      ∃ ΔA : Nat → Nat → ℝ,
        (∀ i, i < n →
          ∑ j ∈ Finset.range n, ((a i j).val + ΔA i j) * (vf x j).val = (vf b i).val) ∧
        rowNorm n ΔA
          ≤ (M.gq (n - 1) + M.gq (2 * n - 1)) * (n * (1 + M.u) * rowNorm n (GUhat n m')) := by
  obtain ⟨m', y, tr, hg, hbs, ΔA, hsol, hbd⟩ := solveBasic_backward_normwise hu hn hA hb h
  obtain ⟨_, _, _, σ, _, hmult, _, _⟩ := gauss_backward hu hn hA hb hg
  refine ⟨m', y, tr, hg, hbs, ΔA, hsol, hbd.trans ?_⟩
  exact mul_le_mul_of_nonneg_left (absGLU_rowNorm_le m' hmult)
    (add_nonneg (FlModel.gq_nonneg hu _) (FlModel.gq_nonneg hu _))

/-- **the classical constant**: `|ΔA| ≤ γ_{3n} · Pᵀ|L̂||Û|`, `γ_k = k u / (1 − k u)`, when `3 n u < 1`
(`gq (n−1) + gq (2n−1) ≤ gq (3n−2) ≤ γ_{3n}`) -/
theorem solveBasic_backward_gamma {n : Nat} (hn : 1 ≤ n) (hnu : ((3 * n : ℕ) : ℝ) * M.u < 1)
    {A : Mat (Fl M)} {a : Nat → Nat → Fl M} (hA : Mat.Is A n n a) {b x : Array (Fl M)}
    (hb : b.size = n) (h : Mat.solveBasic A b = .ok x) :
    ∃ (m' : Mat (Fl M)) (y : Array (Fl M)) (tr : GTrace (Fl M)),
      Mat.gaussT A b = .ok ((m', y), tr) ∧ Mat.backsolve m' y = .ok x ∧
      ∃ σ : Nat → Nat, PermOK n tr.perm σ ∧ ∃ ΔA : Nat → Nat → ℝ,
        (∀ i, i < n →
          ∑ j ∈ Finset.range n, ((a i j).val + ΔA i j) * (vf x j).val = (vf b i).val) ∧
        ∀ r c, r < n → c < n → |ΔA (tr.perm r) c|
          ≤ ((3 * n : ℕ) : ℝ) * M.u / (1 - ((3 * n : ℕ) : ℝ) * M.u) * absGLU n tr m' r c := by
  have hu : M.u < 1 := FlModel.u_lt_one_of_mul_lt_one (by omega) hnu
  obtain ⟨m', y, tr, hg, _, hbs, _, _, σ, hperm, _, ΔA, hsol, hbd⟩ :=
    solveBasic_backward hu hn hA hb h
  refine ⟨m', y, tr, hg, hbs, σ, hperm, ΔA, hsol, fun r c hr hc => (hbd r c hr hc).trans ?_⟩
  refine mul_le_mul_of_nonneg_right ?_ (absGLU_nonneg n tr m' r c)
  exact ((FlModel.gq_add_le hu _ _).trans (FlModel.gq_mono hu (by omega))).trans
    (FlModel.gq_le_gamma (3 * n) hnu)

end Rounding

section Examples

/-- exact arithmetic is a model (`u = 0 < 1`); there all the constants vanish, `ΔA = 0`, and the exact
soundness theorem (`solveBasic_sound` of C01S) is recovered: `A x = b` -/
example {n : Nat} (hn : 1 ≤ n) {A : Mat (Fl FlModel.exact)} {a : Nat → Nat → Fl FlModel.exact}
    (hA : Mat.Is A n n a) {b x : Array (Fl FlModel.exact)} (hb : b.size = n)
    (h : Mat.solveBasic A b = .ok x) :
    x.size = n ∧ ∀ i, i < n →
      ∑ j ∈ Finset.range n, (a i j).val * (vf x j).val = (vf b i).val := by
  obtain ⟨m', y, tr, hg, _, _, hxs, _, σ, hperm, _, ΔA, hsol, hbd⟩ :=
    solveBasic_backward FlModel.exact_u_lt_one hn hA hb h
  refine ⟨hxs, fun i hi => ?_⟩
  rw [← hsol i hi]
  apply Finset.sum_congr rfl
  intro j hj
  obtain ⟨hσ, hπσ⟩ := hperm.2 i hi
  have h0 : ΔA i j = 0 := by simpa [hπσ] using hbd (σ i) j hσ (Finset.mem_range.mp hj)
  rw [h0, add_zero]

namespace Ex

/-! the `2 × 2` system of C01F, `[[1,2],[3,4]] x = [5,11]`, whose first column needs a row exchange,
evaluated in the exact model: `x = [1,2]`, `π = (0 1)`, `l̂₁₀ = 1/3`, `Û = [[3,4],[0,2/3]]`,
`ŷ = [11, 4/3]` -/

theorem gaussT_A2_b2 : ∃ s, Mat.gaussT A2 b2 = .ok s ∧ s.2.reg = true ∧ s.2.perm 0 = 1 ∧
    s.2.perm 1 = 0 ∧ (s.2.mult 1 0).val = 1 / 3 ∧
    s.1.1 = ⟨#[⟨3⟩, ⟨4⟩, ⟨0⟩, ⟨2 / 3⟩], 2, 2⟩ ∧ s.1.2 = #[⟨11⟩, ⟨4 / 3⟩] := by
  norm_num only [model_eval, A2, b2, gaussT, gaussStepT, partialPivotT, elimRowT, GTrace.init, swapIdx,
    partialPivot, maxAbsInColumn, swapRows, swapElem, Vec.swap, elimRow, E.sub_eq, E.mul_eq,
    E.divM_eq, E.lt_eq, Fl.mag_eq,
    Fl.ext_iff, Fl.zero_val]
  simp

theorem solveBasic_A2_b2 : Mat.solveBasic A2 b2 = .ok #[⟨1⟩, ⟨2⟩] := solve_A2_b2.1

/-- the hypotheses of `solveBasic_backward` are satisfiable for a
concrete non-trivial system with a genuine row exchange, and its conclusion holds there -/
example : ∃ (A : Mat E) (b x : Array E), Mat.Is A 2 2 (Mat.ent A) ∧ b.size = 2 ∧
    FlModel.exact.u < 1 ∧ Mat.solveBasic A b = .ok x ∧
    ∃ (m' : Mat E) (y : Array E) (tr : GTrace E), Mat.gaussT A b = .ok ((m', y), tr) ∧
      tr.reg = true ∧ tr.perm 0 = 1 ∧ tr.perm 1 = 0 ∧ GLhat tr 1 0 = 1 / 3 ∧
      ∃ ΔA : Nat → Nat → ℝ,
        (∀ i, i < 2 →
          ∑ j ∈ Finset.range 2, ((Mat.ent A i j).val + ΔA i j) * (vf x j).val = (vf b i).val) ∧
        ∀ r c, r < 2 → c < 2 → |ΔA (tr.perm r) c|
          ≤ (FlModel.exact.gq (2 - 1) + FlModel.exact.gq (2 * 2 - 1)) * absGLU 2 tr m' r c := by
  have hu := FlModel.exact_u_lt_one
  have hA := A2_is
  refine ⟨A2, b2, _, hA, rfl, hu, solveBasic_A2_b2, ?_⟩
  obtain ⟨m', y, tr, hg, _, _, _, _, σ, _, _, ΔA, hsol, hbd⟩ :=
    solveBasic_backward hu (by omega) hA rfl solveBasic_A2_b2
  obtain ⟨s, hs, h1, h2, h3, h4, _, _⟩ := gaussT_A2_b2
  cases Except.ok.inj (hg.symm.trans hs)
  refine ⟨m', y, tr, hg, h1, h2, h3, ?_, ΔA, hsol, hbd⟩
  rw [GLhat_apply, if_pos (by omega)]
  exact h4

/-! A NUMERICALLY SINGULAR SYSTEM IS REFUSED.  Model `fl x = (1+u) x`, `u = 2⁻¹⁰` (`FlModel.scale`);
`A = [[1,1,0],[1,s,1],[1,s,2]]` with `s = (1+u)²`, `b = [1,2,4]`.  Step 0 leaves the EXACT zeros
`fl(s − fl(fl(1/1)·1)) = 0` in column 1 of rows 1, 2 (and the NON-zero residues
`fl(1 − fl(fl(1/1)·1)) = −(1+u)((1+u)² − 1) ≈ −2u` in column 0, which nothing reads).  In step 1 the
pivot sub-column is exactly zero: the search returns the diagonal row `p = k = 1`, no rows are
exchanged, and the division `m₂₁ / m₁₁` by the exactly zero pivot is the `.error .arith` of the
abstract model (`0/0 = NaN` over IEEE): NO value is returned, so the backward error theorem is
vacuous here and nothing wrong is returned.  (A search started from `max_index = 0` exchanges rows 1
and 0 at this point, and `solve_basic` returns `x̂ ≈ [257.9, 1.002, 1.5005]`, for which every
admissible perturbation of row 0 of `A` has an entry `≥ 9/10`.) -/

theorem u10_nonneg : (0 : ℝ) ≤ 1 / 1024 := by norm_num
abbrev S10 := S (1 / 1024) u10_nonneg
theorem S.sub_eq (u : ℝ) (hu0 : 0 ≤ u) (a b : S u hu0) :
    a - b = ⟨(1 + u) * (a.val - b.val)⟩ := rfl

noncomputable def A3 : Mat S10 :=
  ⟨#[⟨1⟩, ⟨1⟩, ⟨0⟩, ⟨1⟩, ⟨1050625 / 1048576⟩, ⟨1⟩, ⟨1⟩, ⟨1050625 / 1048576⟩, ⟨2⟩], 3, 3⟩
noncomputable def b3 : Array S10 := #[⟨1⟩, ⟨2⟩, ⟨4⟩]

theorem gaussStep0_A3_b3 : Mat.gaussStep (A3, b3) 0 =
    .ok (⟨#[⟨1⟩, ⟨1⟩, ⟨0⟩, ⟨-(2100225 / 1073741824)⟩, ⟨0⟩, ⟨1025 / 1024⟩,
        ⟨-(2100225 / 1073741824)⟩, ⟨0⟩, ⟨1025 / 512⟩], 3, 3⟩,
      #[⟨1⟩, ⟨1072690175 / 1073741824⟩, ⟨3222270975 / 1073741824⟩]) := by
  norm_num only [model_eval, A3, b3, gaussStep, partialPivot, maxAbsInColumn, swapRows_self,
    Vec.swap_self, elimRow, S.sub_eq,
    S.mul_eq, S.divM_eq, S.lt_eq, Fl.mag_eq, Fl.ext_iff, Fl.zero_val]

theorem pivot1_A3 : Mat.maxAbsInColumn
    (⟨#[⟨1⟩, ⟨1⟩, ⟨0⟩, ⟨-(2100225 / 1073741824)⟩, ⟨0⟩, ⟨1025 / 1024⟩,
        ⟨-(2100225 / 1073741824)⟩, ⟨0⟩, ⟨1025 / 512⟩], 3, 3⟩ : Mat S10) 1 1 = .ok 1 := by
  norm_num only [model_eval, maxAbsInColumn, S.lt_eq, Fl.mag_eq, Fl.zero_val, Fl.neg_val]

theorem gaussWithPivot_A3_b3 : Mat.gaussWithPivot A3 b3 = .error .arith := by
  have h0 := gaussStep0_A3_b3
  have hr : A3.rows = 3 := rfl
  simp only [gaussWithPivot_eq, hr, usub, Nat.reduceLeDiff, if_true, Nat.reduceSub, forM',
    List.range', List.foldlM, h0, bind, Except.bind]
  norm_num only [model_eval, gaussStep, partialPivot, pivot1_A3, swapRows_self, Vec.swap_self,
    elimRow, S.divM_eq]

/-- `solve_basic` returns NO value on this numerically singular system (with the pivot search
started from row `0` it returned a vector with relative backward error `≈ 1`) -/
theorem solveBasic_A3_b3 : Mat.solveBasic A3 b3 = .error .arith := by
  have h1 : ¬ A3.rows ≠ b3.size := by simp [A3, b3]
  have h2 : ¬ A3.rows ≠ A3.cols := by simp [A3]
  simp only [solveBasic, h1, h2, if_false, gaussWithPivot_A3_b3, bind, Except.bind]

end Ex

end Examples

end Ohsl.Props.C01
