/-
  Property C17 — Newton iteration (model: Ohsl/Model/Newton.lean).
  Proved here, class (S) — EVERY user function, any scalar arithmetic, for the real and the complex
  scalar iteration: the iteration and evaluation bound (`scalar_bounded`, `cx_bounded`), the zero
  budget (`scalar_budget_zero`, `cx_budget_zero`), what a reported success means
  (`scalar_success_char`, `cx_success_char`).  The result is a function of
  (f, tol, delta, maxIter, guess) only (the model is a pure function; on the code the
  configuration is `&self`, checked by `parameters()` before/after and by running twice).

  Both scalar loops of the model are instances of one bounded early-exit loop
  (`solveScalar_eq_loop`, `solveCx_eq_loop`; `NewtonGen.loop`, Ohsl/Lemmas/C17C.lean) whose step
  function is the Newton update as the model computes it (`scalarStep`, `cxStep`; they can be read
  off the model itself: `scalarStep_is_model`, `cxStep_is_model`).  The strong forms (the iterate
  sequence, the evaluation points) are in C17C.lean; convergence near a simple root in C18R, C17Z
  (scalar loops), C17K, C17W (systems) and C17L (with rounding).
-/
import Ohsl.Lemmas.C17C
set_option linter.unusedSectionVars false
namespace Ohsl.Props.C17
open Ohsl Ohsl.Newton
variable {K : Type} [Add K] [Sub K] [Mul K] [Neg K] [Div K] [Zero K] [One K] [BEq K] [ScalarExt K] [Transc K]

/-- the Newton correction at `c` as `Newton<f64>::solve` computes it: `f c / f'_δ(c)` with the
    central difference `f'_δ(c) = (f (c + δ) − f (c − δ)) / (2 δ)` -/
def scalarDx (f : K → K) (delta c : K) : K :=
  f c / ((f (c + delta) - f (c - delta)) / ((1 + 1) * delta))

def scalarStep (f : K → K) (delta c : K) : K := c - scalarDx f delta c

def scalarIter (f : K → K) (delta x0 : K) (k : Nat) : K := NewtonGen.iter (scalarStep f delta) x0 k

/-- the stopping test of the step that starts at `c`: `|dx| <= tol` -/
def scalarTest (f : K → K) (tol delta c : K) : Bool :=
  Transc.le (Transc.fabs (scalarDx f delta c)) tol

/-- the three points at which `f` is evaluated in the iteration that starts at `c` -/
def scalarPts (delta c : K) : List K := [c + delta, c - delta, c]

@[simp] theorem scalarIter_zero (f : K → K) (delta x0 : K) : scalarIter f delta x0 0 = x0 := rfl
theorem scalarIter_succ (f : K → K) (delta x0 : K) (k : Nat) :
    scalarIter f delta x0 (k + 1) = scalarStep f delta (scalarIter f delta x0 k) := rfl

theorem solveScalar_eq_loop (f : K → K) (tol delta : K) :
    ∀ (n : Nat) (cur : K) (tr : List K),
      solveScalar f tol delta n cur tr
        = NewtonGen.loop (scalarStep f delta) (scalarTest f tol delta) (scalarPts delta) n cur tr
  | 0, cur, tr => rfl
  | n + 1, cur, tr => by
    rw [solveScalar, NewtonGen.loop]
    simp only [scalarTest, scalarDx, scalarStep, scalarPts]
    rw [solveScalar_eq_loop f tol delta n]
    rfl

/-- `scalarStep` is the model's own step function: a run with a budget of one iteration returns
    it (as `Ok` or as `Err`), whatever the tolerance -/
theorem scalarStep_is_model (f : K → K) (tol delta cur : K) (tr : List K) :
    (solveScalar f tol delta 1 cur tr).1.x = scalarStep f delta cur := by
  rw [solveScalar_eq_loop, NewtonGen.loop_one]

/-- evaluation count: the trace grows by 3 per iteration and by at most `3 * maxIter` overall -/
theorem scalar_bounded (f : K → K) (tol delta : K) :
    ∀ (n : Nat) (cur : K) (tr : List K),
      ∃ k, k ≤ n ∧ (solveScalar f tol delta n cur tr).2.length = tr.length + 3 * k ∧
        ((solveScalar f tol delta n cur tr).1.ok = false → k = n) := by
  intro n cur tr
  rw [solveScalar_eq_loop]
  obtain ⟨k, hk, _, hl, _, hf, _⟩ := NewtonGen.loop_bounded (scalarStep f delta)
    (scalarTest f tol delta) (scalarPts delta) 3 (fun _ => rfl) n cur tr
  exact ⟨k, hk, hl, hf⟩

theorem scalar_budget_zero (f : K → K) (tol delta guess : K) :
    solveScalar f tol delta 0 guess [] = (⟨false, guess⟩, []) := rfl

/-- success is reported only when the last step met the stopping test `|dx| <= tol` -/
theorem scalar_success_char (f : K → K) (tol delta : K) :
    ∀ (n : Nat) (cur : K) (tr : List K), (solveScalar f tol delta n cur tr).1.ok = true →
      ∃ c : K, (solveScalar f tol delta n cur tr).1.x = c - f c / ((f (c + delta) - f (c - delta)) / ((1 + 1) * delta)) ∧
        Transc.le (Transc.fabs (f c / ((f (c + delta) - f (c - delta)) / ((1 + 1) * delta)))) tol = true := by
  intro n cur tr hok
  rw [solveScalar_eq_loop] at hok ⊢
  obtain ⟨k, _, e1, e2, _⟩ := (NewtonGen.loop_char (scalarStep f delta) (scalarTest f tol delta)
    (scalarPts delta) n cur tr).1 hok
  exact ⟨NewtonGen.iter (scalarStep f delta) cur k, e1, e2⟩

/-- the Newton correction at `c` as `Newton<Cmplx>::solve` computes it: `f c / f'_δ(c)` with
    `f'_δ(c) = (f (c + δ) − f (c − δ)) / (2 δ)`, `δ` real (`Complex / f64`, then `Complex / Complex`) -/
def cxDx (f : Cx K → Cx K) (delta : K) (c : Cx K) : Cx K :=
  Cx.divT (f c) (Cx.divRT (f (c + ⟨delta, 0⟩) - f (c - ⟨delta, 0⟩)) ((1 + 1) * delta))

def cxStep (f : Cx K → Cx K) (delta : K) (c : Cx K) : Cx K := c - cxDx f delta c

def cxIter (f : Cx K → Cx K) (delta : K) (x0 : Cx K) (k : Nat) : Cx K :=
  NewtonGen.iter (cxStep f delta) x0 k

/-- the stopping test of the step that starts at `c`: `dx.abs() <= tol` -/
def cxTest (f : Cx K → Cx K) (tol delta : K) (c : Cx K) : Bool :=
  Transc.le (Cx.abs (cxDx f delta c)) tol

/-- the three evaluation points of the iteration that starts at `c` -/
def cxPts (delta : K) (c : Cx K) : List (Cx K) := [c + ⟨delta, 0⟩, c - ⟨delta, 0⟩, c]

@[simp] theorem cxIter_zero (f : Cx K → Cx K) (delta : K) (x0 : Cx K) : cxIter f delta x0 0 = x0 := rfl
theorem cxIter_succ (f : Cx K → Cx K) (delta : K) (x0 : Cx K) (k : Nat) :
    cxIter f delta x0 (k + 1) = cxStep f delta (cxIter f delta x0 k) := rfl

theorem solveCx_eq_loop (f : Cx K → Cx K) (tol delta : K) :
    ∀ (n : Nat) (cur : Cx K) (tr : List (Cx K)),
      solveCx f tol delta n cur tr
        = NewtonGen.loop (cxStep f delta) (cxTest f tol delta) (cxPts delta) n cur tr
  | 0, cur, tr => rfl
  | n + 1, cur, tr => by
    rw [solveCx, NewtonGen.loop]
    simp only [cxTest, cxDx, cxStep, cxPts]
    rw [solveCx_eq_loop f tol delta n]
    rfl

theorem cxStep_is_model (f : Cx K → Cx K) (tol delta : K) (cur : Cx K) (tr : List (Cx K)) :
    (solveCx f tol delta 1 cur tr).1.x = cxStep f delta cur := by
  rw [solveCx_eq_loop, NewtonGen.loop_one]

theorem cx_bounded (f : Cx K → Cx K) (tol delta : K) :
    ∀ (n : Nat) (cur : Cx K) (tr : List (Cx K)),
      ∃ k, k ≤ n ∧ (solveCx f tol delta n cur tr).2.length = tr.length + 3 * k ∧
        ((solveCx f tol delta n cur tr).1.ok = false → k = n) := by
  intro n cur tr
  rw [solveCx_eq_loop]
  obtain ⟨k, hk, _, hl, _, hf, _⟩ := NewtonGen.loop_bounded (cxStep f delta)
    (cxTest f tol delta) (cxPts delta) 3 (fun _ => rfl) n cur tr
  exact ⟨k, hk, hl, hf⟩

theorem cx_budget_zero (f : Cx K → Cx K) (tol delta : K) (guess : Cx K) :
    solveCx f tol delta 0 guess [] = (⟨false, guess⟩, []) := rfl

/-- **success characterisation (complex method), weak form** — the analogue of
    `scalar_success_char`: success is reported only with `x = c − f c / f'_δ(c)` for a point `c`
    whose step met the stopping test `dx.abs() <= tol`. -/
theorem cx_success_char (f : Cx K → Cx K) (tol delta : K) (n : Nat) (cur : Cx K) (tr : List (Cx K))
    (hok : (solveCx f tol delta n cur tr).1.ok = true) :
    ∃ c : Cx K,
      (solveCx f tol delta n cur tr).1.x
        = c - Cx.divT (f c) (Cx.divRT (f (c + ⟨delta, 0⟩) - f (c - ⟨delta, 0⟩)) ((1 + 1) * delta)) ∧
      Transc.le (Cx.abs (Cx.divT (f c)
        (Cx.divRT (f (c + ⟨delta, 0⟩) - f (c - ⟨delta, 0⟩)) ((1 + 1) * delta)))) tol = true := by
  rw [solveCx_eq_loop] at hok ⊢
  obtain ⟨k, _, e1, e2, _⟩ :=
    (NewtonGen.loop_char (cxStep f delta) (cxTest f tol delta) (cxPts delta) n cur tr).1 hok
  exact ⟨NewtonGen.iter (cxStep f delta) cur k, e1, e2⟩

end Ohsl.Props.C17
