/-
  Property C07 (sparse products), part T: the transposed product — model: Ohsl/Model/Sparse.lean.
  Class (E), `K` a commutative semiring (`Sub`, `Neg`, `BEq`, `ScalarExt` arbitrary: unused by the
  code).  For a well-formed CSC storage `s` (`Sp.WF`, Ohsl/Lemmas/SparseSpec.lean):
  * multiplying by the EXPLICIT transpose is the transposed product: `transpose_multiply`,
    `transpose_multiply_ok` (`transpose_multiply_gen` needs of the scalars only a commutative
    addition: the stored triplets are permuted);
  * both products through the denoted entry `Sp.entry` (duplicates summed; no duplicate-freeness
    needed): `transposeMultiply_entry`, `multiply_entry`;
  * for duplicate-free storage, against the dense transpose of `to_dense`:
    `transposeMultiply_eq_dense`, `transpose_multiply_eq_dense`;
  * the adjoint identity for the model's `Vec.dot`, `Aᵀ y` computed either way: `adjoint_identity`.
-/
import Ohsl.Props.C06W
import Ohsl.Props.C07S
import Ohsl.Lemmas.SparseSpec
import Ohsl.Lemmas.SparseWF
import Ohsl.Lemmas.MatSpec2
import Ohsl.Lemmas.Alg
import Mathlib.Algebra.Order.Field.Rat
namespace Ohsl.Props.C07
open Ohsl Ohsl.Sp

/-- multiplying by the explicit transpose is `transpose_multiply` for ANY commutative addition and
    any multiplication (no distributivity, no commutativity of `*`): both add up the same products
    `val * y[row]`, the transposed storage merely holds them in another order -/
theorem transpose_multiply_gen {K : Type} [AddCommMonoid K] [Mul K] {s : Sp K} (h : WF s) (y : Array K)
    (hy : y.size = s.rows) :
    ∃ t, Sp.transpose s = .ok t ∧ Sp.multiply t y = Sp.transposeMultiply s y := by
  obtain ⟨t, h1, h2, r1, c1, _, h6⟩ := h.transpose_trips
  obtain ⟨u, a1, a2, a3⟩ := multiply_trips h2 y (hy.trans c1.symm)
  obtain ⟨z, b1, b2, b3⟩ := transposeMultiply_trips h y hy
  refine ⟨t, h1, a1.trans ((congrArg _ (ext_getD (a2.trans r1) b2 fun i hi => ?_)).trans b1.symm)⟩
  rw [a3 i (r1 ▸ hi), b3 i hi, h6, ← List.sum_eq_foldl, ← List.sum_eq_foldl,
    (((C06.sortByCol_perm _).filter _).map _).sum_eq, List.filter_map, List.map_map]
  rfl

variable {K : Type} [CommSemiring K] [Sub K] [Neg K] [BEq K] [ScalarExt K]

set_option linter.unusedSectionVars false in
/-- Multiplying by the explicit transpose equals the transposed product: on a well-formed storage
    `transpose` succeeds and `multiply (transpose s) y` is the same computation result as
    `transpose_multiply s y` (both are `.ok` of the same array: `transpose_multiply_ok`; its
    components: `transposeMultiply_entry`).  Duplicates are allowed. -/
theorem transpose_multiply {s : Sp K} (h : WF s) (y : Array K) (hy : y.size = s.rows) :
    ∃ t, Sp.transpose s = .ok t ∧ Sp.multiply t y = Sp.transposeMultiply s y :=
  transpose_multiply_gen h y hy

/-- the same with the value made explicit: both computations return the same array `z` -/
theorem transpose_multiply_ok {s : Sp K} (h : WF s) (y : Array K) (hy : y.size = s.rows) :
    ∃ t z, Sp.transpose s = .ok t ∧ Sp.multiply t y = .ok z ∧ Sp.transposeMultiply s y = .ok z ∧
      z.size = s.cols := by
  obtain ⟨t, h1, h2⟩ := transpose_multiply h y hy
  obtain ⟨z, g1, g2, _⟩ := transposeMultiply_spec h y hy
  exact ⟨t, z, h1, by rw [h2, g1], g1, g2⟩

/-- `transpose_multiply` in entry form: component `j` of the result is
    `Σ_{i<rows} entry s i j * y[i]` — row `j` of the transposed denoted matrix times `y`
    (independent of the loop structure; duplicates are summed in `Sp.entry`). -/
theorem transposeMultiply_entry {s : Sp K} (h : WF s) (y : Array K) (hy : y.size = s.rows) :
    ∃ z, transposeMultiply s y = .ok z ∧ z.size = s.cols ∧ ∀ j, j < s.cols → z[j]? = some
      (∑ i ∈ Finset.range s.rows, s.entry i j * y[i]?.getD 0) := by
  refine ⟨_, transposeMultiply_eq h y hy, by simp, ?_⟩
  intro j hj
  rw [Array.getElem?_ofFn]
  simp only [hj, dif_pos]
  rw [tmulF_eq_entry h _ hj]

/-- `multiply` in entry form: component `i` of the result is `Σ_{j<cols} entry s i j * x[j]` -/
theorem multiply_entry {s : Sp K} (h : WF s) (x : Array K) (hx : x.size = s.cols) :
    ∃ y, multiply s x = .ok y ∧ y.size = s.rows ∧ ∀ i, i < s.rows → y[i]? = some
      (∑ j ∈ Finset.range s.cols, s.entry i j * x[j]?.getD 0) := by
  refine ⟨_, multiply_eq h x hx, by simp, ?_⟩
  intro i hi
  rw [Array.getElem?_ofFn]
  simp only [hi, dif_pos]
  rw [mulF_eq_entry]

/-- for duplicate-free well-formed storage the transposed sparse product is the dense product of
    the TRANSPOSE (`Mat.transpose`, the model of `Matrix::transpose`) of `to_dense` -/
theorem transposeMultiply_eq_dense {s : Sp K} (h : WF s) (hnd : NoDup s) (y : Array K)
    (hy : y.size = s.rows) :
    ∃ d dt z, toDense s = .ok d ∧ Mat.transpose d = .ok dt ∧ transposeMultiply s y = .ok z ∧
      Mat.mulVec dt y = .ok z := by
  obtain ⟨d, h1, h2⟩ := toDense_spec h hnd
  obtain ⟨dt, h3, h4⟩ := Mat.transpose_spec h2
  refine ⟨d, dt, _, h1, h3, transposeMultiply_eq h y hy, ?_⟩
  rw [mulVec_eq_sum h4 y hy]
  refine congrArg _ (ext_ofFn (by simp) fun j hj => ?_).symm
  rw [Array.getElem?_ofFn, dif_pos hj, tmulF_eq_entry h _ hj]

/-- … and so is the sparse product with the explicit sparse transpose: the three ways of computing
    `Aᵀ y` (`transpose().multiply`, `transpose_multiply`, dense transpose times `y`) agree -/
theorem transpose_multiply_eq_dense {s : Sp K} (h : WF s) (hnd : NoDup s) (y : Array K)
    (hy : y.size = s.rows) :
    ∃ t d dt z, Sp.transpose s = .ok t ∧ toDense s = .ok d ∧ Mat.transpose d = .ok dt ∧
      multiply t y = .ok z ∧ transposeMultiply s y = .ok z ∧ Mat.mulVec dt y = .ok z := by
  obtain ⟨t, g1, g2⟩ := transpose_multiply h y hy
  obtain ⟨d, dt, z, h1, h2, h3, h4⟩ := transposeMultiply_eq_dense h hnd y hy
  exact ⟨t, d, dt, z, g1, h1, h2, by rw [g2, h3], h3, h4⟩

/-- the classical adjoint identity ⟨y, A x⟩ = ⟨Aᵀ y, x⟩ for the model's dot product `Vec.dot`
    (accumulation in index order): all computations succeed, `Aᵀ y` is the common value `v` of
    `transpose_multiply s y` and `multiply (transpose s) y`, and both inner products return the
    same scalar `c`.  Duplicates are allowed. -/
theorem adjoint_identity {s : Sp K} (h : WF s) (x y : Array K) (hx : x.size = s.cols)
    (hy : y.size = s.rows) :
    ∃ t u v c, Sp.transpose s = .ok t ∧ multiply s x = .ok u ∧ transposeMultiply s y = .ok v ∧
      multiply t y = .ok v ∧ Vec.dot y u = .ok c ∧ Vec.dot v x = .ok c := by
  obtain ⟨u, v, h1, h2, h3, h4, h5⟩ := adjoint h x y hx hy
  obtain ⟨t, g1, g2⟩ := transpose_multiply h y hy
  have e1 : ¬ y.size ≠ u.size := fun e => e (hy.trans h3.symm)
  have e2 : ¬ v.size ≠ x.size := fun e => e (h4.trans hx.symm)
  refine ⟨t, u, v, ∑ i ∈ Finset.range s.rows, y[i]?.getD 0 * u[i]?.getD 0, g1, h1, h2,
    by rw [g2, h2], ?_, ?_⟩
  · simp only [Vec.dot, e1, if_false, foldl_zipWith_eq_sum y u s.rows hy h3]
  · simp only [Vec.dot, e2, if_false, foldl_zipWith_eq_sum v x s.cols h4 hx, h5]

section Examples
attribute [local instance] Ohsl.Alg.scalarExt

/-- the 2×3 rational matrix `[[1,0,4],[2,3,0]]` (duplicate-free pattern: the index arrays of `demo`) -/
def demoQ : Sp ℚ := ⟨2, 3, 4, #[1, 2, 3, 4], #[0, 1, 1, 0], #[0, 2, 3, 4]⟩

theorem demoQ_wf : WF demoQ := demo_wf.1.with_val _ rfl

theorem demoQ_noDup : NoDup demoQ := demo_wf.2

/-- all hypotheses of this file hold for `demoQ`, `x = (1, 2, 3)`, `y = (5, 7)` -/
example : WF demoQ ∧ NoDup demoQ ∧ (#[1, 2, 3] : Array ℚ).size = demoQ.cols ∧
    (#[5, 7] : Array ℚ).size = demoQ.rows := ⟨demoQ_wf, demoQ_noDup, rfl, rfl⟩

/-- … and the conclusions can be observed on the model: `Aᵀ y = (19, 21, 20)` all three ways,
    `A x = (13, 8)`, `⟨y, A x⟩ = 121 = ⟨Aᵀ y, x⟩` -/
example :
    transposeMultiply demoQ #[5, 7] = .ok #[19, 21, 20] ∧
    (Sp.transpose demoQ >>= fun t => multiply t #[5, 7]) = .ok #[19, 21, 20] ∧
    (toDense demoQ >>= Mat.transpose >>= fun dt => Mat.mulVec dt #[5, 7]) = .ok #[19, 21, 20] ∧
    multiply demoQ #[1, 2, 3] = .ok #[13, 8] ∧
    Vec.dot (#[5, 7] : Array ℚ) #[13, 8] = .ok 121 ∧
    Vec.dot (#[19, 21, 20] : Array ℚ) #[1, 2, 3] = .ok 121 := by
  decide +kernel

end Examples

end Ohsl.Props.C07
