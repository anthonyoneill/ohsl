/-
  Property C07 (sparse products), part F — rounding-error bounds in the "rounded reals"
  interpretation `Fl M` of the model (Ohsl/Lemmas/Rounding.lean): the SAME model definitions
  `Sp.multiply`, `Sp.transposeMultiply`, `Sp.scale` (Ohsl/Model/Sparse.lean) instantiated at real
  numbers whose `+` and `*` round with relative error `≤ u` (standard model, no overflow/underflow).
  The transfer to the Rust `f64` code rests on the ASSUMPTION stated in Rounding.lean; it is not
  proved here.

  Notation: `s : Sp (Fl M)` well formed (`Sp.WF`), `entryR s i j = a_ij` the exact real entry of the
  matrix `s` denotes (`Sp.entry` of the real storage `realOf s`: the stored value, `0` if none),
  `rowCount s i = nᵢ` the number of slots with row index `i`, `colCount s j = mⱼ =
  col_start[j+1] - col_start[j]`, `M.gam k = (1+u)^k - 1`, `x_j = (x.getD j 0).val`.

  What the code computes (any scalar type, no algebraic law): component `i` of `multiply s x` is the
  LEFT FOLD from `0`, in storage order, of `val[k] * x[col k]` over the slots `k` with
  `row_index[k] = i`; component `j` of `transpose_multiply s y` is the left fold from `0` of
  `val[k] * y[row_index[k]]`, `k = col_start[j] … col_start[j+1]-1`.

  Rounding (F):
  * `multiply_rounding`, `transposeMultiply_rounding` (WF, NoDup): componentwise forward error
    against the entries of the denoted matrix; `…_gamma` with the classical constant; both are read
    off `multiply_within`, `transposeMultiply_within`;
    `multiply_rounding_slots`, `transposeMultiply_rounding_slots`: the slot form, WITHOUT `NoDup`
    (duplicates are summed; the majorant is the sum of `|val[k] x_j|` over the slots, which for
    duplicates is larger than `|a_ij x_j|` — that is why the entry form needs `NoDup`);
  * `scale_rounding`, `scale_rounding_entry`: one rounding per stored value, pattern unchanged;
  * `bilinear_rounding_left`, `bilinear_rounding_right`: `⟨y, Ax⟩` and `⟨Aᵀy, x⟩` computed (products
    by `Vec.dot`) against `yᵀAx`;
  * `adjoint_rounding`: the adjoint identity up to rounding.
  The constant `nᵢ + 1` (not `nᵢ`) is forced by the abstract model, which also rounds the first
  addition `0 + p₀` (see `Fl.foldl_sum_rounding_sharp`); the last example shows it is attained.
-/
import Ohsl.Props.C07S
import Ohsl.Props.C16F
import Ohsl.Lemmas.Rounding
import Ohsl.Lemmas.SparseWF
import Mathlib.Algebra.BigOperators.Intervals
import Mathlib.Algebra.Order.BigOperators.Group.Finset
import Mathlib.Algebra.BigOperators.Ring.Finset
namespace Ohsl.Props.C07
open Ohsl Ohsl.Sp

section Structural
variable {K : Type} [Add K] [Mul K] [Zero K]

/-- number of slots aimed at row `i` (for duplicate-free storage: the number of stored entries of
row `i`) -/
def rowCount (s : Sp K) (i : Nat) : Nat := (slotsTo s.ri s.nonzero i).length
/-- number of slots of column `j` -/
def colCount (s : Sp K) (j : Nat) : Nat := s.cs (j + 1) - s.cs j

set_option linter.unusedSectionVars false in
theorem rowCount_le_nonzero (s : Sp K) (i : Nat) : rowCount s i ≤ s.nonzero := by
  unfold rowCount slotsTo
  exact (List.length_filter_le _ _).trans (by simp)

set_option linter.unusedSectionVars false in
theorem colCount_le_nonzero {s : Sp K} (h : WF s) {j : Nat} (hj : j < s.cols) :
    colCount s j ≤ s.nonzero :=
  Nat.le_trans (Nat.sub_le _ _) (h.cs_le_nonzero hj)

end Structural

section Counts
variable {K : Type}

theorem length_le_of_injOn {l : List Nat} (hl : l.Nodup) (f : Nat → Nat) {n : Nat}
    (hinj : ∀ k, k ∈ l → ∀ k', k' ∈ l → f k = f k' → k = k') (hlt : ∀ k, k ∈ l → f k < n) :
    l.length ≤ n := by
  have hsub : l.map f ⊆ List.range n := fun c hc => by
    obtain ⟨k, hk, rfl⟩ := List.mem_map.mp hc
    exact List.mem_range.mpr (hlt k hk)
  simpa using (List.subperm_of_subset (List.Nodup.map_on hinj hl) hsub).length_le

theorem rowCount_le_cols {s : Sp K} (h : WF s) (hnd : NoDup s) (i : Nat) :
    rowCount s i ≤ s.cols :=
  length_le_of_injOn (slotsTo_nodup _ _ _) s.colOf
    (fun _ hk _ hk' e => slot_inj h hnd (mem_slotsTo.mp hk).1 (mem_slotsTo.mp hk').1
      ((mem_slotsTo.mp hk).2.trans (mem_slotsTo.mp hk').2.symm) e)
    (fun _ hk => h.colOf_lt (mem_slotsTo.mp hk).1)

theorem colCount_le_rows {s : Sp K} (h : WF s) (hnd : NoDup s) {j : Nat} (hj : j < s.cols) :
    colCount s j ≤ s.rows := by
  have hmem : ∀ k, k ∈ List.range' (s.cs j) (s.cs (j + 1) - s.cs j) →
      s.cs j ≤ k ∧ k < s.cs (j + 1) := fun k hk => by
    have := List.mem_range'_1.mp hk
    have := h.mono j hj
    omega
  have := length_le_of_injOn (List.nodup_range' (step := 1) Nat.one_pos) s.ri
    (fun k hk k' hk' e => hnd j hj k k' (hmem k hk).1 (hmem k hk).2 (hmem k' hk').1 (hmem k' hk').2 e)
    (fun k hk => h.riLt k (h.slot_lt hj (hmem k hk).2))
  rwa [List.length_range'] at this

end Counts

section Sums

theorem abs_sum_unique (S : Finset ℕ) (p : ℕ → Prop) [DecidablePred p] (f : ℕ → ℝ)
    (hu : ∀ k ∈ S, ∀ k' ∈ S, p k → p k' → k = k') :
    |∑ k ∈ S, if p k then f k else 0| = ∑ k ∈ S, if p k then |f k| else 0 := by
  by_cases hex : ∃ k0 ∈ S, p k0
  · obtain ⟨k0, hk0, hp0⟩ := hex
    rw [Finset.sum_eq_single k0 (fun b hb hne => if_neg (fun hpb => hne (hu b hb k0 hk0 hpb hp0)))
        (fun hn => absurd hk0 hn),
      Finset.sum_eq_single k0 (fun b hb hne => if_neg (fun hpb => hne (hu b hb k0 hk0 hpb hp0)))
        (fun hn => absurd hk0 hn)]
    simp [hp0]
  · have hn : ∀ k ∈ S, ¬ p k := fun k hk hp => hex ⟨k, hk, hp⟩
    rw [Finset.sum_eq_zero (fun k hk => if_neg (hn k hk)),
      Finset.sum_eq_zero (fun k hk => if_neg (hn k hk))]
    simp

end Sums

section Rounding
variable {M : FlModel}
open Fl

/-- the exact real matrix behind a storage: same pattern, the `.val`s of the stored values -/
def realOf (s : Sp (Fl M)) : Sp ℝ :=
  ⟨s.rows, s.cols, s.nonzero, s.val.map Fl.val, s.rowIndex, s.colStart⟩

@[simp] theorem realOf_cs (s : Sp (Fl M)) (j : Nat) : (realOf s).cs j = s.cs j := rfl
@[simp] theorem realOf_ri (s : Sp (Fl M)) (k : Nat) : (realOf s).ri k = s.ri k := rfl
@[simp] theorem realOf_vl (s : Sp (Fl M)) (k : Nat) : (realOf s).vl k = (s.vl k).val := by
  simp only [Sp.vl, realOf, Array.getElem?_map]
  cases s.val[k]? <;> simp

/-- the exact entry `a_ij` of the matrix the storage denotes (`Sp.entry` of `realOf s`): the stored
value at `(i, j)`, `0` if there is none -/
noncomputable def entryR (s : Sp (Fl M)) (i j : Nat) : ℝ := (realOf s).entry i j

theorem entryR_eq (s : Sp (Fl M)) (i j : Nat) :
    entryR s i j = ∑ k ∈ Finset.Ico (s.cs j) (s.cs (j + 1)), if s.ri k = i then (s.vl k).val else 0 := by
  simp only [entryR, Sp.entry, realOf_cs, realOf_ri, realOf_vl]

theorem entryR_mul (s : Sp (Fl M)) (i j : Nat) (c : ℝ) :
    entryR s i j * c
      = ∑ k ∈ Finset.Ico (s.cs j) (s.cs (j + 1)), if s.ri k = i then (s.vl k).val * c else 0 := by
  rw [entryR_eq, Finset.sum_mul]
  refine Finset.sum_congr rfl (fun k _ => ?_)
  split <;> simp

theorem abs_entryR_mul {s : Sp (Fl M)} (hnd : NoDup s) (i : Nat) {j : Nat} (hj : j < s.cols) (c : ℝ) :
    |entryR s i j * c|
      = ∑ k ∈ Finset.Ico (s.cs j) (s.cs (j + 1)), if s.ri k = i then |(s.vl k).val * c| else 0 := by
  rw [entryR_mul]
  apply abs_sum_unique
  intro k hk k' hk' e e'
  obtain ⟨a, b⟩ := Finset.mem_Ico.mp hk
  obtain ⟨c, d⟩ := Finset.mem_Ico.mp hk'
  exact hnd j hj k k' a b c d (by rw [e, e'])

theorem fold_terms_rounding {ι : Type} (is : List ι) (a b : ι → Fl M) :
    |((is.map (fun k => a k * b k)).foldl (· + ·) 0).val
        - (is.map (fun k => (a k).val * (b k).val)).sum|
      ≤ M.gam (is.length + 1) * (is.map (fun k => |(a k).val * (b k).val|)).sum :=
  (FlModel.Within.foldl_sum is (fun k => a k * b k) _ _ fun _ _ => (M.approx_fl _).within).1

/-- **`multiply`, slot form** (duplicates allowed): component `i` against the exact sum of the
products `val[k] x[col k]` over the slots aimed at row `i`; one rounding per product and
`rowCount s i` rounded additions. -/
theorem multiply_rounding_slots {s : Sp (Fl M)} (h : WF s) (x : Array (Fl M))
    (hx : x.size = s.cols) :
    ∃ y, multiply s x = .ok y ∧ y.size = s.rows ∧ ∀ i, i < s.rows →
      |(y.getD i 0).val
          - ∑ j ∈ Finset.range s.cols, ∑ k ∈ Finset.Ico (s.cs j) (s.cs (j + 1)),
              if s.ri k = i then (s.vl k).val * (x.getD j 0).val else 0|
        ≤ M.gam (rowCount s i + 1)
          * ∑ j ∈ Finset.range s.cols, ∑ k ∈ Finset.Ico (s.cs j) (s.cs (j + 1)),
              if s.ri k = i then |(s.vl k).val * (x.getD j 0).val| else 0 := by
  obtain ⟨y, h1, h2, h3⟩ := multiply_fold h x hx
  refine ⟨y, h1, h2, ?_⟩
  intro i hi
  rw [Array.getD_eq_getD_getElem?, h3 i hi]
  have := fold_terms_rounding (slotsTo s.ri s.nonzero i) s.vl (fun k => x.getD (s.colOf k) 0)
  rw [sum_map_slotsTo, sum_map_slotsTo,
    h.sum_slots_by_col (fun j k => if s.ri k = i then (s.vl k).val * (x.getD j 0).val else 0),
    h.sum_slots_by_col (fun j k => if s.ri k = i then |(s.vl k).val * (x.getD j 0).val| else 0)]
    at this
  exact this

theorem multiply_within {s : Sp (Fl M)} (h : WF s) (hnd : NoDup s) (x : Array (Fl M))
    (hx : x.size = s.cols) :
    ∃ y, multiply s x = .ok y ∧ y.size = s.rows ∧ ∀ i, i < s.rows →
      M.Within (rowCount s i + 1) (y.getD i 0).val
        (∑ j ∈ Finset.range s.cols, entryR s i j * (x.getD j 0).val)
        (∑ j ∈ Finset.range s.cols, |entryR s i j * (x.getD j 0).val|) := by
  obtain ⟨y, h1, h2, h3⟩ := multiply_rounding_slots h x hx
  refine ⟨y, h1, h2, fun i hi => ⟨?_, Finset.abs_sum_le_sum_abs _ _⟩⟩
  have := h3 i hi
  rw [← Finset.sum_congr rfl (fun j _ => entryR_mul s i j (x.getD j 0).val),
    ← Finset.sum_congr rfl (fun j hj =>
      abs_entryR_mul hnd i (Finset.mem_range.mp hj) (x.getD j 0).val)] at this
  exact this

/-- **C07F-1, `multiply`**: for well-formed duplicate-free storage and a conformable vector,
`|fl(A x)_i - Σ_j a_ij x_j| ≤ ((1+u)^(nᵢ+1) - 1) · Σ_j |a_ij x_j|` with `nᵢ = rowCount s i` the
number of stored entries of row `i`. -/
theorem multiply_rounding {s : Sp (Fl M)} (h : WF s) (hnd : NoDup s) (x : Array (Fl M))
    (hx : x.size = s.cols) :
    ∃ y, multiply s x = .ok y ∧ y.size = s.rows ∧ ∀ i, i < s.rows →
      |(y.getD i 0).val - ∑ j ∈ Finset.range s.cols, entryR s i j * (x.getD j 0).val|
        ≤ M.gam (rowCount s i + 1)
          * ∑ j ∈ Finset.range s.cols, |entryR s i j * (x.getD j 0).val| := by
  obtain ⟨y, h1, h2, h3⟩ := multiply_within h hnd x hx
  exact ⟨y, h1, h2, fun i hi => (h3 i hi).1⟩

/-- **`transpose_multiply`, slot form** (duplicates allowed): component `j` against the exact sum
over the slots of column `j`; one rounding per product, `colCount s j` rounded additions. -/
theorem transposeMultiply_rounding_slots {s : Sp (Fl M)} (h : WF s) (y : Array (Fl M))
    (hy : y.size = s.rows) :
    ∃ z, transposeMultiply s y = .ok z ∧ z.size = s.cols ∧ ∀ j, j < s.cols →
      |(z.getD j 0).val
          - ∑ k ∈ Finset.Ico (s.cs j) (s.cs (j + 1)), (s.vl k).val * (y.getD (s.ri k) 0).val|
        ≤ M.gam (colCount s j + 1)
          * ∑ k ∈ Finset.Ico (s.cs j) (s.cs (j + 1)), |(s.vl k).val * (y.getD (s.ri k) 0).val| := by
  obtain ⟨z, h1, h2, h3⟩ := transposeMultiply_fold h y hy
  refine ⟨z, h1, h2, ?_⟩
  intro j hj
  rw [Array.getD_eq_getD_getElem?, h3 j hj]
  have := fold_terms_rounding (List.range' (s.cs j) (s.cs (j + 1) - s.cs j)) s.vl
    (fun k => y.getD (s.ri k) 0)
  rw [sum_map_range', sum_map_range', Nat.add_sub_cancel' (h.mono j hj), List.length_range'] at this
  exact this

theorem transposeMultiply_within {s : Sp (Fl M)} (h : WF s) (hnd : NoDup s) (y : Array (Fl M))
    (hy : y.size = s.rows) :
    ∃ z, transposeMultiply s y = .ok z ∧ z.size = s.cols ∧ ∀ j, j < s.cols →
      M.Within (colCount s j + 1) (z.getD j 0).val
        (∑ i ∈ Finset.range s.rows, entryR s i j * (y.getD i 0).val)
        (∑ i ∈ Finset.range s.rows, |entryR s i j * (y.getD i 0).val|) := by
  obtain ⟨z, h1, h2, h3⟩ := transposeMultiply_rounding_slots h y hy
  refine ⟨z, h1, h2, fun j hj => ⟨?_, Finset.abs_sum_le_sum_abs _ _⟩⟩
  have := h3 j hj
  rw [h.sum_col_by_row hj (fun k i => (s.vl k).val * (y.getD i 0).val),
    h.sum_col_by_row hj (fun k i => |(s.vl k).val * (y.getD i 0).val|),
    ← Finset.sum_congr rfl (fun i _ => entryR_mul s i j (y.getD i 0).val),
    ← Finset.sum_congr rfl (fun i _ => abs_entryR_mul hnd i hj (y.getD i 0).val)] at this
  exact this

/-- **C07F-2, `transpose_multiply`**: for well-formed duplicate-free storage and a conformable
vector, `|fl(Aᵀ y)_j - Σ_i a_ij y_i| ≤ ((1+u)^(mⱼ+1) - 1) · Σ_i |a_ij y_i|` with
`mⱼ = colCount s j = col_start[j+1] - col_start[j]` the number of stored entries of column `j`. -/
theorem transposeMultiply_rounding {s : Sp (Fl M)} (h : WF s) (hnd : NoDup s) (y : Array (Fl M))
    (hy : y.size = s.rows) :
    ∃ z, transposeMultiply s y = .ok z ∧ z.size = s.cols ∧ ∀ j, j < s.cols →
      |(z.getD j 0).val - ∑ i ∈ Finset.range s.rows, entryR s i j * (y.getD i 0).val|
        ≤ M.gam (colCount s j + 1)
          * ∑ i ∈ Finset.range s.rows, |entryR s i j * (y.getD i 0).val| := by
  obtain ⟨z, h1, h2, h3⟩ := transposeMultiply_within h hnd y hy
  exact ⟨z, h1, h2, fun j hj => (h3 j hj).1⟩

/-- the classical form of `multiply_rounding`: `γ = (nᵢ+1) u / (1 - (nᵢ+1) u)` -/
theorem multiply_rounding_gamma {s : Sp (Fl M)} (h : WF s) (hnd : NoDup s) (x : Array (Fl M))
    (hx : x.size = s.cols) :
    ∃ y, multiply s x = .ok y ∧ y.size = s.rows ∧ ∀ i, i < s.rows →
      ((rowCount s i + 1 : ℕ) : ℝ) * M.u < 1 →
      |(y.getD i 0).val - ∑ j ∈ Finset.range s.cols, entryR s i j * (x.getD j 0).val|
        ≤ ((rowCount s i + 1 : ℕ) : ℝ) * M.u / (1 - ((rowCount s i + 1 : ℕ) : ℝ) * M.u)
          * ∑ j ∈ Finset.range s.cols, |entryR s i j * (x.getD j 0).val| := by
  obtain ⟨y, h1, h2, h3⟩ := multiply_within h hnd x hx
  exact ⟨y, h1, h2, fun i hi hu => (h3 i hi).gamma hu⟩

theorem transposeMultiply_rounding_gamma {s : Sp (Fl M)} (h : WF s) (hnd : NoDup s)
    (y : Array (Fl M)) (hy : y.size = s.rows) :
    ∃ z, transposeMultiply s y = .ok z ∧ z.size = s.cols ∧ ∀ j, j < s.cols →
      ((colCount s j + 1 : ℕ) : ℝ) * M.u < 1 →
      |(z.getD j 0).val - ∑ i ∈ Finset.range s.rows, entryR s i j * (y.getD i 0).val|
        ≤ ((colCount s j + 1 : ℕ) : ℝ) * M.u / (1 - ((colCount s j + 1 : ℕ) : ℝ) * M.u)
          * ∑ i ∈ Finset.range s.rows, |entryR s i j * (y.getD i 0).val| := by
  obtain ⟨z, h1, h2, h3⟩ := transposeMultiply_within h hnd y hy
  exact ⟨z, h1, h2, fun j hj hu => (h3 j hj).gamma hu⟩

/-- **C07F-3, `scale`**: the call succeeds, the pattern is unchanged, and every stored value is
the exact product rounded once: relative error `≤ u`. -/
theorem scale_rounding (s : Sp (Fl M)) (hv : s.val.size = s.nonzero) (a : Fl M) :
    ∃ s', scale s a = .ok s' ∧ s'.rows = s.rows ∧ s'.cols = s.cols ∧ s'.nonzero = s.nonzero ∧
      s'.rowIndex = s.rowIndex ∧ s'.colStart = s.colStart ∧ s'.val.size = s.nonzero ∧
      ∀ k, k < s.nonzero →
        |(s'.vl k).val - (s.vl k).val * a.val| ≤ M.u * |(s.vl k).val * a.val| := by
  refine ⟨_, scale_eq s hv a, rfl, rfl, rfl, rfl, rfl, by simpa using hv, ?_⟩
  intro k hk
  rw [vl_map s _ (hv ▸ hk)]
  exact Fl.mul_err _ _

/-- `scale` at the level of the denoted matrix (duplicate-free storage): every entry is the exact
product `a_ij · α` up to relative error `u` -/
theorem scale_rounding_entry {s : Sp (Fl M)} (h : WF s) (hnd : NoDup s) (a : Fl M) :
    ∃ s', scale s a = .ok s' ∧ WF s' ∧ NoDup s' ∧ ∀ i j, j < s.cols →
      |entryR s' i j - entryR s i j * a.val| ≤ M.u * |entryR s i j * a.val| := by
  refine ⟨_, scale_eq s h.valSize a, h.with_val _ (Array.size_map ..), hnd, ?_⟩
  intro i j hj
  rw [abs_entryR_mul hnd i hj, entryR_mul, entryR_eq]
  show |∑ k ∈ Finset.Ico (s.cs j) (s.cs (j + 1)),
        (if s.ri k = i then (Sp.vl { s with val := s.val.map (· * a) } k).val else 0)
      - ∑ k ∈ Finset.Ico (s.cs j) (s.cs (j + 1)), if s.ri k = i then (s.vl k).val * a.val else 0| ≤ _
  rw [← Finset.sum_sub_distrib, Finset.mul_sum]
  refine (Finset.abs_sum_le_sum_abs _ _).trans (Finset.sum_le_sum (fun k hk => ?_))
  rw [vl_map s _ (h.valSize ▸ h.slot_lt hj (Finset.mem_Ico.mp hk).2)]
  split
  · exact Fl.mul_err (s.vl k) a
  · rw [sub_zero, abs_zero, mul_zero]

/-- the exact bilinear form `yᵀ A x = Σ_ij y_i a_ij x_j` -/
noncomputable def bilin (s : Sp (Fl M)) (x y : Array (Fl M)) : ℝ :=
  ∑ i ∈ Finset.range s.rows, ∑ j ∈ Finset.range s.cols,
    (y.getD i 0).val * entryR s i j * (x.getD j 0).val
/-- `Σ_ij |y_i a_ij x_j|` -/
noncomputable def absBilin (s : Sp (Fl M)) (x y : Array (Fl M)) : ℝ :=
  ∑ i ∈ Finset.range s.rows, ∑ j ∈ Finset.range s.cols,
    |(y.getD i 0).val * entryR s i j * (x.getD j 0).val|

theorem absBilin_nonneg (s : Sp (Fl M)) (x y : Array (Fl M)) : 0 ≤ absBilin s x y :=
  Finset.sum_nonneg (fun _ _ => Finset.sum_nonneg (fun _ _ => abs_nonneg _))

/-- **`⟨y, A x⟩` computed** (`multiply`, then the model's `Vec.dot`) against the exact bilinear
form: constant `(1+u)^(rows+cols+2) - 1`. -/
theorem bilinear_rounding_left {s : Sp (Fl M)} (h : WF s) (hnd : NoDup s)
    (x y : Array (Fl M)) (hx : x.size = s.cols) (hy : y.size = s.rows) :
    ∃ u d, multiply s x = .ok u ∧ Vec.dot y u = .ok d ∧
      |d.val - bilin s x y| ≤ M.gam (s.rows + s.cols + 2) * absBilin s x y := by
  obtain ⟨u, hu1, hu2, hu3⟩ := multiply_within h hnd x hx
  refine ⟨u, _, hu1, C16.dot_eq_fold y u (by omega), ?_⟩
  have := (FlModel.Within.foldl_range y.size (fun i => y.getD i 0 * u.getD i 0) _ _ fun i hi =>
    (FlModel.Within.const_mul (y.getD i 0).val ((hu3 i (hy ▸ hi)).mono
      (Nat.succ_le_succ (rowCount_le_cols h hnd i)))).fl).1
  have e1 : ∀ i, (y.getD i 0).val * ∑ j ∈ Finset.range s.cols, entryR s i j * (x.getD j 0).val
      = ∑ j ∈ Finset.range s.cols, (y.getD i 0).val * entryR s i j * (x.getD j 0).val := fun i => by
    rw [Finset.mul_sum]
    exact Finset.sum_congr rfl fun j _ => (mul_assoc _ _ _).symm
  have e2 : ∀ i, |(y.getD i 0).val| * ∑ j ∈ Finset.range s.cols, |entryR s i j * (x.getD j 0).val|
      = ∑ j ∈ Finset.range s.cols, |(y.getD i 0).val * entryR s i j * (x.getD j 0).val| := fun i => by
    rw [Finset.mul_sum]
    exact Finset.sum_congr rfl fun j _ => by rw [← abs_mul, mul_assoc]
  simp only [hy, e1, e2] at this ⊢
  exact this

/-- **`⟨Aᵀ y, x⟩` computed** (`transpose_multiply`, then `Vec.dot`) against the exact bilinear
form: constant `(1+u)^(rows+cols+2) - 1`. -/
theorem bilinear_rounding_right {s : Sp (Fl M)} (h : WF s) (hnd : NoDup s)
    (x y : Array (Fl M)) (hx : x.size = s.cols) (hy : y.size = s.rows) :
    ∃ v d, transposeMultiply s y = .ok v ∧ Vec.dot v x = .ok d ∧
      |d.val - bilin s x y| ≤ M.gam (s.rows + s.cols + 2) * absBilin s x y := by
  obtain ⟨v, hv1, hv2, hv3⟩ := transposeMultiply_within h hnd y hy
  refine ⟨v, _, hv1, C16.dot_eq_fold v x (by omega), ?_⟩
  have := (FlModel.Within.foldl_range v.size (fun j => v.getD j 0 * x.getD j 0) _ _ fun j hj =>
    (FlModel.Within.mul_const (x.getD j 0).val ((hv3 j (hv2 ▸ hj)).mono
      (Nat.succ_le_succ (colCount_le_rows h hnd (hv2 ▸ hj))))).fl).1
  have e1 : ∀ j, (∑ i ∈ Finset.range s.rows, entryR s i j * (y.getD i 0).val) * (x.getD j 0).val
      = ∑ i ∈ Finset.range s.rows, (y.getD i 0).val * entryR s i j * (x.getD j 0).val := fun j => by
    rw [Finset.sum_mul]
    exact Finset.sum_congr rfl fun i _ => by ring
  have e2 : ∀ j, (∑ i ∈ Finset.range s.rows, |entryR s i j * (y.getD i 0).val|) * |(x.getD j 0).val|
      = ∑ i ∈ Finset.range s.rows, |(y.getD i 0).val * entryR s i j * (x.getD j 0).val| := fun j => by
    rw [Finset.sum_mul]
    exact Finset.sum_congr rfl fun i _ => by rw [← abs_mul]; exact congrArg _ (by ring)
  simp only [e1, e2] at this
  rw [bilin, absBilin, Finset.sum_comm, Finset.sum_comm (f := fun i j => |_|),
    show s.rows + s.cols + 2 = s.cols + (s.rows + 1 + 1) by omega, ← hv2]
  exact this

/-- **C07F-4, the adjoint identity up to rounding**: the two computed values of `yᵀ A x`,
`⟨y, A x⟩` (`multiply` then `Vec.dot`) and `⟨Aᵀ y, x⟩` (`transpose_multiply` then `Vec.dot`),
differ by at most `2 ((1+u)^(rows+cols+2) - 1) · Σ_ij |y_i a_ij x_j|`. -/
theorem adjoint_rounding {s : Sp (Fl M)} (h : WF s) (hnd : NoDup s) (x y : Array (Fl M))
    (hx : x.size = s.cols) (hy : y.size = s.rows) :
    ∃ u v d1 d2, multiply s x = .ok u ∧ transposeMultiply s y = .ok v ∧
      Vec.dot y u = .ok d1 ∧ Vec.dot v x = .ok d2 ∧
      |d1.val - d2.val| ≤ 2 * M.gam (s.rows + s.cols + 2) * absBilin s x y := by
  obtain ⟨u, d1, a1, a2, a3⟩ := bilinear_rounding_left h hnd x y hx hy
  obtain ⟨v, d2, b1, b2, b3⟩ := bilinear_rounding_right h hnd x y hx hy
  refine ⟨u, v, d1, d2, a1, b1, a2, b2, ?_⟩
  rw [← sub_sub_sub_cancel_right d1.val d2.val (bilin s x y)]
  exact ((abs_sub _ _).trans (add_le_add a3 b3)).trans_eq (by ring)

end Rounding

section Examples
open Fl

/-- the 2×3 matrix `[[1,0,4],[2,3,0]]` in any rounded-reals model -/
def demoF (M : FlModel) : Sp (Fl M) :=
  ⟨2, 3, 4, #[⟨1⟩, ⟨2⟩, ⟨3⟩, ⟨4⟩], #[0, 1, 1, 0], #[0, 2, 3, 4]⟩

/-- the hypotheses `WF`, `NoDup` are satisfiable (in every model) -/
theorem demoF_wf (M : FlModel) : WF (demoF M) ∧ NoDup (demoF M) :=
  ⟨demo_wf.1.with_val _ rfl, demo_wf.2⟩  -- the index arrays are those of `demo`

/-- row 0 holds two entries, column 0 two: the constants of `multiply_rounding` /
`transposeMultiply_rounding` there are `gam 3` -/
example (M : FlModel) : rowCount (demoF M) 0 = 2 ∧ colCount (demoF M) 0 = 2 := by
  constructor <;> rfl

/-- the theorems apply to `demoF` in the binary64-significand model -/
example (x : Array (Fl FlModel.binary64)) (hx : x.size = 3) :
    ∃ y, multiply (demoF FlModel.binary64) x = .ok y ∧ y.size = 2 ∧ ∀ i, i < 2 →
      |(y.getD i 0).val - ∑ j ∈ Finset.range 3, entryR (demoF FlModel.binary64) i j * (x.getD j 0).val|
        ≤ FlModel.binary64.gam (rowCount (demoF FlModel.binary64) i + 1)
          * ∑ j ∈ Finset.range 3, |entryR (demoF FlModel.binary64) i j * (x.getD j 0).val| :=
  multiply_rounding (demoF_wf _).1 (demoF_wf _).2 x hx

/-- exact arithmetic is a model; there the bound collapses to equality with `Σ_j a_ij x_j` -/
example (s : Sp (Fl FlModel.exact)) (h : WF s) (hnd : NoDup s) (x : Array (Fl FlModel.exact))
    (hx : x.size = s.cols) :
    ∃ y, multiply s x = .ok y ∧ ∀ i, i < s.rows →
      (y.getD i 0).val = ∑ j ∈ Finset.range s.cols, entryR s i j * (x.getD j 0).val := by
  obtain ⟨y, h1, _, h3⟩ := multiply_rounding h hnd x hx
  refine ⟨y, h1, fun i hi => ?_⟩
  have := h3 i hi
  exact FlModel.eq_of_abs_sub_le_exact this

/-- the constant `rowCount + 1` cannot be lowered in the abstract standard model: with
`fl x = (1 + 2⁻⁵³) x` the 1×1 product `[a]·[1]` is computed as `(1+u)² a` (one rounded product, one
rounded addition `0 + ·`), so the bound of `multiply_rounding` (`gam 2 · |a|`) is attained. -/
example (a : ℝ) :
    let M := FlModel.scale (2 ^ (-53 : ℤ)) (by positivity)
    let s : Sp (Fl M) := ⟨1, 1, 1, #[⟨a⟩], #[0], #[0, 1]⟩
    let x : Array (Fl M) := #[1]
    ∃ y, multiply s x = .ok y ∧
      |(y.getD 0 0).val - ∑ j ∈ Finset.range s.cols, entryR s 0 j * (x.getD j 0).val|
        = M.gam (rowCount s 0 + 1) * ∑ j ∈ Finset.range s.cols, |entryR s 0 j * (x.getD j 0).val| := by
  intro M s x
  have hy : multiply s x = .ok #[(0 : Fl M) + (⟨a⟩ : Fl M) * 1] := rfl
  refine ⟨_, hy, ?_⟩
  have hv : ((#[(0 : Fl M) + (⟨a⟩ : Fl M) * 1] : Array (Fl M)).getD 0 0).val
      = (1 + M.u) * (0 + (1 + M.u) * (a * 1)) := rfl
  have he : entryR s 0 0 = a := by
    rw [entryR_eq]
    have : s.cs 0 = 0 ∧ s.cs 1 = 1 := ⟨rfl, rfl⟩
    rw [this.1, this.2, ← Finset.range_eq_Ico, Finset.sum_range_one]
    exact if_pos rfl
  have hc : rowCount s 0 = 1 := rfl
  rw [hv, hc]
  simp only [s, Finset.sum_range_one]
  rw [he]
  have hx0 : (x.getD 0 0).val = 1 := rfl
  rw [hx0, show (1 + M.u) * (0 + (1 + M.u) * (a * 1)) = (1 + M.u) ^ 2 * (a * 1) by ring,
    M.abs_pow_mul_sub_self]

end Examples

end Ohsl.Props.C07
