/-
  Property C15 (part M) — the monotonicity theorems of C15F are JOINTLY non-vacuous for a model that
  really rounds.

  `C15F.linspace_monotone_fl`, `linspace_antitone_fl`, `powspace_monotone_fl` assume `Monotone M.fl`
  AND `ExactCasts M n`.  In C15F the first is exhibited only for `FlModel.scale u` (no exact casts)
  and the second only for `FlModel.roundBits p`, `FlModel.exact`, `bump` (`bump` is not monotone).
  Here both are proved for the SAME model with `u > 0`, namely for EVERY model whose `fl` is
  `flRound r p` (Ohsl/Lemmas/GridRound.lean): round to nearest, any tie rule `r`, `p + 1` significant
  bits, unbounded exponent, `u = 2^(-p-1)`.  Two such models are in the library:

    `FlModel.roundBits p`  — Mathlib's `round`, ties upwards; `p = 52` is `FlModel.binary64`, the
    significand width and unit roundoff `2⁻⁵³` of IEEE binary64 (without exponent limits);
    `FlModel.rne p`        — ties to even; `p = 52` is `FlModel.ieee64` (Ohsl/Lemmas/RNE.lean).

  The end results: `linspace_monotone_flRound`, `linspace_antitone_flRound`, `powspace_monotone_flRound`
  (the C15F theorems with BOTH hypotheses discharged), their instances at `binary64` and `ieee64`, and
  `exactCasts_roundBits_le` / `not_exactCasts_roundBits`: the exact range of the casts.

  As everywhere in the class-F files the transfer to the Rust `f64` code rests on the assumption
  stated in Rounding.lean; nothing here is a statement about Lean's `Float`.
-/
import Ohsl.Props.C15F
import Ohsl.Lemmas.RNE
import Mathlib.Algebra.Order.Round
import Mathlib.Data.Int.Log
import Mathlib.Tactic.NormNum
namespace Ohsl.Props.C15
open Ohsl Ohsl.Vec

section Rounding
open Fl

/-- the unit roundoff `2^(-p-1)` is positive: the model really rounds (see `roundBits_tie`) -/
theorem roundBits_u_pos (p : ℕ) : 0 < (FlModel.roundBits p).u := zpow_pos two_pos _

/-- **round-to-nearest with `p + 1` significant bits is monotone** (`flRound_monotone`: true of
every tie rule) -/
theorem roundBits_monotone (p : ℕ) : Monotone (FlModel.roundBits p).fl :=
  flRound_monotone nearest_round p

theorem roundBits_rep_zpow (p : ℕ) (e : ℤ) : (FlModel.roundBits p).Rep ((2 : ℝ) ^ e) :=
  flRound_zpow nearest_round p e

end Rounding

section Rounding
open Fl
attribute [local instance] C03.flTransc

theorem exactCasts_of_flRound {M : FlModel} {r : ℝ → ℤ} (hr : Nearest r) {p : ℕ}
    (hM : M.fl = flRound r p) {n : Nat} (hn : 1 ≤ n) (h : n ≤ 2 ^ (p + 1)) : ExactCasts M n := by
  apply exactCasts_flTransc _ hn
  intro k hk
  have := flRound_int hr p (k : ℤ) (by rw [Int.abs_natCast]; exact_mod_cast hk.trans h)
  rwa [Int.cast_natCast, ← hM] at this

/-- the casts of `linspace(a, b, n)` / `powspace` are exact in `roundBits p` for every
`1 ≤ n ≤ 2^(p+1)` — binary64: `n ≤ 2⁵³`, the exact range of `usize as f64`
(`C15F.exactCasts_roundBits` has the strict bound). -/
theorem exactCasts_roundBits_le (p : Nat) {n : Nat} (hn : 1 ≤ n) (h : n ≤ 2 ^ (p + 1)) :
    ExactCasts (FlModel.roundBits p) n :=
  exactCasts_of_flRound nearest_round rfl hn h

/-- … and `2^(p+1)` is the last such `n`: the cast of `2^(p+1) + 1` is not exact -/
theorem not_exactCasts_roundBits (p : Nat) : ¬ ExactCasts (FlModel.roundBits p) (2 ^ (p + 1) + 1) := by
  intro hc
  have h : (FlModel.roundBits p).fl ((2 ^ (p + 1) + 1 : ℕ) : ℝ) = ((2 ^ (p + 1) + 1 : ℕ) : ℝ) :=
    hc.1 (2 ^ (p + 1) + 1) le_rfl
  rw [Nat.cast_add, Nat.cast_pow, Nat.cast_ofNat, Nat.cast_one, roundBits_tie] at h
  exact absurd (add_left_cancel h) (by norm_num)

/-- **`linspace` is weakly increasing in every genuine round-to-nearest format.**  In a model whose
`fl` is `flRound r p` (`p + 1` significant bits, any tie rule `r`, casts by `C03.flTransc`), for every
`2 ≤ n ≤ 2^(p+1)` and ALL end points `a ≤ b`, `linspace(a, b, n)` succeeds and its `n` computed nodes
are non-decreasing: `linspace_monotone_fl` with `Monotone fl` (`flRound_monotone`) and `ExactCasts`
(`exactCasts_of_flRound`) both discharged. -/
theorem linspace_monotone_flRound {M : FlModel} {r : ℝ → ℤ} (hr : Nearest r) {p : ℕ}
    (hM : M.fl = flRound r p) {n : Nat} (hn : 2 ≤ n) (h : n ≤ 2 ^ (p + 1))
    (a b : Fl M) (hab : a.val ≤ b.val) :
    ∃ v, Vec.linspace a b n = .ok v ∧ v.size = n ∧
      ∀ i j, i ≤ j → j < n → (v.getD i 0).val ≤ (v.getD j 0).val :=
  linspace_monotone_fl (hM ▸ flRound_monotone hr p)
    (exactCasts_of_flRound hr hM (Nat.le_of_succ_le hn) h) hn a b hab

theorem linspace_antitone_flRound {M : FlModel} {r : ℝ → ℤ} (hr : Nearest r) {p : ℕ}
    (hM : M.fl = flRound r p) {n : Nat} (hn : 2 ≤ n) (h : n ≤ 2 ^ (p + 1))
    (a b : Fl M) (hab : b.val ≤ a.val) :
    ∃ v, Vec.linspace a b n = .ok v ∧ v.size = n ∧
      ∀ i j, i ≤ j → j < n → (v.getD j 0).val ≤ (v.getD i 0).val :=
  linspace_antitone_fl (hM ▸ flRound_monotone hr p)
    (exactCasts_of_flRound hr hM (Nat.le_of_succ_le hn) h) hn a b hab

/-- **`powspace` is weakly increasing in the same formats** when `powf` is correctly rounded
(`C03.flTransc`: `powf t q = fl (t ^ q)`, `Real.rpow` rounded once) and the exponent is `≥ 0`:
`powspace_monotone_fl` with its three hypotheses (`Monotone fl`, monotone `powf(·, q)` on `[0, ∞)`
by `flTransc_powf_mono`, `ExactCasts`) discharged. -/
theorem powspace_monotone_flRound {M : FlModel} {r : ℝ → ℤ} (hr : Nearest r) {p : ℕ}
    (hM : M.fl = flRound r p) (q : Fl M) (hq : 0 ≤ q.val) {n : Nat} (hn : 2 ≤ n)
    (h : n ≤ 2 ^ (p + 1)) (a b : Fl M) (hab : a.val ≤ b.val) :
    ∃ v, Vec.powspace a b n q = .ok v ∧ v.size = n ∧
      ∀ i j, i ≤ j → j < n → (v.getD i 0).val ≤ (v.getD j 0).val :=
  powspace_monotone_fl (hM ▸ flRound_monotone hr p) q
    (flTransc_powf_mono _ (hM ▸ flRound_monotone hr p) q hq)
    (exactCasts_of_flRound hr hM (Nat.le_of_succ_le hn) h) hn a b hab

/-- `linspace_antitone_flRound` at `FlModel.roundBits p` -/
theorem linspace_antitone_instance (p : Nat) {n : Nat} (hn : 2 ≤ n) (h : n ≤ 2 ^ (p + 1))
    (a b : Fl (FlModel.roundBits p)) (hab : b.val ≤ a.val) :
    ∃ v, Vec.linspace a b n = .ok v ∧ v.size = n ∧
      ∀ i j, i ≤ j → j < n → (v.getD j 0).val ≤ (v.getD i 0).val :=
  linspace_antitone_flRound nearest_round rfl hn h a b hab

/-- binary64's significand (`FlModel.binary64 = roundBits 52`, `u = 2⁻⁵³`, `binary64_u`):
`linspace(a, b, n)` is weakly increasing for every `2 ≤ n ≤ 2⁵³` and all `a ≤ b` -/
theorem linspace_monotone_binary64 {n : Nat} (hn : 2 ≤ n) (h : n ≤ 2 ^ 53)
    (a b : Fl FlModel.binary64) (hab : a.val ≤ b.val) :
    FlModel.binary64.u = 2 ^ (-53 : ℤ) ∧ Monotone FlModel.binary64.fl ∧
      ExactCasts FlModel.binary64 n ∧
      ∃ v, Vec.linspace a b n = .ok v ∧ v.size = n ∧
        ∀ i j, i ≤ j → j < n → (v.getD i 0).val ≤ (v.getD j 0).val :=
  ⟨FlModel.binary64_u, roundBits_monotone 52, exactCasts_roundBits_le 52 (Nat.le_of_succ_le hn) h,
    linspace_monotone_flRound nearest_round (p := 52) rfl hn h a b hab⟩

/-- binary64's significand: `powspace(a, b, n, q)` with `q ≥ 0` is weakly increasing for every
`2 ≤ n ≤ 2⁵³` and all `a ≤ b` -/
theorem powspace_monotone_binary64 (q : Fl FlModel.binary64) (hq : 0 ≤ q.val) {n : Nat}
    (hn : 2 ≤ n) (h : n ≤ 2 ^ 53) (a b : Fl FlModel.binary64) (hab : a.val ≤ b.val) :
    ∃ v, Vec.powspace a b n q = .ok v ∧ v.size = n ∧
      ∀ i j, i ≤ j → j < n → (v.getD i 0).val ≤ (v.getD j 0).val :=
  powspace_monotone_flRound nearest_round (p := 52) rfl q hq hn h a b hab

/-- the same in IEEE 754 binary64 rounding (`FlModel.ieee64`, ties to even): the tie rule plays no
part -/
theorem linspace_monotone_ieee64 {n : Nat} (hn : 2 ≤ n) (h : n ≤ 2 ^ 53)
    (a b : Fl FlModel.ieee64) (hab : a.val ≤ b.val) :
    ∃ v, Vec.linspace a b n = .ok v ∧ v.size = n ∧
      ∀ i j, i ≤ j → j < n → (v.getD i 0).val ≤ (v.getD j 0).val :=
  linspace_monotone_flRound roundHalfEven_err (p := 52) (rne_fun_eq 52) hn h a b hab

theorem powspace_monotone_ieee64 (q : Fl FlModel.ieee64) (hq : 0 ≤ q.val) {n : Nat}
    (hn : 2 ≤ n) (h : n ≤ 2 ^ 53) (a b : Fl FlModel.ieee64) (hab : a.val ≤ b.val) :
    ∃ v, Vec.powspace a b n q = .ok v ∧ v.size = n ∧
      ∀ i j, i ≤ j → j < n → (v.getD i 0).val ≤ (v.getD j 0).val :=
  powspace_monotone_flRound roundHalfEven_err (p := 52) (rne_fun_eq 52) q hq hn h a b hab

end Rounding

section Examples
open Fl
attribute [local instance] C03.flTransc

/-- the two hypotheses of `linspace_monotone_fl` hold TOGETHER in a model with `u = 2⁻⁵³ > 0` that
is not exact -/
example : 0 < FlModel.binary64.u ∧ FlModel.binary64.u = 2 ^ (-53 : ℤ) ∧
    Monotone FlModel.binary64.fl ∧ ExactCasts FlModel.binary64 11 ∧
    FlModel.binary64.fl (2 ^ 53 + 1) = 2 ^ 53 + 2 :=
  ⟨roundBits_u_pos 52, FlModel.binary64_u, roundBits_monotone 52,
    exactCasts_roundBits_le 52 (by decide) (by decide), roundBits_tie 52⟩

example : ∃ v, Vec.linspace (⟨0⟩ : Fl FlModel.binary64) ⟨1⟩ 11 = .ok v ∧ v.size = 11 ∧
    ∀ i j, i ≤ j → j < 11 → (v.getD i 0).val ≤ (v.getD j 0).val :=
  (linspace_monotone_binary64 (by decide) (by decide) ⟨0⟩ ⟨1⟩ zero_le_one).2.2.2

example : ∃ v, Vec.linspace (⟨1⟩ : Fl FlModel.binary64) ⟨0⟩ 11 = .ok v ∧ v.size = 11 ∧
    ∀ i j, i ≤ j → j < 11 → (v.getD j 0).val ≤ (v.getD i 0).val :=
  linspace_antitone_instance 52 (by decide) (by decide) ⟨1⟩ ⟨0⟩ zero_le_one

example : ∃ v, Vec.powspace (⟨0⟩ : Fl FlModel.binary64) ⟨1⟩ 11 ⟨2⟩ = .ok v ∧ v.size = 11 ∧
    ∀ i j, i ≤ j → j < 11 → (v.getD i 0).val ≤ (v.getD j 0).val :=
  powspace_monotone_binary64 ⟨2⟩ zero_le_two (by decide) (by decide) ⟨0⟩ ⟨1⟩ zero_le_one

end Examples

end Ohsl.Props.C15
