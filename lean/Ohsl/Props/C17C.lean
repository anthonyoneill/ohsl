/-
  Property C17 (continued) — the strong characterisations of the scalar iterations and the panic
  branch of the system iteration.

  A. SCALAR iterations, class (S) (any scalar type, arbitrary arithmetic, every user function), in
     terms of the iterate sequence `x_0 = guess`, `x_{k+1} = step x_k` (`scalarIter`, `cxIter`):
     which iterate a success returns (`scalar_success_char_strong`, `cx_success_char_strong`),
     which a failure (`scalar_failure_carries_last`, `cx_failure_carries_last`), the evaluation
     points in order (`scalar_bounded_exact`, `cx_bounded_exact`).
  B. SYSTEM iteration, the panic branch (`solveSys … = .error _`): when the run panics, in terms
     of the run (`sys_panics_iff_struct` (S): a chain of full steps, then an iteration that fails
     in one of its four fallible operations) and in terms of the data (`StepPanics`, a SINGULAR
     Jacobian among the causes: `stepFails_iff_gen` / `sys_panics_iff_gen` (E: any field with
     `Alg.PivotLaws`, any norm that panics exactly on the empty vector), `sys_panics_iff` (E),
     `sys_panics_iff_fd` (E), `sys_fd_empty_guess_panics`); the evaluations made before a panic
     (`sys_evals_before_panic` (S), `sys_evals_before_panic_fd` (S): the model discards the trace of
     a panicking call, so the count is stated through the completed iterations plus the calls of
     the panicking iteration).
  C. An exact root as guess with a singular Jacobian there: the run panics
     (`newton_sys_fixed_point_singular_genK` (E), `newton_sys_fixed_point_singular`,
     `newton_sys_fixed_point_singular_fd`).
-/
import Ohsl.Props.C17A
import Ohsl.Props.C01X
import Ohsl.Props.C18E
import Ohsl.Props.C18J
import Ohsl.Lemmas.C17C
import Ohsl.Lemmas.C17X
import Mathlib.Tactic.Push
set_option linter.style.haveILetI false
namespace Ohsl.Props.C17
open Ohsl Ohsl.Newton Ohsl.Jac Ohsl.Mat

section Scalar
variable {K : Type} [Add K] [Sub K] [Mul K] [Neg K] [Div K] [Zero K] [One K] [BEq K] [ScalarExt K]
  [Transc K]

/-- **strong success characterisation (real scalar method), class (S)**: if the run reports
    `Ok(x)` then for some `k < maxIter`, with `c = x_k` THE `k`-th iterate of this run,
    `x = x_{k+1} = c − f c / ((f (c + δ) − f (c − δ)) / (2 δ))`, the step from `c` passed the test
    `|dx| <= tol`, the steps from `x_0 … x_{k-1}` did not, and `f` was evaluated exactly at
    `x_j + δ, x_j − δ, x_j`, `j = 0 … k`, in this order (`3 (k + 1)` evaluations). -/
theorem scalar_success_char_strong (f : K → K) (tol delta : K) (n : Nat) (x0 : K) (tr : List K)
    (hok : (solveScalar f tol delta n x0 tr).1.ok = true) :
    ∃ k, k < n ∧
      (solveScalar f tol delta n x0 tr).1.x = scalarIter f delta x0 (k + 1) ∧
      (let c := scalarIter f delta x0 k
       (solveScalar f tol delta n x0 tr).1.x
          = c - f c / ((f (c + delta) - f (c - delta)) / ((1 + 1) * delta)) ∧
       Transc.le (Transc.fabs (f c / ((f (c + delta) - f (c - delta)) / ((1 + 1) * delta)))) tol
          = true) ∧
      (∀ j, j < k → Transc.le (Transc.fabs (scalarDx f delta (scalarIter f delta x0 j))) tol = false) ∧
      (solveScalar f tol delta n x0 tr).2
        = tr ++ (List.range (k + 1)).flatMap (fun j => scalarPts delta (scalarIter f delta x0 j)) := by
  rw [solveScalar_eq_loop] at hok ⊢
  obtain ⟨k, hk, e1, e2, e3, e4⟩ :=
    (NewtonGen.loop_char (scalarStep f delta) (scalarTest f tol delta) (scalarPts delta) n x0 tr).1 hok
  exact ⟨k, hk, e1, ⟨e1, e2⟩, e3, e4⟩

/-- **failure carries the last iterate (real scalar method), class (S)**: if the run reports
    `Err(x)` then `x = x_maxIter`, none of the `maxIter` steps passed the test, and `f` was
    evaluated exactly at `x_j + δ, x_j − δ, x_j`, `j < maxIter` (`3 · maxIter` evaluations). -/
theorem scalar_failure_carries_last (f : K → K) (tol delta : K) (n : Nat) (x0 : K) (tr : List K)
    (hok : (solveScalar f tol delta n x0 tr).1.ok = false) :
    (solveScalar f tol delta n x0 tr).1.x = scalarIter f delta x0 n ∧
    (∀ j, j < n → Transc.le (Transc.fabs (scalarDx f delta (scalarIter f delta x0 j))) tol = false) ∧
    (solveScalar f tol delta n x0 tr).2
      = tr ++ (List.range n).flatMap (fun j => scalarPts delta (scalarIter f delta x0 j)) := by
  rw [solveScalar_eq_loop] at hok ⊢
  exact (NewtonGen.loop_char (scalarStep f delta) (scalarTest f tol delta) (scalarPts delta) n x0 tr).2 hok

/-- **iteration and evaluation bound with the evaluation points (real scalar method)**: every run
    makes `k ≤ maxIter` iterations (`k = maxIter` on failure, `k ≥ 1` on success), evaluates `f`
    exactly three times per iteration, at `x_j + δ, x_j − δ, x_j`, and returns `x_k`. -/
theorem scalar_bounded_exact (f : K → K) (tol delta : K) (n : Nat) (x0 : K) (tr : List K) :
    ∃ k, k ≤ n ∧
      (solveScalar f tol delta n x0 tr).2
        = tr ++ (List.range k).flatMap (fun j => scalarPts delta (scalarIter f delta x0 j)) ∧
      (solveScalar f tol delta n x0 tr).2.length = tr.length + 3 * k ∧
      (solveScalar f tol delta n x0 tr).1.x = scalarIter f delta x0 k ∧
      ((solveScalar f tol delta n x0 tr).1.ok = false → k = n) ∧
      ((solveScalar f tol delta n x0 tr).1.ok = true → 1 ≤ k) := by
  rw [solveScalar_eq_loop]
  exact NewtonGen.loop_bounded (scalarStep f delta) (scalarTest f tol delta) (scalarPts delta) 3
    (fun _ => rfl) n x0 tr

/-- **strong success characterisation (complex method), class (S)**: `Ok(x)` ⇒ for some
    `k < maxIter`, with `c = x_k` THE `k`-th iterate of this run, `x = x_{k+1} = c − f c / f'_δ(c)`,
    the step from `c` passed `dx.abs() <= tol`, no earlier step did, and `f` was evaluated exactly
    at `x_j + δ, x_j − δ, x_j`, `j = 0 … k`, in this order. -/
theorem cx_success_char_strong (f : Cx K → Cx K) (tol delta : K) (n : Nat) (x0 : Cx K)
    (tr : List (Cx K)) (hok : (solveCx f tol delta n x0 tr).1.ok = true) :
    ∃ k, k < n ∧
      (solveCx f tol delta n x0 tr).1.x = cxIter f delta x0 (k + 1) ∧
      (let c := cxIter f delta x0 k
       (solveCx f tol delta n x0 tr).1.x
          = c - Cx.divT (f c) (Cx.divRT (f (c + ⟨delta, 0⟩) - f (c - ⟨delta, 0⟩)) ((1 + 1) * delta)) ∧
       Transc.le (Cx.abs (Cx.divT (f c)
          (Cx.divRT (f (c + ⟨delta, 0⟩) - f (c - ⟨delta, 0⟩)) ((1 + 1) * delta)))) tol = true) ∧
      (∀ j, j < k → Transc.le (Cx.abs (cxDx f delta (cxIter f delta x0 j))) tol = false) ∧
      (solveCx f tol delta n x0 tr).2
        = tr ++ (List.range (k + 1)).flatMap (fun j => cxPts delta (cxIter f delta x0 j)) := by
  rw [solveCx_eq_loop] at hok ⊢
  obtain ⟨k, hk, e1, e2, e3, e4⟩ :=
    (NewtonGen.loop_char (cxStep f delta) (cxTest f tol delta) (cxPts delta) n x0 tr).1 hok
  exact ⟨k, hk, e1, ⟨e1, e2⟩, e3, e4⟩

/-- **failure carries the last iterate (complex method), class (S)**: `Err(x)` ⇒ `x = x_maxIter`
    (the result of exactly `maxIter` Newton updates from the guess), none of the steps passed the
    test, `3 · maxIter` evaluations at `x_j + δ, x_j − δ, x_j`. -/
theorem cx_failure_carries_last (f : Cx K → Cx K) (tol delta : K) (n : Nat) (x0 : Cx K)
    (tr : List (Cx K)) (hok : (solveCx f tol delta n x0 tr).1.ok = false) :
    (solveCx f tol delta n x0 tr).1.x = cxIter f delta x0 n ∧
    (∀ j, j < n → Transc.le (Cx.abs (cxDx f delta (cxIter f delta x0 j))) tol = false) ∧
    (solveCx f tol delta n x0 tr).2
      = tr ++ (List.range n).flatMap (fun j => cxPts delta (cxIter f delta x0 j)) := by
  rw [solveCx_eq_loop] at hok ⊢
  exact (NewtonGen.loop_char (cxStep f delta) (cxTest f tol delta) (cxPts delta) n x0 tr).2 hok

/-- **iteration and evaluation bound with the evaluation points (complex method)**: `k ≤ maxIter`
    iterations (`k = maxIter` on failure, `k ≥ 1` on success), exactly three evaluations of `f` per
    iteration — at `x_j + δ`, `x_j − δ`, `x_j` — and the value carried is `x_k`.
    (`cx_bounded` in C17.lean is the count alone.) -/
theorem cx_bounded_exact (f : Cx K → Cx K) (tol delta : K) (n : Nat) (x0 : Cx K) (tr : List (Cx K)) :
    ∃ k, k ≤ n ∧
      (solveCx f tol delta n x0 tr).2
        = tr ++ (List.range k).flatMap (fun j => cxPts delta (cxIter f delta x0 j)) ∧
      (solveCx f tol delta n x0 tr).2.length = tr.length + 3 * k ∧
      (solveCx f tol delta n x0 tr).1.x = cxIter f delta x0 k ∧
      ((solveCx f tol delta n x0 tr).1.ok = false → k = n) ∧
      ((solveCx f tol delta n x0 tr).1.ok = true → 1 ≤ k) := by
  rw [solveCx_eq_loop]
  exact NewtonGen.loop_bounded (cxStep f delta) (cxTest f tol delta) (cxPts delta) 3
    (fun _ => rfl) n x0 tr

end Scalar

section SysPanic
variable {E : Type} [Add E] [Sub E] [Mul E] [Neg E] [Zero E] [One E] [BEq E] [ScalarExt E]

set_option linter.unusedSectionVars false in
/-- **the panic branch, class (S)**: the run ends in a panic of class `e` IF AND ONLY IF after
    `k < maxIter` full Newton steps, none of which met the tolerance, the next iteration — at the
    point `c` reached — fails with `e` in one of its four fallible operations (`StepErr`). -/
theorem sys_panics_iff_struct {R : Type} (f : Array E → Array E)
    (jacF : Array E → Res (Mat E × List (Array E))) (normInf : Array E → Res R) (leTol : R → Bool)
    (e : Err) :
    ∀ (n : Nat) (cur : Array E) (tr : List (Array E)),
      solveSys f jacF normInf leTol n cur tr = .error e ↔
        ∃ k c, k < n ∧ Chain f jacF normInf leTol k cur c ∧ StepErr f jacF normInf c e
  | n, cur, tr => by
    constructor
    · intro h
      obtain ⟨k, c, hc, ⟨_, _, e'⟩ | ⟨_, _, _, _, e'⟩ | ⟨hk, _, hs, e'⟩⟩ :=
        sys_cases f jacF normInf leTol n cur tr <;> rw [e'] at h <;> cases h
      exact ⟨k, c, hk, hc, hs⟩
    · rintro ⟨k, c, hk, hc, hs⟩
      obtain ⟨m, rfl⟩ := Nat.exists_eq_add_of_lt hk
      obtain ⟨_, tr', _, e2, _⟩ := sys_chain_run f jacF normInf leTol k cur c tr hc
      rw [Nat.add_assoc, e2 (m + 1)]
      exact sys_step_error f jacF normInf leTol m c tr' hs

/-- **evaluations before a panic, class (S)**.  The model discards the trace of a panicking call,
    so the evaluations made INSIDE a Jacobian call that itself panics are not part of this
    statement; for the finite-difference Jacobian they are counted in `sys_evals_before_panic_fd`
    (through `C18.jacobian_panic_evals`). -/
theorem sys_evals_before_panic {R : Type} (f : Array E → Array E)
    (jacF : Array E → Res (Mat E × List (Array E)))
    (normInf : Array E → Res R) (leTol : R → Bool) (d L : Nat)
    (hL : ∀ x J jtr, x.size = d → jacF x = .ok (J, jtr) → jtr.length = L)
    (n : Nat) (cur : Array E) (tr : List (Array E)) (e : Err) (hd : cur.size = d)
    (h : solveSys f jacF normInf leTol n cur tr = .error e) :
    ∃ k c tr', k < n ∧ c.size = d ∧
      solveSys f jacF normInf leTol k cur tr = .ok (⟨false, c⟩, tr') ∧
      tr'.length = tr.length + k * (1 + L) ∧
      StepErr f jacF normInf c e ∧
      (∀ m t, solveSys f jacF normInf leTol (m + 1) c t = .error e) ∧
      (tr' ++ [c]).length ≤ tr.length + n * (1 + L) ∧
      (∀ J jtr, jacF c = .ok (J, jtr) → (tr' ++ [c] ++ jtr).length ≤ tr.length + n * (1 + L)) := by
  obtain ⟨k, c, hk, hc, hs⟩ := (sys_panics_iff_struct f jacF normInf leTol e n cur tr).1 h
  obtain ⟨hsz, tr', e1, _, e3⟩ := sys_chain_run f jacF normInf leTol k cur c tr hc
  have hlen := e3 L fun x J jtr hx => hL x J jtr (hx.trans hd)
  have hcd : c.size = d := hsz.trans hd
  -- iteration `k + 1 ≤ n` fits into the budget of a returning run
  have hfit : tr.length + k * (1 + L) + (1 + L) ≤ tr.length + n * (1 + L) := by
    rw [Nat.add_assoc, ← Nat.succ_mul]
    exact Nat.add_le_add_left (Nat.mul_le_mul_right _ hk) _
  refine ⟨k, c, tr', hk, hcd, e1, hlen, hs, fun m t => sys_step_error f jacF normInf leTol m c t hs,
    ?_, fun J jtr hj => ?_⟩
  · rw [List.length_append, hlen]
    exact (Nat.add_le_add_left (Nat.le_add_right 1 L) _).trans hfit
  · rw [length_append_step, hL c J jtr hcd hj, hlen]
    exact hfit

/-- **evaluations before a panic, finite-difference method, class (S)** — no hypothesis on `f`,
    the element type or `delta`.  If the run panics (class `e`) then for some `k < maxIter`:
    the first `k` iterations completed (the run with budget `k` returns `Err(c)`) with exactly
    `k * (d + 2)` evaluations of `f` (`d` the length of the guess), and iteration `k + 1` at `c`
    panics after `m ≤ d + 2` further calls of `f`:
    * `m = 1` — the residual `f c` is computed and its inf-norm panics (empty vector); or
    * `m = j + 3` — the Jacobian call panics in column `j < d`: `f c`, the base value and the
      columns `0 … j-1` (`C18.jacobian_panic_evals`), and the perturbed value of column `j`; or
    * `m = d + 2` — the Jacobian call returns (`d + 1` calls) and the linear solve or the update
      panics.
    In every case the number of calls of `f` before the panic, `k * (d + 2) + m`, is at most
    `maxIter * (d + 2)`, the bound of the returning runs (`sys_bounded_fd`). -/
theorem sys_evals_before_panic_fd {R : Type} (f : Array E → Array E) (delta : E)
    (normInf : Array E → Res R) (leTol : R → Bool)
    (n : Nat) (cur : Array E) (tr : List (Array E)) (e : Err)
    (h : solveSys f (fun x => jacobian f x delta) normInf leTol n cur tr = .error e) :
    ∃ k c tr' m, k < n ∧ c.size = cur.size ∧
      solveSys f (fun x => jacobian f x delta) normInf leTol k cur tr = .ok (⟨false, c⟩, tr') ∧
      tr'.length = tr.length + k * (cur.size + 2) ∧
      ((normInf (f c) = .error e ∧ m = 1) ∨
       (∃ j jac, j < c.size ∧
          Mat.forM' 0 j (C18.jacInit f c) (C18.jacBody f c delta)
            = .ok (jac, C18.stateAt c delta j, c :: (List.range j).map (C18.evalPt c delta)) ∧
          C18.jacBody f c delta
            (jac, C18.stateAt c delta j, c :: (List.range j).map (C18.evalPt c delta)) j = .error e ∧
          m = j + 3) ∨
       (∃ J jtr, jacobian f c delta = .ok (J, jtr) ∧ jtr.length = c.size + 1 ∧ m = c.size + 2)) ∧
      k * (cur.size + 2) + m ≤ n * (cur.size + 2) := by
  obtain ⟨k, c, tr', hk, hc, hrun, hlen, hs, _⟩ :=
    sys_evals_before_panic f (fun x => jacobian f x delta) normInf leTol cur.size (cur.size + 1)
      (fun x J jtr hx hj => by rw [jacobian_trace_length f x delta J jtr hj, hx]) n cur tr e rfl h
  rw [Nat.add_left_comm, Nat.add_comm 1 1] at hlen
  -- `m ≤ d + 2` further calls fit into the budget
  have hfit : ∀ m, m ≤ cur.size + 2 → k * (cur.size + 2) + m ≤ n * (cur.size + 2) := fun m hm =>
    (Nat.add_le_add_left hm _).trans (by rw [← Nat.succ_mul]; exact Nat.mul_le_mul_right _ hk)
  have hcle : c.size + 2 ≤ cur.size + 2 := Nat.add_le_add_right (Nat.le_of_eq hc) 2
  rcases hs with h1 | ⟨r, h1, h2⟩ | ⟨r, J, jtr, h1, h2, h3⟩ | ⟨r, J, jtr, dx, h1, h2, h3, h4⟩
  · exact ⟨k, c, tr', 1, hk, hc, hrun, hlen, .inl ⟨h1, rfl⟩,
      hfit 1 (Nat.succ_le_succ (Nat.zero_le _))⟩
  · obtain ⟨j, jac, hj, hpre, hbody, _⟩ := C18.jacobian_panic_evals f c delta e h2
    exact ⟨k, c, tr', j + 3, hk, hc, hrun, hlen, .inr (.inl ⟨j, jac, hj, hpre, hbody, rfl⟩),
      hfit _ (Nat.add_le_add_right (hc ▸ hj) 2)⟩
  -- in the two remaining cases (linear solve, update) the Jacobian call `h2` returned
  all_goals exact ⟨k, c, tr', c.size + 2, hk, hc, hrun, hlen,
    .inr (.inr ⟨J, jtr, h2, jacobian_trace_length f c delta J jtr h2, rfl⟩), hfit _ hcle⟩

end SysPanic

section StepPanics
variable {K : Type} [Field K]

/-- determinant of the square matrix of order `J.rows` read off the buffer of `J` (the
    determinant of `J` when `J` is well-formed and square) -/
noncomputable def detOf (J : Mat K) : K :=
  Matrix.det (Matrix.of fun (i j : Fin J.rows) => Mat.ent J i.val j.val)

/-- **when an iteration panics, in terms of the data**: the residual `f x` is the empty vector
    (`norm_inf` unwraps `None`), or the Jacobian call panics, or the Jacobian it returns is not a
    square matrix of the order of the residual (size checks of `solve_basic`), or it is singular
    (`det = 0`: `solve_basic` divides by an exact zero), or the point and the step have different
    lengths (size check of `current -= dx`). -/
def StepPanics (f : Array K → Array K) (jacF : Array K → Res (Mat K × List (Array K)))
    (x : Array K) : Prop :=
  (f x).size = 0 ∨ (∃ e, jacF x = .error e) ∨
  ∃ J jtr, jacF x = .ok (J, jtr) ∧
    (J.rows ≠ (f x).size ∨ J.rows ≠ J.cols ∨ detOf J = 0 ∨ x.size ≠ J.rows)

end StepPanics

section Gen
variable {K : Type} [Field K] [BEq K] [ScalarExt K]

theorem solveBasic_ok_size [Alg.DivLaw K] {J : Mat K} (hW : J.WF) {b dx : Array K}
    (hb : 1 ≤ b.size) (h : Mat.solveBasic J b = .ok dx) : dx.size = J.rows := by
  obtain ⟨h1, h2⟩ := C17X.solveBasic_ok_sizes_any h
  exact (Mat.solveBasic_spec (by rw [h1]; exact hb) (Mat.WFn.is ⟨hW, rfl, h2.symm⟩) h1.symm h).1

variable [Alg.PivotLaws K]

theorem solveBasic_returns_iff {J : Mat K} (hW : J.WF) {b : Array K} (hb : 1 ≤ b.size) :
    (∃ dx, Mat.solveBasic J b = .ok dx) ↔ J.rows = b.size ∧ J.rows = J.cols ∧ detOf J ≠ 0 := by
  constructor
  · rintro ⟨dx, h⟩
    obtain ⟨h1, h2⟩ := C17X.solveBasic_ok_sizes_any h
    exact ⟨h1, h2, (Mat.solveBasic_spec (by rw [h1]; exact hb)
      (Mat.WFn.is ⟨hW, rfl, h2.symm⟩) h1.symm h).2.2.1⟩
  · rintro ⟨h1, h2, hdet⟩
    exact Mat.solveBasic_complete (by rw [h1]; exact hb) (Mat.WFn.is ⟨hW, rfl, h2.symm⟩)
      h1.symm hdet

/-- **`StepFails` = `StepPanics`, any exact field**, for a norm that panics exactly on the empty
    vector and Jacobian calls that return well-formed matrices: the iteration at `x` panics iff
    the residual `f x` is empty, or the Jacobian call panics, or the Jacobian is not square of the
    order of the residual, or it is SINGULAR (`det = 0`), or the point and the step have different
    lengths. -/
theorem stepFails_iff_gen {R : Type} (f : Array K → Array K)
    (jacF : Array K → Res (Mat K × List (Array K))) (normInf : Array K → Res R)
    (hNorm : ∀ v : Array K, (∃ e, normInf v = .error e) ↔ v.size = 0)
    (x : Array K) (hWF : ∀ J jtr, jacF x = .ok (J, jtr) → J.WF) :
    StepFails f jacF normInf x ↔ StepPanics f jacF x := by
  have hpos : ∀ {r}, normInf (f x) = .ok r → 1 ≤ (f x).size := fun h1 =>
    Nat.pos_of_ne_zero fun h0 => by
      obtain ⟨e, he⟩ := (hNorm _).2 h0
      rw [he] at h1
      cases h1
  constructor
  · rintro ⟨e, h | ⟨r, h1, h2⟩ | ⟨r, J, jtr, h1, h2, h3⟩ | ⟨r, J, jtr, dx, h1, h2, h3, h4⟩⟩
    · exact .inl ((hNorm _).1 ⟨e, h⟩)
    · exact .inr (.inl ⟨e, h2⟩)
    · -- the linear solve fails only if one of its three conditions is violated
      refine .inr (.inr ⟨J, jtr, h2, ?_⟩)
      by_contra hc
      push Not at hc
      obtain ⟨dx, hdx⟩ := (solveBasic_returns_iff (hWF J jtr h2) (hpos h1)).2 ⟨hc.1, hc.2.1, hc.2.2.1⟩
      rw [hdx] at h3
      cases h3
    · -- the update fails only if point and step have different lengths
      refine .inr (.inr ⟨J, jtr, h2, .inr (.inr (.inr fun hx => ?_))⟩)
      obtain ⟨x', hx'⟩ := (C17X.vecSub_ok_iff x dx).2
        (hx.trans (solveBasic_ok_size (hWF J jtr h2) (hpos h1) h3).symm)
      rw [hx'] at h4
      cases h4
  · intro hp
    rcases sys_step_total f jacF normInf x with h | ⟨r, J, jtr, dx, x', h1, h2, h3, h4⟩
    · exact h
    · exfalso
      obtain ⟨a, b, c⟩ := (solveBasic_returns_iff (hWF J jtr h2) (hpos h1)).1 ⟨dx, h3⟩
      have d : x.size = J.rows := ((C17X.vecSub_ok_iff x dx).1 ⟨x', h4⟩).trans
        (solveBasic_ok_size (hWF J jtr h2) (hpos h1) h3)
      rcases hp with h0 | ⟨e, he⟩ | ⟨J', jtr', hj, hc⟩
      · exact Nat.ne_of_gt (hpos h1) h0
      · rw [he] at h2
        cases h2
      · rw [hj] at h2
        cases h2
        rcases hc with c' | c' | c' | c'
        · exact c' a
        · exact c' b
        · exact c c'
        · exact c' d

/-- **`sys_panics_iff`, any exact field**: with a norm that panics exactly on the empty vector,
    any tolerance test, and Jacobian calls that return well-formed matrices: the run PANICS if
    and only if, after `k < maxIter` full Newton steps none of which met the tolerance, at the
    point `c` reached: the residual `f c` is empty, or the Jacobian call panics, or the Jacobian
    is not square of the order of the residual, or the Jacobian is SINGULAR (`det = 0`), or `c`
    and the step have different lengths (`StepPanics`). -/
theorem sys_panics_iff_gen {R : Type} (f : Array K → Array K)
    (jacF : Array K → Res (Mat K × List (Array K))) (normInf : Array K → Res R)
    (hNorm : ∀ v : Array K, (∃ e, normInf v = .error e) ↔ v.size = 0)
    (hWF : ∀ x J jtr, jacF x = .ok (J, jtr) → J.WF) (leTol : R → Bool)
    (n : Nat) (guess : Array K) (tr : List (Array K)) :
    (∃ e, solveSys f jacF normInf leTol n guess tr = .error e) ↔
      ∃ k c, k < n ∧ Chain f jacF normInf leTol k guess c ∧ StepPanics f jacF c := by
  constructor
  · rintro ⟨e, h⟩
    obtain ⟨k, c, hk, hc, hs⟩ := (sys_panics_iff_struct f jacF normInf leTol e n guess tr).1 h
    exact ⟨k, c, hk, hc, (stepFails_iff_gen f jacF normInf hNorm c (hWF c)).1 ⟨e, hs⟩⟩
  · rintro ⟨k, c, hk, hc, hs⟩
    obtain ⟨e, he⟩ := (stepFails_iff_gen f jacF normInf hNorm c (hWF c)).2 hs
    exact ⟨e, (sys_panics_iff_struct f jacF normInf leTol e n guess tr).2 ⟨k, c, hk, hc, he⟩⟩

end Gen

section StepPanicsFD
variable {K : Type} [Field K] [LinearOrder K]
attribute [local instance] Ohsl.Alg.scalarExt

/-- when an iteration of the FINITE-DIFFERENCE system method panics: the residual is empty, or
    it has a different length than the point (the Jacobian is `|f x| × |x|`: not square, or the
    update has the wrong length), or the Jacobian call panics (`f` changes its output size at a
    perturbed point, or `delta = 0`: see `C18.jacobian_rejects_size_change_at`,
    `C18.jacobian_delta_zero_rejects`), or the Jacobian is singular -/
def StepPanicsFD (f : Array K → Array K) (delta : K) (x : Array K) : Prop :=
  (f x).size = 0 ∨ (f x).size ≠ x.size ∨ (∃ e, jacobian f x delta = .error e) ∨
  ∃ J jtr, jacobian f x delta = .ok (J, jtr) ∧ detOf J = 0

theorem stepPanics_fd_iff (f : Array K → Array K) (delta : K) (x : Array K) :
    StepPanics f (fun x => jacobian f x delta) x ↔ StepPanicsFD f delta x := by
  constructor
  · rintro (h | ⟨e, h⟩ | ⟨J, jtr, hj, hc⟩)
    · exact .inl h
    · exact .inr (.inr (.inl ⟨e, h⟩))
    · obtain ⟨_, hr, hcol, _⟩ := jacobian_ok_shape f x delta J jtr hj
      rcases hc with c | c | c | c
      · exact absurd hr c
      · exact .inr (.inl (by rw [← hr, ← hcol]; exact c))
      · exact .inr (.inr (.inr ⟨J, jtr, hj, c⟩))
      · exact .inr (.inl (by rw [← hr]; exact fun h => c h.symm))
  · rintro (h | h | ⟨e, h⟩ | ⟨J, jtr, hj, hc⟩)
    · exact .inl h
    · cases hj : jacobian f x delta with
      | error e => exact .inr (.inl ⟨e, hj⟩)
      | ok p =>
        obtain ⟨J, jtr⟩ := p
        obtain ⟨_, hr, hcol, _⟩ := jacobian_ok_shape f x delta J jtr hj
        exact .inr (.inr ⟨J, jtr, hj, .inr (.inl (by rw [hr, hcol]; exact h))⟩)
    · exact .inr (.inl ⟨e, h⟩)
    · exact .inr (.inr ⟨J, jtr, hj, .inr (.inr (.inl hc))⟩)

end StepPanicsFD

section SysPanicE
variable {K : Type} [Field K] [LinearOrder K] [Transc K]
attribute [local instance] Ohsl.Alg.scalarExt

variable [IsStrictOrderedRing K]

/-- **`sys_panics_iff`, class (E)**: over a linearly ordered field, with the model's inf-norm and
    any tolerance test, for Jacobian calls that return well-formed matrices: the run PANICS if and
    only if, after `k < maxIter` full Newton steps none of which met the tolerance, at the point
    `c` reached: the residual `f c` is empty, or the Jacobian call panics, or the Jacobian is not
    square of the order of the residual, or the Jacobian is SINGULAR (`det = 0`), or `c` and the
    step have different lengths (`StepPanics`).  In every other case the run returns
    (`sys_success_char`, `sys_failure_carries_last` describe what). -/
theorem sys_panics_iff (f : Array K → Array K) (jacF : Array K → Res (Mat K × List (Array K)))
    (hWF : ∀ x J jtr, jacF x = .ok (J, jtr) → J.WF) (leTol : K → Bool)
    (n : Nat) (guess : Array K) (tr : List (Array K)) :
    (∃ e, solveSys f jacF Vec.normInf leTol n guess tr = .error e) ↔
      ∃ k c, k < n ∧ Chain f jacF Vec.normInf leTol k guess c ∧ StepPanics f jacF c :=
  sys_panics_iff_gen f jacF Vec.normInf (C17X.normInfBy_error_iff _) hWF leTol n guess tr

/-- **`sys_panics_iff` for the finite-difference method** (`Newton<Vec64>::solve`): no
    hypothesis on `f` at all -/
theorem sys_panics_iff_fd (f : Array K → Array K) (delta : K) (leTol : K → Bool)
    (n : Nat) (guess : Array K) (tr : List (Array K)) :
    (∃ e, solveSys f (fun x => jacobian f x delta) Vec.normInf leTol n guess tr = .error e) ↔
      ∃ k c, k < n ∧ Chain f (fun x => jacobian f x delta) Vec.normInf leTol k guess c ∧
        StepPanicsFD f delta c := by
  rw [sys_panics_iff f (fun x => jacobian f x delta)
    (fun x J jtr h => (jacobian_ok_shape f x delta J jtr h).1) leTol n guess tr]
  constructor
  · rintro ⟨k, c, hk, hc, hs⟩
    exact ⟨k, c, hk, hc, (stepPanics_fd_iff f delta c).1 hs⟩
  · rintro ⟨k, c, hk, hc, hs⟩
    exact ⟨k, c, hk, hc, (stepPanics_fd_iff f delta c).2 hs⟩

/-- **an empty guess makes the finite-difference method panic** (any `f`, any positive budget):
    the residual is empty, or it is not and then the `|f x| × 0` Jacobian is not square -/
theorem sys_fd_empty_guess_panics (f : Array K → Array K) (delta : K) (leTol : K → Bool)
    (n : Nat) (guess : Array K) (tr : List (Array K)) (hg : guess.size = 0) :
    ∃ e, solveSys f (fun x => jacobian f x delta) Vec.normInf leTol (n + 1) guess tr = .error e := by
  rw [sys_panics_iff_fd]
  refine ⟨0, guess, Nat.succ_pos n, Chain.refl _, ?_⟩
  by_cases h : (f guess).size = 0
  · exact .inl h
  · exact .inr (.inl (by rw [hg]; exact h))

end SysPanicE

section SingularGen
variable {K : Type} [Field K] [BEq K] [ScalarExt K] [Alg.DivLaw K]

/-- **the guess is an exact root but the Jacobian there is singular: the run PANICS** (any exact
    field, generic norm / tolerance test).  For ANY `f`: if `f x0` is the zero vector of length
    `n ≥ 1`, the Jacobian call at `x0` returns a well-formed `n × n` matrix `J` and `det J = 0`, then
    `solve_basic J (f x0)` fails although the system `J dx = 0` is consistent, hence (the norm
    being defined on vectors of length `n`) the first iteration panics with that error and so
    does every run with `maxIter ≥ 1` — the code does not notice that the residual of the guess is
    already zero, because the stopping test comes after the linear solve.  Only `maxIter = 0`
    returns (`Err(x0)`).  This is the complement of `newton_sys_fixed_point_genK`, whose hypothesis
    `hsolve` fails here.  (`x0.size` plays no role: the panic precedes the update.) -/
theorem newton_sys_fixed_point_singular_genK {R : Type} (f : Array K → Array K)
    (jacF : Array K → Res (Mat K × List (Array K)))
    (normInf : Array K → Res R) (leTol : R → Bool) (n : Nat) (hn : 1 ≤ n)
    (hN : ∀ v : Array K, v.size = n → ∃ r, normInf v = .ok r)
    (x0 : Array K) (hroot : f x0 = Array.replicate n 0)
    {J : Mat K} {jtr : List (Array K)} (hjac : jacF x0 = .ok (J, jtr)) (hJ : Mat.WFn J n)
    (hdet : Matrix.det (Matrix.of fun (i j : Fin n) => Mat.ent J i.val j.val) = 0)
    (tr : List (Array K)) :
    ∃ e, Mat.solveBasic J (f x0) = .error e ∧ StepErr f jacF normInf x0 e ∧
      (∀ maxIter, 1 ≤ maxIter → solveSys f jacF normInf leTol maxIter x0 tr = .error e) ∧
      solveSys f jacF normInf leTol 0 x0 tr = .ok (⟨false, x0⟩, tr) := by
  have hb : (f x0).size = n := by rw [hroot, Array.size_replicate]
  obtain ⟨r, hr⟩ := hN (f x0) hb
  cases he : Mat.solveBasic J (f x0) with
  | ok dx => exact absurd hdet (Mat.solveBasic_spec hn hJ.is hb he).2.2.1
  | error e =>
    have hs : StepErr f jacF normInf x0 e := .inr (.inr (.inl ⟨r, J, jtr, hr, hjac, he⟩))
    refine ⟨e, rfl, hs, fun maxIter hm => ?_, rfl⟩
    obtain ⟨k, rfl⟩ := Nat.exists_eq_add_of_le' hm
    exact sys_step_error f jacF normInf leTol k x0 tr hs

end SingularGen

section FixedPointSingular
variable {K : Type} [Field K] [LinearOrder K]
attribute [local instance] Ohsl.Alg.scalarExt

/-- **… with the model's norm and tolerance test**: the residual norm of the guess is computed
    (`0`), the Jacobian is computed, and the panic is the one of `solve_basic` on the singular
    matrix (same error class), for every `maxIter ≥ 1`, every `tol`. -/
theorem newton_sys_fixed_point_singular [Transc K]
    (f : Array K → Array K) (jacF : Array K → Res (Mat K × List (Array K)))
    (tol : K) (n : Nat) (hn : 1 ≤ n)
    (x0 : Array K) (hroot : f x0 = Array.replicate n 0)
    {J : Mat K} {jtr : List (Array K)} (hjac : jacF x0 = .ok (J, jtr)) (hJ : Mat.WFn J n)
    (hdet : Matrix.det (Matrix.of fun (i j : Fin n) => Mat.ent J i.val j.val) = 0) :
    ∃ e, Mat.solveBasic J (f x0) = .error e ∧
      ∀ maxIter, 1 ≤ maxIter →
        solveSys f jacF Vec.normInf (fun r => Transc.le r tol) maxIter x0 [] = .error e := by
  obtain ⟨e, he, _, h, _⟩ := newton_sys_fixed_point_singular_genK f jacF Vec.normInf
    (fun r => Transc.le r tol) n hn (fun v hv => C17X.normInfBy_total _ (hv ▸ hn)) x0 hroot hjac hJ
    hdet []
  exact ⟨e, he, h⟩

/-- **… with the finite-difference Jacobian**: if the difference quotients at the root happen to
    form a singular matrix the run panics as well -/
theorem newton_sys_fixed_point_singular_fd [Transc K]
    (f : Array K → Array K) (delta tol : K) (n : Nat) (hn : 1 ≤ n)
    (x0 : Array K) (hx : x0.size = n) (hroot : f x0 = Array.replicate n 0)
    {J : Mat K} {jtr : List (Array K)} (hjac : jacobian f x0 delta = .ok (J, jtr))
    (hdet : Matrix.det (Matrix.of fun (i j : Fin n) => Mat.ent J i.val j.val) = 0) :
    ∃ e, Mat.solveBasic J (f x0) = .error e ∧
      ∀ maxIter, 1 ≤ maxIter →
        solveSys f (fun x => jacobian f x delta) Vec.normInf (fun r => Transc.le r tol) maxIter x0 []
          = .error e := by
  obtain ⟨hw, hr, hc, _⟩ := jacobian_ok_shape f x0 delta J jtr hjac
  have hJ : Mat.WFn J n := ⟨hw, by rw [hr, hroot]; simp, by rw [hc, hx]⟩
  exact newton_sys_fixed_point_singular f (fun x => jacobian f x delta) tol n hn x0 hroot hjac hJ hdet

end FixedPointSingular

section Examples
attribute [local instance] Ohsl.Alg.scalarExt

/-- the complex loop over ℚ[i] (with `sqrt := id`, so `abs z = re² + im²`), `f z = z`, `δ = 1`,
    `tol = 0`, guess `1`: the first step (`dx = 1`) fails the test and lands on `0`, the second
    (`dx = 0`) passes.  Budget 2: `Ok(0)` after 6 evaluations (the hypothesis of
    `cx_success_char(_strong)` holds); budget 1: `Err(0)` after 3 (`cx_failure_carries_last`). -/
example : ∃ (_ : Transc ℚ),
    (solveCx (K := ℚ) (fun z => z) 0 1 2 ⟨1, 0⟩ []).1.ok = true ∧
    (solveCx (K := ℚ) (fun z => z) 0 1 2 ⟨1, 0⟩ []).1.x.re = 0 ∧
    (solveCx (K := ℚ) (fun z => z) 0 1 2 ⟨1, 0⟩ []).2.length = 6 ∧
    (solveCx (K := ℚ) (fun z => z) 0 1 1 ⟨1, 0⟩ []).1.ok = false ∧
    (solveCx (K := ℚ) (fun z => z) 0 1 1 ⟨1, 0⟩ []).1.x.re = 0 ∧
    (solveCx (K := ℚ) (fun z => z) 0 1 1 ⟨1, 0⟩ []).2.length = 3 :=
  ⟨transcQ, by decide +kernel⟩

/-- the same for the real loop: `f x = x`, guess `1`, `tol = 0` -/
example : ∃ (_ : Transc ℚ),
    (solveScalar (K := ℚ) (fun x => x) 0 1 2 1 []).1.ok = true ∧
    (solveScalar (K := ℚ) (fun x => x) 0 1 2 1 []).1.x = 0 ∧
    (solveScalar (K := ℚ) (fun x => x) 0 1 1 1 []).1.ok = false ∧
    (solveScalar (K := ℚ) (fun x => x) 0 1 1 1 []).1.x = 0 :=
  ⟨transcQ, by decide +kernel⟩

/-- the Jacobian `[[2·0, 0], [0, 1]]` of `(x², y)` at the origin is singular -/
theorem exSing_det : Matrix.det (Matrix.of fun (i j : Fin 2) =>
    Mat.ent (K := ℚ) ⟨#[2 * 0, 0, 0, 1], 2, 2⟩ i.val j.val) = 0 := by
  rw [Matrix.det_fin_two]
  show (2 * 0 : ℚ) * 1 - 0 * 0 = 0
  norm_num

/-- **`newton_sys_fixed_point_singular`, concretely**: `F(x, y) = (x², y)` over ℚ with its
    analytic Jacobian `[[2x, 0], [0, 1]]`, started at the exact root `(0, 0)`: `F(0, 0) = (0, 0)`,
    the Jacobian there is `[[0, 0], [0, 1]]`, singular — every run with `maxIter ≥ 1` panics
    although the guess already solves the system. -/
example : ∃ (_ : Transc ℚ) (f : Array ℚ → Array ℚ)
    (jacF : Array ℚ → Res (Mat ℚ × List (Array ℚ))) (e : Err),
    f #[0, 0] = #[0, 0] ∧
    ∀ maxIter, 1 ≤ maxIter →
      solveSys f jacF Vec.normInf (fun r => Transc.le r (1 / 100)) maxIter #[0, 0] [] = .error e := by
  letI : Transc ℚ := transcQ
  have key := newton_sys_fixed_point_singular (K := ℚ)
    (fun x => #[x.getD 0 0 * x.getD 0 0, x.getD 1 0])
    (fun x => .ok (⟨#[2 * x.getD 0 0, 0, 0, 1], 2, 2⟩, [])) (1 / 100) 2 (by decide) #[0, 0]
    (by decide +kernel) (J := ⟨#[2 * 0, 0, 0, 1], 2, 2⟩) (jtr := []) rfl ⟨rfl, rfl, rfl⟩
    exSing_det
  obtain ⟨e, _, h⟩ := key
  exact ⟨transcQ, _, _, e, by decide +kernel, h⟩

/-- **… and with the finite-difference Jacobian**: `F(x, y) = (x + y, x + y)` at the root
    `(0, 0)`, `δ = 1`: the difference quotients are exact (`C18.jacobian_affine`), the Jacobian
    `[[1, 1], [1, 1]]` is singular, every run with `maxIter ≥ 1` panics. -/
example : ∃ (_ : Transc ℚ) (e : Err), ∀ maxIter, 1 ≤ maxIter →
    solveSys (affineRes (fun _ _ => (1 : ℚ)) (fun _ => 0) 2)
      (fun x => jacobian (affineRes (fun _ _ => (1 : ℚ)) (fun _ => 0) 2) x 1) Vec.normInf
      (fun r => Transc.le r (1 / 100)) maxIter #[0, 0] [] = .error e := by
  letI : Transc ℚ := transcQ
  have hroot : affineRes (fun _ _ => (1 : ℚ)) (fun _ => 0) 2 #[0, 0] = Array.replicate 2 0 := by
    decide +kernel
  obtain ⟨J, jtr, hj, _, hI⟩ := C18.jacobian_affine (fun _ _ => (1 : ℚ)) (fun i => -(fun _ => (0 : ℚ)) i) 2
    #[0, 0] 1 one_ne_zero
  have hdet : Matrix.det (Matrix.of fun (i j : Fin 2) => Mat.ent J i.val j.val) = 0 := by
    rw [Matrix.det_fin_two]
    show Mat.ent J 0 0 * Mat.ent J 1 1 - Mat.ent J 0 1 * Mat.ent J 1 0 = 0
    rw [hI.ent_eq Nat.zero_lt_two Nat.zero_lt_two, hI.ent_eq Nat.one_lt_two Nat.one_lt_two,
      hI.ent_eq Nat.zero_lt_two Nat.one_lt_two, hI.ent_eq Nat.one_lt_two Nat.zero_lt_two, sub_self]
  obtain ⟨e, _, h⟩ := newton_sys_fixed_point_singular_fd (K := ℚ)
    (affineRes (fun _ _ => (1 : ℚ)) (fun _ => 0) 2) 1 (1 / 100) 2 (by decide) #[0, 0] rfl hroot hj hdet
  exact ⟨transcQ, e, h⟩

/-- the right-hand side of `sys_panics_iff` at `k = 0` for the first example: the Jacobian at
    the guess is singular (`StepPanics`, third disjunct) -/
example : StepPanics (K := ℚ) (fun x => #[x.getD 0 0 * x.getD 0 0, x.getD 1 0])
    (fun x => .ok (⟨#[2 * x.getD 0 0, 0, 0, 1], 2, 2⟩, [])) #[0, 0] := by
  refine .inr (.inr ⟨_, _, rfl, .inr (.inr (.inl ?_))⟩)
  exact exSing_det

end Examples

end Ohsl.Props.C17
