/-
  Property C13 — complex arithmetic is exact field arithmetic; operator variants and the
  ordering agree.  Theorems about the model `Ohsl.Cx` (Ohsl/Model/Cx.lean), classes (S) and (E).
  The "few ulps over f64" half (class F) is Props/C13F.lean; the real interpretation (`Cx ℝ` is ℂ)
  is Props/C13R.lean.
-/
import Ohsl.Model.Cx
import Ohsl.Lemmas.Alg
import Ohsl.Lemmas.CxDiv
import Mathlib.Algebra.Ring.MinimalAxioms
import Mathlib.Order.Lex
import Mathlib.Data.Prod.Lex
set_option linter.unusedSectionVars false
namespace Ohsl.Props.C13
open Ohsl Ohsl.Cx

section Structural

section MulDiv
variable {K : Type} [Add K] [Sub K] [Mul K]

/-- `*=` needs one law only: commutativity of `+` (true of IEEE addition on NaN-free data). -/
theorem mulAssign_eq (hc : ∀ x y : K, x + y = y + x) (a b : Cx K) : mulAssign a b = a * b := by
  show (⟨_, _⟩ : Cx K) = ⟨_, _⟩
  congr 1
  exact hc _ _
theorem divAssign_eq [ScalarExt K] (a b : Cx K) : divAssign a b = Cx.div a b := rfl
end MulDiv

variable {K : Type} [Add K] [Sub K] [Mul K] [Neg K] [Zero K] [One K] [BEq K] [ScalarExt K]

theorem addAssign_eq (a b : Cx K) : addAssign a b = a + b := rfl
theorem subAssign_eq (a b : Cx K) : subAssign a b = a - b := rfl
theorem addAssignR_eq (a : Cx K) (r : K) : addAssignR a r = addR a r := rfl
theorem subAssignR_eq (a : Cx K) (r : K) : subAssignR a r = subR a r := rfl
theorem mulAssignR_eq (a : Cx K) (r : K) : mulAssignR a r = mulR a r := rfl
theorem divAssignR_eq (a : Cx K) (r : K) : divAssignR a r = divR a r := rfl

/-- the eight compound / mixed forms at once (seven of them hold by `rfl`: the model's assignment forms are the
    same terms as the binary forms, as in the Rust source) -/
theorem assign_eq_binary (hc : ∀ x y : K, x + y = y + x) (a b : Cx K) (r : K) :
    addAssign a b = a + b ∧ subAssign a b = a - b ∧ mulAssign a b = a * b ∧ divAssign a b = Cx.div a b ∧
    addAssignR a r = addR a r ∧ subAssignR a r = subR a r ∧ mulAssignR a r = mulR a r ∧
    divAssignR a r = divR a r :=
  ⟨rfl, rfl, mulAssign_eq hc a b, rfl, rfl, rfl, rfl, rfl⟩
end Structural

section Key
variable {K : Type}

/-- the key by which the model's `PartialOrd` compares: `(re, im)` in the lexicographic order -/
def key (a : Cx K) : K ×ₗ K := toLex (a.re, a.im)

theorem key_inj {a b : Cx K} : key a = key b ↔ a = b := by
  cases a; cases b; simp [key]

variable [LinearOrder K]

theorem key_lt {a b : Cx K} : key a < key b ↔ a.re < b.re ∨ (a.re = b.re ∧ a.im < b.im) :=
  Prod.Lex.toLex_lt_toLex

theorem beq_iff (a b : Cx K) : (a == b) = true ↔ a = b := Cx.beq_eq_true_iff a b

end Key

section Field
variable {K : Type} [Field K] [LinearOrder K]
attribute [local instance] Alg.scalarExt

@[ext] theorem ext' {a b : Cx K} (h1 : a.re = b.re) (h2 : a.im = b.im) : a = b := by
  cases a; cases b; simp_all

@[simp] theorem add_re (a b : Cx K) : (a + b).re = a.re + b.re := rfl
@[simp] theorem add_im (a b : Cx K) : (a + b).im = a.im + b.im := rfl
@[simp] theorem sub_re (a b : Cx K) : (a - b).re = a.re - b.re := rfl
@[simp] theorem sub_im (a b : Cx K) : (a - b).im = a.im - b.im := rfl
@[simp] theorem mul_re (a b : Cx K) : (a * b).re = a.re * b.re - a.im * b.im := rfl
@[simp] theorem mul_im (a b : Cx K) : (a * b).im = a.re * b.im + a.im * b.re := rfl
@[simp] theorem neg_re (a : Cx K) : (-a).re = -a.re := rfl
@[simp] theorem neg_im (a : Cx K) : (-a).im = -a.im := rfl
@[simp] theorem zero_re : (0 : Cx K).re = 0 := rfl
@[simp] theorem zero_im : (0 : Cx K).im = 0 := rfl
@[simp] theorem one_re : (1 : Cx K).re = 1 := rfl
@[simp] theorem one_im : (1 : Cx K).im = 0 := rfl

/-- The model's `+ * - 0 1` make `Cx K` a commutative ring: every ring identity holds. -/
def cx_ring : CommRing (Cx K) :=
  CommRing.ofMinimalAxioms
    (by intro a b c; ext <;> simp <;> ring)
    (by intro a; ext <;> simp)
    (by intro a; ext <;> simp)
    (by intro a b c; ext <;> simp <;> ring)
    (by intro a b; ext <;> simp <;> ring)
    (by intro a; ext <;> simp)
    (by intro a b c; ext <;> simp <;> ring)

theorem cx_sub_eq (a b : Cx K) : a - b = a + -b := by ext <;> simp <;> ring

theorem cx_identities (a : Cx K) : a + 0 = a ∧ 0 + a = a ∧ a * 1 = a ∧ 1 * a = a := by
  refine ⟨?_, ?_, ?_, ?_⟩ <;> ext <;> simp

theorem divT_mul (z w : Cx K) (hw : absSqr w ≠ 0) : divT z w * w = z := by
  have hw' : w.re * w.re + w.im * w.im ≠ 0 := hw
  ext
  · rw [mul_re, divT, div_mul_eq_mul_div, div_mul_eq_mul_div, ← sub_div, div_eq_iff hw']; ring
  · rw [mul_im, divT, div_mul_eq_mul_div, div_mul_eq_mul_div, ← add_div, div_eq_iff hw']; ring

/-- division is the exact inverse of multiplication whenever the divisor is non-zero … -/
theorem cx_div_mul (z w : Cx K) (hw : absSqr w ≠ 0) :
    ∃ q, Cx.div z w = .ok q ∧ q * w = z :=
  ⟨divT z w, by rw [div_eq, if_neg hw], divT_mul z w hw⟩

/-- … and is rejected (the exact type's division-by-zero panic) when the divisor is zero. -/
theorem cx_div_rejects (z w : Cx K) (hw : absSqr w = 0) : Cx.div z w = .error .arith := by
  rw [div_eq, if_pos hw]

theorem absSqr_eq_zero [IsStrictOrderedRing K] (w : Cx K) : absSqr w = 0 ↔ w = 0 := by
  constructor
  · intro h
    obtain ⟨h1, h2⟩ := mul_self_add_mul_self_eq_zero.mp h
    exact ext' h1 h2
  · rintro rfl; simp [absSqr]

theorem absSqr_spec (z : Cx K) : absSqr z = (z * conj z).re ∧ (z * conj z).im = 0 := by
  constructor
  · show _ = z.re * z.re - z.im * -z.im
    rw [mul_neg, sub_neg_eq_add]; rfl
  · show z.re * -z.im + z.im * z.re = 0
    ring

theorem conj_conj (z : Cx K) : conj (conj z) = z := ext' rfl (neg_neg _)
theorem conj_add (a b : Cx K) : conj (a + b) = conj a + conj b := ext' rfl (neg_add _ _)
theorem conj_mul (a b : Cx K) : conj (a * b) = conj a * conj b := by
  refine ext' ?_ ?_
  · show _ = a.re * b.re - -a.im * -b.im
    rw [neg_mul_neg]; rfl
  · show -(a.re * b.im + a.im * b.re) = a.re * -b.im + -a.im * b.re
    ring

theorem mixed_real_forms (z : Cx K) (r : K) :
    addR z r = z + ⟨r, 0⟩ ∧ subR z r = z - ⟨r, 0⟩ ∧ mulR z r = z * ⟨r, 0⟩ ∧
    divR z r = Cx.div z ⟨r, 0⟩ := by
  refine ⟨?_, ?_, ?_, ?_⟩
  · ext <;> simp [addR]
  · ext <;> simp [subR]
  · ext <;> simp [mulR]
  · by_cases hr : r = 0
    · simp [divR, Cx.div, hr, bind, Except.bind]
    · simp only [divR, Cx.div, mul_zero, add_zero, sub_zero, Alg.divM_ne hr,
        Alg.divM_ne (mul_ne_zero hr hr), mul_div_mul_right _ _ hr]

theorem lt_iff_lex (a b : Cx K) :
    Cx.lt a b = true ↔ a.re < b.re ∨ (a.re = b.re ∧ a.im < b.im) := by
  unfold Cx.lt
  by_cases h : a.re = b.re
  · simp [h]
  · simp [h]

theorem lt_iff_key (a b : Cx K) : Cx.lt a b = true ↔ key a < key b :=
  (lt_iff_lex a b).trans key_lt.symm

/-- what `partial_cmp` answers: `Less` (0), `Equal` (1), `Greater` (2) exactly as the keys compare; the
one case analysis of `Cx.cmp`, every other fact about it follows from the linear order on `K ×ₗ K` -/
theorem cmp_spec (a b : Cx K) :
    (Cx.cmp a b = 0 ∧ key a < key b) ∨ (Cx.cmp a b = 1 ∧ a = b) ∨ (Cx.cmp a b = 2 ∧ key b < key a) := by
  rw [← key_inj, key_lt, key_lt]
  unfold Cx.cmp
  simp only [Alg.lt_eq, decide_eq_true_eq, beq_iff_eq, bne_iff_ne, ne_eq, ite_not, key, toLex_inj,
    Prod.mk.injEq]
  rcases lt_trichotomy a.re b.re with h | h | h
  · simp [h, h.ne]
  · rcases lt_trichotomy a.im b.im with g | g | g
    · simp [h, g]
    · simp [h, g]
    · simp [h, g, g.not_gt, g.ne']
  · simp [h, h.ne', h.not_gt]

/-- `None` (3) never occurs -/
theorem cmp_iff (a b : Cx K) :
    (Cx.cmp a b = 0 ↔ key a < key b) ∧ (Cx.cmp a b = 1 ↔ a = b) ∧ (Cx.cmp a b = 2 ↔ key b < key a) ∧
      Cx.cmp a b ≠ 3 := by
  rcases cmp_spec a b with ⟨h, g⟩ | ⟨h, g⟩ | ⟨h, g⟩ <;> rw [h]
  · simp [g, g.not_gt, key_inj.not.mp g.ne]
  · simp [g]
  · simp [g, g.not_gt, key_inj.not.mp g.ne']

theorem cmp_trans (a b c : Cx K) (h1 : Cx.cmp a b = 0) (h2 : Cx.cmp b c = 0) : Cx.cmp a c = 0 := by
  rw [(cmp_iff _ _).1] at *
  exact h1.trans h2

end Field

-- non-vacuity: the hypotheses are met by concrete non-trivial values over ℚ
section Examples
attribute [local instance] Alg.scalarExt
example : absSqr (⟨3, -4⟩ : Cx ℚ) ≠ 0 := by norm_num [absSqr]
example : Cx.div (⟨1, 2⟩ : Cx ℚ) ⟨3, -4⟩ = .ok ⟨-1/5, 2/5⟩ := by
  norm_num [Cx.div, bind, Except.bind, pure, Except.pure]
example : Cx.cmp (⟨1, 2⟩ : Cx ℚ) ⟨1, 3⟩ = 0 ∧ Cx.cmp (⟨1, 3⟩ : Cx ℚ) ⟨2, 0⟩ = 0 :=
  ⟨(cmp_iff _ _).1.mpr (key_lt.mpr (Or.inr ⟨rfl, by norm_num⟩)),
    (cmp_iff _ _).1.mpr (key_lt.mpr (Or.inl (by norm_num)))⟩
example : ∀ x y : ℚ, x + y = y + x := add_comm
end Examples

end Ohsl.Props.C13
