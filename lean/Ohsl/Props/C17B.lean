/-
  Property C17 (continued) — Newton on a NONSINGULAR affine system over a linearly ordered field,
  with the model's `Vec.normInf` and tolerance test: the instance `Alg.pivotLaws` (size `|·|`) of
  the law-generic theorems of C17A, in the short form "every budget `≥ 2` reports `Ok` at a root".
  `det M ≠ 0` is what makes every linear solve of the run return (completeness of `solve_basic`).
-/
import Ohsl.Props.C17A
import Ohsl.Lemmas.C17X
namespace Ohsl.Props.C17
open Ohsl Ohsl.Newton Ohsl.Jac Ohsl.Mat

variable {K : Type} [Field K] [LinearOrder K] [IsStrictOrderedRing K] [Transc K]
attribute [local instance] Ohsl.Alg.scalarExt

/-- **Newton on a nonsingular affine system, supplied Jacobian**: from ANY guess the first step
    lands exactly on THE solution of `M x = c`, the second step is zero and every budget
    `maxIter ≥ 2` reports success there. -/
theorem newton_affine_sys_supplied_det
    (hle : ∀ x y : K, Transc.le x y = decide (x ≤ y)) (habs0 : Transc.fabs (0 : K) = 0)
    (M : Nat → Nat → K) (c : Nat → K) (n : Nat) (hn : 1 ≤ n)
    (hdet : Matrix.det (Matrix.of fun (i j : Fin n) => M i.val j.val) ≠ 0)
    (jacF : Array K → Res (Mat K × List (Array K)))
    (hJ : ∀ x : Array K, x.size = n → ∃ J jtr, jacF x = .ok (J, jtr) ∧ Mat.Is J n n M)
    (tol : K) (htol : 0 ≤ tol) (guess : Array K) (hg : guess.size = n) :
    ∃ xs : Array K, IsRoot M c n xs ∧
      ∀ maxIter, 2 ≤ maxIter → ∃ tr,
        solveSys (affineRes M c n) jacF Vec.normInf (fun r => Transc.le r tol) maxIter guess []
          = .ok (⟨true, xs⟩, tr) := by
  obtain ⟨hN, hN0⟩ := C17X.concrete_norm hle habs0 tol htol n hn
  obtain ⟨xs, r0, jtr0, jtr1, hroot, _, _, _, _, _, _, _, _, hall⟩ :=
    newton_affine_sys_supplied_det_gen M c n hn hdet (affineRes M c n) (affineRes_isAffineRes M c n)
      jacF hJ Vec.normInf (fun r => Transc.le r tol) hN hN0 guess hg []
  exact ⟨xs, hroot, fun k hk => ⟨_, hall k hk⟩⟩

/-- **… finite-difference Jacobian** (any `delta ≠ 0`) -/
theorem newton_affine_sys_fd_det
    (hle : ∀ x y : K, Transc.le x y = decide (x ≤ y)) (habs0 : Transc.fabs (0 : K) = 0)
    (M : Nat → Nat → K) (c : Nat → K) (n : Nat) (hn : 1 ≤ n)
    (hdet : Matrix.det (Matrix.of fun (i j : Fin n) => M i.val j.val) ≠ 0)
    (delta : K) (hd : delta ≠ 0)
    (tol : K) (htol : 0 ≤ tol) (guess : Array K) (hg : guess.size = n) :
    ∃ xs : Array K, IsRoot M c n xs ∧
      ∀ maxIter, 2 ≤ maxIter → ∃ tr,
        solveSys (affineRes M c n) (fun x => jacobian (affineRes M c n) x delta) Vec.normInf
          (fun r => Transc.le r tol) maxIter guess [] = .ok (⟨true, xs⟩, tr) := by
  obtain ⟨hN, hN0⟩ := C17X.concrete_norm hle habs0 tol htol n hn
  obtain ⟨xs, r0, jtr0, jtr1, hroot, _, _, _, _, _, _, _, _, _, _, hall⟩ :=
    newton_affine_sys_fd_det_gen M c n hn hdet (affineRes M c n) (affineRes_isAffineRes M c n)
      delta hd Vec.normInf (fun r => Transc.le r tol) hN hN0 guess hg []
  exact ⟨xs, hroot, fun k hk => ⟨_, hall k hk⟩⟩

end Ohsl.Props.C17
