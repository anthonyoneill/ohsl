/-
  Property C05 (continued) — the exact-arithmetic theorems over ANY field, in particular ℂ.

  The tridiagonal model (Ohsl/Model/Tridiag.lean: Thomas algorithm, determinant recurrence,
  products, arithmetic) never compares magnitudes: of the scalar interface it uses only
  `+ - * 0 1`, the test `== 0` and the fallible `/` (`divM`).  The `_field` theorems of
  Props/C05T.lean hold for every field whose `divM` is the guarded field division (`Alg.DivLaw`);
  the order-free instance `Alg.scalarExtField`
  (`divM a b = if b = 0 then .error .arith else .ok (a / b)`) is one, and `ℂ` carries it.

  The model's own complex type `Cx ℝ` has the model's complex division (`Cx.instScalarExt`,
  `divM := Cx.div`).  `solve`: `toC : Cx ℝ → ℂ` maps the run onto the run over `ℂ`, errors included
  (`solve_toC`, by the simulation `Sim.solve_map` of Lemmas/C05G.lean: the commutation is claimed
  for every `t`, `r`, well-formed or not, which the theorems over a field do not give).  `det`,
  `&T * &v`: `Cx ℝ` is itself a field with `Alg.DivLaw` (`CxField.field`), so `det_spec_cx`,
  `mulVec_spec_cx` are the `_field` theorems at that field, read in `ℂ` through `CxField.toCHom`.
-/
import Ohsl.Props.C05A
import Ohsl.Props.C13R
import Ohsl.Lemmas.C05G
import Ohsl.Lemmas.CxField
import Mathlib.Data.Complex.Basic
import Mathlib.Tactic.Ring
import Mathlib.Tactic.FieldSimp
set_option linter.unusedSectionVars false
namespace Ohsl.Props.C05
open Ohsl Ohsl.Tri

section Pivots
variable {K : Type} [Field K]

theorem pivot_zero_field (t : Tri K) : pivot t 0 = t.main[0]?.getD 0 := rfl
theorem pivot_succ_field (t : Tri K) (j : Nat) :
    pivot t (j + 1) = t.main[j + 1]?.getD 0 - t.sub[j]?.getD 0 * (t.sup[j]?.getD 0 / pivot t j) := rfl

end Pivots

section Field
variable {K : Type} [Field K] [DecidableEq K]
attribute [local instance] Alg.scalarExtField
open Finset

theorem mult_succ_field (t : Tri K) (j : Nat) : mult t (j + 1) = t.sup[j]?.getD 0 / pivot t j := rfl
theorem fwd_zero_field (t : Tri K) (r : Array K) : fwd t r 0 = r[0]?.getD 0 / pivot t 0 := rfl

theorem denseMatrix_apply_field (t : Tri K) (i j : Fin t.n) : denseMatrix t i j = dense t i.val j.val := rfl


/-- (E) `dense (T₁ + T₂) = dense T₁ + dense T₂` for ALL (i, j) -/
theorem add_field (a b : Tri K) (ha : WF a) (hb : WF b) (hn : a.n = b.n) :
    ∃ c, Tri.add a b = .ok c ∧ WF c ∧ c.n = a.n ∧
      ∀ i j, dense c i j = dense a i j + dense b i j :=
  ⟨_, add_eq a b ha hb hn, zip3_wf _ a b ha hb hn, rfl,
    zip3_dense_all (· + ·) (add_zero 0) a b ha hb hn⟩

theorem sub_field (a b : Tri K) (ha : WF a) (hb : WF b) (hn : a.n = b.n) :
    ∃ c, Tri.sub' a b = .ok c ∧ WF c ∧ c.n = a.n ∧
      ∀ i j, dense c i j = dense a i j - dense b i j :=
  ⟨_, sub_eq a b ha hb hn, zip3_wf _ a b ha hb hn, rfl,
    zip3_dense_all (· - ·) (sub_zero 0) a b ha hb hn⟩

theorem neg_field (t : Tri K) (i j : Nat) : dense (Tri.neg t) i j = - dense t i j :=
  map3_dense_all (fun x => -x) neg_zero t i j

theorem smul_field (t : Tri K) (s : K) (i j : Nat) : dense (Tri.smul t s) i j = dense t i j * s :=
  map3_dense_all (· * s) (zero_mul s) t i j

theorem lsmul_field (s : K) (t : Tri K) (i j : Nat) : dense (Tri.lsmul s t) i j = s * dense t i j :=
  map3_dense_all (s * ·) (mul_zero s) t i j

/-- (E) division by a non-zero scalar divides the whole dense twin -/
theorem sdiv_field (t : Tri K) (h : WF t) (s : K) (hs : s ≠ 0) :
    ∃ c, Tri.sdiv t s = .ok c ∧ WF c ∧ c.n = t.n ∧ ∀ i j, dense c i j = dense t i j / s :=
  ⟨_, sdiv_eq t h s (· / s) (fun _ _ _ _ _ => Alg.DivLaw.divM_ne _ _ hs), map3_wf _ t h, rfl,
    map3_dense_all (· / s) (zero_div s) t⟩

/-- (E) division by an exact zero is rejected (class `arith`) for every n ≥ 1 -/
theorem sdiv_zero_field (t : Tri K) (h : WF t) : Tri.sdiv t 0 = .error .arith :=
  sdiv_guard t h 0 .arith Alg.DivLaw.divM_zero

/-- (E) the four ring operations commute with the dense conversion -/
theorem add_convert_field (a b : Tri K) (ha : WF a) (hb : WF b) (hn : a.n = b.n) :
    ∃ c ma mb mc, Tri.add a b = .ok c ∧ Tri.convert a = .ok ma ∧ Tri.convert b = .ok mb ∧
      Tri.convert c = .ok mc ∧ Mat.add ma mb = .ok mc :=
  add_convert (add_zero 0) a b ha hb hn

theorem sub_convert_field (a b : Tri K) (ha : WF a) (hb : WF b) (hn : a.n = b.n) :
    ∃ c ma mb mc, Tri.sub' a b = .ok c ∧ Tri.convert a = .ok ma ∧ Tri.convert b = .ok mb ∧
      Tri.convert c = .ok mc ∧ Mat.sub ma mb = .ok mc :=
  sub_convert (sub_zero 0) a b ha hb hn

theorem neg_convert_field (t : Tri K) (h : WF t) :
    ∃ m mc, Tri.convert t = .ok m ∧ Tri.convert (Tri.neg t) = .ok mc ∧ Mat.neg m = .ok mc :=
  neg_convert neg_zero t h

theorem smul_convert_field (t : Tri K) (h : WF t) (s : K) :
    ∃ m mc, Tri.convert t = .ok m ∧ Tri.convert (Tri.smul t s) = .ok mc ∧
      Mat.smul m s = .ok mc :=
  smul_convert t h s (zero_mul s)

theorem sdiv_convert_field (t : Tri K) (h : WF t) (s : K) (hs : s ≠ 0) :
    ∃ c m mc, Tri.sdiv t s = .ok c ∧ Tri.convert t = .ok m ∧ Tri.convert c = .ok mc ∧
      Mat.sdiv m s = .ok mc :=
  sdiv_convert t h s (· / s) (fun _ => Alg.DivLaw.divM_ne _ _ hs) (zero_div s)

end Field

/-- the exact interpretation of the scalar interface at `ℂ`: `/` panics on an exact zero divisor
    and is field division otherwise (`Alg.scalarExtField ℂ`; `lt`, `mag` are never used by the
    tridiagonal model) -/
@[reducible] noncomputable def complexScalarExt : ScalarExt ℂ := Alg.scalarExtField ℂ

section Complex
attribute [local instance] complexScalarExt
open Finset

/-- (E, ℂ) complete description of `solve` over the complex numbers -/
theorem solve_char_complex (t : Tri ℂ) (h : WF t) (r : Array ℂ) (hr : t.n = r.size) :
    ((∀ j, j < t.n → pivot t j ≠ 0) ∧ ∃ u, solve t r = .ok u ∧ u.size = t.n ∧
        ∀ i, i < t.n → ∑ j ∈ range t.n, dense t i j * u[j]?.getD 0 = r[i]?.getD 0) ∨
    ((∃ j, j < t.n ∧ pivot t j = 0) ∧ solve t r = .error .zeroPivot) :=
  solve_char_field t h r hr

/-- (E, ℂ) **soundness of `solve` over ℂ**: a returned vector solves `dense t · u = r` exactly -/
theorem solve_sound_complex (t : Tri ℂ) (h : WF t) (r u : Array ℂ) (hu : solve t r = .ok u) :
    u.size = t.n ∧ ∀ i, i < t.n → ∑ j ∈ range t.n, dense t i j * u[j]?.getD 0 = r[i]?.getD 0 :=
  solve_sound_field t h r u hu

theorem solve_ok_iff_complex (t : Tri ℂ) (h : WF t) (r : Array ℂ) :
    (∃ u, solve t r = .ok u) ↔ t.n = r.size ∧ ∀ j, j < t.n → pivot t j ≠ 0 :=
  solve_ok_iff_field t h r

theorem det_correct_complex (t : Tri ℂ) (h : WF t) (d : ℂ) (hd : Tri.det t = .ok d) :
    d = Matrix.det (denseMatrix t) :=
  det_correct_field t h d hd


/-- [[i,1,0],[1,2,1],[0,1,1]] : the leading pivot `i` is not real -/
noncomputable def T3c : Tri ℂ := ⟨#[1, 1], #[Complex.I, 2, 1], #[1, 1], 3⟩
/-- [[i,1,0],[1,-i,1],[0,1,1]] : the second pivot `-i - 1/i` vanishes -/
noncomputable def Z3c : Tri ℂ := ⟨#[1, 1], #[Complex.I, -Complex.I, 1], #[1, 1], 3⟩

theorem T3c_wf : WF T3c := ⟨by decide, rfl, rfl, rfl⟩
theorem Z3c_wf : WF Z3c := ⟨by decide, rfl, rfl, rfl⟩

theorem T3c_pivots : ∀ j, j < T3c.n → pivot T3c j ≠ 0 := by
  intro j hj
  have hj' : j < 3 := hj
  have h0 : pivot T3c 0 = Complex.I := by simp [pivot, thBeta, T3c]
  have h1 : pivot T3c 1 = 2 + Complex.I := by
    rw [pivot_succ_field, h0]; simp [T3c]
  have h2 : pivot T3c 2 = 1 - 1 / (2 + Complex.I) := by
    rw [pivot_succ_field, h1]; simp [T3c]
  have hne : (2 : ℂ) + Complex.I ≠ 0 := by
    intro h; have := congrArg Complex.re h; simp at this
  obtain rfl | rfl | rfl : j = 0 ∨ j = 1 ∨ j = 2 := by omega
  · rw [h0]; exact Complex.I_ne_zero
  · rw [h1]; exact hne
  · rw [h2]
    intro h
    have h' : (2 : ℂ) + Complex.I = 1 := by
      field_simp at h
      linear_combination h
    have := congrArg Complex.im h'
    simp at this

/-- the hypotheses of `solve_sound_complex` are satisfiable with a non-real pivot -/
example : ∃ u, solve T3c #[1, Complex.I, 3] = .ok u :=
  (solve_ok_iff_complex T3c T3c_wf #[1, Complex.I, 3]).mpr ⟨rfl, T3c_pivots⟩

/-- the pivot planted at step 1: `-i - 1 · (1 / i) = 0` -/
theorem Z3c_pivot1 : pivot Z3c 1 = 0 := by
  rw [pivot_succ_field, pivot_zero_field]; simp [Z3c]

/-- a planted zero pivot at step 1 (the leading pivot `i` is non-zero) is refused -/
example : solve Z3c #[1, 2, 3] = .error .zeroPivot :=
  ((solve_refuses_field Z3c Z3c_wf #[1, 2, 3] rfl).1).mpr ⟨1, by decide, Z3c_pivot1⟩

example : Tri.det T3c = .ok (Complex.I - 1) := by
  rw [det_spec_field T3c T3c_wf]
  congr 1
  rw [denseMatrix_eq_triMatrix, triMatrix_det]
  show triDet _ _ _ 3 = _
  simp [triDet, T3c]; ring

end Complex

/-! ### the model's own complex type `Cx ℝ`

  What the driver executes for the element tag `c` is the tridiagonal model over `Cx K` with the
  model's complex operations (`Cx.add`, `Cx.mul`, …, `==` componentwise) and the model's complex
  division `Cx.div` (`Cx.instScalarExt`), which divides the two components by `c² + d²` with the
  division of `K`.  At `K = ℝ` (exact reals) the run of `solve` is mapped by `toC : Cx ℝ → ℂ` onto
  the run over Mathlib's `ℂ`, errors included, so the theorems of section `Complex` describe it. -/
section ModelCx
attribute [local instance] complexScalarExt
open Finset Ohsl.RealI Ohsl.Sim Ohsl.Props.C14 Ohsl.Props.C13

/-- `toC` commutes with every scalar operation the Thomas solver uses: `- * 0`, the test `== 0`,
    and the fallible division (`Cx.div` on the left, guarded field division on the right) -/
theorem toC_divHom : DivHom (toC : Cx ℝ → ℂ) where
  sub := toC_sub
  mul := toC_mul
  zero := toC_zero
  beq0 a := by
    rw [Bool.eq_iff_iff, beq_iff_eq, toC_beq a 0, toC_zero]
  div a b := by
    show divM (toC a) (toC b) = Except.map toC (Cx.div a b)
    rcases toC_div_total a b with ⟨hb, he⟩ | ⟨hb, q, hq, e⟩
    · rw [he, AlgF.divM_eq, if_pos hb]; rfl
    · rw [hq, AlgF.divM_eq, if_neg hb, ← e]; rfl

/-- **simulation of `solve`**: the run of the Thomas algorithm over the model's complex numbers
    `Cx ℝ` is mapped by `toC` onto the run over `ℂ` on the mapped data — same returned vector
    (entry by entry under `toC`), same panic class. No hypothesis on `t`, `r`. -/
theorem solve_toC (t : Tri (Cx ℝ)) (r : Array (Cx ℝ)) :
    solve (mapTri toC t) (r.map toC) = Except.map (Array.map toC) (solve t r) :=
  solve_map toC_divHom t r

theorem solve_toC_ok (t : Tri (Cx ℝ)) (r x : Array (Cx ℝ)) (h : solve t r = .ok x) :
    solve (mapTri toC t) (r.map toC) = .ok (x.map toC) := by
  rw [solve_toC, h]; rfl

theorem solve_toC_error (t : Tri (Cx ℝ)) (r : Array (Cx ℝ)) (e : Err) :
    solve t r = .error e ↔ solve (mapTri toC t) (r.map toC) = .error e := by
  rw [solve_toC]
  exact (Res.map_eq_error_iff _ _ e).symm

theorem solve_toC_ok_iff (t : Tri (Cx ℝ)) (r : Array (Cx ℝ)) :
    (∃ x, solve t r = .ok x) ↔ ∃ y, solve (mapTri toC t) (r.map toC) = .ok y := by
  rw [solve_toC]
  exact ⟨fun ⟨x, h⟩ => ⟨_, (Res.map_eq_ok_iff _ _ _).2 ⟨x, h, rfl⟩⟩,
    fun ⟨y, h⟩ => ((Res.map_eq_ok_iff _ _ y).1 h).imp fun _ hx => hx.1⟩

theorem mapTri_wf {K L : Type} (f : K → L) (t : Tri K) (h : WF t) : WF (mapTri f t) :=
  ⟨h.pos, by simp [mapTri, h.main], by simp [mapTri, h.sub], by simp [mapTri, h.sup]⟩

theorem dense_mapTri (t : Tri (Cx ℝ)) (i j : Nat) : dense (mapTri toC t) i j = toC (dense t i j) := by
  rw [dense_eq_triEntry t, triEntry_map toC toC_zero]
  simp only [dense_eq_triEntry, mapTri, getD?_map_total toC toC_zero]

/-- the pivots of the run over `Cx ℝ`, read in `ℂ` -/
noncomputable def pivotC (t : Tri (Cx ℝ)) (j : Nat) : ℂ := pivot (mapTri toC t) j

theorem pivotC_zero (t : Tri (Cx ℝ)) : pivotC t 0 = toC (t.main[0]?.getD 0) := by
  unfold pivotC
  rw [pivot_zero_field]
  exact getD?_map_total toC toC_zero _ _

theorem pivotC_succ (t : Tri (Cx ℝ)) (j : Nat) :
    pivotC t (j + 1) = toC (t.main[j + 1]?.getD 0)
      - toC (t.sub[j]?.getD 0) * (toC (t.sup[j]?.getD 0) / pivotC t j) := by
  unfold pivotC
  rw [pivot_succ_field]
  simp only [mapTri_main, mapTri_sub, mapTri_sup, getD?_map_total toC toC_zero]

/-- (E, `Cx ℝ`) **soundness of `solve` as the driver runs it for complex entries**: whenever the
    call over the model's complex numbers returns `u`, it has length n and `dense t · u = r`
    holds exactly in `ℂ`, row by row. -/
theorem solve_sound_cx (t : Tri (Cx ℝ)) (h : WF t) (r u : Array (Cx ℝ)) (hu : solve t r = .ok u) :
    u.size = t.n ∧ ∀ i, i < t.n →
      ∑ j ∈ range t.n, toC (dense t i j) * toC (u[j]?.getD 0) = toC (r[i]?.getD 0) := by
  obtain ⟨hs, hrow⟩ := solve_sound_complex _ (mapTri_wf toC t h) _ _ (solve_toC_ok t r u hu)
  refine ⟨by simpa using hs, fun i hi => ?_⟩
  have := hrow i hi
  simp only [getD?_map_total toC toC_zero, dense_mapTri] at this
  exact this

/-- (E, `Cx ℝ`) **`solve` refuses rather than lies** over the model's complex numbers: for a
    right-hand side of the right length, `zeroPivot` is returned exactly when a pivot vanishes,
    and then no value is returned. -/
theorem solve_refuses_cx (t : Tri (Cx ℝ)) (h : WF t) (r : Array (Cx ℝ)) (hr : t.n = r.size) :
    (solve t r = .error .zeroPivot ↔ ∃ j, j < t.n ∧ pivotC t j = 0) ∧
    ((∃ j, j < t.n ∧ pivotC t j = 0) → ∀ u, solve t r ≠ .ok u) := by
  obtain ⟨h1, h2⟩ := solve_refuses_field _ (mapTri_wf toC t h) (r.map toC) (by simpa using hr)
  refine ⟨(solve_toC_error t r _).trans h1, fun hz u hu => ?_⟩
  exact h2 hz _ (solve_toC_ok t r u hu)

/-- (E, `Cx ℝ`) a value is returned exactly when the lengths agree and no pivot vanishes -/
theorem solve_ok_iff_cx (t : Tri (Cx ℝ)) (h : WF t) (r : Array (Cx ℝ)) :
    (∃ u, solve t r = .ok u) ↔ t.n = r.size ∧ ∀ j, j < t.n → pivotC t j ≠ 0 := by
  rw [solve_toC_ok_iff, solve_ok_iff_complex _ (mapTri_wf toC t h)]
  simp [mapTri, pivotC]

/-- (E, `Cx ℝ`) the only panic classes are the two explicit refusals -/
theorem solve_error_class_cx (t : Tri (Cx ℝ)) (h : WF t) (r : Array (Cx ℝ)) (e : Err)
    (he : solve t r = .error e) : e = .zeroPivot ∨ e = .size :=
  solve_error_class_field _ (mapTri_wf toC t h) _ e ((solve_toC_error t r e).mp he)

theorem denseMatrix_mapTri (t : Tri (Cx ℝ)) :
    denseMatrix (mapTri toC t)
      = @RingHom.mapMatrix _ _ _ _ _ CxField.field.toNonAssocSemiring _ CxField.toCHom
          (@denseMatrix (Cx ℝ) CxField.field t) := by
  ext i j
  exact dense_mapTri t i.val j.val

/-- (E, `Cx ℝ`) `det` succeeds and is the determinant (in `ℂ`) of the dense twin: `det_spec_field`
    at the field `Cx ℝ` (`CxField.field`), read in `ℂ` by `RingHom.map_det` -/
theorem det_spec_cx (t : Tri (Cx ℝ)) (h : WF t) :
    ∃ d, Tri.det t = .ok d ∧ toC d = Matrix.det (denseMatrix (mapTri toC t)) :=
  ⟨_, @det_spec_field (Cx ℝ) CxField.field _ _ t h, by
    rw [denseMatrix_mapTri]
    let _ := CxField.field
    exact RingHom.map_det CxField.toCHom (denseMatrix t)⟩

/-- (E, `Cx ℝ`) `&T * &v` succeeds and is the dense twin times the vector (in `ℂ`):
    `mulVec_spec_field` at the field `Cx ℝ` -/
theorem mulVec_spec_cx (t : Tri (Cx ℝ)) (h : WF t) (v : Array (Cx ℝ)) (hv : v.size = t.n) :
    ∃ w, mulVec t v = .ok w ∧ w.size = t.n ∧ ∀ i, i < t.n →
      toC (w[i]?.getD 0) = ∑ j ∈ range t.n, toC (dense t i j) * toC (v[j]?.getD 0) := by
  obtain ⟨w, hw, hs, hr⟩ := @mulVec_spec_field (Cx ℝ) CxField.field _ _ _ t h v hv
  refine ⟨w, hw, hs, fun i hi => ?_⟩
  rw [hr i hi, Option.getD_some]
  let _ := CxField.field
  exact (map_sum CxField.toCHom.toAddMonoidHom _ _).trans
    (Finset.sum_congr rfl fun j _ => toC_mul _ _)


/-- [[i,1,0],[1,2,1],[0,1,1]] in the model's complex numbers -/
noncomputable def T3x : Tri (Cx ℝ) :=
  ⟨#[⟨1, 0⟩, ⟨1, 0⟩], #[⟨0, 1⟩, ⟨2, 0⟩, ⟨1, 0⟩], #[⟨1, 0⟩, ⟨1, 0⟩], 3⟩
/-- [[i,1,0],[1,-i,1],[0,1,1]] in the model's complex numbers -/
noncomputable def Z3x : Tri (Cx ℝ) :=
  ⟨#[⟨1, 0⟩, ⟨1, 0⟩], #[⟨0, 1⟩, ⟨0, -1⟩, ⟨1, 0⟩], #[⟨1, 0⟩, ⟨1, 0⟩], 3⟩

theorem T3x_wf : WF T3x := ⟨by decide, rfl, rfl, rfl⟩
theorem Z3x_wf : WF Z3x := ⟨by decide, rfl, rfl, rfl⟩

theorem T3x_toC : mapTri toC T3x = T3c := by
  have e1 : toC ⟨1, 0⟩ = 1 := rfl
  have e2 : toC ⟨0, 1⟩ = Complex.I := rfl
  have e3 : toC ⟨2, 0⟩ = 2 := rfl
  simp [mapTri, T3x, T3c, e1, e2, e3]

theorem Z3x_toC : mapTri toC Z3x = Z3c := by
  have e1 : toC ⟨1, 0⟩ = 1 := rfl
  have e2 : toC ⟨0, 1⟩ = Complex.I := rfl
  have e3 : toC ⟨0, -1⟩ = -Complex.I := Complex.ext neg_zero.symm rfl
  simp [mapTri, Z3x, Z3c, e1, e2, e3]

/-- the run over the model's complex numbers returns a value on a system with a non-real pivot
    (so the hypothesis of `solve_sound_cx` is satisfiable) -/
example : ∃ u, solve T3x #[⟨1, 0⟩, ⟨0, 1⟩, ⟨3, 0⟩] = .ok u :=
  (solve_ok_iff_cx T3x T3x_wf _).mpr ⟨rfl, by
    intro j hj
    unfold pivotC
    rw [T3x_toC]
    exact T3c_pivots j hj⟩

/-- … and refuses the planted zero pivot -/
example : solve Z3x #[⟨1, 0⟩, ⟨2, 0⟩, ⟨3, 0⟩] = .error .zeroPivot :=
  ((solve_refuses_cx Z3x Z3x_wf _ rfl).1).mpr ⟨1, by decide, by
    unfold pivotC
    rw [Z3x_toC]
    exact Z3c_pivot1⟩

end ModelCx

end Ohsl.Props.C05
