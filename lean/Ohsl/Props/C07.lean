/-
  Property C07 — sparse products (model: Ohsl/Model/Sparse.lean).
  Proved here, class (S): `multiply` / `transpose_multiply` reject vectors whose length differs from
  the number of columns / rows (`multiply_rejects`, `transposeMultiply_rejects`); the matrix without
  columns: `multiply_no_columns`.  The ordered-fold form of both products (class S: `multiply_fold`,
  `transposeMultiply_fold`) stands in Ohsl/Lemmas/SparseFlat.lean.
-/
import Ohsl.Model.Sparse
namespace Ohsl.Props.C07
open Ohsl Ohsl.Sp

section Rejects
variable {K : Type} [Add K] [Mul K] [Zero K]

theorem multiply_rejects (s : Sp K) (x : Array K) (h : s.cols ≠ x.size) : multiply s x = .error .size := by
  simp [multiply, h]

theorem transposeMultiply_rejects (s : Sp K) (x : Array K) (h : s.rows ≠ x.size) :
    transposeMultiply s x = .error .size := by simp [transposeMultiply, h]

end Rejects

variable {K : Type} [Add K] [Sub K] [Mul K] [Neg K] [Zero K] [One K] [BEq K] [ScalarExt K]

set_option linter.unusedSectionVars false in
/-- the product of the empty (0-column) matrix is the zero vector of length `rows` -/
theorem multiply_no_columns (s : Sp K) (x : Array K) (hc : s.cols = 0) (hx : x.size = 0) :
    multiply s x = .ok (Array.replicate s.rows 0) := by
  simp [multiply, hc, hx, Mat.forM', pure, Except.pure]

end Ohsl.Props.C07
