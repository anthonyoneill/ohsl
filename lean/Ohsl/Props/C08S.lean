/-
  Property C08 (part S) — the STORAGE GUARD of `Sp.solveIter` is justified.

  `Sp.solveIter` (Ohsl/Model/KrylovSp.lean) tests `Sp.multiply s x0` once, propagates its error (the
  Rust code panics inside `multiply` on inconsistent public storage arrays), and then iterates with
  the TOTAL products of `Sp.arrOps` (`A v := match Sp.multiply s v with | .ok r => r | .error _ => #[]`,
  likewise `At` with `Sp.transposeMultiply`).  The comment there claims that whether a product of `s`
  with a vector of the right length panics depends on `s` alone, so that the one test stands for every
  product of the run.  This file proves that claim.  Class (S): any scalar type, arbitrary operations
  (hence also `Float`); no algebraic law, no well-formedness of the storage.

  The index check.  `Sp.storageCheck s : Res Unit` (Ohsl/Lemmas/C08S.lean) runs the loops of the two
  products with every value removed; it is a function of `rows, cols, col_start, row_index, len(val)`
  only.  Both products have its outcome: `multiply_storageCheck`, `transposeMultiply_storageCheck`.
  (1) whether `multiply` panics depends on `s` alone: `multiply_outcome_storage`,
      `multiply_error_class`;
  (2) the same for `transpose_multiply`: `transposeMultiply_outcome_storage`,
      `transposeMultiply_error_class`; the two products succeed and fail together:
      `mul_tmul_outcome`, `mul_tmul_outcome_square`;
  (3) the one test stands for every product of the run: `solveIter_products_total`, `SqMul.of_sqwf`,
      `subOpsM_A_checked`, `subOpsM_At_checked`, `solveIter_run_checked`, `solveIter_out_size`.  The
      solver model is polymorphic in the vector type and reaches the matrix only through `o.A`,
      `o.At`; run over the arrays of size `n` (`SqArr K n`, operations `subOpsM`) it forms every
      product with an argument of size `n` BY TYPE, so every product succeeds: the fallback `#[]` of
      `arrOps` is never taken.
-/
import Ohsl.Props.C08K
import Ohsl.Lemmas.C08S
namespace Ohsl.Props.C08
open Ohsl Ohsl.Krylov Ohsl.Sp

section Index
variable {K K' : Type}

/-- two storages (possibly over different scalar types) with the same index structure -/
def SameIndex (s : Sp K) (s' : Sp K') : Prop :=
  s'.rows = s.rows ∧ s'.cols = s.cols ∧ s'.colStart = s.colStart ∧ s'.rowIndex = s.rowIndex ∧
    s'.val.size = s.val.size

theorem SameIndex.refl (s : Sp K) : SameIndex s s := ⟨rfl, rfl, rfl, rfl, rfl⟩

theorem storageCheck_congr {s : Sp K} {s' : Sp K'} (h : SameIndex s s') :
    Sp.storageCheck s' = Sp.storageCheck s := by
  obtain ⟨h1, h2, h3, h4, h5⟩ := h
  unfold Sp.storageCheck
  rw [h1, h2, h3, h4, h5]

end Index

section Outcome
variable {K K' : Type} [Add K] [Mul K] [Zero K] [Add K'] [Mul K'] [Zero K']

/-- `multiply` with an argument of the right length: forget the value, and what is left is the
    index check of the storage -/
theorem multiply_storageCheck (s : Sp K) (x : Array K) (hx : x.size = s.cols) :
    (Sp.multiply s x).map (fun _ => ()) = Sp.storageCheck s :=
  (Sp.multiply_sim s x hx).map_unit

/-- `transpose_multiply` with an argument of the right length: the SAME index check -/
theorem transposeMultiply_storageCheck (s : Sp K) (y : Array K) (hy : y.size = s.rows) :
    (Sp.transposeMultiply s y).map (fun _ => ()) = Sp.storageCheck s :=
  (Sp.transposeMultiply_sim s y hy).map_unit

theorem multiply_ok_iff_check (s : Sp K) (x : Array K) (hx : x.size = s.cols) :
    (∃ r, Sp.multiply s x = .ok r) ↔ Sp.storageCheck s = .ok () := by
  rw [(Sp.multiply_sim s x hx).ok_iff]
  exact ⟨fun ⟨u, h⟩ => h, fun h => ⟨(), h⟩⟩

theorem multiply_error_iff_check (s : Sp K) (x : Array K) (hx : x.size = s.cols) (e : Err) :
    Sp.multiply s x = .error e ↔ Sp.storageCheck s = .error e :=
  (Sp.multiply_sim s x hx).error_iff e

theorem transposeMultiply_ok_iff_check (s : Sp K) (y : Array K) (hy : y.size = s.rows) :
    (∃ r, Sp.transposeMultiply s y = .ok r) ↔ Sp.storageCheck s = .ok () := by
  rw [(Sp.transposeMultiply_sim s y hy).ok_iff]
  exact ⟨fun ⟨u, h⟩ => h, fun h => ⟨(), h⟩⟩

theorem transposeMultiply_error_iff_check (s : Sp K) (y : Array K) (hy : y.size = s.rows) (e : Err) :
    Sp.transposeMultiply s y = .error e ↔ Sp.storageCheck s = .error e :=
  (Sp.transposeMultiply_sim s y hy).error_iff e

/-- **the outcome of `multiply` depends on the index structure alone** — across scalar types: for
    storages with the same `rows, cols, col_start, row_index, len(val)` and arguments of the right
    length, one product succeeds iff the other does, and they fail with the same class -/
theorem multiply_outcome_index (s : Sp K) (s' : Sp K') (h : SameIndex s s') (x : Array K)
    (x' : Array K') (hx : x.size = s.cols) (hx' : x'.size = s'.cols) :
    ((∃ r, Sp.multiply s x = .ok r) ↔ (∃ r', Sp.multiply s' x' = .ok r')) ∧
    ∀ e, Sp.multiply s x = .error e ↔ Sp.multiply s' x' = .error e := by
  refine ⟨?_, fun e => ?_⟩
  · rw [multiply_ok_iff_check s x hx, multiply_ok_iff_check s' x' hx', storageCheck_congr h]
  · rw [multiply_error_iff_check s x hx, multiply_error_iff_check s' x' hx', storageCheck_congr h]

/-- **(1)** for two vectors of the right length, `multiply s x` succeeds iff `multiply s x'` does,
    and they fail with the same class: whether the product panics depends on `s` alone -/
theorem multiply_outcome_storage (s : Sp K) (x x' : Array K) (hx : x.size = s.cols)
    (hx' : x'.size = s.cols) :
    ((∃ r, Sp.multiply s x = .ok r) ↔ (∃ r', Sp.multiply s x' = .ok r')) ∧
    ∀ e, Sp.multiply s x = .error e ↔ Sp.multiply s x' = .error e :=
  multiply_outcome_index s s (SameIndex.refl s) x x' hx hx'

/-- with an argument of the right length the only panic class of `multiply` is `range` -/
theorem multiply_error_class (s : Sp K) (x : Array K) (hx : x.size = s.cols) (e : Err)
    (h : Sp.multiply s x = .error e) : e = .range :=
  Sp.storageCheck_error s e ((multiply_error_iff_check s x hx e).1 h)

theorem multiply_ok_size (s : Sp K) (x r : Array K) (h : Sp.multiply s x = .ok r) :
    r.size = s.rows := by
  by_cases hx : x.size = s.cols
  · cases hc : Sp.storageCheck s with
    | error e =>
      rw [← multiply_error_iff_check s x hx e, h] at hc
      cases hc
    | ok u => exact (Sp.multiply_sim s x hx).ok_rel h hc
  · have : s.cols ≠ x.size := fun h => hx h.symm
    simp [Sp.multiply, this] at h

theorem transposeMultiply_outcome_index (s : Sp K) (s' : Sp K') (h : SameIndex s s') (y : Array K)
    (y' : Array K') (hy : y.size = s.rows) (hy' : y'.size = s'.rows) :
    ((∃ r, Sp.transposeMultiply s y = .ok r) ↔ (∃ r', Sp.transposeMultiply s' y' = .ok r')) ∧
    ∀ e, Sp.transposeMultiply s y = .error e ↔ Sp.transposeMultiply s' y' = .error e := by
  refine ⟨?_, fun e => ?_⟩
  · rw [transposeMultiply_ok_iff_check s y hy, transposeMultiply_ok_iff_check s' y' hy',
      storageCheck_congr h]
  · rw [transposeMultiply_error_iff_check s y hy, transposeMultiply_error_iff_check s' y' hy',
      storageCheck_congr h]

/-- **(2)** whether `transpose_multiply` panics on a vector of the right length depends on `s`
    alone -/
theorem transposeMultiply_outcome_storage (s : Sp K) (y y' : Array K) (hy : y.size = s.rows)
    (hy' : y'.size = s.rows) :
    ((∃ r, Sp.transposeMultiply s y = .ok r) ↔ (∃ r', Sp.transposeMultiply s y' = .ok r')) ∧
    ∀ e, Sp.transposeMultiply s y = .error e ↔ Sp.transposeMultiply s y' = .error e :=
  transposeMultiply_outcome_index s s (SameIndex.refl s) y y' hy hy'

theorem transposeMultiply_error_class (s : Sp K) (y : Array K) (hy : y.size = s.rows) (e : Err)
    (h : Sp.transposeMultiply s y = .error e) : e = .range :=
  Sp.storageCheck_error s e ((transposeMultiply_error_iff_check s y hy e).1 h)

theorem transposeMultiply_ok_size (s : Sp K) (y r : Array K)
    (h : Sp.transposeMultiply s y = .ok r) : r.size = s.cols := by
  by_cases hy : y.size = s.rows
  · cases hc : Sp.storageCheck s with
    | error e =>
      rw [← transposeMultiply_error_iff_check s y hy e, h] at hc
      cases hc
    | ok u => exact (Sp.transposeMultiply_sim s y hy).ok_rel h hc
  · have : s.rows ≠ y.size := fun h => hy h.symm
    simp [Sp.transposeMultiply, this] at h

/-- **(2)** `multiply` and `transpose_multiply` (arguments of the right lengths) succeed together
    and fail together, with the SAME error class.  (They perform the same reads `col_start[j]`,
    `col_start[j+1]`, `row_index[k]`, `val[k]` and the same row bound `row_index[k] < rows`; the order
    of `row_index[k]` and `val[k]` differs, but every failure is a slice index out of bounds, class
    `range`: `multiply_error_class`.)  No squareness needed. -/
theorem mul_tmul_outcome (s : Sp K) (x y : Array K) (hx : x.size = s.cols) (hy : y.size = s.rows) :
    ((∃ r, Sp.multiply s x = .ok r) ↔ (∃ r', Sp.transposeMultiply s y = .ok r')) ∧
    ∀ e, Sp.multiply s x = .error e ↔ Sp.transposeMultiply s y = .error e := by
  refine ⟨?_, fun e => ?_⟩
  · rw [multiply_ok_iff_check s x hx, transposeMultiply_ok_iff_check s y hy]
  · rw [multiply_error_iff_check s x hx, transposeMultiply_error_iff_check s y hy]

/-- the square case the solvers are in: one vector `v` of size `rows = cols` for both products -/
theorem mul_tmul_outcome_square (s : Sp K) (h : s.rows = s.cols) (v w : Array K)
    (hv : v.size = s.rows) (hw : w.size = s.rows) :
    ((∃ r, Sp.multiply s v = .ok r) ↔ (∃ r', Sp.transposeMultiply s w = .ok r')) ∧
    ∀ e, Sp.multiply s v = .error e ↔ Sp.transposeMultiply s w = .error e :=
  mul_tmul_outcome s v w (hv.trans h) hw

theorem multipliable_iff_check (s : Sp K) (x0 : Array K) (hx : x0.size = s.cols) :
    Multipliable s x0 ↔ Sp.storageCheck s = .ok () :=
  multiply_ok_iff_check s x0 hx

end Outcome

section Square
variable {K : Type} [Add K] [Mul K] [Zero K]

/-- `s` is square of order `n` and passes the index check: all that the guards of `solveIter` and
    its one test product establish (`SqMul.of_guards`).  Weaker than C08C's `SqWF` (`SqMul.of_sqwf`):
    nothing is said about `col_start` being monotone, about `nonzero`, or about unused slots. -/
structure SqMul (s : Sp K) (n : Nat) : Prop where
  rows : s.rows = n
  cols : s.cols = n
  check : Sp.storageCheck s = .ok ()

theorem SqMul.multiply_ok {s : Sp K} {n : Nat} (h : SqMul s n) (v : Array K) (hv : v.size = n) :
    ∃ r, Sp.multiply s v = .ok r ∧ r.size = n := by
  obtain ⟨r, hr⟩ := (multiply_ok_iff_check s v (hv.trans h.cols.symm)).2 h.check
  exact ⟨r, hr, (multiply_ok_size s v r hr).trans h.rows⟩

theorem SqMul.transposeMultiply_ok {s : Sp K} {n : Nat} (h : SqMul s n) (v : Array K)
    (hv : v.size = n) : ∃ r, Sp.transposeMultiply s v = .ok r ∧ r.size = n := by
  obtain ⟨r, hr⟩ := (transposeMultiply_ok_iff_check s v (hv.trans h.rows.symm)).2 h.check
  exact ⟨r, hr, (transposeMultiply_ok_size s v r hr).trans h.cols⟩

end Square

section Total
variable {K : Type} [Add K] [Sub K] [Mul K] [Div K] [Zero K]

set_option linter.unusedSectionVars false in
/-- what the guards of `solveIter` and its test product establish; the statement of
    `solveIter_run_checked` names this lemma with all its instance arguments -/
theorem SqMul.of_guards {s : Sp K} {m : Method} {b x0 : Array K} (g : Guards s m b x0)
    (hm : Multipliable s x0) : SqMul s s.rows := by
  obtain ⟨h1, h2, h3, _⟩ := g
  exact ⟨rfl, h2.symm, (multipliable_iff_check s x0 (by omega)).1 hm⟩

set_option linter.unusedSectionVars false in
/-- a well-formed square storage passes the index check -/
theorem SqMul.of_sqwf {s : Sp K} {n : Nat} (h : SqWF s n) : SqMul s n := by
  refine ⟨h.rows, h.cols, ?_⟩
  obtain ⟨y, hy, _⟩ := C07.multiply_fold h.wf (Array.replicate s.cols (0 : K)) (by simp)
  exact (multiply_ok_iff_check s _ (by simp)).1 ⟨y, hy⟩

theorem SqMul.arrA {s : Sp K} {n : Nat} (h : SqMul s n) (norm2 : Array K → K) (v : Array K)
    (hv : v.size = n) :
    Sp.multiply s v = .ok ((arrOps s n norm2).A v) ∧ ((arrOps s n norm2).A v).size = n := by
  obtain ⟨r, h1, h2⟩ := h.multiply_ok v hv
  have e : (arrOps s n norm2).A v = r := by
    show (match Sp.multiply s v with | .ok r => r | .error _ => #[]) = r
    rw [h1]
  rw [e]
  exact ⟨h1, h2⟩

theorem SqMul.arrAt {s : Sp K} {n : Nat} (h : SqMul s n) (norm2 : Array K → K) (v : Array K)
    (hv : v.size = n) :
    Sp.transposeMultiply s v = .ok ((arrOps s n norm2).At v) ∧
      ((arrOps s n norm2).At v).size = n := by
  obtain ⟨r, h1, h2⟩ := h.transposeMultiply_ok v hv
  have e : (arrOps s n norm2).At v = r := by
    show (match Sp.transposeMultiply s v with | .ok r => r | .error _ => #[]) = r
    rw [h1]
  rw [e]
  exact ⟨h1, h2⟩

/-- **(3)** under the guards of `solveIter` and `Multipliable s x0`, every product the run can form
    — `multiply` and `transpose_multiply` of `s` with ANY vector `v` of size `s.rows` — succeeds, the
    result has size `s.rows` again, and the total products of `Sp.arrOps` coincide with the checked
    ones: the one test of `solveIter` stands for every product of the run -/
theorem solveIter_products_total (s : Sp K) (m : Method) (b x0 : Array K) (norm2 : Array K → K)
    (g : Guards s m b x0) (hm : Multipliable s x0) (v : Array K) (hv : v.size = s.rows) :
    (∃ r, Sp.multiply s v = .ok r ∧ r.size = s.rows ∧ (Sp.arrOps s s.rows norm2).A v = r) ∧
    (∃ r, Sp.transposeMultiply s v = .ok r ∧ r.size = s.rows ∧
      (Sp.arrOps s s.rows norm2).At v = r) := by
  have h := SqMul.of_guards g hm
  exact ⟨⟨_, (h.arrA norm2 v hv).1, (h.arrA norm2 v hv).2, rfl⟩,
    ⟨_, (h.arrAt norm2 v hv).1, (h.arrAt norm2 v hv).2, rfl⟩⟩

/-- the operations of `arrOps` restricted to the arrays of size `n` — C08C's `subOpsS` for a
    storage that merely passes the index check -/
def subOpsM {s : Sp K} {n : Nat} (h : SqMul s n) (norm2 : Array K → K) : VOps K (SqArr K n) where
  add a b := ⟨(arrOps s n norm2).add a.1 b.1, by simp [arrOps, a.2, b.2]⟩
  sub a b := ⟨(arrOps s n norm2).sub a.1 b.1, by simp [arrOps, a.2, b.2]⟩
  smul v k := ⟨(arrOps s n norm2).smul v.1 k, by simp [arrOps, v.2]⟩
  lsmul k v := ⟨(arrOps s n norm2).lsmul k v.1, by simp [arrOps, v.2]⟩
  sdiv v k := ⟨(arrOps s n norm2).sdiv v.1 k, by simp [arrOps, v.2]⟩
  dot a b := (arrOps s n norm2).dot a.1 b.1
  norm2 a := norm2 a.1
  zero := ⟨(arrOps s n norm2).zero, by simp [arrOps]⟩
  A v := ⟨(arrOps s n norm2).A v.1, (h.arrA norm2 v.1 v.2).2⟩
  At v := ⟨(arrOps s n norm2).At v.1, (h.arrAt norm2 v.1 v.2).2⟩

theorem valHomM {s : Sp K} {n : Nat} (h : SqMul s n) (norm2 : Array K → K) :
    VHom (subOpsM h norm2) (arrOps s n norm2) Subtype.val :=
  ⟨fun _ _ => rfl, fun _ _ => rfl, fun _ _ => rfl, fun _ _ => rfl, fun _ _ => rfl, fun _ _ => rfl,
    fun _ => rfl, rfl, fun _ => rfl, fun _ => rfl⟩

/-- in `subOpsM` every product IS the value of the successful checked product: no error is hidden -/
theorem subOpsM_A_checked {s : Sp K} {n : Nat} (h : SqMul s n) (norm2 : Array K → K)
    (v : SqArr K n) : Sp.multiply s v.1 = .ok ((subOpsM h norm2).A v).1 :=
  (h.arrA norm2 v.1 v.2).1

theorem subOpsM_At_checked {s : Sp K} {n : Nat} (h : SqMul s n) (norm2 : Array K → K)
    (v : SqArr K n) : Sp.transposeMultiply s v.1 = .ok ((subOpsM h norm2).At v).1 :=
  (h.arrAt norm2 v.1 v.2).1

end Total

section Run
variable {K : Type}
variable [Add K] [Sub K] [Mul K] [Neg K] [Div K] [Zero K] [One K] [BEq K] [ScalarExt K] [Transc K]

set_option linter.unusedSectionVars false in
/-- **the model's run never hides a product error** (all four methods).  When the guards pass and
    the test product `A x0` succeeds, the value of `solveIter` — computed with the TOTAL products of
    `Sp.arrOps` on arbitrary arrays — is the image of the run over the arrays of size `n = s.rows`
    with the operations `subOpsM`, in which every product is applied to a vector of size `n` (by
    type) and is the value of the successful checked product (`subOpsM_A_checked`,
    `subOpsM_At_checked`).  So every vector of the run has size `n`, every product of the run
    succeeds, and the fallback `#[]` of `arrOps` is never taken. -/
theorem solveIter_run_checked (s : Sp K) (m : Method) (b x0 : Array K) (maxIter : Nat) (tol : K)
    (norm2 : Array K → K) (g : Guards s m b x0) (hm : Multipliable s x0) :
    solveIter s m b x0 maxIter tol norm2 =
      .ok (mapOut Subtype.val (runOn (subOpsM (SqMul.of_guards g hm) norm2) m
        (⟨b, g.1.symm⟩ : SqArr K s.rows) (⟨x0, g.2.2.1.symm.trans g.1.symm⟩ : SqArr K s.rows)
        maxIter tol)) := by
  rw [solveIter_ok s m b x0 maxIter tol norm2 g hm]
  congr 1
  exact runOn_hom (valHomM (SqMul.of_guards g hm) norm2) m
    (⟨b, g.1.symm⟩ : SqArr K s.rows) (⟨x0, g.2.2.1.symm.trans g.1.symm⟩ : SqArr K s.rows) maxIter tol

/-- whatever a method returns has `s.rows` entries -/
theorem solveIter_out_size (s : Sp K) (m : Method) (b x0 : Array K) (maxIter : Nat) (tol : K)
    (norm2 : Array K → K) (out : KOut K (Array K))
    (h : solveIter s m b x0 maxIter tol norm2 = .ok out) : out.x.size = s.rows := by
  obtain ⟨g, hm⟩ := (solveIter_ok_iff s m b x0 maxIter tol norm2).1 ⟨out, h⟩
  rw [solveIter_run_checked s m b x0 maxIter tol norm2 g hm] at h
  cases h
  exact (runOn (subOpsM (SqMul.of_guards g hm) norm2) m
    (⟨b, g.1.symm⟩ : SqArr K s.rows) (⟨x0, g.2.2.1.symm.trans g.1.symm⟩ : SqArr K s.rows)
    maxIter tol).x.2

end Run

section Examples

/-- row index 5 in a matrix with 2 rows (public fields, `from_vecs` validates nothing) -/
def badSp : Sp Int := ⟨2, 2, 1, #[1], #[5], #[0, 1, 1]⟩

/-- the SPD matrix `[[2,1],[1,2]]`, well formed -/
def goodSp : Sp Int := ⟨2, 2, 4, #[2, 1, 1, 2], #[0, 1, 0, 1], #[0, 2, 4]⟩

/-- `col_start` does not start at 0 and is not monotone (not a well-formed storage: both column
    ranges `1..0`, `0..0` are empty), yet no read is out of bounds -/
def oddSp : Sp Int := ⟨2, 2, 0, #[], #[], #[1, 0, 0]⟩

/-- on the inconsistent storage both products fail — class `range` — for EVERY vector of size 2 -/
example (v : Array Int) (hv : v.size = 2) :
    Sp.multiply badSp v = .error .range ∧ Sp.transposeMultiply badSp v = .error .range :=
  ⟨(multiply_error_iff_check badSp v hv .range).2 rfl,
    (transposeMultiply_error_iff_check badSp v hv .range).2 rfl⟩

/-- on the well-formed storage both succeed for every vector of size 2 -/
example (v : Array Int) (hv : v.size = 2) :
    (∃ r, Sp.multiply goodSp v = .ok r) ∧ (∃ r, Sp.transposeMultiply goodSp v = .ok r) :=
  ⟨(multiply_ok_iff_check goodSp v hv).2 rfl, (transposeMultiply_ok_iff_check goodSp v hv).2 rfl⟩

/-- `SqMul` is satisfiable, also by a storage that is not well formed -/
example : SqMul goodSp 2 ∧ SqMul oddSp 2 := ⟨⟨rfl, rfl, rfl⟩, ⟨rfl, rfl, rfl⟩⟩

/-- the hypotheses of `solveIter_products_total` / `solveIter_run_checked` are satisfiable (`Float`) -/
example : Guards (⟨2, 2, 4, #[2, 1, 1, 2], #[0, 1, 0, 1], #[0, 2, 4]⟩ : Sp Float) .qmr #[1, -1] #[0, 0] ∧
    Multipliable (⟨2, 2, 4, #[2, 1, 1, 2], #[0, 1, 0, 1], #[0, 2, 4]⟩ : Sp Float) #[0, 0] :=
  ⟨⟨rfl, rfl, by decide, fun _ h => by cases h⟩, ⟨_, rfl⟩⟩

end Examples

end Ohsl.Props.C08

