/-
  Property C03 — dense matrix algebra / editing follow their definitions for every shape.
  Theorems about the model `Ohsl.Mat` (Ohsl/Model/Mat.lean).

  (S) statements hold for ANY scalar type with arbitrary operations (so also for f64);
  (E) statements identify the ordered sums with the textbook definition over a semiring.
  Proved in this file: storage lemmas, set_col (incl. the range check against the number of columns
  and the frame condition), matrix·vector, matrix·matrix for every conformable shape.  The remaining
  operations (transpose, fills, resize, delete_row, swap_rows, elementwise ops) and histories are in
  C03M; norms in C03N; accessors, Σ-forms, sdiv and the extended history refinement in C03G; rounding
  in C03F and, for `norm_p` / `norm_frob`, in C03P.
-/
import Ohsl.Lemmas.MatSpec
import Ohsl.Lemmas.Alg
import Ohsl.Lemmas.DotSum
import Mathlib.Algebra.BigOperators.Group.Finset.Basic
import Mathlib.Algebra.BigOperators.Ring.Finset

namespace Ohsl.Props.C03
open Ohsl Ohsl.Mat

section Storage
variable {K : Type}

/-- element (i,j) lives at `i*cols + j`: in range and injective for `i < rows`, `j < cols` -/
theorem row_major (r c i j i' j' : Nat) (hi : i < r) (hj : j < c) (hj' : j' < c) :
    i * c + j < r * c ∧ (i * c + j = i' * c + j' → i = i' ∧ j = j') :=
  ⟨idx_lt hi hj, idx_inj hj hj'⟩

theorem set_frame {m : Mat K} (h : m.WF) {i j : Nat} (hi : i < m.rows) (hj : j < m.cols) (v : K) :
    ∃ m', m.set i j v = .ok m' ∧ m'.WF ∧ m'.rows = m.rows ∧ m'.cols = m.cols ∧
      m'.get i j = .ok v ∧
      ∀ i' j', j' < m.cols → (i' ≠ i ∨ j' ≠ j) → m'.get i' j' = m.get i' j' :=
  set_spec h hi hj v

end Storage

section Structural
variable {K : Type} [Add K] [Sub K] [Mul K] [Neg K] [Zero K] [One K] [BEq K] [ScalarExt K]

set_option linter.unusedSectionVars false in
/-- column setter: succeeds for every `col < cols` (NOT `col < rows`), writes exactly column `col` -/
theorem setCol_correct {m : Mat K} {r c : Nat} {e : Nat → Nat → K} (h : Is m r c e) {col : Nat}
    (v : Array K) (hv : v.size = r) (hc : col < c) :
    ∃ m', setCol m col v = .ok m' ∧
      Is m' r c (fun i j => if j = col then v[i]?.getD (e i j) else e i j) :=
  setCol_spec h v hv hc

set_option linter.unusedSectionVars false in
theorem setCol_guard (m : Mat K) (col : Nat) (v : Array K) (h : v.size ≠ m.rows ∨ m.cols ≤ col) :
    ∃ e, setCol m col v = .error e := setCol_rejects m col v h

/-- matrix·vector: row dot products; wrong length rejected -/
theorem mulVec_correct {m : Mat K} {r c : Nat} {e : Nat → Nat → K} (h : Is m r c e) (v : Array K) :
    (v.size = c → mulVec m v = .ok ((List.range r).map (fun i =>
      (Array.zipWith (· * ·) ((List.range c).map (fun j => e i j)).toArray v).foldl (· + ·) 0)).toArray) ∧
    (v.size ≠ c → mulVec m v = .error .size) :=
  ⟨mulVec_spec h v, fun hne => mulVec_rejects m v (by rw [h.cols]; exact hne)⟩

/-- matrix·matrix for EVERY conformable shape r×k · k×c — wide, tall, single row/column, empty:
    the result is a well-formed r×c matrix whose (i,j) entry is the ordered sum Σ_t a_it·b_tj;
    non-conformable operands are rejected -/
theorem mul_correct {a b : Mat K} {r k c : Nat} {ea eb : Nat → Nat → K}
    (ha : Is a r k ea) (hb : Is b k c eb) :
    ∃ p, mul a b = .ok p ∧ Is p r c (dotRC ea eb k) := mul_spec ha hb

set_option linter.unusedSectionVars false in
theorem mul_guard (a b : Mat K) (h : a.cols ≠ b.rows) : mul a b = .error .size := mul_rejects a b h

end Structural

section Exact
variable {K : Type} [CommSemiring K]

/-- the product entry the code computes is the textbook Σ_t a_it · b_tj -/
theorem dotRC_eq_sum (ea eb : Nat → Nat → K) (k i j : Nat) :
    dotRC ea eb k i j = ∑ t ∈ Finset.range k, ea i t * eb t j := by
  unfold dotRC
  exact (foldl_zipWith_eq_sum _ _ k (by simp) (by simp)).trans
    (Finset.sum_congr rfl fun t ht => by simp [Finset.mem_range.mp ht])

end Exact

/-! ### non-vacuity: a wide product 2×3 · 3×4 over ℚ (the shape that `set_col`'s range check
    against `rows` rejected) -/
section Examples
attribute [local instance] Alg.scalarExt
def A : Mat ℚ := ⟨#[1, 2, 3, 4, 5, 6], 2, 3⟩
def B : Mat ℚ := ⟨#[1, 0, 2, 0, 0, 1, 0, 3, 4, 0, 0, 1], 3, 4⟩
theorem A_is : Is A 2 3 (fun i j => A.data[i * 3 + j]?.getD 0) := Is.of_wf (m := A) rfl
theorem B_is : Is B 3 4 (fun i j => B.data[i * 4 + j]?.getD 0) := Is.of_wf (m := B) rfl
example : ∃ p, mul A B = .ok p ∧ p.rows = 2 ∧ p.cols = 4 := by
  obtain ⟨p, hp, hI⟩ := mul_correct A_is B_is
  exact ⟨p, hp, hI.rows, hI.cols⟩
end Examples

end Ohsl.Props.C03
