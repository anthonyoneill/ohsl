/-
  Property C16 — threaded dot product (model: Ohsl/Model/Dot.lean).
  Proved here: the partition of the index range into per-worker chunks has exactly `w` chunks, the
  first starts at 0, the last ends at `len`, consecutive chunks abut (so every index is covered
  exactly once, in order) — for EVERY length and worker count; mismatched lengths are rejected.
  Thread scheduling is not part of this model (a list of chunks and a left fold over their partial
  sums); C16S treats it as an interleaving machine and lists what stays assumed about the runtime.
-/
import Ohsl.Model.Dot
namespace Ohsl.Props.C16
open Ohsl Ohsl.Dot

theorem chunks_length (len w : Nat) : (chunks len w).length = w := by simp [chunks]

/-- the two equations of `chunk`: a full block of width `len / w`, and the last chunk, which takes
    the rest -/
theorem chunk_of_lt (len w i : Nat) (hi : i + 1 < w) :
    chunk len w i = (i * (len / w), (i + 1) * (len / w)) := by
  rw [chunk, if_neg (Nat.ne_of_lt (Nat.lt_sub_of_add_lt hi))]

theorem chunk_pred (len w : Nat) : chunk len w (w - 1) = ((w - 1) * (len / w), len) := by
  rw [chunk, if_pos rfl]

theorem blocks_le (len : Nat) {i w : Nat} (hi : i ≤ w) : i * (len / w) ≤ len :=
  Nat.le_trans (Nat.mul_le_mul_right _ hi) (Nat.mul_div_le len w)

set_option linter.unusedVariables false in
theorem chunk_first (len w : Nat) (hw : 0 < w) : (chunk len w 0).1 = 0 := Nat.zero_mul _

set_option linter.unusedVariables false in
theorem chunk_last (len w : Nat) (hw : 0 < w) : (chunk len w (w - 1)).2 = len :=
  congrArg Prod.snd (chunk_pred len w)

/-- chunk `i` ends where chunk `i+1` starts -/
theorem chunk_abut (len w i : Nat) (hi : i + 1 < w) : (chunk len w i).2 = (chunk len w (i + 1)).1 :=
  congrArg Prod.snd (chunk_of_lt len w i hi)

theorem chunk_valid (len w i : Nat) (hi : i < w) :
    (chunk len w i).1 ≤ (chunk len w i).2 ∧ (chunk len w i).2 ≤ len := by
  by_cases h : i + 1 < w
  · rw [chunk_of_lt len w i h]
    exact ⟨Nat.mul_le_mul_right _ (Nat.le_succ i), blocks_le len hi⟩
  · obtain rfl : i = w - 1 := Nat.le_antisymm (Nat.le_sub_one_of_lt hi) (Nat.sub_le_of_le_add (Nat.le_of_not_lt h))
    rw [chunk_pred]
    exact ⟨blocks_le len (Nat.sub_le w 1), Nat.le_refl _⟩

section
variable {K : Type} [Add K] [Mul K] [Zero K]
theorem rejects (w : Nat) (a b : Array K) (h : a.size ≠ b.size) : dotThreaded w a b = .error .size := by
  simp [dotThreaded, h]

/-- one worker: the threaded product is the sequential one -/
theorem one_worker (a b : Array K) (h : a.size = b.size) :
    dotThreaded 1 a b = .ok ((0 : K) + (Array.zipWith (· * ·) a b).foldl (· + ·) 0) := by
  have ha : a.extract 0 b.size = a := by rw [← h]; simp
  simp [dotThreaded, h, chunks, chunk, partialSum, ha]
end

end Ohsl.Props.C16
