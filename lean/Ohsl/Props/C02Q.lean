/-
  Property C02 (continued) — what `lu_decomp_in_place` RECORDS (`perm` is a permutation matrix,
  `pivots` is the number of row exchanges), for EVERY exact element type, complex scalars included.
  Model: Ohsl/Model/Solve.lean (`luPivot`, `luStep`, `luDecomp`).  The set-up of the `_gen` / `_cx`
  theorems is described in the heads of Ohsl/Props/C01X.lean and C02X.lean.

  Generic theorems (`…_gen`): `K` any field with ANY `ScalarExt K` / lawful `BEq K` satisfying
  `Alg.PivotLaws K`.  `σ = Mat.luPerm A n : Equiv.Perm (Fin n)` is the product, in loop order, of
  the transpositions `(k  p_k)`, `p_k = Mat.pivotChoice A k` the row returned by the model's own
  pivot search at step `k` (definitions of Ohsl/Lemmas/C02P.lean, structural).

  * `luDecomp_perm_gen`, `luDecomp_perm_entries_gen`   `perm` is the permutation matrix of `σ`
  * `luDecomp_pivots_count_gen`, `pivotChoice_range_gen`, `luDecomp_pivots_parity_gen`
  * `luDecomp_factors_gen`        everything together

  The theorems of C02P are the instance `Alg.pivotLaws` (ordered field, size `|·|`) — see the
  `example`s in section `Ordered`.

  Complex theorems (`…_cx`): matrices over the model's `Cx ℝ` with the model's own instances
  (`mag z = |z| + 0i`, lexicographic `<`, `Cx.div`, `Cx.beq`); `σ`, `exchangeCount` are computed by
  the model's functions on `Cx ℝ`; matrices, products, determinants are Mathlib's over ℂ through
  `toC` (`toCMat` of CxField, `detC` of C01X, `LC`, `UC` of C02X):
  `luDecomp_perm_cx`, `luDecomp_perm_entries_cx`, `luDecomp_pivots_count_cx`,
  `pivotChoice_range_cx`, `luDecomp_pivots_parity_cx`, `luDecomp_factors_cx`.
  Nothing is `_partial`.
-/
import Ohsl.Props.C02P
import Ohsl.Props.C02X
import Ohsl.Lemmas.LURecord
namespace Ohsl.Props.C02
open Ohsl Ohsl.Mat

section Gen
variable {K : Type} [Field K] [BEq K] [LawfulBEq K] [ScalarExt K] [Alg.PivotLaws K]

/-- **the recorded `perm` is a permutation matrix, any exact element type.**  For every
    well-formed square matrix the factorisation returns `s` with `s.perm` the well-formed `n × n`
    matrix whose entry `(i, j)` is `1` if `j = σ i` and `0` otherwise, where
    `σ = Mat.luPerm A n : Equiv.Perm (Fin n)` is the product of the transpositions chosen by the
    model's pivot search.  In Mathlib's terms the matrix is `Equiv.Perm.permMatrix K σ`, and
    multiplying by it from the left moves row `σ i` of `A` to row `i`. -/
theorem luDecomp_perm_gen {A : Mat K} {n : Nat} {a : Nat → Nat → K} (h : Mat.Is A n n a) :
    ∃ s, luDecomp A = .ok s ∧
      Mat.Is s.perm n n (Mat.permEntries (Mat.luPerm A n)) ∧
      Mat.toMat n (Mat.permEntries (K := K) (Mat.luPerm A n))
        = Equiv.Perm.permMatrix K (Mat.luPerm A n) ∧
      Mat.toMat n (Mat.permEntries (K := K) (Mat.luPerm A n)) * Mat.toMat n a
        = (Mat.toMat n a).submatrix (Mat.luPerm A n) id :=
  Mat.luDecomp_perm h

/-- the same, read entry by entry off the returned matrix: there is a permutation `σ` of
    `Fin n` such that every in-range entry of `perm` is `0` or `1` and entry `(i, j)` is `1`
    exactly when `j = σ i`. -/
theorem luDecomp_perm_entries_gen {A : Mat K} {n : Nat} {a : Nat → Nat → K}
    (h : Mat.Is A n n a) :
    ∃ (s : LU K) (σ : Equiv.Perm (Fin n)), luDecomp A = .ok s ∧ s.perm.WF ∧ s.perm.rows = n ∧
      s.perm.cols = n ∧
      ∀ (i j : Nat) (hi : i < n) (hj : j < n),
        (s.perm.get i j = .ok 0 ∨ s.perm.get i j = .ok 1) ∧
        (s.perm.get i j = .ok 1 ↔ (⟨j, hj⟩ : Fin n) = σ ⟨i, hi⟩) :=
  Mat.luDecomp_perm_entries h

/-- **`pivots` is the number of row exchanges**: the returned counter equals the number of
    loop steps `k < n` at which the pivot row chosen by the model's own search (on the model's own
    intermediate state) differs from `k` — see `exchangeAt_iff` (C02P, structural). -/
theorem luDecomp_pivots_count_gen {A : Mat K} {n : Nat} {a : Nat → Nat → K}
    (h : Mat.Is A n n a) :
    ∃ s, luDecomp A = .ok s ∧ s.pivots = Mat.exchangeCount A n ∧ s.pivots ≤ n :=
  Mat.luDecomp_pivots_count h

/-- **parity**: the sign of the recorded permutation is `(-1)^pivots`; hence the sign that
    `determinant` applies (`pivots % 2`) is the sign of the row permutation. -/
theorem luDecomp_pivots_parity_gen {A : Mat K} {n : Nat} {a : Nat → Nat → K}
    (h : Mat.Is A n n a) :
    ∃ s, luDecomp A = .ok s ∧ Equiv.Perm.sign (Mat.luPerm A n) = (-1) ^ s.pivots ∧
      (s.pivots % 2 = 0 ↔ Equiv.Perm.sign (Mat.luPerm A n) = 1) :=
  Mat.luDecomp_pivots_parity h

end Gen

section Gen
variable {K : Type} [Field K] [BEq K] [LawfulBEq K] [ScalarExt K] [DecidableEq K]
  [Alg.PivotLaws K]

theorem pivotChoice_range_gen {A : Mat K} {n : Nat} {a : Nat → Nat → K} (h : Mat.Is A n n a)
    {k p : Nat} (hk : k < n) (hp : Mat.pivotChoice A k = some p) : k ≤ p ∧ p < n :=
  Mat.pivotChoice_range_gen h hk hp

set_option linter.unusedSectionVars false in
/-- **the factorisation with its permutation, any exact element type**: for every well-formed
    square matrix, `luDecomp` returns the in-place factors `w` (unit lower `Lfn w`, upper
    `Umat n n w`), the permutation matrix of `σ = luPerm A n`, and the exchange count, with
    `A[σ ·, ·] = L·U`, `pivots = exchangeCount A n`, `sign σ = (-1)^pivots` and
    `det U = sign σ · det A`. -/
theorem luDecomp_factors_gen {A : Mat K} {n : Nat} {a : Nat → Nat → K} (h : Mat.Is A n n a) :
    ∃ (s : LU K) (w : Nat → Nat → K), luDecomp A = .ok s ∧ Mat.Is s.lu n n w ∧
      Mat.Is s.perm n n (Mat.permEntries (Mat.luPerm A n)) ∧
      (Mat.toMat n a).submatrix (Mat.luPerm A n) id = Mat.toMat n (Mat.Lfn w) * Mat.Umat n n w ∧
      s.pivots = Mat.exchangeCount A n ∧
      Equiv.Perm.sign (Mat.luPerm A n) = (-1) ^ s.pivots ∧
      Matrix.det (Mat.Umat n n w)
        = ((Equiv.Perm.sign (Mat.luPerm A n) : ℤ) : K) * Matrix.det (Mat.toMat n a) :=
  Mat.luDecomp_factors h

end Gen

section Ordered
variable {K : Type} [Field K] [LinearOrder K] [IsStrictOrderedRing K]
attribute [local instance] Alg.scalarExt

/-- `luDecomp_perm` of C02P is the instance `Alg.pivotLaws` (size `|·|`) of `luDecomp_perm_gen` -/
example {A : Mat K} {n : Nat} {a : Nat → Nat → K} (h : Mat.Is A n n a) :
    ∃ s, luDecomp A = .ok s ∧
      Mat.Is s.perm n n (Mat.permEntries (Mat.luPerm A n)) ∧
      Mat.toMat n (Mat.permEntries (K := K) (Mat.luPerm A n))
        = Equiv.Perm.permMatrix K (Mat.luPerm A n) ∧
      Mat.toMat n (Mat.permEntries (K := K) (Mat.luPerm A n)) * Mat.toMat n a
        = (Mat.toMat n a).submatrix (Mat.luPerm A n) id :=
  luDecomp_perm_gen h

/-- `luDecomp_factors` of C02P is the instance `Alg.pivotLaws` of `luDecomp_factors_gen` -/
example {A : Mat K} {n : Nat} {a : Nat → Nat → K} (h : Mat.Is A n n a) :
    ∃ (s : LU K) (w : Nat → Nat → K), luDecomp A = .ok s ∧ Mat.Is s.lu n n w ∧
      Mat.Is s.perm n n (Mat.permEntries (Mat.luPerm A n)) ∧
      (Mat.toMat n a).submatrix (Mat.luPerm A n) id = Mat.toMat n (Mat.Lfn w) * Mat.Umat n n w ∧
      s.pivots = Mat.exchangeCount A n ∧
      Equiv.Perm.sign (Mat.luPerm A n) = (-1) ^ s.pivots ∧
      Matrix.det (Mat.Umat n n w)
        = ((Equiv.Perm.sign (Mat.luPerm A n) : ℤ) : K) * Matrix.det (Mat.toMat n a) :=
  luDecomp_factors_gen h

/-- the statements coincide literally: the `_gen` theorem at the ordered-field instances has the
    type of the C02P theorem -/
example {A : Mat K} {n : Nat} {a : Nat → Nat → K} :
    Mat.Is A n n a →
      ∃ s, luDecomp A = .ok s ∧ s.pivots = Mat.exchangeCount A n ∧ s.pivots ≤ n :=
  (fun h => (luDecomp_pivots_count_gen h : _) : _)

example {A : Mat K} {n : Nat} {a : Nat → Nat → K} (h : Mat.Is A n n a) :
    (luDecomp_pivots_count_gen h : ∃ s, luDecomp A = .ok s ∧ s.pivots = Mat.exchangeCount A n ∧
      s.pivots ≤ n) = luDecomp_pivots_count h := rfl

end Ordered

section Complex
open Ohsl.RealI Ohsl.CxField Ohsl.Props.C13 Ohsl.Props.C14 Ohsl.Props.C01

variable {n : Nat} {A : Mat (Cx ℝ)} {a : Nat → Nat → Cx ℝ}

theorem toCMat_permEntries (σ : Equiv.Perm (Fin n)) :
    toCMat n (Mat.permEntries (K := Cx ℝ) σ) = Equiv.Perm.permMatrix ℂ σ := by
  ext r c
  simp only [toCMat, Matrix.of_apply, Mat.permEntries_apply σ r.isLt, Equiv.Perm.permMatrix,
    PEquiv.toMatrix_apply, Equiv.toPEquiv_apply, Option.mem_def, Option.some.injEq]
  by_cases h : σ r = c
  · have : (σ ⟨r.val, r.isLt⟩).val = c.val := by rw [← h]
    rw [if_pos this, if_pos h]; exact toC_one
  · have : ¬ (σ ⟨r.val, r.isLt⟩).val = c.val := fun e => h (Fin.ext e)
    rw [if_neg this, if_neg h]; exact toC_zero

/-- **the `perm` recorded by the complex factorisation is a permutation matrix.**  For every
    well-formed square matrix over `Cx ℝ` the factorisation (pivoting on the modulus) returns `s`
    with `s.perm` the well-formed `n × n` matrix with entries `permEntries σ` (`1` at `(i, σ i)`,
    `0` elsewhere), `σ = Mat.luPerm A n` the product of the transpositions chosen by the model's
    own pivot search on `Cx ℝ`; over ℂ it is `Equiv.Perm.permMatrix ℂ σ`, and `P·A` is `A` with
    row `i` replaced by row `σ i`. -/
theorem luDecomp_perm_cx (h : Mat.Is A n n a) :
    ∃ s, luDecomp A = .ok s ∧
      Mat.Is s.perm n n (Mat.permEntries (Mat.luPerm A n)) ∧
      toCMat n (Mat.permEntries (K := Cx ℝ) (Mat.luPerm A n))
        = Equiv.Perm.permMatrix ℂ (Mat.luPerm A n) ∧
      toCMat n (Mat.permEntries (K := Cx ℝ) (Mat.luPerm A n)) * toCMat n a
        = (toCMat n a).submatrix (Mat.luPerm A n) id := by
  obtain ⟨s, hs, hpe, _, _⟩ :=
    @luDecomp_perm_gen (Cx ℝ) CxField.field _ _ _ _ A n a h
  refine ⟨s, hs, hpe, toCMat_permEntries _, ?_⟩
  rw [toCMat_permEntries, Equiv.Perm.permMatrix, PEquiv.toMatrix_toPEquiv_mul]

/-- the same, read entry by entry off the returned complex matrix -/
theorem luDecomp_perm_entries_cx (h : Mat.Is A n n a) :
    ∃ (s : LU (Cx ℝ)) (σ : Equiv.Perm (Fin n)), luDecomp A = .ok s ∧ s.perm.WF ∧
      s.perm.rows = n ∧ s.perm.cols = n ∧
      ∀ (i j : Nat) (hi : i < n) (hj : j < n),
        (s.perm.get i j = .ok 0 ∨ s.perm.get i j = .ok 1) ∧
        (s.perm.get i j = .ok 1 ↔ (⟨j, hj⟩ : Fin n) = σ ⟨i, hi⟩) :=
  @luDecomp_perm_entries_gen (Cx ℝ) CxField.field _ _ _ _ A n a h

/-- **complex `pivots` is the number of row exchanges** performed by the model's own loop -/
theorem luDecomp_pivots_count_cx (h : Mat.Is A n n a) :
    ∃ s, luDecomp A = .ok s ∧ s.pivots = Mat.exchangeCount A n ∧ s.pivots ≤ n :=
  @luDecomp_pivots_count_gen (Cx ℝ) CxField.field _ _ _ _ A n a h

theorem pivotChoice_range_cx (h : Mat.Is A n n a) {k p : Nat} (hk : k < n)
    (hp : Mat.pivotChoice A k = some p) : k ≤ p ∧ p < n :=
  @pivotChoice_range_gen (Cx ℝ) CxField.field _ _ _ (Classical.decEq _) _ A n a h k p hk hp

theorem luDecomp_pivots_parity_cx (h : Mat.Is A n n a) :
    ∃ s, luDecomp A = .ok s ∧ Equiv.Perm.sign (Mat.luPerm A n) = (-1) ^ s.pivots ∧
      (s.pivots % 2 = 0 ↔ Equiv.Perm.sign (Mat.luPerm A n) = 1) :=
  @luDecomp_pivots_parity_gen (Cx ℝ) CxField.field _ _ _ _ A n a h

/-- **the complex factorisation with its permutation**: `luDecomp` returns the in-place factors
    `w` (unit lower `LC n w`, upper `UC n w`, C02X), the permutation matrix of `σ = luPerm A n`
    and the exchange count, with `A[σ ·, ·] = L·U` over ℂ, `pivots = exchangeCount A n`,
    `sign σ = (-1)^pivots` and `det U = sign σ · det A` over ℂ. -/
theorem luDecomp_factors_cx (h : Mat.Is A n n a) :
    ∃ (s : LU (Cx ℝ)) (w : Nat → Nat → Cx ℝ), luDecomp A = .ok s ∧ Mat.Is s.lu n n w ∧
      Mat.Is s.perm n n (Mat.permEntries (Mat.luPerm A n)) ∧
      (toCMat n a).submatrix (Mat.luPerm A n) id = LC n w * UC n w ∧
      s.pivots = Mat.exchangeCount A n ∧
      Equiv.Perm.sign (Mat.luPerm A n) = (-1) ^ s.pivots ∧
      Matrix.det (UC n w) = ((Equiv.Perm.sign (Mat.luPerm A n) : ℤ) : ℂ) * detC n a := by
  obtain ⟨s, w, hs, hw, hpe, hLU, hcnt, hsign, hdU⟩ :=
    @luDecomp_factors_gen (Cx ℝ) CxField.field _ _ _ (Classical.decEq _) _ A n a h
  let _ := CxField.field
  refine ⟨s, w, hs, hw, hpe, ?_, hcnt, hsign, ?_⟩
  · have := congrArg toCHom.mapMatrix hLU
    rwa [RingHom.map_mul, mapMatrix_Lfn, mapMatrix_Umat] at this
  · have := congrArg toCHom hdU
    rwa [RingHom.map_det, mapMatrix_Umat, RingHom.map_mul, RingHom.map_det, map_intCast] at this

end Complex

/-! ### example over `Cx ℝ`: `exB = [[1, 1], [2i, 1]]`, exchange decided by the modulus -/
section Examples
open Ohsl.RealI Ohsl.CxField Ohsl.Props.C13 Ohsl.Props.C14 Ohsl.Props.C01

/-- the complex matrix [[1, 1], [2i, 1]] -/
def exB : Mat (Cx ℝ) := ⟨#[⟨1, 0⟩, ⟨1, 0⟩, ⟨0, 2⟩, ⟨1, 0⟩], 2, 2⟩

theorem exB_is : Mat.Is exB 2 2 (Mat.ent exB) := Mat.WFn.is ⟨rfl, rfl, rfl⟩

theorem exB_get00 : exB.get 0 0 = .ok ⟨1, 0⟩ := by
  rw [exB_is.get (by norm_num) (by norm_num)]; simp [Mat.ent, exB]
theorem exB_get10 : exB.get 1 0 = .ok ⟨0, 2⟩ := by
  rw [exB_is.get (by norm_num) (by norm_num)]; simp [Mat.ent, exB]

theorem sqrt_four : Real.sqrt 4 = 2 := by
  rw [show (4 : ℝ) = 2 ^ 2 by norm_num]
  exact Real.sqrt_sq (by norm_num)

/-- on column 0 of `exB` the pivot search returns row 1 with magnitude `|2i| = 2 (+ 0i)`: the
    candidate `1` of row 0 (magnitude 1) is beaten on the modulus, although `2i < 1` in the
    lexicographic order that `<` is on `Cx ℝ` -/
theorem exB_luPivot0 : Mat.luPivot exB 0 = .ok (⟨2, 0⟩, 1) := by
  simp only [Mat.luPivot, Mat.forM', show exB.rows = 2 from rfl, List.range', List.foldlM,
    exB_get00, bind, Except.bind, pure, Except.pure]
  simp [ScalarExt.mag, ScalarExt.lt, Cx.lt, Cx.abs, Cx.absSqr, Transc.sqrt, exB_get10]

/-- `2i < 1` in the lexicographic order of `Cx ℝ`: the exchange is NOT an order comparison of the
    entries -/
example : ScalarExt.lt (⟨0, 2⟩ : Cx ℝ) ⟨1, 0⟩ = true := by
  simp [ScalarExt.lt, Cx.lt]

theorem exB_pivotChoice0 : Mat.pivotChoice exB 0 = some 1 := by
  obtain ⟨p0, hp0, _⟩ := Mat.eye_spec (K := Cx ℝ) 2
  have hpre : Mat.luPrefix exB 0 = .ok { lu := exB, perm := p0, pivots := 0 } := by
    simp only [Mat.luPrefix, show exB.rows = 2 from rfl, hp0, bind, Except.bind]
    exact Mat.forM'_empty 0 0 _ _ (Nat.le_refl _)
  have hne : ((⟨2, 0⟩ : Cx ℝ) == 0) = false := by
    show Cx.beq ⟨2, 0⟩ 0 = false
    simp [Cx.beq, show (0 : Cx ℝ) = ⟨0, 0⟩ from rfl]
  simp only [Mat.pivotChoice, hpre, exB_luPivot0, hne]
  rfl

/-- at step 1 only row 1 is left: the search can only choose it -/
theorem exB_pivotChoice1 : Mat.pivotChoice exB 1 = none ∨ Mat.pivotChoice exB 1 = some 1 := by
  cases hc : Mat.pivotChoice exB 1 with
  | none => exact Or.inl rfl
  | some p =>
    have := pivotChoice_range_cx exB_is (by norm_num : 1 < 2) hc
    exact Or.inr (congrArg some (by omega))

theorem exB_exchangeAt1 : Mat.exchangeAt exB 1 = false := by
  unfold Mat.exchangeAt
  rcases exB_pivotChoice1 with h | h <;> rw [h]
  rfl

/-- one exchange -/
theorem exB_exchangeCount : Mat.exchangeCount exB 2 = 1 := by
  have h0 : Mat.exchangeAt exB 0 = true := by
    simp only [Mat.exchangeAt, exB_pivotChoice0]; rfl
  rw [show (2 : Nat) = 0 + 1 + 1 from rfl, Mat.exchangeCount_succ, Mat.exchangeCount_succ, h0,
    exB_exchangeAt1]
  rfl

/-- the recorded permutation is the transposition `(0 1)` -/
theorem exB_luPerm : Mat.luPerm exB 2 = Equiv.swap 0 1 := by
  have h0 : Mat.pivotSwap exB 2 0 = Equiv.swap 0 1 := by
    simp only [Mat.pivotSwap, exB_pivotChoice0]
    rfl
  have h1 : Mat.pivotSwap exB 2 1 = 1 := by
    unfold Mat.pivotSwap
    rcases exB_pivotChoice1 with h | h
    · rw [h]
    · rw [h]; simp; rfl
  simp only [Mat.luPerm, Mat.luPermUpTo, h0, h1, one_mul, mul_one]

/-- **`exB`**: the complex factorisation succeeds, counts ONE exchange, records the permutation
    matrix of the transposition `(0 1)` (`[[0,1],[1,0]]` over ℂ), and the sign is `-1` -/
example : ∃ s, luDecomp exB = .ok s ∧ s.pivots = 1 ∧ Mat.luPerm exB 2 = Equiv.swap 0 1 ∧
    Mat.Is s.perm 2 2 (Mat.permEntries (Equiv.swap (0 : Fin 2) 1)) ∧
    toCMat 2 (Mat.permEntries (K := Cx ℝ) (Equiv.swap (0 : Fin 2) 1)) = !![0, 1; 1, 0] ∧
    Equiv.Perm.sign (Mat.luPerm exB 2) = -1 := by
  obtain ⟨s, w, hs, _, hpe, _, hcnt, hsign, _⟩ := luDecomp_factors_cx exB_is
  rw [exB_exchangeCount] at hcnt
  rw [hcnt] at hsign
  rw [exB_luPerm] at hpe
  refine ⟨s, hs, hcnt, exB_luPerm, hpe, ?_, by rw [hsign]; rfl⟩
  rw [toCMat_permEntries]
  ext r c
  fin_cases r <;> fin_cases c <;> simp [Equiv.Perm.permMatrix, PEquiv.toMatrix_apply]

end Examples
end Ohsl.Props.C02
