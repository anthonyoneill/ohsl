/-
  Property C03 (part P) — rounding-error bounds for the entrywise matrix `p`-norm `Matrix::norm_p(p)`
  and the Frobenius norm `norm_frob = norm_p(2)` (model `Mat.normP`, `Mat.normFrob`) in the "rounded
  reals" interpretation `Fl M` (Ohsl/Lemmas/Rounding.lean), under an explicit error model for `powf`
  (the standard model of C03F says nothing about it).

  ERROR MODEL FOR `powf` / `abs`.  There is no global `Transc (Fl M)` instance.  Every theorem takes an
  arbitrary instance `T` and the two hypotheses
      `hfabs : (fabs x).val = |x.val|`                                   (`abs` is exact)
      `hpowf : |(powf t q).val − t.val ^ q.val| ≤ u · |t.val ^ q.val|`    (ONE rounding of `Real.rpow`)
  i.e. `powf` is assumed CORRECTLY ROUNDED up to the unit roundoff.  `C03.flTransc M` satisfies both
  (`rfl`, `C15.flTransc_powf`); a libm `pow` that is only faithful (error ≤ 1 ulp) is covered by a model
  `M` with the larger unit roundoff `2u` (`hpowf` does not ask `powf` to be `M.fl` of anything).
  The transfer to Rust `f64` rests on the ASSUMPTION of Rounding.lean.

  WHAT THE CODE COMPUTES (`normP_eq_fold`, structural, any scalar type):
      `ŝ = pSum e r c p` = the left fold from `0`, in row-major order, of the terms `powf(|a_ij|, p)`,
      `ip = 1.0 / p` — a ROUNDED division, `q̂ = fl(1/p)`; an exact zero `p` is the error `arith`,
      result `powf(ŝ, ip)`.
  Notation: `S = exactPSum e r c p = Σ_i Σ_j |a_ij| ^ p`, `N = exactNormP = S ^ (1/p)`,
  `γ = M.gam (r·c + 1) = (1+u)^(rc+1) − 1`, `F = exactNormFrob = √(Σ a_ij²)`.

  * `pSum_rounding`: relative error of the inner sum, every exponent.
  * `normP_rounding` (`p > 0`): two-sided bounds with the COMPUTED exponent `q̂`
    (`inv_exponent_err`, `inv_exponent_nonneg`);
    `normP_rounding_range`: against the exact `N`, for `S ∈ [R⁻¹, R]`.  The factor `R^(±u/p)` there is
    the honest price of the perturbed exponent: `S^(q̂−1/p)` is not bounded independently of the size
    of `S` (for binary64 `R = 2^1024`: `R^(u/p) − 1 ≈ 7.9·10⁻¹⁴ / p`).
  * `normP_rounding_exactInv`, `normP_rounding_gam`: when `1/p` is representable.
  * `normFrob_rounding` (two-sided, the root halves `γ` to first order), `normFrob_rounding_abs`,
    `normFrob_rounding_gam`.
  * `normP_zero_rejects_fl`: `p = 0` exactly.
  * `normP_nonneg_fl`, `normFrob_nonneg_fl`; `normP_zero_fl`, `normFrob_zero_fl` (the zero matrix has
    norm EXACTLY `0`); `normP_eq_zero_fl`, `normFrob_eq_zero_fl` (definiteness).
  NOT proved: anything for `p < 0` beyond `pSum_rounding` / non-negativity (Real.rpow's convention
  `0 ^ p = 0` differs from f64's `inf` there, as in C15P); a bound against `N` that is uniform in the
  size of `S` when `1/p` is not representable (none exists, see above).
-/
import Ohsl.Props.C03N
import Ohsl.Props.C03F
import Ohsl.Props.C15F
import Ohsl.Props.C15M
import Ohsl.Lemmas.C03P
import Ohsl.Lemmas.Rounding
import Mathlib.Analysis.SpecialFunctions.Pow.Real
import Mathlib.Analysis.SpecialFunctions.Sqrt
import Mathlib.Tactic.Ring
import Mathlib.Tactic.Linarith
import Mathlib.Tactic.Positivity
namespace Ohsl.Props.C03
open Ohsl Ohsl.Mat Ohsl.C03P

section Structural
variable {K : Type} [Add K] [Sub K] [Mul K] [Neg K] [Zero K] [One K] [BEq K] [ScalarExt K]
  [Transc K]

/-- the term `powf(|a_ij|, p)` of the accumulation -/
def pTerm (e : Nat → Nat → K) (p : K) (ij : Nat × Nat) : K :=
  Transc.powf (Transc.fabs (e ij.1 ij.2)) p

/-- the computed inner sum of `norm_p`: the left fold from `0` of the terms in row-major order -/
def pSum (e : Nat → Nat → K) (r c : Nat) (p : K) : K :=
  ((idx r c).map (pTerm e p)).foldl (· + ·) 0

theorem normP_loop_eq_fold {A : Mat K} {r c : Nat} {e : Nat → Nat → K} (hA : Is A r c e) (p : K) :
    forM' 0 r (0 : K) (fun s i =>
      forM' 0 c s (fun s j => do
        let x ← A.get i j
        pure (s + Transc.powf (Transc.fabs x) p))) = .ok (pSum e r c p) := by
  rw [normP_fold hA p, pSum, List.foldl_map,
    ← foldl_idx r c (fun s i j => s + Transc.powf (Transc.fabs (e i j)) p) (0 : K)]
  rfl

theorem normP_eq_fold {A : Mat K} {r c : Nat} {e : Nat → Nat → K} (hA : Is A r c e) (p : K) :
    Mat.normP A p = (ScalarExt.divM 1 p).bind (fun ip => .ok (Transc.powf (pSum e r c p) ip)) := by
  simp only [Mat.normP, hA.rows, hA.cols, normP_loop_eq_fold hA p]
  rfl

end Structural

section Rounding
variable {M : FlModel}
open Fl Ohsl.Props.C15

/-- the exact `Σ_i Σ_j |a_ij| ^ p` (`Real.rpow`) -/
noncomputable def exactPSum (e : Nat → Nat → Fl M) (r c : Nat) (p : ℝ) : ℝ :=
  ∑ i ∈ Finset.range r, ∑ j ∈ Finset.range c, |(e i j).val| ^ p

/-- the exact entrywise `p`-norm `(Σ |a_ij| ^ p) ^ (1/p)` -/
noncomputable def exactNormP (e : Nat → Nat → Fl M) (r c : Nat) (p : ℝ) : ℝ :=
  exactPSum e r c p ^ (1 / p)

/-- the exact Frobenius norm `√(Σ a_ij²)` -/
noncomputable def exactNormFrob (e : Nat → Nat → Fl M) (r c : Nat) : ℝ :=
  Real.sqrt (∑ i ∈ Finset.range r, ∑ j ∈ Finset.range c, (e i j).val ^ 2)

theorem exactPSum_nonneg (e : Nat → Nat → Fl M) (r c : Nat) (p : ℝ) : 0 ≤ exactPSum e r c p :=
  Finset.sum_nonneg fun _ _ => Finset.sum_nonneg fun _ _ => Real.rpow_nonneg (abs_nonneg _) _

theorem exactNormP_nonneg (e : Nat → Nat → Fl M) (r c : Nat) (p : ℝ) : 0 ≤ exactNormP e r c p :=
  Real.rpow_nonneg (exactPSum_nonneg e r c p) _

theorem exactNormFrob_nonneg (e : Nat → Nat → Fl M) (r c : Nat) : 0 ≤ exactNormFrob e r c :=
  Real.sqrt_nonneg _

theorem exactPSum_two (e : Nat → Nat → Fl M) (r c : Nat) :
    exactPSum e r c 2 = ∑ i ∈ Finset.range r, ∑ j ∈ Finset.range c, (e i j).val ^ 2 := by
  refine Finset.sum_congr rfl fun i _ => Finset.sum_congr rfl fun j _ => ?_
  rw [Real.rpow_two, sq_abs]

theorem exactNormP_two (e : Nat → Nat → Fl M) (r c : Nat) :
    exactNormP e r c 2 = exactNormFrob e r c := by
  rw [exactNormP, exactNormFrob, exactPSum_two, Real.sqrt_eq_rpow]

theorem exactPSum_eq_zero_iff (e : Nat → Nat → Fl M) (r c : Nat) {p : ℝ} (hp : p ≠ 0) :
    exactPSum e r c p = 0 ↔ ∀ i j, i < r → j < c → (e i j).val = 0 := by
  have hterm : ∀ i j, |(e i j).val| ^ p = 0 ↔ (e i j).val = 0 := fun i j => by
    rw [Real.rpow_eq_zero_iff_of_nonneg (abs_nonneg _), and_iff_left hp, abs_eq_zero]
  rw [exactPSum, sum_sum_eq_zero_iff fun _ _ => Real.rpow_nonneg (abs_nonneg _) _]
  simp only [hterm]

theorem inv_exponent_err (M : FlModel) {p : ℝ} (hp : 0 < p) :
    |M.fl (1 / p) - 1 / p| ≤ M.u / p := by
  have h := M.fl_err (1 / p)
  rwa [abs_of_pos (by positivity : (0 : ℝ) < 1 / p), mul_one_div] at h

theorem inv_exponent_nonneg (M : FlModel) (hu : M.u ≤ 1) {p : ℝ} (hp : 0 < p) :
    0 ≤ M.fl (1 / p) := fl_nonneg hu (by positivity)

theorem inv_exponent_ne_zero (M : FlModel) (hu : M.u < 1) {p : ℝ} (hp : p ≠ 0) :
    M.fl (1 / p) ≠ 0 :=
  fun h0 => one_div_ne_zero hp (eq_zero_of_rel_err hu (M.fl_err _) h0)

/-- `norm_frob` is `norm_p` with the exponent `1.0 + 1.0`, whose value is `2` when `2` is
representable -/
theorem two_val (h2 : M.Rep 2) : ((1 : Fl M) + 1).val = 2 := by
  show M.fl (1 + 1) = 2
  rw [one_add_one_eq_two]; exact h2

theorem two_val_pos (hu : M.u < 1) : 0 < ((1 : Fl M) + 1).val :=
  pos_of_rel_err hu (by norm_num : (0 : ℝ) < 1 + 1) (M.fl_err (1 + 1))

variable [T : Transc (Fl M)]

theorem normP_ok_fl {A : Mat (Fl M)} {r c : Nat} {e : Nat → Nat → Fl M} (hA : Is A r c e)
    (p : Fl M) (hp : p.val ≠ 0) :
    Mat.normP A p = .ok (Transc.powf (pSum e r c p) (1 / p)) := by
  rw [normP_eq_fold hA p]
  simp [ScalarExt.divM, hp, Except.bind]

/-- exponent exactly `0`: the division `1.0 / p` is outside the standard model → error `arith` -/
theorem normP_zero_rejects_fl {A : Mat (Fl M)} {r c : Nat} {e : Nat → Nat → Fl M}
    (hA : Is A r c e) (p : Fl M) (hp : p.val = 0) : Mat.normP A p = .error .arith := by
  rw [normP_eq_fold hA p]
  simp [ScalarExt.divM, hp, Except.bind]

theorem normP_ok_inv {A : Mat (Fl M)} {r c : Nat} {e : Nat → Nat → Fl M} (hA : Is A r c e)
    {p v : Fl M} (hv : Mat.normP A p = .ok v) :
    p.val ≠ 0 ∧ v = Transc.powf (pSum e r c p) (1 / p) := by
  by_cases hp : p.val = 0
  · rw [normP_zero_rejects_fl hA p hp] at hv; cases hv
  · rw [normP_ok_fl hA p hp] at hv; cases hv; exact ⟨hp, rfl⟩

/-- **the inner sum of `norm_p`**: each term is rounded once by `powf`, then `r·c` rounded additions
from `0`; all exact terms are non-negative, so the bound is RELATIVE:
`|ŝ − Σ|a_ij|^p| ≤ ((1+u)^(rc+1) − 1) · Σ|a_ij|^p`.  Every exponent `p`. -/
theorem pSum_rounding (hfabs : ∀ x : Fl M, (Transc.fabs x).val = |x.val|)
    (hpowf : ∀ t q : Fl M, |(Transc.powf t q).val - t.val ^ q.val| ≤ M.u * |t.val ^ q.val|)
    (e : Nat → Nat → Fl M) (r c : Nat) (p : Fl M) :
    |(pSum e r c p).val - exactPSum e r c p.val|
      ≤ M.gam (r * c + 1) * exactPSum e r c p.val := by
  have hn : ∀ ij : Nat × Nat, |(|(e ij.1 ij.2).val| ^ p.val)| = |(e ij.1 ij.2).val| ^ p.val :=
    fun ij => abs_of_nonneg (Real.rpow_nonneg (abs_nonneg _) _)
  have h := (FlModel.Within.foldl_sum (k := 1) (idx r c) (pTerm e p)
    (fun ij => |(e ij.1 ij.2).val| ^ p.val) (fun ij => |(e ij.1 ij.2).val| ^ p.val) fun ij _ => by
      have := hpowf (Transc.fabs (e ij.1 ij.2)) p
      rw [hfabs, hn, ← M.gam_one] at this
      exact ⟨this, (hn ij).le⟩).1
  rwa [length_idx, sum_idx] at h

theorem pSum_nonneg (hu : M.u ≤ 1) (hfabs : ∀ x : Fl M, (Transc.fabs x).val = |x.val|)
    (hpowf : ∀ t q : Fl M, |(Transc.powf t q).val - t.val ^ q.val| ≤ M.u * |t.val ^ q.val|)
    (e : Nat → Nat → Fl M) (r c : Nat) (p : Fl M) : 0 ≤ (pSum e r c p).val := by
  apply foldl_add_nonneg hu _ _ (le_refl _)
  intro x hx
  obtain ⟨ij, _, rfl⟩ := List.mem_map.mp hx
  refine nonneg_of_rel_err hu ?_ (hpowf (Transc.fabs (e ij.1 ij.2)) p)
  rw [hfabs]
  exact Real.rpow_nonneg (abs_nonneg _) _

/-- **`norm_p`, `p > 0`** (relative to the COMPUTED exponent `q̂ = fl(1/p)`, see `inv_exponent_err`):
the call succeeds and, with `S = Σ|a_ij|^p`, `γ = gam (rc+1) ≤ 1`,
`(1−u) (1−γ)^q̂ S^q̂ ≤ computed ≤ (1+u) (1+γ)^q̂ S^q̂`. -/
theorem normP_rounding (hfabs : ∀ x : Fl M, (Transc.fabs x).val = |x.val|)
    (hpowf : ∀ t q : Fl M, |(Transc.powf t q).val - t.val ^ q.val| ≤ M.u * |t.val ^ q.val|)
    {A : Mat (Fl M)} {r c : Nat} {e : Nat → Nat → Fl M} (hA : Is A r c e)
    (p : Fl M) (hp : 0 < p.val) (hγ : M.gam (r * c + 1) ≤ 1) :
    ∃ v, Mat.normP A p = .ok v ∧
      (1 - M.u) * (1 - M.gam (r * c + 1)) ^ M.fl (1 / p.val)
          * exactPSum e r c p.val ^ M.fl (1 / p.val) ≤ v.val ∧
      v.val ≤ (1 + M.u) * (1 + M.gam (r * c + 1)) ^ M.fl (1 / p.val)
          * exactPSum e r c p.val ^ M.fl (1 / p.val) := by
  have hu : M.u ≤ 1 := (M.u_le_gam_succ (r * c)).trans hγ
  exact ⟨_, normP_ok_fl hA p hp.ne', rpow_rounded_bounds M.u_nonneg hu (M.gam_nonneg _) hγ
    (inv_exponent_nonneg M hu hp) (exactPSum_nonneg e r c p.val)
    (pSum_rounding hfabs hpowf e r c p) (hpowf (pSum e r c p) (1 / p))⟩

/-- **`norm_p`, `p > 0`, against the exact norm** `N = (Σ|a_ij|^p)^(1/p)`, for `S = Σ|a_ij|^p` in
a range `[R⁻¹, R]`: the perturbed exponent `fl(1/p)` costs the factor `R^(±u/p)`:
`(1−u) (1−γ)^((1+u)/p) R^(−u/p) N ≤ computed ≤ (1+u) (1+γ)^((1+u)/p) R^(u/p) N`. -/
theorem normP_rounding_range (hfabs : ∀ x : Fl M, (Transc.fabs x).val = |x.val|)
    (hpowf : ∀ t q : Fl M, |(Transc.powf t q).val - t.val ^ q.val| ≤ M.u * |t.val ^ q.val|)
    {A : Mat (Fl M)} {r c : Nat} {e : Nat → Nat → Fl M} (hA : Is A r c e)
    (p : Fl M) (hp : 0 < p.val) (hγ : M.gam (r * c + 1) ≤ 1)
    {R : ℝ} (hR : 1 ≤ R) (hlo : R⁻¹ ≤ exactPSum e r c p.val) (hhi : exactPSum e r c p.val ≤ R) :
    ∃ v, Mat.normP A p = .ok v ∧
      (1 - M.u) * (1 - M.gam (r * c + 1)) ^ ((1 + M.u) / p.val) * R ^ (-(M.u / p.val))
          * exactNormP e r c p.val ≤ v.val ∧
      v.val ≤ (1 + M.u) * (1 + M.gam (r * c + 1)) ^ ((1 + M.u) / p.val) * R ^ (M.u / p.val)
          * exactNormP e r c p.val := by
  obtain ⟨v, hv, hl, hh⟩ := normP_rounding hfabs hpowf hA p hp hγ
  have hu : M.u ≤ 1 := (M.u_le_gam_succ (r * c)).trans hγ
  have hqe := inv_exponent_err M hp
  have hq1 : M.fl (1 / p.val) ≤ (1 + M.u) / p.val := by
    rw [add_div]
    exact sub_le_iff_le_add'.mp (abs_le.mp hqe).2
  exact ⟨v, hv, rpow_bounds_perturb_exponent M.u_nonneg hu (M.gam_nonneg _) hγ
    (inv_exponent_nonneg M hu hp) hq1 hR hlo hhi hqe hl hh⟩

/-- **`norm_p` when `1/p` is representable** (`p` a power of two in a binary format, in particular
`p = 1, 2, 4, …`): `(1−u) (1−γ)^(1/p) N ≤ computed ≤ (1+u) (1+γ)^(1/p) N`, every size of `N`. -/
theorem normP_rounding_exactInv (hfabs : ∀ x : Fl M, (Transc.fabs x).val = |x.val|)
    (hpowf : ∀ t q : Fl M, |(Transc.powf t q).val - t.val ^ q.val| ≤ M.u * |t.val ^ q.val|)
    {A : Mat (Fl M)} {r c : Nat} {e : Nat → Nat → Fl M} (hA : Is A r c e)
    (p : Fl M) (hp : 0 < p.val) (hinv : M.Rep (1 / p.val)) (hγ : M.gam (r * c + 1) ≤ 1) :
    ∃ v, Mat.normP A p = .ok v ∧
      (1 - M.u) * (1 - M.gam (r * c + 1)) ^ (1 / p.val) * exactNormP e r c p.val ≤ v.val ∧
      v.val ≤ (1 + M.u) * (1 + M.gam (r * c + 1)) ^ (1 / p.val) * exactNormP e r c p.val := by
  obtain ⟨v, hv, hl, hh⟩ := normP_rounding hfabs hpowf hA p hp hγ
  have hq : M.fl (1 / p.val) = 1 / p.val := hinv
  rw [hq] at hl hh
  exact ⟨v, hv, hl, hh⟩

/-- **`norm_p`, `p ≥ 1`, `1/p` representable**: `|computed − N| ≤ gam (rc+2) · N`
(`(1±γ)^(1/p)` is bounded by `1±γ`; for `p = 2` the sharper `normFrob_rounding` keeps the root). -/
theorem normP_rounding_gam (hfabs : ∀ x : Fl M, (Transc.fabs x).val = |x.val|)
    (hpowf : ∀ t q : Fl M, |(Transc.powf t q).val - t.val ^ q.val| ≤ M.u * |t.val ^ q.val|)
    {A : Mat (Fl M)} {r c : Nat} {e : Nat → Nat → Fl M} (hA : Is A r c e)
    (p : Fl M) (hp : 1 ≤ p.val) (hinv : M.Rep (1 / p.val)) (hγ : M.gam (r * c + 1) ≤ 1) :
    ∃ v, Mat.normP A p = .ok v ∧
      |v.val - exactNormP e r c p.val| ≤ M.gam (r * c + 2) * exactNormP e r c p.val := by
  have hp0 : 0 < p.val := by linarith
  obtain ⟨v, hv, hl, hh⟩ := normP_rounding_exactInv hfabs hpowf hA p hp0 hinv hγ
  refine ⟨v, hv, ?_⟩
  rw [show r * c + 2 = (r * c + 1) + 1 from rfl, M.gam_succ (r * c + 1)]
  exact abs_sub_le_of_rpow_bounds M.u_nonneg ((M.u_le_gam_succ (r * c)).trans hγ)
    (M.gam_nonneg _) hγ (by positivity) ((div_le_one hp0).mpr hp) (exactNormP_nonneg e r c p.val)
    hl hh

/-- **`norm_frob`** (`2` and `1/2` representable — every binary format —, `γ = gam (rc+1) ≤ 1`):
never fails on a well-formed matrix and
`(1−u) √(1−γ) ‖A‖_F ≤ computed ≤ (1+u) √(1+γ) ‖A‖_F`:
the relative error `γ` of the sum of squares is halved (to first order) by the root, then one more
rounding. -/
theorem normFrob_rounding (hfabs : ∀ x : Fl M, (Transc.fabs x).val = |x.val|)
    (hpowf : ∀ t q : Fl M, |(Transc.powf t q).val - t.val ^ q.val| ≤ M.u * |t.val ^ q.val|)
    (h2 : M.Rep 2) (hhalf : M.Rep (1 / 2))
    {A : Mat (Fl M)} {r c : Nat} {e : Nat → Nat → Fl M} (hA : Is A r c e)
    (hγ : M.gam (r * c + 1) ≤ 1) :
    ∃ v, Mat.normFrob A = .ok v ∧
      (1 - M.u) * Real.sqrt (1 - M.gam (r * c + 1)) * exactNormFrob e r c ≤ v.val ∧
      v.val ≤ (1 + M.u) * Real.sqrt (1 + M.gam (r * c + 1)) * exactNormFrob e r c := by
  have hp := two_val h2
  obtain ⟨v, hv, hl, hh⟩ := normP_rounding_exactInv hfabs hpowf hA ((1 : Fl M) + 1)
    (by rw [hp]; norm_num) (by rw [hp]; exact hhalf) hγ
  rw [hp, exactNormP_two, ← Real.sqrt_eq_rpow] at hl hh
  exact ⟨v, hv, hl, hh⟩

/-- `normFrob_rounding` as one absolute bound with the larger of the two constants -/
theorem normFrob_rounding_abs (hfabs : ∀ x : Fl M, (Transc.fabs x).val = |x.val|)
    (hpowf : ∀ t q : Fl M, |(Transc.powf t q).val - t.val ^ q.val| ≤ M.u * |t.val ^ q.val|)
    (h2 : M.Rep 2) (hhalf : M.Rep (1 / 2))
    {A : Mat (Fl M)} {r c : Nat} {e : Nat → Nat → Fl M} (hA : Is A r c e)
    (hγ : M.gam (r * c + 1) ≤ 1) :
    ∃ v, Mat.normFrob A = .ok v ∧
      |v.val - exactNormFrob e r c|
        ≤ max ((1 + M.u) * Real.sqrt (1 + M.gam (r * c + 1)) - 1)
              (1 - (1 - M.u) * Real.sqrt (1 - M.gam (r * c + 1))) * exactNormFrob e r c := by
  obtain ⟨v, hv, hl, hh⟩ := normFrob_rounding hfabs hpowf h2 hhalf hA hγ
  exact ⟨v, hv, abs_sub_le_of_two_sided (exactNormFrob_nonneg e r c) hl hh⟩

/-- **`norm_frob`**, the `gam` form (as `C15.norm2_rounding` for vectors, no hypothesis on `γ`):
`|computed − ‖A‖_F| ≤ gam (rc+2) · ‖A‖_F`. -/
theorem normFrob_rounding_gam (hfabs : ∀ x : Fl M, (Transc.fabs x).val = |x.val|)
    (hpowf : ∀ t q : Fl M, |(Transc.powf t q).val - t.val ^ q.val| ≤ M.u * |t.val ^ q.val|)
    (h2 : M.Rep 2) (hhalf : M.Rep (1 / 2))
    {A : Mat (Fl M)} {r c : Nat} {e : Nat → Nat → Fl M} (hA : Is A r c e) :
    ∃ v, Mat.normFrob A = .ok v ∧
      |v.val - exactNormFrob e r c| ≤ M.gam (r * c + 2) * exactNormFrob e r c := by
  have hp := two_val h2
  refine ⟨_, normP_ok_fl hA ((1 : Fl M) + 1) (by rw [hp]; norm_num), ?_⟩
  have hs := pSum_rounding hfabs hpowf e r c ((1 : Fl M) + 1)
  rw [hp, exactPSum_two] at hs
  set s := pSum e r c ((1 : Fl M) + 1)
  have hqv : ((1 : Fl M) / ((1 : Fl M) + 1)).val = 1 / 2 := by
    show M.fl (1 / ((1 : Fl M) + 1).val) = 1 / 2
    rw [hp]; exact hhalf
  have hv := hpowf s (1 / ((1 : Fl M) + 1))
  rw [hqv, ← Real.sqrt_eq_rpow, abs_of_nonneg (Real.sqrt_nonneg _)] at hv
  have hS : 0 ≤ ∑ i ∈ Finset.range r, ∑ j ∈ Finset.range c, (e i j).val ^ 2 :=
    Finset.sum_nonneg fun _ _ => Finset.sum_nonneg fun _ _ => sq_nonneg _
  have h3 := sqrt_rel hS hs
  rw [exactNormFrob]
  exact (rel_trans M.u_nonneg hv (rel_bounds h3).2 h3).trans_eq
    (by rw [M.gam_succ (r * c + 1)]; ring)

theorem normP_nonneg_fl (hu : M.u ≤ 1) (hfabs : ∀ x : Fl M, (Transc.fabs x).val = |x.val|)
    (hpowf : ∀ t q : Fl M, |(Transc.powf t q).val - t.val ^ q.val| ≤ M.u * |t.val ^ q.val|)
    {A : Mat (Fl M)} {r c : Nat} {e : Nat → Nat → Fl M} (hA : Is A r c e) {p v : Fl M}
    (hv : Mat.normP A p = .ok v) : 0 ≤ v.val := by
  obtain ⟨_, rfl⟩ := normP_ok_inv hA hv
  exact nonneg_of_rel_err hu (Real.rpow_nonneg (pSum_nonneg hu hfabs hpowf e r c p) _)
    (hpowf (pSum e r c p) (1 / p))

theorem normFrob_nonneg_fl (hu : M.u ≤ 1) (hfabs : ∀ x : Fl M, (Transc.fabs x).val = |x.val|)
    (hpowf : ∀ t q : Fl M, |(Transc.powf t q).val - t.val ^ q.val| ≤ M.u * |t.val ^ q.val|)
    {A : Mat (Fl M)} {r c : Nat} {e : Nat → Nat → Fl M} (hA : Is A r c e) {v : Fl M}
    (hv : Mat.normFrob A = .ok v) : 0 ≤ v.val :=
  normP_nonneg_fl hu hfabs hpowf hA hv

/-- **the zero matrix has computed norm exactly `0`** (`p ≠ 0`, `u < 1`): every term is
`fl(0^p) = 0`, every partial sum `fl(0 + 0) = 0`, and `fl(0 ^ q̂) = 0` because `q̂ = fl(1/p) ≠ 0`. -/
theorem normP_zero_fl (hu : M.u < 1) (hfabs : ∀ x : Fl M, (Transc.fabs x).val = |x.val|)
    (hpowf : ∀ t q : Fl M, |(Transc.powf t q).val - t.val ^ q.val| ≤ M.u * |t.val ^ q.val|)
    {A : Mat (Fl M)} {r c : Nat} {e : Nat → Nat → Fl M} (hA : Is A r c e)
    (p : Fl M) (hp : p.val ≠ 0) (h0 : ∀ i j, i < r → j < c → (e i j).val = 0) :
    ∃ v, Mat.normP A p = .ok v ∧ v.val = 0 := by
  refine ⟨_, normP_ok_fl hA p hp, ?_⟩
  have hS : exactPSum e r c p.val = 0 := (exactPSum_eq_zero_iff e r c hp).mpr h0
  have hs := pSum_rounding hfabs hpowf e r c p
  rw [hS, mul_zero, sub_zero] at hs
  have hs0 : (pSum e r c p).val = 0 := abs_nonpos_iff.mp hs
  have hv := hpowf (pSum e r c p) (1 / p)
  have hq : ((1 : Fl M) / p).val ≠ 0 := inv_exponent_ne_zero M hu hp
  rw [hs0, Real.zero_rpow hq, abs_zero, mul_zero, sub_zero] at hv
  exact abs_nonpos_iff.mp hv

/-- **`norm_frob` of a zero matrix is exactly `0`** (`u < 1`; no representability hypothesis) -/
theorem normFrob_zero_fl (hu : M.u < 1) (hfabs : ∀ x : Fl M, (Transc.fabs x).val = |x.val|)
    (hpowf : ∀ t q : Fl M, |(Transc.powf t q).val - t.val ^ q.val| ≤ M.u * |t.val ^ q.val|)
    {A : Mat (Fl M)} {r c : Nat} {e : Nat → Nat → Fl M} (hA : Is A r c e)
    (h0 : ∀ i j, i < r → j < c → (e i j).val = 0) :
    ∃ v, Mat.normFrob A = .ok v ∧ v.val = 0 :=
  normP_zero_fl hu hfabs hpowf hA _ (two_val_pos hu).ne' h0

theorem normP_eq_zero_fl (hfabs : ∀ x : Fl M, (Transc.fabs x).val = |x.val|)
    (hpowf : ∀ t q : Fl M, |(Transc.powf t q).val - t.val ^ q.val| ≤ M.u * |t.val ^ q.val|)
    {A : Mat (Fl M)} {r c : Nat} {e : Nat → Nat → Fl M} (hA : Is A r c e)
    (hγ : M.gam (r * c + 1) < 1) {p v : Fl M} (hv : Mat.normP A p = .ok v) (hz : v.val = 0) :
    ∀ i j, i < r → j < c → (e i j).val = 0 := by
  obtain ⟨hp, rfl⟩ := normP_ok_inv hA hv
  have hu : M.u < 1 := lt_of_le_of_lt (M.u_le_gam_succ (r * c)) hγ
  have hlo := (rel_bounds (pSum_rounding hfabs hpowf e r c p)).1
  have hS := exactPSum_nonneg e r c p.val
  have hs0 : 0 ≤ (pSum e r c p).val := (mul_nonneg (sub_nonneg.mpr hγ.le) hS).trans hlo
  -- the rounded power vanishes only if the exact power does, hence the computed sum
  have hw0 := eq_zero_of_rel_err hu (hpowf (pSum e r c p) (1 / p)) hz
  rw [((Real.rpow_eq_zero_iff_of_nonneg hs0).mp hw0).1, ← mul_zero (1 - M.gam (r * c + 1))] at hlo
  exact (exactPSum_eq_zero_iff e r c hp).mp
    (le_antisymm (le_of_mul_le_mul_left hlo (sub_pos.mpr hγ)) hS)

theorem normFrob_eq_zero_fl (hfabs : ∀ x : Fl M, (Transc.fabs x).val = |x.val|)
    (hpowf : ∀ t q : Fl M, |(Transc.powf t q).val - t.val ^ q.val| ≤ M.u * |t.val ^ q.val|)
    {A : Mat (Fl M)} {r c : Nat} {e : Nat → Nat → Fl M} (hA : Is A r c e)
    (hγ : M.gam (r * c + 1) < 1) {v : Fl M} (hv : Mat.normFrob A = .ok v) (hz : v.val = 0) :
    ∀ i j, i < r → j < c → (e i j).val = 0 :=
  normP_eq_zero_fl hfabs hpowf hA hγ hv hz

end Rounding


section Binary64

theorem binary64_rep_two : FlModel.binary64.Rep 2 := by
  have := C15.roundBits_rep_zpow 52 1
  simpa [FlModel.binary64] using this

/-- `1/2 = 2⁻¹` is representable (the exponent `1.0 / 2.0` of `norm_frob` is exact) -/
theorem binary64_rep_half : FlModel.binary64.Rep (1 / 2) := by
  have := C15.roundBits_rep_zpow 52 (-1)
  simpa [FlModel.binary64] using this

/-- in the binary64-significand format `gam n ≤ 1` for `n ≤ 2⁵²` (from `gam n ≤ n u / (1 − n u)`):
the hypothesis `gam (rc+1) ≤ 1` of the theorems above holds for every matrix that fits in memory -/
theorem binary64_gam_le_one {n : ℕ} (hn : n ≤ 2 ^ 52) : FlModel.binary64.gam n ≤ 1 := by
  have hnu : (n : ℝ) * FlModel.binary64.u ≤ 1 / 2 := by
    rw [FlModel.binary64_u, show (1 / 2 : ℝ) = 2 ^ 52 * 2 ^ (-53 : ℤ) by norm_num]
    exact mul_le_mul_of_nonneg_right (by exact_mod_cast hn) (zpow_nonneg zero_le_two _)
  have h1 : (n : ℝ) * FlModel.binary64.u < 1 := lt_of_le_of_lt hnu one_half_lt_one
  refine (FlModel.binary64.gam_le_gamma n h1).trans ((div_le_one (sub_pos.mpr h1)).mpr ?_)
  rw [le_sub_iff_add_le, ← two_mul]
  exact (le_div_iff₀' zero_lt_two).mp hnu

end Binary64

section Examples
open Fl Ohsl.Props.C15
attribute [local instance] flTransc

/-- exact arithmetic is a model, `flTransc` satisfies `hfabs`/`hpowf` and `2`, `1/2` are
representable by `rfl`: `normFrob_rounding_gam` collapses to C03N's exact theorem
`norm_frob = √(Σ a_ij²)` -/
example {A : Mat (Fl FlModel.exact)} {r c : Nat} {e : Nat → Nat → Fl FlModel.exact}
    (hA : Is A r c e) :
    ∃ v, Mat.normFrob A = .ok v ∧
      v.val = Real.sqrt (∑ i ∈ Finset.range r, ∑ j ∈ Finset.range c, (e i j).val ^ 2) := by
  obtain ⟨v, hv, hv'⟩ := normFrob_rounding_gam (M := FlModel.exact) (fun _ => rfl)
    (flTransc_powf _) rfl rfl hA
  refine ⟨v, hv, ?_⟩
  exact FlModel.eq_of_abs_sub_le_exact hv'

/-- all hypotheses of `normFrob_rounding_gam` hold for `flTransc` in the binary64-significand format:
the computed `norm_frob` of the constant `2 × 3` matrix `x` is `‖A‖_F = √6 |x|` up to `gam 8` -/
example (x : ℝ) :
    ∃ v, Mat.normFrob (Mat.new 2 3 (⟨x⟩ : Fl FlModel.binary64)) = .ok v ∧
      |v.val - (Real.sqrt 6 * |x|)| ≤ FlModel.binary64.gam 8 * (Real.sqrt 6 * |x|) := by
  obtain ⟨v, hv, hv'⟩ := normFrob_rounding_gam (M := FlModel.binary64) (fun _ => rfl)
    (flTransc_powf _) binary64_rep_two binary64_rep_half
    (Is.of_new 2 3 (⟨x⟩ : Fl FlModel.binary64))
  refine ⟨v, hv, ?_⟩
  have e : exactNormFrob (fun _ _ => (⟨x⟩ : Fl FlModel.binary64)) 2 3 = Real.sqrt 6 * |x| := by
    rw [exactNormFrob]
    have : ∑ i ∈ Finset.range 2, ∑ j ∈ Finset.range 3, x ^ 2 = 6 * x ^ 2 := by
      simp [Finset.sum_const]; ring
    rw [this, Real.sqrt_mul (by norm_num), Real.sqrt_sq_eq_abs]
  rwa [e] at hv'

/-- the two-sided `normFrob_rounding` in the binary64-significand format for every well-formed
matrix with `r·c + 1 ≤ 2⁵²` -/
example {A : Mat (Fl FlModel.binary64)} {r c : Nat} {e : Nat → Nat → Fl FlModel.binary64}
    (hA : Is A r c e) (hrc : r * c + 1 ≤ 2 ^ 52) :
    ∃ v, Mat.normFrob A = .ok v ∧
      (1 - FlModel.binary64.u) * Real.sqrt (1 - FlModel.binary64.gam (r * c + 1))
          * exactNormFrob e r c ≤ v.val ∧
      v.val ≤ (1 + FlModel.binary64.u) * Real.sqrt (1 + FlModel.binary64.gam (r * c + 1))
          * exactNormFrob e r c :=
  normFrob_rounding (M := FlModel.binary64) (fun _ => rfl) (flTransc_powf _)
    binary64_rep_two binary64_rep_half hA (binary64_gam_le_one hrc)

/-- `normP_rounding_gam` for `p = 4` (a power of two: `1/4` is representable) in the
binary64-significand format, constant `2 × 3` matrix: `N = (6 |x|⁴)^(1/4)` -/
example (x : ℝ) :
    ∃ v, Mat.normP (Mat.new 2 3 (⟨x⟩ : Fl FlModel.binary64)) ⟨4⟩ = .ok v ∧
      |v.val - (6 * |x| ^ (4 : ℝ)) ^ (1 / 4 : ℝ)|
        ≤ FlModel.binary64.gam 8 * (6 * |x| ^ (4 : ℝ)) ^ (1 / 4 : ℝ) := by
  have hq : FlModel.binary64.Rep (1 / 4) := by
    have := C15.roundBits_rep_zpow 52 (-2)
    have e : (2 : ℝ) ^ (-2 : ℤ) = 1 / 4 := by norm_num
    rw [e] at this
    simpa [FlModel.binary64] using this
  have hγ : FlModel.binary64.gam (2 * 3 + 1) ≤ 1 := binary64_gam_le_one (by norm_num)
  obtain ⟨v, hv, hv'⟩ := normP_rounding_gam (M := FlModel.binary64) (fun _ => rfl)
    (flTransc_powf _) (Is.of_new 2 3 (⟨x⟩ : Fl FlModel.binary64)) ⟨4⟩ (by norm_num) hq hγ
  refine ⟨v, hv, ?_⟩
  have e : exactNormP (fun _ _ => (⟨x⟩ : Fl FlModel.binary64)) 2 3 4
      = (6 * |x| ^ (4 : ℝ)) ^ (1 / 4 : ℝ) := by
    rw [exactNormP, exactPSum]
    congr 1
    simp [Finset.sum_const]; ring
  rwa [e] at hv'

/-- the zero matrix: `norm_frob` is exactly `0` in every model with `u < 1` -/
example (M : FlModel) (hu : M.u < 1) (r c : Nat) :
    ∃ v, Mat.normFrob (Mat.new r c (0 : Fl M)) = .ok v ∧ v.val = 0 :=
  normFrob_zero_fl hu (fun _ => rfl) (flTransc_powf _) (Is.of_new r c (0 : Fl M))
    (fun _ _ _ _ => rfl)

/-- exponent `0` is rejected -/
example (M : FlModel) (x : ℝ) :
    Mat.normP (Mat.new 2 3 (⟨x⟩ : Fl M)) ⟨0⟩ = .error .arith :=
  normP_zero_rejects_fl (Is.of_new 2 3 (⟨x⟩ : Fl M)) ⟨0⟩ rfl

/-- the hypotheses of `normP_rounding_range` are satisfiable: the `1 × 1` matrix `[1]`, `p = 3`
(`1/3` is not representable), `R = 1`: the computed norm is within `(1 ± u)(1 ± γ)^((1+u)/3)` of
`N = 1` in every model with `gam 2 ≤ 1` -/
example (M : FlModel) (hγ : M.gam (1 * 1 + 1) ≤ 1) :
    ∃ v, Mat.normP (Mat.new 1 1 (⟨1⟩ : Fl M)) ⟨3⟩ = .ok v ∧
      (1 - M.u) * (1 - M.gam 2) ^ ((1 + M.u) / 3) ≤ v.val ∧
      v.val ≤ (1 + M.u) * (1 + M.gam 2) ^ ((1 + M.u) / 3) := by
  have hS : exactPSum (fun _ _ => (⟨1⟩ : Fl M)) 1 1 3 = 1 := by simp [exactPSum]
  obtain ⟨v, hv, hl, hh⟩ := normP_rounding_range (M := M) (fun _ => rfl) (flTransc_powf _)
    (Is.of_new 1 1 (⟨1⟩ : Fl M)) ⟨3⟩ (by norm_num) hγ (R := 1) (le_refl _)
    (by rw [hS]; norm_num) (by rw [hS])
  refine ⟨v, hv, ?_⟩
  simp only [exactNormP, hS, Real.one_rpow, mul_one] at hl hh
  exact ⟨hl, hh⟩

end Examples

end Ohsl.Props.C03
