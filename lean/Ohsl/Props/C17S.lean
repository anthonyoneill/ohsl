/-
  Property C17 (continued) — the SYSTEM Newton iteration `Jac.solveSys` (model of
  `Newton<Vec64>::solve`, `Newton<Vector<Cmplx>>::solve` and the `solve_jacobian` variants) and an
  exact convergence statement for the scalar iteration on affine maps.

  Class (S) — every user function, any element type, arbitrary arithmetic.  One iteration either
  completes a full Newton step (`IsStep`) or panics in one of its four fallible operations
  (`StepErr`); every run is a maximal chain of full steps that did not meet the tolerance, ended
  by the budget, by a step that met it, or by a panic (`sys_cases`):
  `sys_failure_carries_last`, `sys_success_char` and (C17C) `sys_panics_iff_struct` are its three
  cases, and the iteration and evaluation counts are read off it (`sys_bounded_fd`,
  `sys_bounded_supplied`, `sys_budget_zero`, `jacobian_trace_length`).
  Class (E) — linearly ordered field: `newton_affine_scalar`, exact convergence on `x ↦ a x + b`.
-/
import Ohsl.Props.C17
import Ohsl.Props.C18E
import Ohsl.Lemmas.Alg
import Mathlib.Algebra.Order.Ring.Abs
set_option linter.unusedSectionVars false
namespace Ohsl.Props.C17
open Ohsl Ohsl.Newton Ohsl.Jac Ohsl.Mat

section Sys
variable {E : Type}

section VecSub
variable [Sub E]

theorem vecSub_size {a b c : Array E} (h : Vec.sub a b = .ok c) : c.size = a.size := by
  obtain ⟨hs, rfl⟩ := Vec.sub_eq_ok_iff.1 h
  rw [Array.size_zipWith, ← hs, Nat.min_self]

end VecSub

section Step
variable [Sub E] [Mul E] [Zero E] [ScalarExt E]

/-- one full Newton step `x ↦ x'` as the code computes it, whose stopping test evaluated to `met` -/
def IsStep {R : Type} (f : Array E → Array E) (jacF : Array E → Res (Mat E × List (Array E)))
    (normInf : Array E → Res R) (leTol : R → Bool) (met : Bool) (x x' : Array E) : Prop :=
  ∃ r J jtr dx, normInf (f x) = .ok r ∧ leTol r = met ∧ jacF x = .ok (J, jtr) ∧
    Mat.solveBasic J (f x) = .ok dx ∧ Vec.sub x dx = .ok x'

/-- `Chain … k x y`: `y` is reached from `x` by `k` Newton steps none of which met the tolerance -/
inductive Chain {R : Type} (f : Array E → Array E) (jacF : Array E → Res (Mat E × List (Array E)))
    (normInf : Array E → Res R) (leTol : R → Bool) : Nat → Array E → Array E → Prop
  | refl (x : Array E) : Chain f jacF normInf leTol 0 x x
  | step {k : Nat} {x x' y : Array E} : IsStep f jacF normInf leTol false x x' →
      Chain f jacF normInf leTol k x' y → Chain f jacF normInf leTol (k + 1) x y

/-- the iteration that starts at `x` panics with error class `e`; the four fallible operations of
    one iteration, in program order: the inf-norm of the residual `f x` (`None.unwrap()` on the
    empty vector), the Jacobian call, the dense linear solve `solve_basic`, the update `x -= dx`
    (size check of `Vector -= Vector`).  The stopping test comes after all four. -/
def StepErr {R : Type} (f : Array E → Array E) (jacF : Array E → Res (Mat E × List (Array E)))
    (normInf : Array E → Res R) (x : Array E) (e : Err) : Prop :=
  normInf (f x) = .error e ∨
  (∃ r, normInf (f x) = .ok r ∧ jacF x = .error e) ∨
  (∃ r J jtr, normInf (f x) = .ok r ∧ jacF x = .ok (J, jtr) ∧
    Mat.solveBasic J (f x) = .error e) ∨
  (∃ r J jtr dx, normInf (f x) = .ok r ∧ jacF x = .ok (J, jtr) ∧
    Mat.solveBasic J (f x) = .ok dx ∧ Vec.sub x dx = .error e)

def StepFails {R : Type} (f : Array E → Array E) (jacF : Array E → Res (Mat E × List (Array E)))
    (normInf : Array E → Res R) (x : Array E) : Prop := ∃ e, StepErr f jacF normInf x e

theorem sys_unfold {R : Type} (f : Array E → Array E)
    (jacF : Array E → Res (Mat E × List (Array E)))
    (normInf : Array E → Res R) (leTol : R → Bool) (n : Nat) (cur : Array E) (tr : List (Array E))
    {r : R} {J : Mat E} {jtr : List (Array E)} {dx cur' : Array E}
    (h1 : normInf (f cur) = .ok r) (h2 : jacF cur = .ok (J, jtr))
    (h3 : Mat.solveBasic J (f cur) = .ok dx) (h4 : Vec.sub cur dx = .ok cur') :
    solveSys f jacF normInf leTol (n + 1) cur tr =
      if leTol r then .ok (⟨true, cur'⟩, tr ++ [cur] ++ jtr)
      else solveSys f jacF normInf leTol n cur' (tr ++ [cur] ++ jtr) := by
  rw [solveSys]
  simp only [h1, h2, h3, h4, bind, Except.bind, pure, Except.pure]

theorem sys_step_error {R : Type} (f : Array E → Array E)
    (jacF : Array E → Res (Mat E × List (Array E))) (normInf : Array E → Res R) (leTol : R → Bool)
    (n : Nat) (x : Array E) (tr : List (Array E)) {e : Err} (h : StepErr f jacF normInf x e) :
    solveSys f jacF normInf leTol (n + 1) x tr = .error e := by
  rw [solveSys]
  rcases h with h | ⟨r, h1, h2⟩ | ⟨r, J, jtr, h1, h2, h3⟩ | ⟨r, J, jtr, dx, h1, h2, h3, h4⟩
  · simp only [h, bind, Except.bind]
  · simp only [h1, h2, bind, Except.bind]
  · simp only [h1, h2, h3, bind, Except.bind]
  · simp only [h1, h2, h3, h4, bind, Except.bind]

theorem sys_step_total {R : Type} (f : Array E → Array E)
    (jacF : Array E → Res (Mat E × List (Array E))) (normInf : Array E → Res R) (x : Array E) :
    StepFails f jacF normInf x ∨
    (∃ r J jtr dx x', normInf (f x) = .ok r ∧ jacF x = .ok (J, jtr) ∧
      Mat.solveBasic J (f x) = .ok dx ∧ Vec.sub x dx = .ok x') := by
  cases h1 : normInf (f x) with
  | error e => exact .inl ⟨e, .inl h1⟩
  | ok r =>
    cases h2 : jacF x with
    | error e => exact .inl ⟨e, .inr (.inl ⟨r, h1, h2⟩)⟩
    | ok p =>
      obtain ⟨J, jtr⟩ := p
      cases h3 : Mat.solveBasic J (f x) with
      | error e => exact .inl ⟨e, .inr (.inr (.inl ⟨r, J, jtr, h1, h2, h3⟩))⟩
      | ok dx =>
        cases h4 : Vec.sub x dx with
        | error e => exact .inl ⟨e, .inr (.inr (.inr ⟨r, J, jtr, dx, h1, h2, h3, h4⟩))⟩
        | ok x' => exact .inr ⟨r, J, jtr, dx, x', rfl, rfl, h3, h4⟩

theorem length_append_step {α : Type} (tr : List α) (x : α) (jtr : List α) :
    (tr ++ [x] ++ jtr).length = tr.length + (1 + jtr.length) := by
  rw [List.length_append, List.length_append, Nat.add_assoc]
  rfl

theorem sys_cases {R : Type} (f : Array E → Array E)
    (jacF : Array E → Res (Mat E × List (Array E))) (normInf : Array E → Res R) (leTol : R → Bool) :
    ∀ (n : Nat) (cur : Array E) (tr : List (Array E)),
    ∃ k c, Chain f jacF normInf leTol k cur c ∧
      ((k = n ∧ ∃ tr', solveSys f jacF normInf leTol n cur tr = .ok (⟨false, c⟩, tr')) ∨
       (k < n ∧ ∃ y tr', IsStep f jacF normInf leTol true c y ∧
          solveSys f jacF normInf leTol n cur tr = .ok (⟨true, y⟩, tr')) ∨
       (k < n ∧ ∃ e, StepErr f jacF normInf c e ∧ solveSys f jacF normInf leTol n cur tr = .error e))
  | 0, cur, tr => ⟨0, cur, .refl cur, .inl ⟨rfl, tr, rfl⟩⟩
  | n + 1, cur, tr => by
    rcases sys_step_total f jacF normInf cur with ⟨e, he⟩ | ⟨r, J, jtr, dx, x', h1, h2, h3, h4⟩
    · exact ⟨0, cur, .refl cur, .inr (.inr ⟨n.succ_pos, e, he,
        sys_step_error f jacF normInf leTol n cur tr he⟩)⟩
    · have hu := sys_unfold f jacF normInf leTol n cur tr h1 h2 h3 h4
      cases hr : leTol r with
      | true =>
        rw [hr, if_pos rfl] at hu
        exact ⟨0, cur, .refl cur, .inr (.inl ⟨n.succ_pos, x', _, ⟨r, J, jtr, dx, h1, hr, h2, h3, h4⟩, hu⟩)⟩
      | false =>
        rw [hr, if_neg Bool.false_ne_true] at hu
        obtain ⟨k, c, hc, h⟩ := sys_cases f jacF normInf leTol n x' (tr ++ [cur] ++ jtr)
        rw [← hu] at h
        refine ⟨k + 1, c, .step ⟨r, J, jtr, dx, h1, hr, h2, h3, h4⟩ hc, ?_⟩
        rcases h with ⟨rfl, h⟩ | ⟨hk, h⟩ | ⟨hk, h⟩
        · exact .inl ⟨rfl, h⟩
        · exact .inr (.inl ⟨Nat.succ_lt_succ hk, h⟩)
        · exact .inr (.inr ⟨Nat.succ_lt_succ hk, h⟩)

theorem sys_chain_run {R : Type} (f : Array E → Array E)
    (jacF : Array E → Res (Mat E × List (Array E))) (normInf : Array E → Res R) (leTol : R → Bool) :
    ∀ (k : Nat) (cur c : Array E) (tr : List (Array E)),
      Chain f jacF normInf leTol k cur c →
      c.size = cur.size ∧
      ∃ tr', solveSys f jacF normInf leTol k cur tr = .ok (⟨false, c⟩, tr') ∧
        (∀ m, solveSys f jacF normInf leTol (k + m) cur tr = solveSys f jacF normInf leTol m c tr') ∧
        ∀ L, (∀ x J jtr, x.size = cur.size → jacF x = .ok (J, jtr) → jtr.length = L) →
          tr'.length = tr.length + k * (1 + L)
  | 0, cur, c, tr, h => by
    cases h
    exact ⟨rfl, tr, rfl, fun m => by rw [Nat.zero_add], fun L _ => by rw [Nat.zero_mul, Nat.add_zero]⟩
  | k + 1, cur, c, tr, h => by
    cases h with
    | step hs hc =>
      rename_i x'
      obtain ⟨r, J, jtr, dx, h1, h2, h3, h4, h5⟩ := hs
      have hx' : x'.size = cur.size := vecSub_size h5
      obtain ⟨hsz, tr', e1, e2, e3⟩ :=
        sys_chain_run f jacF normInf leTol k x' c (tr ++ [cur] ++ jtr) hc
      refine ⟨hsz.trans hx', tr', ?_, fun m => ?_, fun L hL => ?_⟩
      · rw [sys_unfold f jacF normInf leTol k cur tr h1 h3 h4 h5, h2, if_neg Bool.false_ne_true]
        exact e1
      · rw [Nat.add_right_comm, sys_unfold f jacF normInf leTol (k + m) cur tr h1 h3 h4 h5, h2,
          if_neg Bool.false_ne_true]
        exact e2 m
      · rw [e3 L fun x J jtr hx => hL x J jtr (hx.trans hx'), length_append_step,
          hL cur J jtr rfl h3, Nat.succ_mul, Nat.add_assoc, Nat.add_comm (1 + L)]

theorem sys_bounded {R : Type} (f : Array E → Array E)
    (jacF : Array E → Res (Mat E × List (Array E)))
    (normInf : Array E → Res R) (leTol : R → Bool) (d L : Nat)
    (hL : ∀ x J jtr, x.size = d → jacF x = .ok (J, jtr) → jtr.length = L) :
    ∀ (n : Nat) (cur : Array E) (tr : List (Array E)) (out : Newton.Out (Array E))
      (tr' : List (Array E)), cur.size = d →
      solveSys f jacF normInf leTol n cur tr = .ok (out, tr') →
      ∃ k, k ≤ n ∧ tr'.length = tr.length + k * (1 + L) ∧ (out.ok = false → k = n)
  | n, cur, tr, out, tr', hd, h => by
    obtain ⟨k, c, hc, hcase⟩ := sys_cases f jacF normInf leTol n cur tr
    obtain ⟨hsz, tr₁, e1, e2, e3⟩ := sys_chain_run f jacF normInf leTol k cur c tr hc
    have hlen := e3 L fun x J jtr hx => hL x J jtr (hx.trans hd)
    rcases hcase with ⟨rfl, _⟩ | ⟨hk, _, _, ⟨r, J, jtr, dx, h1, h2, h3, h4, h5⟩, _⟩ | ⟨_, _, _, e⟩
    · rw [e1] at h
      cases h
      exact ⟨k, Nat.le_refl k, hlen, fun _ => rfl⟩
    · obtain ⟨m, rfl⟩ := Nat.exists_eq_add_of_lt hk
      rw [Nat.add_assoc, e2, sys_unfold f jacF normInf leTol m c tr₁ h1 h3 h4 h5, h2, if_pos rfl] at h
      cases h
      exact ⟨k + 1, hk, by rw [length_append_step, hL c J jtr (hsz.trans hd) h3, hlen,
        Nat.succ_mul, Nat.add_assoc], fun ho => Bool.noConfusion ho⟩
    · rw [e] at h
      cases h

end Step

variable [Add E] [Sub E] [Mul E] [Neg E] [Zero E] [One E] [BEq E] [ScalarExt E]

theorem jacobian_ok_shape (f : Array E → Array E) (point : Array E) (delta : E)
    (J : Mat E) (tr : List (Array E)) (h : jacobian f point delta = .ok (J, tr)) :
    J.WF ∧ J.rows = (f point).size ∧ J.cols = point.size ∧ tr.length = point.size + 1 := by
  obtain ⟨rfl, e, hI, _⟩ := C18.jacobian_ok f point delta J tr h
  exact ⟨hI.wf, hI.rows, hI.cols, by simp⟩

/-- **evaluation count of the finite-difference Jacobian, unconditionally**: whenever
    `jacobian f point delta` returns (no hypothesis on `f`, on the element type or on `delta`),
    `f` has been called exactly `point.size + 1` times. -/
theorem jacobian_trace_length (f : Array E → Array E) (point : Array E) (delta : E)
    (J : Mat E) (tr : List (Array E)) (h : jacobian f point delta = .ok (J, tr)) :
    tr.length = point.size + 1 :=
  (jacobian_ok_shape f point delta J tr h).2.2.2

/-- **finite-difference system Newton**: `k ≤ n` iterations, `k * (d + 2)` evaluations of `f`
    (one residual and `d + 1` Jacobian evaluations per iteration) -/
theorem sys_bounded_fd {R : Type} (f : Array E → Array E) (delta : E)
    (normInf : Array E → Res R) (leTol : R → Bool)
    (n : Nat) (cur : Array E) (tr : List (Array E)) (out : Newton.Out (Array E))
    (tr' : List (Array E))
    (h : solveSys f (fun x => jacobian f x delta) normInf leTol n cur tr = .ok (out, tr')) :
    ∃ k, k ≤ n ∧ tr'.length = tr.length + k * (cur.size + 2) ∧ (out.ok = false → k = n) := by
  obtain ⟨k, hk, hl, hf⟩ := sys_bounded f (fun x => jacobian f x delta) normInf leTol cur.size
    (cur.size + 1) (fun x J jtr hx hj => by rw [jacobian_trace_length f x delta J jtr hj, hx])
    n cur tr out tr' rfl h
  exact ⟨k, hk, by rw [hl, Nat.add_left_comm], hf⟩

/-- **system Newton with a supplied Jacobian** (`solve_jacobian`): one evaluation of `f` per
    iteration -/
theorem sys_bounded_supplied {R : Type} (f : Array E → Array E)
    (jacF : Array E → Res (Mat E × List (Array E)))
    (hJ : ∀ x J jtr, jacF x = .ok (J, jtr) → jtr = [])
    (normInf : Array E → Res R) (leTol : R → Bool)
    (n : Nat) (cur : Array E) (tr : List (Array E)) (out : Newton.Out (Array E))
    (tr' : List (Array E))
    (h : solveSys f jacF normInf leTol n cur tr = .ok (out, tr')) :
    ∃ k, k ≤ n ∧ tr'.length = tr.length + k ∧ (out.ok = false → k = n) := by
  obtain ⟨k, hk, hl, hf⟩ := sys_bounded f jacF normInf leTol cur.size 0
    (fun x J jtr _ hj => by rw [hJ x J jtr hj]; rfl) n cur tr out tr' rfl h
  exact ⟨k, hk, by rw [hl, Nat.add_zero, Nat.mul_one], hf⟩

/-- with a budget of zero nothing is evaluated and the failure carries the guess -/
theorem sys_budget_zero {R : Type} (f : Array E → Array E)
    (jacF : Array E → Res (Mat E × List (Array E)))
    (normInf : Array E → Res R) (leTol : R → Bool) (guess : Array E) (tr : List (Array E)) :
    solveSys f jacF normInf leTol 0 guess tr = .ok (⟨false, guess⟩, tr) := rfl

/-- **failure carries the last iterate**: a run that reports failure returns the point reached
    from the guess by exactly `n` (= maxIter) full Newton steps, none of which met the tolerance -/
theorem sys_failure_carries_last {R : Type} (f : Array E → Array E)
    (jacF : Array E → Res (Mat E × List (Array E)))
    (normInf : Array E → Res R) (leTol : R → Bool) :
    ∀ (n : Nat) (cur : Array E) (tr : List (Array E)) (out : Newton.Out (Array E))
      (tr' : List (Array E)),
      solveSys f jacF normInf leTol n cur tr = .ok (out, tr') → out.ok = false →
      Chain f jacF normInf leTol n cur out.x
  | n, cur, tr, out, tr', h, ho => by
    obtain ⟨k, c, hc, ⟨rfl, _, e⟩ | ⟨_, _, _, _, e⟩ | ⟨_, _, _, e⟩⟩ :=
      sys_cases f jacF normInf leTol n cur tr <;> rw [e] at h <;> cases h
    · exact hc
    · cases ho

/-- **success characterisation**: a run that reports success has made `k < n` steps that did not
    meet the tolerance followed by one step whose residual norm did; the returned point is the
    result of that last step -/
theorem sys_success_char {R : Type} (f : Array E → Array E)
    (jacF : Array E → Res (Mat E × List (Array E)))
    (normInf : Array E → Res R) (leTol : R → Bool) :
    ∀ (n : Nat) (cur : Array E) (tr : List (Array E)) (out : Newton.Out (Array E))
      (tr' : List (Array E)),
      solveSys f jacF normInf leTol n cur tr = .ok (out, tr') → out.ok = true →
      ∃ k c, k < n ∧ Chain f jacF normInf leTol k cur c ∧ IsStep f jacF normInf leTol true c out.x
  | n, cur, tr, out, tr', h, ho => by
    obtain ⟨k, c, hc, ⟨_, _, e⟩ | ⟨hk, _, _, hs, e⟩ | ⟨_, _, _, e⟩⟩ :=
      sys_cases f jacF normInf leTol n cur tr <;> rw [e] at h <;> cases h
    · cases ho
    · exact ⟨k, c, hk, hc, hs⟩

end Sys

section Affine
variable {K : Type} [Field K] [LinearOrder K] [IsStrictOrderedRing K] [Transc K]
attribute [local instance] Ohsl.Alg.scalarExt

/-- **exact convergence on affine maps**: over a linearly ordered field, with `<=` and `f64::abs`
    read as `≤` and `|·|`, the iteration applied to `x ↦ a x + b` (`a ≠ 0`, `delta ≠ 0`, `0 ≤ tol`,
    at least two iterations allowed) reports success at the exact root `-b / a`, after at most
    two iterations (≤ 6 evaluations): the central difference of an affine map is exact, so the
    first step lands on the root, and the second step has `dx = 0 ≤ tol`. -/
theorem newton_affine_scalar
    (hle : ∀ x y : K, Transc.le x y = decide (x ≤ y)) (habs : ∀ x : K, Transc.fabs x = |x|)
    (a b tol delta guess : K) (ha : a ≠ 0) (hd : delta ≠ 0) (htol : 0 ≤ tol)
    (n : Nat) (hn : 2 ≤ n) :
    (solveScalar (fun x => a * x + b) tol delta n guess []).1 = ⟨true, -b / a⟩ ∧
    (solveScalar (fun x => a * x + b) tol delta n guess []).2.length ≤ 6 := by
  have h2 : ((1 : K) + 1) * delta ≠ 0 := by
    rw [one_add_one_eq_two]
    exact mul_ne_zero two_ne_zero hd
  -- the central difference of an affine map is exact, so every step lands on the root …
  have hstep : ∀ c : K, scalarStep (fun x => a * x + b) delta c = -b / a := by
    intro c
    -- `(f (c + δ) − f (c − δ)) / (2δ) = a (δ + δ) / (2δ) = a`, then `c − (a c + b) / a = −b / a`
    rw [scalarStep, scalarDx, add_sub_add_right_eq_sub, ← mul_sub, add_sub_sub_cancel, ← two_mul,
      ← one_add_one_eq_two, mul_div_cancel_right₀ a h2, add_div, mul_div_cancel_left₀ c ha,
      sub_add_cancel_left, neg_div]
  -- … and the step from the root is `0`, which passes the test
  have htest : scalarTest (fun x => a * x + b) tol delta (-b / a) = true := by
    have hdx : scalarDx (fun x => a * x + b) delta (-b / a) = 0 := by
      have := hstep (-b / a)
      rwa [scalarStep, sub_eq_self] at this
    rw [scalarTest, hdx, habs, hle, abs_zero]
    exact decide_eq_true htol
  obtain ⟨n1, rfl⟩ := Nat.exists_eq_add_of_le' hn
  rw [solveScalar_eq_loop]
  cases ht : scalarTest (fun x => a * x + b) tol delta guess with
  | true =>
    rw [NewtonGen.loop_succ_true _ _ _ _ ht, hstep]
    exact ⟨rfl, (by decide : 3 ≤ 6)⟩
  | false =>
    rw [NewtonGen.loop_succ_false _ _ _ _ ht, hstep, NewtonGen.loop_succ_true _ _ _ _ htest, hstep]
    exact ⟨rfl, Nat.le_refl 6⟩

end Affine

/-- ℚ with `le := decide (· ≤ ·)`, `fabs := |·|` (the other operations are irrelevant) -/
@[reducible] def transcQ : Transc ℚ :=
  { sqrt := id, sin := id, cos := id, tan := id, exp := id, ln := id, sinh := id, cosh := id,
    fabs := fun x => |x|, atan2 := fun x _ => x, powf := fun x _ => x, fmax := max,
    ofNat := fun n => (n : ℚ), le := fun x y => decide (x ≤ y), half := 1 / 2, piHalf := 0,
    eps := 0, snap := 0 }

/-- the hypotheses of `newton_affine_scalar` are satisfiable -/
example : ∃ (_ : Transc ℚ), (∀ x y : ℚ, Transc.le x y = decide (x ≤ y)) ∧
    (∀ x : ℚ, Transc.fabs x = |x|) :=
  ⟨transcQ, fun _ _ => rfl, fun _ => rfl⟩

end Ohsl.Props.C17
