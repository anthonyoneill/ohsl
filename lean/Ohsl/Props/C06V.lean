/-
  Property C06 (sparse matrix views / CSC well-formedness), part V — the RAW constructor
  `Sparse::from_vecs` (model `Sp.fromVecs`, Ohsl/Model/Sparse.lean).  Class (S): any scalar type
  (`Zero` for the fill value, `Mul` for `scale`); no algebraic law is used except in
  `fromVecs_entry_sum` (the denoted entry `Sp.entry` is a finite sum: commutative semiring).

  `from_vecs` validates NOTHING: it only reads `col_start[col_start.len() - 1]` into `nonzero`.  The
  theorems of C06W / C06H start from a storage satisfying `WF` and `C07.NoDup`; here these two
  hypotheses are replaced by explicit, decidable conditions on the five ARGUMENTS of `from_vecs`:
  `ArraysOk` (exactly `WF` of the result) and `ArraysNoDup` (exactly `C07.NoDup` of the result; rows
  in ANY order inside a column).  `slotOf`, `refOfArrays`: the entry function read off the arrays.
  * the result under the array conditions: `fromVecs_fields`, `fromVecs_wf_iff`, `fromVecs_noDup`,
    `fromVecs_wf_noDup`;
  * its entries: `fromVecs_entry`, `fromVecs_get`, `fromVecs_entry_sum`;
  * what the call accepts: `fromVecs_rejects`, `fromVecs_ok_iff`; inputs that violate `ArraysOk` are
    ACCEPTED (`fromVecs_unchecked`, `fromVecs_unchecked_len`): the hypothesis is not implied by
    success of the call;
  * the history theorems of C06H from `from_vecs`: `fromVecs_history`, `fromVecs_history_views`,
    `fromVecs_history_nonzero`.
-/
import Ohsl.Props.C06H
import Ohsl.Lemmas.Alg
open Ohsl.Mat (forM' forM'_inv aget_ok aset_ok)
namespace Ohsl.Props.C06
open Ohsl Ohsl.Sp
variable {K : Type}

/-- the five arguments of `from_vecs` describe a compressed-column matrix: `col_start` has
    `cols + 1` entries, starts at 0, is non-decreasing and ends at `val.len()`; there is one row
    index per value and every row index is a row.  (Out-of-buffer reads are `0`, as in `Sp.cs` /
    `Sp.ri`; under the size conditions no read is out of the buffer.) -/
def ArraysOk (rows cols : Nat) (val : Array K) (rowIndex colStart : Array Nat) : Prop :=
  colStart.size = cols + 1 ∧
  colStart[0]? = some 0 ∧
  (∀ j, j < cols → colStart[j]?.getD 0 ≤ colStart[j + 1]?.getD 0) ∧
  colStart[cols]? = some val.size ∧
  rowIndex.size = val.size ∧
  (∀ k, k < val.size → rowIndex[k]?.getD 0 < rows)

/-- inside every column `j` (slots `colStart[j] ≤ k < colStart[j+1]`) the row indices are pairwise
    distinct; nothing is said about their ORDER -/
def ArraysNoDup (cols : Nat) (rowIndex colStart : Array Nat) : Prop :=
  ∀ j, j < cols → ∀ k, k < colStart[j + 1]?.getD 0 → ∀ k', k' < colStart[j + 1]?.getD 0 →
    colStart[j]?.getD 0 ≤ k → colStart[j]?.getD 0 ≤ k' →
    rowIndex[k]?.getD 0 = rowIndex[k']?.getD 0 → k = k'

instance (rows cols : Nat) (val : Array K) (rowIndex colStart : Array Nat) :
    Decidable (ArraysOk rows cols val rowIndex colStart) := by
  unfold ArraysOk; infer_instance

instance (cols : Nat) (rowIndex colStart : Array Nat) :
    Decidable (ArraysNoDup cols rowIndex colStart) := by
  unfold ArraysNoDup; exact Nat.decidableBallLT _ _

/-- the first slot of column `j` whose row index is `i` (read off the arrays alone) -/
def slotOf (rowIndex colStart : Array Nat) (i j : Nat) : Option Nat :=
  firstHit (fun k => decide (colStart[j]?.getD 0 ≤ k) && rowIndex[k]?.getD 0 == i)
    (colStart[j + 1]?.getD 0)

theorem slotOf_eq_some {rowIndex colStart : Array Nat} {i j k : Nat} :
    slotOf rowIndex colStart i j = some k ↔
      colStart[j]?.getD 0 ≤ k ∧ k < colStart[j + 1]?.getD 0 ∧ rowIndex[k]?.getD 0 = i ∧
      ∀ k', colStart[j]?.getD 0 ≤ k' → k' < k → rowIndex[k']?.getD 0 ≠ i := by
  unfold slotOf
  rw [firstHit_eq_some]
  simp only [Bool.and_eq_true, decide_eq_true_eq, beq_iff_eq, Bool.and_eq_false_imp, ne_eq,
    beq_eq_false_iff_ne]
  constructor
  · intro ⟨a, ⟨b, c⟩, d⟩
    exact ⟨b, a, c, fun k' h1 h2 => d k' h2 h1⟩
  · intro ⟨a, b, c, d⟩
    exact ⟨b, ⟨a, c⟩, fun k' h1 h2 => d k' h2 h1⟩

theorem slotOf_eq_none {rowIndex colStart : Array Nat} {i j : Nat} :
    slotOf rowIndex colStart i j = none ↔
      ∀ k, colStart[j]?.getD 0 ≤ k → k < colStart[j + 1]?.getD 0 → rowIndex[k]?.getD 0 ≠ i := by
  unfold slotOf
  rw [firstHit_eq_none]
  simp only [Bool.and_eq_false_imp, decide_eq_true_eq, ne_eq, beq_eq_false_iff_ne]
  constructor
  · intro h k a b; exact h k b a
  · intro h k a b; exact h k b a

theorem slotOf_eq_some_of_noDup {cols : Nat} {rowIndex colStart : Array Nat}
    (hnd : ArraysNoDup cols rowIndex colStart) {i j k : Nat} (hj : j < cols) :
    slotOf rowIndex colStart i j = some k ↔
      colStart[j]?.getD 0 ≤ k ∧ k < colStart[j + 1]?.getD 0 ∧ rowIndex[k]?.getD 0 = i := by
  rw [slotOf_eq_some]
  constructor
  · intro ⟨a, b, c, _⟩; exact ⟨a, b, c⟩
  · intro ⟨a, b, c⟩
    refine ⟨a, b, c, ?_⟩
    intro k' h1 h2 e
    exact Nat.lt_irrefl k (hnd j hj k b k' (Nat.lt_trans h2 b) a h1 (by rw [c, e]) ▸ h2)

/-- the reference matrix of the arrays: shape `rows × cols`, at `(i, j)` the value of the slot of
    column `j` holding row `i`, nothing if there is none -/
def refOfArrays [Zero K] (rows cols : Nat) (val : Array K) (rowIndex colStart : Array Nat) :
    Ref K :=
  ⟨rows, cols, fun i j => (slotOf rowIndex colStart i j).map (fun k => val[k]?.getD 0)⟩

theorem fromVecs_ok {rows cols : Nat} {val : Array K} {rowIndex colStart : Array Nat}
    (hok : ArraysOk rows cols val rowIndex colStart) :
    fromVecs rows cols val rowIndex colStart =
      .ok ⟨rows, cols, val.size, val, rowIndex, colStart⟩ := by
  obtain ⟨h1, _, _, h4, _, _⟩ := hok
  unfold fromVecs usub
  have e : (1 : Nat) ≤ colStart.size := h1 ▸ Nat.succ_pos cols
  have e' : colStart.size - 1 = cols := h1 ▸ Nat.add_sub_cancel cols 1
  simp only [e, if_true, e', bind, Except.bind, Mat.aget_eq_ok.mpr h4, pure, Except.pure]

/-- under `ArraysOk` the call succeeds; the fields are the arguments, `nonzero = val.len()` -/
theorem fromVecs_fields {rows cols : Nat} {val : Array K} {rowIndex colStart : Array Nat}
    (hok : ArraysOk rows cols val rowIndex colStart) :
    ∃ s, fromVecs rows cols val rowIndex colStart = .ok s ∧ s.rows = rows ∧ s.cols = cols ∧
      s.nonzero = val.size ∧ s.val = val ∧ s.rowIndex = rowIndex ∧ s.colStart = colStart :=
  ⟨_, fromVecs_ok hok, rfl, rfl, rfl, rfl, rfl, rfl⟩

theorem wf_mk_iff (rows cols : Nat) (val : Array K) (rowIndex colStart : Array Nat) :
    WF (⟨rows, cols, val.size, val, rowIndex, colStart⟩ : Sp K) ↔
      ArraysOk rows cols val rowIndex colStart := by
  constructor
  · intro h
    exact ⟨h.csSize, h.cs0, h.mono, h.csLast, h.riSize, h.riLt⟩
  · intro ⟨a, b, c, d, e, f⟩
    exact ⟨a, b, c, d, rfl, e, f⟩

theorem ArraysOk.wf {rows cols : Nat} {val : Array K} {rowIndex colStart : Array Nat}
    (hok : ArraysOk rows cols val rowIndex colStart) :
    WF (⟨rows, cols, val.size, val, rowIndex, colStart⟩ : Sp K) :=
  (wf_mk_iff _ _ _ _ _).mpr hok

theorem fromVecs_wf {rows cols : Nat} {val : Array K} {rowIndex colStart : Array Nat}
    (hok : ArraysOk rows cols val rowIndex colStart) :
    ∃ s, fromVecs rows cols val rowIndex colStart = .ok s ∧ WF s :=
  ⟨_, fromVecs_ok hok, hok.wf⟩

/-- `ArraysOk` is exactly what `WF` needs: `from_vecs` returns a well-formed storage IFF the arrays
    satisfy `ArraysOk` -/
theorem fromVecs_wf_iff (rows cols : Nat) (val : Array K) (rowIndex colStart : Array Nat) :
    (∃ s, fromVecs rows cols val rowIndex colStart = .ok s ∧ WF s) ↔
      ArraysOk rows cols val rowIndex colStart := by
  constructor
  · intro ⟨s, hs, h⟩
    unfold fromVecs usub at hs
    by_cases e : (1 : Nat) ≤ colStart.size
    · simp only [e, if_true, bind, Except.bind] at hs
      cases ha : aget colStart (colStart.size - 1) with
      | error x => rw [ha] at hs; cases hs
      | ok nz =>
        rw [ha] at hs
        simp only [pure, Except.pure] at hs
        injection hs with hs
        subst hs
        have hv : val.size = nz := h.valSize
        exact ⟨h.csSize, h.cs0, h.mono, by rw [hv]; exact h.csLast,
          by rw [hv]; exact h.riSize, by rw [hv]; exact h.riLt⟩
    · simp only [e, if_false, bind, Except.bind] at hs
      cases hs
  · exact fromVecs_wf

theorem noDup_mk_iff (rows cols nz : Nat) (val : Array K) (rowIndex colStart : Array Nat) :
    C07.NoDup (⟨rows, cols, nz, val, rowIndex, colStart⟩ : Sp K) ↔
      ArraysNoDup cols rowIndex colStart :=
  C07.noDup_iff _

/-- under `ArraysOk`: the result of `from_vecs` is duplicate free IFF the arrays satisfy
    `ArraysNoDup` (rows in any order inside a column) -/
theorem fromVecs_noDup {rows cols : Nat} {val : Array K} {rowIndex colStart : Array Nat}
    (hok : ArraysOk rows cols val rowIndex colStart) :
    ∃ s, fromVecs rows cols val rowIndex colStart = .ok s ∧ WF s ∧
      (C07.NoDup s ↔ ArraysNoDup cols rowIndex colStart) :=
  ⟨_, fromVecs_ok hok, hok.wf, noDup_mk_iff _ _ _ _ _ _⟩

/-- the two array conditions give a well-formed duplicate-free storage -/
theorem fromVecs_wf_noDup {rows cols : Nat} {val : Array K} {rowIndex colStart : Array Nat}
    (hok : ArraysOk rows cols val rowIndex colStart)
    (hnd : ArraysNoDup cols rowIndex colStart) :
    ∃ s, fromVecs rows cols val rowIndex colStart = .ok s ∧ WF s ∧ C07.NoDup s :=
  ⟨_, fromVecs_ok hok, hok.wf, (noDup_mk_iff _ _ _ _ _ _).mpr hnd⟩

theorem firstSlot_eq_slotOf {s : Sp K} (h : WF s) (i j : Nat) :
    firstSlot s i j = slotOf s.rowIndex s.colStart i j := by
  by_cases hj : j < s.cols
  · refine Option.ext fun k => ?_
    rw [firstSlot_eq_some, slotOf_eq_some]
    show _ ↔ s.cs j ≤ k ∧ k < s.cs (j + 1) ∧ s.ri k = i ∧ ∀ k', s.cs j ≤ k' → k' < k → s.ri k' ≠ i
    constructor
    · rintro ⟨a, ⟨b1, b2⟩, c⟩
      obtain ⟨d1, d2⟩ := (h.colOf_iff hj a).mp b2
      exact ⟨d1, d2, b1, fun k' h1 h2 e => c k' h2 ⟨e, h.colOf_eq hj h1 (Nat.lt_trans h2 d2)⟩⟩
    · rintro ⟨a, b, c, d⟩
      have hk := h.slot_lt hj b
      exact ⟨hk, ⟨c, h.colOf_eq hj a b⟩, fun k' h2 ⟨e1, e2⟩ =>
        d k' ((h.colOf_iff hj (Nat.lt_trans h2 hk)).mp e2).1 h2 e1⟩
  · have e2 : slotOf s.rowIndex s.colStart i j = none := slotOf_eq_none.mpr fun k _ hb => by
      rw [Array.getElem?_eq_none (by rw [h.csSize]; exact Nat.succ_le_succ (Nat.le_of_not_lt hj))]
        at hb
      exact absurd hb (Nat.not_lt_zero k)
    rw [e2, firstSlot_eq_none.mpr fun k hk ⟨_, e⟩ => hj (e ▸ h.colOf_lt hk)]

section Zero
variable [Zero K]

theorem refOf_mk {rows cols : Nat} {val : Array K} {rowIndex colStart : Array Nat}
    (hok : ArraysOk rows cols val rowIndex colStart) :
    refOf (⟨rows, cols, val.size, val, rowIndex, colStart⟩ : Sp K) =
      refOfArrays rows cols val rowIndex colStart :=
  Ref.ext_ent rfl rfl fun i j => congrArg (Option.map _) (firstSlot_eq_slotOf hok.wf i j)

/-- **the entry function of the result**, for arrays satisfying `ArraysOk` and `ArraysNoDup`.  At
    every position `(i, j)`:
    (a) if slot `k` of column `j < cols` holds row `i`, it is the only such slot, it is the slot
        `firstSlot` finds, it is a valid index of `val`, and the entry is `val[k]`;
    (b) if no slot of column `j` holds row `i` (in particular if `j ≥ cols`, or `i ≥ rows`) the
        entry is absent. -/
theorem fromVecs_entry {rows cols : Nat} {val : Array K} {rowIndex colStart : Array Nat}
    (hok : ArraysOk rows cols val rowIndex colStart)
    (hnd : ArraysNoDup cols rowIndex colStart) :
    ∃ s, fromVecs rows cols val rowIndex colStart = .ok s ∧ ∀ i j,
      (∀ k, j < cols → colStart[j]?.getD 0 ≤ k → k < colStart[j + 1]?.getD 0 →
        rowIndex[k]?.getD 0 = i →
          (∀ k', colStart[j]?.getD 0 ≤ k' → k' < colStart[j + 1]?.getD 0 →
            rowIndex[k']?.getD 0 = i → k' = k) ∧
          firstSlot s i j = some k ∧ i < rows ∧
          ∃ hk : k < val.size, (refOf s).ent i j = some val[k]) ∧
      ((∀ k, j < cols → colStart[j]?.getD 0 ≤ k → k < colStart[j + 1]?.getD 0 →
        rowIndex[k]?.getD 0 ≠ i) → firstSlot s i j = none ∧ (refOf s).ent i j = none) ∧
      (rows ≤ i ∨ cols ≤ j → (refOf s).ent i j = none) := by
  have hwf := hok.wf
  refine ⟨_, fromVecs_ok hok, ?_⟩
  intro i j
  refine ⟨?_, ?_, fun ho => refOf_outside hwf ho⟩
  · intro k hj a b c
    have hf : firstSlot (⟨rows, cols, val.size, val, rowIndex, colStart⟩ : Sp K) i j = some k := by
      rw [firstSlot_eq_slotOf hwf]
      exact (slotOf_eq_some_of_noDup hnd hj).mpr ⟨a, b, c⟩
    have hk : k < val.size := hwf.slot_lt (j := j) hj b
    refine ⟨?_, hf, ?_, hk, ?_⟩
    · intro k' a' b' c'
      exact hnd j hj k' b' k b a' a (by rw [c, c'])
    · rw [← c]; exact hok.2.2.2.2.2 k hk
    · show (firstSlot _ i j).map _ = _
      rw [hf]
      simp [Sp.vl, hk]
  · intro hno
    have hf : firstSlot (⟨rows, cols, val.size, val, rowIndex, colStart⟩ : Sp K) i j = none := by
      rw [firstSlot_eq_slotOf hwf]
      apply slotOf_eq_none.mpr
      intro k a b
      by_cases hj : j < cols
      · exact hno k hj a b
      · rw [Array.getElem?_eq_none (hok.1 ▸ Nat.succ_le_succ (Nat.le_of_not_lt hj))] at b
        exact absurd b (Nat.not_lt_zero k)
    refine ⟨hf, ?_⟩
    show (firstSlot _ i j).map _ = none
    rw [hf]; rfl

/-- `get` on the result of `from_vecs` (arrays satisfying `ArraysOk`; with duplicates inside a
    column `get` still returns the FIRST slot, which is what `slotOf` is): inside the shape the
    entry read off the arrays, outside an index panic -/
theorem fromVecs_get {rows cols : Nat} {val : Array K} {rowIndex colStart : Array Nat}
    (hok : ArraysOk rows cols val rowIndex colStart) :
    ∃ s, fromVecs rows cols val rowIndex colStart = .ok s ∧
      (∀ i j, i < rows → j < cols →
        get s i j = .ok ((refOfArrays rows cols val rowIndex colStart).ent i j)) ∧
      (∀ i j, rows ≤ i ∨ cols ≤ j → get s i j = .error .range ∧
        (refOfArrays rows cols val rowIndex colStart).ent i j = none) := by
  have hwf := hok.wf
  refine ⟨_, fromVecs_ok hok, fun i j hi hj => ?_, fun i j ho => ?_⟩
  · rw [← refOf_mk hok]
    exact hwf.get_spec hi hj
  · rw [← refOf_mk hok]
    exact ⟨get_outside _ i j ho, refOf_outside hwf ho⟩

end Zero

/-- the denoted entry `Sp.entry` (a sum over the slots of the column; commutative semiring) of the
    result is the value of the slot holding the position, `0` if there is none -/
theorem fromVecs_entry_sum [CommSemiring K] {rows cols : Nat} {val : Array K}
    {rowIndex colStart : Array Nat} (hok : ArraysOk rows cols val rowIndex colStart)
    (hnd : ArraysNoDup cols rowIndex colStart) :
    ∃ s, fromVecs rows cols val rowIndex colStart = .ok s ∧ ∀ i j, i < rows → j < cols →
      s.entry i j = ((refOfArrays rows cols val rowIndex colStart).ent i j).getD 0 := by
  have hwf := hok.wf
  have hnd' := (noDup_mk_iff rows cols val.size val rowIndex colStart).mpr hnd
  refine ⟨_, fromVecs_ok hok, fun i j hi hj => ?_⟩
  obtain ⟨o, g1, g2⟩ := entry_eq_get hwf hnd' (row := i) (col := j) hi hj
  rw [hwf.get_spec hi hj] at g1
  injection g1 with g1
  rw [g2, ← g1, ← refOf_mk hok]
  rfl

/-- the only input `from_vecs` rejects: an empty `col_start`; `col_start.len() - 1` underflows, an
    ARITHMETIC panic (`attempt to subtract with overflow`, dev profile), before any indexing -/
theorem fromVecs_rejects (rows cols : Nat) (val : Array K) (rowIndex : Array Nat) :
    fromVecs rows cols val rowIndex #[] = .error .arith := rfl

theorem fromVecs_total (rows cols : Nat) (val : Array K) (rowIndex colStart : Array Nat)
    (hne : colStart.size ≠ 0) :
    ∃ nz, colStart[colStart.size - 1]? = some nz ∧
      fromVecs rows cols val rowIndex colStart = .ok ⟨rows, cols, nz, val, rowIndex, colStart⟩ := by
  have hlt : colStart.size - 1 < colStart.size := Nat.sub_lt (Nat.pos_of_ne_zero hne) Nat.one_pos
  refine ⟨colStart[colStart.size - 1], Array.getElem?_eq_getElem hlt, ?_⟩
  unfold fromVecs usub
  have e : (1 : Nat) ≤ colStart.size := Nat.pos_of_ne_zero hne
  simp only [e, if_true, bind, Except.bind, aget_ok hlt, pure, Except.pure]

/-- success or failure of `from_vecs` depends on `col_start.len()` alone -/
theorem fromVecs_ok_iff (rows cols : Nat) (val : Array K) (rowIndex colStart : Array Nat) :
    ((∃ s, fromVecs rows cols val rowIndex colStart = .ok s) ↔ colStart.size ≠ 0) ∧
    (colStart.size = 0 → fromVecs rows cols val rowIndex colStart = .error .arith) := by
  have hz : colStart.size = 0 → fromVecs rows cols val rowIndex colStart = .error .arith := by
    intro h0
    have : colStart = #[] := Array.eq_empty_of_size_eq_zero h0
    subst this; rfl
  refine ⟨⟨?_, ?_⟩, hz⟩
  · intro ⟨s, hs⟩ h0
    rw [hz h0] at hs
    cases hs
  · intro hne
    obtain ⟨nz, _, h⟩ := fromVecs_total rows cols val rowIndex colStart hne
    exact ⟨_, h⟩

/-- **`from_vecs` accepts arrays violating `ArraysOk`**: a 1×1 matrix whose only row index is 7.
    The call succeeds, the result is not well formed, and the views disagree: `get` answers, the
    dense conversion is an index panic.  So `ArraysOk` is a genuine hypothesis of the theorems of
    this file (and `WF` of C06W / C06H), not a consequence of a successful construction. -/
theorem fromVecs_unchecked :
    ¬ ArraysOk 1 1 (#[1] : Array ℤ) #[7] #[0, 1] ∧
    ∃ s : Sp ℤ, fromVecs 1 1 #[1] #[7] #[0, 1] = .ok s ∧ ¬ WF s ∧
      get s 0 0 = .ok none ∧ toDense s = .error .range := by
  refine ⟨by decide, ⟨1, 1, 1, #[1], #[7], #[0, 1]⟩, rfl, ?_, rfl, rfl⟩
  intro h
  have := h.riLt 0 (by decide)
  revert this
  decide

/-- a second violation that is accepted: two values and two row indices but `col_start` announces
    one entry; `nonzero` (1) then differs from `val.len()` (2) -/
theorem fromVecs_unchecked_len :
    ¬ ArraysOk 2 1 (#[1, 2] : Array ℤ) #[0, 1] #[0, 1] ∧
    ∃ s : Sp ℤ, fromVecs 2 1 #[1, 2] #[0, 1] #[0, 1] = .ok s ∧ ¬ WF s ∧
      s.nonzero = 1 ∧ s.val.size = 2 := by
  refine ⟨by decide, ⟨2, 1, 1, #[1, 2], #[0, 1], #[0, 1]⟩, rfl, ?_, rfl, rfl⟩
  intro h
  have := h.valSize
  revert this
  decide

section S
variable [Zero K] [Mul K]

/-- **arbitrary histories starting from `from_vecs`**: for arrays satisfying `ArraysOk` and
    `ArraysNoDup` (rows in any order inside a column), any finite history of insert / overwrite /
    scale / transpose refines the reference partial function started at the matrix read off the
    arrays: the run succeeds with a well-formed duplicate-free storage that abstracts to the
    reference result, or the reference rejects the history and the run is an index panic -/
theorem fromVecs_history {rows cols : Nat} {val : Array K} {rowIndex colStart : Array Nat}
    (hok : ArraysOk rows cols val rowIndex colStart) (hnd : ArraysNoDup cols rowIndex colStart)
    (ops : List (SpOp K)) :
    Refines (fromVecs rows cols val rowIndex colStart >>= fun s => runC ops s)
      (runR ops (refOfArrays rows cols val rowIndex colStart)) := by
  rw [fromVecs_ok hok, ← refOf_mk hok]
  exact history_refines ops hok.wf ((noDup_mk_iff _ _ _ _ _ _).mpr hnd)

/-- the packaged history theorem (`history_views`) for histories that start with `from_vecs`: if
    the reference accepts the history (result `r`), the model run succeeds with a well-formed
    duplicate-free storage of the reference shape on which `get`, `to_triplets`, `col_index` and
    `to_dense` all describe `r`; otherwise the model run is an index panic -/
theorem fromVecs_history_views {rows cols : Nat} {val : Array K} {rowIndex colStart : Array Nat}
    (hok : ArraysOk rows cols val rowIndex colStart) (hnd : ArraysNoDup cols rowIndex colStart)
    (ops : List (SpOp K)) :
    (∀ r, runR ops (refOfArrays rows cols val rowIndex colStart) = some r →
      ∃ s', (fromVecs rows cols val rowIndex colStart >>= fun s => runC ops s) = .ok s' ∧ WF s' ∧
        C07.NoDup s' ∧ s'.rows = r.rows ∧ s'.cols = r.cols ∧
        (∀ i j, i < r.rows → j < r.cols → get s' i j = .ok (r.ent i j)) ∧
        (∀ i j, r.rows ≤ i ∨ r.cols ≤ j → get s' i j = .error .range ∧ r.ent i j = none) ∧
        (∃ l, toTriplets s' = .ok l ∧ l.length = s'.nonzero ∧ PosNodup l ∧
          (∀ i j v, (i, j, v) ∈ l ↔ r.ent i j = some v) ∧
          ∃ ci, colIndex s' = .ok ci ∧ ci.size = s'.nonzero ∧
            ∀ k, k < s'.nonzero → ∃ c, ci[k]? = some c ∧ c < r.cols ∧ s'.ri k < r.rows ∧
              l[k]? = some (s'.ri k, c, s'.vl k) ∧ r.ent (s'.ri k) c = some (s'.vl k)) ∧
        (∃ d, toDense s' = .ok d ∧ Mat.Is d r.rows r.cols (fun i j => (r.ent i j).getD 0))) ∧
    (runR ops (refOfArrays rows cols val rowIndex colStart) = none →
      (fromVecs rows cols val rowIndex colStart >>= fun s => runC ops s) = .error .range) := by
  rw [fromVecs_ok hok, ← refOf_mk hok]
  exact history_views ops hok.wf ((noDup_mk_iff _ _ _ _ _ _).mpr hnd)

/-- after any accepted history that starts with `from_vecs`, `nonzero` is the number of stored
    positions of the reference -/
theorem fromVecs_history_nonzero {rows cols : Nat} {val : Array K} {rowIndex colStart : Array Nat}
    (hok : ArraysOk rows cols val rowIndex colStart) (hnd : ArraysNoDup cols rowIndex colStart)
    (ops : List (SpOp K)) {r : Ref K}
    (hrun : runR ops (refOfArrays rows cols val rowIndex colStart) = some r) :
    ∃ s', (fromVecs rows cols val rowIndex colStart >>= fun s => runC ops s) = .ok s' ∧
      s'.nonzero = r.nnz := by
  rw [fromVecs_ok hok]
  rw [← refOf_mk hok] at hrun
  exact history_nonzero ops hok.wf ((noDup_mk_iff _ _ _ _ _ _).mpr hnd) hrun

end S

/-- the 3×2 matrix `[[7,0],[0,0],[5,0]]` over ℚ: column 0 stores row 2 BEFORE row 0, column 1 is
    empty.  The array conditions are checked by evaluation. -/
theorem demoV_ok : ArraysOk 3 2 (#[5, 7] : Array ℚ) #[2, 0] #[0, 2, 2] := by decide

theorem demoV_noDup : ArraysNoDup 2 #[2, 0] #[0, 2, 2] := by decide

example : ArraysOk 3 2 (#[5, 7] : Array ℚ) #[2, 0] #[0, 2, 2] := demoV_ok

example : ArraysNoDup 2 #[2, 0] #[0, 2, 2] := demoV_noDup

/-- a duplicate inside a column is detected -/
example : ¬ ArraysNoDup 2 #[2, 2] #[0, 2, 2] := by decide

/-- … but the same row in two different columns is fine -/
example : ArraysNoDup 2 #[2, 2] #[0, 1, 2] := by decide

/-- the entries read off the arrays -/
theorem demoV_ref :
    (refOfArrays 3 2 (#[5, 7] : Array ℚ) #[2, 0] #[0, 2, 2]).ent 2 0 = some 5 ∧
    (refOfArrays 3 2 (#[5, 7] : Array ℚ) #[2, 0] #[0, 2, 2]).ent 0 0 = some 7 ∧
    (refOfArrays 3 2 (#[5, 7] : Array ℚ) #[2, 0] #[0, 2, 2]).ent 1 0 = none ∧
    (refOfArrays 3 2 (#[5, 7] : Array ℚ) #[2, 0] #[0, 2, 2]).ent 0 1 = none ∧
    (refOfArrays 3 2 (#[5, 7] : Array ℚ) #[2, 0] #[0, 2, 2]).ent 2 1 = none := by
  -- the slot search looks at the index arrays only: evaluate it there, then read the value
  have h : slotOf #[2, 0] #[0, 2, 2] 2 0 = some 0 ∧ slotOf #[2, 0] #[0, 2, 2] 0 0 = some 1 ∧
      slotOf #[2, 0] #[0, 2, 2] 1 0 = none ∧ slotOf #[2, 0] #[0, 2, 2] 0 1 = none ∧
      slotOf #[2, 0] #[0, 2, 2] 2 1 = none := by decide
  simp only [refOfArrays, h]
  exact ⟨rfl, rfl, rfl, rfl, rfl⟩

/-- `from_vecs` of the unsorted arrays: accepted, well formed, duplicate free, and `get` returns
    the values of the arrays (an index panic outside the 3×2 shape) -/
example : ∃ s : Sp ℚ, fromVecs 3 2 #[5, 7] #[2, 0] #[0, 2, 2] = .ok s ∧ WF s ∧ C07.NoDup s ∧
    s.nonzero = 2 ∧ get s 2 0 = .ok (some 5) ∧ get s 0 0 = .ok (some 7) ∧ get s 1 0 = .ok none ∧
    get s 0 1 = .ok none ∧ get s 2 1 = .ok none ∧ get s 3 0 = .error .range ∧
    get s 0 2 = .error .range := by
  have hok := demoV_ok
  have hnd := demoV_noDup
  obtain ⟨e1, e2, e3, e4, e5⟩ := demoV_ref
  obtain ⟨s, h1, h2, h3⟩ := fromVecs_wf_noDup hok hnd
  obtain ⟨s', g1, g2, g3⟩ := fromVecs_get hok
  cases h1.symm.trans g1
  cases (fromVecs_ok hok).symm.trans h1
  refine ⟨_, h1, h2, h3, rfl, ?_, ?_, ?_, ?_, ?_, (g3 3 0 (Or.inl (by decide))).1,
    (g3 0 2 (Or.inr (by decide))).1⟩
  · rw [g2 2 0 (by decide) (by decide), e1]
  · rw [g2 0 0 (by decide) (by decide), e2]
  · rw [g2 1 0 (by decide) (by decide), e3]
  · rw [g2 0 1 (by decide) (by decide), e4]
  · rw [g2 2 1 (by decide) (by decide), e5]

/-- a history from the unsorted arrays: overwrite (0,0), transpose, scale by 2, insert a new entry;
    the reference result (read off the arrays, then the abstract steps) is what `get` returns -/
example : ∃ s' : Sp ℚ, (fromVecs 3 2 #[5, 7] #[2, 0] #[0, 2, 2] >>= fun s =>
      runC [.insert 0 0 9, .transpose, .scale 2, .insert 1 1 4] s) = .ok s' ∧ WF s' ∧
    C07.NoDup s' ∧ s'.rows = 2 ∧ s'.cols = 3 ∧ get s' 0 0 = .ok (some 18) ∧
    get s' 0 2 = .ok (some 10) ∧ get s' 1 1 = .ok (some 4) ∧ get s' 1 0 = .ok none := by
  have hok := demoV_ok
  have hnd := demoV_noDup
  have hR : ∃ r, runR [.insert 0 0 9, .transpose, .scale 2, .insert 1 1 4]
      (refOfArrays 3 2 (#[5, 7] : Array ℚ) #[2, 0] #[0, 2, 2]) = some r ∧ r.rows = 2 ∧ r.cols = 3 ∧
      r.ent 0 0 = some 18 ∧ r.ent 0 2 = some 10 ∧ r.ent 1 1 = some 4 ∧ r.ent 1 0 = none := by
    exact ⟨_, rfl, rfl, rfl, congrArg some (by norm_num : (9 : ℚ) * 2 = 18),
      congrArg some (by norm_num : (5 : ℚ) * 2 = 10), rfl, rfl⟩
  obtain ⟨r, hr, r1, r2, e1, e2, e3, e4⟩ := hR
  obtain ⟨s', g1, g2, g3, g4, g5, g6, _⟩ := (fromVecs_history_views hok hnd _).1 r hr
  rw [r1] at g4 g6
  rw [r2] at g5 g6
  refine ⟨s', g1, g2, g3, g4, g5, ?_, ?_, ?_, ?_⟩
  · rw [g6 0 0 (by decide) (by decide), e1]
  · rw [g6 0 2 (by decide) (by decide), e2]
  · rw [g6 1 1 (by decide) (by decide), e3]
  · rw [g6 1 0 (by decide) (by decide), e4]

/-- the same start, a history with an out-of-range `insert`: an index panic -/
example : (fromVecs 3 2 (#[5, 7] : Array ℚ) #[2, 0] #[0, 2, 2] >>= fun s =>
    runC [.transpose, .insert 2 0 1] s) = .error .range :=
  (fromVecs_history_views demoV_ok demoV_noDup _).2 rfl

end Ohsl.Props.C06
