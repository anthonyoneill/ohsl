/-
  Property C04 (part D) — the determinant of a banded matrix equals the determinant of its dense
  twin (model: Ohsl/Model/Banded.lean).

  Class (E): `F` a linearly ordered field (`[Field F] [LinearOrder F] [IsStrictOrderedRing F]`; the
  compatibility of order and arithmetic is needed because the pivot is chosen by MAGNITUDE: a zero
  pivot must mean that the whole column is zero inside the search window), scalar interpretation
  `Ohsl.Alg.scalarExt`.

  `Band.det` runs the compact LU `bandec` (left shift of the first `m1` rows, then for each column a
  pivot search by magnitude inside the band, a row exchange that flips the sign `d`, and the
  elimination that shifts each row of the window one slot to the left) and multiplies the sign with
  the first slots of the upper factor.  The proof simulates every step on the dense twin `twinK` of
  the compact working storage and keeps `d * det (twinK) = det (dense b)`.

  (E) `det_correct`; `det_ok_iff`, `det_singular_iff`, `det_zero_iff_kernel`, `det_ne_zero_solvable`;
      `det_padding_exact` (storages of DIFFERENT band widths with the same dense twin).
-/
import Ohsl.Props.C04B
import Ohsl.Lemmas.BandDet
import Mathlib.LinearAlgebra.Matrix.NonsingularInverse
import Mathlib.LinearAlgebra.Matrix.ToLinearEquiv
import Mathlib.Algebra.Order.Field.Rat
namespace Ohsl.Props.C04
open Ohsl Ohsl.Band

section DetFull
variable {F : Type} [Field F] [LinearOrder F] [IsStrictOrderedRing F]
attribute [local instance] Ohsl.Alg.scalarExt

/-- (E) **the determinant of a banded matrix is the determinant of its dense twin.**  For every
    well-formed banded matrix (any `n`, `n = 0` included, any `m2`, any `m1 ≤ n`; padding slots
    arbitrary) `det` succeeds and returns `Matrix.det` of the `n × n` matrix `dense b`.  Singular
    matrices are included: a zero pivot suppresses the elimination of that column and the result is
    exactly `0`. -/
theorem det_correct {b : Band F} (h : WFb b) (hm : b.m1 ≤ b.n) :
    Band.det b = .ok (Matrix.det (Matrix.of (fun (i j : Fin b.n) => dense b i j))) :=
  Band.det_eq_det h hm

theorem det_total {b : Band F} (h : WFb b) (hm : b.m1 ≤ b.n) : ∃ δ, Band.det b = .ok δ :=
  ⟨_, det_correct h hm⟩

theorem det_sound {b : Band F} (h : WFb b) {δ : F} (hd : Band.det b = .ok δ) :
    δ = Matrix.det (Matrix.of (fun (i j : Fin b.n) => dense b i j)) := by
  by_cases hm : b.m1 ≤ b.n
  · rw [det_correct h hm] at hd
    injection hd with hd
    exact hd.symm
  · rw [Band.det_rejects h (by omega)] at hd
    cases hd

/-- (E) `det` returns a value exactly for the shapes with `m1 ≤ n` -/
theorem det_ok_iff {b : Band F} (h : WFb b) : (∃ δ, Band.det b = .ok δ) ↔ b.m1 ≤ b.n := by
  constructor
  · rintro ⟨δ, hd⟩
    by_contra hm
    rw [Band.det_rejects h (by omega)] at hd
    cases hd
  · exact det_total h

/-- (E) the computed determinant vanishes exactly when the dense twin is singular (not invertible) -/
theorem det_singular_iff {b : Band F} (h : WFb b) {δ : F} (hd : Band.det b = .ok δ) :
    δ = 0 ↔ ¬ IsUnit (Matrix.of (fun (i j : Fin b.n) => dense b i j)) := by
  rw [det_sound h hd, Matrix.isUnit_iff_isUnit_det, isUnit_iff_ne_zero, not_not]

/-- (E) the computed determinant vanishes exactly when the dense twin has a non-trivial kernel -/
theorem det_zero_iff_kernel {b : Band F} (h : WFb b) {δ : F} (hd : Band.det b = .ok δ) :
    δ = 0 ↔ ∃ v : Fin b.n → F, v ≠ 0 ∧
      Matrix.mulVec (Matrix.of (fun (i j : Fin b.n) => dense b i j)) v = 0 := by
  rw [det_sound h hd]
  exact Matrix.exists_mulVec_eq_zero_iff.symm

/-- (E) if the dense twin has a non-zero determinant, `solve` succeeds for every right-hand side of
    length `n` and returns a solution of the dense system -/
theorem det_ne_zero_solvable {b : Band F} (h : WFb b) (hm : b.m1 ≤ b.n)
    (hdet : Matrix.det (Matrix.of (fun (i j : Fin b.n) => dense b i j)) ≠ 0) {rhs : Array F}
    (hr : rhs.size = b.n) :
    ∃ x, solve b rhs = .ok x ∧ x.size = b.n ∧ ∀ i, i < b.n →
      ∑ j ∈ Finset.range b.n, dense b i j * x[j]?.getD 0 = rhs[i]?.getD 0 :=
  solve_complete h hr (det_correct h hm) hdet

/-- (E) **the determinant depends on the dense twin only**: two well-formed banded storages of the
    same order — the band widths `(m1, m2)` may DIFFER, and so may all padding slots — whose dense
    twins agree have the same determinant.  (`det_padding` of C04B is the structural statement for
    equal shapes; this one needs exact arithmetic.) -/
theorem det_padding_exact {a b : Band F} (ha : WFb a) (hb : WFb b) (hn : a.n = b.n)
    (hma : a.m1 ≤ a.n) (hmb : b.m1 ≤ b.n)
    (hag : ∀ i j, i < a.n → j < a.n → dense a i j = dense b i j) :
    Band.det a = Band.det b := by
  rw [det_correct ha hma, det_correct hb hmb]
  obtain ⟨n, m1, m2, ca⟩ := a
  obtain ⟨n', m1', m2', cb⟩ := b
  simp only at hn
  subst hn
  congr 2
  ext i j
  exact hag i.val j.val i.isLt j.isLt

end DetFull

section ExampleD
attribute [local instance] Ohsl.Alg.scalarExt

theorem exBand_det : Band.det exBand = .ok (-3) := by decide +kernel

/-- non-vacuity: the `3 × 3` tridiagonal matrix `[[1,2,0],[3,4,1],[0,1,1]]` of C04B (`m1 = m2 = 1`,
    garbage `7` in the padding slots) is well formed, `m1 ≤ n`, the pivot steps 0 and 1 both EXCHANGE
    rows (recorded 1-based indices `2` and `3`, so the final sign is `d = 1`), and `det` returns `-3` -/
example : WFb exBand ∧ exBand.m1 ≤ exBand.n ∧ Band.det exBand = .ok (-3) ∧
    (do let s ← decompose exBand; pure (s.index, s.d) : Res (Array Nat × ℚ)) = .ok (#[2, 3, 3], 1) :=
  ⟨exBand_wf, by decide, exBand_det, by decide +kernel⟩

example : Matrix.det (Matrix.of (fun (i j : Fin exBand.n) => dense exBand i j)) = -3 := by
  have h := det_correct (F := ℚ) exBand_wf (by decide)
  rw [exBand_det] at h
  injection h with h
  exact h.symm

/-- a singular banded matrix with a zero pivot in the first column:
    dense `[[0,1,0],[0,1,1],[0,0,1]]`, padding `7` -/
def exBandSing : Band ℚ := ⟨3, 1, 1, ⟨#[7, 0, 1, 0, 1, 1, 0, 1, 7], 3, 3⟩⟩

example : WFb exBandSing ∧ exBandSing.m1 ≤ exBandSing.n ∧ Band.det exBandSing = .ok 0 := by
  refine ⟨⟨_, Mat.Is.of_wf (by unfold Mat.WF; rfl)⟩, by decide, by decide +kernel⟩

end ExampleD

end Ohsl.Props.C04
