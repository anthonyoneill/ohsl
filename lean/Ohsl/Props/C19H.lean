/-
  Property C19 (continued) — the FILE-level round trip of a one-dimensional mesh:
  `Fmt.read r (Fmt.output m prec)` (model: Ohsl/Model/Fmt.lean).
  C19F / C19G prove the single-token round trip `parse (fixed x prec)`; here the tokenisation, the
  node / variable placement and the resizing of `Mesh1D::read` are proved, so that the file-level
  round trip reduces, entry by entry, to the token-level one.

  Structural (class S: arbitrary text / tokens, nothing about `fixed` or `parse`):
    `read_shape`, `read_nodes`, `read_vars`   what `read` does with ANY text of the right length
  About the text written by `output`:
    `fixed_word`      every printed token is non-empty and contains no separator
    `output_tokens`   the token list of the written text, row-major
  Round trip:
    `read_output_eq`: what is read back is `reread prec m`, the mesh with every number sent through
    `parse ∘ fixed`; its pointwise readings `read_output_values` (+ `_coord`, `_index`);
    `file_roundtrip`, `file_roundtrip_exact`, `file_roundtrip_nonfinite`
-/
import Ohsl.Props.C19G
import Ohsl.Lemmas.C19H
import Ohsl.Lemmas.MatIdx
namespace Ohsl.Props.C19
open Ohsl Ohsl.Fmt Ohsl.Tok

/-- `read_shape` (class S): reading ANY text with `n * (nvars + 1)` tokens into a mesh `r` whose rows
have `r.nvars` entries gives a well-shaped mesh with `n` nodes and the same `nvars` — whatever
the number of nodes and rows of `r` was (`vars` is resized). -/
theorem read_shape (r : Mesh1 Float Float) (hr : r.RowsOk) (text : String) (n : Nat)
    (hlen : (tokens text).length = n * (r.nvars + 1)) :
    (Fmt.read r text).nvars = r.nvars ∧ (Fmt.read r text).Shaped n := by
  rw [read_eq_readToks]
  refine ⟨rfl, ?_, readToks_vars_size r _ n hlen, readToks_rows r hr _ n hlen⟩
  rw [readToks_nodes r _ n hlen]
  simp

/-- `read_nodes` (class S): node `i` of the mesh read from ANY text with `n * (nvars + 1)` tokens is
`parse` of token `i * (nvars + 1)`. -/
theorem read_nodes (r : Mesh1 Float Float) (text : String) (n : Nat)
    (hlen : (tokens text).length = n * (r.nvars + 1)) (i : Nat) (hi : i < n) :
    (Fmt.read r text).nodes[i]?
      = some (Fmt.parse ((tokens text)[i * (r.nvars + 1)]?.getD "0")) := by
  rw [read_eq_readToks, readToks_nodes r _ n hlen]
  simp [hi]

/-- `read_vars` (class S): variable `j` of node `i` of the mesh read from ANY text with
`n * (nvars + 1)` tokens is `parse` of token `i * (nvars + 1) + j + 1`. -/
theorem read_vars (r : Mesh1 Float Float) (hr : r.RowsOk) (text : String) (n : Nat)
    (hlen : (tokens text).length = n * (r.nvars + 1)) (i j : Nat) (hi : i < n) (hj : j < r.nvars) :
    (Fmt.read r text).vars[i]?.bind (·[j]?)
      = some (Fmt.parse ((tokens text)[i * (r.nvars + 1) + (j + 1)]?.getD "0")) := by
  rw [read_eq_readToks]
  exact readToks_vars r hr _ n hlen i j hi hj

/-- the characters `Fmt.fixed` can print: digits, sign, point, and the letters of `NaN` / `inf` -/
def Printable (c : Char) : Prop :=
  c.isDigit = true ∨ c = '-' ∨ c = '.' ∨ c ∈ ['N', 'a', 'i', 'n', 'f']

theorem Printable.not_sep {c : Char} (h : Printable c) : isSep c = false := by
  cases hs : isSep c with
  | false => rfl
  | true =>
    exfalso
    simp only [isSep, Bool.or_eq_true, beq_iff_eq] at hs
    rcases hs with (rfl | rfl) | rfl <;>
      · rcases h with h | h | h | h
        · exact absurd h (by decide)
        · exact absurd h (by decide)
        · exact absurd h (by decide)
        · exact absurd h (by decide)

theorem fixed_word_finite (x : Float) (prec : Nat) (hn : x.isNaN = false) (hi : x.isInf = false) :
    (Fmt.fixed x prec).toList ≠ [] ∧ ∀ c ∈ (Fmt.fixed x prec).toList, Printable c := by
  obtain ⟨ds, fs, tail, hne, hds, hfs, _, htail, _, hs⟩ := fixed_chars x prec hn hi
  rw [hs]
  refine ⟨fun h => hne (List.append_eq_nil_iff.1 (List.append_eq_nil_iff.1 h).1).2, fun c hc => ?_⟩
  simp only [List.mem_append] at hc
  rcases hc with (hc | hc) | hc
  · split at hc
    · exact Or.inr (Or.inl (by simpa using hc))
    · exact absurd hc (by simp)
  · exact Or.inl (hds c hc)
  · rcases htail with ⟨rfl, -⟩ | rfl
    · exact absurd hc (by simp)
    · rcases List.mem_cons.1 hc with rfl | hc
      · exact Or.inr (Or.inr (Or.inl rfl))
      · exact Or.inl (hfs c hc)

theorem nonfinite_word : ∀ s ∈ ["NaN", "inf", "-inf"],
    s.toList ≠ [] ∧ ∀ c ∈ s.toList, Printable c := by
  simp only [Printable]
  decide

theorem fixed_nonfinite_mem (x : Float) (prec : Nat) (h : x.isNaN = true ∨ x.isInf = true) :
    Fmt.fixed x prec ∈ ["NaN", "inf", "-inf"] := by
  cases hn : x.isNaN with
  | true => rw [fixed_nan x prec hn]; decide
  | false =>
    have hi : x.isInf = true := by simpa [hn] using h
    rw [fixed_inf x prec hn hi]; split <;> decide

/-- `fixed_printable`: whatever the value (finite, NaN, infinite), `Fmt.fixed` prints a non-empty
text made of digits, `-`, `.` and the letters of `NaN` / `inf`. -/
theorem fixed_printable (x : Float) (prec : Nat) :
    (Fmt.fixed x prec).toList ≠ [] ∧ ∀ c ∈ (Fmt.fixed x prec).toList, Printable c := by
  by_cases h : x.isNaN = true ∨ x.isInf = true
  · exact nonfinite_word _ (fixed_nonfinite_mem x prec h)
  · simp only [not_or, Bool.not_eq_true] at h
    exact fixed_word_finite x prec h.1 h.2

/-- `fixed_word`: every token written by `Fmt.fixed` — for a finite value, a NaN or an infinity — is
non-empty and contains no separator of the tokeniser, so it is read back as ONE token. -/
theorem fixed_word (x : Float) (prec : Nat) : Word isSep (Fmt.fixed x prec).toList :=
  ⟨(fixed_printable x prec).1, fun c hc => ((fixed_printable x prec).2 c hc).not_sep⟩

/-- the tokens of line `i` of the file: the node, then its `nvars` variables (with the defaults the
model's `output` uses for missing entries) -/
def lineToks (m : Mesh1 Float Float) (prec i : Nat) : List String :=
  Fmt.fixed (m.nodes[i]?.getD 0.0) prec ::
    (List.range m.nvars).map (fun v => Fmt.fixed ((m.vars[i]?.getD #[])[v]?.getD 0.0) prec)

theorem lineToks_length (m : Mesh1 Float Float) (prec i : Nat) :
    (lineToks m prec i).length = m.nvars + 1 := by
  simp [lineToks]

theorem output_toList (m : Mesh1 Float Float) (prec : Nat) :
    (Fmt.output m prec).toList = (List.range m.nodes.size).flatMap
      (fun i => (lineToks m prec i).flatMap (fun w => w.toList ++ [' ']) ++ ['\n']) := by
  have h : Fmt.output m prec = (List.range m.nodes.size).foldl (fun acc i => acc ++
      ((List.range m.nvars).foldl (fun l v =>
        l ++ Fmt.fixed ((m.vars[i]?.getD #[])[v]?.getD 0.0) prec ++ " ")
        (Fmt.fixed (m.nodes[i]?.getD 0.0) prec ++ " ")) ++ "\n") "" := rfl
  rw [h, foldl_append2_toList]
  simp only [String.toList_empty, List.nil_append]
  refine List.flatMap_congr fun i _ => ?_
  rw [foldl_append2_toList]
  simp only [lineToks, List.flatMap_cons, List.flatMap_map, String.toList_append]
  rfl

theorem output_tokens_lines (m : Mesh1 Float Float) (prec : Nat) :
    tokens (Fmt.output m prec) = (List.range m.nodes.size).flatMap (lineToks m prec) := by
  have h := tokens_lines (Fmt.output m prec) ((List.range m.nodes.size).map (lineToks m prec))
    (by
      intro l hl w hw
      obtain ⟨i, -, rfl⟩ := List.mem_map.1 hl
      simp only [lineToks, List.mem_cons, List.mem_map] at hw
      rcases hw with rfl | ⟨v, -, rfl⟩ <;> exact fixed_word _ _)
    (by rw [output_toList, List.flatMap_map])
  rw [h, List.flatMap_def]

theorem output_tokens_length (m : Mesh1 Float Float) (prec : Nat) :
    (tokens (Fmt.output m prec)).length = m.nodes.size * (m.nvars + 1) := by
  rw [output_tokens_lines]
  exact length_flatMap_range _ _ (lineToks_length m prec) _

/-- `output_tokens`: for a well-shaped mesh the token list of the written text is exactly
`[fixed x_0, fixed v_{0,0}, …, fixed v_{0,nvars-1}, fixed x_1, …]`: nodes paired with their rows, in
order, every value printed by `Fmt.fixed`. -/
theorem output_tokens (m : Mesh1 Float Float) (prec n : Nat) (hm : m.Shaped n) :
    tokens (Fmt.output m prec) = (m.nodes.toList.zip m.vars.toList).flatMap
      (fun p => Fmt.fixed p.1 prec :: p.2.toList.map (fun v => Fmt.fixed v prec)) := by
  obtain ⟨h1, h2, h3⟩ := hm
  rw [output_tokens_lines, zip_eq_map_range m.nodes.toList m.vars.toList n (by simpa using h1)
    (by simpa using h2) 0.0 #[], List.flatMap_map, h1]
  apply List.flatMap_congr
  intro i hi
  have hi' : i < m.vars.size := by rw [h2]; exact List.mem_range.1 hi
  simp only [lineToks, Array.getElem?_toList, List.cons.injEq, true_and]
  rw [Array.getElem?_eq_getElem hi', Option.getD_some, ← h3 i hi',
    toList_eq_map_range m.vars[i] 0.0, List.map_map]
  exact List.map_congr_left fun v _ =>
    congrArg (Fmt.fixed · prec) (Array.getD_eq_getD_getElem? ..).symm

theorem output_token_node (m : Mesh1 Float Float) (prec : Nat) (i : Nat) (hi : i < m.nodes.size) :
    (tokens (Fmt.output m prec))[i * (m.nvars + 1)]? = some (Fmt.fixed m.nodes[i] prec) := by
  rw [output_tokens_lines]
  have := getElem?_flatMap_range (lineToks m prec) (m.nvars + 1) (lineToks_length m prec)
    m.nodes.size i 0 hi (Nat.succ_pos _)
  rw [Nat.add_zero] at this
  rw [this]
  simp [lineToks, hi]

theorem output_token_var (m : Mesh1 Float Float) (prec n : Nat) (hm : m.Shaped n) (i j : Nat)
    (hi : i < m.vars.size) (hj : j < m.vars[i].size) :
    (tokens (Fmt.output m prec))[i * (m.nvars + 1) + (j + 1)]?
      = some (Fmt.fixed m.vars[i][j] prec) := by
  obtain ⟨h1, h2, h3⟩ := hm
  have hj' : j < m.nvars := by rw [← h3 i hi]; exact hj
  rw [output_tokens_lines,
    getElem?_flatMap_range (lineToks m prec) (m.nvars + 1) (lineToks_length m prec)
      m.nodes.size i (j + 1) (h1.trans h2.symm ▸ hi) (Nat.succ_lt_succ hj')]
  simp [lineToks, hi, hj, hj']

/-- `read_output_shape`: reading the text written for a mesh `m` into a mesh `r` with the same
`nvars` (whose rows have `nvars` entries; its number of nodes is irrelevant — `read` takes `nvars`
from the receiving mesh and resizes `vars` to the number of nodes found) gives a mesh of the shape
of `m`: as many nodes and rows as `m` has nodes, `nvars` entries per row. -/
theorem read_output_shape (m r : Mesh1 Float Float) (prec : Nat) (hr : r.RowsOk)
    (hnv : r.nvars = m.nvars) :
    (Fmt.read r (Fmt.output m prec)).nvars = m.nvars ∧
      (Fmt.read r (Fmt.output m prec)).Shaped m.nodes.size := by
  have h := read_shape r hr (Fmt.output m prec) m.nodes.size
    (by rw [output_tokens_length, hnv])
  exact ⟨h.1.trans hnv, h.2⟩

/-- a mesh with every number replaced by what is read back from its printed form -/
def reread (prec : Nat) (m : Mesh1 Float Float) : Mesh1 Float Float :=
  { m with nodes := m.nodes.map fun x => Fmt.parse (Fmt.fixed x prec),
           vars := m.vars.map fun row => row.map fun x => Fmt.parse (Fmt.fixed x prec) }

/-- **writing a well-shaped mesh and reading the file back** (into any mesh with the same number of
variables and full rows) gives the mesh itself with every number sent through `parse ∘ fixed`: the
file-level round trip reduces EXACTLY to the token-level one. -/
theorem read_output_eq (m r : Mesh1 Float Float) (prec n : Nat) (hm : m.Shaped n) (hr : r.RowsOk)
    (hnv : r.nvars = m.nvars) : Fmt.read r (Fmt.output m prec) = reread prec m := by
  obtain ⟨hnv', hs1, hs2, hs3⟩ := read_output_shape m r prec hr hnv
  have hvs : m.vars.size = m.nodes.size := hm.2.1.trans hm.1.symm
  have hlen : (tokens (Fmt.output m prec)).length = m.nodes.size * (r.nvars + 1) := by
    rw [output_tokens_length, hnv]
  have h1 : ∀ i (hi : i < m.nodes.size), (Fmt.read r (Fmt.output m prec)).nodes[i]?
      = some (Fmt.parse (Fmt.fixed m.nodes[i] prec)) := fun i hi => by
    rw [read_nodes r _ _ hlen i hi, hnv, output_token_node m prec i hi]
    rfl
  have h2 : ∀ i j (hi : i < m.vars.size) (hj : j < m.vars[i].size),
      (Fmt.read r (Fmt.output m prec)).vars[i]?.bind (·[j]?)
        = some (Fmt.parse (Fmt.fixed m.vars[i][j] prec)) := fun i j hi hj => by
    rw [read_vars r hr _ _ hlen i j (hvs ▸ hi) (by rw [hnv, ← hm.2.2 i hi]; exact hj), hnv,
      output_token_var m prec n hm i j hi hj]
    rfl
  have hext : ∀ q : Mesh1 Float Float, q.nvars = m.nvars → q.nodes = (reread prec m).nodes →
      q.vars = (reread prec m).vars → q = reread prec m := by
    rintro ⟨_, _, _⟩ rfl rfl rfl; rfl
  refine hext _ hnv' (Array.ext (by rw [hs1]; exact (Array.size_map ..).symm) fun i hq hi' => ?_)
    (Array.ext (by rw [hs2, ← hvs]; exact (Array.size_map ..).symm) fun i hq hi' => ?_)
  · have hi : i < m.nodes.size := hs1 ▸ hq
    have e := h1 i hi
    rw [Array.getElem?_eq_getElem hq] at e
    rw [Option.some.inj e]
    exact (Array.getElem_map (fun x => Fmt.parse (Fmt.fixed x prec)) hi').symm
  · have hi : i < m.vars.size := by rw [hvs, ← hs2]; exact hq
    have hsz : ((Fmt.read r (Fmt.output m prec)).vars[i]'hq).size = (m.vars[i]'hi).size :=
      (hs3 i hq).trans (hnv'.trans (hm.2.2 i hi).symm)
    rw [show (reread prec m).vars[i] = m.vars[i].map _ from Array.getElem_map ..]
    refine Array.ext (by rw [hsz]; exact (Array.size_map ..).symm) fun j hj1 hj2 => ?_
    have e := h2 i j hi (hsz ▸ hj1)
    rw [Array.getElem?_eq_getElem hq, Option.bind_some, Array.getElem?_eq_getElem hj1] at e
    rw [Option.some.inj e]
    exact (Array.getElem_map (fun x => Fmt.parse (Fmt.fixed x prec)) hj2).symm

/-- `read_output_values`: node `i` read back is `parse (fixed x_i prec)` and variable `(i, j)` read
back is `parse (fixed v_{i,j} prec)`, for every node and every variable of a well-shaped mesh (all
values, finite or not). -/
theorem read_output_values (m r : Mesh1 Float Float) (prec n : Nat) (hm : m.Shaped n)
    (hr : r.RowsOk) (hnv : r.nvars = m.nvars) :
    (∀ i (hi : i < m.nodes.size),
      (Fmt.read r (Fmt.output m prec)).nodes[i]? = some (Fmt.parse (Fmt.fixed m.nodes[i] prec))) ∧
    (∀ i j (hi : i < m.vars.size) (hj : j < m.vars[i].size),
      (Fmt.read r (Fmt.output m prec)).vars[i]?.bind (·[j]?)
        = some (Fmt.parse (Fmt.fixed m.vars[i][j] prec))) := by
  rw [read_output_eq m r prec n hm hr hnv]
  exact ⟨fun i hi => by simp [reread, hi], fun i j hi hj => by simp [reread, hi, hj]⟩

/-- the same through the accessors of the mesh: `coord` and `mesh[node]` / `getNodesVars` -/
theorem read_output_values_coord (m r : Mesh1 Float Float) (prec n : Nat) (hm : m.Shaped n)
    (hr : r.RowsOk) (hnv : r.nvars = m.nvars) (i : Nat) (hi : i < m.nodes.size) :
    (Fmt.read r (Fmt.output m prec)).coord i = .ok (Fmt.parse (Fmt.fixed m.nodes[i] prec)) := by
  unfold Mesh1.coord
  rw [Mat.aget_eq_ok]
  exact (read_output_values m r prec n hm hr hnv).1 i hi

theorem read_output_values_index (m r : Mesh1 Float Float) (prec n : Nat) (hm : m.Shaped n)
    (hr : r.RowsOk) (hnv : r.nvars = m.nvars) (i : Nat) (hi : i < m.vars.size) :
    ∃ row, (Fmt.read r (Fmt.output m prec)).index i = .ok row ∧
      (Fmt.read r (Fmt.output m prec)).getNodesVars i = .ok row ∧
      row.size = m.vars[i].size ∧
      ∀ j (hj : j < m.vars[i].size), row[j]? = some (Fmt.parse (Fmt.fixed m.vars[i][j] prec)) := by
  rw [read_output_eq m r prec n hm hr hnv]
  have hi' : i < (reread prec m).vars.size := by simpa [reread] using hi
  refine ⟨(reread prec m).vars[i], Mat.aget_ok hi', ?_, by simp [reread], fun j hj => by
    simp [reread, hj]⟩
  unfold Mesh1.getNodesVars
  rw [if_neg (Nat.not_le.2 ((Array.size_map ..).trans (hm.1.trans hm.2.1.symm) ▸ hi))]
  exact Mat.aget_ok hi'

/-- `ReadBack x prec y`: `y` is a double that differs from the finite double `x` by at most half a
unit of the last printed decimal plus half an ulp of `y` — the conclusion of the token theorems
`roundtrip_value` / `roundtrip_value_zero` of C19G: either the printed text is not `±0.00…0` and
`y = ± scaleB (ofNat m) e` with a 53-bit `m` and `|± m·2^e − x| ≤ 1/(2·10^prec) + 2^e/2`, or the
text is `±0.00…0`, `y = ±0.0` and `|x| ≤ 1/(2·10^prec)`. -/
def ReadBack (x : Float) (prec : Nat) (y : Float) : Prop :=
  (printedNum (decode x) prec ≠ 0 ∧ ∃ (m : Nat) (e : Int), 2 ^ 52 ≤ m ∧ m ≤ 2 ^ 53 ∧
      y = withSign (decode x) (Float.scaleB (Float.ofNat m) e) ∧
      |sgn (decode x) * ((m : ℚ) * 2 ^ e) - val (decode x)| ≤ 1 / (2 * 10 ^ prec) + 2 ^ e / 2) ∨
  (printedNum (decode x) prec = 0 ∧ y = withSign (decode x) 0.0 ∧
      |(0 : ℚ) - val (decode x)| ≤ 1 / (2 * 10 ^ prec))

/-- `ReadBackExact x prec y`: `y` is `± scaleB (ofNat m) e` with `± m·2^e` EQUAL to the exact value
of `x` (or `±0.0` when `x` is a zero) — the conclusion of `roundtrip_value_exact` /
`roundtrip_value_exact_zero`. -/
def ReadBackExact (x : Float) (y : Float) : Prop :=
  ((decode x).2.1 ≠ 0 ∧ ∃ (m : Nat) (e : Int), 2 ^ 52 ≤ m ∧ m ≤ 2 ^ 53 ∧
      y = withSign (decode x) (Float.scaleB (Float.ofNat m) e) ∧
      sgn (decode x) * ((m : ℚ) * 2 ^ e) = val (decode x)) ∨
  ((decode x).2.1 = 0 ∧ y = withSign (decode x) 0.0 ∧ val (decode x) = 0)

theorem token_roundtrip (x : Float) (prec : Nat) (hn : x.isNaN = false) (hi : x.isInf = false)
    (hp : 10 ^ prec ≤ 2 ^ 2198) : ReadBack x prec (Fmt.parse (Fmt.fixed x prec)) := by
  by_cases hN : printedNum (decode x) prec = 0
  · exact Or.inr ⟨hN, roundtrip_value_zero x prec hn hi hN⟩
  · exact Or.inl ⟨hN, roundtrip_value x prec hn hi hN hp⟩

theorem token_roundtrip_exact (x : Float) (prec : Nat) (hn : x.isNaN = false)
    (hi : x.isInf = false) (hdiv : (decode x).2.2 ∣ (decode x).2.1 * 10 ^ prec) :
    ReadBackExact x (Fmt.parse (Fmt.fixed x prec)) := by
  by_cases hz : (decode x).2.1 = 0
  · exact Or.inr ⟨hz, roundtrip_value_exact_zero x prec hn hi hz⟩
  · exact Or.inl ⟨hz, roundtrip_value_exact x prec hn hi hz hdiv⟩

/-- `file_roundtrip`: writing a well-shaped mesh `m` with `prec` decimals (`prec ≤ 661`) and reading
the file into a mesh `r` with the same `nvars` reproduces every FINITE node and every FINITE
variable to the printed precision (`ReadBack`: within half a unit of the last printed decimal plus
half an ulp of the value read). -/
theorem file_roundtrip (m r : Mesh1 Float Float) (prec n : Nat) (hm : m.Shaped n) (hr : r.RowsOk)
    (hnv : r.nvars = m.nvars) (hp : 10 ^ prec ≤ 2 ^ 2198) :
    (∀ i (hi : i < m.nodes.size), m.nodes[i].isNaN = false → m.nodes[i].isInf = false →
      ∃ y, (Fmt.read r (Fmt.output m prec)).nodes[i]? = some y ∧ ReadBack m.nodes[i] prec y) ∧
    (∀ i j (hi : i < m.vars.size) (hj : j < m.vars[i].size),
      m.vars[i][j].isNaN = false → m.vars[i][j].isInf = false →
      ∃ y, (Fmt.read r (Fmt.output m prec)).vars[i]?.bind (·[j]?) = some y ∧
        ReadBack m.vars[i][j] prec y) := by
  obtain ⟨h1, h2⟩ := read_output_values m r prec n hm hr hnv
  exact ⟨fun i hi hN hI => ⟨_, h1 i hi, token_roundtrip _ prec hN hI hp⟩,
    fun i j hi hj hN hI => ⟨_, h2 i j hi hj, token_roundtrip _ prec hN hI hp⟩⟩

/-- `file_roundtrip_exact`: every finite node / variable whose exact value has at most `prec`
decimals (`den ∣ num · 10^prec`; e.g. the integer-valued data and dyadic nodes of property C19 with
enough decimals) is reproduced EXACTLY by writing and reading the file. -/
theorem file_roundtrip_exact (m r : Mesh1 Float Float) (prec n : Nat) (hm : m.Shaped n)
    (hr : r.RowsOk) (hnv : r.nvars = m.nvars) :
    (∀ i (hi : i < m.nodes.size), m.nodes[i].isNaN = false → m.nodes[i].isInf = false →
      (decode m.nodes[i]).2.2 ∣ (decode m.nodes[i]).2.1 * 10 ^ prec →
      ∃ y, (Fmt.read r (Fmt.output m prec)).nodes[i]? = some y ∧ ReadBackExact m.nodes[i] y) ∧
    (∀ i j (hi : i < m.vars.size) (hj : j < m.vars[i].size),
      m.vars[i][j].isNaN = false → m.vars[i][j].isInf = false →
      (decode m.vars[i][j]).2.2 ∣ (decode m.vars[i][j]).2.1 * 10 ^ prec →
      ∃ y, (Fmt.read r (Fmt.output m prec)).vars[i]?.bind (·[j]?) = some y ∧
        ReadBackExact m.vars[i][j] y) := by
  obtain ⟨h1, h2⟩ := read_output_values m r prec n hm hr hnv
  exact ⟨fun i hi hN hI hd => ⟨_, h1 i hi, token_roundtrip_exact _ prec hN hI hd⟩,
    fun i j hi hj hN hI hd => ⟨_, h2 i j hi hj, token_roundtrip_exact _ prec hN hI hd⟩⟩

/-- `file_roundtrip_nonfinite`: a NaN variable is read back as `0.0 / 0.0`, an infinite one as
`±1.0 / 0.0` (the same for nodes) — the spellings `NaN`, `inf`, `-inf` are single tokens too. -/
theorem file_roundtrip_nonfinite (m r : Mesh1 Float Float) (prec n : Nat) (hm : m.Shaped n)
    (hr : r.RowsOk) (hnv : r.nvars = m.nvars) :
    (∀ i (hi : i < m.nodes.size),
      (m.nodes[i].isNaN = true →
        (Fmt.read r (Fmt.output m prec)).nodes[i]? = some (0.0 / 0.0)) ∧
      (m.nodes[i].isNaN = false → m.nodes[i].isInf = true →
        (Fmt.read r (Fmt.output m prec)).nodes[i]?
          = some (if m.nodes[i] < 0 then -1.0 / 0.0 else 1.0 / 0.0))) ∧
    (∀ i j (hi : i < m.vars.size) (hj : j < m.vars[i].size),
      (m.vars[i][j].isNaN = true →
        (Fmt.read r (Fmt.output m prec)).vars[i]?.bind (·[j]?) = some (0.0 / 0.0)) ∧
      (m.vars[i][j].isNaN = false → m.vars[i][j].isInf = true →
        (Fmt.read r (Fmt.output m prec)).vars[i]?.bind (·[j]?)
          = some (if m.vars[i][j] < 0 then -1.0 / 0.0 else 1.0 / 0.0))) := by
  obtain ⟨h1, h2⟩ := read_output_values m r prec n hm hr hnv
  refine ⟨fun i hi => ⟨fun hN => ?_, fun hN hI => ?_⟩, fun i j hi hj => ⟨fun hN => ?_, fun hN hI => ?_⟩⟩
  · rw [h1 i hi, parse_fixed_nan _ prec hN]
  · rw [h1 i hi, parse_fixed_inf _ prec hN hI]
  · rw [h2 i j hi hj, parse_fixed_nan _ prec hN]
  · rw [h2 i j hi hj, parse_fixed_inf _ prec hN hI]

/-- a freshly constructed mesh (`Mesh1D::new`) is well shaped — the natural receiving mesh -/
theorem new_shaped (nodes : Array Float) (nvars : Nat) :
    (Mesh1.new nodes nvars : Mesh1 Float Float).Shaped nodes.size ∧
      (Mesh1.new nodes nvars : Mesh1 Float Float).nvars = nvars := by
  refine ⟨⟨rfl, by simp [Mesh1.new], ?_⟩, rfl⟩
  intro i hi
  simp [Mesh1.new]

/-- the empty 2-variable mesh can receive a file -/
example : (Mesh1.new #[] 2 : Mesh1 Float Float).RowsOk ∧ (Mesh1.new #[] 2 : Mesh1 Float Float).nvars = 2 :=
  ⟨(new_shaped #[] 2).1.2.2, rfl⟩

/-- the text of a 3-node, 2-variable mesh written with two decimals -/
def exampleText : String := "0.00 1.00 2.00 \n0.50 3.00 -4.00 \n1.00 NaN inf \n"

/-- its tokens, through the tokeniser of `Fmt.read` -/
theorem exampleText_tokens : tokens exampleText
    = ["0.00", "1.00", "2.00", "0.50", "3.00", "-4.00", "1.00", "NaN", "inf"] :=
  tokens_lines exampleText
    [["0.00", "1.00", "2.00"], ["0.50", "3.00", "-4.00"], ["1.00", "NaN", "inf"]]
    (by unfold Word; decide) (by simp [exampleText])

/-- reading it into an empty 2-variable mesh: three nodes, node 1 is `parse "0.50"`, variable 1 of
node 1 is `parse "-4.00"`, variable 0 of node 2 is a NaN -/
example :
    (Fmt.read (Mesh1.new #[] 2) exampleText).Shaped 3 ∧
    (Fmt.read (Mesh1.new #[] 2) exampleText).nodes[1]? = some (Fmt.parse "0.50") ∧
    (Fmt.read (Mesh1.new #[] 2) exampleText).vars[1]?.bind (·[1]?) = some (Fmt.parse "-4.00") ∧
    (Fmt.read (Mesh1.new #[] 2) exampleText).vars[2]?.bind (·[0]?) = some (0.0 / 0.0) := by
  have hr : (Mesh1.new #[] 2 : Mesh1 Float Float).RowsOk := (new_shaped #[] 2).1.2.2
  have hlen : (tokens exampleText).length = 3 * ((Mesh1.new #[] 2 : Mesh1 Float Float).nvars + 1) := by
    rw [exampleText_tokens]; rfl
  refine ⟨(read_shape _ hr _ 3 hlen).2, ?_, ?_, ?_⟩
  · rw [read_nodes _ _ 3 hlen 1 (by decide), exampleText_tokens]; rfl
  · rw [read_vars _ hr _ 3 hlen 1 1 (by decide) (by decide), exampleText_tokens]; rfl
  · rw [read_vars _ hr _ 3 hlen 2 0 (by decide) (by decide), exampleText_tokens]
    exact congrArg some parse_NaN

/-- a concrete 3-node, 2-variable mesh -/
def exampleMesh : Mesh1 Float Float := ⟨2, #[0.0, 0.5, 1.0], #[#[1.0, 2.0], #[3.0, 4.0], #[5.0, 6.0]]⟩

theorem exampleMesh_shaped : exampleMesh.Shaped 3 := by
  refine ⟨rfl, rfl, ?_⟩
  intro i hi
  have hi3 : i < 3 := hi
  rcases i with _ | _ | _ | i
  · rfl
  · rfl
  · rfl
  · omega

/-- the token list of the file written for it, row-major -/
example (prec : Nat) : tokens (Fmt.output exampleMesh prec)
    = [Fmt.fixed 0.0 prec, Fmt.fixed 1.0 prec, Fmt.fixed 2.0 prec,
       Fmt.fixed 0.5 prec, Fmt.fixed 3.0 prec, Fmt.fixed 4.0 prec,
       Fmt.fixed 1.0 prec, Fmt.fixed 5.0 prec, Fmt.fixed 6.0 prec] := by
  rw [output_tokens exampleMesh prec 3 exampleMesh_shaped]
  rfl

/-- … and what is read back from it into an empty 2-variable mesh -/
example (prec : Nat) :
    (Fmt.read (Mesh1.new #[] 2) (Fmt.output exampleMesh prec)).Shaped 3 ∧
    (Fmt.read (Mesh1.new #[] 2) (Fmt.output exampleMesh prec)).nodes[1]?
      = some (Fmt.parse (Fmt.fixed 0.5 prec)) ∧
    (Fmt.read (Mesh1.new #[] 2) (Fmt.output exampleMesh prec)).vars[2]?.bind (·[1]?)
      = some (Fmt.parse (Fmt.fixed 6.0 prec)) := by
  have hr : (Mesh1.new #[] 2 : Mesh1 Float Float).RowsOk := (new_shaped #[] 2).1.2.2
  have h := read_output_values exampleMesh (Mesh1.new #[] 2) prec 3 exampleMesh_shaped hr rfl
  exact ⟨(read_output_shape exampleMesh _ prec hr rfl).2, h.1 1 (by decide),
    h.2 2 1 (by decide) (by decide)⟩

end Ohsl.Props.C19
