/-
  Property C10 (continued) — root finder (model: Ohsl/Model/Roots.lean).

  (S) any scalar type, arbitrary arithmetic (so also IEEE floats with NaN):
      * `rootsReal_length`: `roots_length` of C10 through the embedding of real coefficients;
      * `polySolve_deg2`, `polySolve_deg3`: degrees 2 and 3 ARE the closed-form solvers;
      * `laguerLoop_stop`, `laguer_steps_le`: `laguer` is total by construction (structural recursion
        on the fuel), performs at most 79 updates, and if it used fewer it stopped where `laguerStep`
        returned `none`.  `LaguerTrace` is the run of `laguerLoop` as a chain of successful steps.
  (E) any field with `3 ≠ 0` (`2 ≠ 0` is not needed): `cubic_roots_alg` (with `cardano_product`,
      `cubic_factor_alg`, `cubic_triple_root_alg`): the values of Cardano's formula are all the zeros
      with multiplicity.
  (R) real interpretation, transported to Mathlib's ℂ with `toC`, for `a ≠ 0` and NO other
      hypothesis:
      * `quadratic_roots`, `quadratic_factor`, `quadratic_q_zero`, `quad_q_zero`: the values of
        `quadraticSolve` are all the zeros with multiplicity; which inputs take the `q == 0` branch;
      * `cubic_roots`, `cubic_factor`, `cBase_ne_zero`: likewise for `cubicSolve`, all three branches.
        The sign rule of the code (no cancellation in `d1 ± sq`) makes `base ≠ 0` outside the
        triple-root branch, so `d0 / k` never divides by zero there and the `base == 0` guard of fix
        D12 is dead over ℂ.
  NOT proved: convergence / accuracy of Laguerre + deflation (degree ≥ 4), anything about rounding
  (class F).  In `f64` the closed forms are of course only approximately zeros.
-/
import Ohsl.Props.C10
import Ohsl.Props.C14I
namespace Ohsl.Props.C10
open Ohsl Ohsl.Roots

section Structural
variable {K : Type} [Add K] [Sub K] [Mul K] [Neg K] [Div K] [Zero K] [One K] [BEq K] [ScalarExt K] [Transc K] [OfScientific K]

/-- degree 2 is the quadratic formula, degree 3 is Cardano -/
theorem polySolve_deg2 (c0 c1 c2 : Cx K) :
    polySolve #[c0, c1, c2] false = .ok (quadraticSolve c2 c1 c0) := by
  rw [polySolve_eq #[c0, c1, c2] _ (show 2 ≤ 3 by decide), rawRoots_three]; rfl
theorem polySolve_deg3 (c0 c1 c2 c3 : Cx K) :
    polySolve #[c0, c1, c2, c3] false = .ok (cubicSolve c3 c2 c1 c0) := by
  rw [polySolve_eq #[c0, c1, c2, c3] _ (show 2 ≤ 4 by decide), rawRoots_four]; rfl

theorem rootsReal_length (c : Array K) (refine : Bool) (h : 2 ≤ c.size) :
    ∃ rs, rootsReal c refine = .ok rs ∧ rs.size = c.size - 1 := by
  have := roots_length (c.map (fun x => (⟨x, 0⟩ : Cx K))) refine (by simpa using h)
  simpa [rootsReal] using this

end Structural

section Trace
variable {K : Type} [Add K] [Sub K] [Mul K] [Div K] [Zero K] [One K] [BEq K] [ScalarExt K] [Transc K] [OfScientific K]

/-- number of successful Laguerre updates performed by `laguerLoop` -/
def laguerSteps (a : Array (Cx K)) (m : Nat) : Nat → Nat → Cx K → Nat
  | 0, _, _ => 0
  | fuel + 1, iter, x =>
    match laguerStep a m iter x with
    | none => 0
    | some x' => laguerSteps a m fuel (iter + 1) x' + 1

/-- **Trace of the model's Laguerre loop.**  `xs 0 = x`; the first `k ≤ fuel` calls
    `laguerStep a m (iter + i) (xs i)` (`i < k`) succeed and produce `xs (i+1)`; if fuel is left
    (`k < fuel`) the next call, at `xs k`, returns `none` (converged / stagnated / non-finite).
    Only `laguerStep` of the model occurs here. -/
def LaguerTrace (a : Array (Cx K)) (m fuel iter : Nat) (x : Cx K) (k : Nat) (xs : Nat → Cx K) : Prop :=
  k ≤ fuel ∧ xs 0 = x ∧
  (∀ i, i < k → laguerStep a m (iter + i) (xs i) = some (xs (i + 1))) ∧
  (k < fuel → laguerStep a m (iter + k) (xs k) = none)

theorem laguerLoop_trace_exists (a : Array (Cx K)) (m fuel iter : Nat) (x : Cx K) :
    ∃ k xs, LaguerTrace a m fuel iter x k xs := by
  induction fuel generalizing iter x with
  | zero =>
    exact ⟨0, fun _ => x, Nat.le_refl _, rfl, fun i hi => absurd hi (Nat.not_lt_zero _),
      fun h => absurd h (Nat.lt_irrefl _)⟩
  | succ f ih =>
    cases hx : laguerStep a m iter x with
    | none =>
      exact ⟨0, fun _ => x, Nat.zero_le _, rfl, fun i hi => absurd hi (Nat.not_lt_zero _),
        fun _ => by simpa using hx⟩
    | some x' =>
      obtain ⟨k, xs, hk, h0, hs, hn⟩ := ih (iter + 1) x'
      refine ⟨k + 1, fun i => match i with | 0 => x | i + 1 => xs i, by omega, rfl, ?_, ?_⟩
      · intro i hi
        cases i with
        | zero => simpa [h0] using hx
        | succ i =>
          have := hs i (by omega)
          rw [show iter + 1 + i = iter + (i + 1) by omega] at this
          simpa using this
      · intro hlt
        have := hn (by omega)
        rw [show iter + 1 + k = iter + (k + 1) by omega] at this
        simpa using this

theorem LaguerTrace.tail {a : Array (Cx K)} {m f iter : Nat} {x : Cx K} {k : Nat} {xs : Nat → Cx K}
    (h : LaguerTrace a m (f + 1) iter x (k + 1) xs) :
    laguerStep a m iter x = some (xs 1) ∧
      LaguerTrace a m f (iter + 1) (xs 1) k (fun i => xs (i + 1)) := by
  obtain ⟨hk, h0, hs, hn⟩ := h
  refine ⟨by simpa [h0] using hs 0 (Nat.succ_pos k), Nat.le_of_succ_le_succ hk, rfl, fun i hi => ?_,
    fun hlt => ?_⟩
  · have := hs (i + 1) (Nat.succ_lt_succ hi)
    rwa [show iter + (i + 1) = iter + 1 + i by omega] at this
  · have := hn (Nat.succ_lt_succ hlt)
    rwa [show iter + (k + 1) = iter + 1 + k by omega] at this

theorem laguerTrace_value (a : Array (Cx K)) (m fuel iter : Nat) (x : Cx K) (k : Nat)
    (xs : Nat → Cx K) (h : LaguerTrace a m fuel iter x k xs) :
    laguerLoop a m fuel iter x = xs k ∧ laguerSteps a m fuel iter x = k := by
  induction fuel generalizing iter x k xs with
  | zero =>
    obtain ⟨hk, h0, -, -⟩ := h
    have hk0 : k = 0 := by omega
    subst hk0
    simp [laguerLoop, laguerSteps, h0]
  | succ f ih =>
    cases k with
    | zero =>
      obtain ⟨hk, h0, hs, hn⟩ := h
      have h1 := hn (by omega)
      rw [Nat.add_zero, h0] at h1
      simp [laguerLoop, laguerSteps, h1, h0]
    | succ k' =>
      obtain ⟨h1, htr⟩ := h.tail
      obtain ⟨e1, e2⟩ := ih (iter + 1) (xs 1) k' (fun i => xs (i + 1)) htr
      simp [laguerLoop, laguerSteps, h1, e1, e2]

/-- `k`-fold iteration of the step from iteration counter `iter` -/
def laguerIter (a : Array (Cx K)) (m : Nat) : Nat → Nat → Cx K → Option (Cx K)
  | 0, _, x => some x
  | k + 1, iter, x => (laguerStep a m iter x).bind (laguerIter a m k (iter + 1))

theorem laguerIter_trace {a : Array (Cx K)} {m fuel iter : Nat} {x : Cx K} {k : Nat} {xs : Nat → Cx K}
    (h : LaguerTrace a m fuel iter x k xs) : laguerIter a m k iter x = some (xs k) := by
  induction k generalizing fuel iter x xs with
  | zero => rw [laguerIter, h.2.1]
  | succ k ih =>
    obtain ⟨f, rfl⟩ : ∃ f, fuel = f + 1 := ⟨fuel - 1, by have := h.1; omega⟩
    obtain ⟨h1, htr⟩ := h.tail
    rw [laguerIter, h1, Option.bind_some, ih htr]

theorem laguerSteps_le_fuel (a : Array (Cx K)) (m fuel iter : Nat) (x : Cx K) :
    laguerSteps a m fuel iter x ≤ fuel := by
  obtain ⟨k, xs, h⟩ := laguerLoop_trace_exists a m fuel iter x
  rw [(laguerTrace_value a m fuel iter x k xs h).2]; exact h.1

theorem laguerLoop_eq_iter (a : Array (Cx K)) (m fuel iter : Nat) (x : Cx K) :
    laguerIter a m (laguerSteps a m fuel iter x) iter x = some (laguerLoop a m fuel iter x) := by
  obtain ⟨k, xs, h⟩ := laguerLoop_trace_exists a m fuel iter x
  obtain ⟨e1, e2⟩ := laguerTrace_value a m fuel iter x k xs h
  rw [e1, e2]; exact laguerIter_trace h

/-- number of evaluations of `laguerStep` along a trace: the `k` successful ones, plus the final
    stopping one if fuel was left; never more than the fuel -/
theorem laguerTrace_evals_le (a : Array (Cx K)) (m fuel iter : Nat) (x : Cx K) (k : Nat)
    (xs : Nat → Cx K) (h : LaguerTrace a m fuel iter x k xs) :
    k + (if k < fuel then 1 else 0) ≤ fuel := by
  have := h.1
  split <;> omega

end Trace

section Structural
variable {K : Type} [Add K] [Sub K] [Mul K] [Neg K] [Div K] [Zero K] [One K] [BEq K] [ScalarExt K] [Transc K] [OfScientific K]

set_option linter.unusedSectionVars false in
/-- if the loop stopped before exhausting its fuel, it stopped because the step returned `none`
    (converged / stagnated / non-finite update) at the returned point -/
theorem laguerLoop_stop (a : Array (Cx K)) (m fuel iter : Nat) (x : Cx K)
    (h : laguerSteps a m fuel iter x < fuel) :
    laguerStep a m (iter + laguerSteps a m fuel iter x) (laguerLoop a m fuel iter x) = none := by
  obtain ⟨k, xs, htr⟩ := laguerLoop_trace_exists a m fuel iter x
  obtain ⟨e1, e2⟩ := laguerTrace_value a m fuel iter x k xs htr
  rw [e2] at h ⊢
  rw [e1]; exact htr.2.2.2 h

set_option linter.unusedSectionVars false in
/-- `laguer` performs at most 79 updates, the counter running through `1 ..= 79` -/
theorem laguer_steps_le (a : Array (Cx K)) (x : Cx K) :
    laguerSteps a (a.size - 1) 79 1 x ≤ 79 ∧
    laguerIter a (a.size - 1) (laguerSteps a (a.size - 1) 79 1 x) 1 x = some (laguer a x) :=
  ⟨laguerSteps_le_fuel _ _ _ _ _, laguerLoop_eq_iter _ _ _ _ _⟩
end Structural

section Exact
variable {F : Type} [Field F]

theorem cube_root_unity {u : F} (hu : u ^ 2 + u + 1 = 0) : u ^ 3 = 1 := by
  linear_combination (u - 1) * hu

theorem cubic_triple_root_alg (a b c d : F) (h3 : (3 : F) ≠ 0) (ha : a ≠ 0)
    (hd0 : b ^ 2 - 3 * a * c = 0) (hd1 : 2 * b ^ 3 - 9 * a * b * c + 27 * a ^ 2 * d = 0) (X : F) :
    a * (X - (-b / (3 * a))) ^ 3 = a * X ^ 3 + b * X ^ 2 + c * X + d := by
  field_simp
  linear_combination (9 * a * X + 3 * b) * hd0 - hd1

/-- the classical resolvent identity behind Cardano's formula (any commutative ring): the last two
    factors multiply to `Y² − (p + q) Y + (p² − p q + q²)` modulo `u² + u + 1` -/
theorem cardano_product {R : Type} [CommRing R] (Y p q u : R) (hu : u ^ 2 + u + 1 = 0) :
    (Y + (p + q)) * (Y + (u * p + u ^ 2 * q)) * (Y + (u ^ 2 * p + u * q)) =
      Y ^ 3 - 3 * (p * q) * Y + (p ^ 3 + q ^ 3) := by
  linear_combination ((Y + (p + q)) *
    (Y * (p + q) + (u - 1) * (p ^ 2 + q ^ 2) + (u ^ 2 - u + 1) * (p * q))) * hu

/-- Cardano for the depressed cubic: if `k ≠ 0` is a cube root of a solution `base` of the resolvent
    `z² − d₁ z + d₀³ = 0` and `u` is a primitive cube root of unity, then with `q = d₀/k` (so
    `k q = d₀`, `k³ + q³ = d₁`) the three factors are `Y + (uʲ k + u²ʲ q)` and `cardano_product`
    applies. -/
theorem cardano_factor (Y d₀ d₁ k base u : F) (hk : k ≠ 0) (hk3 : k ^ 3 = base)
    (hbase : base ^ 2 - d₁ * base + d₀ ^ 3 = 0) (hu : u ^ 2 + u + 1 = 0) :
    (Y + (k + d₀ / k)) * (Y + (u * k + d₀ / (u * k))) * (Y + (u ^ 2 * k + d₀ / (u ^ 2 * k)))
      = Y ^ 3 - 3 * d₀ * Y + d₁ := by
  have hu3 : u * u ^ 2 = 1 := by rw [← pow_succ', cube_root_unity hu]
  obtain ⟨q, hq⟩ : ∃ q, q = d₀ / k := ⟨_, rfl⟩
  have hpq : k * q = d₀ := by rw [hq, mul_div_cancel₀ _ hk]
  -- `1/u = u²` and `1/u² = u`
  have e1 : d₀ / (u * k) = u ^ 2 * q := by
    rw [hq, mul_comm u k, ← div_div, div_eq_mul_inv _ u, inv_eq_of_mul_eq_one_right hu3, mul_comm]
  have e2 : d₀ / (u ^ 2 * k) = u * q := by
    rw [hq, mul_comm _ k, ← div_div, div_eq_mul_inv _ (u ^ 2), inv_eq_of_mul_eq_one_left hu3,
      mul_comm]
  have hsum : k ^ 3 + q ^ 3 = d₁ := by
    have h : k ^ 3 * (k ^ 3 + q ^ 3 - d₁) = 0 := by
      rw [← hk3, ← hpq] at hbase; linear_combination hbase
    exact sub_eq_zero.mp ((mul_eq_zero.mp h).resolve_left (pow_ne_zero 3 hk))
  rw [e1, e2, ← hq, cardano_product Y k q u hu, hpq, hsum]

/-- The three values of Cardano's formula are all the zeros of the cubic, with multiplicity: in
    `Y = 3aX + b` the factors are `(Y + (uʲ k + d₀/(uʲ k)))/(3a)`, and `a (Y³ − 3d₀Y + d₁)` is `(3a)³`
    times the cubic. -/
theorem cubic_factor_alg (a b c d d₀ d₁ k base u X : F) (h3 : (3 : F) ≠ 0) (ha : a ≠ 0)
    (hd₀ : d₀ = b ^ 2 - 3 * a * c) (hd₁ : d₁ = 2 * b ^ 3 - 9 * a * b * c + 27 * a ^ 2 * d)
    (hk : k ≠ 0) (hk3 : k ^ 3 = base) (hbase : base ^ 2 - d₁ * base + d₀ ^ 3 = 0)
    (hu : u ^ 2 + u + 1 = 0) :
    a * (X - -(b + k + d₀ / k) / (3 * a)) * (X - -(b + u * k + d₀ / (u * k)) / (3 * a))
      * (X - -(b + u ^ 2 * k + d₀ / (u ^ 2 * k)) / (3 * a))
      = a * X ^ 3 + b * X ^ 2 + c * X + d := by
  have h3a : 3 * a ≠ 0 := mul_ne_zero h3 ha
  have hfac : ∀ s t : F, X - -(b + s + t) / (3 * a) = (3 * a * X + b + (s + t)) / (3 * a) := by
    intro s t; rw [eq_div_iff h3a, sub_mul, neg_div, neg_mul, div_mul_cancel₀ _ h3a]; ring
  have hprod : ∀ A B C e : F, a * (A / e) * (B / e) * (C / e) = a * (A * B * C) / e ^ 3 := by
    intro A B C e; ring
  rw [hfac, hfac, hfac, hprod, cardano_factor _ _ _ k base u hk hk3 hbase hu,
    div_eq_iff (pow_ne_zero 3 h3a), hd₀, hd₁]
  ring

/-- each of the three values is a zero of the cubic (`uᵐ k` is again a cube root of `base`) -/
theorem cubic_roots_alg (a b c d k base u : F) (m : Nat) (h3 : (3 : F) ≠ 0) (ha : a ≠ 0)
    (hk : k ≠ 0) (hk3 : k ^ 3 = base)
    (hbase : base ^ 2 - (2 * b ^ 3 - 9 * a * b * c + 27 * a ^ 2 * d) * base + (b ^ 2 - 3 * a * c) ^ 3 = 0)
    (hu : u ^ 2 + u + 1 = 0) :
    let x := -(b + u ^ m * k + (b ^ 2 - 3 * a * c) / (u ^ m * k)) / (3 * a)
    a * x ^ 3 + b * x ^ 2 + c * x + d = 0 := by
  intro x
  have hw : (u ^ m) ^ 3 = 1 := by rw [← pow_mul, mul_comm, pow_mul, cube_root_unity hu, one_pow]
  have hu0 : u ^ m ≠ 0 := by
    intro h; rw [h] at hw; simp at hw
  rw [← cubic_factor_alg a b c d _ _ (u ^ m * k) base u x h3 ha rfl rfl (mul_ne_zero hu0 hk)
    (by rw [mul_pow, hw, one_mul, hk3]) hbase hu]
  simp only [x, sub_self, mul_zero, zero_mul]
end Exact

section RealInterp
open Ohsl.Cx Ohsl.RealI Ohsl.Props.C14

theorem toC_nmul (n : Nat) (z : Cx ℝ) : toC (nmul n z) = (n : ℂ) * toC z := by
  rw [nmul, toC_mulR, mul_comm]; rfl

theorem beq_zero_iff (q : Cx ℝ) : (q == (0 : Cx ℝ)) = true ↔ toC q = 0 := by
  rw [← toC_zero]
  exact toC_beq q 0

theorem re_mul_conj (s b : Cx ℝ) :
    (toC s * (starRingEnd ℂ) (toC b)).re = (conj b * s).re := by
  rw [← toC_re, toC_mul]
  simp [toC, conj, Complex.mul_re]; ring

theorem quadraticSolve_shape (a b c : Cx ℝ) :
    ∃ (s q : Cx ℝ) (σ : ℝ),
      toC s * toC s = toC b * toC b - 4 * toC a * toC c ∧ (σ = 1 ∨ σ = -1) ∧
      0 ≤ σ * (toC s * (starRingEnd ℂ) (toC b)).re ∧
      toC q = -(toC b + (σ : ℂ) * toC s) / 2 ∧
      quadraticSolve a b c = #[divT q a, if q == 0 then divT q a else divT c q] := by
  refine ⟨csqrt (b * b - nmul 4 a * c), _, 
    (if Transc.le 0 (conj b * csqrt (b * b - nmul 4 a * c)).re then 1 else -1), ?_, ?_, ?_, ?_, rfl⟩
  · rw [csqrt_sq, toC_sub, toC_mul, toC_mul, toC_nmul]; push_cast; ring
  · split <;> simp
  · rw [re_mul_conj]
    show 0 ≤ (if decide ((0:ℝ) ≤ _) = true then (1:ℝ) else -1) * _
    split
    · rename_i h; simpa using h
    · rename_i h; simp at h; linarith
  · rw [toC_mulR, toC_add, toC_mulR]
    show _ * (((-(1 / 2 : ℝ)) : ℝ) : ℂ) = _
    push_cast; ring

theorem quad_q_eq {A B C S Q : ℂ} {σ : ℝ} (hS : S * S = B * B - 4 * A * C) (hσ : σ = 1 ∨ σ = -1)
    (hQ : Q = -(B + (σ : ℂ) * S) / 2) : Q * Q + B * Q + A * C = 0 := by
  have hσ2 : (σ : ℂ) * σ = 1 := by rcases hσ with h | h <;> simp [h]
  rw [hQ]
  linear_combination (1 / 4 : ℂ) * hS + (S * S / 4) * hσ2

/-- with the sign chosen so that `Re (conj b · σ s) ≥ 0` there is no cancellation in `b + σ s`:
    `q = 0` only when `b = 0` (and then `s = 0`) -/
theorem quad_q_zero {B S Q : ℂ} {σ : ℝ} (hσ : σ = 1 ∨ σ = -1)
    (hsign : 0 ≤ σ * (S * (starRingEnd ℂ) B).re)
    (hQ : Q = -(B + (σ : ℂ) * S) / 2) (h0 : Q = 0) : B = 0 ∧ S = 0 := by
  have hσ2 : σ * σ = 1 := by rcases hσ with h | h <;> simp [h]
  have hB : B = -((σ : ℂ) * S) := by rw [h0] at hQ; linear_combination (2 : ℂ) * hQ
  have hS : S = 0 := by
    -- `S · conj B = −σ |S|²`, so the sign condition reads `0 ≤ −|S|²`
    have e : S * (starRingEnd ℂ) B = ((-σ * Complex.normSq S : ℝ) : ℂ) := by
      rw [hB, map_neg, map_mul, Complex.conj_ofReal, mul_neg, mul_left_comm, Complex.mul_conj]
      push_cast; ring
    have h : σ * (-σ * Complex.normSq S) = -Complex.normSq S := by
      linear_combination (-Complex.normSq S) * hσ2
    rw [e, Complex.ofReal_re, h] at hsign
    exact Complex.normSq_eq_zero.mp (le_antisymm (neg_nonneg.mp hsign) (Complex.normSq_nonneg S))
  exact ⟨by rw [hB, hS]; simp, hS⟩

/-- the `q == 0` branch (double root returned twice) is taken only for `b = c = 0` -/
theorem quadratic_q_zero (a b c : Cx ℝ) (ha : toC a ≠ 0) :
    ∃ (q : Cx ℝ), quadraticSolve a b c = #[divT q a, if q == 0 then divT q a else divT c q] ∧
      ((q == 0) = true → toC b = 0 ∧ toC c = 0) := by
  obtain ⟨s, q, σ, hS, hσ, hsign, hQ, hshape⟩ := quadraticSolve_shape a b c
  refine ⟨q, hshape, fun h => ?_⟩
  obtain ⟨hb, hs⟩ := quad_q_zero hσ hsign hQ ((beq_zero_iff q).mp h)
  refine ⟨hb, ?_⟩
  rw [hb, hs] at hS
  have : toC a * toC c = 0 := by linear_combination (1 / 4 : ℂ) * hS
  exact (mul_eq_zero.mp this).resolve_left ha

/-- the two returned values are ALL the zeros, with multiplicity:
    `a (X − r₀)(X − r₁) = a X² + b X + c` -/
theorem quadratic_factor (a b c : Cx ℝ) (ha : toC a ≠ 0) :
    ∃ r0 r1 : Cx ℝ, quadraticSolve a b c = #[r0, r1] ∧
      ∀ X : ℂ, toC a * (X - toC r0) * (X - toC r1) = toC a * X ^ 2 + toC b * X + toC c := by
  obtain ⟨s, q, σ, hS, hσ, hsign, hQ, hshape⟩ := quadraticSolve_shape a b c
  have hq := quad_q_eq hS hσ hQ
  refine ⟨_, _, hshape, fun X => ?_⟩
  split
  · rename_i h
    have hq0 := (beq_zero_iff q).mp h
    obtain ⟨hb, hs⟩ := quad_q_zero hσ hsign hQ hq0
    rw [hb, hs] at hS
    have hac : toC a * toC c = 0 := by linear_combination (1 / 4 : ℂ) * hS
    have hc : toC c = 0 := (mul_eq_zero.mp hac).resolve_left ha
    rw [divT_eq, hq0, hb, hc]; simp; ring
  · rename_i hq0
    have hq0' : toC q ≠ 0 := fun h => hq0 ((beq_zero_iff q).mpr h)
    rw [divT_eq, divT_eq]; field_simp; linear_combination (-X) * hq

/-- both values returned by `quadraticSolve` are zeros of `a x² + b x + c` (`a ≠ 0`) -/
theorem quadratic_roots (a b c : Cx ℝ) (ha : toC a ≠ 0) :
    ∀ r ∈ quadraticSolve a b c, toC a * toC r ^ 2 + toC b * toC r + toC c = 0 := by
  obtain ⟨r0, r1, hs, hX⟩ := quadratic_factor a b c ha
  intro r hr
  rw [hs] at hr
  simp only [List.mem_toArray, List.mem_cons, List.not_mem_nil, or_false] at hr
  rw [← hX (toC r)]
  rcases hr with rfl | rfl <;> simp

/-! the intermediate quantities of `cubicSolve`, named -/
noncomputable def cD0 (a b c : Cx ℝ) : Cx ℝ := b * b - nmul 3 a * c
noncomputable def cD1 (a b c d : Cx ℝ) : Cx ℝ :=
  nmul 2 (b * b) * b - nmul 9 a * b * c + nmul 27 (a * a) * d
noncomputable def cDis (a b c d : Cx ℝ) : Cx ℝ :=
  nmul 18 a * b * c * d - nmul 4 b * (b * b) * d + (b * b) * (c * c) - nmul 4 a * (c * c) * c
    - nmul 27 (a * a) * (d * d)
noncomputable def cSq (a b c d : Cx ℝ) : Cx ℝ :=
  csqrt (mulR a (-(Transc.ofNat 27 : ℝ)) * a * cDis a b c d)
noncomputable def cBase (a b c d : Cx ℝ) : Cx ℝ :=
  divRT (if ScalarExt.lt (conj (cD1 a b c d) * cSq a b c d).re 0 then cD1 a b c d - cSq a b c d
    else cD1 a b c d + cSq a b c d)
    (Transc.ofNat 2)
noncomputable def cK (a b c d : Cx ℝ) : Cx ℝ :=
  cpow (cBase a b c d) ⟨Transc.ofNat 1 / Transc.ofNat 3, 0⟩
noncomputable def cU : Cx ℝ := ⟨-Transc.half, Transc.sqrt (Transc.ofNat 3) / Transc.ofNat 2⟩

theorem cubicSolve_eq (a b c d : Cx ℝ) :
    cubicSolve a b c d =
      if cD0 a b c == 0 && cD1 a b c d == 0 then
        #[divT (-b) (nmul 3 a), divT (-b) (nmul 3 a), divT (-b) (nmul 3 a)]
      else if cBase a b c d == 0 then
        #[divT (-b) (nmul 3 a), divT (-b) (nmul 3 a), divT (-b) (nmul 3 a)]
      else
        #[divT (-(b + cK a b c d + divT (cD0 a b c) (cK a b c d))) (nmul 3 a),
          divT (-(b + cU * cK a b c d + divT (cD0 a b c) (cU * cK a b c d))) (nmul 3 a),
          divT (-(b + cU * cU * cK a b c d + divT (cD0 a b c) (cU * cU * cK a b c d))) (nmul 3 a)] := rfl

theorem toC_cD0 (a b c : Cx ℝ) : toC (cD0 a b c) = toC b ^ 2 - 3 * toC a * toC c := by
  simp only [cD0, toC_sub, toC_mul, toC_nmul]; push_cast; ring
theorem toC_cD1 (a b c d : Cx ℝ) :
    toC (cD1 a b c d) = 2 * toC b ^ 3 - 9 * toC a * toC b * toC c + 27 * toC a ^ 2 * toC d := by
  simp only [cD1, toC_sub, toC_add, toC_mul, toC_nmul]; push_cast; ring
theorem toC_cDis (a b c d : Cx ℝ) :
    toC (cDis a b c d) = 18 * toC a * toC b * toC c * toC d - 4 * toC b ^ 3 * toC d
      + toC b ^ 2 * toC c ^ 2 - 4 * toC a * toC c ^ 3 - 27 * toC a ^ 2 * toC d ^ 2 := by
  simp only [cDis, toC_sub, toC_add, toC_mul, toC_nmul]; push_cast; ring

theorem cSq_sq (a b c d : Cx ℝ) :
    toC (cSq a b c d) * toC (cSq a b c d) = toC (cD1 a b c d) ^ 2 - 4 * toC (cD0 a b c) ^ 3 := by
  rw [cSq, csqrt_sq, toC_mul, toC_mul, toC_mulR, toC_cDis, toC_cD1, toC_cD0]
  show toC a * (((-((27 : ℕ) : ℝ) : ℝ)) : ℂ) * toC a * _ = _
  push_cast; ring

theorem toC_cBase (a b c d : Cx ℝ) :
    ∃ σ : ℝ, (σ = 1 ∨ σ = -1) ∧
      0 ≤ σ * (toC (cSq a b c d) * (starRingEnd ℂ) (toC (cD1 a b c d))).re ∧
      toC (cBase a b c d) = (toC (cD1 a b c d) + (σ : ℂ) * toC (cSq a b c d)) / 2 := by
  rw [re_mul_conj]
  unfold cBase
  split
  · rename_i hlt
    have hlt' : (conj (cD1 a b c d) * cSq a b c d).re < 0 :=
      of_decide_eq_true (show decide ((conj (cD1 a b c d) * cSq a b c d).re < 0) = true from hlt)
    refine ⟨-1, Or.inr rfl, by linarith, ?_⟩
    rw [toC_divRT, toC_sub]
    show _ / (((2 : ℕ) : ℝ) : ℂ) = _
    push_cast; ring
  · rename_i hlt
    have hlt' : ¬ (conj (cD1 a b c d) * cSq a b c d).re < 0 := fun h =>
      hlt (show decide ((conj (cD1 a b c d) * cSq a b c d).re < 0) = true from decide_eq_true h)
    refine ⟨1, Or.inl rfl, by linarith, ?_⟩
    rw [toC_divRT, toC_add]
    show _ / (((2 : ℕ) : ℝ) : ℂ) = _
    push_cast; ring

theorem cBase_resolvent (a b c d : Cx ℝ) :
    toC (cBase a b c d) ^ 2 - toC (cD1 a b c d) * toC (cBase a b c d) + toC (cD0 a b c) ^ 3 = 0 := by
  obtain ⟨σ, hσ, _, hb⟩ := toC_cBase a b c d
  -- `−base` is the `q` of the quadratic formula for `z² + d₁ z + 1·d₀³`
  have := quad_q_eq (A := 1) (B := toC (cD1 a b c d)) (C := toC (cD0 a b c) ^ 3)
    (S := toC (cSq a b c d)) (Q := -toC (cBase a b c d)) (by rw [cSq_sq]; ring) hσ (by rw [hb]; ring)
  linear_combination this

/-- the sign in `base = (d₁ ± sq)/2` is the one without cancellation
    (`|d₁ + σ sq|² = |d₁|² + |sq|² + 2 |Re (conj d₁ · sq)|`): `base = 0` forces `d₁ = sq = 0`, hence
    `d₀³ = 0`; so outside the triple-root branch `base ≠ 0` -/
theorem cBase_ne_zero (a b c d : Cx ℝ) (h : ¬ (toC (cD0 a b c) = 0 ∧ toC (cD1 a b c d) = 0)) :
    toC (cBase a b c d) ≠ 0 := by
  intro hb
  obtain ⟨σ, hσ, hsign, hbase⟩ := toC_cBase a b c d
  obtain ⟨hd1, hs⟩ := quad_q_zero (Q := -toC (cBase a b c d)) hσ hsign
    (by rw [hbase]; ring) (by rw [hb]; simp)
  have hsq := cSq_sq a b c d
  rw [hs, hd1] at hsq
  have : toC (cD0 a b c) ^ 3 = 0 := by linear_combination (1 / 4 : ℂ) * hsq
  exact h ⟨pow_eq_zero_iff (by norm_num) |>.mp this, hd1⟩

theorem cK_cube (a b c d : Cx ℝ) (h : toC (cBase a b c d) ≠ 0) :
    toC (cK a b c d) ^ 3 = toC (cBase a b c d) ∧ toC (cK a b c d) ≠ 0 := by
  have hw : toC (⟨Transc.ofNat 1 / Transc.ofNat 3, 0⟩ : Cx ℝ) = (1 / 3 : ℂ) := by
    apply Complex.ext <;> simp [toC, Transc.ofNat]
  rw [cK, cpow_spec _ _ h, hw]
  refine ⟨?_, Complex.exp_ne_zero _⟩
  rw [← Complex.exp_nat_mul]
  conv_rhs => rw [← Complex.exp_log h]
  congr 1; push_cast; ring

/-- `u = −1/2 + (√3/2) i` is a primitive cube root of unity -/
theorem cU_spec : toC cU ^ 2 + toC cU + 1 = 0 := by
  have h3 : Real.sqrt 3 * Real.sqrt 3 = 3 := Real.mul_self_sqrt (by norm_num)
  have : toC cU = ⟨-(1 / 2), Real.sqrt 3 / 2⟩ := by
    show (⟨-(1 / 2), Real.sqrt ((3 : ℕ) : ℝ) / ((2 : ℕ) : ℝ)⟩ : ℂ) = _
    norm_num
  rw [this, sq]
  apply Complex.ext
  · rw [Complex.add_re, Complex.add_re, Complex.mul_re, Complex.one_re]
    show -(1 / 2) * -(1 / 2) - Real.sqrt 3 / 2 * (Real.sqrt 3 / 2) + -(1 / 2) + 1 = (0 : ℝ)
    linear_combination (-1 / 4 : ℝ) * h3
  · rw [Complex.add_im, Complex.add_im, Complex.mul_im, Complex.one_im]
    show -(1 / 2) * (Real.sqrt 3 / 2) + Real.sqrt 3 / 2 * -(1 / 2) + Real.sqrt 3 / 2 + 0 = (0 : ℝ)
    ring

/-- The three values returned by `cubicSolve` are ALL the zeros of `a x³ + b x² + c x + d`, with
    multiplicity (`a ≠ 0`; real interpretation, all three branches of the model). -/
theorem cubic_factor (a b c d : Cx ℝ) (ha : toC a ≠ 0) :
    ∃ r0 r1 r2 : Cx ℝ, cubicSolve a b c d = #[r0, r1, r2] ∧
      ∀ X : ℂ, toC a * (X - toC r0) * (X - toC r1) * (X - toC r2) =
        toC a * X ^ 3 + toC b * X ^ 2 + toC c * X + toC d := by
  have h3 : (3 : ℂ) ≠ 0 := by norm_num
  have hden : toC (nmul 3 a) = 3 * toC a := by rw [toC_nmul]; push_cast; ring
  rw [cubicSolve_eq]
  split
  · rename_i hz
    rw [Bool.and_eq_true, beq_zero_iff, beq_zero_iff, toC_cD0, toC_cD1] at hz
    refine ⟨_, _, _, rfl, fun X => ?_⟩
    rw [← cubic_triple_root_alg (toC a) (toC b) (toC c) (toC d) h3 ha hz.1 hz.2 X,
      divT_eq, hden, toC_neg]
    ring
  · rename_i hz
    rw [Bool.and_eq_true, beq_zero_iff, beq_zero_iff] at hz
    have hb0 := cBase_ne_zero a b c d hz
    -- the guard `base == 0` of fix D12 is dead in exact arithmetic: outside the triple-root branch `base ≠ 0`
    have hbne : (cBase a b c d == 0) = false := by
      cases hbb : (cBase a b c d == 0)
      · rfl
      · exact absurd ((beq_zero_iff _).mp hbb) hb0
    rw [if_neg (by rw [hbne]; exact Bool.false_ne_true)]
    obtain ⟨hk3, hk0⟩ := cK_cube a b c d hb0
    refine ⟨_, _, _, rfl, fun X => ?_⟩
    rw [← cubic_factor_alg (toC a) (toC b) (toC c) (toC d) _ _ (toC (cK a b c d)) _ (toC cU) X h3 ha
      (toC_cD0 a b c) (toC_cD1 a b c d) hk0 hk3 (cBase_resolvent a b c d) cU_spec]
    simp only [divT_eq, hden, toC_neg, toC_add, toC_mul, sq]

/-- every value returned by `cubicSolve` is a zero of the cubic -/
theorem cubic_roots (a b c d : Cx ℝ) (ha : toC a ≠ 0) :
    ∀ r ∈ cubicSolve a b c d,
      toC a * toC r ^ 3 + toC b * toC r ^ 2 + toC c * toC r + toC d = 0 := by
  obtain ⟨r0, r1, r2, hs, hX⟩ := cubic_factor a b c d ha
  intro r hr
  rw [hs] at hr
  simp only [List.mem_toArray, List.mem_cons, List.not_mem_nil, or_false] at hr
  rw [← hX (toC r)]
  rcases hr with rfl | rfl | rfl <;> simp

/-- the hypotheses of `cubic_roots_alg` / `cubic_factor_alg` are satisfiable: `x³ − 3x + 2` over ℂ
    (`d₀ = 9`, `d₁ = 54`, `base = 27`, `k = 3`); `cubic_factor` instantiates them for every cubic. -/
example : ∃ k base u : ℂ, k ≠ 0 ∧ k ^ 3 = base ∧
    base ^ 2 - (2 * (0 : ℂ) ^ 3 - 9 * 1 * 0 * (-3) + 27 * 1 ^ 2 * 2) * base
      + ((0 : ℂ) ^ 2 - 3 * 1 * (-3)) ^ 3 = 0 ∧ u ^ 2 + u + 1 = 0 :=
  ⟨3, 27, toC cU, by norm_num, by norm_num, by norm_num, cU_spec⟩

end RealInterp
end Ohsl.Props.C10
