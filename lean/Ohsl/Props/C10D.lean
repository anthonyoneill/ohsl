/-
  Property C10 (continued) — the iterative path of the root finder (degree ≥ 4): Laguerre's step and
  forward deflation in EXACT complex arithmetic (model: Ohsl/Model/Roots.lean, interpreted over ℝ
  and transported to Mathlib's ℂ by `toC`, as in C10Q).  `cpoly a m = Σ_{i≤m} a[i] X^i : ℂ[X]`.

  (R) 1. `horner_spec`, `norm_eval_le_hornerErr`, `hornerErr_le`: what the evaluation loop of
         `laguerStep` returns, and its error accumulator;
      2. `laguerStep_formula`, `stepFrac_range`, `laguer_one_step_multiple_root`: the step in closed
         form (`laguerDx`, `stepFrac`); the non-finiteness test never fires over ℝ; on `c (X − r)^m`
         one step that does not stop lands exactly on `r`;
      3. `laguer_at_root`, `polish_at_roots`: an exact zero is returned unchanged, without any update;
      4. `deflate_spec`: `deflate` is synthetic division;
      5. `polySolve_exact_roots`, `polySolve_exact_roots_multiset`: conditional on `ExactStages` (every
         stage of the deflation loop uses an exact zero of the current deflated polynomial) the
         returned values are all the zeros with multiplicity, refined or not;
      6. `polySolve_multiple_root`: the condition holds for `c (X − r)^n`.
  NOT proved (and false in general): that Laguerre's iteration reaches an exact zero; convergence,
  accuracy, rounding (class F).
-/
import Ohsl.Props.C10Q
import Mathlib.Algebra.Polynomial.Derivative
import Mathlib.Algebra.Polynomial.Inductions
import Mathlib.Algebra.Polynomial.Div
import Mathlib.Algebra.Polynomial.Roots
import Mathlib.Tactic.IntervalCases
namespace Ohsl.Props.C10
open Ohsl Ohsl.Roots Ohsl.Cx Ohsl.RealI Ohsl.Props.C14 Polynomial

/-- coefficient `i` of the work array, in ℂ (zero beyond the end) -/
noncomputable def cf (a : Array (Cx ℝ)) (i : ℕ) : ℂ := toC (a[i]?.getD 0)

/-- the polynomial `Σ_{i ≤ m} a[i] X^i` of degree (at most) `m` -/
noncomputable def cpoly (a : Array (Cx ℝ)) (m : ℕ) : ℂ[X] :=
  ∑ i ∈ Finset.range (m + 1), C (cf a i) * X ^ i

noncomputable def lowPart (a : Array (Cx ℝ)) (n : ℕ) : ℂ[X] :=
  ∑ i ∈ Finset.range n, C (cf a i) * X ^ i

theorem coeff_lowPart (a : Array (Cx ℝ)) (n k : ℕ) :
    (lowPart a n).coeff k = if k < n then cf a k else 0 := by
  unfold lowPart
  rw [Polynomial.finsetSum_coeff]
  simp only [coeff_C_mul_X_pow]
  rw [Finset.sum_ite_eq]
  simp

theorem lowPart_succ (a : Array (Cx ℝ)) (n : ℕ) :
    lowPart a (n + 1) = lowPart a n + C (cf a n) * X ^ n := by
  rw [lowPart, Finset.sum_range_succ, ← lowPart]

theorem cpoly_succ (a : Array (Cx ℝ)) (m : ℕ) :
    cpoly a (m + 1) = cpoly a m + C (cf a (m + 1)) * X ^ (m + 1) :=
  lowPart_succ a (m + 1)

theorem cpoly_zero (a : Array (Cx ℝ)) : cpoly a 0 = C (cf a 0) := by
  simp [cpoly]

theorem coeff_cpoly (a : Array (Cx ℝ)) (m k : ℕ) :
    (cpoly a m).coeff k = if k ≤ m then cf a k else 0 :=
  (coeff_lowPart a (m + 1) k).trans (if_congr Nat.lt_succ_iff rfl rfl)

theorem eval_cpoly (a : Array (Cx ℝ)) (m : ℕ) (z : ℂ) :
    (cpoly a m).eval z = ∑ i ∈ Finset.range (m + 1), cf a i * z ^ i := by
  rw [cpoly, eval_finsetSum]
  exact Finset.sum_congr rfl fun i _ => by rw [eval_mul, eval_C, eval_pow, eval_X]

/-- the loop body of `laguerEval` -/
noncomputable def evalStep (a : Array (Cx ℝ)) (x : Cx ℝ) (st : Cx ℝ × Cx ℝ × Cx ℝ × ℝ) (j : ℕ) :
    Cx ℝ × Cx ℝ × Cx ℝ × ℝ :=
  (x * st.1 + (a[j]?.getD 0), x * st.2.1 + st.1, x * st.2.2.1 + st.2.1,
    Cx.abs (x * st.1 + (a[j]?.getD 0)) + Cx.abs x * st.2.2.2)

theorem laguerEval_eq (a : Array (Cx ℝ)) (m : ℕ) (x : Cx ℝ) :
    laguerEval a m x =
      (List.range m).reverse.foldl (evalStep a x) (a[m]?.getD 0, 0, 0, Cx.abs (a[m]?.getD 0)) := rfl

/-- the downward loops `for j in (0..n).rev()` take the index `n` first -/
theorem foldl_reverse_range_succ {σ : Type} (f : σ → ℕ → σ) (s : σ) (n : ℕ) :
    (List.range (n + 1)).reverse.foldl f s = (List.range n).reverse.foldl f (f s n) := by
  rw [List.range_succ, List.reverse_append, List.reverse_singleton, List.singleton_append,
    List.foldl_cons]

theorem coeff_iterate_divX (p : ℂ[X]) (k i : ℕ) : (divX^[k] p).coeff i = p.coeff (i + k) := by
  induction k generalizing i with
  | zero => simp
  | succ k ih => rw [Function.iterate_succ_apply', coeff_divX, ih]; congr 1; omega

theorem iterate_divX_high (a : Array (Cx ℝ)) (Q : ℂ[X]) (n : ℕ) :
    divX^[n] (Q * X ^ n + lowPart a n) = Q := by
  ext i
  rw [coeff_iterate_divX, coeff_add, coeff_mul_X_pow, coeff_lowPart]
  simp

/-- the state `(b, d, f, err)` represents the polynomial `Q` at `x` -/
def Repr3 (Q : ℂ[X]) (x : Cx ℝ) (st : Cx ℝ × Cx ℝ × Cx ℝ × ℝ) : Prop :=
  toC st.1 = Q.eval (toC x) ∧ toC st.2.1 = (derivative Q).eval (toC x) ∧
  toC st.2.2.1 = (derivative (derivative Q)).eval (toC x) / 2

theorem evalFold (a : Array (Cx ℝ)) (x : Cx ℝ) (n : ℕ) :
    ∀ (Q : ℂ[X]) (st : Cx ℝ × Cx ℝ × Cx ℝ × ℝ), Repr3 Q x st →
      let r := (List.range n).reverse.foldl (evalStep a x) st
      let P := Q * X ^ n + lowPart a n
      Repr3 P x r ∧
      r.2.2.2 = (∑ k ∈ Finset.range n, ‖(divX^[k] P).eval (toC x)‖ * ‖toC x‖ ^ k)
        + ‖toC x‖ ^ n * st.2.2.2 := by
  induction n with
  | zero =>
    intro Q st h
    simpa [lowPart] using h
  | succ n ih =>
    intro Q st h
    obtain ⟨h1, h2, h3⟩ := h
    rw [foldl_reverse_range_succ]
    have hP : (X * Q + C (cf a n)) * X ^ n + lowPart a n = Q * X ^ (n + 1) + lowPart a (n + 1) := by
      rw [lowPart, lowPart, Finset.sum_range_succ]; ring
    have hrep : Repr3 (X * Q + C (cf a n)) x (evalStep a x st n) := by
      refine ⟨?_, ?_, ?_⟩
      · simp only [evalStep, toC_add, toC_mul, h1, eval_add, eval_mul, eval_X, eval_C, cf]
      · simp only [evalStep, toC_add, toC_mul, h1, h2, derivative_add, derivative_mul, derivative_X,
          derivative_C, eval_add, eval_mul, eval_X, eval_one, eval_zero]
        ring
      · simp only [evalStep, toC_add, toC_mul, h2, h3, derivative_add, derivative_mul, derivative_X,
          derivative_C, derivative_one, derivative_zero, eval_add, eval_mul, eval_X, eval_one,
          eval_zero]
        ring
    have := ih (X * Q + C (cf a n)) (evalStep a x st n) hrep
    simp only [hP] at this
    refine ⟨this.1, ?_⟩
    rw [this.2, Finset.sum_range_succ]
    have hQ : divX^[n] (Q * X ^ (n + 1) + lowPart a (n + 1)) = X * Q + C (cf a n) := by
      rw [← hP]; exact iterate_divX_high a _ n
    have he : (evalStep a x st n).2.2.2 =
        ‖(X * Q + C (cf a n)).eval (toC x)‖ + ‖toC x‖ * st.2.2.2 := by
      simp only [evalStep, C14.abs_eq, toC_add, toC_mul, h1, eval_add, eval_mul, eval_X, eval_C, cf]
    rw [hQ, he]; ring

/-- **Horner loop of `laguerStep`.**  With `P = Σ_{i ≤ m} a[i] X^i`, the loop returns
    `b = P(x)`, `d = P′(x)`, `f = P″(x)/2`, and the error accumulator is
    `err = Σ_{k ≤ m} |P_k(x)| |x|^k ≥ 0`, where `P_k = divX^[k] P = Σ_{i ≥ k} a[i] X^{i-k}` are the
    partial Horner polynomials (`P_0 = P`).  `laguerStep` multiplies it by `eps = 2⁻⁵²`. -/
theorem horner_spec (a : Array (Cx ℝ)) (m : ℕ) (x : Cx ℝ) :
    toC (laguerEval a m x).1 = (cpoly a m).eval (toC x) ∧
    toC (laguerEval a m x).2.1 = (derivative (cpoly a m)).eval (toC x) ∧
    toC (laguerEval a m x).2.2.1 = (derivative^[2] (cpoly a m)).eval (toC x) / 2 ∧
    (laguerEval a m x).2.2.2 =
      ∑ k ∈ Finset.range (m + 1), ‖(divX^[k] (cpoly a m)).eval (toC x)‖ * ‖toC x‖ ^ k ∧
    0 ≤ (laguerEval a m x).2.2.2 := by
  have h0 : Repr3 (C (cf a m)) x (a[m]?.getD 0, 0, 0, Cx.abs (a[m]?.getD 0)) := by
    refine ⟨?_, ?_, ?_⟩ <;> simp [cf, toC_zero]
  have hP : C (cf a m) * X ^ m + lowPart a m = cpoly a m := by
    rw [cpoly, Finset.sum_range_succ, lowPart]; ring
  have := evalFold a x m _ _ h0
  simp only [hP] at this
  rw [← laguerEval_eq] at this
  obtain ⟨⟨h1, h2, h3⟩, h4⟩ := this
  have h5 : (laguerEval a m x).2.2.2 =
      ∑ k ∈ Finset.range (m + 1), ‖(divX^[k] (cpoly a m)).eval (toC x)‖ * ‖toC x‖ ^ k := by
    rw [h4, Finset.sum_range_succ]
    congr 1
    have : divX^[m] (cpoly a m) = C (cf a m) := by rw [← hP]; exact iterate_divX_high a _ m
    rw [this, C14.abs_eq, mul_comm]; simp [cf]
  refine ⟨h1, h2, h3, h5, ?_⟩
  rw [h5]
  exact Finset.sum_nonneg (fun k _ => mul_nonneg (norm_nonneg _) (pow_nonneg (norm_nonneg _) _))

theorem lt_iff (a b : ℝ) : (ScalarExt.lt a b = true) ↔ a < b := by
  show decide (a < b) = true ↔ _
  simp
theorem le_iff (a b : ℝ) : (Transc.le a b = true) ↔ a ≤ b := by
  show decide (a ≤ b) = true ↔ _
  simp
theorem ofNat_eq (n : ℕ) : (Transc.ofNat n : ℝ) = (n : ℝ) := rfl
theorem isFinite_real (t : ℝ) : isFinite t = true := by
  show ((t - t) == (0 : ℝ)) = true
  simp

/-- the model's Laguerre correction `dx` (everything between the first and the second stopping test
    of `laguerStep`) -/
noncomputable def mdx (a : Array (Cx ℝ)) (m iter : ℕ) (x : Cx ℝ) : Cx ℝ :=
  let r := laguerEval a m x
  let g := divT r.2.1 r.1
  let g2 := g * g
  let h := g2 - nmul 2 (divT r.2.2.1 r.1)
  let sq := csqrt (mulR (mulR h (Transc.ofNat m) - g2) (Transc.ofNat (m - 1)))
  let gp := g + sq
  let gm := g - sq
  let abp := Cx.abs gp
  let abm := Cx.abs gm
  let gp := if ScalarExt.lt abp abm then gm else gp
  if ScalarExt.lt 0 (Transc.fmax abp abm) then divT ⟨Transc.ofNat m, 0⟩ gp
  else polar (1 + Cx.abs x) (Transc.ofNat iter)

/-- the two moduli `|g ± sq|` whose finiteness the model tests (repair D13: over `f64` they are non-finite when `g²`
    overflowed; over ℝ the test never fires) -/
noncomputable def mab (a : Array (Cx ℝ)) (m : ℕ) (x : Cx ℝ) : ℝ × ℝ :=
  let r := laguerEval a m x
  let g := divT r.2.1 r.1
  let g2 := g * g
  let h := g2 - nmul 2 (divT r.2.2.1 r.1)
  let sq := csqrt (mulR (mulR h (Transc.ofNat m) - g2) (Transc.ofNat (m - 1)))
  (Cx.abs (g + sq), Cx.abs (g - sq))

theorem laguerStep_eq (a : Array (Cx ℝ)) (m iter : ℕ) (x : Cx ℝ) :
    laguerStep a m iter x =
      if Transc.le (Cx.abs (laguerEval a m x).1) ((laguerEval a m x).2.2.2 * Transc.eps) then none
      else if !(isFinite (mab a m x).1 && isFinite (mab a m x).2) then none
      else if x == x - mdx a m iter x then none
      else if !(isFinite (x - mdx a m iter x).re && isFinite (x - mdx a m iter x).im) then none
      else if iter % 10 != 0 then some (x - mdx a m iter x)
      else some (x - mulR (mdx a m iter x) ((frac (K := ℝ))[iter / 10]?.getD 0)) := rfl

/-- **Laguerre's correction**, as the model computes it, for the polynomial `P` of degree `m` at `x`:
    `dx = m / (G ± √((m−1)(m H − G²)))` with `G = P′/P`, `H = G² − P″/P`, the sign chosen to maximise
    the modulus of the denominator (`+` on a tie); the square root is the principal one
    (`z ^ (1/2)`); when both denominators vanish the fallback `(1 + |x|) e^{i·iter}` is used. -/
noncomputable def laguerDx (P : ℂ[X]) (m iter : ℕ) (x : ℂ) : ℂ :=
  let G := (derivative P).eval x / P.eval x
  let H := G ^ 2 - (derivative^[2] P).eval x / P.eval x
  let S := (((m - 1 : ℕ) : ℂ) * ((m : ℂ) * H - G ^ 2)) ^ (1 / 2 : ℂ)
  if 0 < max ‖G + S‖ ‖G - S‖ then (m : ℂ) / (if ‖G + S‖ < ‖G - S‖ then G - S else G + S)
  else ((1 + ‖x‖ : ℝ) : ℂ) * Complex.exp (((iter : ℝ) : ℂ) * Complex.I)

/-- the cycle-breaking factor: 1 except every tenth iteration, where it is `frac[iter/10]` -/
noncomputable def stepFrac (iter : ℕ) : ℝ :=
  if iter % 10 ≠ 0 then 1 else (frac (K := ℝ))[iter / 10]?.getD 0

/-- during `laguer` (`iter = 1 … 79`) the cycle-breaking factor lies in `(0, 1]` -/
theorem stepFrac_range (iter : ℕ) (h1 : 1 ≤ iter) (h2 : iter ≤ 79) :
    0 < stepFrac iter ∧ stepFrac iter ≤ 1 := by
  unfold stepFrac
  by_cases hi : iter % 10 = 0
  · have h3 : 1 ≤ iter / 10 :=
      (Nat.one_le_div_iff (by norm_num)).2 (Nat.le_of_dvd h1 (Nat.dvd_of_mod_eq_zero hi))
    have h4 : iter / 10 ≤ 7 := Nat.div_le_div_right h2
    rw [if_neg (not_not.2 hi)]
    interval_cases iter / 10 <;>
      (simp only [frac, List.getElem?_toArray, List.getElem?_cons_succ, List.getElem?_cons_zero,
        Option.getD_some]; norm_num)
  · rw [if_pos hi]; exact ⟨one_pos, le_rfl⟩

theorem toC_mdx (a : Array (Cx ℝ)) (m iter : ℕ) (x : Cx ℝ) :
    toC (mdx a m iter x) = laguerDx (cpoly a m) m iter (toC x) := by
  obtain ⟨hb, hd, hf, -, -⟩ := horner_spec a m x
  have hG : toC (divT (laguerEval a m x).2.1 (laguerEval a m x).1) =
      (derivative (cpoly a m)).eval (toC x) / (cpoly a m).eval (toC x) := by
    rw [divT_eq, hb, hd]
  unfold mdx laguerDx
  simp only [lt_iff]
  simp only [apply_ite toC, C14.abs_eq, toC_add, toC_sub, toC_mul, toC_mulR, toC_nmul, csqrt_spec,
    divT_eq, hb, hd, hf]
  have hS : ∀ G F P : ℂ,
      ((G * G - ((2 : ℕ) : ℂ) * (F / 2 / P)) * ((Transc.ofNat m : ℝ) : ℂ) - G * G)
        * ((Transc.ofNat (m - 1) : ℝ) : ℂ)
      = ((m - 1 : ℕ) : ℂ) * ((m : ℂ) * (G ^ 2 - F / P) - G ^ 2) := by
    intro G F P
    rw [ofNat_eq, ofNat_eq, Complex.ofReal_natCast, Complex.ofReal_natCast, Nat.cast_ofNat]
    ring
  rw [hS]
  have hm : toC (⟨Transc.ofNat m, 0⟩ : Cx ℝ) = (m : ℂ) := rfl
  have hpol : toC (polar (1 + ‖toC x‖) (Transc.ofNat iter)) =
      ((1 + ‖toC x‖ : ℝ) : ℂ) * Complex.exp (((iter : ℝ) : ℂ) * Complex.I) := by
    rw [← toC_polar_form]; rfl
  rw [hm, hpol]
  rfl

/-- the error bound accumulated by the Horner loop: `Σ_{k ≤ m} |P_k(x)| |x|^k`, `P_k = divX^[k] P` -/
noncomputable def hornerErr (P : ℂ[X]) (m : ℕ) (x : ℂ) : ℝ :=
  ∑ k ∈ Finset.range (m + 1), ‖(divX^[k] P).eval x‖ * ‖x‖ ^ k

theorem hornerErr_nonneg (P : ℂ[X]) (m : ℕ) (x : ℂ) : 0 ≤ hornerErr P m x :=
  Finset.sum_nonneg (fun _ _ => mul_nonneg (norm_nonneg _) (pow_nonneg (norm_nonneg _) _))

/-- the `k = 0` term: `|P(x)| ≤ err` -/
theorem norm_eval_le_hornerErr (P : ℂ[X]) (m : ℕ) (x : ℂ) : ‖P.eval x‖ ≤ hornerErr P m x := by
  unfold hornerErr
  rw [Finset.sum_range_succ']
  have : 0 ≤ ∑ k ∈ Finset.range m, ‖(divX^[k + 1] P).eval x‖ * ‖x‖ ^ (k + 1) :=
    Finset.sum_nonneg (fun k _ => mul_nonneg (norm_nonneg _) (pow_nonneg (norm_nonneg _) _))
  simp only [Function.iterate_zero, id_eq, pow_zero, mul_one]
  linarith

theorem shift_sum_le (g : ℕ → ℝ) (N k : ℕ) (hg : ∀ j, 0 ≤ g j) (hz : ∀ j, N ≤ j → g j = 0) :
    ∑ i ∈ Finset.range N, g (i + k) ≤ ∑ j ∈ Finset.range N, g j := by
  have e1 := Finset.sum_range_add g k N
  have e2 := Finset.sum_range_add g N k
  have hzero : ∑ i ∈ Finset.range k, g (N + i) = 0 :=
    Finset.sum_eq_zero (fun i _ => hz _ (by omega))
  have hnn : 0 ≤ ∑ j ∈ Finset.range k, g j := Finset.sum_nonneg (fun j _ => hg j)
  have : ∑ i ∈ Finset.range N, g (i + k) = ∑ i ∈ Finset.range N, g (k + i) :=
    Finset.sum_congr rfl (fun i _ => by rw [add_comm])
  rw [Nat.add_comm] at e1
  linarith

theorem hornerTerm_le (a : Array (Cx ℝ)) (m k : ℕ) (x : ℂ) :
    ‖(divX^[k] (cpoly a m)).eval x‖ * ‖x‖ ^ k ≤ ∑ i ∈ Finset.range (m + 1), ‖cf a i‖ * ‖x‖ ^ i := by
  have hdeg : (divX^[k] (cpoly a m)).natDegree < m + 1 := by
    apply Nat.lt_succ_of_le
    rw [natDegree_le_iff_coeff_eq_zero]
    intro N hN
    rw [coeff_iterate_divX, coeff_cpoly, if_neg (by omega)]
  rw [eval_eq_sum_range' hdeg]
  simp only [coeff_iterate_divX]
  calc ‖∑ i ∈ Finset.range (m + 1), (cpoly a m).coeff (i + k) * x ^ i‖ * ‖x‖ ^ k
      ≤ (∑ i ∈ Finset.range (m + 1), ‖(cpoly a m).coeff (i + k)‖ * ‖x‖ ^ i) * ‖x‖ ^ k := by
        apply mul_le_mul_of_nonneg_right _ (pow_nonneg (norm_nonneg _) _)
        refine (norm_sum_le _ _).trans (Finset.sum_le_sum (fun i _ => ?_))
        rw [norm_mul, norm_pow]
    _ = ∑ i ∈ Finset.range (m + 1), ‖(cpoly a m).coeff (i + k)‖ * ‖x‖ ^ (i + k) := by
        rw [Finset.sum_mul]
        exact Finset.sum_congr rfl (fun i _ => by ring)
    _ ≤ ∑ j ∈ Finset.range (m + 1), ‖(cpoly a m).coeff j‖ * ‖x‖ ^ j :=
        shift_sum_le (fun j => ‖(cpoly a m).coeff j‖ * ‖x‖ ^ j) (m + 1) k
          (fun j => mul_nonneg (norm_nonneg _) (pow_nonneg (norm_nonneg _) _))
          (fun j hj => by rw [coeff_cpoly, if_neg (by omega)]; simp)
    _ = ∑ i ∈ Finset.range (m + 1), ‖cf a i‖ * ‖x‖ ^ i :=
        Finset.sum_congr rfl (fun i hi => by
          rw [coeff_cpoly, if_pos (by have := Finset.mem_range.mp hi; omega)])

/-- hence `err ≤ (m+1) · Σ_i |a_i| |x|^i`: the stopping threshold `eps·err` is a (crude) multiple of
    the classical rounding-error bound of Horner's rule -/
theorem hornerErr_le (a : Array (Cx ℝ)) (m : ℕ) (x : ℂ) :
    hornerErr (cpoly a m) m x ≤ ((m : ℝ) + 1) * ∑ i ∈ Finset.range (m + 1), ‖cf a i‖ * ‖x‖ ^ i := by
  unfold hornerErr
  refine (Finset.sum_le_sum (fun k _ => hornerTerm_le a m k x)).trans ?_
  simp

theorem laguerEval_err (a : Array (Cx ℝ)) (m : ℕ) (x : Cx ℝ) :
    (laguerEval a m x).2.2.2 = hornerErr (cpoly a m) m (toC x) := (horner_spec a m x).2.2.2.1

theorem eps_eq : (Transc.eps : ℝ) = 2 ^ (-52 : ℤ) := rfl

theorem not_le_mul_eps {t : ℝ} (ht : 0 < t) : ¬ t ≤ t * 2 ^ (-52 : ℤ) := by
  have := mul_lt_mul_of_pos_left (show (2 : ℝ) ^ (-52 : ℤ) < 1 by norm_num) ht
  intro h; linarith

/-- **`laguerStep` in closed form** (real interpretation, through `toC`).  With `P = Σ_{i≤m} a[i] X^i`:
    the step stops (`none`) iff `|P(x)| ≤ 2⁻⁵²·Σ_k |P_k(x)||x|^k` or the correction `dx` is exactly
    zero; otherwise the new iterate is `x − dx·φ` with `dx = laguerDx P m iter x`
    (`= m / (G ± √((m−1)(m H − G²)))`) and `φ = stepFrac iter` (`1` unless `10 ∣ iter`).
    The non-finiteness test never fires over ℝ. -/
theorem laguerStep_formula (a : Array (Cx ℝ)) (m iter : ℕ) (x : Cx ℝ) :
    (laguerStep a m iter x).map toC =
      if ‖(cpoly a m).eval (toC x)‖ ≤ hornerErr (cpoly a m) m (toC x) * 2 ^ (-52 : ℤ) then none
      else if laguerDx (cpoly a m) m iter (toC x) = 0 then none
      else some (toC x - laguerDx (cpoly a m) m iter (toC x) * ((stepFrac iter : ℝ) : ℂ)) := by
  rw [laguerStep_eq]
  simp only [le_iff, toC_beq, isFinite_real, Bool.and_self, Bool.not_true, Bool.false_eq_true,
    if_false, C14.abs_eq, (horner_spec a m x).1, laguerEval_err, eps_eq, toC_sub, toC_mdx]
  have hx : (toC x = toC x - laguerDx (cpoly a m) m iter (toC x)) ↔
      laguerDx (cpoly a m) m iter (toC x) = 0 := by
    constructor
    · intro h; linear_combination h
    · intro h; rw [h]; ring
  simp only [hx]
  split
  · rfl
  split
  · rfl
  unfold stepFrac
  by_cases hi : iter % 10 = 0
  · simp [hi, toC_sub, toC_mulR, toC_mdx]
  · simp [hi, toC_sub, toC_mdx]

theorem laguerStep_some (a : Array (Cx ℝ)) (m iter : ℕ) (x y : Cx ℝ)
    (h : laguerStep a m iter x = some y) :
    toC y = toC x - laguerDx (cpoly a m) m iter (toC x) * ((stepFrac iter : ℝ) : ℂ) ∧
    hornerErr (cpoly a m) m (toC x) * 2 ^ (-52 : ℤ) < ‖(cpoly a m).eval (toC x)‖ ∧
    (cpoly a m).eval (toC x) ≠ 0 ∧ laguerDx (cpoly a m) m iter (toC x) ≠ 0 := by
  have hf := laguerStep_formula a m iter x
  rw [h] at hf
  simp only [Option.map_some] at hf
  split at hf
  · simp at hf
  rename_i h1
  split at hf
  · simp at hf
  rename_i h2
  have h1' := not_le.mp h1
  refine ⟨Option.some.inj hf, h1', ?_, h2⟩
  intro h0
  rw [h0, norm_zero] at h1'
  have := hornerErr_nonneg (cpoly a m) m (toC x)
  have : 0 ≤ hornerErr (cpoly a m) m (toC x) * 2 ^ (-52 : ℤ) := mul_nonneg this (by positivity)
  linarith

theorem laguerStep_none_iff (a : Array (Cx ℝ)) (m iter : ℕ) (x : Cx ℝ) :
    laguerStep a m iter x = none ↔
      (‖(cpoly a m).eval (toC x)‖ ≤ hornerErr (cpoly a m) m (toC x) * 2 ^ (-52 : ℤ) ∨
        laguerDx (cpoly a m) m iter (toC x) = 0) := by
  have hf := laguerStep_formula a m iter x
  constructor
  · intro h
    rw [h] at hf
    by_contra hc
    rw [if_neg (not_or.mp hc).1, if_neg (not_or.mp hc).2] at hf
    simp at hf
  · intro h
    cases hs : laguerStep a m iter x with
    | none => rfl
    | some y =>
      obtain ⟨-, h1, -, h2⟩ := laguerStep_some a m iter x y hs
      rcases h with h | h
      · exact absurd h (not_le.mpr h1)
      · exact absurd h h2

/-- value, first and second derivative of `P = c (X − r)^(k+1)` at `x`, the derivatives multiplied
    by the powers of `x − r` that make them multiples of `P(x)` -/
theorem multRoot_evals (c r x : ℂ) (k : ℕ) (P : ℂ[X]) (hP : P = C c * (X - C r) ^ (k + 1)) :
    P.eval x = c * (x - r) ^ (k + 1) ∧
    (derivative P).eval x * (x - r) = ((k : ℂ) + 1) * P.eval x ∧
    (derivative^[2] P).eval x * (x - r) ^ 2 = ((k : ℂ) + 1) * k * P.eval x := by
  have ev : ∀ (a : ℂ) (n : ℕ), (C a * (X - C r) ^ n).eval x = a * (x - r) ^ n := fun a n => by
    rw [eval_mul, eval_C, eval_pow, eval_sub, eval_X, eval_C]
  have hd : ∀ (a : ℂ) (n : ℕ),
      derivative (C a * (X - C r) ^ (n + 1)) = C (a * (n + 1)) * (X - C r) ^ n := fun a n => by
    rw [derivative_C_mul, derivative_X_sub_C_pow, ← mul_assoc, ← C_mul, Nat.add_sub_cancel,
      Nat.cast_add, Nat.cast_one]
  subst hP
  refine ⟨ev _ _, ?_, ?_⟩
  · rw [hd, ev, ev]; ring
  · rw [Function.iterate_succ, Function.iterate_one, Function.comp_apply, hd, ev]
    cases k with
    | zero => simp
    | succ j => rw [hd, ev]; push_cast; ring

theorem multRoot_eval_self (c r : ℂ) {m : ℕ} (hm : 1 ≤ m) : (C c * (X - C r) ^ m).eval r = 0 := by
  rw [eval_mul, eval_pow, eval_sub, eval_X, eval_C, eval_C, sub_self,
    zero_pow (Nat.pos_iff_ne_zero.1 hm), mul_zero]

/-- the radicand of Laguerre's formula vanishes for `G = (n+1)/u`, `P″/P = (n+1) n / u²` -/
theorem laguerRadicand_multiple_root (n u : ℂ) :
    n * ((n + 1) * (((n + 1) / u) ^ 2 - (n + 1) * n / u ^ 2) - ((n + 1) / u) ^ 2) = 0 := by
  ring

/-- for `P = c (X − r)^m` (`m ≥ 1`) Laguerre's correction from any `x` with `P(x) ≠ 0` is
    exactly `x − r`: the square root vanishes and `dx = m / G = x − r` -/
theorem laguerDx_multiple_root (c r x : ℂ) (m iter : ℕ) (hm : 1 ≤ m) {P : ℂ[X]}
    (hP : P = C c * (X - C r) ^ m) (hx : P.eval x ≠ 0) : laguerDx P m iter x = x - r := by
  obtain ⟨k, rfl⟩ := Nat.exists_eq_add_of_le' hm
  obtain ⟨h0, h1, h2⟩ := multRoot_evals c r x k P hP
  have hu : x - r ≠ 0 := by
    intro hu; apply hx; rw [h0, hu]; simp
  have hk1 : ((k : ℂ) + 1) ≠ 0 := by exact_mod_cast Nat.succ_ne_zero k
  unfold laguerDx
  simp only [(div_eq_div_iff hx hu).mpr h1, (div_eq_div_iff hx (pow_ne_zero 2 hu)).mpr h2]
  rw [Nat.add_sub_cancel, Nat.cast_succ, laguerRadicand_multiple_root,
    Complex.zero_cpow (by norm_num), add_zero, sub_zero, max_self, if_neg (lt_irrefl _),
    if_pos (norm_pos_iff.mpr (div_ne_zero hk1 hu)), div_div_eq_mul_div, mul_div_cancel_left₀ _ hk1]

/-- **One Laguerre step on a polynomial with a single (multiple) zero.**  If the coefficient array
    denotes `c (X − r)^m` (`m ≥ 1`) and the step from `x` does not stop, the new iterate is
    `x − (x − r)·φ`, `φ = stepFrac iter`; in particular (`φ = 1` unless `10 ∣ iter`) it is `r` exactly. -/
theorem laguer_one_step_multiple_root_frac (a : Array (Cx ℝ)) (m iter : ℕ) (x y : Cx ℝ) (c r : ℂ)
    (hm : 1 ≤ m) (hP : cpoly a m = C c * (X - C r) ^ m)
    (h : laguerStep a m iter x = some y) :
    toC y = toC x - (toC x - r) * ((stepFrac iter : ℝ) : ℂ) := by
  obtain ⟨hy, -, hx, -⟩ := laguerStep_some a m iter x y h
  rw [hy, laguerDx_multiple_root c r (toC x) m iter hm hP hx]

set_option linter.unusedVariables false in
theorem laguer_one_step_multiple_root (a : Array (Cx ℝ)) (m iter : ℕ) (x y : Cx ℝ) (c r : ℂ)
    (hm : 1 ≤ m) (hc : c ≠ 0) (hP : cpoly a m = C c * (X - C r) ^ m) (hi : iter % 10 ≠ 0)
    (h : laguerStep a m iter x = some y) : toC y = r := by
  rw [laguer_one_step_multiple_root_frac a m iter x y c r hm hP h]
  simp [stepFrac, hi]

theorem laguerStep_at_root (a : Array (Cx ℝ)) (m iter : ℕ) (x : Cx ℝ)
    (h : (cpoly a m).eval (toC x) = 0) : laguerStep a m iter x = none := by
  rw [laguerStep_none_iff]
  left
  rw [h, norm_zero]
  exact mul_nonneg (hornerErr_nonneg _ _ _) (by positivity)

theorem laguerLoop_some (a : Array (Cx ℝ)) (m fuel iter : ℕ) (x y : Cx ℝ)
    (h : laguerStep a m iter x = some y) :
    laguerLoop a m (fuel + 1) iter x = laguerLoop a m fuel (iter + 1) y := by
  simp [laguerLoop, h]

theorem laguerLoop_at_root (a : Array (Cx ℝ)) (m fuel iter : ℕ) (x : Cx ℝ)
    (h : (cpoly a m).eval (toC x) = 0) : laguerLoop a m fuel iter x = x := by
  cases fuel with
  | zero => rfl
  | succ f => simp [laguerLoop, laguerStep_at_root a m iter x h]

/-- **`laguer` returns an exact zero unchanged**, immediately (no update is performed) -/
theorem laguer_at_root (a : Array (Cx ℝ)) (x : Cx ℝ)
    (h : (cpoly a (a.size - 1)).eval (toC x) = 0) : laguer a x = x :=
  laguerLoop_at_root a _ _ _ x h

theorem laguer_at_root_steps (a : Array (Cx ℝ)) (x : Cx ℝ)
    (h : (cpoly a (a.size - 1)).eval (toC x) = 0) : laguerSteps a (a.size - 1) 79 1 x = 0 := by
  simp [laguerSteps, laguerStep_at_root a _ 1 x h]

/-- polishing (`refine = true`) never moves exact zeros -/
theorem polish_at_roots (coeffs : Array (Cx ℝ)) (rs : Array (Cx ℝ))
    (h : ∀ r ∈ rs, (cpoly coeffs (coeffs.size - 1)).eval (toC r) = 0) :
    rs.map (fun r => laguer coeffs r) = rs := by
  apply Array.ext (by simp)
  intro i h1 h2
  rw [Array.getElem_map]
  exact laguer_at_root coeffs _ (h _ (Array.getElem_mem h2))

/-- the loop body of `deflate` -/
noncomputable def deflStep (x : Cx ℝ) (st : Array (Cx ℝ) × Cx ℝ) (jj : ℕ) : Array (Cx ℝ) × Cx ℝ :=
  (st.1.setIfInBounds jj st.2, x * st.2 + st.1[jj]?.getD 0)

theorem deflate_eq (ad : Array (Cx ℝ)) (j : ℕ) (x : Cx ℝ) :
    deflate ad j x = ((List.range (j + 1)).reverse.foldl (deflStep x) (ad, ad[j + 1]?.getD 0)).1 := rfl

theorem lowPart_congr (a b : Array (Cx ℝ)) (n : ℕ) (h : ∀ i, i < n → cf a i = cf b i) :
    lowPart a n = lowPart b n := by
  unfold lowPart
  exact Finset.sum_congr rfl (fun i hi => by rw [h i (Finset.mem_range.mp hi)])

theorem deflFold (x : Cx ℝ) (n : ℕ) :
    ∀ (arr : Array (Cx ℝ)) (b : Cx ℝ), n ≤ arr.size →
      let r := (List.range n).reverse.foldl (deflStep x) (arr, b)
      r.1.size = arr.size ∧ (∀ i, n ≤ i → cf r.1 i = cf arr i) ∧
      lowPart arr n + C (toC b) * X ^ n = (X - C (toC x)) * lowPart r.1 n + C (toC r.2) := by
  induction n with
  | zero =>
    intro arr b _
    simp [lowPart]
  | succ n ih =>
    intro arr b hn
    rw [foldl_reverse_range_succ]
    have hs : (deflStep x (arr, b) n).1.size = arr.size := by simp [deflStep]
    have hget : ∀ i, i ≠ n → cf (deflStep x (arr, b) n).1 i = cf arr i := by
      intro i hi
      simp only [cf, deflStep, Array.getElem?_setIfInBounds]
      rw [if_neg (Ne.symm hi)]
    have hgetn : cf (deflStep x (arr, b) n).1 n = toC b := by
      have : n < arr.size := hn
      simp [cf, deflStep, this]
    obtain ⟨h1, h2, h3⟩ := ih (deflStep x (arr, b) n).1 (deflStep x (arr, b) n).2 (by rw [hs]; omega)
    simp only [Prod.mk.eta] at h1 h2 h3
    refine ⟨h1.trans hs, fun i hi => ?_, ?_⟩
    · rw [h2 i (by omega), hget i (by omega)]
    · have hrn := (h2 n le_rfl).trans hgetn
      have hlow := lowPart_congr _ arr n (fun i hi => hget i (by omega))
      have hb2 : toC (deflStep x (arr, b) n).2 = toC x * toC b + cf arr n := by
        simp [deflStep, toC_add, toC_mul, cf]
      rw [hlow, hb2] at h3
      rw [lowPart_succ, lowPart_succ, hrn]
      simp only [C_add, C_mul] at h3
      linear_combination h3

/-- **`deflate` is synthetic division by `X − r`.**  If `ad[0..=j+1]` holds the coefficients of
    `p` (degree `j+1`), then after `deflate ad j r` the entries `0..=j` hold the coefficients of the
    quotient `q` with `p = (X − r) q + p(r)`, i.e. `q = p /ₘ (X − r)`; the array keeps its size, the
    entries above `j` are untouched and the new `ad[j]` is the old leading coefficient `ad[j+1]`. -/
theorem deflate_spec (ad : Array (Cx ℝ)) (j : ℕ) (r : Cx ℝ) (hj : j + 2 ≤ ad.size) :
    cpoly ad (j + 1) = (X - C (toC r)) * cpoly (deflate ad j r) j
      + C ((cpoly ad (j + 1)).eval (toC r)) ∧
    cpoly (deflate ad j r) j = cpoly ad (j + 1) /ₘ (X - C (toC r)) ∧
    (deflate ad j r).size = ad.size ∧
    (∀ i, j + 1 ≤ i → cf (deflate ad j r) i = cf ad i) ∧
    cf (deflate ad j r) j = cf ad (j + 1) := by
  obtain ⟨h1, h2, h3⟩ := deflFold r (j + 1) ad (ad[j + 1]?.getD 0) (by omega)
  simp only [← deflate_eq] at h1 h2
  have hp : cpoly ad (j + 1) = lowPart ad (j + 1) + C (cf ad (j + 1)) * X ^ (j + 1) :=
    lowPart_succ ad (j + 1)
  have hq : cpoly (deflate ad j r) j = lowPart (deflate ad j r) (j + 1) := rfl
  have h3' : cpoly ad (j + 1) = (X - C (toC r)) * cpoly (deflate ad j r) j
      + C (toC ((List.range (j + 1)).reverse.foldl (deflStep r) (ad, ad[j + 1]?.getD 0)).2) := by
    rw [hp, hq, deflate_eq]; exact h3
  have hev : (cpoly ad (j + 1)).eval (toC r)
      = toC ((List.range (j + 1)).reverse.foldl (deflStep r) (ad, ad[j + 1]?.getD 0)).2 := by
    rw [h3', eval_add, eval_mul, eval_sub, eval_X, eval_C, eval_C, sub_self, zero_mul, zero_add]
  have hmain : cpoly ad (j + 1) = (X - C (toC r)) * cpoly (deflate ad j r) j
      + C ((cpoly ad (j + 1)).eval (toC r)) := by rw [hev]; exact h3'
  refine ⟨hmain, ?_, h1, h2, ?_⟩
  · refine ((div_modByMonic_unique (cpoly (deflate ad j r) j) (C ((cpoly ad (j + 1)).eval (toC r)))
      (monic_X_sub_C (toC r)) ⟨?_, ?_⟩).1).symm
    · rw [add_comm]; exact hmain.symm
    · rw [degree_X_sub_C]
      exact degree_C_lt
  · -- compare the coefficients of `X^(j+1)`
    have := congrArg (fun p => p.coeff (j + 1)) hmain
    simp only [coeff_add, coeff_C_succ, add_zero, sub_mul, coeff_sub, coeff_X_mul, coeff_C_mul,
      coeff_cpoly, le_refl, if_true] at this
    rw [if_neg (by omega)] at this
    rw [this]; ring

theorem deflate_spec_root (ad : Array (Cx ℝ)) (j : ℕ) (r : Cx ℝ) (hj : j + 2 ≤ ad.size)
    (hr : (cpoly ad (j + 1)).eval (toC r) = 0) :
    cpoly ad (j + 1) = (X - C (toC r)) * cpoly (deflate ad j r) j := by
  have := (deflate_spec ad j r hj).1
  rwa [hr, C_0, add_zero] at this

/-- the zero estimate used by stage `j` of the deflation loop on the work array `ad`: `laguer` from
    the start value `0` on the current deflated polynomial `ad[0..=j+1]`, then the snap to the real
    axis when `|Im x| ≤ 2 eps |Re x|` -/
noncomputable def stageRoot (ad : Array (Cx ℝ)) (j : ℕ) : Cx ℝ :=
  let x := laguer (ad.extract 0 (j + 2)) 0
  if Transc.le (Transc.fabs x.im) ((1 + 1) * Transc.eps * Transc.fabs x.re) then ⟨x.re, 0⟩ else x

/-- the body of the deflation loop -/
noncomputable def solveStep (st : Array (Cx ℝ) × Array (Cx ℝ)) (j : ℕ) :
    Array (Cx ℝ) × Array (Cx ℝ) :=
  (deflate st.1 j (stageRoot st.1 j), st.2.setIfInBounds j (stageRoot st.1 j))

theorem polySolve_high (coeffs : Array (Cx ℝ)) (refine : Bool) (h : 5 ≤ coeffs.size) :
    polySolve coeffs refine = .ok
      (let roots := ((List.range (coeffs.size - 1)).reverse.foldl solveStep
          (coeffs, Array.replicate (coeffs.size - 1) (0 : Cx ℝ))).2
       if refine then roots.map (fun r => laguer coeffs r) else roots) := by
  have hr : rawRoots coeffs = ((List.range (coeffs.size - 1)).reverse.foldl solveStep
      (coeffs, Array.replicate (coeffs.size - 1) (0 : Cx ℝ))).2 := by
    unfold rawRoots
    rw [if_neg (by omega), if_neg (by omega), if_neg (by omega)]
    rfl
  rw [polySolve_eq coeffs refine (by omega), hr]

/-- "every Laguerre call of the deflation loop returns an exact zero of the current deflated
    polynomial": stage `n` (work array `ad`, polynomial `ad[0..=n+1]`) uses an exact zero, and so do
    the later stages `n−1, …, 0` on the deflated array -/
def ExactStages : ℕ → Array (Cx ℝ) → Prop
  | 0, _ => True
  | n + 1, ad => (cpoly ad (n + 1)).eval (toC (stageRoot ad n)) = 0 ∧
      ExactStages n (deflate ad n (stageRoot ad n))

theorem solveFold (n : ℕ) :
    ∀ (ad roots : Array (Cx ℝ)), n + 1 ≤ ad.size → n ≤ roots.size → ExactStages n ad →
      let r := (List.range n).reverse.foldl solveStep (ad, roots)
      cpoly ad n = C (cf ad n) * ∏ i ∈ Finset.range n, (X - C (cf r.2 i)) ∧
      r.2.size = roots.size ∧ (∀ i, n ≤ i → cf r.2 i = cf roots i) := by
  induction n with
  | zero =>
    intro ad roots _ _ _
    simp [cpoly_zero]
  | succ n ih =>
    intro ad roots had hroots hex
    obtain ⟨hroot, hrest⟩ := hex
    rw [foldl_reverse_range_succ]
    obtain ⟨-, -, hsz, -, hlead⟩ := deflate_spec ad n (stageRoot ad n) (by omega)
    have hfac := deflate_spec_root ad n (stageRoot ad n) (by omega) hroot
    have hs2 : (solveStep (ad, roots) n).2.size = roots.size := by simp [solveStep]
    obtain ⟨h1, h2, h3⟩ := ih (solveStep (ad, roots) n).1 (solveStep (ad, roots) n).2
      (by show n + 1 ≤ (deflate ad n (stageRoot ad n)).size; rw [hsz]; omega)
      (by rw [hs2]; omega) hrest
    simp only [Prod.mk.eta] at h1 h2 h3
    have hn : cf (solveStep (ad, roots) n).2 n = toC (stageRoot ad n) := by
      have : n < roots.size := hroots
      simp [cf, solveStep, this]
    refine ⟨?_, h2.trans hs2, fun i hi => ?_⟩
    · rw [hfac, Finset.prod_range_succ, h3 n le_rfl, hn]
      have h1' : cpoly (deflate ad n (stageRoot ad n)) n =
          C (cf (deflate ad n (stageRoot ad n)) n) * _ := h1
      rw [h1', hlead]; ring
    · rw [h3 i (by omega)]
      simp only [cf, solveStep, Array.getElem?_setIfInBounds]
      rw [if_neg (by omega)]

/-- **The deflation loop, conditionally.**  For degree `n ≥ 4`: IF every Laguerre call in the
    deflation loop returns (after the snap to the real axis) an exact zero of the current deflated
    polynomial (`ExactStages`), THEN `polySolve` returns `n` values `z_0 … z_{n−1}` that are all the
    zeros of `p` with multiplicity: `p = lead · ∏ (X − z_k)`.  This holds with or without polishing
    (`refine`), since polishing does not move exact zeros (`laguer_at_root`).
    The hypothesis is precisely what neither floating-point arithmetic nor a finite number of
    Laguerre iterations can guarantee (in the real interpretation the iteration generically stops at
    an approximate zero, by the `|P(x)| ≤ eps·err` test or after 79 updates); nothing is claimed
    about the accuracy of the computed zeros or about the error propagated by deflation. -/
theorem polySolve_exact_roots (coeffs : Array (Cx ℝ)) (refine : Bool) (n : ℕ) (hn : 4 ≤ n)
    (hsize : coeffs.size = n + 1) (hex : ExactStages n coeffs) :
    ∃ rs, polySolve coeffs refine = .ok rs ∧ rs.size = n ∧
      cpoly coeffs n = C (cf coeffs n) * ∏ k ∈ Finset.range n, (X - C (cf rs k)) := by
  rw [polySolve_high coeffs refine (by omega)]
  have hn1 : coeffs.size - 1 = n := by omega
  rw [hn1]
  obtain ⟨h1, h2, -⟩ := solveFold n coeffs (Array.replicate n (0 : Cx ℝ)) (by omega) (by simp) hex
  simp only [Array.size_replicate] at h2
  generalize ((List.range n).reverse.foldl solveStep (coeffs, Array.replicate n (0 : Cx ℝ))).2 = R
    at h1 h2 ⊢
  have hpol : ∀ r ∈ R, (cpoly coeffs (coeffs.size - 1)).eval (toC r) = 0 := by
    intro r hr
    obtain ⟨i, hi, rfl⟩ := Array.mem_iff_getElem.mp hr
    rw [hn1, h1, eval_mul, eval_prod]
    have hi' : i < n := by omega
    have : ∏ j ∈ Finset.range n, eval (toC R[i]) (X - C (cf R j)) = 0 := by
      apply Finset.prod_eq_zero (Finset.mem_range.mpr hi')
      simp [cf, hi]
    rw [this, mul_zero]
  refine ⟨_, rfl, ?_, ?_⟩
  · cases refine <;> simp [h2]
  · cases refine
    · simpa using h1
    · simp only [if_true]
      rw [polish_at_roots coeffs _ hpol]
      exact h1

/-- under the same hypothesis the returned values are the multiset of zeros of `p` -/
theorem polySolve_exact_roots_multiset (coeffs : Array (Cx ℝ)) (refine : Bool) (n : ℕ) (hn : 4 ≤ n)
    (hsize : coeffs.size = n + 1) (hlead : cf coeffs n ≠ 0) (hex : ExactStages n coeffs) :
    ∃ rs, polySolve coeffs refine = .ok rs ∧
      (cpoly coeffs n).roots = (Multiset.range n).map (fun k => cf rs k) := by
  obtain ⟨rs, h1, -, h3⟩ := polySolve_exact_roots coeffs refine n hn hsize hex
  refine ⟨rs, h1, ?_⟩
  rw [h3, roots_C_mul _ hlead]
  have : ∏ k ∈ Finset.range n, (X - C (cf rs k))
      = (((Multiset.range n).map (fun k => cf rs k)).map (fun a => X - C a)).prod := by
    rw [Multiset.map_map]; rfl
  rw [this, roots_multiset_prod_X_sub_C]

theorem hornerErr_at_zero (P : ℂ[X]) (m : ℕ) : hornerErr P m 0 = ‖P.eval 0‖ := by
  unfold hornerErr
  rw [Finset.sum_range_succ', Finset.sum_eq_zero (fun k _ => by rw [norm_zero, pow_succ, mul_zero, mul_zero]),
    zero_add, Function.iterate_zero, id_eq, pow_zero, mul_one]

/-- from `x = 0` the error accumulator is just `|P(0)|`, so on `c (X − r)^m` with `r ≠ 0` the step
    does not stop: the hypothesis of `laguer_one_step_multiple_root` is satisfiable -/
theorem laguerStep_from_zero_ne_none (a : Array (Cx ℝ)) (m iter : ℕ) (c r : ℂ)
    (hm : 1 ≤ m) (hc : c ≠ 0) (hr : r ≠ 0) (hP : cpoly a m = C c * (X - C r) ^ m) :
    laguerStep a m iter 0 ≠ none := by
  have hP0 : (cpoly a m).eval (toC 0) ≠ 0 := by
    rw [hP, toC_zero, eval_mul, eval_C, eval_pow, eval_sub, eval_X, eval_C, zero_sub]
    exact mul_ne_zero hc (pow_ne_zero _ (neg_ne_zero.mpr hr))
  intro hs
  rcases (laguerStep_none_iff a m iter 0).mp hs with h | h
  · rw [toC_zero, hornerErr_at_zero] at h
    rw [toC_zero] at hP0
    exact not_le_mul_eps (norm_pos_iff.mpr hP0) h
  · rw [laguerDx_multiple_root c r (toC 0) m iter hm hP hP0, toC_zero] at h
    exact hr (by linear_combination -h)

theorem laguer_multiple_root_from_zero (a : Array (Cx ℝ)) (m : ℕ) (c r : ℂ) (hsize : a.size = m + 1)
    (hm : 1 ≤ m) (hc : c ≠ 0) (hP : cpoly a m = C c * (X - C r) ^ m) : toC (laguer a 0) = r := by
  have hm1 : a.size - 1 = m := by omega
  by_cases hr : r = 0
  · rw [laguer_at_root a 0 (by rw [hm1, hP, toC_zero, hr]; exact multRoot_eval_self c 0 hm), toC_zero, hr]
  · cases hs : laguerStep a m 1 0 with
    | none => exact absurd hs (laguerStep_from_zero_ne_none a m 1 c r hm hc hr hP)
    | some y =>
      have hy : toC y = r :=
        laguer_one_step_multiple_root a m 1 0 y c r hm hc hP (by norm_num) hs
      have : laguer a 0 = y := by
        show laguerLoop a (a.size - 1) (78 + 1) 1 0 = y
        rw [hm1, laguerLoop_some a m 78 1 0 y hs]
        exact laguerLoop_at_root a m _ _ y (by rw [hP, hy]; exact multRoot_eval_self c r hm)
      rw [this, hy]

theorem cf_extract (ad : Array (Cx ℝ)) (n i : ℕ) (hi : i < n) : cf (ad.extract 0 n) i = cf ad i := by
  simp only [cf, Array.getElem?_extract]
  by_cases h : i < ad.size
  · simp [hi, h]
  · simp [hi, h]

theorem cpoly_extract (ad : Array (Cx ℝ)) (j : ℕ) : cpoly (ad.extract 0 (j + 2)) (j + 1) = cpoly ad (j + 1) := by
  unfold cpoly
  exact Finset.sum_congr rfl (fun i hi => by
    rw [cf_extract ad (j + 2) i (by have := Finset.mem_range.mp hi; omega)])

/-- the stage zero of `c (X − r)^(j+1)`, when the snap to the real axis does not alter `r`
    (`Im r = 0`, or `|Im r| > 2 eps |Re r|`) -/
theorem stageRoot_multiple_root (ad : Array (Cx ℝ)) (j : ℕ) (c : ℂ) (r : Cx ℝ) (hj : j + 2 ≤ ad.size)
    (hc : c ≠ 0) (hP : cpoly ad (j + 1) = C c * (X - C (toC r)) ^ (j + 1))
    (hsnap : r.im = 0 ∨ 2 * 2 ^ (-52 : ℤ) * |r.re| < |r.im|) : stageRoot ad j = r := by
  have hl : laguer (ad.extract 0 (j + 2)) 0 = r := by
    rw [← toC_inj]
    exact laguer_multiple_root_from_zero _ (j + 1) c (toC r)
      (by rw [Array.size_extract, Nat.min_eq_left hj]; rfl) (Nat.succ_pos j) hc
      (by rw [cpoly_extract, hP])
  unfold stageRoot
  rw [hl]
  simp only [le_iff]
  split
  · rename_i h
    rcases hsnap with h0 | h0
    · rw [← h0]
    · rw [one_add_one_eq_two] at h
      exact (h0.trans_le h).false.elim
  · rfl

theorem exactStages_multiple_root (c : ℂ) (r : Cx ℝ) (hc : c ≠ 0)
    (hsnap : r.im = 0 ∨ 2 * 2 ^ (-52 : ℤ) * |r.re| < |r.im|) (n : ℕ) :
    ∀ ad : Array (Cx ℝ), n + 1 ≤ ad.size → cpoly ad n = C c * (X - C (toC r)) ^ n →
      ExactStages n ad := by
  induction n with
  | zero => intro _ _ _; trivial
  | succ n ih =>
    intro ad had hP
    have hroot := stageRoot_multiple_root ad n c r (by omega) hc hP hsnap
    have hzero : (cpoly ad (n + 1)).eval (toC r) = 0 := by
      rw [hP]; exact multRoot_eval_self c _ (Nat.succ_pos n)
    refine ⟨by rw [hroot]; exact hzero, ?_⟩
    rw [hroot]
    apply ih
    · rw [(deflate_spec ad n r (by omega)).2.2.1]; omega
    · have h := deflate_spec_root ad n r (by omega) hzero
      rw [hP, pow_succ, ← mul_assoc, mul_comm] at h
      exact (mul_left_cancel₀ (X_sub_C_ne_zero (toC r)) h).symm

/-- **Unconditional instance of `polySolve_exact_roots`.**  For `p = c (X − r)^n`, `n ≥ 4`, `c ≠ 0`,
    `r` real or with `|Im r| > 2 eps |Re r|`, the hypothesis `ExactStages` holds and (real
    interpretation) `polySolve` returns `r` exactly, `n` times. -/
theorem polySolve_multiple_root (coeffs : Array (Cx ℝ)) (refine : Bool) (n : ℕ) (c : ℂ) (r : Cx ℝ)
    (hn : 4 ≤ n) (hsize : coeffs.size = n + 1) (hc : c ≠ 0)
    (hP : cpoly coeffs n = C c * (X - C (toC r)) ^ n)
    (hsnap : r.im = 0 ∨ 2 * 2 ^ (-52 : ℤ) * |r.re| < |r.im|) :
    ∃ rs, polySolve coeffs refine = .ok rs ∧ rs.size = n ∧ ∀ k, k < n → rs[k]?.getD 0 = r := by
  have hex := exactStages_multiple_root c r hc hsnap n coeffs (by omega) hP
  obtain ⟨rs, h1, h2, h3⟩ := polySolve_exact_roots coeffs refine n hn hsize hex
  refine ⟨rs, h1, h2, fun k hk => ?_⟩
  rw [← toC_inj]
  have hev := congrArg (fun p => p.eval (cf rs k)) h3
  simp only [hP, eval_mul, eval_C, eval_pow, eval_sub, eval_X, eval_prod] at hev
  rw [Finset.prod_eq_zero (Finset.mem_range.mpr hk) (sub_self _), mul_zero] at hev
  rcases mul_eq_zero.mp hev with h | h
  · exact absurd h hc
  · exact sub_eq_zero.mp (pow_eq_zero_iff (by omega) |>.mp h)

/-- `(X − 1)⁴ = 1 − 4X + 6X² − 4X³ + X⁴` as a coefficient array -/
noncomputable def exArr : Array (Cx ℝ) := #[⟨1, 0⟩, ⟨-4, 0⟩, ⟨6, 0⟩, ⟨-4, 0⟩, ⟨1, 0⟩]

theorem exArr_poly : cpoly exArr 4 = C 1 * (X - C (toC ⟨1, 0⟩)) ^ 4 := by
  have h1 : toC (⟨1, 0⟩ : Cx ℝ) = 1 := rfl
  have h4 : toC (⟨-4, 0⟩ : Cx ℝ) = -4 := Complex.ext rfl neg_zero.symm
  have h6 : toC (⟨6, 0⟩ : Cx ℝ) = 6 := rfl
  simp only [cpoly, Finset.sum_range_succ, Finset.range_zero, Finset.sum_empty, cf, exArr]
  have c4 : (C (4 : ℂ) : ℂ[X]) = 4 := map_ofNat C 4
  have c6 : (C (6 : ℂ) : ℂ[X]) = 6 := map_ofNat C 6
  simp [h1, h4, h6, c4, c6]
  ring

/-- non-vacuity of `polySolve_exact_roots` / `polySolve_multiple_root`: degree 4, `(X − 1)⁴`;
    in the real interpretation the model returns `[1, 1, 1, 1]` -/
example : ExactStages 4 exArr ∧
    ∃ rs, polySolve exArr false = .ok rs ∧ rs.size = 4 ∧ ∀ k, k < 4 → rs[k]?.getD 0 = ⟨1, 0⟩ :=
  ⟨exactStages_multiple_root 1 ⟨1, 0⟩ one_ne_zero (Or.inl rfl) 4 exArr (by simp [exArr]) exArr_poly,
    polySolve_multiple_root exArr false 4 1 ⟨1, 0⟩ le_rfl rfl one_ne_zero exArr_poly (Or.inl rfl)⟩

/-- non-vacuity of `laguerStep_some` / `laguer_one_step_multiple_root`: a step that does not stop,
    and lands on the zero -/
example : ∃ y, laguerStep exArr 4 1 0 = some y ∧ toC y = 1 := by
  have h1 : toC (⟨1, 0⟩ : Cx ℝ) = 1 := rfl
  have hP := exArr_poly
  rw [h1] at hP
  obtain ⟨y, hy⟩ := Option.ne_none_iff_exists'.mp
    (laguerStep_from_zero_ne_none exArr 4 1 1 1 (by norm_num) one_ne_zero one_ne_zero hP)
  exact ⟨y, hy, laguer_one_step_multiple_root exArr 4 1 0 y 1 1 (by norm_num) one_ne_zero hP
    (by norm_num) hy⟩

/-- non-vacuity of `deflate_spec_root`: deflating `(X − 1)⁴` by its zero `1` -/
example : cpoly exArr 4 = (X - C 1) * cpoly (deflate exArr 3 ⟨1, 0⟩) 3 := by
  have h1 : toC (⟨1, 0⟩ : Cx ℝ) = 1 := rfl
  have := deflate_spec_root exArr 3 ⟨1, 0⟩ (by simp [exArr])
    (by rw [exArr_poly]; exact multRoot_eval_self 1 _ (by norm_num))
  rwa [h1] at this

end Ohsl.Props.C10
