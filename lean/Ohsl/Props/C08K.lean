/-
  Property C08 / C20 (part K) — the four iterative solvers AS METHODS of the sparse matrix:
  entry guards + iteration (Ohsl/Model/KrylovSp.lean, `Sp.solveIter`), which is what the
  executable driver runs and the correspondence compares with `Sparse<f64>::solve_*`.

  (S) any scalar type, arbitrary arithmetic (hence also `Float`): the outcome of the guards, in the
      order of src/sparse.rs (sizes, first product, then `itol`) — `solveIter_rejects_size`,
      `solveIter_rejects_itol`, `solveIter_rejects_storage` (the code panics inside `multiply`),
      `solveIter_ok_iff`, `solveIter_ok_iff_wf` (stated over a `CommSemiring`, so not for `Float`,
      where `solveIter_runs_of` is the form to use); `solveIter_iter_bound`, `solveIter_budget_zero`.
  (E) `solveIter_success_sound`: over a field, on a well-formed square storage, whichever method is
      called.
-/
import Ohsl.Props.C08C
import Ohsl.Model.KrylovSp
namespace Ohsl.Props.C08
open Ohsl Ohsl.Krylov Ohsl.Sp

section Guarded
variable {K : Type}
variable [Add K] [Sub K] [Mul K] [Neg K] [Div K] [Zero K] [One K] [BEq K] [Transc K]

/-- the entry guards of `solve_*` that do not look at the storage arrays: `b` fits, the matrix is
    square, the guess fits, and `itol ∈ {1, 2}` for `solve_bicg` -/
def Guards (s : Sp K) (m : Method) (b x0 : Array K) : Prop :=
  s.rows = b.size ∧ s.rows = s.cols ∧ b.size = x0.size ∧
    (∀ itol, m = .bicg itol → itol = 1 ∨ itol = 2)

/-- the storage can be multiplied with the guess: the first product `A x0` of every method does not
    panic (always true of a well-formed storage, `C07.multiply_fold`; on inconsistent public arrays
    the code panics inside `multiply`) -/
def Multipliable (s : Sp K) (x0 : Array K) : Prop := ∃ r, Sp.multiply s x0 = .ok r

theorem solveIter_rejects_size (s : Sp K) (m : Method) (b x0 : Array K) (maxIter : Nat) (tol : K)
    (norm2 : Array K → K) (h : s.rows ≠ b.size ∨ s.rows ≠ s.cols ∨ b.size ≠ x0.size) :
    solveIter s m b x0 maxIter tol norm2 = .error .size := by
  unfold solveIter
  by_cases h1 : s.rows ≠ b.size
  · simp [h1]
  · by_cases h2 : s.rows ≠ s.cols
    · simp [h1, h2]
    · have h3 : b.size ≠ x0.size := by
        rcases h with h | h | h
        · exact absurd h h1
        · exact absurd h h2
        · exact h
      simp [h1, h2, h3]

theorem solveIter_of_sizes (s : Sp K) (m : Method) (b x0 : Array K) (maxIter : Nat) (tol : K)
    (norm2 : Array K → K) (h1 : s.rows = b.size) (h2 : s.rows = s.cols) (h3 : b.size = x0.size) :
    solveIter s m b x0 maxIter tol norm2 =
      match Sp.multiply s x0 with
      | .error e => .error e
      | .ok _ =>
        match m with
        | .bicg itol =>
          if itol ≠ 1 ∧ itol ≠ 2 then .error .range
          else .ok (runOn (arrOps s s.rows norm2) (.bicg itol) b x0 maxIter tol)
        | m => .ok (runOn (arrOps s s.rows norm2) m b x0 maxIter tol) := by
  unfold solveIter
  rw [if_neg (not_not.2 h1), if_neg (not_not.2 h2), if_neg (not_not.2 h3)]
  cases Sp.multiply s x0 with
  | error e => rfl
  | ok _ => cases m <;> rfl

theorem solveIter_rejects_itol (s : Sp K) (itol : Nat) (b x0 : Array K) (maxIter : Nat) (tol : K)
    (norm2 : Array K → K) (h1 : s.rows = b.size) (h2 : s.rows = s.cols) (h3 : b.size = x0.size)
    (hm : Multipliable s x0) (hi : itol ≠ 1 ∧ itol ≠ 2) :
    solveIter s (.bicg itol) b x0 maxIter tol norm2 = .error .range := by
  obtain ⟨r, hr⟩ := hm
  rw [solveIter_of_sizes s _ b x0 maxIter tol norm2 h1 h2 h3, hr]
  exact if_pos hi

theorem solveIter_ok (s : Sp K) (m : Method) (b x0 : Array K) (maxIter : Nat) (tol : K)
    (norm2 : Array K → K) (g : Guards s m b x0) (hm : Multipliable s x0) :
    solveIter s m b x0 maxIter tol norm2 =
      .ok (runOn (arrOps s s.rows norm2) m b x0 maxIter tol) := by
  obtain ⟨h1, h2, h3, h4⟩ := g
  obtain ⟨r, hr⟩ := hm
  rw [solveIter_of_sizes s m b x0 maxIter tol norm2 h1 h2 h3, hr]
  cases m with
  | cg => rfl
  | bicgstab => rfl
  | qmr => rfl
  | bicg itol => exact if_neg fun hi => (h4 itol rfl).elim hi.1 hi.2

theorem solveIter_runs_of {s : Sp K} {n : Nat} (h : SqWF s n) (norm2 : Array K → K) (m : Method)
    (hm : ∀ itol, m = .bicg itol → itol = 1 ∨ itol = 2) (b x0 : Array K) (hb : b.size = n)
    (hx : x0.size = n) (maxIter : Nat) (tol : K) :
    solveIter s m b x0 maxIter tol norm2
      = .ok (runOn (arrOps s n norm2) m b x0 maxIter tol) := by
  obtain ⟨y, hy, _⟩ := C07.multiply_fold h.wf x0 (hx.trans h.cols.symm)
  rw [solveIter_ok s m b x0 maxIter tol norm2
    ⟨h.rows.trans hb.symm, h.rows.trans h.cols.symm, hb.trans hx.symm, hm⟩ ⟨y, hy⟩, h.rows]

theorem runOn_iter_bound {V : Type} (o : VOps K V) (m : Method) (b x0 : V) (maxIter : Nat)
    (tol : K) : (runOn o m b x0 maxIter tol).iters ≤ maxIter := by
  cases m with
  | cg => exact cg_iter_bound o b x0 maxIter tol
  | bicg itol => exact bicg_iter_bound o b x0 maxIter tol itol
  | bicgstab => exact stab_iter_bound o b x0 maxIter tol
  | qmr => exact qmr_iter_bound o b x0 maxIter tol

end Guarded

section Structural
variable {K : Type}
variable [Add K] [Sub K] [Mul K] [Neg K] [Div K] [Zero K] [One K] [BEq K] [ScalarExt K] [Transc K]

set_option linter.unusedSectionVars false in
/-- the model's array operations are the ones the C08C theorems speak about -/
theorem sp_arrOps_eq (s : Sp K) (n : Nat) (norm2 : Array K → K) :
    Sp.arrOps s n norm2 = arrOps s n norm2 := rfl

set_option linter.unusedSectionVars false in
/-- inconsistent storage: the error of the first product is the error of the call -/
theorem solveIter_rejects_storage (s : Sp K) (m : Method) (b x0 : Array K) (maxIter : Nat) (tol : K)
    (norm2 : Array K → K) (h1 : s.rows = b.size) (h2 : s.rows = s.cols) (h3 : b.size = x0.size)
    (e : Err) (he : Sp.multiply s x0 = .error e) :
    solveIter s m b x0 maxIter tol norm2 = .error e := by
  rw [solveIter_of_sizes s m b x0 maxIter tol norm2 h1 h2 h3, he]

/-- the call returns a value exactly when every guard passes and the storage can be multiplied -/
theorem solveIter_ok_iff (s : Sp K) (m : Method) (b x0 : Array K) (maxIter : Nat) (tol : K)
    (norm2 : Array K → K) :
    (∃ out, solveIter s m b x0 maxIter tol norm2 = .ok out) ↔
      (Guards s m b x0 ∧ Multipliable s x0) := by
  constructor
  · rintro ⟨out, h⟩
    by_cases h1 : s.rows = b.size
    · by_cases h2 : s.rows = s.cols
      · by_cases h3 : b.size = x0.size
        · have hmul : Multipliable s x0 := by
            cases hr : Sp.multiply s x0 with
            | ok r => exact ⟨r, hr⟩
            | error e =>
              rw [solveIter_rejects_storage s m b x0 maxIter tol norm2 h1 h2 h3 e hr] at h
              cases h
          refine ⟨⟨h1, h2, h3, ?_⟩, hmul⟩
          intro itol hm
          subst hm
          by_contra hc
          have hi : itol ≠ 1 ∧ itol ≠ 2 := by omega
          rw [solveIter_rejects_itol s itol b x0 maxIter tol norm2 h1 h2 h3 hmul hi] at h
          cases h
        · rw [solveIter_rejects_size s m b x0 maxIter tol norm2 (Or.inr (Or.inr h3))] at h; cases h
      · rw [solveIter_rejects_size s m b x0 maxIter tol norm2 (Or.inr (Or.inl h2))] at h; cases h
    · rw [solveIter_rejects_size s m b x0 maxIter tol norm2 (Or.inl h1)] at h; cases h
  · rintro ⟨g, hm⟩
    exact ⟨_, solveIter_ok s m b x0 maxIter tol norm2 g hm⟩

/-- on a well-formed storage the products cannot panic: the call returns a value exactly when the
    four guards pass -/
theorem solveIter_ok_iff_wf {K : Type} [CommSemiring K] [Sub K] [Neg K] [Div K] [BEq K] [ScalarExt K]
    [Transc K] {s : Sp K} (hs : WF s) (m : Method) (b x0 : Array K) (maxIter : Nat) (tol : K)
    (norm2 : Array K → K) :
    (∃ out, solveIter s m b x0 maxIter tol norm2 = .ok out) ↔ Guards s m b x0 := by
  rw [solveIter_ok_iff]
  constructor
  · exact fun h => h.1
  · intro g
    obtain ⟨y, hy, _⟩ := Ohsl.Props.C07.multiply_spec hs x0 (by have := g.1; have := g.2.1; have := g.2.2.1; omega)
    exact ⟨g, y, hy⟩

theorem solveIter_ok_inv {s : Sp K} {n : Nat} (h : SqWF s n) (norm2 : Array K → K) (m : Method)
    (b x0 : Array K) (maxIter : Nat) (tol : K) (out : KOut K (Array K))
    (hrun : solveIter s m b x0 maxIter tol norm2 = .ok out) :
    b.size = n ∧ x0.size = n ∧ (∀ itol, m = .bicg itol → itol = 1 ∨ itol = 2) ∧
      out = runOn (arrOps s n norm2) m b x0 maxIter tol := by
  obtain ⟨g, gm⟩ := (solveIter_ok_iff s m b x0 maxIter tol norm2).1 ⟨out, hrun⟩
  rw [solveIter_ok s m b x0 maxIter tol norm2 g gm, h.rows] at hrun
  cases hrun
  have hb : b.size = n := g.1.symm.trans h.rows
  exact ⟨hb, g.2.2.1.symm.trans hb, g.2.2.2, rfl⟩

/-- whatever a method returns, its iteration count is within the budget -/
theorem solveIter_iter_bound (s : Sp K) (m : Method) (b x0 : Array K) (maxIter : Nat) (tol : K)
    (norm2 : Array K → K) (out : KOut K (Array K))
    (h : solveIter s m b x0 maxIter tol norm2 = .ok out) : out.iters ≤ maxIter := by
  have g := (solveIter_ok_iff s m b x0 maxIter tol norm2).1 ⟨out, h⟩
  rw [solveIter_ok s m b x0 maxIter tol norm2 g.1 g.2] at h
  cases h
  exact runOn_iter_bound _ m b x0 maxIter tol

/-- with an iteration budget of zero every method hands the guess back untouched -/
theorem solveIter_budget_zero (s : Sp K) (m : Method) (b x0 : Array K) (tol : K)
    (norm2 : Array K → K) (out : KOut K (Array K))
    (h : solveIter s m b x0 0 tol norm2 = .ok out) : out.x = x0 := by
  have g := (solveIter_ok_iff s m b x0 0 tol norm2).1 ⟨out, h⟩
  rw [solveIter_ok s m b x0 0 tol norm2 g.1 g.2] at h
  cases h
  cases m with
  | cg => exact (budget_zero_untouched _ b x0 tol 1).1
  | bicg itol => exact (budget_zero_untouched _ b x0 tol itol).2.1
  | bicgstab => exact (budget_zero_untouched _ b x0 tol 1).2.2.1
  | qmr => exact (budget_zero_untouched _ b x0 tol 1).2.2.2

end Structural

section Exact
variable {K : Type} [Field K] [DecidableEq K] [Transc K]
attribute [local instance] Ohsl.Alg.scalarExtField

/-- **Method level: success ⇒ solved to the tolerance** (exact arithmetic).  For a well-formed
    square storage of order `n`, whichever of the four methods is called (BiCG with either error
    measure), if the call returns a value that reports success then the returned array has size `n`
    and its TRUE relative residual `‖b − s·x‖ / guard ‖b‖` passed the code's test with `tol`
    (`≤ tol` for every method and exit: BiCGSTAB's strict full-step test implies it, `stabLt_le`;
    the second disjunct of the statement adds nothing). -/
theorem solveIter_success_sound {s : Sp K} {n : Nat} (h : SqWF s n) (norm2 : Array K → K)
    (m : Method) (b x0 : Array K) (maxIter : Nat) (tol : K) (out : KOut K (Array K))
    (hrun : solveIter s m b x0 maxIter tol norm2 = .ok out) (hok : out.ok = true) :
    out.x.size = n ∧
      (Transc.le (norm2 (trueResid s n b out.x) / guardNorm (norm2 b)) tol = true ∨
        stabLt (norm2 (trueResid s n b out.x) / guardNorm (norm2 b)) tol = true) := by
  obtain ⟨hb, hx, _, rfl⟩ := solveIter_ok_inv h norm2 m b x0 maxIter tol out hrun
  exact (run_success_sound_sparse h norm2 m b x0 hb hx maxIter tol hok).imp id Or.inl

end Exact
end Ohsl.Props.C08
