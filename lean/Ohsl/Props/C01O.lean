/-
  Property C01 (continued) — the order-0 system and the LU solver (model: Ohsl/Model/Solve.lean).

  (S) `solveLU_order0`: rejected like `solve_basic` (`C01.solveBasic_order0`).  The factorisation
  of the empty matrix, `P·b` and the forward substitution are all empty loops; the first statement
  of `backsolve` is `usub 0 1`.  Nothing is read, so there is no hypothesis on the buffer.
-/
import Ohsl.Props.C01
import Ohsl.Lemmas.Loop
import Ohsl.Lemmas.Alg
import Mathlib.Algebra.Order.Field.Rat
namespace Ohsl.Props.C01
open Ohsl Ohsl.Mat

section
variable {K : Type} [Sub K] [Mul K] [Zero K] [One K] [BEq K] [ScalarExt K]

/-- (S) the LU factorisation of an order-0 matrix is the empty loop: it returns the input, the
    0×0 "identity" and zero exchanges -/
theorem luDecomp_order0 (m : Mat K) (h0 : m.rows = 0) (hc : m.cols = 0) :
    luDecomp m = .ok { lu := m, perm := Mat.new 0 0 (0 : K), pivots := 0 } := by
  have hsq : ¬ m.rows ≠ m.cols := by rw [h0, hc]; simp
  unfold luDecomp
  rw [if_neg hsq]
  simp only [h0, eye, forM'_empty 0 0 _ _ (Nat.le_refl _), bind, Except.bind]

end

section Structural
variable {K : Type} [Add K] [Sub K] [Mul K] [Neg K] [Zero K] [One K] [BEq K] [ScalarExt K]

set_option linter.unusedSectionVars false in
/-- (S) an order-0 system is rejected by `solve_lu` (`rows - 1` underflows in the back
    substitution); it never returns a value.  Holds for every scalar type and every buffer. -/
theorem solveLU_order0 (m : Mat K) (b : Array K) (h0 : m.rows = 0) (hc : m.cols = 0)
    (hb : b.size = 0) : solveLU m b = .error .arith := by
  have h1 : ¬ m.rows ≠ b.size := by rw [h0, hb]; simp
  have h2 : ¬ m.rows ≠ m.cols := by rw [h0, hc]; simp
  have hb' : b = #[] := Array.eq_empty_of_size_eq_zero hb
  subst hb'
  unfold solveLU
  rw [if_neg h1, if_neg h2]
  simp only [luDecomp_order0 m h0 hc, bind, Except.bind]
  have hmv : mulVec (Mat.new 0 0 (0 : K)) (#[] : Array K) = .ok #[] := by
    simp [mulVec, Mat.new, pure, Except.pure]
  simp only [hmv, forwardSub, h0, forM'_empty 0 0 _ _ (Nat.le_refl _), backsolve, usub, bind,
    Except.bind]
  rfl

/-- the same for the literal empty matrix -/
theorem solveLU_empty : solveLU (⟨#[], 0, 0⟩ : Mat K) #[] = .error .arith :=
  solveLU_order0 _ _ rfl rfl rfl

/-- both direct solvers agree on the order-0 system: both reject it with the same panic class -/
theorem solvers_agree_order0 (m : Mat K) (b : Array K) (h0 : m.rows = 0) (hc : m.cols = 0)
    (hb : b.size = 0) : solveLU m b = solveBasic m b := by
  rw [solveLU_order0 m b h0 hc hb, solveBasic_order0 m b h0 hc hb]

end Structural

section Examples
attribute [local instance] Alg.scalarExt
example : Mat.solveLU (⟨#[], 0, 0⟩ : Mat ℚ) #[] = .error .arith := solveLU_empty
/-- an ill-formed buffer does not matter: nothing is read before the underflow -/
example : Mat.solveLU (⟨#[1, 2, 3], 0, 0⟩ : Mat ℚ) #[] = .error .arith :=
  solveLU_order0 _ _ rfl rfl rfl
end Examples

end Ohsl.Props.C01
