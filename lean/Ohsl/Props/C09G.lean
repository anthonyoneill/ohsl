/-
  Property C09G — conjugate gradients in exact arithmetic: finite termination on symmetric
  positive-definite systems.  Model: `cgDir`, `cgStep`, `solveCG` of Ohsl/Model/Krylov.lean.

  Class (R): scalars ℝ with the real interpretation `Ohsl.RealI.transc` (`Transc.le = (· ≤ ·)`,
  `/` the field division), vectors `Fin n → ℝ`, `A v = M *ᵥ v` for a positive-definite (hence
  symmetric) matrix `M`, `dot = ⬝ᵥ`, `norm2 v = √(v ⬝ᵥ v)`.  The vector operations `spdOps M` are
  an instance of C08's `modOps`, so the C08 theorems (`cgStep_residual`, `cg_success_sound`,
  `cg_iter_bound`) apply to them verbatim.

  The state of the model's loop is observed through `Ohsl.CGTheory.cgRun o b x0 tol k`: the
  `CGState` held after `k` iterations, `none` once `solveCG` has returned; `cgRun_is_loop` shows
  that this is literally the `iterate (cgStep …)` loop of `solveCG`.

  (R) `cg_orthogonality` (the invariants of the loop: orthogonal residuals, conjugate directions,
      true residual, positivity), `cg_divisors_positive` (no `0/0` in the iteration about to run),
      `cg_loop_stops`, `cg_finite_termination` (success within `n` iterations), `cg_exact_solution`
      (`tol = 0`), `cg_error_monotone` (the energy of the error decreases strictly), `cg_optimal`
      (minimal energy over the Krylov space) — instances of the general theory of
      Ohsl/Lemmas/CGTheory.lean (a symmetric positive-definite form `dot`, `A` self-adjoint and
      positive definite for it).
  NOT proved (class F): anything about f64 rounding, where orthogonality is lost and the
  `n`-step termination does not hold.
-/
import Ohsl.Props.C08
import Ohsl.Lemmas.CGTheory
import Mathlib.LinearAlgebra.Matrix.PosDef
import Mathlib.LinearAlgebra.Matrix.ToLin
import Mathlib.Algebra.Order.Star.Real
import Mathlib.LinearAlgebra.Dimension.Constructions
import Mathlib.Tactic.Linarith

namespace Ohsl.Props.C09
open Ohsl Ohsl.Krylov Ohsl.Props.C08 Ohsl.CGTheory Matrix

section Structural
variable {K V : Type} [Add K] [Sub K] [Mul K] [Neg K] [Div K] [Zero K] [One K] [BEq K] [Transc K]

set_option linter.unusedSectionVars false in
/-- While `cgRun o b x tol k = some s`, the call `solveCG o b x maxIter tol` (`k ≤ maxIter`) has not
    returned: it is about to execute iteration `k + 1` from state `s`, with `maxIter - k` iterations
    of budget left. -/
theorem cgRun_is_loop (o : VOps K V) (b x : V) (maxIter : Nat) (tol : K) (k : Nat)
    (s : CGState K V) (hs : cgRun o b x tol k = some s) (hk : k ≤ maxIter) :
    solveCG o b x maxIter tol =
      iterate (cgStep o (guardNorm (o.norm2 b)) tol) (fun s => ⟨false, maxIter, s.resid, s.x⟩)
        (maxIter - k) (k + 1) s :=
  cgRun_spec o b x maxIter tol k s hs hk

set_option linter.unusedSectionVars false in
/-- the state after `k + 1` iterations comes from the state after `k` by one `cgStep` that
    continued -/
theorem cgRun_succ (o : VOps K V) (b x : V) (tol : K) (k : Nat) (s' : CGState K V)
    (hs : cgRun o b x tol (k + 1) = some s') :
    ∃ s, cgRun o b x tol k = some s ∧ cgStep o (guardNorm (o.norm2 b)) tol (k + 1) s = .cont s' :=
  cgRun_succ_some hs

end Structural

section Real
variable {n : ℕ}

/-- The model's vector operations at the real interpretation: `A v = M *ᵥ v`, `At v = Mᵀ *ᵥ v`,
    `dot u v = u ⬝ᵥ v`, `norm2 v = √(v ⬝ᵥ v)` — an instance of C08's `modOps`. -/
noncomputable def spdOps (M : Matrix (Fin n) (Fin n) ℝ) : VOps ℝ (Fin n → ℝ) :=
  modOps (Matrix.mulVecLin M) (Matrix.mulVecLin Mᵀ) (fun u v => u ⬝ᵥ v)
    (fun v => Real.sqrt (v ⬝ᵥ v))

/-- the energy (squared `M`-norm) `⟨xs − x, M (xs − x)⟩` of the error of `x` -/
noncomputable def errEnergy (M : Matrix (Fin n) (Fin n) ℝ) (xs x : Fin n → ℝ) : ℝ :=
  (xs - x) ⬝ᵥ (M *ᵥ (xs - x))

/-- the Krylov space `span {v, M v, …, M^(k-1) v}` -/
def krylovSpace (M : Matrix (Fin n) (Fin n) ℝ) (v : Fin n → ℝ) (k : ℕ) :
    Submodule ℝ (Fin n → ℝ) :=
  Submodule.span ℝ ((fun j => (M ^ j) *ᵥ v) '' {j | j < k})

variable (M : Matrix (Fin n) (Fin n) ℝ)

theorem spd_of_posDef (hM : M.PosDef) : SPD (Matrix.mulVecLin M) (fun u v : Fin n → ℝ => u ⬝ᵥ v) where
  add_left u v w := add_dotProduct u v w
  smul_left c u v := smul_dotProduct c u v
  comm u v := dotProduct_comm u v
  pos v hv := (dotProduct_star_self_pos_iff (v := v)).mpr hv
  A_symm u v := by
    have hT : Mᵀ = M := by
      have := hM.isHermitian
      rwa [Matrix.IsHermitian, conjTranspose_eq_transpose_of_trivial] at this
    show (M *ᵥ u) ⬝ᵥ v = u ⬝ᵥ (M *ᵥ v)
    rw [dotProduct_mulVec, ← mulVec_transpose, hT]
  A_pos v hv := hM.dotProduct_mulVec_pos hv

theorem krylovSpace_eq (v : Fin n → ℝ) (k : ℕ) :
    krylovSpace M v k = krylov (Matrix.mulVecLin M) v k := by
  unfold krylovSpace krylov
  congr 2
  funext j
  rw [← Matrix.toLin'_apply', ← Matrix.toLin'_pow, Matrix.toLin'_apply]

variable (b x0 : Fin n → ℝ) (tol : ℝ)

/-- **CG invariant.**  For a positive-definite `M` and `tol ≥ 0`, as long as the model's loop has
    not returned: the residuals held after different numbers of iterations are mutually orthogonal,
    the search directions are mutually `M`-conjugate, each residual is orthogonal to the earlier
    directions; the residual is the true residual `b − M x`, it is nonzero (`⟨r, r⟩ > 0`), it is
    orthogonal to the current direction, and from the first iteration on the direction is nonzero
    with `⟨p, M p⟩ > 0`. -/
theorem cg_orthogonality (hM : M.PosDef) (htol : 0 ≤ tol) :
    (∀ i j si sj, i < j → cgRun (spdOps M) b x0 tol i = some si →
      cgRun (spdOps M) b x0 tol j = some sj →
      si.r ⬝ᵥ sj.r = 0 ∧ (1 ≤ i → si.p ⬝ᵥ (M *ᵥ sj.p) = 0) ∧ sj.r ⬝ᵥ si.p = 0) ∧
    (∀ k sk, cgRun (spdOps M) b x0 tol k = some sk →
      sk.r = b - M *ᵥ sk.x ∧ 0 < sk.r ⬝ᵥ sk.r ∧ sk.r ⬝ᵥ sk.p = 0 ∧
      (1 ≤ k → sk.p ≠ 0 ∧ 0 < sk.p ⬝ᵥ (M *ᵥ sk.p))) :=
  cgRun_orthogonality (Matrix.mulVecLin Mᵀ) b x0 (spd_of_posDef M hM) tol htol

/-- **No `0/0`.**  In the iteration `k + 1` the loop is about to execute, the divisor `rho_1` of
    `β = rho / rho_1` is positive (and it is the `⟨r, r⟩` of the previous iteration), the direction
    `p` computed by `cgDir` is nonzero and the divisor `⟨p, M p⟩` of `α` is positive. -/
theorem cg_divisors_positive (hM : M.PosDef) (htol : 0 ≤ tol) (k : ℕ)
    (sk : CGState ℝ (Fin n → ℝ)) (hk : cgRun (spdOps M) b x0 tol k = some sk) :
    0 < sk.rho1 ∧
    (∀ s', cgRun (spdOps M) b x0 tol (k + 1) = some s' → s'.rho1 = sk.r ⬝ᵥ sk.r) ∧
    cgDir (spdOps M) (k + 1) sk.r sk.p (sk.r ⬝ᵥ sk.r) sk.rho1 ≠ 0 ∧
    0 < cgDir (spdOps M) (k + 1) sk.r sk.p (sk.r ⬝ᵥ sk.r) sk.rho1 ⬝ᵥ
          (M *ᵥ cgDir (spdOps M) (k + 1) sk.r sk.p (sk.r ⬝ᵥ sk.r) sk.rho1) :=
  cgRun_divisors (Matrix.mulVecLin Mᵀ) b x0 (spd_of_posDef M hM) tol htol k sk hk

/-- `n + 1` nonzero mutually orthogonal vectors do not fit into `ℝⁿ`: after `n` iterations the loop
    has returned (the initial test or the test of one of the iterations `1, …, n` has passed) -/
theorem cg_loop_stops (hM : M.PosDef) (htol : 0 ≤ tol) : cgRun (spdOps M) b x0 tol n = none :=
  cgRun_stops (Matrix.mulVecLin Mᵀ) b x0 (spd_of_posDef M hM) n
    (by rw [Module.finrank_fin_fun]) tol htol

/-- **Finite termination.**  For every right-hand side, every initial guess, every `tol ≥ 0` and
    every budget `maxIter ≥ n`, `solveCG` reports success after at most `n` iterations. -/
theorem cg_finite_termination (hM : M.PosDef) (maxIter : ℕ) (hmax : n ≤ maxIter) (htol : 0 ≤ tol) :
    (solveCG (spdOps M) b x0 maxIter tol).ok = true ∧
      (solveCG (spdOps M) b x0 maxIter tol).iters ≤ n :=
  solveCG_terminates (Matrix.mulVecLin Mᵀ) b x0 (spd_of_posDef M hM) n
    (by rw [Module.finrank_fin_fun]) maxIter hmax tol htol

/-- a reported success with `tol ≤ 0` certifies an exact solution (whatever the budget) -/
theorem cg_success_exact (hM : M.PosDef) (maxIter : ℕ) (htol : tol ≤ 0)
    (hok : (solveCG (spdOps M) b x0 maxIter tol).ok = true) :
    M *ᵥ (solveCG (spdOps M) b x0 maxIter tol).x = b :=
  solveCG_exact_of_ok (Matrix.mulVecLin Mᵀ) b x0 (spd_of_posDef M hM) maxIter tol htol hok

/-- **Exact solution.**  With `tol = 0` and `maxIter ≥ n` the returned `x` solves `M x = b`. -/
theorem cg_exact_solution (hM : M.PosDef) (maxIter : ℕ) (hmax : n ≤ maxIter) :
    (solveCG (spdOps M) b x0 maxIter 0).ok = true ∧
      M *ᵥ (solveCG (spdOps M) b x0 maxIter 0).x = b :=
  ⟨(cg_finite_termination M b x0 0 hM maxIter hmax le_rfl).1,
    solveCG_exact (Matrix.mulVecLin Mᵀ) b x0 (spd_of_posDef M hM) n
      (by rw [Module.finrank_fin_fun]) maxIter hmax⟩

/-- **Monotone error.**  Every iteration the loop executes — whether it continues or returns —
    strictly decreases the energy `⟨xs − x, M (xs − x)⟩` of the error. -/
theorem cg_error_monotone (hM : M.PosDef) (htol : 0 ≤ tol) (xs : Fin n → ℝ) (hxs : M *ᵥ xs = b)
    (k : ℕ) (sk : CGState ℝ (Fin n → ℝ)) (hk : cgRun (spdOps M) b x0 tol k = some sk) :
    (∀ s', cgStep (spdOps M) (guardNorm (Real.sqrt (b ⬝ᵥ b))) tol (k + 1) sk = .cont s' →
      errEnergy M xs s'.x < errEnergy M xs sk.x) ∧
    (∀ out, cgStep (spdOps M) (guardNorm (Real.sqrt (b ⬝ᵥ b))) tol (k + 1) sk = .done out →
      errEnergy M xs out.x < errEnergy M xs sk.x) :=
  cgRun_energy_decrease (Matrix.mulVecLin Mᵀ) b x0 (spd_of_posDef M hM) tol htol xs hxs k sk hk

/-- **Optimality.**  The iterate held after `k` iterations lies in `x0 + K_k(M, b − M x0)` and
    minimises the energy of the error over that affine space. -/
theorem cg_optimal (hM : M.PosDef) (htol : 0 ≤ tol) (xs : Fin n → ℝ) (hxs : M *ᵥ xs = b)
    (k : ℕ) (sk : CGState ℝ (Fin n → ℝ)) (hk : cgRun (spdOps M) b x0 tol k = some sk) :
    sk.x - x0 ∈ krylovSpace M (b - M *ᵥ x0) k ∧
      ∀ y, y - x0 ∈ krylovSpace M (b - M *ᵥ x0) k → errEnergy M xs sk.x ≤ errEnergy M xs y := by
  rw [krylovSpace_eq]
  exact cgRun_optimal (Matrix.mulVecLin Mᵀ) b x0 (spd_of_posDef M hM) tol htol xs hxs k sk hk

end Real


/-- `[[2, 1], [1, 2]]` is positive definite: `xᵀ M x = x₀² + x₁² + (x₀ + x₁)²` -/
theorem posDef_example : (!![2, 1; 1, 2] : Matrix (Fin 2) (Fin 2) ℝ).PosDef := by
  apply Matrix.PosDef.of_dotProduct_mulVec_pos
  · ext i j
    fin_cases i <;> fin_cases j <;> simp
  · intro x hx
    have hne : x 0 ≠ 0 ∨ x 1 ≠ 0 := by
      by_contra hcon
      push Not at hcon
      apply hx
      ext i
      fin_cases i
      · exact hcon.1
      · exact hcon.2
    simp only [dotProduct, mulVec, Fin.sum_univ_two, star_trivial, Matrix.of_apply,
      Matrix.cons_val', Matrix.cons_val_zero, Matrix.cons_val_one, Matrix.cons_val_fin_one]
    have h2 : 0 ≤ (x 0 + x 1) ^ 2 := sq_nonneg _
    have h3 : 0 < x 0 ^ 2 + x 1 ^ 2 := by
      rcases hne with h | h <;> positivity
    linarith

/-- the hypotheses of the theorems above are satisfiable: the model's CG solves
    `2 x₀ + x₁ = 1, x₀ + 2 x₁ = 0` exactly from the zero guess within a budget of two iterations -/
example :
    (solveCG (spdOps !![2, 1; 1, 2]) ![1, 0] ![0, 0] 2 0).ok = true ∧
    (solveCG (spdOps !![2, 1; 1, 2]) ![1, 0] ![0, 0] 2 0).iters ≤ 2 ∧
    (!![2, 1; 1, 2] : Matrix (Fin 2) (Fin 2) ℝ) *ᵥ
      (solveCG (spdOps !![2, 1; 1, 2]) ![1, 0] ![0, 0] 2 0).x = ![1, 0] :=
  have h := cg_finite_termination _ ![1, 0] ![0, 0] 0 posDef_example 2 le_rfl le_rfl
  ⟨h.1, h.2, (cg_exact_solution _ _ _ posDef_example 2 le_rfl).2⟩

/-- and the loop really runs on this system: the initial residual test fails, so `cgRun … 0` is a
    state (the statements about running states are not vacuous) -/
example : ∃ s, cgRun (spdOps !![2, 1; 1, 2]) ![1, 0] ![0, 0] 0 0 = some s := by
  refine ⟨CGTheory.init (spdOps !![2, 1; 1, 2]) ![1, 0] ![0, 0], ?_⟩
  unfold cgRun
  rw [if_neg]
  -- were the zero guess accepted, it would solve the system exactly (`cg_success_exact`)
  intro hle
  have hrun := (solveCG_eq_run (spdOps !![2, 1; 1, 2]) ![1, 0] ![0, 0] 0 0).trans
    (krylovRun_of_test hle)
  have h := cg_success_exact _ _ _ _ posDef_example 0 le_rfl (congrArg KOut.ok hrun)
  rw [hrun] at h
  simpa using congrFun h 0

end Ohsl.Props.C09
