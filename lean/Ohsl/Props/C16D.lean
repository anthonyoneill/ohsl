/-
  Property C16 (part D) — threaded dot product: the chunks partition the index range and the
  threaded product is the sequential one re-associated (model: Ohsl/Model/Dot.lean).

  * `chunks_partition`   (S) the per-worker index ranges tile `0, 1, …, len-1` in order
  * `partialSum_eq_fold_indices`, `dotThreaded_is_reassociation`, `dotThreaded_eq_blocks`,
    `blocks_flatten`     (S) no algebraic law: the threaded product as a fold of folds (`blocks`:
                         the form the rounding analysis C16F uses)
  * `dotThreaded_eq_dot_of_laws` / `dotThreaded_eq_dot`
                         (E) with `+` associative and `0` a two-sided unit (an `AddMonoid`; NO
                         commutativity, nothing about `*`) the threaded product equals the
                         sequential left fold.  All three laws are needed: `0 + x = x` because every
                         worker (and the final reduction) starts from `0`, `x + 0 = x` because a
                         chunk may be empty (`len < w`), associativity for the regrouping.
                         IEEE `f64` addition is not associative, so for floats the threaded result
                         is only a re-association of the sequential one.
-/
import Ohsl.Props.C16
import Ohsl.Lemmas.ArrayIndex
import Mathlib.Algebra.Group.Defs
namespace Ohsl.Props.C16
open Ohsl Ohsl.Dot

/-- **C16 partition**: the chunks cover every index of `0 … len-1` exactly once, in order —
for every length (0, 1, `< w`, `= w`, not divisible by `w`, …) and every worker count `w > 0`. -/
theorem chunks_partition (len w : Nat) (hw : 0 < w) :
    (chunks len w).flatMap (fun se => List.range' se.1 (se.2 - se.1)) = List.range len := by
  -- the cut points: `i` full blocks of width `len / w` before chunk `i < w`, and `len` after the last
  -- chunk; they are non-decreasing and start at `0` (`range_eq_flatMap_cuts`)
  obtain ⟨f, hf⟩ : ∃ f : Nat → Nat, f = fun i => if i < w then i * (len / w) else len := ⟨_, rfl⟩
  have hchunk : ∀ i, i < w → chunk len w i = (f i, f (i + 1)) := by
    intro i hi
    simp only [hf, if_pos hi]
    by_cases h : i + 1 < w
    · rw [if_pos h]; exact chunk_of_lt len w i h
    · obtain rfl : i = w - 1 := by omega
      rw [if_neg h]; exact chunk_pred len w
  have hmono : ∀ j, j < w → f j ≤ f (j + 1) := by
    intro j hj
    simp only [hf, if_pos hj]
    split
    · exact Nat.mul_le_mul_right _ (Nat.le_succ j)
    · exact blocks_le len (Nat.le_of_lt hj)
  have h := range_eq_flatMap_cuts f (by simp only [hf, if_pos hw, Nat.zero_mul]) w hmono
  rw [show f w = len by simp only [hf, if_neg (Nat.lt_irrefl w)]] at h
  rw [h, chunks, List.flatMap_map]
  simp only [List.flatMap_def]
  exact congrArg List.flatten
    (List.map_congr_left fun i hi => by rw [hchunk i (List.mem_range.mp hi)])

section
variable {K : Type} [Add K] [Zero K]

theorem foldl_add_start (hassoc : ∀ x y z : K, x + y + z = x + (y + z))
    (hz : ∀ x : K, 0 + x = x) (hz' : ∀ x : K, x + 0 = x) (l : List K) (s : K) :
    l.foldl (· + ·) s = s + l.foldl (· + ·) 0 := by
  induction l generalizing s with
  | nil => simp [hz']
  | cons x l ih =>
    simp only [List.foldl_cons]
    rw [ih (s + x), ih (0 + x), hz, hassoc]

theorem foldl_map_foldl (hassoc : ∀ x y z : K, x + y + z = x + (y + z))
    (hz : ∀ x : K, 0 + x = x) (hz' : ∀ x : K, x + 0 = x) (L : List (List K)) (s : K) :
    (L.map (fun l => l.foldl (· + ·) 0)).foldl (· + ·) s = L.flatten.foldl (· + ·) s := by
  induction L generalizing s with
  | nil => simp
  | cons l L ih =>
    simp only [List.map_cons, List.foldl_cons, List.flatten_cons, List.foldl_append]
    rw [ih, ← foldl_add_start hassoc hz hz' l s]

end

section
variable {K : Type} [Mul K] [Zero K]

/-- the blocks of products the workers sum -/
def blocks (w : Nat) (a b : Array K) : List (List K) :=
  (chunks a.size w).map (fun se => (List.range' se.1 (se.2 - se.1)).map
    (fun j => a.getD j 0 * b.getD j 0))

theorem blocks_flatten (w : Nat) (a b : Array K) (hw : 0 < w) :
    (blocks w a b).flatten = (List.range a.size).map (fun j => a.getD j 0 * b.getD j 0) := by
  rw [blocks, ← List.flatMap_def, ← List.map_flatMap, chunks_partition a.size w hw]

end

section structural
variable {K : Type} [Add K] [Mul K] [Zero K]

theorem partialSum_eq_fold_indices (a b : Array K) (h : a.size = b.size) (se : Nat × Nat)
    (he : se.2 ≤ a.size) :
    partialSum a b se
      = ((List.range' se.1 (se.2 - se.1)).map (fun j => a.getD j 0 * b.getD j 0)).foldl (· + ·) 0 := by
  rw [partialSum, ← Array.extract_zipWith, ← Array.foldl_toList,
    extract_toList_eq_map_range' _ (0 : K) se.1 se.2
      (by rw [Array.size_zipWith, ← h, Nat.min_self]; exact he)]
  congr 1
  refine List.map_congr_left fun j hj => getD_zipWith _ a b 0 0 0 h ?_
  have := List.mem_range'_1.mp hj
  omega

/-- (S) **the threaded product is a re-association of the sequential one**, for arbitrary
`+`, `*`, `0` (so also for IEEE floats): the result is the left fold from `0`, in spawn order, of the
workers' partial sums, and the partial sum of worker `i` is the left fold from `0`, in index order,
of the products `a[j] * b[j]` over exactly the indices of chunk `i` (which by `chunks_partition`
tile `0 … len-1` in order). -/
theorem dotThreaded_is_reassociation (w : Nat) (a b : Array K) (hw : 0 < w) (h : a.size = b.size) :
    dotThreaded w a b = .ok (((chunks a.size w).map (partialSum a b)).foldl (· + ·) 0)
    ∧ ∀ i, i < w →
        partialSum a b (chunk a.size w i)
          = ((List.range' (chunk a.size w i).1 ((chunk a.size w i).2 - (chunk a.size w i).1)).map
              (fun j => a.getD j 0 * b.getD j 0)).foldl (· + ·) 0 := by
  refine ⟨?_, fun i hi => partialSum_eq_fold_indices a b h _ (chunk_valid a.size w i hi).2⟩
  rw [dotThreaded, if_neg (fun hne => hne h), if_neg (Nat.pos_iff_ne_zero.mp hw)]

theorem partialSums_eq (w : Nat) (a b : Array K) (hw : 0 < w) (h : a.size = b.size) :
    (chunks a.size w).map (partialSum a b)
      = ((chunks a.size w).map (fun se => (List.range' se.1 (se.2 - se.1)).map
          (fun j => a.getD j 0 * b.getD j 0))).map (fun l => l.foldl (· + ·) 0) := by
  rw [List.map_map, chunks, List.map_map, List.map_map]
  exact List.map_congr_left fun i hi =>
    (dotThreaded_is_reassociation w a b hw h).2 i (List.mem_range.mp hi)

theorem dotThreaded_eq_blocks (w : Nat) (a b : Array K) (hw : 0 < w) (h : a.size = b.size) :
    dotThreaded w a b
      = .ok (((blocks w a b).map (fun l : List K => l.foldl (· + ·) 0)).foldl (· + ·) 0) := by
  rw [(dotThreaded_is_reassociation w a b hw h).1, partialSums_eq w a b hw h, blocks]

theorem dotThreaded_eq_dot_of_laws (hassoc : ∀ x y z : K, x + y + z = x + (y + z))
    (hz : ∀ x : K, 0 + x = x) (hz' : ∀ x : K, x + 0 = x)
    (w : Nat) (a b : Array K) (hw : 0 < w) (h : a.size = b.size) :
    dotThreaded w a b = .ok ((Array.zipWith (· * ·) a b).foldl (· + ·) 0) := by
  rw [dotThreaded_eq_blocks w a b hw h, foldl_map_foldl hassoc hz hz', blocks_flatten w a b hw,
    ← Array.foldl_toList, zipWith_toList_eq _ a b 0 0 h]

end structural

/-- (E) **C16**: over an additive monoid (not necessarily commutative; `*` arbitrary) the threaded
dot product equals the sequential one, for every length and every worker count `w > 0`. -/
theorem dotThreaded_eq_dot {K : Type} [AddMonoid K] [Mul K]
    (w : Nat) (a b : Array K) (hw : 0 < w) (h : a.size = b.size) :
    dotThreaded w a b = .ok ((Array.zipWith (· * ·) a b).foldl (· + ·) 0) :=
  dotThreaded_eq_dot_of_laws add_assoc zero_add add_zero w a b hw h

/-- any two worker counts give the same value (over an additive monoid) -/
theorem dotThreaded_worker_independent {K : Type} [AddMonoid K] [Mul K]
    (w w' : Nat) (a b : Array K) (hw : 0 < w) (hw' : 0 < w') (h : a.size = b.size) :
    dotThreaded w a b = dotThreaded w' a b := by
  rw [dotThreaded_eq_dot w a b hw h, dotThreaded_eq_dot w' a b hw' h]

/-- sanity: non-trivial instances (length 5, 3 workers: chunk sizes 1,1,3; length 2 < 3 workers:
two empty chunks) -/
example : chunks 5 3 = [(0, 1), (1, 2), (2, 5)] := by decide
example : chunks 2 3 = [(0, 0), (0, 0), (0, 2)] := by decide
example : chunks 0 4 = [(0, 0), (0, 0), (0, 0), (0, 0)] := by decide
example : dotThreaded 3 (#[1, 2, 3, 4, 5] : Array Nat) #[6, 7, 8, 9, 10] = .ok 130 := by
  simp [dotThreaded, chunks, chunk, partialSum, List.range, List.range.loop]

end Ohsl.Props.C16
