/-
  Property C06 (sparse matrix views / CSC well-formedness), part W — model: Ohsl/Model/Sparse.lean.
  Class (S): any scalar type (`scale` needs `Mul`, `transpose` / the value accessor `Sp.vl` need a
  `Zero`; the statements about the denoted entry `Sp.entry`, a finite sum, need a commutative
  semiring).  The compressed-column structure stays well formed (`Sp.WF`) under every constructor
  and the views agree:
  * `col_start_from_index`: `colStartFromIndex_counts`, `colStartFromIndex_spec`;
  * `from_triplets`: `fromTriplets_wf`, `fromTriplets_rejects`, `fromTriplets_triplets`,
    `fromTriplets_noDup`; the input order does not matter: `fromTriplets_perm_invariant`,
    `fromTriplets_entry_perm_invariant`, `fromTriplets_get_perm_invariant`;
  * the views: `colIndex_spec`, `col_unique`, `get_spec`, `get_some_iff`, `get_none_iff`,
    `toTriplets_spec`, `entry_eq_sum_triplets`; on duplicate-free storage they agree: `views_agree`;
  * `scale`, `insert`: `scale_wf`, `insert_overwrite`, `insert_new`, `insert_spec`, `insert_get`;
  * `transpose`, a stable counting sort by row: `transpose_wf`, `transpose_spec`, `transpose_perm`,
    `transpose_entry`.
  `Sp.colOf s k` is the column of slot `k`, `Sp.trips s` the list of stored triplets in storage
  order, `Sp.firstSlot s row col` the first slot holding a position (Ohsl/Lemmas/SparseWF.lean),
  `Sp.lookup ts i j` the first triplet of a list at a position (Ohsl/Lemmas/SparseLookup.lean).
-/
import Ohsl.Props.C06
import Ohsl.Props.C07S
import Ohsl.Lemmas.SparseSpec
import Ohsl.Lemmas.SparseWF
import Ohsl.Lemmas.SparseLookup
namespace Ohsl.Props.C06
open Ohsl Ohsl.Sp
variable {K : Type}

/-- `col_start_from_index`: if the first `nz` column indices are `< cols` (no order needed) the
    result has `cols + 1` entries and entry `j` is the number of slots whose column is `< j` -/
theorem colStartFromIndex_counts (cols nz : Nat) (ci : Array Nat) (hsz : nz ≤ ci.size)
    (hlt : ∀ k, k < nz → ci[k]?.getD 0 < cols) :
    ∃ cs, colStartFromIndex cols nz ci = .ok cs ∧ cs.size = cols + 1 ∧
      ∀ j, j ≤ cols → cs[j]? = some ((Finset.range nz).filter (fun k => ci[k]?.getD 0 < j)).card := by
  obtain ⟨cs, h1, h2, h3⟩ := colStartFromIndex_count cols nz ci hsz hlt
  refine ⟨cs, h1, h2, ?_⟩
  intro j hj
  rw [h3 j hj, cnt_eq_card]
  simp only [decide_eq_true_eq]

/-- `col_start_from_index` on a column index that is in range and sorted by column: the result
    starts at 0, is non-decreasing, ends at `nz`, counts the slots of the smaller columns, and
    slot `k` lies in the range of column `ci[k]` -/
theorem colStartFromIndex_spec (cols nz : Nat) (ci : Array Nat) (hsz : ci.size = nz)
    (hlt : ∀ k, k < nz → ci[k]?.getD 0 < cols)
    (hsorted : ∀ a b, a ≤ b → b < nz → ci[a]?.getD 0 ≤ ci[b]?.getD 0) :
    ∃ cs, colStartFromIndex cols nz ci = .ok cs ∧ cs.size = cols + 1 ∧ cs[0]? = some 0 ∧
      (∀ j, j < cols → cs[j]?.getD 0 ≤ cs[j + 1]?.getD 0) ∧ cs[cols]? = some nz ∧
      (∀ j, j ≤ cols → cs[j]? = some ((Finset.range nz).filter (fun k => ci[k]?.getD 0 < j)).card) ∧
      (∀ k, k < nz → cs[ci[k]?.getD 0]?.getD 0 ≤ k ∧ k < cs[ci[k]?.getD 0 + 1]?.getD 0) := by
  obtain ⟨cs, h1, h2, h3⟩ := colStartFromIndex_count cols nz ci (Nat.le_of_eq hsz.symm) hlt
  refine ⟨cs, h1, h2, ?_, fun j hj => ?_, ?_, fun j hj => ?_, fun k hk => ?_⟩
  · rw [h3 0 (Nat.zero_le _), cnt_lt_zero]
  · rw [h3 j (Nat.le_of_lt hj), h3 (j + 1) hj]
    exact cnt_lt_mono _ (Nat.le_succ j) nz
  · rw [h3 cols (Nat.le_refl _), cnt_lt_bound _ hlt]
  · rw [h3 j hj, cnt_eq_card]
    simp only [decide_eq_true_eq]
  · have hck := hlt k hk
    rw [h3 _ (Nat.le_of_lt hck), h3 _ hck]
    exact cnt_sorted_slot (fun i => ci[i]?.getD 0) nz k hk hsorted

/-- the run on the column index `0, 0, 1, 2` of the 2×3 example below (in range, sorted by column):
    the starts are the counts of the smaller columns -/
example : colStartFromIndex 3 4 #[0, 0, 1, 2] = .ok #[0, 2, 3, 4] := by decide

/-- `from_triplets` on in-range triplets succeeds with a well-formed storage of the requested
    shape holding one slot per triplet -/
theorem fromTriplets_wf (rows cols : Nat) (ts : List (Nat × Nat × K))
    (hr : ∀ t, t ∈ ts → t.1 < rows ∧ t.2.1 < cols) :
    ∃ s, fromTriplets rows cols ts = .ok s ∧ WF s ∧ s.rows = rows ∧ s.cols = cols ∧
      s.nonzero = ts.length := by
  obtain ⟨s, h1, h2, h3, h4, h5, _⟩ := fromTriplets_ok' rows cols ts hr
  exact ⟨s, h1, h2, h3, h4, h5⟩

/-- `from_triplets` panics (index out of range) as soon as one triplet is out of range -/
theorem fromTriplets_rejects (rows cols : Nat) (ts : List (Nat × Nat × K))
    (hbad : ∃ t, t ∈ ts ∧ ¬ (t.1 < rows ∧ t.2.1 < cols)) :
    fromTriplets rows cols ts = .error .range :=
  fromTriplets_err rows cols ts hbad

/-- the hypotheses are satisfiable: the 2×3 matrix `[[1,0,4],[2,3,0]]` from unsorted triplets -/
example : ∃ s : Sp Int, fromTriplets 2 3 [(0, 2, 4), (1, 0, 2), (1, 1, 3), (0, 0, 1)] = .ok s ∧
    WF s ∧ s.nonzero = 4 := by
  obtain ⟨s, h1, h2, _, _, h5⟩ := fromTriplets_wf 2 3 [((0 : Nat), (2 : Nat), (4 : Int)), (1, 0, 2), (1, 1, 3), (0, 0, 1)]
    (by decide)
  exact ⟨s, h1, h2, h5⟩

section Triplets
variable [Zero K]

/-- `to_triplets` of a well-formed storage lists the slots `(row_index k, column of k, val k)` in
    storage order -/
theorem toTriplets_spec {s : Sp K} (h : WF s) : toTriplets s = .ok (trips s) := h.toTriplets_spec

/-- the stored triplets of `from_triplets` are exactly the stably sorted input -/
theorem fromTriplets_triplets (rows cols : Nat) (ts : List (Nat × Nat × K))
    (hr : ∀ t, t ∈ ts → t.1 < rows ∧ t.2.1 < cols) :
    ∃ s, fromTriplets rows cols ts = .ok s ∧ WF s ∧ toTriplets s = .ok (sortByCol ts) := by
  obtain ⟨s, h1, h2, _, _, _, h6⟩ := fromTriplets_ok rows cols ts hr
  exact ⟨s, h1, h2, by rw [h2.toTriplets_spec, h6]⟩

/-- two orderings of the same in-range triplets give storages with the same triplets (as
    multisets) -/
theorem fromTriplets_perm_invariant (rows cols : Nat) {ts1 ts2 : List (Nat × Nat × K)}
    (hp : ts1.Perm ts2) (hr : ∀ t, t ∈ ts1 → t.1 < rows ∧ t.2.1 < cols) :
    ∃ s1 s2 l1 l2, fromTriplets rows cols ts1 = .ok s1 ∧ fromTriplets rows cols ts2 = .ok s2 ∧
      WF s1 ∧ WF s2 ∧ toTriplets s1 = .ok l1 ∧ toTriplets s2 = .ok l2 ∧ l1.Perm l2 := by
  obtain ⟨s1, a1, a2, a3⟩ := fromTriplets_triplets rows cols ts1 hr
  obtain ⟨s2, b1, b2, b3⟩ := fromTriplets_triplets rows cols ts2 (fun t ht => hr t (hp.symm.subset ht))
  exact ⟨s1, s2, _, _, a1, b1, a2, b2, a3, b3,
    ((sortByCol_perm ts1).trans hp).trans (sortByCol_perm ts2).symm⟩

end Triplets

/-- the positions `(row, col)` of the triplets are pairwise distinct -/
def PosNodup (ts : List (Nat × Nat × K)) : Prop := (ts.map (fun t => (t.1, t.2.1))).Nodup

example : PosNodup [((0 : Nat), (2 : Nat), (4 : Int)), (1, 0, 2), (1, 1, 3), (0, 0, 1)] := by
  unfold PosNodup; decide

theorem PosNodup.perm {ts1 ts2 : List (Nat × Nat × K)} (hp : ts1.Perm ts2) (h : PosNodup ts1) :
    PosNodup ts2 := by
  unfold PosNodup at *
  exact ((hp.map (fun t => (t.1, t.2.1))).nodup_iff).mp h

theorem posNodup_cons {t : Nat × Nat × K} {ts : List (Nat × Nat × K)} :
    PosNodup (t :: ts) ↔ (∀ u, u ∈ ts → ¬ (u.1 = t.1 ∧ u.2.1 = t.2.1)) ∧ PosNodup ts := by
  unfold PosNodup
  rw [List.map_cons, List.nodup_cons]
  apply and_congr_left'
  constructor
  · intro hh u hu ⟨e1, e2⟩
    exact hh (List.mem_map.mpr ⟨u, hu, by rw [e1, e2]⟩)
  · intro hh hm
    obtain ⟨u, hu, e⟩ := List.mem_map.mp hm
    simp only [Prod.mk.injEq] at e
    exact hh u hu e

theorem lookup_eq_some_iff : ∀ (ts : List (Nat × Nat × K)), PosNodup ts → ∀ (i j : Nat) (v : K),
    lookup ts i j = some v ↔ (i, j, v) ∈ ts
  | [], _, i, j, v => by simp [lookup]
  | t :: ts, hnd, i, j, v => by
    obtain ⟨h1, h2⟩ := posNodup_cons.mp hnd
    rw [lookup_cons, List.mem_cons]
    by_cases hp : t.1 = i ∧ t.2.1 = j
    · -- `t` is found, and no other triplet of the list is at `(i, j)`
      rw [if_pos hp]
      obtain ⟨a, b, c⟩ := t
      obtain ⟨rfl, rfl⟩ := hp
      exact ⟨fun e => Or.inl (by cases e; rfl),
        fun e => e.elim (fun e => by cases e; rfl) fun e => absurd ⟨rfl, rfl⟩ (h1 _ e)⟩
    · rw [if_neg hp]
      exact (lookup_eq_some_iff ts h2 i j v).trans
        ⟨Or.inr, fun e => e.resolve_left fun e => hp (e ▸ ⟨rfl, rfl⟩)⟩

theorem lookup_perm {ts1 ts2 : List (Nat × Nat × K)} (hp : ts1.Perm ts2) (hnd : PosNodup ts1) :
    lookup ts1 = lookup ts2 :=
  funext fun i => funext fun j => Option.ext fun v => by
    rw [lookup_eq_some_iff ts1 hnd, lookup_eq_some_iff ts2 (hnd.perm hp), hp.mem_iff]

section Positions
variable [Zero K]

theorem noDup_of_posNodup {s : Sp K} (h : WF s) (hnd : PosNodup (trips s)) : C07.NoDup s := by
  intro j hj k k' a b c d e
  have hk : k < s.nonzero := h.slot_lt hj b
  have hk' : k' < s.nonzero := h.slot_lt hj d
  have e1 : s.colOf k = j := h.colOf_eq hj a b
  have e2 : s.colOf k' = j := h.colOf_eq hj c d
  have l1 : k < ((trips s).map (fun t => (t.1, t.2.1))).length := by simpa using hk
  have l2 : k' < ((trips s).map (fun t => (t.1, t.2.1))).length := by simpa using hk'
  apply (List.Nodup.getElem_inj_iff hnd (hi := l1) (hj := l2)).mp
  simp [trips, trip, e, e1, e2]

theorem posNodup_trips {s : Sp K} (h : WF s) (hnd : C07.NoDup s) : PosNodup (trips s) := by
  unfold PosNodup trips
  rw [List.map_map]
  apply List.Nodup.map_on _ List.nodup_range
  intro k hk k' hk' e
  have hk1 := List.mem_range.mp hk
  have hk2 := List.mem_range.mp hk'
  simp only [Function.comp, trip, Prod.mk.injEq] at e
  exact C07.slot_inj h hnd hk1 hk2 e.1 e.2

theorem firstSlot_vl_eq_some_iff {s : Sp K} (h : WF s) (hnd : C07.NoDup s) (i j : Nat) (v : K) :
    (firstSlot s i j).map s.vl = some v ↔ (i, j, v) ∈ trips s := by
  rw [firstSlot_vl_eq_lookup, lookup_eq_some_iff _ (posNodup_trips h hnd)]

theorem fromTriplets_lookup (rows cols : Nat) (ts : List (Nat × Nat × K))
    (hr : ∀ t, t ∈ ts → t.1 < rows ∧ t.2.1 < cols) :
    ∃ s, fromTriplets rows cols ts = .ok s ∧ WF s ∧ s.rows = rows ∧ s.cols = cols ∧
      trips s = sortByCol ts ∧ lookup (trips s) = lookup ts := by
  obtain ⟨s, h1, h2, h3, h4, _, h6⟩ := fromTriplets_ok rows cols ts hr
  exact ⟨s, h1, h2, h3, h4, h6, h6 ▸ lookup_sortByCol ts⟩

theorem fromTriplets_noDup (rows cols : Nat) (ts : List (Nat × Nat × K))
    (hr : ∀ t, t ∈ ts → t.1 < rows ∧ t.2.1 < cols) (hnd : PosNodup ts) :
    ∃ s, fromTriplets rows cols ts = .ok s ∧ WF s ∧ C07.NoDup s := by
  obtain ⟨s, h1, h2, _, _, h6, _⟩ := fromTriplets_lookup rows cols ts hr
  exact ⟨s, h1, h2, noDup_of_posNodup h2 (h6 ▸ hnd.perm (sortByCol_perm ts).symm)⟩

/-- two orderings of the same duplicate-free in-range triplets give the same `get` -/
theorem fromTriplets_get_perm_invariant (rows cols : Nat) {ts1 ts2 : List (Nat × Nat × K)}
    (hp : ts1.Perm ts2) (hr : ∀ t, t ∈ ts1 → t.1 < rows ∧ t.2.1 < cols) (hnd : PosNodup ts1)
    (row col : Nat) :
    ∃ s1 s2, fromTriplets rows cols ts1 = .ok s1 ∧ fromTriplets rows cols ts2 = .ok s2 ∧
      get s1 row col = get s2 row col := by
  obtain ⟨s1, a1, a2, a3, a4, _, a6⟩ := fromTriplets_lookup rows cols ts1 hr
  obtain ⟨s2, b1, b2, b3, b4, _, b6⟩ := fromTriplets_lookup rows cols ts2
    fun t ht => hr t (hp.symm.subset ht)
  refine ⟨s1, s2, a1, b1, ?_⟩
  by_cases hin : row < rows ∧ col < cols
  · rw [a2.get_lookup (a3 ▸ hin.1) (a4 ▸ hin.2), b2.get_lookup (b3 ▸ hin.1) (b4 ▸ hin.2), a6, b6,
      lookup_perm hp hnd]
  · rw [get_outside s1 row col (a3 ▸ a4 ▸ not_lt_and hin),
      get_outside s2 row col (b3 ▸ b4 ▸ not_lt_and hin)]

end Positions

/-- `col_index()` of a well-formed storage lists the column of every slot -/
theorem colIndex_spec {s : Sp K} (h : WF s) :
    ∃ ci, colIndex s = .ok ci ∧ ci.size = s.nonzero ∧ ∀ k, k < s.nonzero →
      ci[k]? = some (s.colOf k) ∧ s.colOf k < s.cols ∧ s.cs (s.colOf k) ≤ k ∧ k < s.cs (s.colOf k + 1) := by
  obtain ⟨ci, h1, h2, h3⟩ := h.colIndex_spec
  exact ⟨ci, h1, h2, fun k hk => ⟨h3 k hk, h.colOf_spec hk⟩⟩

/-- the column of a slot is the unique `j` with `col_start[j] ≤ k < col_start[j+1]` -/
theorem col_unique {s : Sp K} (h : WF s) {j k : Nat} (hj : j < s.cols) (hk : k < s.nonzero) :
    s.colOf k = j ↔ s.cs j ≤ k ∧ k < s.cs (j + 1) := h.colOf_iff hj hk

section Get
variable [Zero K]

/-- `get(row, col)` of a well-formed storage returns the value of the FIRST slot (in storage
    order) that holds the position, `None` if no slot does -/
theorem get_spec {s : Sp K} (h : WF s) {row col : Nat} (hr : row < s.rows) (hc : col < s.cols) :
    get s row col = .ok ((firstSlot s row col).map s.vl) := h.get_spec hr hc

theorem get_some_iff {s : Sp K} (h : WF s) {row col : Nat} (hr : row < s.rows) (hc : col < s.cols)
    (v : K) :
    get s row col = .ok (some v) ↔ ∃ k, k < s.nonzero ∧ (s.ri k = row ∧ s.colOf k = col) ∧
      (∀ k', k' < k → ¬ (s.ri k' = row ∧ s.colOf k' = col)) ∧ s.vl k = v := by
  rw [h.get_spec hr hc]
  constructor
  · intro hg
    have hg' : (firstSlot s row col).map s.vl = some v := by injection hg
    cases hf : firstSlot s row col with
    | none => rw [hf] at hg'; cases hg'
    | some k =>
      rw [hf] at hg'
      obtain ⟨a, b, c⟩ := firstSlot_eq_some.mp hf
      exact ⟨k, a, b, c, by simpa using hg'⟩
  · intro ⟨k, a, b, c, d⟩
    rw [firstSlot_eq_some.mpr ⟨a, b, c⟩]
    simp [d]

theorem get_none_iff {s : Sp K} (h : WF s) {row col : Nat} (hr : row < s.rows) (hc : col < s.cols) :
    get s row col = .ok none ↔ ∀ k, k < s.nonzero → ¬ (s.ri k = row ∧ s.colOf k = col) := by
  rw [h.get_spec hr hc, ← firstSlot_eq_none]
  cases firstSlot s row col <;> simp

end Get

section Entry
variable [CommSemiring K]

/-- the denoted entry (duplicates summed) is the sum over the stored triplets at that position -/
theorem entry_eq_sum_triplets {s : Sp K} (h : WF s) (i : Nat) {j : Nat} (hj : j < s.cols) :
    s.entry i j = ((trips s).map (fun t => if t.1 = i ∧ t.2.1 = j then t.2.2 else 0)).sum :=
  h.entry_eq_sum_trips i hj

theorem entry_eq_get {s : Sp K} (h : WF s) (hnd : C07.NoDup s) {row col : Nat} (hr : row < s.rows)
    (hc : col < s.cols) :
    ∃ o, get s row col = .ok o ∧ s.entry row col = o.getD 0 :=
  ⟨_, h.get_spec hr hc, C07.entry_eq_firstSlot h hnd row hc⟩

/-- two orderings of the same in-range triplets denote the same matrix (duplicates summed) -/
theorem fromTriplets_entry_perm_invariant (rows cols : Nat) {ts1 ts2 : List (Nat × Nat × K)}
    (hp : ts1.Perm ts2) (hr : ∀ t, t ∈ ts1 → t.1 < rows ∧ t.2.1 < cols) :
    ∃ s1 s2, fromTriplets rows cols ts1 = .ok s1 ∧ fromTriplets rows cols ts2 = .ok s2 ∧
      ∀ i j, j < cols → s1.entry i j = s2.entry i j := by
  have hr2 : ∀ t, t ∈ ts2 → t.1 < rows ∧ t.2.1 < cols := fun t ht => hr t (hp.symm.subset ht)
  obtain ⟨s1, a1, a2, _, a4, _, a6⟩ := fromTriplets_ok rows cols ts1 hr
  obtain ⟨s2, b1, b2, _, b4, _, b6⟩ := fromTriplets_ok rows cols ts2 hr2
  refine ⟨s1, s2, a1, b1, ?_⟩
  intro i j hj
  rw [a2.entry_eq_sum_trips i (a4 ▸ hj), b2.entry_eq_sum_trips i (b4 ▸ hj), a6, b6]
  apply List.Perm.sum_eq
  apply List.Perm.map
  exact ((sortByCol_perm ts1).trans hp).trans (sortByCol_perm ts2).symm

section Dense
variable [Sub K] [Neg K] [BEq K] [ScalarExt K]

/-- for duplicate-free well-formed storage all views describe the same entry function: `get`,
    `to_dense`, the denoted entry `Sp.entry` and membership in `to_triplets` -/
theorem views_agree {s : Sp K} (h : WF s) (hnd : C07.NoDup s) {row col : Nat} (hr : row < s.rows)
    (hc : col < s.cols) :
    ∃ o d l, get s row col = .ok o ∧ toDense s = .ok d ∧ toTriplets s = .ok l ∧
      d.get row col = .ok (o.getD 0) ∧ s.entry row col = o.getD 0 ∧
      ∀ v, o = some v ↔ (row, col, v) ∈ l := by
  obtain ⟨o, g1, g2⟩ := entry_eq_get h hnd hr hc
  obtain ⟨d, d1, d2⟩ := C07.toDense_spec h hnd
  refine ⟨o, d, _, g1, d1, h.toTriplets_spec, ?_, g2, ?_⟩
  · rw [d2.entry row col hr hc, g2]
  · intro v
    have e : o = lookup (trips s) row col := Except.ok.inj (g1.symm.trans (h.get_lookup hr hc))
    rw [e, lookup_eq_some_iff _ (posNodup_trips h hnd)]

end Dense
end Entry

/-- `scale` keeps the structure (and well-formedness) and multiplies every stored value -/
theorem scale_wf [Mul K] {s : Sp K} (h : WF s) (a : K) :
    ∃ s', scale s a = .ok s' ∧ WF s' ∧ s' = { s with val := s.val.map (· * a) } :=
  ⟨_, scale_eq s h.valSize a, h.with_val _ (Array.size_map ..), rfl⟩

section Insert
variable [Zero K]

/-- `insert` on a stored position (first slot `k`) overwrites that value and nothing else -/
theorem insert_overwrite {s : Sp K} (h : WF s) {row col k : Nat} (hr : row < s.rows)
    (hc : col < s.cols) (v : K) (hk : k < s.nonzero) (hpos : s.ri k = row ∧ s.colOf k = col)
    (hfirst : ∀ k', k' < k → ¬ (s.ri k' = row ∧ s.colOf k' = col)) :
    ∃ s', insert s row col v = .ok s' ∧ WF s' ∧ s'.rows = s.rows ∧ s'.cols = s.cols ∧
      s'.nonzero = s.nonzero ∧ s'.rowIndex = s.rowIndex ∧ s'.colStart = s.colStart ∧
      ∀ k', s'.vl k' = if k' = k then v else s.vl k' :=
  ⟨_, h.insert_hit hr hc v (firstSlot_eq_some.mpr ⟨hk, hpos, hfirst⟩),
    h.with_val _ (Array.size_setIfInBounds ..), rfl, rfl, rfl, rfl, rfl,
    vl_set s v (h.valSize ▸ hk)⟩

/-- `insert` on a position that is not stored yields a well-formed storage with one more slot
    whose triplets are the stably sorted extension of the old ones -/
theorem insert_new {s : Sp K} (h : WF s) {row col : Nat} (hr : row < s.rows) (hc : col < s.cols)
    (v : K) (hnew : ∀ k, k < s.nonzero → ¬ (s.ri k = row ∧ s.colOf k = col)) :
    ∃ s', insert s row col v = .ok s' ∧ WF s' ∧ s'.rows = s.rows ∧ s'.cols = s.cols ∧
      s'.nonzero = s.nonzero + 1 ∧ toTriplets s' = .ok (sortByCol (trips s ++ [(row, col, v)])) := by
  have hf := firstSlot_eq_none.mpr hnew
  rw [h.insert_miss hr hc v hf]
  have hin : ∀ t, t ∈ trips s ++ [(row, col, v)] → t.1 < s.rows ∧ t.2.1 < s.cols := by
    intro t ht
    rcases List.mem_append.mp ht with ht | ht
    · exact h.trips_inRange t ht
    · have : t = (row, col, v) := by simpa using ht
      subst this; exact ⟨hr, hc⟩
  obtain ⟨s', h1, h2, h3, h4, h5, h6⟩ := fromTriplets_ok s.rows s.cols _ hin
  exact ⟨s', h1, h2, h3, h4, by simpa using h5, by rw [h2.toTriplets_spec, h6]⟩

/-- `insert(row, col, v)` on a well-formed storage and an in-range position always succeeds with a
    well-formed storage of the same shape: either the position was stored (first slot `k`) and only
    `val[k]` changes, or it was not and the triplets are the stably sorted extension -/
theorem insert_spec {s : Sp K} (h : WF s) {row col : Nat} (hr : row < s.rows) (hc : col < s.cols)
    (v : K) :
    ∃ s', insert s row col v = .ok s' ∧ WF s' ∧ s'.rows = s.rows ∧ s'.cols = s.cols ∧
      ((∃ k, firstSlot s row col = some k ∧ s'.nonzero = s.nonzero ∧ s'.rowIndex = s.rowIndex ∧
          s'.colStart = s.colStart ∧ ∀ k', s'.vl k' = if k' = k then v else s.vl k') ∨
       (firstSlot s row col = none ∧ s'.nonzero = s.nonzero + 1 ∧
          toTriplets s' = .ok (sortByCol (trips s ++ [(row, col, v)])))) := by
  cases hf : firstSlot s row col with
  | some k =>
    obtain ⟨a, b, c⟩ := firstSlot_eq_some.mp hf
    obtain ⟨s', h1, h2, h3, h4, h5, h6, h7, h8⟩ := insert_overwrite h hr hc v a b c
    exact ⟨s', h1, h2, h3, h4, Or.inl ⟨k, rfl, h5, h6, h7, h8⟩⟩
  | none =>
    obtain ⟨s', h1, h2, h3, h4, h5, h6⟩ := insert_new h hr hc v (firstSlot_eq_none.mp hf)
    exact ⟨s', h1, h2, h3, h4, Or.inr ⟨rfl, h5, h6⟩⟩

/-- after `insert(row, col, v)` into a well-formed storage, `get(row, col)` returns `v` -/
theorem insert_get {s : Sp K} (h : WF s) {row col : Nat} (hr : row < s.rows) (hc : col < s.cols)
    (v : K) : ∃ s', insert s row col v = .ok s' ∧ WF s' ∧ get s' row col = .ok (some v) := by
  obtain ⟨s', e, h', r1, r2, hl⟩ := h.insert_lookup hr hc v
  exact ⟨s', e, h', (h'.get_lookup (r1 ▸ hr) (r2 ▸ hc)).trans
    (congrArg Except.ok ((hl row col).trans (if_pos ⟨rfl, rfl⟩)))⟩

end Insert

section Transpose
variable [Zero K]

/-- `transpose` of a well-formed storage succeeds with a well-formed storage of the transposed
    shape and the same number of slots -/
theorem transpose_wf {s : Sp K} (h : WF s) :
    ∃ t, transpose s = .ok t ∧ WF t ∧ t.rows = s.cols ∧ t.cols = s.rows ∧ t.nonzero = s.nonzero := by
  obtain ⟨t, h1, h2, h3, h4, h5, _⟩ := h.transpose_trips
  exact ⟨t, h1, h2, h3, h4, h5⟩

/-- `transpose` is a stable counting sort: the stored triplets of the result are the swapped
    triplets of `s`, stably sorted by their new column (the old row) -/
theorem transpose_spec {s : Sp K} (h : WF s) :
    ∃ t, transpose s = .ok t ∧ WF t ∧
      toTriplets t = .ok (sortByCol ((trips s).map (fun u => (u.2.1, u.1, u.2.2)))) := by
  obtain ⟨t, h1, h2, _, _, _, h6⟩ := h.transpose_trips
  exact ⟨t, h1, h2, by rw [h2.toTriplets_spec, h6]; rfl⟩

/-- the multiset of triplets of the transpose is the swapped multiset of triplets -/
theorem transpose_perm {s : Sp K} (h : WF s) :
    ∃ t l l', transpose s = .ok t ∧ toTriplets s = .ok l ∧ toTriplets t = .ok l' ∧
      l'.Perm (l.map (fun u => (u.2.1, u.1, u.2.2))) := by
  obtain ⟨t, h1, h2, h3⟩ := transpose_spec h
  exact ⟨t, _, _, h1, h.toTriplets_spec, h3, sortByCol_perm _⟩

end Transpose

/-- the transpose denotes the transposed matrix: `entry t i j = entry s j i` (no duplicate-freeness
    needed, duplicates are summed on both sides) -/
theorem transpose_entry [CommSemiring K] {s : Sp K} (h : WF s) :
    ∃ t, transpose s = .ok t ∧ WF t ∧
      ∀ i j, i < s.cols → j < s.rows → t.entry i j = s.entry j i := by
  obtain ⟨t, h1, h2, h3, h4, h5, h6⟩ := h.transpose_trips
  refine ⟨t, h1, h2, ?_⟩
  intro i j hi hj
  rw [h2.entry_eq_sum_trips i (h4.symm ▸ hj), h.entry_eq_sum_trips j hi, h6,
    List.Perm.sum_eq ((sortByCol_perm _).map _), List.map_map]
  congr 1
  apply List.map_congr_left
  intro u _
  simp only [Function.comp, swapT]
  by_cases e : u.2.1 = i ∧ u.1 = j
  · simp [e]
  · have e' : ¬ (u.1 = j ∧ u.2.1 = i) := fun x => e ⟨x.2, x.1⟩
    simp [e, e']

/-- `WF` and `C07.NoDup`, the hypotheses of the theorems above, hold of a non-trivial storage -/
example : WF C07.demo ∧ C07.NoDup C07.demo := C07.demo_wf

end Ohsl.Props.C06
