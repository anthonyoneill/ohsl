/-
  Property C01 (part F) — backward error analysis of the dense LU solver in the "rounded reals"
  interpretation `Fl M` of the model (Ohsl/Lemmas/Rounding.lean): the SAME model definitions
  `Mat.luDecomp`, `Mat.forwardSub`, `Mat.backsolve`, `Mat.solveLU` instantiated at real numbers whose
  `+ - * /` round with relative error `≤ u` (standard model of floating-point arithmetic, no overflow
  / underflow).  Clause "backward error of the order of machine epsilon over floats" of C01.  These
  are the classical theorems (Higham, *Accuracy and Stability of Numerical Algorithms*, Thm 8.5, 9.3,
  9.4) proved for the recurrences the code executes, in its order of evaluation, WITH the partial
  pivoting (row exchanges) and the skipped zero columns of `lu_decomp_in_place`.

  The transfer to the Rust `f64` code rests on the ASSUMPTION stated in Rounding.lean (IEEE binary64
  without overflow/underflow satisfies `FlModel` with `u = 2⁻⁵³`); it is not proved here.

  THE CONSTANTS.  A backward error statement `(T + ΔT) x̂ = b` with an UNPERTURBED right-hand side
  needs quotients of rounding factors `(1+δ)`: already for `n = 1`, `x̂ = fl(b/t) = (b/t)(1+δ)` gives
  `ΔT = t·(1/(1+δ) − 1)`, and `|1/(1+δ) − 1|` can be `u/(1−u) > u = gam 1`.  So `M.gam k = (1+u)^k − 1`
  is NOT a valid constant here; the constants are
        `M.gq k = (1−u)^{−k} − 1`      (needs `u < 1`, the only smallness hypothesis),
  with `gam k ≤ gq k ≤ γ_k = k u / (1 − k u)` (`FlModel.gam_le_gq`, `FlModel.gq_le_gamma`; Higham's
  Lemma 3.1), `(1 + gq a)(1 + gq b) = 1 + gq (a+b)` (`FlModel.gq_add`) and `gq k = 0` in exact
  arithmetic.  `M.Th k t` (`(1−u)^k ≤ t ≤ (1−u)^{−k}`) says that `t` is a product of at most `k`
  factors `(1+δ)^{±1}`.

  Notation: `Is A n n a` = "`A` is a well-formed `n × n` matrix with entries `a i j`",
  `vf x j = x[j]?.getD 0`, `ent m i j` the canonical entry function, `PermOK n π σ`: `π`, `σ` are
  mutually inverse bijections of `{0..n-1}`.  A bound "`|ΔA (π r) c| ≤ κ · absLU n s r c` for all
  `r, c < n`" is `|ΔA| ≤ κ · Pᵀ|L̂||Û|`.

  THE MULTIPLIERS are bounded by `1 + u`, NOT by `1` (`luDecomp_backward`): a multiplier is a ROUNDED
  quotient of magnitudes `≤ 1`, and the standard model allows rounding it upwards past 1
  (`Fl.abs_div_le`; attained in the model `fl x = (1+u) x`, where `fl(x/x) = 1 + u`).

  WHY `gq (3n)` AND NOT `gq (2n)` in `solveLU_backward`: `solve_lu` forms `P·b` with the generic
  matrix–vector product, i.e. with `fl(1·b_j)`, `fl(0·b_j)` and `n` rounded additions of zeros.  IEEE
  arithmetic commits no error there, but the abstract standard model (no `fl (fl x) = fl x`, no
  exactness of `1·x`, `x+0`) cannot know: `(P b)_r = b_{π r}·τ_r` with up to `n+1` rounding factors
  (`Mat.mulVec_perm_fl`), which are moved into `ΔL`.  For a representable right-hand side
  (`solveLU_backward_rep`) the constant is `gq n + gq (2n − 1) ≤ γ_n + γ_{2n}` (Higham:
  `3γ_n + γ_n² ≈ γ_n + γ_{2n}`).

  The growth of `Û` is not bounded here (it is in C01H): the normwise forms stop at `‖Û‖_∞`.  Nothing is
  `_partial`.
-/
import Ohsl.Props.C01S
import Ohsl.Lemmas.Rounding
import Ohsl.Lemmas.LURounding
import Ohsl.Lemmas.Eval
import Ohsl.Lemmas.ExactModel
import Ohsl.Lemmas.SolveComplete
import Mathlib.Algebra.BigOperators.Intervals
import Mathlib.Algebra.Order.BigOperators.Group.Finset
import Mathlib.Algebra.BigOperators.Ring.Finset
import Mathlib.Tactic.Ring
import Mathlib.Tactic.Linarith
import Mathlib.Tactic.NormNum
import Mathlib.Tactic.LinearCombination
namespace Ohsl.Props.C01
open Ohsl Ohsl.Mat

section Rounding
variable {M : FlModel}

/-- the computed unit lower factor (real values): stored multipliers below the diagonal, `1` on it -/
noncomputable def Lhat (s : LU (Fl M)) : Nat → Nat → ℝ := Lfn (valEnt s.lu)
/-- the computed upper factor (real values): the upper triangle of the in-place result -/
noncomputable def Uhat (n : Nat) (s : LU (Fl M)) : Nat → Nat → ℝ := Ufn n (valEnt s.lu)
/-- `(|L̂||Û|)_{rc}` -/
noncomputable def absLU (n : Nat) (s : LU (Fl M)) : Nat → Nat → ℝ := fun r c =>
  ∑ k ∈ Finset.range n, |Lhat s r k| * |Uhat n s k c|
/-- the 0/1 matrix of the row permutation `π`: row `r` of `P·A` is row `π r` of `A` -/
def permFn (π : Nat → Nat) : Nat → Nat → Fl M := fun r c => if c = π r then 1 else 0

theorem Lhat_apply (s : LU (Fl M)) (r k : Nat) :
    Lhat s r k = if k < r then (ent s.lu r k).val else if k = r then 1 else 0 := rfl
theorem Uhat_apply (n : Nat) (s : LU (Fl M)) {k c : Nat} (hc : c < n) :
    Uhat n s k c = if c < k then 0 else (ent s.lu k c).val := by
  simp [Uhat, Ufn, valEnt, hc]
theorem absLU_nonneg (n : Nat) (s : LU (Fl M)) (r c : Nat) : 0 ≤ absLU n s r c :=
  Finset.sum_nonneg (fun _ _ => mul_nonneg (abs_nonneg _) (abs_nonneg _))

theorem permFn_inj {n : Nat} {P : Mat (Fl M)} {π π' : Nat → Nat} (h : Mat.Is P n n (permFn π))
    (h' : Mat.Is P n n (permFn π')) {r : Nat} (hr : r < n) (hπ : π r < n) : π' r = π r := by
  have e := (h.ent_eq hr hπ).symm.trans (h'.ent_eq hr hπ)
  unfold permFn at e
  by_contra hne
  rw [if_pos rfl, if_neg fun e' => hne e'.symm] at e
  have := congrArg Fl.val e
  simp at this

/-- **Back substitution, backward error** (Higham, Thm 8.5, for the model's order of operations
`x_k ← x_k − u_kj x_j` (`j = k+1, …, n−1`), then `/ u_kk`): whenever `backsolve U b` returns `x̂` in
`Fl M`, all pivots are non-zero and `(U + ΔU) x̂ = b` holds EXACTLY, where only the upper triangle
of `U` enters and `|ΔU_ij| ≤ gq (n−i) |u_ij|` (`n−i−1` multiply–subtract steps and one division in
row `i`; uniformly `≤ gq n |u_ij|`).  The diagonal is perturbed, the right-hand side is not. -/
theorem backsolve_backward (hu : M.u < 1) {n : Nat} (hn : 1 ≤ n) {U : Mat (Fl M)}
    {uu : Nat → Nat → Fl M} (hU : Mat.Is U n n uu) {b x : Array (Fl M)} (hb : b.size = n)
    (h : Mat.backsolve U b = .ok x) :
    x.size = n ∧ (∀ i, i < n → (uu i i).val ≠ 0) ∧
    ∃ ΔU : Nat → Nat → ℝ,
      (∀ i j, i < n → j < n → |ΔU i j| ≤ M.gq (n - i) * |(uu i j).val|) ∧
      ∀ i, i < n →
        ∑ j ∈ Finset.Ico i n, ((uu i j).val + ΔU i j) * (vf x j).val = (vf b i).val := by
  obtain ⟨hsz, μ, hμ, hrows⟩ := backsolve_backward_ent hu hU.wfn hb hn h
  refine ⟨hsz, fun i hi => ?_, fun i j => (uu i j).val * (μ i j - 1), ?_, ?_⟩
  · rw [← hU.ent_eq hi hi]; exact (hrows i hi).1
  · intro i j hi hj
    rw [abs_mul, mul_comm]
    exact mul_le_mul_of_nonneg_right ((hμ i j hi).abs_sub_one_le hu) (abs_nonneg _)
  · intro i hi
    rw [← (hrows i hi).2, Usum (valEnt U) _ hi, Finset.sum_eq_sum_Ico_succ_bot hi]
    refine congrArg₂ (· + ·) ?_ (Finset.sum_congr rfl fun j hj => ?_)
    · rw [valEnt, hU.ent_eq hi hi]; ring
    · rw [valEnt, hU.ent_eq hi (Finset.mem_Ico.mp hj).2]; ring

theorem backsolve_backward_uniform (hu : M.u < 1) {n : Nat} (hn : 1 ≤ n) {U : Mat (Fl M)}
    {uu : Nat → Nat → Fl M} (hU : Mat.Is U n n uu) {b x : Array (Fl M)} (hb : b.size = n)
    (h : Mat.backsolve U b = .ok x) :
    ∃ ΔU : Nat → Nat → ℝ,
      (∀ i j, i < n → j < n → |ΔU i j| ≤ M.gq n * |(uu i j).val|) ∧
      ∀ i, i < n →
        ∑ j ∈ Finset.Ico i n, ((uu i j).val + ΔU i j) * (vf x j).val = (vf b i).val := by
  obtain ⟨_, _, ΔU, h1, h2⟩ := backsolve_backward hu hn hU hb h
  refine ⟨ΔU, fun i j hi hj => (h1 i j hi hj).trans ?_, h2⟩
  exact mul_le_mul_of_nonneg_right (FlModel.gq_mono hu (by omega)) (abs_nonneg _)

/-- **Forward substitution with the unit lower triangle, backward error** (the model's order
`x_r ← x_r − l_rk x_k`, `k = 0, …, r−1`; no division): `forwardSub L c` never fails on conformable
data and `(L + ΔL) ŷ = c` holds EXACTLY, where only the strictly lower triangle of `L` enters
(unit diagonal), `|ΔL_rk| ≤ gq r |l_rk|` for `k < r`, and the unit diagonal is PERTURBED as well: it
becomes `1 + ΔL_rr` with `|ΔL_rr| ≤ gq r` (`r ≤ n−1`).  The right-hand side is not perturbed. -/
theorem forwardSub_backward (hu : M.u < 1) {n : Nat} {L : Mat (Fl M)} {ll : Nat → Nat → Fl M}
    (hL : Mat.Is L n n ll) {c : Array (Fl M)} (hc : c.size = n) :
    ∃ y, Mat.forwardSub L c = .ok y ∧ y.size = n ∧
    ∃ ΔL : Nat → Nat → ℝ,
      (∀ r k, r < n → k < r → |ΔL r k| ≤ M.gq r * |(ll r k).val|) ∧
      (∀ r, r < n → |ΔL r r| ≤ M.gq r) ∧
      ∀ r, r < n →
        (1 + ΔL r r) * (vf y r).val
          + ∑ k ∈ Finset.range r, ((ll r k).val + ΔL r k) * (vf y k).val = (vf c r).val := by
  obtain ⟨y, hy, hsz, lam, hlam, hrows⟩ := forwardSub_backward_ent hu hL.wfn hc
  refine ⟨y, hy, hsz,
    fun r k => if k = r then lam r r - 1 else (ll r k).val * (lam r k - 1), ?_, ?_, ?_⟩
  · intro r k hr hk
    have : ¬ k = r := by omega
    simp only [this, if_false]
    rw [abs_mul, mul_comm]
    exact mul_le_mul_of_nonneg_right ((hlam r k).abs_sub_one_le hu) (abs_nonneg _)
  · intro r hr
    simp only [if_true]
    exact (hlam r r).abs_sub_one_le hu
  · intro r hr
    rw [← hrows r hr, Lsum (valEnt L) _ hr]
    simp only [if_true]
    refine congrArg₂ (· + ·) (by ring) (Finset.sum_congr rfl fun k hk => ?_)
    have hkr : k < r := Finset.mem_range.mp hk
    rw [if_neg (Nat.ne_of_lt hkr), valEnt, hL.ent_eq hr (Nat.lt_trans hkr hr)]; ring

/-- **LU factorisation with partial pivoting, backward error** (Higham, Thm 9.3, for the in-place
`kij` elimination of the model: multipliers `l̂_jk = fl(a_jk / a_kk)` stored in place, updates
`a_jc ← fl(a_jc − fl(l̂_jk a_kc))`, row exchanges applied to the stored multipliers as well, columns
whose candidates are all exact zeros skipped).  Whenever `luDecomp A` returns the state `s`:
`s.perm` is the 0/1 matrix of a permutation `π` of the rows, and the computed factors satisfy
`|(L̂Û)_{rc} − a_{π r, c}| ≤ gq (n−1) · (|L̂||Û|)_{rc}` for all `r, c < n`; every multiplier is at most
`1 + u` in magnitude (not `1`: see the head of the file). -/
theorem luDecomp_backward (hu : M.u < 1) {n : Nat} {A : Mat (Fl M)} {a : Nat → Nat → Fl M}
    (hA : Mat.Is A n n a) {s : LU (Fl M)} (h : Mat.luDecomp A = .ok s) :
    ∃ π σ : Nat → Nat, PermOK n π σ ∧ Mat.Is s.perm n n (permFn π) ∧ WFn s.lu n ∧
      (∀ r c, r < n → c < n →
        |∑ k ∈ Finset.range n, Lhat s r k * Uhat n s k c - (a (π r) c).val|
          ≤ M.gq (n - 1) * absLU n s r c) ∧
      (∀ r c, r < n → c < r → |Lhat s r c| ≤ 1 + M.u) := by
  obtain ⟨π, σ, hs⟩ := luDecomp_fl hu hA.wfn h
  refine ⟨π, σ, hs.permok, hs.perm, hs.lu, ?_, ?_⟩
  · intro r c hr hc
    have := hs.backward hu r c hr hc
    rw [hA.ent_eq (hs.permok.1 r hr).1 hc] at this
    exact this
  · intro r c hr hc
    rw [Lhat_apply, if_pos hc]
    exact hs.mult r c hr (by omega)

/-- **`solve_lu`, backward error** (Higham, Thm 9.4).  Whenever `solveLU A b` returns `x̂` in `Fl M`
(`A` is `n × n`, `n ≥ 1`, `u < 1`): with `s` the state returned by `luDecomp A` and `π` its row
permutation, `(A + ΔA) x̂ = b` holds EXACTLY and
`|ΔA_{π r, c}| ≤ (gq n + gq (3n)) · (|L̂||Û|)_{rc}`, i.e. `|ΔA| ≤ (gq n + gq (3n)) · Pᵀ|L̂||Û|`.
(`gq n`: factorisation; `gq (3n) = (1+gq (2n))(1+gq n) − 1`: forward substitution including the
rounded product `P·b`, and back substitution.) -/
theorem solveLU_backward (hu : M.u < 1) {n : Nat} (hn : 1 ≤ n) {A : Mat (Fl M)}
    {a : Nat → Nat → Fl M} (hA : Mat.Is A n n a) {b x : Array (Fl M)} (hb : b.size = n)
    (h : Mat.solveLU A b = .ok x) :
    ∃ (s : LU (Fl M)) (π σ : Nat → Nat), Mat.luDecomp A = .ok s ∧ PermOK n π σ ∧
      Mat.Is s.perm n n (permFn π) ∧ x.size = n ∧
      ∃ ΔA : Nat → Nat → ℝ,
        (∀ i, i < n →
          ∑ j ∈ Finset.range n, ((a i j).val + ΔA i j) * (vf x j).val = (vf b i).val) ∧
        ∀ r c, r < n → c < n → |ΔA (π r) c| ≤ (M.gq n + M.gq (3 * n)) * absLU n s r c := by
  obtain ⟨s, π, σ, hd, hs, hxs, ΔA, hsol, hbd⟩ := solveLU_backward_core hu hn hA hb (n + 1)
    (fun p π hp hπ => mulVec_perm_fl hu hp hπ hb) h
  have e3 : 2 * n + (n + 1) - 1 = 3 * n := by omega
  rw [e3] at hbd
  exact ⟨s, π, σ, hd, hs.permok, hs.perm, hxs, ΔA, hsol, hbd⟩

/-- **`solve_lu`, backward error, representable right-hand side**: if every `b_j` is a
representable number (`fl b_j = b_j`; every `f64` input is), the product `P·b` is exact and the
constant improves to `gq n + gq (2n − 1)`. -/
theorem solveLU_backward_rep (hu : M.u < 1) {n : Nat} (hn : 1 ≤ n) {A : Mat (Fl M)}
    {a : Nat → Nat → Fl M} (hA : Mat.Is A n n a) {b x : Array (Fl M)} (hb : b.size = n)
    (hrep : ∀ j, j < n → M.Rep (vf b j).val) (h : Mat.solveLU A b = .ok x) :
    ∃ (s : LU (Fl M)) (π σ : Nat → Nat), Mat.luDecomp A = .ok s ∧ PermOK n π σ ∧
      Mat.Is s.perm n n (permFn π) ∧ x.size = n ∧
      ∃ ΔA : Nat → Nat → ℝ,
        (∀ i, i < n →
          ∑ j ∈ Finset.range n, ((a i j).val + ΔA i j) * (vf x j).val = (vf b i).val) ∧
        ∀ r c, r < n → c < n → |ΔA (π r) c| ≤ (M.gq n + M.gq (2 * n - 1)) * absLU n s r c := by
  obtain ⟨s, π, σ, hd, hs, hxs, ΔA, hsol, hbd⟩ := solveLU_backward_core hu hn hA hb 0
    (fun p π hp hπ => by
      obtain ⟨w, hw, hwn, hwv⟩ := mulVec_perm_rep hp hπ hb hrep
      exact ⟨w, hw, hwn, fun r hr => ⟨1, FlModel.Th.one, by rw [hwv r hr, mul_one]⟩⟩) h
  exact ⟨s, π, σ, hd, hs.permok, hs.perm, hxs, ΔA, hsol, hbd⟩

/-- **normwise form**: `‖ΔA‖_∞ ≤ (gq n + gq (3n)) · ‖ |L̂||Û| ‖_∞` (`rowNorm n F` is the largest
absolute row sum of the `n × n` array `F`; a row permutation does not change it). -/
theorem solveLU_backward_normwise (hu : M.u < 1) {n : Nat} (hn : 1 ≤ n) {A : Mat (Fl M)}
    {a : Nat → Nat → Fl M} (hA : Mat.Is A n n a) {b x : Array (Fl M)} (hb : b.size = n)
    (h : Mat.solveLU A b = .ok x) :
    ∃ (s : LU (Fl M)), Mat.luDecomp A = .ok s ∧
      ∃ ΔA : Nat → Nat → ℝ,
        (∀ i, i < n →
          ∑ j ∈ Finset.range n, ((a i j).val + ΔA i j) * (vf x j).val = (vf b i).val) ∧
        rowNorm n ΔA ≤ (M.gq n + M.gq (3 * n)) * rowNorm n (absLU n s) := by
  obtain ⟨s, π, σ, hd, hperm, _, _, ΔA, hsol, hbd⟩ := solveLU_backward hu hn hA hb h
  exact ⟨s, hd, ΔA, hsol, rowNorm_le_of_perm hperm
    (add_nonneg (FlModel.gq_nonneg hu _) (FlModel.gq_nonneg hu _)) (absLU_nonneg n s) hbd⟩

theorem absLU_rowNorm_le (hu : M.u < 1) {n : Nat} {A : Mat (Fl M)} {a : Nat → Nat → Fl M}
    (hA : Mat.Is A n n a) {s : LU (Fl M)} (h : Mat.luDecomp A = .ok s) :
    rowNorm n (absLU n s) ≤ n * (1 + M.u) * rowNorm n (Uhat n s) := by
  obtain ⟨π, σ, hs⟩ := luDecomp_fl hu hA.wfn h
  exact rowNorm_abs_mul_le (Lhat s) (Uhat n s) (abs_Lfn_le M.one_le_one_add_u
    (fun r k hr hk => hs.mult r k hr (by omega)))

/-- **normwise form with partial pivoting**:
`‖ΔA‖_∞ ≤ (gq n + gq (3n)) · n (1+u) · ‖Û‖_∞` -/
theorem solveLU_backward_normwise_U (hu : M.u < 1) {n : Nat} (hn : 1 ≤ n) {A : Mat (Fl M)}
    {a : Nat → Nat → Fl M} (hA : Mat.Is A n n a) {b x : Array (Fl M)} (hb : b.size = n)
    (h : Mat.solveLU A b = .ok x) :
    ∃ (s : LU (Fl M)), Mat.luDecomp A = .ok s ∧
      ∃ ΔA : Nat → Nat → ℝ,
        (∀ i, i < n →
          ∑ j ∈ Finset.range n, ((a i j).val + ΔA i j) * (vf x j).val = (vf b i).val) ∧
        rowNorm n ΔA ≤ (M.gq n + M.gq (3 * n)) * (n * (1 + M.u) * rowNorm n (Uhat n s)) := by
  obtain ⟨s, hd, ΔA, hsol, hbd⟩ := solveLU_backward_normwise hu hn hA hb h
  refine ⟨s, hd, ΔA, hsol, hbd.trans ?_⟩
  exact mul_le_mul_of_nonneg_left (absLU_rowNorm_le hu hA hd)
    (add_nonneg (FlModel.gq_nonneg hu _) (FlModel.gq_nonneg hu _))

/-- **the classical constants**: `|ΔA| ≤ (γ_n + γ_{3n}) · Pᵀ|L̂||Û|`, `γ_k = k u / (1 − k u)`, when
`3 n u < 1` -/
theorem solveLU_backward_gamma {n : Nat} (hn : 1 ≤ n) (hnu : ((3 * n : ℕ) : ℝ) * M.u < 1)
    {A : Mat (Fl M)} {a : Nat → Nat → Fl M} (hA : Mat.Is A n n a) {b x : Array (Fl M)}
    (hb : b.size = n) (h : Mat.solveLU A b = .ok x) :
    ∃ (s : LU (Fl M)) (π σ : Nat → Nat), Mat.luDecomp A = .ok s ∧ PermOK n π σ ∧
      Mat.Is s.perm n n (permFn π) ∧ x.size = n ∧
      ∃ ΔA : Nat → Nat → ℝ,
        (∀ i, i < n →
          ∑ j ∈ Finset.range n, ((a i j).val + ΔA i j) * (vf x j).val = (vf b i).val) ∧
        ∀ r c, r < n → c < n → |ΔA (π r) c|
          ≤ ((n : ℝ) * M.u / (1 - n * M.u)
              + ((3 * n : ℕ) : ℝ) * M.u / (1 - ((3 * n : ℕ) : ℝ) * M.u)) * absLU n s r c := by
  have hu : M.u < 1 := FlModel.u_lt_one_of_mul_lt_one (by omega) hnu
  have hnu1 : (n : ℝ) * M.u < 1 := FlModel.mul_u_lt_one_of_le (by omega) hnu
  obtain ⟨s, π, σ, hd, hp, hpm, hxs, ΔA, hsol, hbd⟩ := solveLU_backward hu hn hA hb h
  refine ⟨s, π, σ, hd, hp, hpm, hxs, ΔA, hsol, fun r c hr hc => (hbd r c hr hc).trans ?_⟩
  exact mul_le_mul_of_nonneg_right
    (add_le_add (FlModel.gq_le_gamma n hnu1) (FlModel.gq_le_gamma (3 * n) hnu))
    (absLU_nonneg n s r c)

end Rounding

section Examples

/-- exact arithmetic is a model (`u = 0 < 1`); there all the constants vanish, `ΔA = 0`, and the
exact soundness theorem (`solveLU_sound` of C01S) is recovered: `A x = b` -/
example {n : Nat} (hn : 1 ≤ n) {A : Mat (Fl FlModel.exact)} {a : Nat → Nat → Fl FlModel.exact}
    (hA : Mat.Is A n n a) {b x : Array (Fl FlModel.exact)} (hb : b.size = n)
    (h : Mat.solveLU A b = .ok x) :
    x.size = n ∧ ∀ i, i < n →
      ∑ j ∈ Finset.range n, (a i j).val * (vf x j).val = (vf b i).val := by
  obtain ⟨s, π, σ, _, hperm, _, hxs, ΔA, hsol, hbd⟩ :=
    solveLU_backward FlModel.exact_u_lt_one hn hA hb h
  refine ⟨hxs, fun i hi => ?_⟩
  rw [← hsol i hi]
  apply Finset.sum_congr rfl
  intro j hj
  obtain ⟨hσ, hπσ⟩ := hperm.2 i hi
  have h0 : ΔA i j = 0 := by simpa [hπσ] using hbd (σ i) j hσ (Finset.mem_range.mp hj)
  rw [h0, add_zero]

/-- the theorems apply to the binary64 significand format of Rounding.lean: `u = 2⁻⁵³ < 1`, and
`3 n u < 1` for every order up to `10¹⁵` -/
example : FlModel.binary64.u < 1 ∧ ((3 * 10 ^ 15 : ℕ) : ℝ) * FlModel.binary64.u < 1 := by
  rw [FlModel.binary64_u]
  constructor <;> norm_num

/-! a concrete `2 × 2` system whose first column needs a row exchange, evaluated in the exact
model: `[[1,2],[3,4]] x = [5,11]`, `x = [1,2]`, `P = [[0,1],[1,0]]`, `L̂ = [[1,0],[1/3,1]]`,
`Û = [[3,4],[0,2/3]]` -/

namespace Ex

abbrev E := Fl FlModel.exact
noncomputable def A2 : Mat E := ⟨#[⟨1⟩, ⟨2⟩, ⟨3⟩, ⟨4⟩], 2, 2⟩
noncomputable def b2 : Array E := #[⟨5⟩, ⟨11⟩]

theorem E.add_eq (a b : E) : a + b = ⟨a.val + b.val⟩ := rfl
theorem E.sub_eq (a b : E) : a - b = ⟨a.val - b.val⟩ := rfl
theorem E.mul_eq (a b : E) : a * b = ⟨a.val * b.val⟩ := rfl
theorem E.lt_eq (a b : E) : ScalarExt.lt a b = decide (a.val < b.val) := rfl
theorem E.divM_eq (a b : E) :
    divM a b = if b.val = 0 then .error .arith else .ok ⟨a.val / b.val⟩ := rfl

theorem luDecomp_A2 :
    Mat.luDecomp A2 = .ok ⟨⟨#[⟨3⟩, ⟨4⟩, ⟨1/3⟩, ⟨2/3⟩], 2, 2⟩, ⟨#[0, 1, 1, 0], 2, 2⟩, 1⟩ := by
  have e : (eye 2 : Res (Mat E)) = .ok ⟨#[1, 0, 0, 1], 2, 2⟩ := rfl
  have ep : swapRows (⟨#[1, 0, 0, 1], 2, 2⟩ : Mat E) 0 1 = .ok ⟨#[0, 1, 1, 0], 2, 2⟩ := rfl
  have el : swapRows (⟨#[⟨1⟩, ⟨2⟩, ⟨3⟩, ⟨4⟩], 2, 2⟩ : Mat E) 0 1
      = .ok ⟨#[⟨3⟩, ⟨4⟩, ⟨1⟩, ⟨2⟩], 2, 2⟩ := rfl
  norm_num only [model_eval, luDecomp, A2, e, luStep, luPivot, ep, el, luElimRow, E.sub_eq,
    E.mul_eq, E.lt_eq, Fl.mag_eq, E.divM_eq, beq_iff_eq, Fl.ext_iff, Fl.zero_val]

theorem A2_is : Mat.Is A2 2 2 (Mat.ent A2) := Mat.WFn.is ⟨rfl, rfl, rfl⟩

/-- `A2` is nonsingular and `A2 · [1,2] = b2`, so both solvers return `[1,2]` (`solve_eq_of_sol`): the
algorithms need not be run -/
theorem solve_A2_b2 :
    Mat.solveBasic A2 b2 = .ok #[⟨1⟩, ⟨2⟩] ∧ Mat.solveLU A2 b2 = .ok #[⟨1⟩, ⟨2⟩] := by
  let _ := Fl.exactField
  let _ := Fl.exactPivotLaws
  refine solve_eq_of_sol (n := 2) (by omega) A2_is rfl ?_ rfl fun i hi => Fl.ext ?_
  · rw [Matrix.det_fin_two]
    intro h
    have : (1 : ℝ) * 4 - 2 * 3 = 0 := congrArg Fl.val h
    norm_num at this
  · rw [Finset.sum_range_succ, Finset.sum_range_one]
    obtain rfl | rfl : i = 0 ∨ i = 1 := by omega
    · show (1 : ℝ) * 1 + 2 * 2 = 5
      norm_num
    · show (3 : ℝ) * 1 + 4 * 2 = 11
      norm_num

theorem solveLU_A2_b2 : Mat.solveLU A2 b2 = .ok #[⟨1⟩, ⟨2⟩] := solve_A2_b2.2

/-- the hypotheses of `solveLU_backward` are satisfiable for a concrete non-trivial system (with a
genuine row exchange), and its conclusion holds there with the permutation `π = (0 1)` -/
example : ∃ (A : Mat E) (b x : Array E), Mat.Is A 2 2 (Mat.ent A) ∧ b.size = 2 ∧
    FlModel.exact.u < 1 ∧ Mat.solveLU A b = .ok x ∧
    ∃ (s : LU E), Mat.luDecomp A = .ok s ∧ s.pivots = 1 ∧
      ∃ ΔA : Nat → Nat → ℝ,
        (∀ i, i < 2 →
          ∑ j ∈ Finset.range 2, ((Mat.ent A i j).val + ΔA i j) * (vf x j).val = (vf b i).val) ∧
        rowNorm 2 ΔA ≤ (FlModel.exact.gq 2 + FlModel.exact.gq (3 * 2)) * rowNorm 2 (absLU 2 s) := by
  have hu := FlModel.exact_u_lt_one
  have hA := A2_is
  refine ⟨A2, b2, _, hA, rfl, hu, solveLU_A2_b2, ?_⟩
  obtain ⟨s, hd, ΔA, h1, h2⟩ := solveLU_backward_normwise hu (by omega) hA rfl solveLU_A2_b2
  cases Except.ok.inj (luDecomp_A2.symm.trans hd)
  exact ⟨_, hd, rfl, ΔA, h1, h2⟩

/-! a model that really rounds, `fl x = (1+u) x` (`FlModel.scale`), and the `1 × 1` system `2 x = 6`:
the computed solution is `3 (1+u)³ ≠ 3` (one rounding in `1·b`, one in `0 + ·`, one in the
division), so `ΔA ≠ 0`; the hypotheses of `solveLU_backward` are satisfiable there for every
`0 ≤ u < 1` -/

section Scale
variable (u : ℝ) (hu0 : 0 ≤ u)

abbrev S := Fl (FlModel.scale u hu0)

theorem S.add_eq (a b : S u hu0) : a + b = ⟨(1 + u) * (a.val + b.val)⟩ := rfl
theorem S.mul_eq (a b : S u hu0) : a * b = ⟨(1 + u) * (a.val * b.val)⟩ := rfl
theorem S.lt_eq (a b : S u hu0) : ScalarExt.lt a b = decide (a.val < b.val) := rfl
theorem S.divM_eq (a b : S u hu0) :
    divM a b = if b.val = 0 then .error .arith else .ok ⟨(1 + u) * (a.val / b.val)⟩ := rfl

theorem luDecomp_scale :
    Mat.luDecomp (⟨#[⟨2⟩], 1, 1⟩ : Mat (S u hu0)) = .ok ⟨⟨#[⟨2⟩], 1, 1⟩, ⟨#[1], 1, 1⟩, 0⟩ := by
  have e : (eye 1 : Res (Mat (S u hu0))) = .ok ⟨#[1], 1, 1⟩ := rfl
  norm_num only [model_eval, luDecomp, e, luStep, luPivot, S.lt_eq, Fl.mag_eq, beq_iff_eq,
    Fl.ext_iff, Fl.zero_val]

theorem solveLU_scale :
    Mat.solveLU (⟨#[⟨2⟩], 1, 1⟩ : Mat (S u hu0)) #[⟨6⟩] = .ok #[⟨3 * (1 + u) ^ 3⟩] := by
  have h1 : ¬ (1 : Nat) ≠ 1 := by simp
  simp only [solveLU, List.size_toArray, List.length_cons, List.length_nil, Nat.zero_add, h1,
    if_false, luDecomp_scale, bind, Except.bind]
  norm_num only [model_eval, mulVec, forwardSub, backsolve, S.add_eq, S.mul_eq, S.divM_eq,
    Fl.ext_iff, Fl.zero_val, Fl.one_val]
  ring_nf

example (hu1 : u < 1) :
    ∃ (A : Mat (S u hu0)) (b x : Array (S u hu0)), Mat.Is A 1 1 (Mat.ent A) ∧ b.size = 1 ∧
      Mat.solveLU A b = .ok x ∧ (vf x 0).val = 3 * (1 + u) ^ 3 ∧
      ∃ (s : LU (S u hu0)) (ΔA : Nat → Nat → ℝ), Mat.luDecomp A = .ok s ∧
        ((Mat.ent A 0 0).val + ΔA 0 0) * (vf x 0).val = (vf b 0).val ∧
        |ΔA 0 0| ≤ ((FlModel.scale u hu0).gq 1 + (FlModel.scale u hu0).gq 3) * absLU 1 s 0 0 := by
  have hA : Mat.Is (⟨#[⟨2⟩], 1, 1⟩ : Mat (S u hu0)) 1 1 (Mat.ent _) := Mat.WFn.is ⟨rfl, rfl, rfl⟩
  have hu : (FlModel.scale u hu0).u < 1 := hu1
  obtain ⟨s, π, σ, hd, hperm, _, _, ΔA, hsol, hbd⟩ :=
    solveLU_backward hu (Nat.le_refl 1) hA rfl (solveLU_scale u hu0)
  refine ⟨_, _, _, hA, rfl, solveLU_scale u hu0, rfl, s, ΔA, hd, ?_, ?_⟩
  · have := hsol 0 (by omega)
    simpa using this
  · have hπ : π 0 = 0 := by have := (hperm.1 0 (by omega)).1; omega
    have := hbd 0 0 (by omega) (by omega)
    rwa [hπ] at this

/-- the multiplier bound `1 + u` of `luDecomp_backward` cannot be replaced by `1` in the standard
model: here the rounded quotient of two equal numbers is `1 + u` -/
example (x : ℝ) (hx : x ≠ 0) : (((⟨x⟩ : S u hu0) / ⟨x⟩)).val = 1 + u := by
  show (1 + u) * (x / x) = 1 + u
  rw [div_self hx, mul_one]

end Scale

/-! `gam` is not a valid constant for a backward error with unperturbed right-hand side: in the
model `fl x = (1−u) x` the `1 × 1` back substitution `1·x = 1` returns `x̂ = 1 − u`, and the ONLY
`ΔU` with `(1 + ΔU) x̂ = 1` is `u/(1−u) = gq 1 > u = gam 1`. -/

section Down
variable (u : ℝ) (hu0 : 0 ≤ u)

/-- rounding always downwards in magnitude by the full relative error -/
def down : FlModel :=
  ⟨u, fun x => (1 - u) * x, hu0, fun x => by
    have : (1 - u) * x - x = -(u * x) := by ring
    rw [this, abs_neg, abs_mul, abs_of_nonneg hu0]⟩

theorem D.divM_eq (a b : Fl (down u hu0)) :
    divM a b = if b.val = 0 then .error .arith else .ok ⟨(1 - u) * (a.val / b.val)⟩ := rfl

theorem backsolve_down :
    Mat.backsolve (⟨#[⟨1⟩], 1, 1⟩ : Mat (Fl (down u hu0))) #[⟨1⟩] = .ok #[⟨1 - u⟩] := by
  norm_num only [model_eval, backsolve, D.divM_eq, mul_one]

example (hu : 0 < u) (hu1 : u < 1) :
    ∃ (U : Mat (Fl (down u hu0))) (b x : Array (Fl (down u hu0))),
      Mat.Is U 1 1 (Mat.ent U) ∧ Mat.backsolve U b = .ok x ∧
      ∀ ΔU : ℝ, ((Mat.ent U 0 0).val + ΔU) * (vf x 0).val = (vf b 0).val →
        (down u hu0).gam 1 * |(Mat.ent U 0 0).val| < |ΔU| ∧
        |ΔU| = (down u hu0).gq 1 * |(Mat.ent U 0 0).val| := by
  refine ⟨(⟨#[⟨1⟩], 1, 1⟩ : Mat (Fl (down u hu0))), #[⟨1⟩], #[⟨1 - u⟩],
    Mat.WFn.is ⟨rfl, rfl, rfl⟩, backsolve_down u hu0, ?_⟩
  intro ΔU h
  have h' : (1 + ΔU) * (1 - u) = 1 := h
  have hpos : 0 < 1 - u := by linarith
  have hΔ : ΔU = u / (1 - u) := eq_div_of_mul_eq hpos.ne' (by linear_combination h')
  have e1 : (down u hu0).gam 1 = u := by simp [down]
  have e2 : (down u hu0).gq 1 = u / (1 - u) := by
    rw [eq_div_iff hpos.ne']
    show ((1 - u)⁻¹ ^ 1 - 1) * (1 - u) = u
    rw [pow_one, sub_mul, inv_mul_cancel₀ hpos.ne']
    ring
  have e3 : |(Mat.ent (⟨#[⟨1⟩], 1, 1⟩ : Mat (Fl (down u hu0))) 0 0).val| = 1 := by
    show |(1 : ℝ)| = 1
    exact abs_one
  have hq : 0 < u / (1 - u) := div_pos hu hpos
  rw [e1, e2, e3, hΔ, abs_of_pos hq, mul_one, mul_one]
  refine ⟨?_, rfl⟩
  rw [lt_div_iff₀ hpos]
  linarith [mul_pos hu hu]

end Down

end Ex

end Examples

end Ohsl.Props.C01
