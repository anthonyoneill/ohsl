/-
  Property C05 (part F) — backward error analysis of the tridiagonal (Thomas) solver `Tri.solve` in
  the "rounded reals" interpretation `Fl M` of the model (Ohsl/Lemmas/Rounding.lean): the clause
  "(and is backward stable for diagonally dominant f64 systems)" of property C05.

  The transfer to the Rust `f64` code rests on the ASSUMPTION stated in Rounding.lean (IEEE binary64
  without overflow/underflow satisfies `FlModel` with `u = 2⁻⁵³`); it is not proved here.

  Notation: `a = sub`, `b = main`, `c = sup`, `u = M.u`; hats are computed quantities (`.val`s of the
  `Fl M` values the code produces): pivots `β̂ⱼ = pivR t j`, multipliers `γ̂ⱼ = mulR t j`, forward
  sweep `ŷⱼ = fwdR t r j`.  The code factors `T = L U` with `L` LOWER bidiagonal carrying the pivots
  (`L j j = βⱼ`, `L (j+1) j = aⱼ`) and `U` UNIT upper bidiagonal (`U j (j+1) = γⱼ₊₁ = cⱼ/βⱼ`);
  `Lhat`, `Uhat` are the computed factors and `absLU t n i j = Σₖ |L̂ i k| |Û k j|`.
  Constants: `ginv M k = (1-u)^(-k) - 1` is `FlModel.gq M k` (`ginv_eq`), the bound for `k` factors
  `(1+δ)^{±1}` of the calculus `FlModel.Th` (`M.gam k ≤ ginv M k ≤ M.gam k/(1-u)^k`,
  `ginv M k ≤ k u/(1-k u)`); quotients `1/(1+δ)` are unavoidable when the right-hand side is kept
  unperturbed and are not covered by `M.gam`, since `FlModel` only gives `fl x = x(1+δ)`.
  Each entry of `ΔT` is an entry of the computed factors times a difference of two `Th` factors
  (`row_identity`, `row_bounds`, `FlModel.Th.abs_mul_sub_le`).
  `row_identity` is the composition lemma `Mat.lu_compose_row` of the dense analysis
  (Lemmas/LURounding.lean) written out for bidiagonal factors: fed with `Θ ∈ Th 1` (factorisation),
  `λ ∈ Th 2` (forward sweep) and `μ ∈ Th 1` (back substitution) that lemma returns the same
  `gq 1 + gq 3 = bwdConst M` against `|L̂||Û|`.  It is written out because `solve_backward_error`
  says more than that lemma does: `ΔT` is tridiagonal, and its sub-diagonal has the constant
  `ginv M 2`.  The triangular lemmas `Mat.fwd_rows_fl`, `Mat.back_rows_fl` do not apply: they count
  every index of a row (`Th r`, `Th (n - i)`), and the division sits in the other sweep.

  * (F) `solve_fl_char`, `solve_fl_ok_iff`   the run in `Fl M`, all recurrences in `(1+δ)` form
  * (F) `solve_backward_error`   componentwise backward error against `|L̂||Û|`, right-hand side
                          unperturbed, `ΔT` tridiagonal (`bwdConst_le`, `bwdConst_le_gam`: the constant)
  * (F) `solve_backward_stable_dd`   under strict ROW diagonal dominance with margin (`RowDD`):
                          the solver returns and the backward error is bounded against `|T|`,
                          independently of `n` (`ddConst_le`: the constant)
    Row dominance is the natural hypothesis for THIS factorisation: the multipliers `γ̂` live in the
    unit factor `Û` and row dominance keeps them `≤ 1` in modulus under rounding.
-/
import Ohsl.Props.C05T
import Ohsl.Lemmas.Rounding
import Mathlib.Algebra.Order.BigOperators.Group.Finset
import Mathlib.Tactic.Ring
import Mathlib.Tactic.Linarith
import Mathlib.Tactic.Positivity
import Mathlib.Tactic.FieldSimp
namespace Ohsl.Props.C05
open Ohsl Ohsl.Tri

section Rounding
variable {M : FlModel}
open Fl Finset

/-- accumulated relative error of `k` factors `(1+δ)^{±1}`, `|δ| ≤ u` -/
noncomputable def ginv (M : FlModel) (k : ℕ) : ℝ := ((1 - M.u)⁻¹) ^ k - 1

theorem ginv_eq (M : FlModel) (k : ℕ) : ginv M k = M.gq k := rfl

theorem ginv_one (M : FlModel) (hu : M.u < 1) : ginv M 1 = M.u / (1 - M.u) := by
  have hp : 1 - M.u ≠ 0 := by linarith
  simp only [ginv, pow_one]
  field_simp
  ring

theorem u_le_ginv_one (hu : M.u < 1) : M.u ≤ ginv M 1 := by
  rw [ginv_eq]
  simpa using FlModel.gam_le_gq hu 1

theorem ginv_le_gam_div (hu : M.u < 1) (k : ℕ) : ginv M k ≤ M.gam k / (1 - M.u) ^ k := by
  have hp := M.one_sub_u_pos hu
  have hpk : 0 < (1 - M.u) ^ k := pow_pos hp k
  have h := prod_one_add_delta M (List.replicate k (-M.u)) (by
    intro d hd
    rw [List.eq_of_mem_replicate hd, abs_neg, abs_of_nonneg M.u_nonneg])
  simp only [List.map_replicate, List.prod_replicate, List.length_replicate] at h
  have h2 : 1 - (1 + -M.u) ^ k ≤ M.gam k := by
    have := neg_abs_le ((1 + -M.u) ^ k - 1)
    linarith
  have e : (1 + -M.u) = 1 - M.u := by ring
  rw [e] at h2
  rw [ginv, inv_pow, le_div_iff₀ hpk, sub_mul, inv_mul_cancel₀ hpk.ne', one_mul]
  exact h2

/-- the constant of `solve_backward_error`: `(1-u)⁻³ - 1 + (1-u)⁻¹ - 1 = 4u + O(u²)` -/
noncomputable def bwdConst (M : FlModel) : ℝ := ginv M 3 + ginv M 1

theorem bwdConst_nonneg (hu : M.u < 1) : 0 ≤ bwdConst M :=
  add_nonneg (FlModel.gq_nonneg hu 3) (FlModel.gq_nonneg hu 1)

theorem ginv_two_le_bwdConst (hu : M.u < 1) : ginv M 2 ≤ bwdConst M :=
  (FlModel.gq_mono hu (Nat.le_succ 2)).trans (le_add_of_nonneg_right (FlModel.gq_nonneg hu 1))

theorem bwdConst_le (h : 3 * M.u < 1) : bwdConst M ≤ 4 * M.u / (1 - 3 * M.u) := by
  have h0 := M.u_nonneg
  have hu3 : M.u ≤ 3 * M.u := le_mul_of_one_le_left h0 (by norm_num)
  have h3 : ginv M 3 ≤ _ := FlModel.gq_le_gamma (M := M) 3 (by push_cast; exact h)
  push_cast at h3
  have h1 : ginv M 1 ≤ M.u / (1 - 3 * M.u) := by
    rw [ginv_one M (hu3.trans_lt h)]
    exact div_le_div_of_nonneg_left h0 (sub_pos.mpr h) (sub_le_sub_left hu3 1)
  rw [bwdConst, show 4 * M.u / (1 - 3 * M.u) = 3 * M.u / (1 - 3 * M.u) + M.u / (1 - 3 * M.u) by ring]
  exact add_le_add h3 h1

/-- `bwdConst ≤ (gam 3 + gam 1) / (1-u)³ = (4u + 3u² + u³)/(1-u)³` -/
theorem bwdConst_le_gam (hu : M.u < 1) : bwdConst M ≤ (M.gam 3 + M.gam 1) / (1 - M.u) ^ 3 := by
  have hp := M.one_sub_u_pos hu
  have hle : (1 - M.u) ^ 3 ≤ (1 - M.u) ^ 1 :=
    pow_le_pow_of_le_one hp.le M.one_sub_u_le_one (by norm_num)
  rw [bwdConst, add_div]
  exact add_le_add (ginv_le_gam_div hu 3) ((ginv_le_gam_div hu 1).trans
    (div_le_div_of_nonneg_left (M.gam_nonneg 1) (pow_pos hp 3) hle))

/-- the constant of `solve_backward_stable_dd`: `3 (1+u) bwdConst = 12u + O(u²)` -/
noncomputable def ddConst (M : FlModel) : ℝ := 3 * (1 + M.u) * bwdConst M

/-- `ddConst ≤ 12 u (1+u) / (1 - 3u)` -/
theorem ddConst_le (h : 3 * M.u < 1) : ddConst M ≤ 12 * M.u * (1 + M.u) / (1 - 3 * M.u) := by
  have h0 := M.u_nonneg
  have hb := bwdConst_le h
  have e : 12 * M.u * (1 + M.u) / (1 - 3 * M.u) = 3 * (1 + M.u) * (4 * M.u / (1 - 3 * M.u)) := by
    ring
  rw [ddConst, e]
  exact mul_le_mul_of_nonneg_left hb (by positivity)

/-- one row of the perturbed system, from the four computed relations that involve it; `E₁ … E₈` are
the factors of the rounded operations (`E ≡ 1` is the exact elimination, `thomas_row_exact` of
Lemmas/Tridiag.lean) -/
theorem row_identity (al g β r y ym x xm xp gp c E1 E4 E5 E6 E7 E8 E7m E8m : ℝ)
    (p5 : E5 ≠ 0) (p6 : E6 ≠ 0) (p8 : E8 ≠ 0) (p8m : E8m ≠ 0)
    (h2 : y * β = (r - al * ym * E4) * E5 * E6)
    (h3 : al * xm = al * ((ym - g * x * E7m) * E8m))
    (h4 : x = (y - gp * xp * E7) * E8)
    (h5 : gp * β = c * E1) :
    al * (E4 / E8m) * xm + (β / (E8 * E5 * E6) + al * g * (E4 * E7m)) * x
      + c * (E1 * E7 / (E5 * E6)) * xp = r := by
  have hy : y = x / E8 + gp * xp * E7 := by
    rw [h4, mul_div_cancel_right₀ _ p8]; ring
  have hym : al * ym = al * xm / E8m + al * g * x * E7m := by
    rw [h3, mul_div_assoc, mul_div_cancel_right₀ _ p8m]; ring
  have hr : r = y * β / (E5 * E6) + al * ym * E4 := by
    rw [h2, mul_assoc, mul_div_cancel_right₀ _ (mul_ne_zero p5 p6)]; ring
  have hc : c * (E1 * E7 / (E5 * E6)) = gp * β * (E7 / (E5 * E6)) := by
    rw [h5]; ring
  rw [hr, hym, hy, hc, mul_assoc E8, ← div_div]
  ring

/-- bounds for the three perturbed entries of a row: each is the entry of `T` times a difference of
two perturbation factors -/
theorem row_bounds (hu : M.u < 1) (al g β b gp c : ℝ) {E1 E2 E3 E4 E5 E6 E7 E8 E7m E8m : ℝ}
    (t1 : M.Th 1 E1) (t2 : M.Th 1 E2) (t3 : M.Th 1 E3) (t4 : M.Th 1 E4) (t5 : M.Th 1 E5)
    (t6 : M.Th 1 E6) (t7 : M.Th 1 E7) (t8 : M.Th 1 E8) (t7m : M.Th 1 E7m) (t8m : M.Th 1 E8m)
    (h1 : β = (b - al * g * E2) * E3) (h5 : gp * β = c * E1) :
    |al * (E4 / E8m) - al| ≤ ginv M 2 * |al| ∧
    |β / (E8 * E5 * E6) + al * g * (E4 * E7m) - b| ≤ bwdConst M * (|β| + |al * g|) ∧
    |c * (E1 * E7 / (E5 * E6)) - c| ≤ bwdConst M * |β * gp| := by
  refine ⟨?_, ?_, ?_⟩
  · have A := FlModel.Th.abs_mul_sub_le hu (t4.div hu t8m) FlModel.Th.one al
    rwa [mul_one, FlModel.gq_zero, add_zero] at A
  · have hb : b = β * E3⁻¹ + al * g * E2 := by
      rw [h1, mul_inv_cancel_right₀ (t3.pos hu).ne']; ring
    have A := FlModel.Th.abs_mul_sub_le hu (((t8.mul hu t5).mul hu t6).inv hu) (t3.inv hu) β
    have B := FlModel.Th.abs_mul_sub_le hu ((t4.mul hu t7m).mono hu (show 1 + 1 ≤ 1 + 1 + 1 by omega)) t2
      (al * g)
    calc _ = |(β * (E8 * E5 * E6)⁻¹ - β * E3⁻¹) + (al * g * (E4 * E7m) - al * g * E2)| := by
          rw [hb]; congr 1; ring
      _ ≤ _ := (abs_add_le _ _).trans (add_le_add A B)
      _ = _ := (mul_add _ _ _).symm
  · have hc : c = β * gp * E1⁻¹ := by
      rw [mul_comm β gp, h5, mul_inv_cancel_right₀ (t1.pos hu).ne']
    have C := FlModel.Th.abs_mul_sub_le hu (t7.div hu (t5.mul hu t6)) (t1.inv hu) (β * gp)
    refine le_trans (le_of_eq (congrArg _ ?_)) C
    rw [← hc, mul_comm β gp, h5]; ring

theorem fl_beq_zero_false (a : Fl M) : (a == 0) = false ↔ a.val ≠ 0 := by
  rw [← Bool.not_eq_true, Fl.beq_zero_iff]

theorem fl_divM (a b : Fl M) (hb : (b == 0) = false) : divM a b = .ok (a / b) :=
  Fl.divM_of_val_ne ((fl_beq_zero_false b).mp hb)

/-- exact real values of the data -/
def subR (t : Tri (Fl M)) (j : ℕ) : ℝ := (t.sub[j]?.getD 0).val
def mainR (t : Tri (Fl M)) (j : ℕ) : ℝ := (t.main[j]?.getD 0).val
def supR (t : Tri (Fl M)) (j : ℕ) : ℝ := (t.sup[j]?.getD 0).val
def vecR (r : Array (Fl M)) (j : ℕ) : ℝ := (r[j]?.getD 0).val
/-- the sub-diagonal entry of ROW `j`: `sub[j-1]`, and `0` in row `0` -/
def lowR (t : Tri (Fl M)) (j : ℕ) : ℝ := if 0 < j then subR t (j - 1) else 0
/-- values of the computed pivots `β̂ⱼ`, multipliers `γ̂ⱼ` and forward sweep `ŷⱼ` -/
noncomputable def pivR (t : Tri (Fl M)) (j : ℕ) : ℝ := (cPivot t j).val
noncomputable def mulR (t : Tri (Fl M)) (j : ℕ) : ℝ := (cMult t j).val
noncomputable def fwdR (t : Tri (Fl M)) (r : Array (Fl M)) (j : ℕ) : ℝ := (cFwd t r j).val
def denseR (t : Tri (Fl M)) (i j : ℕ) : ℝ := (dense t i j).val

theorem denseR_eq (t : Tri (Fl M)) : denseR t = triEntry (subR t) (mainR t) (supR t) := by
  funext i j
  exact triEntry_map Fl.val rfl (fun k => t.sub[k]?.getD 0) (fun k => t.main[k]?.getD 0)
    (fun k => t.sup[k]?.getD 0) i j

theorem lowR_succ (t : Tri (Fl M)) (j : ℕ) : lowR t (j + 1) = subR t j := by simp [lowR]
theorem lowR_zero (t : Tri (Fl M)) : lowR t 0 = 0 := by simp [lowR]
theorem mulR_zero (t : Tri (Fl M)) : mulR t 0 = 0 := rfl

theorem fl_sub_mul (a b c : Fl M) : ∃ d d' : ℝ, |d| ≤ M.u ∧ |d'| ≤ M.u ∧
    (a - b * c).val = (a.val - b.val * c.val * (1 + d)) * (1 + d') := by
  obtain ⟨d, hd, e⟩ := M.exists_delta (b.val * c.val)
  obtain ⟨d', hd', e'⟩ := M.exists_delta (a.val - M.fl (b.val * c.val))
  refine ⟨d, d', hd, hd', ?_⟩
  simp only [sub_val, mul_val]
  rw [e', e]

theorem fl_div (a b : Fl M) : ∃ d : ℝ, |d| ≤ M.u ∧ (a / b).val = a.val / b.val * (1 + d) := by
  obtain ⟨d, hd, e⟩ := M.exists_delta (a.val / b.val)
  exact ⟨d, hd, by simp only [div_val]; rw [e]⟩

/-- `δ = 0` is an admissible relative error: an operation that a row does not perform counts as exact -/
theorem abs_zero_le_u : |(0 : ℝ)| ≤ M.u := by simpa using M.u_nonneg

/-- the recurrences of the code with one factor `(1+δ)` per rounded operation, no hypothesis -/
theorem mulR_succ (t : Tri (Fl M)) (j : ℕ) :
    ∃ d1 : ℝ, |d1| ≤ M.u ∧ mulR t (j + 1) = supR t j / pivR t j * (1 + d1) :=
  fl_div (t.sup[j]?.getD 0) (cPivot t j)

theorem pivR_succ (t : Tri (Fl M)) (j : ℕ) : ∃ d2 d3 : ℝ, |d2| ≤ M.u ∧ |d3| ≤ M.u ∧
    pivR t (j + 1) = (mainR t (j + 1) - subR t j * mulR t (j + 1) * (1 + d2)) * (1 + d3) :=
  fl_sub_mul (t.main[j + 1]?.getD 0) (t.sub[j]?.getD 0) (cMult t (j + 1))

theorem fwdR_zero (t : Tri (Fl M)) (r : Array (Fl M)) :
    ∃ d : ℝ, |d| ≤ M.u ∧ fwdR t r 0 = vecR r 0 / pivR t 0 * (1 + d) :=
  fl_div (r[0]?.getD 0) (cPivot t 0)

theorem fwdR_succ (t : Tri (Fl M)) (r : Array (Fl M)) (j : ℕ) :
    ∃ d4 d5 d6 : ℝ, |d4| ≤ M.u ∧ |d5| ≤ M.u ∧ |d6| ≤ M.u ∧ fwdR t r (j + 1)
      = (vecR r (j + 1) - subR t j * fwdR t r j * (1 + d4)) * (1 + d5) / pivR t (j + 1) * (1 + d6) := by
  obtain ⟨d6, q6, e6⟩ := fl_div (r[j + 1]?.getD 0 - t.sub[j]?.getD 0 * cFwd t r j) (cPivot t (j + 1))
  obtain ⟨d4, d5, q4, q5, e4⟩ := fl_sub_mul (r[j + 1]?.getD 0) (t.sub[j]?.getD 0) (cFwd t r j)
  exact ⟨d4, d5, d6, q4, q5, q6, e6.trans (by rw [e4]; rfl)⟩

/-- the same with the pivot multiplied out, row `j` in the notation `lowⱼ` (row `0` has `low₀ = 0`
and skips two operations) -/
theorem mulR_delta (t : Tri (Fl M)) (j : ℕ) (hp : pivR t j ≠ 0) :
    ∃ d1 : ℝ, |d1| ≤ M.u ∧ mulR t (j + 1) * pivR t j = supR t j * (1 + d1) := by
  obtain ⟨d, hd, e⟩ := mulR_succ t j
  exact ⟨d, hd, by rw [e, mul_right_comm, div_mul_cancel₀ _ hp]⟩

theorem pivR_delta (t : Tri (Fl M)) (j : ℕ) : ∃ d2 d3 : ℝ, |d2| ≤ M.u ∧ |d3| ≤ M.u ∧
    pivR t j = (mainR t j - lowR t j * mulR t j * (1 + d2)) * (1 + d3) := by
  cases j with
  | zero =>
    refine ⟨0, 0, abs_zero_le_u, abs_zero_le_u, ?_⟩
    simp [pivR, cPivot, lowR, mainR]
  | succ j =>
    rw [lowR_succ]
    exact pivR_succ t j

theorem fwdR_delta (t : Tri (Fl M)) (r : Array (Fl M)) (j : ℕ) (hp : pivR t j ≠ 0) :
    ∃ d4 d5 d6 : ℝ, |d4| ≤ M.u ∧ |d5| ≤ M.u ∧ |d6| ≤ M.u ∧
      fwdR t r j * pivR t j
        = (vecR r j - lowR t j * fwdR t r (j - 1) * (1 + d4)) * (1 + d5) * (1 + d6) := by
  cases j with
  | zero =>
    obtain ⟨d, hd, e⟩ := fwdR_zero t r
    refine ⟨0, 0, d, abs_zero_le_u, abs_zero_le_u, hd, ?_⟩
    rw [e, lowR_zero, mul_right_comm, div_mul_cancel₀ _ hp]; ring
  | succ j =>
    obtain ⟨d4, d5, d6, q4, q5, q6, e⟩ := fwdR_succ t r j
    refine ⟨d4, d5, d6, q4, q5, q6, ?_⟩
    rw [e, lowR_succ, Nat.add_sub_cancel, mul_right_comm, div_mul_cancel₀ _ hp]

theorem back_delta (t : Tri (Fl M)) (r x : Array (Fl M)) (j : ℕ)
    (h : x[j]?.getD 0 = cFwd t r j - cMult t (j + 1) * x[j + 1]?.getD 0) :
    ∃ d7 d8 : ℝ, |d7| ≤ M.u ∧ |d8| ≤ M.u ∧
      vecR x j = (fwdR t r j - mulR t (j + 1) * vecR x (j + 1) * (1 + d7)) * (1 + d8) := by
  obtain ⟨d, d', hd, hd', e⟩ := fl_sub_mul (cFwd t r j) (cMult t (j + 1)) (x[j + 1]?.getD 0)
  exact ⟨d, d', hd, hd', (congrArg Fl.val h).trans e⟩

theorem row_perturbed (t : Tri (Fl M)) (r x : Array (Fl M)) (hu : M.u < 1)
    (hpiv : ∀ j, j < t.n → pivR t j ≠ 0)
    (hlast : x[t.n - 1]?.getD 0 = cFwd t r (t.n - 1))
    (hrel : ∀ j, j + 1 < t.n → x[j]?.getD 0 = cFwd t r j - cMult t (j + 1) * x[j + 1]?.getD 0)
    (hxn : x.size = t.n) (i : ℕ) (hi : i < t.n) :
    ∃ lo di up : ℝ,
      (if 0 < i then lo * vecR x (i - 1) else 0) + di * vecR x i
          + (if i + 1 < t.n then up * vecR x (i + 1) else 0) = vecR r i ∧
      |lo - lowR t i| ≤ ginv M 2 * |lowR t i| ∧
      |di - mainR t i| ≤ bwdConst M * (|pivR t i| + |lowR t i * mulR t i|) ∧
      |up - supR t i| ≤ bwdConst M * |pivR t i * mulR t (i + 1)| := by
  obtain ⟨d1, q1, h5⟩ := mulR_delta t i (hpiv i hi)
  obtain ⟨d2, d3, q2, q3, h1⟩ := pivR_delta t i
  obtain ⟨d4, d5, d6, q4, q5, q6, h2⟩ := fwdR_delta t r i (hpiv i hi)
  -- past the last row `x` reads as `0`
  have hout : ¬ i + 1 < t.n → vecR x (i + 1) = 0 := fun hn => by
    have : x.size ≤ i + 1 := hxn ▸ Nat.not_lt.1 hn
    simp [vecR, this]
  -- the back-substitution step that produced `x[i-1]`
  obtain ⟨d7m, d8m, q7m, q8m, h3⟩ : ∃ d7m d8m : ℝ, |d7m| ≤ M.u ∧ |d8m| ≤ M.u ∧
      lowR t i * vecR x (i - 1)
        = lowR t i * ((fwdR t r (i - 1) - mulR t i * vecR x i * (1 + d7m)) * (1 + d8m)) := by
    cases i with
    | zero => exact ⟨0, 0, abs_zero_le_u, abs_zero_le_u, by rw [lowR_zero, zero_mul, zero_mul]⟩
    | succ m =>
      obtain ⟨d, d', hd, hd', e⟩ := back_delta t r x m (hrel m hi)
      exact ⟨d, d', hd, hd', by rw [Nat.add_sub_cancel, e]⟩
  -- the back-substitution step that produced `x[i]`
  obtain ⟨d7, d8, q7, q8, h4⟩ : ∃ d7 d8 : ℝ, |d7| ≤ M.u ∧ |d8| ≤ M.u ∧
      vecR x i = (fwdR t r i - mulR t (i + 1) * vecR x (i + 1) * (1 + d7)) * (1 + d8) := by
    by_cases hn : i + 1 < t.n
    · exact back_delta t r x i (hrel i hn)
    · refine ⟨0, 0, abs_zero_le_u, abs_zero_le_u, ?_⟩
      rw [hout hn, Nat.eq_sub_of_add_eq (Nat.le_antisymm hi (Nat.not_lt.1 hn)),
        show vecR x (t.n - 1) = fwdR t r (t.n - 1) from
        congrArg Fl.val hlast]
      ring
  have t5 := FlModel.Th.of_delta hu q5
  have t6 := FlModel.Th.of_delta hu q6
  have t8 := FlModel.Th.of_delta hu q8
  have t8m := FlModel.Th.of_delta hu q8m
  have hrow := row_identity (lowR t i) (mulR t i) (pivR t i) (vecR r i) (fwdR t r i)
    (fwdR t r (i - 1)) (vecR x i) (vecR x (i - 1)) (vecR x (i + 1)) (mulR t (i + 1)) (supR t i)
    (1 + d1) (1 + d4) (1 + d5) (1 + d6) (1 + d7) (1 + d8) (1 + d7m) (1 + d8m) (t5.pos hu).ne'
    (t6.pos hu).ne' (t8.pos hu).ne' (t8m.pos hu).ne' h2 h3 h4 h5
  obtain ⟨b1, b2, b3⟩ := row_bounds hu (lowR t i) (mulR t i) (pivR t i) (mainR t i)
    (mulR t (i + 1)) (supR t i) (FlModel.Th.of_delta hu q1) (FlModel.Th.of_delta hu q2) (FlModel.Th.of_delta hu q3)
    (FlModel.Th.of_delta hu q4) t5 t6 (FlModel.Th.of_delta hu q7) t8 (FlModel.Th.of_delta hu q7m) t8m h1 h5
  refine ⟨_, _, _, ?_, b1, b2, b3⟩
  rw [← hrow]
  congr 1
  · congr 1
    by_cases h0 : 0 < i
    · rw [if_pos h0]
    · rw [if_neg h0, show lowR t i = 0 from if_neg h0, zero_mul, zero_mul]
  · by_cases hn : i + 1 < t.n
    · rw [if_pos hn]
    · rw [if_neg hn, hout hn, mul_zero]

/-- the computed lower bidiagonal factor `L̂`: the computed pivots `β̂` on the diagonal, `sub`
below it (the model factors `T = L U` with the pivots in `L` and a UNIT upper bidiagonal `U`) -/
noncomputable def Lhat (t : Tri (Fl M)) (i k : ℕ) : ℝ :=
  triEntry (subR t) (pivR t) (fun _ => 0) i k
/-- the computed unit upper bidiagonal factor `Û`: `1` on the diagonal, the computed multipliers
`γ̂ₖ₊₁ = fl(sup[k] / β̂ₖ)` above it -/
noncomputable def Uhat (t : Tri (Fl M)) (k j : ℕ) : ℝ :=
  triEntry (fun _ => 0) (fun _ => 1) (fun k => mulR t (k + 1)) k j
/-- entry `(i,j)` of `|L̂| |Û|` (factors of size `n × n`) -/
noncomputable def absLU (t : Tri (Fl M)) (n i j : ℕ) : ℝ :=
  ∑ k ∈ range n, |Lhat t i k| * |Uhat t k j|

theorem absLU_nonneg (t : Tri (Fl M)) (n i j : ℕ) : 0 ≤ absLU t n i j :=
  Finset.sum_nonneg (fun _ _ => mul_nonneg (abs_nonneg _) (abs_nonneg _))

theorem absLU_row (t : Tri (Fl M)) (n i j : ℕ) (hi : i < n) :
    absLU t n i j = (if 0 < i then |subR t (i - 1)| * |Uhat t (i - 1) j| else 0)
      + |pivR t i| * |Uhat t i j| := by
  unfold absLU Lhat
  simp only [triEntry_map abs abs_zero]
  rw [triEntry_row_sum _ _ _ (fun k => |Uhat t k j|) n i hi]
  simp

theorem absLU_diag (t : Tri (Fl M)) (n i : ℕ) (hi : i < n) :
    absLU t n i i = |pivR t i| + |lowR t i * mulR t i| := by
  rw [absLU_row t n i i hi]
  simp only [Uhat, triEntry_diag, abs_one, mul_one]
  cases i with
  | zero => rw [if_neg (Nat.lt_irrefl 0), lowR_zero, zero_mul, abs_zero, zero_add, add_zero]
  | succ m =>
    rw [if_pos m.succ_pos, Nat.add_sub_cancel, triEntry_upper, lowR_succ, abs_mul, add_comm]

theorem absLU_low (t : Tri (Fl M)) (n j : ℕ) (hj : j + 1 < n) :
    absLU t n (j + 1) j = |subR t j| := by
  rw [absLU_row t n (j + 1) j hj, if_pos j.succ_pos, Nat.add_sub_cancel]
  simp only [Uhat, triEntry_diag, triEntry_lower, abs_one, mul_one, abs_zero, mul_zero, add_zero]

theorem absLU_up (t : Tri (Fl M)) (n i : ℕ) (hi : i < n) :
    absLU t n i (i + 1) = |pivR t i * mulR t (i + 1)| := by
  rw [absLU_row t n i (i + 1) hi]
  simp only [Uhat, triEntry_upper, abs_mul]
  cases i with
  | zero => rw [if_neg (Nat.lt_irrefl 0), zero_add]
  | succ m =>
    rw [if_pos m.succ_pos, Nat.add_sub_cancel, triEntry_off _ _ _ (by omega), abs_zero, mul_zero,
      zero_add]

/-- (F) **the run of `solve` in rounded arithmetic.**  For a well-formed matrix and a right-hand
side of the right length, either no computed pivot `β̂ⱼ` is exactly zero and the call returns `x̂`,
or some computed pivot is exactly zero and the call refuses with `zeroPivot`.  The computed
quantities obey the recurrences of the code with one factor `(1+δ)`, `|δ| ≤ u`, per rounded
operation (`+ − * /`):
`β̂₀ = main₀`, `ŷ₀ = (r₀/β̂₀)(1+δ)`,
`γ̂ⱼ₊₁ = (supⱼ/β̂ⱼ)(1+δ₁)`, `β̂ⱼ₊₁ = (mainⱼ₊₁ − subⱼ γ̂ⱼ₊₁ (1+δ₂))(1+δ₃)`,
`ŷⱼ₊₁ = ((rⱼ₊₁ − subⱼ ŷⱼ (1+δ₄))(1+δ₅) / β̂ⱼ₊₁)(1+δ₆)`,
`x̂ₙ₋₁ = ŷₙ₋₁`, `x̂ⱼ = (ŷⱼ − γ̂ⱼ₊₁ x̂ⱼ₊₁ (1+δ₇))(1+δ₈)`.
No hypothesis on `u`. -/
theorem solve_fl_char (t : Tri (Fl M)) (h : WF t) (r : Array (Fl M)) (hr : t.n = r.size) :
    (pivR t 0 = mainR t 0 ∧
      (∃ d : ℝ, |d| ≤ M.u ∧ fwdR t r 0 = vecR r 0 / pivR t 0 * (1 + d)) ∧
      ∀ j, ∃ d1 d2 d3 d4 d5 d6 : ℝ, |d1| ≤ M.u ∧ |d2| ≤ M.u ∧ |d3| ≤ M.u ∧ |d4| ≤ M.u ∧
        |d5| ≤ M.u ∧ |d6| ≤ M.u ∧
        mulR t (j + 1) = supR t j / pivR t j * (1 + d1) ∧
        pivR t (j + 1) = (mainR t (j + 1) - subR t j * mulR t (j + 1) * (1 + d2)) * (1 + d3) ∧
        fwdR t r (j + 1)
          = (vecR r (j + 1) - subR t j * fwdR t r j * (1 + d4)) * (1 + d5) / pivR t (j + 1)
              * (1 + d6)) ∧
    (((∀ j, j < t.n → pivR t j ≠ 0) ∧ ∃ x, solve t r = .ok x ∧ x.size = t.n ∧
        vecR x (t.n - 1) = fwdR t r (t.n - 1) ∧
        ∀ j, j + 1 < t.n → ∃ d7 d8 : ℝ, |d7| ≤ M.u ∧ |d8| ≤ M.u ∧
          vecR x j = (fwdR t r j - mulR t (j + 1) * vecR x (j + 1) * (1 + d7)) * (1 + d8)) ∨
     ((∃ j, j < t.n ∧ pivR t j = 0) ∧ solve t r = .error .zeroPivot)) := by
  refine ⟨⟨rfl, fwdR_zero t r, fun j => ?_⟩, ?_⟩
  · obtain ⟨d1, q1, e1⟩ := mulR_succ t j
    obtain ⟨d2, d3, q2, q3, e2⟩ := pivR_succ t j
    obtain ⟨d4, d5, d6, q4, q5, q6, e3⟩ := fwdR_succ t r j
    exact ⟨d1, d2, d3, d4, d5, d6, q1, q2, q3, q4, q5, q6, e1, e2, e3⟩
  · rcases solve_run_char t h r hr fl_divM with ⟨hp, x, hx, hsz, hlast, hrel⟩ | ⟨⟨j, hj, hz⟩, he⟩
    · left
      refine ⟨fun j hj => (fl_beq_zero_false _).mp (hp j hj), x, hx, hsz, ?_, ?_⟩
      · simp only [vecR, fwdR]; rw [hlast]
      · exact fun j hj => back_delta t r x j (hrel j hj)
    · right
      exact ⟨⟨j, hj, (Fl.beq_zero_iff _).mp hz⟩, he⟩

/-- (F) `solve` returns a value exactly when the lengths agree and no COMPUTED pivot is zero -/
theorem solve_fl_ok_iff (t : Tri (Fl M)) (h : WF t) (r : Array (Fl M)) :
    (∃ x, solve t r = .ok x) ↔ t.n = r.size ∧ ∀ j, j < t.n → pivR t j ≠ 0 := by
  rw [solve_run_ok_iff t h r fl_divM]
  simp only [fl_beq_zero_false]
  rfl

/-- (F) **componentwise backward error of the tridiagonal solver** (Higham, *Accuracy and
Stability of Numerical Algorithms*, §9.6, for the factorisation the code computes).  Assume only
`u < 1`.  Whenever `solve` returns `x̂`, it is the EXACT solution of a perturbed tridiagonal system
with the SAME right-hand side,
`(T + ΔT) x̂ = r`,  `ΔT` tridiagonal,  `|ΔT| ≤ bwdConst M · |L̂||Û|` componentwise,
`bwdConst M = ((1-u)⁻³ − 1) + ((1-u)⁻¹ − 1) = 4u + O(u²)` (`≤ 4u/(1−3u)`, `bwdConst_le`;
`≤ gam 3/(1-u)³ + gam 1/(1-u)`, `ginv_le_gam_div`), where `L̂` (computed pivots on the diagonal,
`sub` below) and `Û` (unit diagonal, computed multipliers above) are the computed factors.
The sub-diagonal entries satisfy the sharper `|ΔT (j+1) j| ≤ ginv M 2 · |sub j|`. -/
theorem solve_backward_error (t : Tri (Fl M)) (h : WF t) (r x : Array (Fl M)) (hu : M.u < 1)
    (hx : solve t r = .ok x) :
    x.size = t.n ∧ ∃ ΔT : ℕ → ℕ → ℝ,
      (∀ i, i < t.n → ∑ j ∈ range t.n, (denseR t i j + ΔT i j) * vecR x j = vecR r i) ∧
      (∀ i j, i < t.n → j < t.n → |ΔT i j| ≤ bwdConst M * absLU t t.n i j) ∧
      (∀ i j, ¬ (i = j ∨ i = j + 1 ∨ i + 1 = j) → ΔT i j = 0) ∧
      (∀ j, j + 1 < t.n → |ΔT (j + 1) j| ≤ ginv M 2 * |subR t j|) := by
  by_cases hr : t.n = r.size
  swap
  · rw [solve_rejects_size t r hr] at hx; cases hx
  rcases solve_run_char t h r hr fl_divM with ⟨hp, x', hx', hsz, hlast, hrel⟩ | ⟨_, he⟩
  swap
  · rw [he] at hx; cases hx
  rw [hx] at hx'
  cases hx'
  refine ⟨hsz, ?_⟩
  have hpiv : ∀ j, j < t.n → pivR t j ≠ 0 := fun j hj => (fl_beq_zero_false _).mp (hp j hj)
  choose! lo di up hrows using row_perturbed t r x hu hpiv hlast hrel hsz
  have hF := bwdConst_nonneg hu
  refine ⟨triEntry (fun k => lo (k + 1) - subR t k) (fun k => di k - mainR t k)
    (fun k => up k - supR t k), ?_, ?_, ?_, ?_⟩
  · intro i hi
    obtain ⟨hrow, -, -, -⟩ := hrows i hi
    rw [denseR_eq]
    simp only [triEntry_map2 HAdd.hAdd (add_zero (0 : ℝ)), add_sub_cancel]
    rw [triEntry_row_sum _ _ _ (fun j => vecR x j) t.n i hi, ← hrow]
    congr 2
    by_cases h0 : 0 < i
    · simp only [h0, if_true, Nat.sub_add_cancel h0]
    · simp only [h0, if_false]
  · intro i j hi hj
    by_cases hband : i = j ∨ i = j + 1 ∨ i + 1 = j
    · rcases hband with rfl | rfl | rfl
      · rw [absLU_diag t t.n i hi, triEntry_diag]
        exact (hrows i hi).2.2.1
      · rw [absLU_low t t.n j hi, triEntry_lower, ← lowR_succ]
        exact (hrows (j + 1) hi).2.1.trans
          (mul_le_mul_of_nonneg_right (ginv_two_le_bwdConst hu) (abs_nonneg _))
      · rw [absLU_up t t.n i hi, triEntry_upper]
        exact (hrows i hi).2.2.2
    · rw [triEntry_off _ _ _ hband, abs_zero]
      exact mul_nonneg hF (absLU_nonneg _ _ _ _)
  · exact fun i j hb => triEntry_off _ _ _ hb
  · intro j hj
    rw [triEntry_lower, ← lowR_succ]
    exact (hrows (j + 1) hj).2.1

/-- strict diagonal dominance by ROWS with the margin rounding requires:
`(1+u)(|T j (j-1)| + |T j (j+1)|) < (1-u) |T j j|` in every row (for `u = 0`: strict row diagonal
dominance; for binary64 the margin factor is `(1+u)/(1-u) ≈ 1 + 2.2·10⁻¹⁶`) -/
def RowDD (t : Tri (Fl M)) : Prop :=
  ∀ j, j < t.n → (1 + M.u) * (|lowR t j| + |supR t j|) < (1 - M.u) * |mainR t j|

theorem le_abs_one_add {d : ℝ} (hd : |d| ≤ M.u) : 1 - M.u ≤ |1 + d| := by
  have h1 := neg_abs_le d
  have h2 := le_abs_self (1 + d)
  linarith

/-- one elimination step under row dominance: the computed pivot stays away from zero, and the
diagonal entry `|β̂ⱼ| + |lowⱼ γ̂ⱼ|` of `|L̂||Û|` is at most `3(1+u)|mainⱼ|` -/
theorem dd_step (t : Tri (Fl M)) (hu : M.u < 1) (j : ℕ) (hg : |mulR t j| ≤ 1)
    (hdd : (1 + M.u) * (|lowR t j| + |supR t j|) < (1 - M.u) * |mainR t j|) :
    (1 + M.u) * |supR t j| < |pivR t j| ∧
      |pivR t j| + |lowR t j * mulR t j| ≤ 3 * (1 + M.u) * |mainR t j| := by
  have h0 := M.u_nonneg
  obtain ⟨d2, d3, q2, q3, e⟩ := pivR_delta t j
  rw [e, abs_mul]
  generalize lowR t j = a, mulR t j = g, mainR t j = b, supR t j = c at *
  have ha := abs_nonneg a
  have hc := abs_nonneg c
  have hb := abs_nonneg b
  have hag : |a * g| ≤ |a| := by
    rw [abs_mul]; exact mul_le_of_le_one_right ha hg
  have hP : |a * g * (1 + d2)| ≤ |a| * (1 + M.u) := by
    rw [abs_mul]; exact mul_le_mul hag (M.abs_one_add_le q2) (abs_nonneg _) ha
  have hlo := abs_sub_abs_le_abs_sub b (a * g * (1 + d2))
  have hhi := abs_sub b (a * g * (1 + d2))
  have hA := abs_nonneg (b - a * g * (1 + d2))
  -- the monomials `u|a|`, `u²|a|`, `u|b|`, `u²|b|`, `u|c|` are non-negative
  have hua := mul_nonneg h0 ha
  have huua := mul_nonneg h0 hua
  have hub := mul_nonneg h0 hb
  have huub := mul_nonneg h0 hub
  have huc := mul_nonneg h0 hc
  constructor
  · have h1 := mul_le_mul_of_nonneg_left (le_abs_one_add q3) hA
    have h2 : (|b| - |a| * (1 + M.u)) * (1 - M.u) ≤ |b - a * g * (1 + d2)| * (1 - M.u) :=
      mul_le_mul_of_nonneg_right ((sub_le_sub_left hP _).trans hlo) (sub_nonneg.mpr hu.le)
    linarith only [h1, h2, hdd, hua, huua]
  · have h1 := mul_le_mul_of_nonneg_left (M.abs_one_add_le q3) hA
    have h2 : |b - a * g * (1 + d2)| * (1 + M.u) ≤ (|b| + |a| * (1 + M.u)) * (1 + M.u) :=
      mul_le_mul_of_nonneg_right (hhi.trans (add_le_add le_rfl hP)) M.one_add_u_pos.le
    have h3 : |a| * (1 + M.u) * (1 + M.u) ≤ (1 - M.u) * |b| * (1 + M.u) :=
      mul_le_mul_of_nonneg_right (by linarith only [hdd, hc, huc]) M.one_add_u_pos.le
    linarith only [h1, h2, h3, hag, hdd, hua, hub, huub, hc, huc]

theorem dd_mult (t : Tri (Fl M)) (hu : M.u < 1) (hdd : RowDD t) :
    ∀ j, j < t.n → |mulR t j| ≤ 1 := by
  intro j
  induction j with
  | zero => intro _; simp [mulR_zero]
  | succ j ih =>
    intro hj
    obtain ⟨hlo, -⟩ := dd_step t hu j (ih (by omega)) (hdd j (by omega))
    have hpos : 0 < |pivR t j| :=
      lt_of_le_of_lt (mul_nonneg M.one_add_u_pos.le (abs_nonneg _)) hlo
    obtain ⟨d1, q1, e⟩ := mulR_delta t j (abs_pos.mp hpos)
    refine le_of_mul_le_mul_right ?_ hpos
    rw [one_mul, ← abs_mul, e, abs_mul, mul_comm]
    exact (mul_le_mul_of_nonneg_right (M.abs_one_add_le q1) (abs_nonneg _)).trans hlo.le

theorem one_add_u_le_three_mul : 1 + M.u ≤ 3 * (1 + M.u) :=
  le_mul_of_one_le_left M.one_add_u_pos.le (by norm_num)

theorem one_le_three_mul : 1 ≤ 3 * (1 + M.u) := M.one_le_one_add_u.trans one_add_u_le_three_mul

/-- (F) **the tridiagonal solver is componentwise backward stable on diagonally dominant
systems, independently of `n`.**  Assume `u < 1` and strict row diagonal dominance with margin
(`RowDD`: `(1+u)(|T j (j-1)| + |T j (j+1)|) < (1-u)|T j j|` in every row).  Then no computed pivot
vanishes, `solve` returns `x̂`, every computed multiplier satisfies `|γ̂ⱼ| ≤ 1`, and `x̂` is the exact
solution of `(T + ΔT) x̂ = r` with the same right-hand side and
`|ΔT| ≤ ddConst M · |T|` componentwise,  `ddConst M = 3 (1+u) bwdConst M = 12u + O(u²)`
(`≤ 12u(1+u)/(1−3u)`, `ddConst_le`).  The constant does not depend on `n`.  (The proof passes through
`|L̂||Û| ≤ 3(1+u)|T|`, `key` below; the statement does not record it.) -/
theorem solve_backward_stable_dd (t : Tri (Fl M)) (h : WF t) (r : Array (Fl M))
    (hr : t.n = r.size) (hu : M.u < 1) (hdd : RowDD t) :
    (∀ j, j < t.n → pivR t j ≠ 0) ∧ (∀ j, j < t.n → |mulR t j| ≤ 1) ∧
    ∃ x, solve t r = .ok x ∧ x.size = t.n ∧ ∃ ΔT : ℕ → ℕ → ℝ,
      (∀ i, i < t.n → ∑ j ∈ range t.n, (denseR t i j + ΔT i j) * vecR x j = vecR r i) ∧
      (∀ i j, i < t.n → j < t.n → |ΔT i j| ≤ ddConst M * |denseR t i j|) ∧
      (∀ i j, ¬ (i = j ∨ i = j + 1 ∨ i + 1 = j) → ΔT i j = 0) := by
  have hg := dd_mult t hu hdd
  have hpiv : ∀ j, j < t.n → pivR t j ≠ 0 := fun j hj =>
    abs_pos.mp (lt_of_le_of_lt (mul_nonneg M.one_add_u_pos.le (abs_nonneg _))
      (dd_step t hu j (hg j hj) (hdd j hj)).1)
  refine ⟨hpiv, hg, ?_⟩
  obtain ⟨x, hx⟩ := (solve_fl_ok_iff t h r).mpr ⟨hr, hpiv⟩
  obtain ⟨hsz, ΔT, hrow, hb, hoff, -⟩ := solve_backward_error t h r x hu hx
  refine ⟨x, hx, hsz, ΔT, hrow, ?_, hoff⟩
  have hF := bwdConst_nonneg hu
  intro i j hi hj
  by_cases hband : i = j ∨ i = j + 1 ∨ i + 1 = j
  swap
  · rw [hoff i j hband, abs_zero]
    exact mul_nonneg (mul_nonneg (zero_le_one.trans one_le_three_mul) hF) (abs_nonneg _)
  have key : absLU t t.n i j ≤ 3 * (1 + M.u) * |denseR t i j| := by
    rcases hband with rfl | rfl | rfl
    · rw [absLU_diag t t.n i hi, show denseR t i i = mainR t i from congrArg Fl.val (dense_diag t i)]
      exact (dd_step t hu i (hg i hi) (hdd i hi)).2
    · rw [absLU_low t t.n j hi,
        show denseR t (j + 1) j = subR t j from congrArg Fl.val (dense_lower t j)]
      exact le_mul_of_one_le_left (abs_nonneg _) one_le_three_mul
    · obtain ⟨d1, q1, e⟩ := mulR_delta t i (hpiv i hi)
      rw [absLU_up t t.n i hi, mul_comm (pivR t i), e, abs_mul, mul_comm,
        show denseR t i (i + 1) = supR t i from congrArg Fl.val (dense_upper t i)]
      exact mul_le_mul_of_nonneg_right ((M.abs_one_add_le q1).trans one_add_u_le_three_mul) (abs_nonneg _)
  calc |ΔT i j| ≤ bwdConst M * absLU t t.n i j := hb i j hi hj
    _ ≤ bwdConst M * (3 * (1 + M.u) * |denseR t i j|) := mul_le_mul_of_nonneg_left key hF
    _ = ddConst M * |denseR t i j| := by unfold ddConst; ring

end Rounding


section Examples
open Finset

/-- `[[4,1,0],[1,4,1],[0,1,4]]` in the rounded reals of any model -/
def T3F (M : FlModel) : Tri (Fl M) := ⟨#[⟨1⟩, ⟨1⟩], #[⟨4⟩, ⟨4⟩, ⟨4⟩], #[⟨1⟩, ⟨1⟩], 3⟩

theorem T3F_wf (M : FlModel) : WF (T3F M) := ⟨by show 1 ≤ 3; omega, rfl, rfl, rfl⟩

/-- the dominance hypothesis holds in every model with `u < 1/3` (binary64: `u = 2⁻⁵³`) -/
theorem T3F_dd (M : FlModel) (hu : M.u < 1 / 3) : RowDD (T3F M) := by
  have h0 := M.u_nonneg
  -- the diagonal is `4` and the off-diagonal entries of a row add up to at most `2`
  have row : ∀ s : ℝ, s ≤ 2 → (1 + M.u) * s < (1 - M.u) * |(4 : ℝ)| := fun s hs => by
    rw [abs_of_pos (by norm_num : (0 : ℝ) < 4)]
    exact lt_of_le_of_lt (mul_le_mul_of_nonneg_left hs (by linarith)) (by linarith)
  intro j hj
  have hj' : j < 3 := hj
  obtain rfl | rfl | rfl : j = 0 ∨ j = 1 ∨ j = 2 := by omega
  · exact row (|(0 : ℝ)| + |(1 : ℝ)|) (by norm_num)
  · exact row (|(1 : ℝ)| + |(1 : ℝ)|) (by norm_num)
  · exact row (|(1 : ℝ)| + |(0 : ℝ)|) (by norm_num)

/-- the hypotheses of `solve_backward_stable_dd` are satisfiable in every model with `u < 1/3`,
in particular in a format that really rounds (`FlModel.binary64`) -/
example (r : Array (Fl FlModel.binary64)) (hr : r.size = 3) :
    ∃ x, solve (T3F FlModel.binary64) r = .ok x := by
  have hu : FlModel.binary64.u < 1 / 3 := by
    rw [FlModel.binary64_u]
    have : (2 : ℝ) ^ (-53 : ℤ) ≤ 2 ^ (-2 : ℤ) := zpow_le_zpow_right₀ (by norm_num) (by norm_num)
    have e : (2 : ℝ) ^ (-2 : ℤ) = 1 / 4 := by norm_num
    linarith
  obtain ⟨-, -, x, hx, -⟩ := solve_backward_stable_dd (T3F _) (T3F_wf _) r hr.symm
    (by linarith) (T3F_dd _ hu)
  exact ⟨x, hx⟩

/-- in exact arithmetic (`FlModel.exact`, `u = 0`) the perturbation vanishes: the returned vector
solves the system exactly -/
example : ∃ x, solve (T3F FlModel.exact) #[⟨1⟩, ⟨2⟩, ⟨3⟩] = .ok x ∧
    ∀ i, i < 3 → ∑ j ∈ range 3, denseR (T3F FlModel.exact) i j * vecR x j
      = vecR (#[⟨1⟩, ⟨2⟩, ⟨3⟩] : Array (Fl FlModel.exact)) i := by
  obtain ⟨-, -, x, hx, -, ΔT, hrow, hb, -⟩ := solve_backward_stable_dd (T3F FlModel.exact)
    (T3F_wf _) #[⟨1⟩, ⟨2⟩, ⟨3⟩] rfl (by rw [FlModel.exact_u]; norm_num)
    (T3F_dd _ (by rw [FlModel.exact_u]; norm_num))
  have hc : ddConst FlModel.exact = 0 := by
    simp [ddConst, bwdConst, ginv]
  refine ⟨x, hx, fun i hi => ?_⟩
  have hi' : i < (T3F FlModel.exact).n := hi
  rw [← hrow i hi']
  apply Finset.sum_congr rfl
  intro j hj
  have hj' : j < (T3F FlModel.exact).n := Finset.mem_range.mp hj
  have := hb i j hi' hj'
  rw [hc, zero_mul] at this
  rw [abs_nonpos_iff.mp this, add_zero]

end Examples

end Ohsl.Props.C05
