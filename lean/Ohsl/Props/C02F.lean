/-
  Property C02 (part F) — rounding-error statements for `determinant()` and `inverse()` of the
  dense-matrix model in the "rounded reals" interpretation `Fl M` (Ohsl/Lemmas/Rounding.lean): the
  SAME model definitions `Mat.determinant`, `Mat.inverse` (Ohsl/Model/Solve.lean) instantiated at
  real numbers whose `+ - * /` round with relative error `≤ u` (standard model of floating-point
  arithmetic, no overflow / underflow).  Clause "to rounding accuracy over floats" of C02.
  Built on the LU backward error analysis of C01F.

  The transfer to the Rust `f64` code rests on the ASSUMPTION stated in Rounding.lean (IEEE binary64
  without overflow/underflow satisfies `FlModel` with `u = 2⁻⁵³`); it is not proved here.

  Notation (C01F): `Is A n n a`, `ent`, `Lhat s`, `Uhat n s` the real values of the computed
  factors, `absLU n s = |L̂||Û|`, `permFn π` the 0/1 matrix of the recorded row permutation
  (`(P A)_{rc} = a (π r) c`), `PermOK n π σ`: `π`, `σ` mutually inverse bijections of `{0..n-1}`;
  constants `M.gam k = (1+u)^k − 1 ≤ M.gq k = (1−u)^{−k} − 1 ≤ γ_k = k u/(1 − k u)`.
  A bound "`|ΔA (π r) c| ≤ κ · absLU n s r c` for all `r, c < n`" is `|ΔA| ≤ κ · Pᵀ|L̂||Û|`.

  THE DETERMINANT needs only `u < 1` (no `n ≥ 1`).  `determinant_backward`: `ΔA` is the backward
  error of the factorisation (`C01.luDecomp_backward`, un-permuted); `θ` collects the `n` rounded
  multiplications of `1·û_00·…·û_{n−1,n−1}`; the sign flip by the parity of `pivots` is exact, and
  `pivots` HAS the parity of the recorded permutation (`Mat.luDecomp_fl_par`).

  THE INVERSE.  The in-place column loops of `inverse` ARE the recurrences of `forwardSub` /
  `backsolve` applied to column `j` of the permutation matrix (`inverse_columns_structural`), so
  every column has the backward error of `solve_lu` with the constant `gq (n−1) + gq (2n−1)`
  (`gq (n−1)`: factorisation; `gq (2n−1)`: forward and back substitution), smaller than the
  `gq n + gq (3n)` of `C01.solveLU_backward` because `P e_j` is a column of the stored 0/1 matrix —
  copied, not multiplied.  No bound on the LEFT residual `X̂ A − I` or on `X̂ − A⁻¹` is claimed: those
  need `|A⁻¹|` / the conditioning, see Higham §14.  Nothing is `_partial`.
-/
import Ohsl.Props.C02D
import Ohsl.Props.C01F
import Ohsl.Lemmas.DetRounding
import Mathlib.Algebra.Order.BigOperators.Group.Finset
import Mathlib.Algebra.BigOperators.Ring.Finset
import Mathlib.Tactic.Ring
import Mathlib.Tactic.NormNum
import Mathlib.Tactic.ByContra
namespace Ohsl.Props.C02
open Ohsl Ohsl.Mat
open Ohsl.Props.C01 (Lhat Uhat absLU permFn absLU_nonneg permFn_inj)

section Structural
variable {K : Type} [Add K] [Sub K] [Mul K] [Neg K] [Zero K] [One K] [BEq K] [ScalarExt K]

set_option linter.unusedSectionVars false in
/-- (S) **`inverse()` runs `solve_lu`'s two substitutions on the columns of `P`, in place**: for
every scalar type (no algebraic law), whenever `inverse A` returns `X`, `luDecomp A` returned a
state `s`, and — `pe` describing `s.perm` — `X` is a well-formed `n × n` matrix with entries `b`
such that for every column `c` there is an intermediate vector `y` with
`y_r = sdot (l_r·) y (pe r c) 0 r` (the recurrence `x_r ← x_r − l_rk x_k`, `k = 0..r−1`, of
`forwardSub`, see `Mat.forwardSub_sdot`) and `b_ic = sdot (u_i·) b_·c (y i) (i+1) n / u_ii` with a
successful division (the recurrence of `backsolve`, see `Mat.backsolve_sdot`). -/
theorem inverse_columns_structural {A X : Mat K} {n : Nat} (hA : Mat.WFn A n)
    (h : Mat.inverse A = .ok X) :
    ∃ s : LU K, Mat.luDecomp A = .ok s ∧
      ∀ pe : Nat → Nat → K, Mat.WFn s.lu n → Mat.Is s.perm n n pe →
        ∃ b : Nat → Nat → K, Mat.Is X n n b ∧
          ∀ c, c < n → ∃ y : Nat → K,
            (∀ r, r < n → y r = sdot (ent s.lu r) y (pe r c) 0 r) ∧
            (∀ i, i < n → divM (sdot (ent s.lu i) (fun k => b k c) (y i) (i + 1) n)
              (ent s.lu i i) = .ok (b i c)) :=
  Mat.inverse_sdot hA h

end Structural

section Rounding
variable {M : FlModel}

/-- **`determinant()`, the computed value**: whenever `determinant A` returns `d` in `Fl M`, with
`s` the state returned by `luDecomp A`: `d = (−1)^pivots · ∏_k û_kk · (1+θ)` with `|θ| ≤ gam n`
(`n` rounded multiplications starting from the literal `1`; the final sign flip is exact). -/
theorem determinant_computed (hu : M.u < 1) {n : Nat} {A : Mat (Fl M)} {a : Nat → Nat → Fl M}
    (hA : Mat.Is A n n a) {d : Fl M} (h : Mat.determinant A = .ok d) :
    ∃ (s : LU (Fl M)) (θ : ℝ), Mat.luDecomp A = .ok s ∧ |θ| ≤ M.gam n ∧
      d.val = (-1 : ℝ) ^ s.pivots * (∏ k ∈ Finset.range n, Uhat n s k k) * (1 + θ) := by
  obtain ⟨s, π, σ, hd, hs, hpar, θ, hθ, hv⟩ := determinant_fl hu hA.wfn h
  refine ⟨s, θ, hd, hθ, ?_⟩
  rw [hv]
  congr 2
  apply Finset.prod_congr rfl
  intro k hk
  have hk' := Finset.mem_range.mp hk
  rw [C01.Uhat_apply n s hk', if_neg (by omega)]

/-- **`determinant()`, mixed backward–forward error** (`u < 1`).  Whenever `determinant A` returns
`d` in `Fl M`, with `s` the state returned by `luDecomp A` and `π` its row permutation:
`d = (1+θ) · det (A + ΔA)` — Mathlib's `Matrix.det` of the real matrix `A + ΔA` — where
`|ΔA_{π r, c}| ≤ gq (n−1) · (|L̂||Û|)_{rc}`, i.e. `|ΔA| ≤ gq (n−1) · Pᵀ|L̂||Û|` (exactly the backward
error of the factorisation), and `|θ| ≤ gam n = (1+u)^n − 1`: the computed determinant is, up to a
relative factor within `(1+u)^{±n}`, the EXACT determinant of a matrix within the LU backward error
of `A`. -/
theorem determinant_backward (hu : M.u < 1) {n : Nat} {A : Mat (Fl M)} {a : Nat → Nat → Fl M}
    (hA : Mat.Is A n n a) {d : Fl M} (h : Mat.determinant A = .ok d) :
    ∃ (s : LU (Fl M)) (π σ : Nat → Nat), Mat.luDecomp A = .ok s ∧ PermOK n π σ ∧
      Mat.Is s.perm n n (permFn π) ∧
      ∃ (ΔA : Nat → Nat → ℝ) (θ : ℝ),
        (∀ r c, r < n → c < n → |ΔA (π r) c| ≤ M.gq (n - 1) * absLU n s r c) ∧
        |θ| ≤ M.gam n ∧
        d.val = (1 + θ) *
          Matrix.det (Matrix.of fun (i j : Fin n) => (a i.val j.val).val + ΔA i.val j.val) := by
  obtain ⟨s, π, σ, hd, hs, hpar, θ, hθ, hv⟩ := determinant_fl hu hA.wfn h
  -- `ΔA = Pᵀ (L̂Û) − A`
  refine ⟨s, π, σ, hd, hs.permok, hs.perm,
    fun i j => (∑ k ∈ Finset.range n, Lhat s (σ i) k * Uhat n s k j) - (a i j).val, θ, ?_, hθ, ?_⟩
  · intro r c hr hc
    beta_reduce
    rw [(hs.permok.1 r hr).2]
    have := hs.backward hu r c hr hc
    rw [hA.ent_eq (hs.permok.1 r hr).1 hc] at this
    exact this
  · have hdet := det_LU_perm (valEnt s.lu)
      (fun i j => (a i j).val
        + ((∑ k ∈ Finset.range n, Lhat s (σ i) k * Uhat n s k j) - (a i j).val))
      π (fun r hr => (hs.permok.1 r hr).1) s.pivots hpar (by
        intro r c hr hc
        rw [(hs.permok.1 r hr).2]
        show _ = (a (π r) c).val
          + ((∑ k ∈ Finset.range n, Lfn (valEnt s.lu) r k * Ufn n (valEnt s.lu) k c)
            - (a (π r) c).val)
        ring)
    change d.val = (1 + θ) * (toMat n (fun i j => (a i j).val
        + ((∑ k ∈ Finset.range n, Lhat s (σ i) k * Uhat n s k j) - (a i j).val))).det
    rw [hdet, hv]
    unfold valEnt
    ring

/-- **relative error form**: `|d − det (A + ΔA)| ≤ gam n · |det (A + ΔA)|`, `|ΔA| ≤ gq (n−1) Pᵀ|L̂||Û|` -/
theorem determinant_relative_error (hu : M.u < 1) {n : Nat} {A : Mat (Fl M)}
    {a : Nat → Nat → Fl M} (hA : Mat.Is A n n a) {d : Fl M} (h : Mat.determinant A = .ok d) :
    ∃ (s : LU (Fl M)) (π σ : Nat → Nat), Mat.luDecomp A = .ok s ∧ PermOK n π σ ∧
      Mat.Is s.perm n n (permFn π) ∧
      ∃ ΔA : Nat → Nat → ℝ,
        (∀ r c, r < n → c < n → |ΔA (π r) c| ≤ M.gq (n - 1) * absLU n s r c) ∧
        |d.val - Matrix.det (Matrix.of fun (i j : Fin n) => (a i.val j.val).val + ΔA i.val j.val)|
          ≤ M.gam n *
            |Matrix.det (Matrix.of fun (i j : Fin n) => (a i.val j.val).val + ΔA i.val j.val)| := by
  obtain ⟨s, π, σ, hd, hp, hpm, ΔA, θ, hbd, hθ, hv⟩ := determinant_backward hu hA h
  refine ⟨s, π, σ, hd, hp, hpm, ΔA, hbd, ?_⟩
  rw [hv]
  set D := Matrix.det (Matrix.of fun (i j : Fin n) => (a i.val j.val).val + ΔA i.val j.val)
  have e : (1 + θ) * D - D = θ * D := by ring
  rw [e, abs_mul]
  exact mul_le_mul_of_nonneg_right hθ (abs_nonneg _)

/-- **the classical constants**: `|ΔA| ≤ γ_{n−1} · Pᵀ|L̂||Û|` and `|θ| ≤ γ_n`, `γ_k = k u/(1 − k u)`,
when `n u < 1` -/
theorem determinant_backward_gamma {n : Nat} (hn : 1 ≤ n) (hnu : (n : ℝ) * M.u < 1)
    {A : Mat (Fl M)} {a : Nat → Nat → Fl M} (hA : Mat.Is A n n a) {d : Fl M}
    (h : Mat.determinant A = .ok d) :
    ∃ (s : LU (Fl M)) (π σ : Nat → Nat), Mat.luDecomp A = .ok s ∧ PermOK n π σ ∧
      Mat.Is s.perm n n (permFn π) ∧
      ∃ (ΔA : Nat → Nat → ℝ) (θ : ℝ),
        (∀ r c, r < n → c < n → |ΔA (π r) c|
          ≤ (((n - 1 : ℕ) : ℝ) * M.u / (1 - ((n - 1 : ℕ) : ℝ) * M.u)) * absLU n s r c) ∧
        |θ| ≤ (n : ℝ) * M.u / (1 - n * M.u) ∧
        d.val = (1 + θ) *
          Matrix.det (Matrix.of fun (i j : Fin n) => (a i.val j.val).val + ΔA i.val j.val) := by
  have hu : M.u < 1 := FlModel.u_lt_one_of_mul_lt_one hn hnu
  have hnu1 : ((n - 1 : ℕ) : ℝ) * M.u < 1 := FlModel.mul_u_lt_one_of_le (Nat.sub_le n 1) hnu
  obtain ⟨s, π, σ, hd, hp, hpm, ΔA, θ, hbd, hθ, hv⟩ := determinant_backward hu hA h
  refine ⟨s, π, σ, hd, hp, hpm, ΔA, θ, fun r c hr hc => (hbd r c hr hc).trans ?_,
    hθ.trans (M.gam_le_gamma n hnu), hv⟩
  exact mul_le_mul_of_nonneg_right (FlModel.gq_le_gamma (n - 1) hnu1) (absLU_nonneg n s r c)

/-- **a skipped column gives exactly zero**: if a pivot of the computed factorisation is exactly
`0` (the pivot search found only exact zeros and `lu_decomp_in_place` skipped the column), the
computed determinant is exactly `0` — no rounding error at all (`fl 0 = 0`). -/
theorem determinant_singular_exact_zero (hu : M.u < 1) {n : Nat} {A : Mat (Fl M)}
    {a : Nat → Nat → Fl M} (hA : Mat.Is A n n a) {d : Fl M} (h : Mat.determinant A = .ok d)
    {s : LU (Fl M)} (hs : Mat.luDecomp A = .ok s) {k : Nat} (hk : k < n)
    (hz : (ent s.lu k k).val = 0) : d.val = 0 := by
  obtain ⟨s', π, σ, hd, _, _, θ, _, hv⟩ := determinant_fl hu hA.wfn h
  rw [hs] at hd
  injection hd with hd
  subst hd
  rw [hv, Finset.prod_eq_zero (Finset.mem_range.mpr hk) hz]
  ring

/-- **`inverse()`, columnwise backward error** (the classical statement, Higham §14.3 "Method B"
column by column; `u < 1`).  Whenever `inverse A` returns `X̂` in `Fl M`, with `s` the state returned
by `luDecomp A` and `π` its row permutation: `X̂` is a well-formed `n × n` matrix, every computed
pivot `û_kk` is non-zero, and for EVERY column `j` there is a perturbation `ΔA_j` with
`(A + ΔA_j) x̂_j = e_j` EXACTLY and `|ΔA_j (π r) c| ≤ (gq (n−1) + gq (2n−1)) · (|L̂||Û|)_{rc}`, i.e.
`|ΔA_j| ≤ (gq (n−1) + gq (2n−1)) · Pᵀ|L̂||Û|`.  The perturbation depends on the column. -/
theorem inverse_backward_columns (hu : M.u < 1) {n : Nat} {A : Mat (Fl M)}
    {a : Nat → Nat → Fl M} (hA : Mat.Is A n n a) {X : Mat (Fl M)} (h : Mat.inverse A = .ok X) :
    ∃ (s : LU (Fl M)) (π σ : Nat → Nat), Mat.luDecomp A = .ok s ∧ PermOK n π σ ∧
      Mat.Is s.perm n n (permFn π) ∧ Mat.WFn X n ∧ (∀ k, k < n → Uhat n s k k ≠ 0) ∧
      ∀ j, j < n → ∃ ΔA : Nat → Nat → ℝ,
        (∀ i, i < n → ∑ c ∈ Finset.range n,
          ((a i c).val + ΔA i c) * (ent X c j).val = if i = j then 1 else 0) ∧
        ∀ r c, r < n → c < n →
          |ΔA (π r) c| ≤ (M.gq (n - 1) + M.gq (2 * n - 1)) * absLU n s r c := by
  obtain ⟨s, π, σ, hd, hs, hX, hpiv, hcols⟩ := inverse_fl_core hu hA h
  refine ⟨s, π, σ, hd, hs.permok, hs.perm, hX, ?_, ?_⟩
  · intro k hk
    rw [C01.Uhat_apply n s hk, if_neg (by omega)]
    exact hpiv k hk
  · intro j hj
    obtain ⟨ΔA, h1, h2⟩ := hcols j hj
    refine ⟨ΔA, fun i hi => ?_, h2⟩
    rw [h1 i hi]
    exact if_congr eq_comm rfl rfl

/-- **`inverse()`, right residual**: `|A X̂ − I| ≤ (gq (n−1) + gq (2n−1)) · Pᵀ|L̂||Û||X̂|`
componentwise: for all `i, j < n`,
`|Σ_c a_ic x̂_cj − δ_ij| ≤ (gq (n−1) + gq (2n−1)) · Σ_c (|L̂||Û|)_{σ i, c} |x̂_cj|`
(`σ = π⁻¹`: row `i` of `Pᵀ|L̂||Û|` is row `σ i` of `|L̂||Û|`). -/
theorem inverse_right_residual (hu : M.u < 1) {n : Nat} {A : Mat (Fl M)}
    {a : Nat → Nat → Fl M} (hA : Mat.Is A n n a) {X : Mat (Fl M)} (h : Mat.inverse A = .ok X) :
    ∃ (s : LU (Fl M)) (π σ : Nat → Nat), Mat.luDecomp A = .ok s ∧ PermOK n π σ ∧
      Mat.Is s.perm n n (permFn π) ∧ Mat.WFn X n ∧
      ∀ i j, i < n → j < n →
        |(∑ c ∈ Finset.range n, (a i c).val * (ent X c j).val) - (if i = j then 1 else 0)|
          ≤ (M.gq (n - 1) + M.gq (2 * n - 1)) *
            ∑ c ∈ Finset.range n, absLU n s (σ i) c * |(ent X c j).val| := by
  obtain ⟨s, π, σ, hd, hp, hpm, hX, _, hcols⟩ := inverse_backward_columns hu hA h
  refine ⟨s, π, σ, hd, hp, hpm, hX, ?_⟩
  intro i j hi hj
  obtain ⟨ΔA, h1, h2⟩ := hcols j hj
  obtain ⟨hσ, hπσ⟩ := hp.2 i hi
  have e : (∑ c ∈ Finset.range n, (a i c).val * (ent X c j).val) - (if i = j then (1 : ℝ) else 0)
      = - ∑ c ∈ Finset.range n, ΔA i c * (ent X c j).val := by
    rw [← h1 i hi, ← Finset.sum_sub_distrib, ← Finset.sum_neg_distrib]
    apply Finset.sum_congr rfl
    intro c _
    ring
  rw [e, abs_neg, Finset.mul_sum]
  refine (Finset.abs_sum_le_sum_abs _ _).trans (Finset.sum_le_sum ?_)
  intro c hc
  have := h2 (σ i) c hσ (Finset.mem_range.mp hc)
  rw [hπσ] at this
  rw [abs_mul, ← mul_assoc]
  exact mul_le_mul_of_nonneg_right this (abs_nonneg _)

/-- **the classical constants** for the right residual:
`|A X̂ − I| ≤ (γ_{n−1} + γ_{2n−1}) · Pᵀ|L̂||Û||X̂|` when `(2n−1) u < 1` -/
theorem inverse_right_residual_gamma {n : Nat} (hn : 1 ≤ n)
    (hnu : ((2 * n - 1 : ℕ) : ℝ) * M.u < 1) {A : Mat (Fl M)} {a : Nat → Nat → Fl M}
    (hA : Mat.Is A n n a) {X : Mat (Fl M)} (h : Mat.inverse A = .ok X) :
    ∃ (s : LU (Fl M)) (π σ : Nat → Nat), Mat.luDecomp A = .ok s ∧ PermOK n π σ ∧
      Mat.Is s.perm n n (permFn π) ∧ Mat.WFn X n ∧
      ∀ i j, i < n → j < n →
        |(∑ c ∈ Finset.range n, (a i c).val * (ent X c j).val) - (if i = j then 1 else 0)|
          ≤ (((n - 1 : ℕ) : ℝ) * M.u / (1 - ((n - 1 : ℕ) : ℝ) * M.u)
              + ((2 * n - 1 : ℕ) : ℝ) * M.u / (1 - ((2 * n - 1 : ℕ) : ℝ) * M.u)) *
            ∑ c ∈ Finset.range n, absLU n s (σ i) c * |(ent X c j).val| := by
  have hu : M.u < 1 := FlModel.u_lt_one_of_mul_lt_one (by omega) hnu
  have hnu1 : ((n - 1 : ℕ) : ℝ) * M.u < 1 := FlModel.mul_u_lt_one_of_le (by omega) hnu
  obtain ⟨s, π, σ, hd, hp, hpm, hX, hres⟩ := inverse_right_residual hu hA h
  refine ⟨s, π, σ, hd, hp, hpm, hX, fun i j hi hj => (hres i j hi hj).trans ?_⟩
  refine mul_le_mul_of_nonneg_right
    (add_le_add (FlModel.gq_le_gamma (n - 1) hnu1) (FlModel.gq_le_gamma (2 * n - 1) hnu)) ?_
  exact Finset.sum_nonneg (fun c _ => mul_nonneg (absLU_nonneg n s _ c) (abs_nonneg _))

end Rounding

section Examples

/-- exact arithmetic is a model (`u = 0 < 1`); there `θ = 0` and `ΔA = 0`, and the exact theorem
(`determinant_correct` of C02D) is recovered: the returned value is `Matrix.det` -/
example {n : Nat} {A : Mat (Fl FlModel.exact)} {a : Nat → Nat → Fl FlModel.exact}
    (hA : Mat.Is A n n a) {d : Fl FlModel.exact} (h : Mat.determinant A = .ok d) :
    d.val = Matrix.det (Matrix.of fun (i j : Fin n) => (a i.val j.val).val) := by
  obtain ⟨s, π, σ, _, hperm, _, ΔA, θ, hbd, hθ, hv⟩ :=
    determinant_backward FlModel.exact_u_lt_one hA h
  have hθ0 : θ = 0 := by simpa using hθ
  have hΔ : ∀ i j, i < n → j < n → ΔA i j = 0 := by
    intro i j hi hj
    obtain ⟨hσ, hπσ⟩ := hperm.2 i hi
    simpa [hπσ] using hbd (σ i) j hσ hj
  rw [hv, hθ0, add_zero, one_mul]
  congr 1
  ext i j
  simp [hΔ i.val j.val i.isLt j.isLt]

/-- in exact arithmetic the residual bound is `0`: `A X̂ = I` (`inverse_correct` of C02D) -/
example {n : Nat} {A X : Mat (Fl FlModel.exact)} {a : Nat → Nat → Fl FlModel.exact}
    (hA : Mat.Is A n n a) (h : Mat.inverse A = .ok X) :
    ∀ i j, i < n → j < n →
      ∑ c ∈ Finset.range n, (a i c).val * (ent X c j).val = if i = j then 1 else 0 := by
  obtain ⟨s, π, σ, _, _, _, _, hres⟩ := inverse_right_residual FlModel.exact_u_lt_one hA h
  intro i j hi hj
  have := hres i j hi hj
  rw [FlModel.gq_exact, FlModel.gq_exact, add_zero, zero_mul] at this
  exact sub_eq_zero.mp (abs_nonpos_iff.mp this)

/-- the theorems apply to the binary64 significand format of Rounding.lean: `u = 2⁻⁵³ < 1`, and
`(2n−1) u < 1` for every order up to `10¹⁵` -/
example : FlModel.binary64.u < 1 ∧ ((2 * 10 ^ 15 - 1 : ℕ) : ℝ) * FlModel.binary64.u < 1 := by
  rw [FlModel.binary64_u]
  constructor <;> norm_num

/-! the concrete `2 × 2` matrix `[[1,2],[3,4]]` of C01F (`C01.Ex.A2`; its first column needs a row
exchange, `pivots = 1`), evaluated in the exact model -/

namespace Ex
open Ohsl.Props.C01.Ex

/-- `determinant` returns the Mathlib determinant (`determinant_spec`), here `1·4 − 2·3` -/
theorem determinant_A2 : Mat.determinant A2 = .ok ⟨-2⟩ := by
  let _ := Fl.exactField
  let _ := Fl.exactPivotLaws
  rw [determinant_spec A2_is, Matrix.det_fin_two]
  exact congrArg Except.ok (Fl.ext (by show (1 : ℝ) * 4 - 2 * 3 = -2; norm_num))

/-- the four entries of `A2 · X = 1` are checked; `inverse` returns any right inverse
(`inverse_eq_of_mul`) -/
theorem inverse_A2 : Mat.inverse A2 = .ok ⟨#[⟨-2⟩, ⟨1⟩, ⟨3/2⟩, ⟨-1/2⟩], 2, 2⟩ := by
  let _ := Fl.exactField
  let _ := Fl.exactPivotLaws
  refine inverse_eq_of_mul (n := 2) A2_is (Mat.WFn.is ⟨rfl, rfl, rfl⟩) ?_
  ext i j
  rw [Matrix.mul_apply, Fin.sum_univ_two]
  fin_cases i <;> fin_cases j
  · show (1 : ℝ) * -2 + 2 * (3 / 2) = 1
    norm_num
  · show (1 : ℝ) * 1 + 2 * (-1 / 2) = 0
    norm_num
  · show (3 : ℝ) * -2 + 4 * (3 / 2) = 0
    norm_num
  · show (3 : ℝ) * 1 + 4 * (-1 / 2) = 1
    norm_num

/-- the hypotheses of `determinant_backward` and `inverse_backward_columns` are satisfiable for a
concrete non-trivial matrix (with a genuine row exchange), and their conclusions hold there -/
example : ∃ (A X : Mat E) (d : E), Mat.Is A 2 2 (Mat.ent A) ∧ FlModel.exact.u < 1 ∧
    Mat.determinant A = .ok d ∧ d.val = -2 ∧ Mat.inverse A = .ok X ∧
    ∃ (s : LU E) (π σ : Nat → Nat), Mat.luDecomp A = .ok s ∧ s.pivots = 1 ∧ PermOK 2 π σ ∧
      (∃ (ΔA : Nat → Nat → ℝ) (θ : ℝ),
        (∀ r c, r < 2 → c < 2 → |ΔA (π r) c| ≤ FlModel.exact.gq (2 - 1) * absLU 2 s r c) ∧
        |θ| ≤ FlModel.exact.gam 2 ∧
        d.val = (1 + θ) * Matrix.det (Matrix.of fun (i j : Fin 2) =>
          (Mat.ent A i.val j.val).val + ΔA i.val j.val)) ∧
      ∀ j, j < 2 → ∃ ΔA : Nat → Nat → ℝ,
        (∀ i, i < 2 → ∑ c ∈ Finset.range 2,
          ((Mat.ent A i c).val + ΔA i c) * (ent X c j).val = if i = j then 1 else 0) ∧
        ∀ r c, r < 2 → c < 2 →
          |ΔA (π r) c| ≤ (FlModel.exact.gq (2 - 1) + FlModel.exact.gq (2 * 2 - 1)) * absLU 2 s r c := by
  have hu := FlModel.exact_u_lt_one
  have hA := A2_is
  obtain ⟨s', π', σ', hd', hp', hpm', _, _, hcols⟩ := inverse_backward_columns hu hA inverse_A2
  refine ⟨A2, _, _, hA, hu, determinant_A2, rfl, inverse_A2, s', π', σ', hd', ?_, hp', ?_, hcols⟩
  · cases Except.ok.inj (luDecomp_A2.symm.trans hd')
    rfl
  · obtain ⟨s'', π'', σ'', hd'', hp'', hpm'', rest⟩ := determinant_backward hu hA determinant_A2
    cases Except.ok.inj (hd'.symm.trans hd'')
    -- the two descriptions of `s.perm` give the same permutation
    have hπ : ∀ r, r < 2 → π'' r = π' r := fun r hr => permFn_inj hpm' hpm'' hr (hp'.1 r hr).1
    obtain ⟨ΔA, θ, g1, g2, g3⟩ := rest
    refine ⟨ΔA, θ, fun r c hr hc => ?_, g2, g3⟩
    rw [← hπ r hr]
    exact g1 r c hr hc

/-! a model that really rounds, `fl x = (1+u) x` (`FlModel.scale`), and the `1 × 1` matrix `[2]`:
the computed determinant is `fl(1·2) = 2(1+u)`, so `θ = u = gam 1`: the bound `|θ| ≤ gam n` of
`determinant_backward` is attained (here `ΔA = 0`: nothing is eliminated) -/

section Scale
variable (u : ℝ) (hu0 : 0 ≤ u)

theorem determinant_scale :
    Mat.determinant (⟨#[⟨2⟩], 1, 1⟩ : Mat (S u hu0)) = .ok ⟨2 * (1 + u)⟩ := by
  simp only [determinant, luDecomp_scale, bind, Except.bind]
  norm_num only [model_eval, beq_self_eq_true, S.mul_eq, Fl.ext_iff, Fl.one_val]
  ring_nf

example (hu1 : u < 1) :
    ∃ (A : Mat (S u hu0)) (d : S u hu0), Mat.Is A 1 1 (Mat.ent A) ∧
      Mat.determinant A = .ok d ∧ d.val = 2 * (1 + u) ∧
      ∃ (ΔA : Nat → Nat → ℝ) (θ : ℝ), |θ| ≤ (FlModel.scale u hu0).gam 1 ∧
        d.val = (1 + θ) * Matrix.det (Matrix.of fun (i j : Fin 1) =>
          (Mat.ent A i.val j.val).val + ΔA i.val j.val) := by
  have hA : Mat.Is (⟨#[⟨2⟩], 1, 1⟩ : Mat (S u hu0)) 1 1 (Mat.ent _) := Mat.WFn.is ⟨rfl, rfl, rfl⟩
  have hu : (FlModel.scale u hu0).u < 1 := hu1
  obtain ⟨s, π, σ, _, _, _, ΔA, θ, _, hθ, hv⟩ :=
    determinant_backward hu hA (determinant_scale u hu0)
  exact ⟨_, _, hA, determinant_scale u hu0, rfl, ΔA, θ, hθ, hv⟩

end Scale

end Ex

end Examples

end Ohsl.Props.C02
