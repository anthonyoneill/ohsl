/-
  Property C17 (continued), class (R) — LOCAL CONVERGENCE of the SYSTEM Newton iteration of the
  model (`Ohsl.Jac.solveSys`, Ohsl/Model/Newton.lean) from inside the basin of a simple root, in
  exact real arithmetic: the multivariate companion of the scalar theorems of C18R / C17R.
  Space: `ℝⁿ = Fin n → ℝ` with the sup norm (the model's `norm_inf`), arrays ↔ vectors through
  `vec n` / `C18.arrayForm`.

  The analysis is done in any real normed space without the model; one iteration of the model is
  then shown to BE the abstract (quasi-)Newton step (completeness and soundness of `solve_basic`,
  C01C / C01S), and the loop is followed along the invariant "length `n`, inside the ball".
  Invertibility of a finite-difference Jacobian is DERIVED from its distance to `F'`, not assumed.
  (R) `newton_sys_step_abstract` (one step); `SysBall`, `QStep`, `sysQ` (hypotheses around the root,
      what a quasi-Newton update is, the contraction factor); `newton_sys_converges_quadratic`,
      `newton_sys_tendsto` (the abstract iteration);
      `model_step_supplied` (one model iteration is the Newton step);
      `solveSys_converges_supplied`, `solveSys_converges_fd` (the model's run with the supplied and
      with the finite-difference Jacobian), both from `solveSys_converges_gen` (any element type
      read into a real normed space: ℝⁿ here, ℂⁿ in C17W).
  Remember (C17A): the stopping test of `solveSys` is on the residual `‖F(x_k)‖∞ ≤ tol` of the
  point the step starts from, and the UPDATED point is returned.  All statements are about exact
  real arithmetic; rounding (class F) is not modelled here.  Complex systems: C17W.
-/
import Ohsl.Props.C17S
import Ohsl.Props.C01C
import Ohsl.Props.C01S
import Ohsl.Props.C18R
import Ohsl.Props.C15N
import Mathlib.Analysis.Calculus.MeanValue
import Mathlib.Analysis.Calculus.FDeriv.Basic
import Mathlib.Analysis.Calculus.FDeriv.Add
import Mathlib.Analysis.Calculus.FDeriv.Pow
import Mathlib.Analysis.Calculus.FDeriv.Pi
import Mathlib.Analysis.Calculus.Deriv.Comp
import Mathlib.Analysis.Normed.Module.FiniteDimension
import Mathlib.LinearAlgebra.Matrix.ToLinearEquiv
namespace Ohsl.Props.C17
open Ohsl Ohsl.Mat Ohsl.Jac Set
open Ohsl.Props.C18 (arrayForm)

theorem norm_sub_self_le {E : Type*} [SeminormedAddCommGroup E] {r x : E} {ρ : ℝ}
    (hx : ‖x - r‖ ≤ ρ) : ‖r - r‖ ≤ ρ := by
  rw [sub_self, norm_zero]
  exact (norm_nonneg _).trans hx

section Abstract
variable {E : Type*} [NormedAddCommGroup E] [NormedSpace ℝ E]

theorem taylor1_root (F : E → E) (F' : E → E →L[ℝ] E) (B : Set E) (hB : Convex ℝ B)
    (x r : E) (γ : ℝ) (hx : x ∈ B) (hr : r ∈ B)
    (hF : ∀ z ∈ B, HasFDerivWithinAt F (F' z) B z)
    (hL : ∀ z ∈ B, ‖F' z - F' x‖ ≤ γ * ‖z - x‖) (hroot : F r = 0) :
    ‖F' x (x - r) - F x‖ ≤ γ / 2 * ‖x - r‖ ^ 2 := by
  have hT := NewtonAnalysis.taylor1_lipschitz F F' B hB x r γ hx hr hF hL
  rwa [hroot, ← neg_sub x r, (F' x).map_neg, zero_sub, sub_neg_eq_add, neg_add_eq_sub, norm_neg] at hT

/-- `J` need not be given with an inverse: `hJ` (bounded below by `1/β`) stands for `‖J⁻¹‖ ≤ β`, and
    `hstep` says that the step `dx = x - x'` solves `J dx = F x`, which is what a sound linear solve
    delivers. -/
theorem newton_sys_step_core (F : E → E) (F' : E → E →L[ℝ] E) (B : Set E) (hB : Convex ℝ B)
    (x r : E) (γ β ε : ℝ) (hx : x ∈ B) (hr : r ∈ B)
    (hF : ∀ z ∈ B, HasFDerivWithinAt F (F' z) B z)
    (hL : ∀ z ∈ B, ‖F' z - F' x‖ ≤ γ * ‖z - x‖) (hroot : F r = 0) (hβ : 0 ≤ β)
    (J : E →L[ℝ] E) (hJ : ∀ v, ‖v‖ ≤ β * ‖J v‖) (hε : ‖J - F' x‖ ≤ ε)
    (x' : E) (hstep : J (x - x') = F x) :
    ‖x' - r‖ ≤ β * (γ / 2 * ‖x - r‖ ^ 2 + ε * ‖x - r‖) := by
  have hT := taylor1_root F F' B hB x r γ hx hr hF hL hroot
  have e : J (x' - r) = (J - F' x) (x - r) + (F' x (x - r) - F x) := by
    rw [sub_apply, sub_add_sub_cancel, ← hstep, ← J.map_sub, sub_sub_sub_cancel_left]
  refine (hJ _).trans (mul_le_mul_of_nonneg_left ?_ hβ)
  rw [e, add_comm (γ / 2 * _)]
  exact (norm_add_le _ _).trans (add_le_add ((J - F' x).le_of_opNorm_le hε _) hT)

-- over any normed field: ℝ here, ℂ in C17W
section BddBelow
variable {𝕜 V : Type*} [NontriviallyNormedField 𝕜] [NormedAddCommGroup V] [NormedSpace 𝕜 V]

theorem bddBelow_of_symm (J : V ≃L[𝕜] V) {β : ℝ} (hJ : ‖(J.symm : V →L[𝕜] V)‖ ≤ β) (v : V) :
    ‖v‖ ≤ β * ‖J v‖ := by
  have := (J.symm : V →L[𝕜] V).le_of_opNorm_le hJ (J v)
  rwa [ContinuousLinearEquiv.coe_coe, J.symm_apply_apply] at this

/-- the Neumann-series perturbation lemma, in the form that needs no series -/
theorem bddBelow_perturb (A J : V →L[𝕜] V) (β₀ ε : ℝ) (hβ : 0 ≤ β₀)
    (hA : ∀ v, ‖v‖ ≤ β₀ * ‖A v‖) (hε : ‖J - A‖ ≤ ε) (hsmall : β₀ * ε < 1) :
    ∀ v, ‖v‖ ≤ β₀ / (1 - β₀ * ε) * ‖J v‖ := by
  intro v
  have h1 : ‖A v‖ ≤ ‖J v‖ + ε * ‖v‖ := by
    have e : A v = J v - (J - A) v := by simp
    rw [e]
    exact le_trans (norm_sub_le _ _) (add_le_add (le_refl _) ((J - A).le_of_opNorm_le hε v))
  have h2 : ‖v‖ ≤ β₀ * (‖J v‖ + ε * ‖v‖) := le_trans (hA v) (mul_le_mul_of_nonneg_left h1 hβ)
  rw [div_mul_eq_mul_div, le_div_iff₀ (sub_pos.mpr hsmall)]
  linarith

end BddBelow

/-- the textbook form of `newton_sys_step_core`: `J` invertible, `x⁺ = x - J⁻¹ (F x)`, `‖J⁻¹‖ ≤ β`,
    `‖J - F' x‖ ≤ ε` (`ε = 0` for the exact Jacobian): `‖x⁺ - r‖ ≤ β (γ/2 ‖x - r‖² + ε ‖x - r‖)` -/
theorem newton_sys_step_abstract (F : E → E) (F' : E → E →L[ℝ] E) (B : Set E) (hB : Convex ℝ B)
    (x r : E) (γ β ε : ℝ) (hx : x ∈ B) (hr : r ∈ B)
    (hF : ∀ z ∈ B, HasFDerivWithinAt F (F' z) B z)
    (hL : ∀ z ∈ B, ‖F' z - F' x‖ ≤ γ * ‖z - x‖) (hroot : F r = 0)
    (J : E ≃L[ℝ] E) (hJ : ‖(J.symm : E →L[ℝ] E)‖ ≤ β) (hε : ‖(J : E →L[ℝ] E) - F' x‖ ≤ ε) :
    ‖x - J.symm (F x) - r‖ ≤ β * (γ / 2 * ‖x - r‖ ^ 2 + ε * ‖x - r‖) :=
  newton_sys_step_core F F' B hB x r γ β ε hx hr hF hL hroot ((norm_nonneg _).trans hJ)
    (J : E →L[ℝ] E) (bddBelow_of_symm J hJ) hε _
    (by rw [sub_sub_cancel, ContinuousLinearEquiv.coe_coe, J.apply_symm_apply])

/-- the contraction factor of the (quasi-)Newton iteration on the ball of radius `ρ` -/
noncomputable def sysQ (β γ ρ ε : ℝ) : ℝ := β * (γ * ρ / 2 + ε)

theorem sysQ_nonneg {β γ ρ ε : ℝ} (hβ : 0 ≤ β) (hγ : 0 ≤ γ) (hρ : 0 ≤ ρ) (hε : 0 ≤ ε) :
    0 ≤ sysQ β γ ρ ε :=
  mul_nonneg hβ (add_nonneg (div_nonneg (mul_nonneg hγ hρ) zero_le_two) hε)

theorem sysQ_zero (β γ ρ : ℝ) : sysQ β γ ρ 0 = β * γ * ρ / 2 := by
  rw [sysQ]; ring

/-- hypotheses on `F` around the root `r`: differentiable within the closed ball of radius `ρ`
    with a `γ`-Lipschitz derivative there -/
structure SysBall (F : E → E) (F' : E → E →L[ℝ] E) (r : E) (ρ γ : ℝ) : Prop where
  hroot : F r = 0
  hγ : 0 ≤ γ
  hF : ∀ z ∈ Metric.closedBall r ρ, HasFDerivWithinAt F (F' z) (Metric.closedBall r ρ) z
  hL : ∀ x ∈ Metric.closedBall r ρ, ∀ z ∈ Metric.closedBall r ρ, ‖F' z - F' x‖ ≤ γ * ‖z - x‖

/-- `x'` is a (quasi-)Newton update of `x`: `J (x - x') = F x` for some `J` with `‖J⁻¹‖ ≤ β`
    (bounded below by `1/β`) and `‖J - F' x‖ ≤ ε` -/
def QStep (F : E → E) (F' : E → E →L[ℝ] E) (β ε : ℝ) (x x' : E) : Prop :=
  ∃ J : E →L[ℝ] E, (∀ v, ‖v‖ ≤ β * ‖J v‖) ∧ ‖J - F' x‖ ≤ ε ∧ J (x - x') = F x

theorem SysBall.taylor {F : E → E} {F' : E → E →L[ℝ] E} {r : E} {ρ γ : ℝ}
    (H : SysBall F F' r ρ γ) {x y : E} (hx : ‖x - r‖ ≤ ρ) (hy : ‖y - r‖ ≤ ρ) :
    ‖F y - F x - F' x (y - x)‖ ≤ γ / 2 * ‖y - x‖ ^ 2 :=
  have hxB := mem_closedBall_iff_norm.2 hx
  NewtonAnalysis.taylor1_lipschitz F F' _ (convex_closedBall r ρ) x y γ hxB (mem_closedBall_iff_norm.2 hy) H.hF
    (H.hL x hxB)

theorem SysBall.bddBelow_of_root {F : E → E} {F' : E → E →L[ℝ] E} {r : E} {ρ γ : ℝ}
    (H : SysBall F F' r ρ γ) {β : ℝ} (hβ : 0 ≤ β) (hr : ∀ v, ‖v‖ ≤ β * ‖F' r v‖)
    (hsmall : β * (γ * ρ) < 1) {x : E} (hx : ‖x - r‖ ≤ ρ) (v : E) :
    ‖v‖ ≤ β / (1 - β * (γ * ρ)) * ‖F' x v‖ :=
  bddBelow_perturb (F' r) (F' x) β (γ * ρ) hβ hr
    ((H.hL r (mem_closedBall_iff_norm.2 (norm_sub_self_le hx)) x
      (mem_closedBall_iff_norm.2 hx)).trans (mul_le_mul_of_nonneg_left hx H.hγ)) hsmall v

theorem half_sq_le {γ ρ t : ℝ} (hγ : 0 ≤ γ) (ht : 0 ≤ t) (h : t ≤ ρ) :
    γ / 2 * t ^ 2 ≤ γ * ρ / 2 * t :=
  calc γ / 2 * t ^ 2 = γ / 2 * t * t := by ring
    _ ≤ γ / 2 * t * ρ := mul_le_mul_of_nonneg_left h (mul_nonneg (div_nonneg hγ zero_le_two) ht)
    _ = γ * ρ / 2 * t := by ring

theorem SysBall.step {F : E → E} {F' : E → E →L[ℝ] E} {r : E} {ρ γ : ℝ}
    (H : SysBall F F' r ρ γ) {β ε : ℝ} (hβ : 0 ≤ β) (hq : sysQ β γ ρ ε ≤ 1) {x x' : E}
    (hx : ‖x - r‖ ≤ ρ) (hs : QStep F F' β ε x x') :
    ‖x' - r‖ ≤ β * (γ / 2 * ‖x - r‖ ^ 2 + ε * ‖x - r‖) ∧
    ‖x' - r‖ ≤ sysQ β γ ρ ε * ‖x - r‖ ∧ ‖x' - r‖ ≤ ρ := by
  obtain ⟨J, hJ, hε, hst⟩ := hs
  have hxB : x ∈ Metric.closedBall r ρ := mem_closedBall_iff_norm.2 hx
  have h1 := newton_sys_step_core F F' _ (convex_closedBall r ρ) x r γ β ε hxB
    (mem_closedBall_iff_norm.2 (norm_sub_self_le hx)) H.hF (H.hL x hxB) H.hroot hβ J hJ hε x' hst
  have h2 : ‖x' - r‖ ≤ sysQ β γ ρ ε * ‖x - r‖ := by
    refine h1.trans ?_
    rw [sysQ, mul_assoc, add_mul]
    exact mul_le_mul_of_nonneg_left (add_le_add (half_sq_le H.hγ (norm_nonneg _) hx) le_rfl) hβ
  exact ⟨h1, h2, h2.trans ((mul_le_of_le_one_left (norm_nonneg _) hq).trans hx)⟩

theorem newton_sys_converges_abstract (F : E → E) (F' : E → E →L[ℝ] E) (r : E) (ρ γ β ε : ℝ)
    (H : SysBall F F' r ρ γ) (hβ : 0 ≤ β) (hε : 0 ≤ ε) (hq : sysQ β γ ρ ε < 1)
    (x : ℕ → E) (hx₀ : ‖x 0 - r‖ ≤ ρ)
    (hstep : ∀ k, ‖x k - r‖ ≤ ρ → QStep F F' β ε (x k) (x (k + 1))) (k : ℕ) :
    ‖x k - r‖ ≤ ρ ∧ ‖x k - r‖ ≤ sysQ β γ ρ ε ^ k * ‖x 0 - r‖ ∧
    ‖x (k + 1) - r‖ ≤ β * (γ / 2 * ‖x k - r‖ ^ 2 + ε * ‖x k - r‖) ∧
    ‖x (k + 1) - r‖ ≤ sysQ β γ ρ ε * ‖x k - r‖ := by
  have hρ : 0 ≤ ρ := le_trans (norm_nonneg _) hx₀
  obtain ⟨m1, m2⟩ := NewtonGen.geom_decay (e := fun k => ‖x k - r‖) (ε := 0)
    (sysQ_nonneg hβ H.hγ hρ hε) hq (by rw [add_zero]; exact mul_le_of_le_one_left hρ hq.le) hx₀
    (fun k hk => (H.step hβ hq.le hk (hstep k hk)).2.1.trans_eq (add_zero _).symm) k
  rw [zero_mul, zero_div, add_zero] at m2
  obtain ⟨s1, s2, _⟩ := H.step hβ hq.le m1 (hstep k m1)
  exact ⟨m1, m2, s1, s2⟩

/-- with the exact Jacobian (`ε = 0`) the convergence is **quadratic**:
    `‖x_{k+1} - r‖ ≤ (β γ / 2) ‖x_k - r‖²` -/
theorem newton_sys_converges_quadratic (F : E → E) (F' : E → E →L[ℝ] E) (r : E) (ρ γ β : ℝ)
    (H : SysBall F F' r ρ γ) (hβ : 0 ≤ β) (hq : β * γ * ρ / 2 < 1)
    (x : ℕ → E) (hx₀ : ‖x 0 - r‖ ≤ ρ)
    (hstep : ∀ k, ‖x k - r‖ ≤ ρ → QStep F F' β 0 (x k) (x (k + 1))) (k : ℕ) :
    ‖x k - r‖ ≤ ρ ∧ ‖x k - r‖ ≤ (β * γ * ρ / 2) ^ k * ‖x 0 - r‖ ∧
    ‖x (k + 1) - r‖ ≤ β * γ / 2 * ‖x k - r‖ ^ 2 := by
  obtain ⟨h1, h2, h3, _⟩ := newton_sys_converges_abstract F F' r ρ γ β 0 H hβ (le_refl _)
    (by rw [sysQ_zero]; exact hq) x hx₀ hstep k
  rw [sysQ_zero] at h2
  exact ⟨h1, h2, h3.trans_eq (by ring)⟩

theorem newton_sys_tendsto (F : E → E) (F' : E → E →L[ℝ] E) (r : E) (ρ γ β ε : ℝ)
    (H : SysBall F F' r ρ γ) (hβ : 0 ≤ β) (hε : 0 ≤ ε) (hq : sysQ β γ ρ ε < 1)
    (x : ℕ → E) (hx₀ : ‖x 0 - r‖ ≤ ρ)
    (hstep : ∀ k, ‖x k - r‖ ≤ ρ → QStep F F' β ε (x k) (x (k + 1))) :
    Filter.Tendsto x Filter.atTop (nhds r) := by
  have hρ : 0 ≤ ρ := le_trans (norm_nonneg _) hx₀
  have hq0 := sysQ_nonneg hβ H.hγ hρ hε
  rw [tendsto_iff_dist_tendsto_zero]
  have lim := (tendsto_pow_atTop_nhds_zero_of_lt_one hq0 hq).mul_const ‖x 0 - r‖
  rw [zero_mul] at lim
  refine squeeze_zero (fun k => dist_nonneg) (fun k => ?_) lim
  rw [dist_eq_norm]
  exact (newton_sys_converges_abstract F F' r ρ γ β ε H hβ hε hq x hx₀ hstep k).2.1

/-- **the residual controls the error** near a simple root: if `F' x` is bounded below by `1/β`
    at a point `x` of the ball then `‖x - r‖ ≤ β (‖F x‖ + γ/2 ‖x - r‖²)`, hence
    `(1 - β γ ρ / 2) ‖x - r‖ ≤ β ‖F x‖`. -/
theorem SysBall.residual_lower {F : E → E} {F' : E → E →L[ℝ] E} {r : E} {ρ γ : ℝ}
    (H : SysBall F F' r ρ γ) {β : ℝ} (hβ : 0 ≤ β) {x : E} (hx : ‖x - r‖ ≤ ρ)
    (hinv : ∀ v, ‖v‖ ≤ β * ‖F' x v‖) :
    (1 - β * γ * ρ / 2) * ‖x - r‖ ≤ β * ‖F x‖ := by
  have hxB := mem_closedBall_iff_norm.2 hx
  have hT := taylor1_root F F' _ (convex_closedBall r ρ) x r γ hxB
    (mem_closedBall_iff_norm.2 (norm_sub_self_le hx)) H.hF (H.hL x hxB) H.hroot
  have h1 := (norm_le_norm_add_norm_sub' (F' x (x - r)) (F x)).trans (add_le_add le_rfl hT)
  have h2 := (hinv (x - r)).trans (mul_le_mul_of_nonneg_left h1 hβ)
  have h3 := mul_le_mul_of_nonneg_left (half_sq_le H.hγ (norm_nonneg _) hx) hβ
  linarith only [h2, h3]

theorem SysBall.residual_upper {F : E → E} {F' : E → E →L[ℝ] E} {r : E} {ρ γ : ℝ}
    (H : SysBall F F' r ρ γ) {x : E} (hx : ‖x - r‖ ≤ ρ) :
    ‖F x‖ ≤ (‖F' r‖ + γ * ρ / 2) * ‖x - r‖ := by
  have hT := H.taylor (norm_sub_self_le hx) hx
  rw [H.hroot, sub_zero] at hT
  have h1 := (norm_le_insert' (F x) (F' r (x - r))).trans (add_le_add ((F' r).le_opNorm _) hT)
  have h3 := half_sq_le H.hγ (norm_nonneg _) hx
  linarith only [h1, h3]

end Abstract

section Model

/-- the vector `(a₀, …, a_{n-1})` of an array (coordinates beyond its size read as 0) -/
noncomputable def vec (n : ℕ) (a : Array ℝ) : Fin n → ℝ := fun j => a.getD j 0

theorem arrayForm_eq {n : ℕ} (Ff : (Fin n → ℝ) → (Fin n → ℝ)) (a : Array ℝ) :
    arrayForm Ff a = Array.ofFn (Ff (vec n a)) := rfl

theorem vec_ofFn {n : ℕ} (w : Fin n → ℝ) : vec n (Array.ofFn w) = w := by
  funext j
  simp [vec, Array.getD]

theorem ofFn_vec {n : ℕ} {a : Array ℝ} (h : a.size = n) : Array.ofFn (vec n a) = a := by
  apply Array.ext
  · simp [h]
  · intro i h1 h2
    simp [vec, Array.getD, h2]

theorem exists_pi_norm_eq {E : Type*} [SeminormedAddCommGroup E] {n : ℕ} (hn : 1 ≤ n)
    (w : Fin n → E) : ∃ i, ‖w‖ = ‖w i‖ := by
  obtain ⟨i, _, hi⟩ := Finset.exists_max_image Finset.univ (fun i => ‖w i‖)
    ⟨⟨0, hn⟩, Finset.mem_univ _⟩
  exact ⟨i, le_antisymm ((pi_norm_le_iff_of_nonneg (norm_nonneg _)).2
    (fun j => hi j (Finset.mem_univ _))) (norm_le_pi_norm w i)⟩

theorem normInf_ofFn {n : ℕ} (hn : 1 ≤ n) (w : Fin n → ℝ) :
    Vec.normInf (Array.ofFn w) = .ok ‖w‖ := by
  obtain ⟨i, hi⟩ := exists_pi_norm_eq hn w
  refine C15.normInf_of_isMaxAbs ⟨fun k hk => ?_, i, by simp, by simpa [Array.getD] using hi⟩
  have hk' : k < n := by simpa using hk
  simpa [Array.getD, hk'] using norm_le_pi_norm w ⟨k, hk'⟩

-- matrices as continuous linear maps, over any complete normed field (ℝ here, ℂ in C17W)
section MatCLM
variable {𝕜 : Type*} [NontriviallyNormedField 𝕜]

theorem clm_apply_eq_sum {n : ℕ} (A : (Fin n → 𝕜) →L[𝕜] (Fin n → 𝕜)) (v : Fin n → 𝕜)
    (i : Fin n) : A v i = ∑ j : Fin n, A (Pi.single j 1) i * v j := by
  conv_lhs => rw [← Finset.univ_sum_single v]
  rw [map_sum, Finset.sum_apply]
  refine Finset.sum_congr rfl fun j _ => ?_
  rw [show Pi.single j (v j) = v j • Pi.single j (1 : 𝕜) by rw [← Pi.single_smul, smul_eq_mul, mul_one],
    A.map_smul, Pi.smul_apply, smul_eq_mul, mul_comm]

variable [CompleteSpace 𝕜] {n : ℕ}

/-- the continuous linear map of the `n × n` matrix with entries `e i j` -/
noncomputable def matCLMK (e : ℕ → ℕ → 𝕜) : (Fin n → 𝕜) →L[𝕜] (Fin n → 𝕜) :=
  LinearMap.toContinuousLinearMap (Matrix.toLin' (Matrix.of fun i j : Fin n => e i j))

theorem matCLMK_apply (e : ℕ → ℕ → 𝕜) (v : Fin n → 𝕜) (i : Fin n) :
    matCLMK e v i = ∑ j : Fin n, e i j * v j := rfl

theorem matCLMK_single (e : ℕ → ℕ → 𝕜) (i j : Fin n) : matCLMK e (Pi.single j 1) i = e i j := by
  rw [matCLMK_apply, Finset.sum_eq_single j (fun k _ hk => by rw [Pi.single_eq_of_ne hk, mul_zero])
    (fun h => absurd (Finset.mem_univ j) h), Pi.single_eq_same, mul_one]

theorem matCLMK_eq (e : ℕ → ℕ → 𝕜) (A : (Fin n → 𝕜) →L[𝕜] (Fin n → 𝕜))
    (h : ∀ i j : Fin n, e i j = A (Pi.single j 1) i) : matCLMK e = A := by
  ext v i
  rw [matCLMK_apply, clm_apply_eq_sum A v i]
  exact Finset.sum_congr rfl (fun j _ => by rw [h i j])

theorem det_ne_zero_of_bddBelow (e : ℕ → ℕ → 𝕜) (β : ℝ)
    (hb : ∀ v : Fin n → 𝕜, ‖v‖ ≤ β * ‖matCLMK e v‖) :
    Matrix.det (Matrix.of fun (i j : Fin n) => e i.val j.val) ≠ 0 := by
  intro hdet
  obtain ⟨v, hv, hz⟩ := Matrix.exists_mulVec_eq_zero_iff.mpr hdet
  have h := hb v
  rw [show matCLMK e v = 0 from hz, norm_zero, mul_zero] at h
  exact hv (norm_le_zero_iff.mp h)

theorem opNorm_sub_le_of_entries (e : ℕ → ℕ → 𝕜) (A : (Fin n → 𝕜) →L[𝕜] (Fin n → 𝕜)) (η : ℝ)
    (hη : 0 ≤ η) (h : ∀ i j : Fin n, ‖e i j - A (Pi.single j 1) i‖ ≤ η) :
    ‖matCLMK e - A‖ ≤ n * η := by
  have hn : 0 ≤ n * η := mul_nonneg n.cast_nonneg hη
  refine ContinuousLinearMap.opNorm_le_bound _ hn (fun v => ?_)
  rw [pi_norm_le_iff_of_nonneg (mul_nonneg hn (norm_nonneg v))]
  intro i
  rw [sub_apply, Pi.sub_apply, matCLMK_apply, clm_apply_eq_sum A v i, ← Finset.sum_sub_distrib]
  calc ‖∑ j : Fin n, (e i j * v j - A (Pi.single j 1) i * v j)‖
      ≤ ∑ j : Fin n, ‖e i j * v j - A (Pi.single j 1) i * v j‖ := norm_sum_le _ _
    _ ≤ ∑ j : Fin n, η * ‖v‖ := by
        apply Finset.sum_le_sum
        intro j _
        rw [← sub_mul, norm_mul]
        exact mul_le_mul (h i j) (norm_le_pi_norm v j) (norm_nonneg _) hη
    _ = n * η * ‖v‖ := by rw [Finset.sum_const, Finset.card_fin, nsmul_eq_mul, mul_assoc]

end MatCLM

/-- `matCLMK` over ℝ, `n` explicit: the map of a real `n × n` Jacobian matrix -/
noncomputable def matCLM (n : ℕ) (e : ℕ → ℕ → ℝ) : (Fin n → ℝ) →L[ℝ] (Fin n → ℝ) :=
  LinearMap.toContinuousLinearMap (Matrix.toLin' (Matrix.of fun i j : Fin n => e i j))

theorem matCLM_apply (n : ℕ) (e : ℕ → ℕ → ℝ) (v : Fin n → ℝ) (i : Fin n) :
    matCLM n e v i = ∑ j : Fin n, e i j * v j :=
  matCLMK_apply e v i

theorem matCLM_eq {n : ℕ} (e : ℕ → ℕ → ℝ) (A : (Fin n → ℝ) →L[ℝ] (Fin n → ℝ))
    (h : ∀ i j : Fin n, e i j = A (Pi.single j 1) i) : matCLM n e = A :=
  matCLMK_eq e A h

/-- the update of one iteration, any element type `K`, arrays read into `𝕜ⁿ` entry by entry through
    a map `φ` that respects subtraction (`id` on ℝ here, `toC` on `Cx ℝ` in C17W): if `dx` solves the
    linear system with matrix `e` and right-hand side `b`, then `cur - dx` returns a point `cur'` and
    the matrix maps `cur - cur'` to `b` -/
theorem update_of_solution {K : Type} [Sub K] [Zero K] {𝕜 : Type*} [NontriviallyNormedField 𝕜]
    [CompleteSpace 𝕜] {n : ℕ} (φ : K → 𝕜) (hφ : ∀ a b, φ (a - b) = φ a - φ b) {cur dx b : Array K}
    (hc : cur.size = n) (hs : dx.size = n) {e : ℕ → ℕ → K}
    (hsol : ∀ i, i < n → ∑ j ∈ Finset.range n, φ (e i j) * φ (dx[j]?.getD 0) = φ (b[i]?.getD 0)) :
    ∃ cur', Vec.sub cur dx = .ok cur' ∧ cur'.size = n ∧
      matCLMK (fun i j => φ (e i j))
        ((fun j : Fin n => φ (cur.getD j 0)) - fun j : Fin n => φ (cur'.getD j 0))
        = fun i : Fin n => φ (b.getD i 0) := by
  subst hc
  refine ⟨_, Vec.sub_eq_ok_iff.2 ⟨hs.symm, rfl⟩, by rw [Array.size_zipWith, hs, min_self],
    funext fun i => ?_⟩
  rw [matCLMK_apply, Array.getD_eq_getD_getElem?, ← hsol i i.2, Finset.sum_range]
  refine Finset.sum_congr rfl fun j _ => ?_
  rw [Pi.sub_apply, getD_zipWith _ _ _ 0 0 _ hs.symm j.2, hφ, sub_sub_cancel,
    Array.getD_eq_getD_getElem?]

/-- **one iteration of the model is a (quasi-)Newton step**: for a matrix bounded below the linear
    solve returns (completeness of `solve_basic`, C01C) and `J (cur - cur') = F(cur)` holds exactly
    (its soundness, C01S) -/
theorem model_step_gen {n : ℕ} (hn : 1 ≤ n) (Ff : (Fin n → ℝ) → (Fin n → ℝ)) (cur : Array ℝ)
    (hc : cur.size = n) {J : Mat ℝ} {e : ℕ → ℕ → ℝ} (hJ : Mat.Is J n n e) {β : ℝ}
    (hb : ∀ v, ‖v‖ ≤ β * ‖matCLM n e v‖) :
    ∃ dx cur', Vec.normInf (arrayForm Ff cur) = .ok ‖Ff (vec n cur)‖ ∧
      Mat.solveBasic J (arrayForm Ff cur) = .ok dx ∧ Vec.sub cur dx = .ok cur' ∧ cur'.size = n ∧
      matCLM n e (vec n cur - vec n cur') = Ff (vec n cur) := by
  have hsz : (arrayForm Ff cur).size = n := by simp [arrayForm]
  obtain ⟨dx, hdx⟩ := C01.solveBasic_complete hn hJ hsz (det_ne_zero_of_bddBelow e β hb)
  obtain ⟨hs, hsol⟩ := C01.solveBasic_sound hn hJ hsz hdx
  obtain ⟨cur', s1, s2, s3⟩ := update_of_solution id (fun _ _ => rfl) hc hs hsol
  exact ⟨dx, cur', normInf_ofFn hn _, hdx, s1, s2, s3.trans (vec_ofFn _)⟩

/-- **the model's system loop along a contracting invariant**, any element type `K` (ℝ here, `Cx ℝ`
    in C17W): `err` is the distance of a point from the root, `res` the norm of its residual, `P` an
    invariant of the iteration (e.g. "length `n` and inside the ball") such that from every
    `P`-point the four sub-computations of one iteration return, the new point satisfies `P`
    again, its error is at most `q` times the old one (`0 ≤ q ≤ 1`) and the pair is related by `Q`. -/
theorem solveSys_run {K : Type} [Add K] [Sub K] [Mul K] [Neg K] [Zero K] [One K] [BEq K]
    [ScalarExt K] (f : Array K → Array K) (normInf : Array K → Res ℝ)
    (jacF : Array K → Res (Mat K × List (Array K))) (err res : Array K → ℝ) (tol q : ℝ)
    (P : Array K → Prop) (Q : Array K → Array K → Prop) (herr : ∀ c, 0 ≤ err c)
    (hq0 : 0 ≤ q) (hq1 : q ≤ 1)
    (hstep : ∀ cur, P cur → ∃ J jtr dx cur',
      normInf (f cur) = .ok (res cur) ∧ jacF cur = .ok (J, jtr) ∧
      Mat.solveBasic J (f cur) = .ok dx ∧ Vec.sub cur dx = .ok cur' ∧ P cur' ∧
      err cur' ≤ q * err cur ∧ Q cur cur') :
    ∀ (m : ℕ) (cur : Array K) (tr : List (Array K)), P cur → ∃ out tr',
      solveSys f jacF normInf (fun s => Transc.le s tol) m cur tr = .ok (out, tr') ∧
      P out.x ∧ err out.x ≤ err cur ∧
      (out.ok = false → err out.x ≤ q ^ m * err cur ∧
        ∀ k, k < m → ∃ c, P c ∧ err c ≤ q ^ k * err cur ∧ tol < res c) ∧
      (out.ok = true → ∃ k c, k < m ∧ P c ∧ err c ≤ q ^ k * err cur ∧
        res c ≤ tol ∧ Q c out.x ∧ err out.x ≤ q * err c) := by
  intro m
  induction m with
  | zero =>
    intro cur tr hP
    refine ⟨⟨false, cur⟩, tr, rfl, hP, le_refl _, fun _ => ⟨by simp, fun k hk => by omega⟩,
      fun h => by simp at h⟩
  | succ m ih =>
    intro cur tr hP
    obtain ⟨J, jtr, dx, cur', h1, h2, h3, h4, hP', hc, hQ⟩ := hstep cur hP
    have hle : err cur' ≤ err cur := hc.trans (mul_le_of_le_one_left (herr cur) hq1)
    rw [sys_unfold _ _ _ _ m cur tr h1 h2 h3 h4]
    by_cases ht : res cur ≤ tol
    · have : (fun s => Transc.le s tol) (res cur) = true := by
        simpa [Transc.le] using ht
      rw [if_pos this]
      refine ⟨⟨true, cur'⟩, _, rfl, hP', hle, fun h => by simp at h, fun _ => ?_⟩
      exact ⟨0, cur, Nat.succ_pos m, hP, by simp, ht, hQ, hc⟩
    · have : ¬ (fun s => Transc.le s tol) (res cur) = true := by
        simpa [Transc.le] using ht
      rw [if_neg this]
      obtain ⟨out, tr', e, o1, o2, o3, o4⟩ := ih cur' (tr ++ [cur] ++ jtr) hP'
      have hpow : ∀ k, q ^ k * err cur' ≤ q ^ (k + 1) * err cur := by
        intro k
        calc q ^ k * err cur' ≤ q ^ k * (q * err cur) :=
              mul_le_mul_of_nonneg_left hc (pow_nonneg hq0 k)
          _ = q ^ (k + 1) * err cur := by ring
      refine ⟨out, tr', e, o1, le_trans o2 hle, fun ho => ?_, fun ho => ?_⟩
      · obtain ⟨f1, f2⟩ := o3 ho
        refine ⟨le_trans f1 (hpow m), fun k hk => ?_⟩
        cases k with
        | zero => exact ⟨cur, hP, by simp, lt_of_not_ge ht⟩
        | succ k =>
          obtain ⟨c, c1, c2, c3⟩ := f2 k (by omega)
          exact ⟨c, c1, le_trans c2 (hpow k), c3⟩
      · obtain ⟨k, c, c0, c1, c2, c3, c4, c5⟩ := o4 ho
        exact ⟨k + 1, c, by omega, c1, le_trans c2 (hpow k), c3, c4, c5⟩

section Conv
variable {n : ℕ}

/-- the perturbed inverse bound `β₀ / (1 - β₀ ε)` -/
noncomputable def pertB (β₀ ε : ℝ) : ℝ := β₀ / (1 - β₀ * ε)

theorem pertB_nonneg {β₀ ε : ℝ} (hβ : 0 ≤ β₀) (hsmall : β₀ * ε < 1) : 0 ≤ pertB β₀ ε :=
  div_nonneg hβ (by linarith)

theorem pertB_zero (β : ℝ) : pertB β 0 = β := by
  rw [pertB, mul_zero, sub_zero, div_one]

theorem le_pertB {β₀ ε : ℝ} (hβ : 0 ≤ β₀) (hε : 0 ≤ ε) (hsmall : β₀ * ε < 1) :
    β₀ ≤ pertB β₀ ε := by
  rw [pertB, le_div_iff₀ (sub_pos.mpr hsmall)]
  exact mul_le_of_le_one_right hβ (by linarith [mul_nonneg hβ hε])

theorem model_step_qstep (hn : 1 ≤ n) (Ff : (Fin n → ℝ) → (Fin n → ℝ))
    (F' : (Fin n → ℝ) → (Fin n → ℝ) →L[ℝ] (Fin n → ℝ)) (β₀ ε : ℝ) (hβ : 0 ≤ β₀)
    (hsmall : β₀ * ε < 1) (cur : Array ℝ) (hc : cur.size = n)
    (hinv : ∀ v, ‖v‖ ≤ β₀ * ‖F' (vec n cur) v‖)
    {J : Mat ℝ} {e : ℕ → ℕ → ℝ} (hJ : Mat.Is J n n e) (hε : ‖matCLM n e - F' (vec n cur)‖ ≤ ε) :
    ∃ dx cur', Vec.normInf (arrayForm Ff cur) = .ok ‖Ff (vec n cur)‖ ∧
      Mat.solveBasic J (arrayForm Ff cur) = .ok dx ∧ Vec.sub cur dx = .ok cur' ∧ cur'.size = n ∧
      QStep Ff F' (pertB β₀ ε) ε (vec n cur) (vec n cur') := by
  have hb := bddBelow_perturb (F' (vec n cur)) (matCLM n e) β₀ ε hβ hinv hε hsmall
  obtain ⟨dx, cur', h1, h2, h3, h4, h5⟩ := model_step_gen hn Ff cur hc hJ hb
  exact ⟨dx, cur', h1, h2, h3, h4, matCLM n e, hb, hε, h5⟩

/-- **the model's system Newton iteration near a simple root, any element type, any Jacobian
    approximation** (exact arithmetic).  Arrays over `K` of length `n` are read as points of a real
    normed space through `vec`.  `F` has a `γ`-Lipschitz derivative `F'` on the ball `B(r, ρ)`
    around a root `r`, `‖F'(x)⁻¹‖ ≤ β₀` there (`hinv`), `β₀ ε < 1`, `q = β (γ ρ / 2 + ε) < 1` with
    `β = β₀ / (1 - β₀ ε)`, and from every point of the ball the four sub-computations of one
    iteration return, the tested number is `‖F(cur)‖` and the new point is a quasi-Newton update
    (`QStep`: a matrix within `ε` of `F'` whose inverse is bounded by `β`).
    Then from any guess in the ball, for every `tol` and budget `m`, the run returns (no panic) and
    * the returned point has length `n` and is never farther from `r` than the guess;
    * failure ⇒ error `≤ q^m ‖x₀ - r‖`;
    * success ⇒ the returned point is the Newton update of an iterate `c`, `‖c - r‖ ≤ q^k ‖x₀ - r‖`
      (`k < m`), whose residual met the tolerance, `‖F c‖ ≤ tol`; the one-step estimate
      `‖x - r‖ ≤ β (γ/2 ‖c - r‖² + ε ‖c - r‖) ≤ q ‖c - r‖` holds, and
      `(1 - β₀γρ/2) ‖c - r‖ ≤ β₀ tol`, `(1 - β₀γρ/2) ‖x - r‖ ≤ q β₀ tol`;
    * success IS reported once `(‖F' r‖ + γρ/2) q^(m-1) ‖x₀ - r‖ ≤ tol` (`m ≥ 1`). -/
theorem solveSys_converges_gen {K : Type} [Add K] [Sub K] [Mul K] [Neg K] [Zero K] [One K] [BEq K]
    [ScalarExt K] {E : Type*} [NormedAddCommGroup E] [NormedSpace ℝ E] (vec : Array K → E)
    (F : E → E) (F' : E → E →L[ℝ] E) (r : E) (ρ γ β₀ ε : ℝ)
    (H : SysBall F F' r ρ γ) (hβ : 0 ≤ β₀) (hε : 0 ≤ ε) (hsmall : β₀ * ε < 1)
    (hinv : ∀ x, ‖x - r‖ ≤ ρ → ∀ v, ‖v‖ ≤ β₀ * ‖F' x v‖)
    (hq : sysQ (pertB β₀ ε) γ ρ ε < 1)
    (f : Array K → Array K) (normInf : Array K → Res ℝ)
    (jacF : Array K → Res (Mat K × List (Array K)))
    (hstep : ∀ cur : Array K, cur.size = n → ‖vec cur - r‖ ≤ ρ → ∃ J jtr dx cur',
      jacF cur = .ok (J, jtr) ∧ normInf (f cur) = .ok ‖F (vec cur)‖ ∧
      Mat.solveBasic J (f cur) = .ok dx ∧ Vec.sub cur dx = .ok cur' ∧ cur'.size = n ∧
      QStep F F' (pertB β₀ ε) ε (vec cur) (vec cur'))
    (tol : ℝ) (m : ℕ) (guess : Array K) (hg : guess.size = n) (hg' : ‖vec guess - r‖ ≤ ρ)
    (tr : List (Array K)) :
    ∃ out tr', solveSys f jacF normInf (fun s => Transc.le s tol) m guess tr = .ok (out, tr') ∧
      out.x.size = n ∧ ‖vec out.x - r‖ ≤ ‖vec guess - r‖ ∧
      (out.ok = false → ‖vec out.x - r‖ ≤ sysQ (pertB β₀ ε) γ ρ ε ^ m * ‖vec guess - r‖) ∧
      (out.ok = true → ∃ k c, k < m ∧ c.size = n ∧
        ‖vec c - r‖ ≤ sysQ (pertB β₀ ε) γ ρ ε ^ k * ‖vec guess - r‖ ∧
        ‖F (vec c)‖ ≤ tol ∧
        ‖vec out.x - r‖ ≤ pertB β₀ ε * (γ / 2 * ‖vec c - r‖ ^ 2 + ε * ‖vec c - r‖) ∧
        ‖vec out.x - r‖ ≤ sysQ (pertB β₀ ε) γ ρ ε * ‖vec c - r‖ ∧
        (1 - β₀ * γ * ρ / 2) * ‖vec c - r‖ ≤ β₀ * tol ∧
        (1 - β₀ * γ * ρ / 2) * ‖vec out.x - r‖ ≤ sysQ (pertB β₀ ε) γ ρ ε * (β₀ * tol)) ∧
      (1 ≤ m → (‖F' r‖ + γ * ρ / 2) * sysQ (pertB β₀ ε) γ ρ ε ^ (m - 1) * ‖vec guess - r‖ ≤ tol →
        out.ok = true) := by
  have hρ : 0 ≤ ρ := le_trans (norm_nonneg _) hg'
  have hB := pertB_nonneg hβ hsmall
  have hq0 := sysQ_nonneg hB H.hγ hρ hε
  have hγρ : 0 ≤ γ * ρ / 2 := div_nonneg (mul_nonneg H.hγ hρ) zero_le_two
  have hlow : β₀ * γ * ρ / 2 ≤ sysQ (pertB β₀ ε) γ ρ ε :=
    calc β₀ * γ * ρ / 2 = β₀ * (γ * ρ / 2) := by ring
      _ ≤ pertB β₀ ε * (γ * ρ / 2) := mul_le_mul_of_nonneg_right (le_pertB hβ hε hsmall) hγρ
      _ ≤ pertB β₀ ε * (γ * ρ / 2 + ε) :=
          mul_le_mul_of_nonneg_left (le_add_of_nonneg_right hε) hB
  obtain ⟨out, tr', e, ⟨o1, o1'⟩, o2, o3, o4⟩ := solveSys_run f normInf jacF
    (fun c => ‖vec c - r‖) (fun c => ‖F (vec c)‖) tol (sysQ (pertB β₀ ε) γ ρ ε)
    (fun c => c.size = n ∧ ‖vec c - r‖ ≤ ρ)
    (fun c c' => ‖vec c' - r‖ ≤ pertB β₀ ε * (γ / 2 * ‖vec c - r‖ ^ 2 + ε * ‖vec c - r‖))
    (fun c => norm_nonneg _) hq0 hq.le
    (by
      rintro cur ⟨hc, hcb⟩
      obtain ⟨J, jtr, dx, cur', j1, s1, s2, s3, s4, s5⟩ := hstep cur hc hcb
      obtain ⟨t1, t2, t3⟩ := H.step hB hq.le hcb s5
      exact ⟨J, jtr, dx, cur', s1, j1, s2, s3, ⟨s4, t3⟩, t2, t1⟩)
    m guess tr ⟨hg, hg'⟩
  refine ⟨out, tr', e, o1, o2, fun ho => (o3 ho).1, fun ho => ?_, fun hm htol => ?_⟩
  · obtain ⟨k, c, c0, ⟨c1, c1'⟩, c2, c3, c4, c5⟩ := o4 ho
    have hc : (1 - β₀ * γ * ρ / 2) * ‖vec c - r‖ ≤ β₀ * tol :=
      (H.residual_lower hβ c1' (hinv _ c1')).trans (mul_le_mul_of_nonneg_left c3 hβ)
    exact ⟨k, c, c0, c1, c2, c3, c4, c5, hc,
      (mul_le_mul_of_nonneg_left c5 (sub_nonneg.2 (hlow.trans hq.le))).trans
        ((mul_left_comm _ _ _).trans_le (mul_le_mul_of_nonneg_left hc hq0))⟩
  · by_contra hne
    obtain ⟨c, ⟨_, c1'⟩, c2, c3⟩ := (o3 (Bool.eq_false_iff.mpr hne)).2 (m - 1) (by omega)
    have h2 := mul_le_mul_of_nonneg_left c2 (add_nonneg (norm_nonneg (F' r)) hγρ)
    rw [← mul_assoc] at h2
    exact not_le.mpr c3 (((H.residual_upper c1').trans h2).trans htol)

/-- **each model iteration with the supplied (exact) Jacobian IS the Newton step** (`ε = 0`):
    if the Jacobian routine returned a well-formed `n × n` matrix whose entries are those of
    `F'(cur)` and `F'(cur)` is bounded below by `1/β` (nonsingular, `‖F'(cur)⁻¹‖∞ ≤ β`), all four
    sub-computations of the iteration return and `F'(cur) (cur - cur') = F(cur)`. -/
theorem model_step_supplied (hn : 1 ≤ n) (Ff : (Fin n → ℝ) → (Fin n → ℝ))
    (F' : (Fin n → ℝ) → (Fin n → ℝ) →L[ℝ] (Fin n → ℝ)) (β : ℝ) (cur : Array ℝ) (hc : cur.size = n)
    (hinv : ∀ v, ‖v‖ ≤ β * ‖F' (vec n cur) v‖)
    {J : Mat ℝ} {e : ℕ → ℕ → ℝ} (hJ : Mat.Is J n n e)
    (he : ∀ i j : Fin n, e i j = F' (vec n cur) (Pi.single j 1) i) :
    ∃ dx cur', Vec.normInf (arrayForm Ff cur) = .ok ‖Ff (vec n cur)‖ ∧
      Mat.solveBasic J (arrayForm Ff cur) = .ok dx ∧ Vec.sub cur dx = .ok cur' ∧ cur'.size = n ∧
      F' (vec n cur) (vec n cur - vec n cur') = Ff (vec n cur) ∧
      QStep Ff F' β 0 (vec n cur) (vec n cur') := by
  have hm := matCLM_eq e _ he
  obtain ⟨dx, cur', h1, h2, h3, h4, h5⟩ := model_step_gen hn Ff cur hc hJ (β := β)
    (by rw [hm]; exact hinv)
  rw [hm] at h5
  exact ⟨dx, cur', h1, h2, h3, h4, h5, F' (vec n cur), hinv, by rw [sub_self, norm_zero], h5⟩

/-- **local convergence of the model's system Newton iteration, SUPPLIED Jacobian**
    (`solve_jacobian`; exact real arithmetic, sup norm, `n ≥ 1`).  `F` has a `γ`-Lipschitz
    derivative on the ball `B(r, ρ)` around the root `r`, `‖F'(x)⁻¹‖∞ ≤ β` there (so `r` is a simple
    root and `solve_basic` never refuses), the supplied routine returns the matrix of `F'` at every
    point of the ball, and `q = β γ ρ / 2 < 1`.  From any guess in the ball, any `tol`, any budget `m`:
    the run returns; the returned point is never farther from `r` than the guess; a failure has
    error `≤ q^m ‖x₀ - r‖`; a success returns the Newton update `x` of an iterate `c` with
    `‖F c‖∞ ≤ tol`, `‖c - r‖ ≤ q^k ‖x₀ - r‖`, and `‖x - r‖ ≤ (βγ/2) ‖c - r‖² ≤ q ‖c - r‖`
    (QUADRATIC convergence), `(1 - q) ‖c - r‖ ≤ β tol`, `(1 - q) ‖x - r‖ ≤ q β tol` — a distance of
    the order of the tolerance; and success IS reported once
    `(‖F' r‖ + γρ/2) q^(m-1) ‖x₀ - r‖ ≤ tol`. -/
theorem solveSys_converges_supplied (hn : 1 ≤ n) (Ff : (Fin n → ℝ) → (Fin n → ℝ))
    (F' : (Fin n → ℝ) → (Fin n → ℝ) →L[ℝ] (Fin n → ℝ)) (r : Fin n → ℝ) (ρ γ β : ℝ)
    (H : SysBall Ff F' r ρ γ) (hβ : 0 ≤ β)
    (hinv : ∀ x, ‖x - r‖ ≤ ρ → ∀ v, ‖v‖ ≤ β * ‖F' x v‖)
    (hq : β * γ * ρ / 2 < 1)
    (jacF : Array ℝ → Res (Mat ℝ × List (Array ℝ)))
    (hJac : ∀ cur : Array ℝ, cur.size = n → ‖vec n cur - r‖ ≤ ρ → ∃ J jtr e,
      jacF cur = .ok (J, jtr) ∧ Mat.Is J n n e ∧
      ∀ i j : Fin n, e i j = F' (vec n cur) (Pi.single j 1) i)
    (tol : ℝ) (m : ℕ) (guess : Array ℝ) (hg : guess.size = n) (hg' : ‖vec n guess - r‖ ≤ ρ)
    (tr : List (Array ℝ)) :
    ∃ out tr', solveSys (arrayForm Ff) jacF Vec.normInf (fun s => Transc.le s tol) m guess tr
        = .ok (out, tr') ∧
      out.x.size = n ∧ ‖vec n out.x - r‖ ≤ ‖vec n guess - r‖ ∧
      (out.ok = false → ‖vec n out.x - r‖ ≤ (β * γ * ρ / 2) ^ m * ‖vec n guess - r‖) ∧
      (out.ok = true → ∃ k c, k < m ∧ c.size = n ∧
        ‖vec n c - r‖ ≤ (β * γ * ρ / 2) ^ k * ‖vec n guess - r‖ ∧
        ‖Ff (vec n c)‖ ≤ tol ∧
        ‖vec n out.x - r‖ ≤ β * γ / 2 * ‖vec n c - r‖ ^ 2 ∧
        ‖vec n out.x - r‖ ≤ β * γ * ρ / 2 * ‖vec n c - r‖ ∧
        (1 - β * γ * ρ / 2) * ‖vec n c - r‖ ≤ β * tol ∧
        (1 - β * γ * ρ / 2) * ‖vec n out.x - r‖ ≤ β * γ * ρ / 2 * (β * tol)) ∧
      (1 ≤ m → (‖F' r‖ + γ * ρ / 2) * (β * γ * ρ / 2) ^ (m - 1) * ‖vec n guess - r‖ ≤ tol →
        out.ok = true) := by
  have h0 : β * 0 < 1 := by rw [mul_zero]; exact one_pos
  obtain ⟨out, tr', e, o1, o2, o3, o4, o5⟩ := solveSys_converges_gen (vec n) Ff F' r ρ γ β 0 H hβ
    le_rfl h0 hinv (by rw [pertB_zero, sysQ_zero]; exact hq) (arrayForm Ff) Vec.normInf jacF
    (by
      intro cur hc hcb
      obtain ⟨J, jtr, e, j1, j2, j3⟩ := hJac cur hc hcb
      obtain ⟨dx, cur', s⟩ := model_step_qstep hn Ff F' β 0 hβ h0 cur hc (hinv _ hcb) j2
        (by rw [matCLM_eq e _ j3, sub_self, norm_zero])
      exact ⟨J, jtr, dx, cur', j1, s⟩)
    tol m guess hg hg' tr
  rw [pertB_zero, sysQ_zero] at o3 o4 o5
  refine ⟨out, tr', e, o1, o2, o3, fun ho => ?_, o5⟩
  obtain ⟨k, c, c0, c1, c2, c3, c4, c5, c6, c7⟩ := o4 ho
  exact ⟨k, c, c0, c1, c2, c3, c4.trans_eq (by ring), c5, c6, c7⟩

/-- **local convergence of the model's system Newton iteration, FINITE-DIFFERENCE Jacobian**
    (`Newton<Vec64>::solve`; exact real arithmetic, sup norm, `n ≥ 1`).  As
    `solveSys_converges_supplied`, with `F` Fréchet differentiable at every point of the ball and
    every partial function `t ↦ F_i(x + t e_j)` twice differentiable between `0` and `δ` with
    second derivative bounded by `M₂` (for `x` in the ball): by `C18.jacobian_accuracy_fderiv` the
    computed Jacobian is within `M₂|δ|/2` of `F'` entrywise, hence within `ε = n M₂ |δ| / 2` in
    operator norm; if `β₀ ε < 1` it is nonsingular with inverse bounded by `β = β₀/(1 - β₀ ε)` (no
    hypothesis on the computed matrix is needed) and if `q = β (γρ/2 + ε) < 1` the conclusions of
    `solveSys_converges_gen` hold: geometric decrease with ratio `q`, one-step estimate
    `‖x⁺ - r‖ ≤ β (γ/2 ‖x - r‖² + ε ‖x - r‖)` (quadratic up to the `O(δ)` linear term), success
    within a distance of the order of `tol`. -/
theorem solveSys_converges_fd (hn : 1 ≤ n) (Ff : (Fin n → ℝ) → (Fin n → ℝ))
    (F' : (Fin n → ℝ) → (Fin n → ℝ) →L[ℝ] (Fin n → ℝ)) (r : Fin n → ℝ) (ρ γ β₀ δ M₂ : ℝ)
    (H : SysBall Ff F' r ρ γ) (hβ : 0 ≤ β₀) (hδ : δ ≠ 0)
    (hFD : ∀ x, ‖x - r‖ ≤ ρ → HasFDerivAt Ff (F' x) x)
    (hsm : ∀ x, ‖x - r‖ ≤ ρ → ∀ (i j : Fin n), ∃ g' g'' : ℝ → ℝ,
      (∀ t ∈ uIcc 0 δ, HasDerivAt (fun s => Ff (Function.update x j (x j + s)) i) (g' t) t) ∧
      (∀ t ∈ uIcc 0 δ, HasDerivAt g' (g'' t) t) ∧ ∀ t ∈ uIcc 0 δ, |g'' t| ≤ M₂)
    (hsmall : β₀ * (n * (M₂ * |δ| / 2)) < 1)
    (hinv : ∀ x, ‖x - r‖ ≤ ρ → ∀ v, ‖v‖ ≤ β₀ * ‖F' x v‖)
    (hq : sysQ (pertB β₀ (n * (M₂ * |δ| / 2))) γ ρ (n * (M₂ * |δ| / 2)) < 1)
    (tol : ℝ) (m : ℕ) (guess : Array ℝ) (hg : guess.size = n) (hg' : ‖vec n guess - r‖ ≤ ρ)
    (tr : List (Array ℝ)) :
    ∃ out tr', solveSys (arrayForm Ff) (fun x => jacobian (arrayForm Ff) x δ) Vec.normInf
        (fun s => Transc.le s tol) m guess tr = .ok (out, tr') ∧
      out.x.size = n ∧ ‖vec n out.x - r‖ ≤ ‖vec n guess - r‖ ∧
      (out.ok = false → ‖vec n out.x - r‖
        ≤ sysQ (pertB β₀ (n * (M₂ * |δ| / 2))) γ ρ (n * (M₂ * |δ| / 2)) ^ m * ‖vec n guess - r‖) ∧
      (out.ok = true → ∃ k c, k < m ∧ c.size = n ∧
        ‖vec n c - r‖
          ≤ sysQ (pertB β₀ (n * (M₂ * |δ| / 2))) γ ρ (n * (M₂ * |δ| / 2)) ^ k * ‖vec n guess - r‖ ∧
        ‖Ff (vec n c)‖ ≤ tol ∧
        ‖vec n out.x - r‖ ≤ pertB β₀ (n * (M₂ * |δ| / 2)) *
          (γ / 2 * ‖vec n c - r‖ ^ 2 + n * (M₂ * |δ| / 2) * ‖vec n c - r‖) ∧
        ‖vec n out.x - r‖
          ≤ sysQ (pertB β₀ (n * (M₂ * |δ| / 2))) γ ρ (n * (M₂ * |δ| / 2)) * ‖vec n c - r‖ ∧
        (1 - β₀ * γ * ρ / 2) * ‖vec n c - r‖ ≤ β₀ * tol ∧
        (1 - β₀ * γ * ρ / 2) * ‖vec n out.x - r‖
          ≤ sysQ (pertB β₀ (n * (M₂ * |δ| / 2))) γ ρ (n * (M₂ * |δ| / 2)) * (β₀ * tol)) ∧
      (1 ≤ m → (‖F' r‖ + γ * ρ / 2) *
          sysQ (pertB β₀ (n * (M₂ * |δ| / 2))) γ ρ (n * (M₂ * |δ| / 2)) ^ (m - 1) *
          ‖vec n guess - r‖ ≤ tol → out.ok = true) := by
  -- `M₂ ≥ 0` (read off the hypothesis at the root)
  have hM : 0 ≤ M₂ := by
    obtain ⟨g', g'', _, _, h3⟩ := hsm r (norm_sub_self_le hg') ⟨0, hn⟩ ⟨0, hn⟩
    exact le_trans (abs_nonneg _) (h3 0 left_mem_uIcc)
  have hη : 0 ≤ M₂ * |δ| / 2 := div_nonneg (mul_nonneg hM (abs_nonneg δ)) zero_le_two
  refine solveSys_converges_gen (vec n) Ff F' r ρ γ β₀ (n * (M₂ * |δ| / 2)) H hβ
    (mul_nonneg n.cast_nonneg hη)
    hsmall hinv hq (arrayForm Ff) Vec.normInf _ (fun cur hc hcb => ?_) tol m guess hg hg' tr
  obtain ⟨J, jtr, e, j1, _, j3, j4⟩ := C18.jacobian_accuracy_fderiv Ff (vec n cur) δ M₂ hδ
    (F' (vec n cur)) (hFD _ hcb) (hsm _ hcb)
  rw [ofFn_vec hc] at j1
  obtain ⟨dx, cur', s⟩ := model_step_qstep hn Ff F' β₀ _ hβ hsmall cur hc (hinv _ hcb) j3
    (opNorm_sub_le_of_entries e _ _ hη j4)
  exact ⟨J, jtr, dx, cur', j1, s⟩

end Conv

end Model

section Examples

/-- `G(x, y) = (x² + y - 2, x + y² - 2)`, simple root `(1, 1)` -/
noncomputable def exG : (Fin 2 → ℝ) → (Fin 2 → ℝ) :=
  fun v => ![v 0 ^ 2 + v 1 - 2, v 0 + v 1 ^ 2 - 2]

/-- its Jacobian matrix `[[2x, 1], [1, 2y]]` -/
noncomputable def exGJ (x : Fin 2 → ℝ) : ℕ → ℕ → ℝ := fun i j =>
  if i = 0 then (if j = 0 then 2 * x 0 else 1) else (if j = 0 then 1 else 2 * x 1)

noncomputable def exG' (x : Fin 2 → ℝ) : (Fin 2 → ℝ) →L[ℝ] (Fin 2 → ℝ) := matCLM 2 (exGJ x)

theorem exG'_apply (x v : Fin 2 → ℝ) :
    exG' x v = ![2 * x 0 * v 0 + v 1, v 0 + 2 * x 1 * v 1] := by
  funext i
  fin_cases i <;> simp [exG', matCLM_apply, Fin.sum_univ_two, exGJ]

theorem exG_hasFDerivAt (x : Fin 2 → ℝ) : HasFDerivAt exG (exG' x) x := by
  have p0 := hasFDerivAt_apply (𝕜 := ℝ) (0 : Fin 2) x
  have p1 := hasFDerivAt_apply (𝕜 := ℝ) (1 : Fin 2) x
  rw [hasFDerivAt_pi']
  intro i
  fin_cases i
  · exact (((p0.pow 2).add p1).sub_const 2).congr_fderiv (by ext v; simp [exG'_apply])
  · exact ((p0.add (p1.pow 2)).sub_const 2).congr_fderiv (by ext v; simp [exG'_apply])

theorem exG'_lipschitz (x z : Fin 2 → ℝ) : ‖exG' z - exG' x‖ ≤ 2 * ‖z - x‖ := by
  refine ContinuousLinearMap.opNorm_le_bound _ (by positivity) (fun v => ?_)
  rw [pi_norm_le_iff_of_nonneg (by positivity)]
  intro i
  have hz := norm_le_pi_norm (z - x) i
  have hv := norm_le_pi_norm v i
  rw [Real.norm_eq_abs] at hz hv
  have key : (exG' z - exG' x) v i = 2 * (z - x) i * v i := by
    rw [sub_apply, exG'_apply, exG'_apply]
    fin_cases i <;> simp <;> ring
  rw [key, Real.norm_eq_abs, abs_mul, abs_mul, abs_of_pos (by norm_num : (0 : ℝ) < 2)]
  have := mul_le_mul hz hv (abs_nonneg _) (norm_nonneg _)
  linarith

/-- at the root `(1, 1)` the Jacobian `[[2, 1], [1, 2]]` has `‖·⁻¹‖∞ = 1` -/
theorem exG'_root_bddBelow (v : Fin 2 → ℝ) : ‖v‖ ≤ 1 * ‖exG' (fun _ => 1) v‖ := by
  rw [one_mul, pi_norm_le_iff_of_nonneg (norm_nonneg _)]
  have h0 := norm_le_pi_norm (exG' (fun _ => 1) v) 0
  have h1 := norm_le_pi_norm (exG' (fun _ => 1) v) 1
  have e0 : exG' (fun _ => 1) v 0 = 2 * v 0 + v 1 := by rw [exG'_apply]; simp
  have e1 : exG' (fun _ => 1) v 1 = v 0 + 2 * v 1 := by rw [exG'_apply]; simp
  rw [e0, Real.norm_eq_abs] at h0
  rw [e1, Real.norm_eq_abs] at h1
  obtain ⟨a0, b0⟩ := abs_le.mp h0
  obtain ⟨a1, b1⟩ := abs_le.mp h1
  intro i
  rw [Real.norm_eq_abs, abs_le]
  fin_cases i <;> constructor <;> simp <;> linarith

theorem exG_sysBall : SysBall exG exG' (fun _ => 1) (1 / 8) 2 where
  hroot := by funext i; fin_cases i <;> simp [exG] <;> norm_num
  hγ := by norm_num
  hF := fun z _ => (exG_hasFDerivAt z).hasFDerivWithinAt
  hL := fun x _ z _ => exG'_lipschitz x z

/-- on the ball of radius `1/8` around `(1, 1)`: `‖G'(x)⁻¹‖∞ ≤ 4/3` (perturbation lemma) -/
theorem exG'_bddBelow (x : Fin 2 → ℝ) (hx : ‖x - (fun _ => 1)‖ ≤ 1 / 8) (v : Fin 2 → ℝ) :
    ‖v‖ ≤ 4 / 3 * ‖exG' x v‖ := by
  have h := exG_sysBall.bddBelow_of_root zero_le_one exG'_root_bddBelow (by norm_num) hx v
  norm_num at h
  exact h

/-- the user-supplied Jacobian routine of `G` -/
noncomputable def exGJac : Array ℝ → Res (Mat ℝ × List (Array ℝ)) :=
  fun a => .ok (⟨#[2 * a.getD 0 0, 1, 1, 2 * a.getD 1 0], 2, 2⟩, [])

theorem exGJac_spec (cur : Array ℝ) : ∃ J jtr e, exGJac cur = .ok (J, jtr) ∧ Mat.Is J 2 2 e ∧
    ∀ i j : Fin 2, e i j = exG' (vec 2 cur) (Pi.single j 1) i := by
  refine ⟨_, _, _, rfl, Mat.WFn.is ⟨rfl, rfl, rfl⟩, fun i j => ?_⟩
  refine Eq.trans ?_ (matCLMK_single (exGJ (vec 2 cur)) i j).symm
  fin_cases i <;> fin_cases j <;> rfl

theorem exGuess_mem : ‖vec 2 #[9 / 8, 7 / 8] - (fun _ => (1 : ℝ))‖ ≤ 1 / 8 := by
  rw [pi_norm_le_iff_of_nonneg (by norm_num)]
  intro i
  rw [Real.norm_eq_abs, abs_le]
  fin_cases i <;> constructor <;> simp [vec] <;> norm_num

/-- **non-vacuity, supplied Jacobian**: `G(x, y) = (x² + y - 2, x + y² - 2)` near its simple root
    `(1, 1)`: `ρ = 1/8`, `γ = 2`, `β = 4/3`, `q = 1/6`.  From the guess `(9/8, 7/8)` the model's
    `solve_jacobian` returns for every `tol` and every budget, stays within `1/8` of the root, a
    failure has error `≤ (1/6)^m / 8`, and a reported success is within `4/15 · tol` of the root. -/
example (tol : ℝ) (m : ℕ) :
    ∃ out tr', solveSys (arrayForm exG) exGJac Vec.normInf (fun s => Transc.le s tol) m
        #[9 / 8, 7 / 8] [] = .ok (out, tr') ∧
      ‖vec 2 out.x - (fun _ => (1 : ℝ))‖ ≤ 1 / 8 ∧
      (out.ok = false → ‖vec 2 out.x - (fun _ => (1 : ℝ))‖ ≤ (1 / 6) ^ m * (1 / 8)) ∧
      (out.ok = true → ‖vec 2 out.x - (fun _ => (1 : ℝ))‖ ≤ 4 / 15 * tol) := by
  obtain ⟨out, tr', e, _, o2, o3, o4, _⟩ := solveSys_converges_supplied (n := 2) (by norm_num) exG
    exG' (fun _ => 1) (1 / 8) 2 (4 / 3) exG_sysBall (by norm_num) exG'_bddBelow (by norm_num)
    exGJac (fun cur _ _ => exGJac_spec cur) tol m #[9 / 8, 7 / 8] rfl exGuess_mem []
  have hq : (4 / 3 : ℝ) * 2 * (1 / 8) / 2 = 1 / 6 := by norm_num
  rw [hq] at o3 o4
  refine ⟨out, tr', e, le_trans o2 exGuess_mem, fun ho => le_trans (o3 ho) ?_, fun ho => ?_⟩
  · exact mul_le_mul_of_nonneg_left exGuess_mem (by positivity)
  · obtain ⟨k, c, _, _, _, _, _, _, _, c7⟩ := o4 ho
    exact ((le_div_iff₀' (by norm_num)).mpr c7).trans_eq (by ring)

theorem quad_partial (a b c d M : ℝ) (ha : |2 * a| ≤ M) (S : Set ℝ) : ∃ g' g'' : ℝ → ℝ,
    (∀ t ∈ S, HasDerivAt (fun s => a * (c + s) ^ 2 + b * (c + s) + d) (g' t) t) ∧
    (∀ t ∈ S, HasDerivAt g' (g'' t) t) ∧ ∀ t ∈ S, |g'' t| ≤ M := by
  refine ⟨fun t => 2 * a * (c + t) + b, fun _ => 2 * a, fun t _ => ?_, fun t _ => ?_, fun _ _ => ha⟩
  · have h := (hasDerivAt_id' t).const_add c
    exact ((((h.pow 2).const_mul a).add (h.const_mul b)).add_const d).congr_deriv (by simp; ring)
  · exact ((((hasDerivAt_id' t).const_add c).const_mul (2 * a)).add_const b).congr_deriv (by ring)

/-- the partial functions of `G` are quadratics with `|∂²G_i/∂x_j²| ≤ 2` -/
theorem exG_partials (x : Fin 2 → ℝ) (δ : ℝ) (i j : Fin 2) : ∃ g' g'' : ℝ → ℝ,
    (∀ t ∈ uIcc 0 δ, HasDerivAt (fun s => exG (Function.update x j (x j + s)) i) (g' t) t) ∧
    (∀ t ∈ uIcc 0 δ, HasDerivAt g' (g'' t) t) ∧ ∀ t ∈ uIcc 0 δ, |g'' t| ≤ 2 := by
  suffices h : ∃ a b c d : ℝ, |2 * a| ≤ 2 ∧ (fun s => exG (Function.update x j (x j + s)) i)
      = fun s => a * (c + s) ^ 2 + b * (c + s) + d by
    obtain ⟨a, b, c, d, ha, e⟩ := h
    rw [e]
    exact quad_partial a b c d 2 ha _
  fin_cases i <;> fin_cases j
  · exact ⟨1, 0, x 0, x 1 - 2, by norm_num, by funext s; simp [exG]; ring⟩
  · exact ⟨0, 1, x 1, x 0 ^ 2 - 2, by norm_num, by funext s; simp [exG]; ring⟩
  · exact ⟨0, 1, x 0, x 1 ^ 2 - 2, by norm_num, by funext s; simp [exG]; ring⟩
  · exact ⟨1, 0, x 1, x 0 - 2, by norm_num, by funext s; simp [exG]; ring⟩

/-- **non-vacuity, finite-difference Jacobian**: the same system with `δ = 1/1000`
    (`M₂ = 2`, `ε = 1/500`, `β = 250/187`, `q = 127/748`): the model's `solve` returns from the
    guess `(9/8, 7/8)` for every `tol` and budget, stays within `1/8` of the root, and a failure
    has error `≤ (127/748)^m / 8`. -/
example (tol : ℝ) (m : ℕ) :
    ∃ out tr', solveSys (arrayForm exG) (fun x => jacobian (arrayForm exG) x (1 / 1000)) Vec.normInf
        (fun s => Transc.le s tol) m #[9 / 8, 7 / 8] [] = .ok (out, tr') ∧
      ‖vec 2 out.x - (fun _ => (1 : ℝ))‖ ≤ 1 / 8 ∧
      (out.ok = false → ‖vec 2 out.x - (fun _ => (1 : ℝ))‖ ≤ (127 / 748) ^ m * (1 / 8)) ∧
      (out.ok = true → ‖vec 2 out.x - (fun _ => (1 : ℝ))‖ ≤ 127 / 748 * (8 / 5 * tol)) := by
  have hδ : |(1 / 1000 : ℝ)| = 1 / 1000 := abs_of_pos (by norm_num)
  have hε : ((2 : ℕ) : ℝ) * (2 * |(1 / 1000 : ℝ)| / 2) = 1 / 500 := by rw [hδ]; norm_num
  have hB : pertB (4 / 3) (1 / 500) = 250 / 187 := by rw [pertB]; norm_num
  have hQ : sysQ (250 / 187) 2 (1 / 8) (1 / 500) = 127 / 748 := by rw [sysQ]; norm_num
  obtain ⟨out, tr', e, _, o2, o3, o4, _⟩ := solveSys_converges_fd (n := 2) (by norm_num) exG
    exG' (fun _ => 1) (1 / 8) 2 (4 / 3) (1 / 1000) 2 exG_sysBall (by norm_num) (by norm_num)
    (fun x _ => exG_hasFDerivAt x) (fun x _ i j => exG_partials x _ i j)
    (by rw [hε]; norm_num) exG'_bddBelow (by rw [hε, hB, hQ]; norm_num)
    tol m #[9 / 8, 7 / 8] rfl exGuess_mem []
  rw [hε, hB, hQ] at o3 o4
  refine ⟨out, tr', e, le_trans o2 exGuess_mem, fun ho => le_trans (o3 ho) ?_, fun ho => ?_⟩
  · exact mul_le_mul_of_nonneg_left exGuess_mem (by positivity)
  · obtain ⟨k, c, _, _, _, _, _, _, _, c7⟩ := o4 ho
    exact ((le_div_iff₀' (by norm_num)).mpr c7).trans_eq (by ring)

end Examples
end Ohsl.Props.C17
