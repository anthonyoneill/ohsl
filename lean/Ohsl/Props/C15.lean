/-
  Property C15 — vectors (model: Ohsl/Model/Vec.lean; the model IS the plain list/array model the
  property refers to, so "after any sequence of edits the vector equals a list model" holds by
  construction of the model and is checked on the code by the correspondence).
  Proved here, class (S): size laws of the edits, rejections of the checked operations, and the
  range reductions' guards.
  Also what the guarded sums return on valid arguments (the left fold over the index range, of which
  the exact sums of C15N and the rounding bounds of C15F are readings), the entries of
  `vector * scalar`, and when `&a + &b` succeeds.
-/
import Ohsl.Model.Vec
import Ohsl.Lemmas.ArrayIndex
import Ohsl.Lemmas.MatIdx
set_option linter.unusedSectionVars false
namespace Ohsl.Props.C15
open Ohsl Ohsl.Vec

section Structural
variable {K : Type} [Add K] [Sub K] [Mul K] [Neg K] [Zero K] [One K] [BEq K] [ScalarExt K]

theorem add_size (a b : Array K) (h : a.size = b.size) : ∃ c, add a b = .ok c ∧ c.size = a.size := by
  refine ⟨Array.zipWith (· + ·) a b, by simp [add, h], by simp [h]⟩

theorem push_pop (a : Array K) (x : K) : pop (push a x) = .ok (x, a) := by
  simp [pop, push]

theorem insert_size (a : Array K) (p : Nat) (x : K) (h : p ≤ a.size) :
    ∃ c, insert a p x = .ok c ∧ c.size = a.size + 1 := by
  refine ⟨a.extract 0 p ++ #[x] ++ a.extract p a.size, if_pos h, ?_⟩
  rw [Array.size_append, Array.size_append, Array.size_extract, Array.size_extract,
    Nat.min_eq_left h, Nat.min_self, Nat.sub_zero]
  show p + 1 + (a.size - p) = a.size + 1
  omega

theorem resize_size (a : Array K) (n : Nat) : (resize a n).size = n := by
  unfold resize
  split
  · rename_i h
    rw [Array.size_extract, Nat.min_eq_left h, Nat.sub_zero]
  · rename_i h
    rw [Array.size_append, Array.size_replicate, Nat.add_sub_cancel' (Nat.le_of_not_le h)]

theorem assign_size (a : Array K) (x : K) : (assign a x).size = a.size := by simp [assign]
theorem clear_size (a : Array K) : (clear a).size = 0 := by simp [clear]

end Structural

section Guards
variable {K : Type}

theorem binary_rejects [Add K] [Sub K] [Mul K] [Zero K] (a b : Array K) (h : a.size ≠ b.size) :
    add a b = .error .size ∧ sub a b = .error .size ∧ dot a b = .error .size := by
  simp [add, sub, dot, h]

theorem pop_empty : pop (#[] : Array K) = .error .unwrap := by simp [pop]

theorem insert_rejects (a : Array K) (p : Nat) (x : K) (h : a.size < p) : insert a p x = .error .range := by
  have : ¬ p ≤ a.size := by omega
  simp [Vec.insert, this]

theorem sumSlice_rejects [Add K] [Mul K] [Zero K] (a : Array K) (s e : Nat)
    (h : s > e ∨ a.size ≤ s ∨ a.size ≤ e) :
    sumSlice a s e = .error .range ∧ productSlice a s e = .error .range := by
  unfold sumSlice productSlice
  by_cases h1 : s > e
  · simp [h1]
  · by_cases h2 : a.size ≤ s
    · simp [h1, h2]
    · have h3 : a.size ≤ e := by omega
      simp [h1, h2, h3]

theorem add_ok_iff [Add K] (a b c : Array K) :
    add a b = .ok c ↔ a.size = b.size ∧ c = Array.zipWith (· + ·) a b :=
  Vec.add_eq_ok_iff

end Guards

section Sums
variable {K : Type} [Add K] [Zero K]

theorem sumSlice_ok (a : Array K) (s e : Nat) (hse : s ≤ e) (he : e < a.size) :
    sumSlice a s e = .ok ((a.extract s (e + 1)).foldl (· + ·) 0) := by
  unfold sumSlice
  rw [if_neg (by omega), if_neg (by omega), if_neg (by omega)]

theorem sum_eq_sumSlice (a : Array K) (h : 0 < a.size) : Vec.sum a = sumSlice a 0 (a.size - 1) := by
  unfold Vec.sum
  rw [usub_ok h]
  rfl

theorem sumSlice_eq_fold (a : Array K) (s e : Nat) (hse : s ≤ e) (he : e < a.size) :
    Vec.sumSlice a s e
      = .ok (((List.range' s (e + 1 - s)).map (fun j => a.getD j 0)).foldl (· + ·) 0) := by
  rw [sumSlice_ok a s e hse he, ← Array.foldl_toList,
    extract_toList_eq_map_range' a 0 s (e + 1) (by omega)]

theorem sum_eq_fold (a : Array K) (h : 0 < a.size) :
    Vec.sum a = .ok (((List.range a.size).map (fun j => a.getD j 0)).foldl (· + ·) 0) := by
  rw [sum_eq_sumSlice a h, sumSlice_eq_fold a 0 (a.size - 1) (Nat.zero_le _) (by omega),
    List.range_eq_range', Nat.sub_zero, Nat.sub_add_cancel h]

end Sums

section Products
variable {K : Type} [Mul K]

theorem product_eq_productSlice (a : Array K) (h : 0 < a.size) :
    product a = productSlice a 0 (a.size - 1) := by
  unfold product
  rw [usub_ok h]
  rfl

theorem smul_size (a : Array K) (c : K) : (smul a c).size = a.size := Array.size_map

theorem smul_getD [Zero K] (a : Array K) (c : K) {i : Nat} (hi : i < a.size) :
    (smul a c).getD i 0 = a.getD i 0 * c :=
  getD_map _ a 0 0 hi

end Products

end Ohsl.Props.C15
