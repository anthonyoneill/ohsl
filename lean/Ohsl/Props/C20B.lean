/-
  Property C20 (part B) — completion of the rejection clauses of C20.lean.
  Class (S): every theorem holds for ANY scalar type with arbitrary operations.

  Type by type, the guards C20.lean does not state or states with `∃ e` only (exact classes), and
  what a successful write keeps (`mat_keeps_shape`, `band_keeps_shape`, `tri_set_keeps_shape`,
  `sparse_insert_keeps_shape`, `mesh1_keeps_shape`, `mesh2_keeps_shape`); at the end the coverage
  table: every `.error`-producing guard of the model and the theorem that covers it.
-/
import Ohsl.Props.C20
import Ohsl.Props.C20K
import Ohsl.Props.C05A
import Ohsl.Props.C06W
import Ohsl.Props.C10
import Ohsl.Props.C12
import Ohsl.Props.C19A
import Ohsl.Lemmas.MatIdx
import Ohsl.Lemmas.BandSpec
import Ohsl.Lemmas.SolveSound
import Ohsl.Model.Inst
set_option linter.unusedSectionVars false
namespace Ohsl.Props.C20
open Ohsl
variable {K : Type} [Add K] [Sub K] [Mul K] [Neg K] [Zero K] [One K] [BEq K] [ScalarExt K]


theorem guard3 {α : Type} {p q r : Prop} [Decidable p] [Decidable q] [Decidable r] (e : Err)
    (x : Res α) (h : p ∨ q ∨ r) :
    (if p then .error e else if q then .error e else if r then .error e else x) = .error e := by
  by_cases hp : p
  · exact if_pos hp
  · rw [if_neg hp]
    by_cases hq : q
    · exact if_pos hq
    · rw [if_neg hq]; exact if_pos ((h.resolve_left hp).resolve_left hq)

theorem aget2_err {α β γ : Type} {a : Array α} {b : Array β} {i j : Nat} (k : α → β → Res γ)
    (h : a.size ≤ i ∨ b.size ≤ j) :
    (do let x ← aget a i; let y ← aget b j; k x y) = .error .range := by
  by_cases hi : a.size ≤ i
  · rw [Mat.aget_err hi]; rfl
  · rw [Mat.aget_ok (Nat.lt_of_not_le hi), Mat.aget_err (h.resolve_left hi)]; rfl

theorem aset_size {α : Type} {a a' : Array α} {i : Nat} {v : α} (h : aset a i v = .ok a') :
    a'.size = a.size := by
  cases ok_of_guard (p := ¬ i < a.size) (by rwa [aset, ← ite_not] at h)
  exact Array.size_setIfInBounds


/-- `solve_basic` / `solve_lu`: a right-hand side of the wrong length OR a non-square matrix is
    rejected; the class is `size` for both disjuncts (the length test comes first in the code, the
    squareness test second, both raise the same class). -/
theorem rejects_solvers_full (m : Mat K) (b : Array K) (h : m.rows ≠ b.size ∨ m.rows ≠ m.cols) :
    Mat.solveBasic m b = .error .size ∧ Mat.solveLU m b = .error .size :=
  ⟨C01.solveBasic_rejects m b h, C01.solveLU_rejects m b h⟩

/-- the hypothesis of `rejects_solvers_full` is satisfiable by a SQUARE matrix (which
    `rejects_solvers` of C20.lean, with its second hypothesis `rows ≠ cols`, does not cover) -/
example : Mat.solveBasic (Mat.new 2 2 (1 : Rat)) #[(1 : Rat)] = .error .size ∧
    Mat.solveLU (Mat.new 2 2 (1 : Rat)) #[(1 : Rat)] = .error .size :=
  rejects_solvers_full _ _ (Or.inl (by simp [Mat.new]))

/-- the LU factorisation, the determinant and the inverse reject a non-square matrix, class `size` -/
theorem rejects_lu_det_inv (m : Mat K) (h : m.rows ≠ m.cols) :
    Mat.luDecomp m = .error .size ∧ Mat.determinant m = .error .size ∧
    Mat.inverse m = .error .size :=
  ⟨by simp [Mat.luDecomp, h], C02.determinant_rejects m h, C02.inverse_rejects m h⟩

/-- a system of order 0 is rejected by both solvers (`rows - 1` underflows in `usize`) -/
theorem rejects_solvers_order0 (m : Mat K) (b : Array K) (h0 : m.rows = 0) (hc : m.cols = 0)
    (hb : b.size = 0) :
    Mat.solveBasic m b = .error .arith ∧ Mat.solveLU m b = .error .arith := by
  refine ⟨C01.solveBasic_order0 m b h0 hc hb, ?_⟩
  have hb' : b = #[] := Array.eq_empty_of_size_eq_zero hb
  subst hb'
  simp [Mat.solveLU, h0, hc, Mat.luDecomp, Mat.eye, Mat.forM', Mat.mulVec, Mat.new, Mat.forwardSub,
    Mat.backsolve, usub, bind, Except.bind, pure, Except.pure]

/-- the checked slice read / write and the `usize` subtraction every other guard is built from -/
theorem rejects_primitives {α : Type} (a : Array α) (i : Nat) (v : α) (x y : Nat) :
    (a.size ≤ i → aget a i = .error .range ∧ aset a i v = .error .range) ∧
    (x < y → usub x y = .error .arith) := by
  refine ⟨fun h => ⟨Mat.aget_err h, Mat.aset_err v h⟩, fun h => ?_⟩
  have : ¬ y ≤ x := Nat.not_le.mpr h
  simp [usub, this]

theorem rejects_vector_more (a b : Array K) (i j : Nat) (v : K) :
    (a.size ≠ b.size → Vec.addAssign a b = .error .size ∧ Vec.subAssign a b = .error .size) ∧
    ((a.size ≤ i ∨ a.size ≤ j) → Vec.swap a i j = .error .range) ∧
    (a.size = 0 → Vec.sum a = .error .arith ∧ Vec.product a = .error .arith ∧
      Vec.find a v = .error .arith ∧ Vec.pop a = .error .unwrap) := by
  refine ⟨fun h => ⟨(C15.binary_rejects a b h).1, (C15.binary_rejects a b h).2.1⟩, aget2_err _,
    fun h => ?_⟩
  · have ha : a = #[] := Array.eq_empty_of_size_eq_zero h
    subst ha
    refine ⟨by simp [Vec.sum, usub, bind, Except.bind], by simp [Vec.product, usub, bind, Except.bind],
      by simp [Vec.find, usub], by simp [Vec.pop]⟩

/-- a successful `swap` returns a vector of the same length -/
theorem vec_swap_keeps_shape (a a' : Array K) (i j : Nat) (h : Vec.swap a i j = .ok a') :
    a'.size = a.size := by
  unfold Vec.swap at h
  obtain ⟨x, _, h⟩ := bind_eq_ok h
  obtain ⟨y, _, h⟩ := bind_eq_ok h
  obtain ⟨a1, h3, h⟩ := bind_eq_ok h
  rw [aset_size h, aset_size h3]

section F64
variable [Div K] [Transc K]

/-- `norm_inf` of an empty vector reads `vec[0]`: rejected (real and complex vectors) -/
theorem rejects_normInf {α : Type} (absf : α → K) (e : Array α) (a : Array K) (c : Array (Cx K)) :
    (e.size = 0 → Vec.normInfBy absf e = .error .range) ∧
    (a.size = 0 → Vec.normInf a = .error .range) ∧ (c.size = 0 → Vec.normInfC c = .error .range) := by
  have key : ∀ {β : Type} (g : β → K) (w : Array β), w.size = 0 → Vec.normInfBy g w = .error .range := by
    intro β g w hw
    have : w = #[] := Array.eq_empty_of_size_eq_zero hw
    subst this
    simp [Vec.normInfBy]
  exact ⟨key absf e, key _ a, key _ c⟩

end F64

/-- raw index operators and `swap_elem`: only the flat offset is checked (outside the claim of
    C20 as far as the per-dimension ranges go), but an offset outside the buffer is rejected -/
theorem rejects_matrix_raw (m : Mat K) (i j i2 j2 : Nat) (v : K) :
    (m.data.size ≤ i * m.cols + j → m.get i j = .error .range ∧ m.set i j v = .error .range) ∧
    ((m.data.size ≤ i * m.cols + j ∨ m.data.size ≤ i2 * m.cols + j2) →
      Mat.swapElem m i j i2 j2 = .error .range) :=
  ⟨fun h => ⟨Mat.aget_err h, Mat.set_err v h⟩, aget2_err _⟩

/-- exact classes of the two guards of `set_row` / `set_col` (C20.lean: `∃ e`), and the second
    guard of `delete_row` (a buffer shorter than `rows * cols`) -/
theorem rejects_matrix_classes (m : Mat K) (k : Nat) (v : Array K) :
    (v.size ≠ m.cols → Mat.setRow m k v = .error .size) ∧
    (v.size = m.cols → m.rows ≤ k → Mat.setRow m k v = .error .range) ∧
    (v.size ≠ m.rows → Mat.setCol m k v = .error .size) ∧
    (v.size = m.rows → m.cols ≤ k → Mat.setCol m k v = .error .range) ∧
    (k < m.rows → m.data.size < (k + 1) * m.cols → Mat.deleteRow m k = .error .range) := by
  refine ⟨fun h => by simp [Mat.setRow, h], fun h1 h2 => by simp [Mat.setRow, h1, h2],
    fun h => by simp [Mat.setCol, h], fun h1 h2 => by simp [Mat.setCol, h1, h2], fun h1 h2 => ?_⟩
  have h1' : ¬ m.rows ≤ k := Nat.not_le.mpr h1
  simp [Mat.deleteRow, h1', h2]

/-- same `rows`, `cols` and buffer length -/
def SameShapeM (m m' : Mat K) : Prop :=
  m'.rows = m.rows ∧ m'.cols = m.cols ∧ m'.data.size = m.data.size

theorem SameShapeM.refl {α : Type} (m : Mat α) : SameShapeM m m := ⟨rfl, rfl, rfl⟩

theorem SameShapeM.trans {α : Type} {a b c : Mat α} (h1 : SameShapeM a b) (h2 : SameShapeM b c) :
    SameShapeM a c :=
  ⟨h2.1.trans h1.1, h2.2.1.trans h1.2.1, h2.2.2.trans h1.2.2⟩

theorem mat_set_keeps_shape {α : Type} {m m' : Mat α} {i j : Nat} {v : α} (h : m.set i j v = .ok m') :
    SameShapeM m m' := by
  unfold Mat.set at h
  obtain ⟨d, h1, h2⟩ := bind_eq_ok h
  cases h2
  exact ⟨rfl, rfl, aset_size h1⟩

theorem loop_keeps_shape {α : Type} {m m' : Mat α} {lo hi : Nat} {f : Mat α → Nat → Res (Mat α)}
    (hf : ∀ s i s1, f s i = .ok s1 → SameShapeM s s1) (h : Mat.forM' lo hi m f = .ok m') :
    SameShapeM m m' :=
  Mat.forM'_preserves (P := SameShapeM m) (fun s i s1 hp hs => hp.trans (hf s i s1 hs))
    (SameShapeM.refl m) h

theorem mat_swapElem_keeps_shape {α : Type} {m m' : Mat α} {r1 c1 r2 c2 : Nat}
    (h : Mat.swapElem m r1 c1 r2 c2 = .ok m') : SameShapeM m m' := by
  unfold Mat.swapElem at h
  obtain ⟨x, _, h⟩ := bind_eq_ok h
  obtain ⟨y, _, h⟩ := bind_eq_ok h
  obtain ⟨m1, h3, h⟩ := bind_eq_ok h
  exact (mat_set_keeps_shape h3).trans (mat_set_keeps_shape h)

/-- every writing entry point of the dense matrix: on success the shape (`rows`, `cols`, buffer
    length) is unchanged; on rejection nothing is returned (the result is `.error _`) -/
theorem mat_keeps_shape {α : Type} (m m' : Mat α) (i j i2 j2 : Nat) (v : α) (w : Array α) :
    (m.set i j v = .ok m' → SameShapeM m m') ∧
    (Mat.swapElem m i j i2 j2 = .ok m' → SameShapeM m m') ∧
    (Mat.swapRows m i i2 = .ok m' → SameShapeM m m') ∧
    (Mat.setRow m i w = .ok m' → SameShapeM m m') ∧
    (Mat.setCol m j w = .ok m' → SameShapeM m m') ∧
    (Mat.fillRow m i v = .ok m' → SameShapeM m m') ∧
    (Mat.fillCol m j v = .ok m' → SameShapeM m m') := by
  refine ⟨mat_set_keeps_shape, mat_swapElem_keeps_shape, fun h => ?_, fun h => ?_, fun h => ?_,
    fun h => ?_, fun h => ?_⟩
  · exact loop_keeps_shape (fun s k s1 hs => mat_swapElem_keeps_shape hs) (ok_of_guard h)
  · refine loop_keeps_shape (fun s k s1 hs => ?_) (ok_of_guard (ok_of_guard h))
    obtain ⟨x, _, hs⟩ := bind_eq_ok hs
    obtain ⟨d, h2, hs⟩ := bind_eq_ok hs
    cases hs
    exact ⟨rfl, rfl, aset_size h2⟩
  · refine loop_keeps_shape (fun s k s1 hs => ?_) (ok_of_guard (ok_of_guard h))
    obtain ⟨x, _, hs⟩ := bind_eq_ok hs
    exact mat_set_keeps_shape hs
  · exact loop_keeps_shape (fun s k s1 hs => mat_set_keeps_shape hs) (ok_of_guard h)
  · exact loop_keeps_shape (fun s k s1 hs => mat_set_keeps_shape hs) (ok_of_guard h)

/-- the index operator tests the band only; a row beyond `n` is caught by the compact buffer
    (`n` rows of `m1 + m2 + 1` slots), class `range` in both cases -/
theorem rejects_banded_rows (b : Band K) (hwf : b.compact.data.size = b.n * b.compact.cols)
    (i j : Nat) (x : K) (hi : b.n ≤ i) :
    Band.get b i j = .error .range ∧ Band.set b i j x = .error .range := by
  have hle : b.n * b.compact.cols ≤ i * b.compact.cols := Nat.mul_le_mul_right _ hi
  have hoff : b.compact.data.size ≤ i * b.compact.cols + (b.m1 + j - i) :=
    hwf ▸ Nat.le_trans hle (Nat.le_add_right _ _)
  exact ⟨guard_or (Mat.aget_err hoff), guard_or (by rw [Mat.set_err x hoff]; rfl)⟩

/-- more sub-diagonals than rows: `decompose`, `det` and `solve` are rejected (first-phase shift
    reads outside the compact buffer) -/
theorem rejects_banded_wide (b : Band K) (h : Band.WFb b) (hm : b.n < b.m1) (rhs : Array K)
    (hr : rhs.size = b.n) :
    Band.decompose b = .error .range ∧ Band.det b = .error .range ∧
    Band.solve b rhs = .error .range :=
  ⟨Band.decompose_rejects h hm, Band.det_rejects h hm, Band.solve_rejects_m1 h hm rhs hr⟩

/-- writes to a banded matrix: on success `(n, m1, m2)` and the shape of the compact storage are
    unchanged -/
theorem band_keeps_shape (b b' : Band K) (i j : Nat) (band : Int) (x : K) :
    (Band.set b i j x = .ok b' →
      b'.n = b.n ∧ b'.m1 = b.m1 ∧ b'.m2 = b.m2 ∧ SameShapeM b.compact b'.compact) ∧
    (Band.fillBand b band x = .ok b' →
      b'.n = b.n ∧ b'.m1 = b.m1 ∧ b'.m2 = b.m2 ∧ SameShapeM b.compact b'.compact) := by
  constructor
  · intro h
    obtain ⟨c, h1, h2⟩ := bind_eq_ok (ok_of_guard h)
    cases h2
    exact ⟨rfl, rfl, rfl, mat_set_keeps_shape h1⟩
  · intro h
    obtain ⟨c, h1, h2⟩ := bind_eq_ok (ok_of_guard h)
    cases h2
    exact ⟨rfl, rfl, rfl, (mat_keeps_shape b.compact c 0 _ 0 0 x #[]).2.2.2.2.2.2 h1⟩

/-- every guard of `Tridiagonal` that C20.lean does not state (no storage invariant needed) -/
theorem rejects_tridiagonal_more (t a b : Tri K) (i j : Nat) (v x y z : K) (sub main sup : Array K) :
    ((t.n ≤ i ∨ t.n ≤ j ∨ (i ≠ j ∧ i ≠ j + 1 ∧ i + 1 ≠ j)) →
      Tri.get t i j = .error .range ∧ Tri.set t i j v = .error .range) ∧
    (a.n ≠ b.n → Tri.add a b = .error .size ∧ Tri.sub' a b = .error .size) ∧
    (main.size = 0 → Tri.withVecs sub main sup = .error .arith) ∧
    (1 ≤ main.size → (sub.size ≠ main.size - 1 ∨ sup.size ≠ main.size - 1) →
      Tri.withVecs sub main sup = .error .size) ∧
    Tri.new (K := K) 0 = .error .arith ∧ Tri.withElements x y z 0 = .error .arith ∧
    ((t.main.size = 0 ∨ t.n = 0) → Tri.det t = .error .range) ∧
    (t.n = 0 → Tri.convert t = .error .range) := by
  refine ⟨fun h => ?_, fun h => ⟨C05.add_guard a b h, C05.sub_guard a b h⟩,
    C05.withVecs_guard_empty sub main sup, C05.withVecs_guard_size sub main sup,
    C05.new_guard, C05.withElements_guard x y z, fun h => ?_, C05.convert_guard t⟩
  · have h' : t.n ≤ i ∨ t.n ≤ j ∨ ¬ C05.inBand i j :=
      h.imp_right (Or.imp_right fun hb hin => hin.elim hb.1 fun hin => hin.elim hb.2.1 hb.2.2)
    exact ⟨C05.get_guard t i j h', C05.set_guard t i j v h'⟩
  · unfold Tri.det
    by_cases h0 : t.main.size = 0
    · simp [Mat.aget_err (Nat.le_of_eq h0), bind, Except.bind]
    · have hn : t.n = 0 := h.resolve_left h0
      simp [Mat.aget_ok (Nat.pos_of_ne_zero h0), hn, bind, Except.bind]

/-- a successful element write keeps `n` and the lengths of the three diagonals -/
theorem tri_set_keeps_shape (t t' : Tri K) (i j : Nat) (v : K) (h : Tri.set t i j v = .ok t') :
    t'.n = t.n ∧ t'.main.size = t.main.size ∧ t'.sub.size = t.sub.size ∧
    t'.sup.size = t.sup.size := by
  rcases ite_ok_cases (ok_of_guard h) with h | h
  · obtain ⟨a, h1, h2⟩ := bind_eq_ok h
    cases h2
    exact ⟨rfl, aset_size h1, rfl, rfl⟩
  rcases ite_ok_cases h with h | h
  · obtain ⟨a, h1, h2⟩ := bind_eq_ok h
    cases h2
    exact ⟨rfl, rfl, aset_size h1, rfl⟩
  rcases ite_ok_cases h with h | h
  · obtain ⟨a, h1, h2⟩ := bind_eq_ok h
    cases h2
    exact ⟨rfl, rfl, rfl, aset_size h1⟩
  · cases h

theorem rejects_sparse_more (s : Sp K) (rows cols r c : Nat) (v : K) (ts : List (Nat × Nat × K))
    (val : Array K) (ri cs : Array Nat) :
    ((∃ t, t ∈ ts ∧ ¬ (t.1 < rows ∧ t.2.1 < cols)) → Sp.fromTriplets rows cols ts = .error .range) ∧
    (cs.size = 0 → Sp.fromVecs rows cols val ri cs = .error .arith) ∧
    ((s.rows ≤ r ∨ s.cols ≤ c ∨ s.colStart.size ≤ c) →
      Sp.get s r c = .error .range ∧ Sp.insert s r c v = .error .range) ∧
    (s.nonzero ≠ 0 → s.colStart.size < s.cols + 1 → Sp.colIndex s = .error .range) := by
  refine ⟨C06.fromTriplets_rejects rows cols ts, fun h => ?_,
    fun h => ⟨guard3 .range _ h, guard3 .range _ h⟩, fun h1 h2 => ?_⟩
  · unfold Sp.fromVecs; rw [h]; rfl
  · unfold Sp.colIndex; rw [if_neg h1, if_pos h2]

theorem fromTriplets_shape {α : Type} {rows cols : Nat} {ts : List (Nat × Nat × α)} {s : Sp α}
    (h : Sp.fromTriplets rows cols ts = .ok s) : s.rows = rows ∧ s.cols = cols := by
  unfold Sp.fromTriplets at h
  obtain ⟨acc, _, h⟩ := bind_eq_ok h
  obtain ⟨ri, ci, vs⟩ := acc
  obtain ⟨cs, _, h⟩ := bind_eq_ok h
  cases h
  exact ⟨rfl, rfl⟩

/-- a successful `insert` keeps the dimensions of the matrix -/
theorem sparse_insert_keeps_shape (s s' : Sp K) (r c : Nat) (v : K)
    (h : Sp.insert s r c v = .ok s') : s'.rows = s.rows ∧ s'.cols = s.cols := by
  obtain ⟨ci, _, h⟩ := bind_eq_ok (ok_of_guard (ok_of_guard (ok_of_guard h)))
  obtain ⟨hit, _, h⟩ := bind_eq_ok h
  cases hit with
  | some k =>
    obtain ⟨vs, _, h⟩ := bind_eq_ok h
    cases h
    exact ⟨rfl, rfl⟩
  | none =>
    obtain ⟨ts, _, h⟩ := bind_eq_ok h
    exact fromTriplets_shape h

section Mesh
variable {T X : Type}

theorem poke_size {vs vs' : Array (Array T)} {a w : Nat} {x : T}
    (h : (do let row ← aget vs a; let row ← aset row w x; aset vs a row : Res (Array (Array T)))
      = .ok vs') : vs'.size = vs.size := by
  obtain ⟨row, _, h⟩ := bind_eq_ok h
  obtain ⟨row', _, h⟩ := bind_eq_ok h
  exact aset_size h

variable [Zero T]

/-- 1-D mesh: coordinates, raw node access, and the exact classes of `set_nodes_vars`
    (node test first: `range`; then the length test: `size`) -/
theorem rejects_mesh1_more (m : Mesh1 T X) (node : Nat) (v : Array T) :
    (m.nodes.size ≤ node → Mesh1.coord m node = .error .range) ∧
    (m.vars.size ≤ node → Mesh1.index m node = .error .range) ∧
    (m.nodes.size ≤ node → Mesh1.setNodesVars m node v = .error .range) ∧
    (node < m.nodes.size → v.size ≠ m.nvars → Mesh1.setNodesVars m node v = .error .size) := by
  refine ⟨fun h => Mat.aget_err h, fun h => Mat.aget_err h, fun h => ?_, fun h1 h2 => ?_⟩
  · simp [Mesh1.setNodesVars, h]
  · have h1' : ¬ m.nodes.size ≤ node := Nat.not_le.mpr h1
    simp [Mesh1.setNodesVars, h1', h2]

/-- raw `mesh[node][var] = x` on a 1-D mesh with one row of `nvars` entries per node -/
theorem rejects_mesh1_setVar (m : Mesh1 T X) (h : C19.WF1 m) (hs : C19.RowSized1 m)
    (node var : Nat) (x : T) (ho : m.nodes.size ≤ node ∨ m.nvars ≤ var) :
    Mesh1.setVar m node var x = .error .range := C19.setVar_rejects1 m h hs x ho

/-- 2-D mesh: coordinates, raw node access, cross sections (exact classes; the loop of a cross
    section runs only when the other direction is non-empty) -/
theorem rejects_mesh2_more (m : Mesh2 T X) (i j : Nat) :
    ((m.xnodes.size ≤ i ∨ m.ynodes.size ≤ j) → Mesh2.coord m i j = .error .range) ∧
    (m.vars.size ≤ i * m.ny + j → Mesh2.index m i j = .error .range) ∧
    (m.nx ≤ i → 0 < m.ny →
      Mesh2.crossSectionX m i = .error (if m.nx = 0 then .arith else .range)) ∧
    (m.ny ≤ j → 0 < m.nx →
      Mesh2.crossSectionY m j = .error (if m.ny = 0 then .arith else .range)) :=
  ⟨aget2_err _, fun h => Mat.aget_err h, C19.crossSectionX_err m, C19.crossSectionY_err m⟩

/-- exact classes of the checked 2-D accessors (C20.lean: `∃ e`): outside the grid the class is
    the one of the guard (`arith` when a direction is empty — `nx - 1` underflows — else `range`,
    x before y); a vector of the wrong length at a grid node is `size` -/
theorem rejects_mesh2_classes (m : Mesh2 T X) (i j : Nat) (v : Array T) :
    ((m.nx ≤ i ∨ m.ny ≤ j) →
      Mesh2.getNodesVars m i j = .error (if m.nx = 0 then .arith else if m.nx ≤ i then .range
        else if m.ny = 0 then .arith else .range) ∧
      Mesh2.setNodesVars m i j v = .error (if m.nx = 0 then .arith else if m.nx ≤ i then .range
        else if m.ny = 0 then .arith else .range)) ∧
    (i < m.nx → j < m.ny → v.size ≠ m.nvars → Mesh2.setNodesVars m i j v = .error .size) := by
  refine ⟨fun h => ⟨?_, ?_⟩, fun hi hj hv => ?_⟩
  · unfold Mesh2.getNodesVars; rw [C19.guard_err m i j h]; rfl
  · unfold Mesh2.setNodesVars; rw [C19.guard_err m i j h]; rfl
  · simp [Mesh2.setNodesVars, C19.guard_ok m hi hj, hv, bind, Except.bind]

/-- raw `mesh[(i,j)][var] = x` and `apply(func, var)` on a mesh with `nx*ny` rows of `nvars`
    entries: an offset outside the storage or an unknown variable is rejected (for `apply`
    provided the grid has a node at all; otherwise no write is attempted and the mesh is
    returned unchanged) -/
theorem rejects_mesh2_setVar_apply (m : Mesh2 T X) (h : C19.WF2 m) (hs : C19.Sized2 m)
    (i j var : Nat) (x : T) (f : X → X → T) :
    ((m.nx * m.ny ≤ i * m.ny + j ∨ m.nvars ≤ var) → Mesh2.setVar m i j var x = .error .range) ∧
    (m.nvars ≤ var → 0 < m.nx → 0 < m.ny → Mesh2.apply m f var = .error .range) := by
  refine ⟨C19.setVar_rejects2 m h hs x, fun hv hx hy => ?_⟩
  rw [C19.apply_rejects m h hs f hv, if_pos ⟨hx, hy⟩]

/-- writes to a 1-D mesh keep the nodes, the number of variables and the number of node vectors -/
theorem mesh1_keeps_shape (m m' : Mesh1 T X) (node var : Nat) (v : Array T) (x : T) :
    (Mesh1.setNodesVars m node v = .ok m' →
      m'.nvars = m.nvars ∧ m'.nodes = m.nodes ∧ m'.vars.size = m.vars.size) ∧
    (Mesh1.setVar m node var x = .ok m' →
      m'.nvars = m.nvars ∧ m'.nodes = m.nodes ∧ m'.vars.size = m.vars.size) := by
  constructor
  · intro h
    obtain ⟨vs, h1, h2⟩ := bind_eq_ok (ok_of_guard (ok_of_guard h))
    cases h2
    exact ⟨rfl, rfl, aset_size h1⟩
  · intro h
    unfold Mesh1.setVar at h
    rw [C19.poke_bind] at h
    obtain ⟨vs, h1, h2⟩ := bind_eq_ok h
    cases h2
    exact ⟨rfl, rfl, poke_size h1⟩

/-- same grid, same number of variables, same number of stored node vectors -/
def SameShape2 (m m' : Mesh2 T X) : Prop :=
  m'.nvars = m.nvars ∧ m'.nx = m.nx ∧ m'.ny = m.ny ∧ m'.xnodes = m.xnodes ∧
  m'.ynodes = m.ynodes ∧ m'.vars.size = m.vars.size

/-- writes to a 2-D mesh keep the grid, the number of variables and the number of node vectors -/
theorem mesh2_keeps_shape (m m' : Mesh2 T X) (i j var : Nat) (v : Array T) (x : T) (f : X → X → T) :
    (Mesh2.setNodesVars m i j v = .ok m' → SameShape2 m m') ∧
    (Mesh2.setVar m i j var x = .ok m' → SameShape2 m m') ∧
    (Mesh2.assign m x = .ok m' → SameShape2 m m') ∧
    (Mesh2.apply m f var = .ok m' → SameShape2 m m') := by
  refine ⟨fun h => ?_, fun h => ?_, fun h => ?_, fun h => ?_⟩
  · obtain ⟨u, _, h⟩ := bind_eq_ok h
    obtain ⟨vs, h1, h2⟩ := bind_eq_ok (ok_of_guard h)
    cases h2
    exact ⟨rfl, rfl, rfl, rfl, rfl, aset_size h1⟩
  · unfold Mesh2.setVar at h
    rw [C19.poke_bind] at h
    obtain ⟨vs, h1, h2⟩ := bind_eq_ok h
    cases h2
    exact ⟨rfl, rfl, rfl, rfl, rfl, poke_size h1⟩
  · unfold Mesh2.assign at h
    obtain ⟨vs, h1, h2⟩ := bind_eq_ok h
    cases h2
    refine ⟨rfl, rfl, rfl, rfl, rfl, ?_⟩
    refine Mat.forM'_preserves (P := fun s => s.size = m.vars.size) (fun s a s1 hp hs => ?_) rfl h1
    refine Mat.forM'_preserves (P := fun s => s.size = m.vars.size) (fun s b s1 hp hs => ?_) hp hs
    refine Mat.forM'_preserves (P := fun s => s.size = m.vars.size) (fun s c s1 hp hs => ?_) hp hs
    rw [poke_size hs, hp]
  · unfold Mesh2.apply at h
    obtain ⟨vs, h1, h2⟩ := bind_eq_ok h
    cases h2
    refine ⟨rfl, rfl, rfl, rfl, rfl, ?_⟩
    refine Mat.forM'_preserves (P := fun s => s.size = m.vars.size) (fun s a s1 hp hs => ?_) rfl h1
    obtain ⟨xa, _, hs⟩ := bind_eq_ok hs
    refine Mat.forM'_preserves (P := fun s => s.size = m.vars.size) (fun s b s1 hp hs => ?_) hp hs
    obtain ⟨yb, _, hs⟩ := bind_eq_ok hs
    rw [poke_size hs, hp]

end Mesh

section MeshF64
variable [Div K] [Transc K]

/-- quadrature and interpolation on a mesh with an empty direction: `n - 1` underflows (for the
    2-D rule: an empty x direction, or an empty y direction once the x loop runs at all) -/
theorem rejects_mesh_empty (m1 : Mesh1 K K) (m2 : Mesh2 K K) (x : K) (var : Nat) (g : K → K) :
    (m1.nodes.size = 0 →
      Mesh1.interpolate m1 x = .error .arith ∧ Mesh1.trapezium m1 var = .error .arith) ∧
    ((m2.nx = 0 ∨ (2 ≤ m2.nx ∧ 2 ≤ m2.xnodes.size ∧ m2.ny = 0)) →
      Mesh2.trapWith g m2 var = .error .arith ∧ Mesh2.trapezium m2 var = .error .arith ∧
      Mesh2.squareTrapezium m2 var = .error .arith) :=
  ⟨fun h => ⟨C19.interpolate_arith m1 h x, C19.trapezium_arith m1 var h⟩,
    fun h => ⟨C19.trapWith_arith g m2 h, C19.trapWith_arith _ m2 h, C19.trapWith_arith _ m2 h⟩⟩

end MeshF64

theorem derivativeN_size (p : Array K) :
    ∀ n, n ≤ p.size → ∃ d, Poly.derivativeN p n = .ok d ∧ d.size = p.size - n
  | 0, _ => ⟨p, rfl, rfl⟩
  | n + 1, h => by
    obtain ⟨d, h1, h2⟩ := derivativeN_size p n (Nat.le_of_succ_le h)
    obtain ⟨d', h3, h4⟩ := C11.derivative_size d (h2 ▸ Nat.sub_ne_zero_of_lt h)
    exact ⟨d', by rw [Poly.derivativeN, h1]; exact h3, by rw [h4, h2, Nat.sub_sub]⟩

/-- more derivatives than coefficients: `degree().unwrap()` on the empty polynomial panics -/
theorem derivativeN_rejects (p : Array K) :
    ∀ n, p.size < n → Poly.derivativeN p n = .error .unwrap
  | 0, h => absurd h (Nat.not_lt_zero _)
  | n + 1, h => by
    rw [Poly.derivativeN]
    rcases Nat.lt_or_ge p.size n with hn | hn
    · rw [derivativeN_rejects p n hn]; rfl
    · obtain ⟨d, h1, h2⟩ := derivativeN_size p n hn
      rw [h1]
      exact if_pos (h2.trans (Nat.sub_eq_zero_of_le (Nat.le_of_lt_succ h)))

theorem rejects_poly_more (p : Array K) (x : K) (n : Nat) :
    (p.size = 0 → Poly.eval p x = .error .unwrap ∧ Poly.derivative p = .error .unwrap ∧
      Poly.trim p = .error .arith) ∧
    (p.size < n → Poly.derivativeN p n = .error .unwrap) ∧
    (p.size < n → Poly.derivativeAt p x n = .error .unwrap) ∧
    (p.size = n → Poly.derivativeAt p x n = .ok 0) := by
  refine ⟨fun h => ?_, derivativeN_rejects p n, fun h => ?_, fun h => ?_⟩
  · have hp : p = #[] := Array.eq_empty_of_size_eq_zero h
    subst hp
    exact ⟨by simp [Poly.eval], by simp [Poly.derivative], by simp [Poly.trim]⟩
  · unfold Poly.derivativeAt
    simp [derivativeN_rejects p n h, bind, Except.bind]
  · -- order = number of coefficients: the derivative is the empty polynomial, its value is 0
    unfold Poly.derivativeAt
    obtain ⟨d, h1, h2⟩ := derivativeN_size p n (Nat.le_of_eq h.symm)
    have hd : d = #[] := Array.eq_empty_of_size_eq_zero (h2.trans (h ▸ Nat.sub_self _))
    subst hd
    simp [h1, bind, Except.bind]

/-- `polydiv` by the empty or the all-zero polynomial: the library returns `Err(&str)` (model:
    `.ok none`) — refused WITHOUT a panic, and no quotient/remainder pair is produced -/
theorem polydiv_refuses (u v : Array K) (h : v.size = 0 ∨ Poly.isZero v = true) :
    Poly.polydiv u v = .ok none := by
  rcases h with h | h
  · simp [Poly.polydiv, h]
  · exact C12.polydiv_rejects_zero u v h

/-- zero workers: `len / w` divides by zero -/
theorem rejects_dot_workers (a b : Array K) (h : a.size = b.size) :
    Dot.dotThreaded 0 a b = .error .arith := by
  simp [Dot.dotThreaded, h]

section RootsKrylov
variable [Div K] [Transc K]

/-- `poly_solve` / `roots` need at least two coefficients: none underflows `len - 1` (`arith`),
    a constant polynomial is refused explicitly (`range`) -/
theorem rejects_polySolve [OfScientific K] (c : Array (Cx K)) (r : Array K) (refine : Bool) :
    (c.size = 0 → Roots.polySolve c refine = .error .arith) ∧
    (c.size = 1 → Roots.polySolve c refine = .error .range) ∧
    (r.size = 0 → Roots.rootsReal r refine = .error .arith) ∧
    (r.size = 1 → Roots.rootsReal r refine = .error .range) := by
  have k0 : ∀ c : Array (Cx K), c.size = 0 → Roots.polySolve c refine = .error .arith := by
    intro c h; simp [Roots.polySolve, usub, h, bind, Except.bind]
  have k1 : ∀ c : Array (Cx K), c.size = 1 → Roots.polySolve c refine = .error .range := by
    intro c h; simp [Roots.polySolve, usub, h, bind, Except.bind]
  exact ⟨k0 c, k1 c, fun h => k0 _ (by simpa using h), fun h => k1 _ (by simpa using h)⟩

/-- `solve_bicg` with an unknown error measure `itol ∉ {1, 2}` (sizes consistent, storage
    readable): rejected with class `range` -/
theorem rejects_krylov_itol (s : Sp K) (itol : Nat) (b x0 : Array K) (maxIter : Nat) (tol : K)
    (norm2 : Array K → K) (h1 : s.rows = b.size) (h2 : s.rows = s.cols) (h3 : b.size = x0.size)
    (hm : C08.Multipliable s x0) (hi : itol ≠ 1 ∧ itol ≠ 2) :
    Sp.solveIter s (.bicg itol) b x0 maxIter tol norm2 = .error .range :=
  C08.solveIter_rejects_itol s itol b x0 maxIter tol norm2 h1 h2 h3 hm hi

end RootsKrylov

/-! the hypotheses with a storage invariant are satisfiable -/

example : Band.get (Band.new 2 1 1 (0 : Rat)) 2 2 = .error .range ∧
    Band.set (Band.new 2 1 1 (0 : Rat)) 2 2 5 = .error .range :=
  rejects_banded_rows _ (by simp [Band.new, Mat.new]) 2 2 5 (by simp [Band.new])

example : Band.det (Band.new 1 2 0 (0 : Rat)) = .error .range :=
  (rejects_banded_wide _ (Band.WFb.mk' (Mat.Is.of_new 1 (2 + 0 + 1) (0 : Rat))) (by simp)
    #[0] (by simp)).2.1

example : Mesh2.setVar (Mesh2.new #[(0 : Rat), 1] #[(0 : Rat), 1] 3 : Mesh2 Rat Rat) 0 0 3 7
    = .error .range :=
  (rejects_mesh2_setVar_apply _ (C19.new_wf2 _ _ _) (C19.new_sized2 _ _ _) 0 0 3 7
    (fun _ _ => 0)).1 (Or.inr (by simp [Mesh2.new]))

example : Mesh1.setVar (Mesh1.new #[(0 : Rat), 1] 3 : Mesh1 Rat Rat) 2 0 7 = .error .range :=
  rejects_mesh1_setVar _ (C19.new_wf _ _) (C19.new_rowSized1 _ _) 2 0 7 (Or.inl (by simp [Mesh1.new]))

example : Sp.solveIter (⟨1, 1, 1, #[(1 : Float)], #[0], #[0, 1]⟩ : Sp Float) (.bicg 3) #[1] #[0] 10 0
    (fun _ => 0) = .error .range :=
  rejects_krylov_itol _ 3 _ _ 10 0 _ rfl rfl (Eq.refl 1) ⟨_, rfl⟩ (by decide)

/-!
## Coverage table: every `.error`-producing guard of the model and the theorem that covers it

`C20.x` = theorem `Ohsl.Props.C20.x` (file: C20.lean, C20K.lean, this file = "B", or C20C.lean = "C");
`Cnn.x` = theorem `Ohsl.Props.Cnn.x`.  "internal" = helper that is not an entry point of the
library (reached only through a listed entry point).  "no guard" = the function states no check of
its own; its raw slice accesses are in range on well-formed storage (proved by the named spec).
`divM` = the only failure is the scalar's division (class `arith`, exact types only) — not a
size / index guard, listed for completeness.

Model/Vec.lean
| guard                                                         | class          | theorem |
| `aget` / `aset` index ≥ len                                   | range          | C20.rejects_primitives (B) |
| `usub a b`, a < b                                             | arith          | C20.rejects_primitives (B) |
| `add` `sub` `dot`: sizes differ                               | size           | C20.rejects_vector |
| `addAssign` `subAssign`: sizes differ                         | size           | C20.rejects_vector_more (B) |
| `sumSlice` `productSlice`: s > e, s ≥ len, e ≥ len            | range          | C20.rejects_vector |
| `sum` `product` `find` on the empty vector (`len - 1`)        | arith          | C20.rejects_vector_more (B) |
| `insert` pos > len                                            | range          | C20.rejects_vector |
| `pop` on the empty vector                                     | unwrap         | C20.rejects_vector (`#[]`), C20.rejects_vector_more (B, size = 0) |
| `swap` i ≥ len or j ≥ len                                     | range          | C20.rejects_vector_more (B); shape: C20.vec_swap_keeps_shape (B) |
| `normInfBy` `normInf` `normInfC` on the empty vector          | range          | C20.rejects_normInf (B) |
| `sdiv` `divS` `linspace` `powspace` `normP`                   | divM           | C15.linspace_one_rejects, C15.powspace_one_rejects, C15.normP_zero_rejects |

Model/Mat.lean
| raw `get` / `set`: flat offset ≥ buffer length                | range          | C20.rejects_matrix_raw (B) |
| `swapElem`: either flat offset ≥ buffer length                | range          | C20.rejects_matrix_raw (B) |
| `getRow` row ≥ rows, `getCol` col ≥ cols                      | range          | C20.rejects_matrix |
| `setRow` len ≠ cols / row ≥ rows                              | size / range   | C20.rejects_matrix_more (∃), C20.rejects_matrix_classes (B, exact) |
| `setCol` len ≠ rows / col ≥ cols                              | size / range   | C20.rejects_matrix (∃), C20.rejects_matrix_classes (B, exact) |
| `deleteRow` row ≥ rows                                        | range          | C20.rejects_matrix_more |
| `deleteRow` buffer shorter than (row+1)·cols                  | range          | C20.rejects_matrix_classes (B) |
| `mulVec` len ≠ cols, `mul` a.cols ≠ b.rows                    | size           | C20.rejects_matrix |
| `swapRows`, `fillRow` row ≥ rows; `fillCol` col ≥ cols        | range          | C20.rejects_matrix_more |
| `add` `sub`: rows or cols differ                              | size           | C20.rejects_matrix_more |
| `eye` `resize` `transpose(InPlace)` `fill*` `map2` `mapM1` `neg` `smul` `addS` `subS` `lsmul` norms | no guard | C03 / C03M / C03N specs |
| `sdiv`, `normP`                                               | divM           | C03.sdiv_zero_rejects, C03.normP_zero_rejects |
| shape after a successful write (`set` `swapElem` `swapRows` `setRow` `setCol` `fillRow` `fillCol`) | — | C20.mat_keeps_shape (B); histories: C20.history_keeps_wf |

Model/Solve.lean
| `solveBasic` `solveLU`: rows ≠ len(b) or rows ≠ cols           | size           | C20.rejects_solvers_full (B) |
| `solveBasic` `solveLU`: order 0 (`rows - 1`)                   | arith          | C20.rejects_solvers_order0 (B) |
| `luDecomp` `determinant` `inverse`: rows ≠ cols                | size           | C20.rejects_lu_det_inv (B) |
| `backsolve` `gaussWithPivot` (`usub rows 1`)                   | arith          | internal; reached only by the order-0 case above |
| `maxAbsInColumn` `partialPivot` `elimRow` `luPivot` `luElimRow` `luStep` `forwardSub` | no guard | internal (C01S / C02D specs) |
| zero pivot in `backsolve` / `inverse`                          | divM           | C01.solveBasic_singular_rejects, C01.solveLU_singular_rejects, C02.inverse_singular_rejects |

Model/Banded.lean
| `fillBand` band ∉ [-m1, m2]                                    | range          | C20.rejects_banded |
| `get` `set` outside the band                                   | range          | C20.rejects_banded |
| `get` `set` row ≥ n (caught by the compact buffer)             | range          | C20.rejects_banded_rows (B) |
| `solve` `mulVec` n ≠ len                                       | size           | C20.rejects_banded |
| `add` `sub'` (n, m1, m2) differ                                | size           | C20.rejects_banded |
| `decompose` `det` `solve` with n < m1 (`shiftRows` reads outside) | range       | C20.rejects_banded_wide (B) |
| `shiftRows` `decElim` `decStep` (`usub`, raw accesses)         | —              | internal (Lemmas/BandSpec, C04B) |
| `fill` `resize` `neg` `smul` `sdiv` `addS` `subS`              | no guard       | delegate to Mat (C04B / C04D) |
| shape after `set` / `fillBand`                                 | —              | C20.band_keeps_shape (B) |

Model/Tridiag.lean
| `withVecs` empty main (`n - 1`) / wrong off-diagonal lengths   | arith / size   | C20.rejects_tridiagonal_more (B) |
| `new 0`, `withElements _ _ _ 0`                                | arith          | C20.rejects_tridiagonal_more (B) |
| `get` `set`: i ≥ n, j ≥ n, or off the three diagonals          | range          | C20.rejects_tridiagonal_more (B) (get also C20.rejects_tridiagonal) |
| `det`: `main[0]` on an empty diagonal, `f[1]` when n = 0       | range          | C20.rejects_tridiagonal_more (B) |
| `convert` n = 0                                                | range          | C20.rejects_tridiagonal_more (B) |
| `solve` `mulVec` n ≠ len                                       | size           | C20.rejects_tridiagonal |
| `solve` zero pivot                                             | zeroPivot      | C05.solve_error_class, C05.solve_error_class_structural |
| `add` `sub'` a.n ≠ b.n                                         | size           | C20.rejects_tridiagonal_more (B) |
| `sdiv`                                                         | divM           | C05.sdiv_guard |
| shape after `set`                                              | —              | C20.tri_set_keeps_shape (B) |

Model/Sparse.lean
| `fromVecs` empty `col_start` (`len - 1`)                       | arith          | C20.rejects_sparse_more (B) |
| `fromTriplets` a triplet with row ≥ rows or col ≥ cols         | range          | C20.rejects_sparse_more (B) (= C06.fromTriplets_rejects) |
| `colIndex` nonzero ≠ 0 and `col_start` shorter than cols + 1   | range          | C20.rejects_sparse_more (B) |
| `get` `insert`: row ≥ rows, col ≥ cols, col ≥ len(col_start)   | range          | C20.rejects_sparse_more (B) (first two also C20.rejects_sparse_mesh_poly) |
| `multiply` cols ≠ len, `transposeMultiply` rows ≠ len          | size           | C20.rejects_sparse_mesh_poly |
| `colStartFromIndex`                                            | —              | internal (C06.colStartFromIndex_counts) |
| `scale` `transpose` `toTriplets` `toDense`                     | no guard       | C06 / C07 specs on well-formed storage |
| shape after `insert`                                           | —              | C20.sparse_insert_keeps_shape (B) |

Model/KrylovSp.lean
| `solveIter` rows ≠ len(b), rows ≠ cols, len(b) ≠ len(x0)       | size           | C20.rejects_krylov_size, C20.rejects_krylov |
| `solveIter` first product fails on inconsistent storage        | (as product)   | C08.solveIter_rejects_storage, C20.rejects_krylov |
| `solveIter (.bicg itol)` itol ∉ {1, 2}                         | range          | C20.rejects_krylov_itol (B) |

Model/Mesh.lean
| `Mesh1.coord` node ≥ len(nodes), `Mesh1.index` node ≥ len(vars) | range         | C20.rejects_mesh1_more (B) |
| `Mesh1.setNodesVars` node ≥ len(nodes) / len(v) ≠ nvars        | range / size   | C20.rejects_mesh (∃), C20.rejects_mesh1_more (B, exact) |
| `Mesh1.getNodesVars` node ≥ len(nodes)                         | range          | C20.rejects_mesh |
| `Mesh1.setVar` node ≥ len(nodes) or var ≥ nvars                | range          | C20.rejects_mesh1_setVar (B) (= C19.setVar_rejects1; needs the storage invariant) |
| `Mesh1.interpolate` `Mesh1.trapezium` on an empty mesh         | arith          | C20.rejects_mesh_empty (B) |
| `Mesh2.coord` i ≥ len(xnodes) or j ≥ len(ynodes)               | range          | C20.rejects_mesh2_more (B) |
| `Mesh2.guard` (i > nx-1, j > ny-1, underflow on empty)         | range / arith  | C19.guard_err |
| `Mesh2.setNodesVars` `getNodesVars` outside the grid / wrong length | range / arith / size | C20.rejects_mesh2 (∃), C20.rejects_mesh2_classes (B, exact) |
| `Mesh2.index` flat offset ≥ len(vars)                          | range          | C20.rejects_mesh2_more (B) |
| `Mesh2.setVar` offset outside the storage or var ≥ nvars       | range          | C20.rejects_mesh2_setVar_apply (B) (= C19.setVar_rejects2; storage invariant) |
| `Mesh2.apply` var ≥ nvars (grid non-empty)                     | range          | C20.rejects_mesh2_setVar_apply (B) (= C19.apply_rejects) |
| `Mesh2.crossSectionX` i ≥ nx, `crossSectionY` j ≥ ny           | range / arith  | C20.rejects_mesh2 (X, ∃), C20.rejects_mesh2_more (B, both, exact) |
| `Mesh2.varAsMatrix` var ≥ nvars                                | range          | C20.rejects_mesh2 |
| `Mesh2.trapWith` `trapezium` `squareTrapezium`, empty direction | arith         | C20.rejects_mesh_empty (B) |
| `Mesh1.trapezium` `Mesh2.trapWith` `trapezium` `squareTrapezium`: var ≥ nvars, raw `row[var]` | range when a cell is integrated, else `.ok 0` / arith | C20.trapezium_var_rejects, C20.trapezium_var_no_cell, C20.trapezium2_var_rejects, C20.trapezium2_var_no_cell (C; storage invariant) |
| `Mesh2.assign`                                                 | no guard       | C19.assign_abs |
| shape after `setNodesVars` `setVar` (`assign` `apply`)         | —              | C20.mesh1_keeps_shape, C20.mesh2_keeps_shape (B) |

Model/Poly.lean
| `eval` `derivative` on the empty polynomial                    | unwrap         | C20.rejects_poly_more (B) |
| `trim` on the empty polynomial (`len - 1`)                     | arith          | C20.rejects_poly_more (B) |
| `derivativeN p n`, `derivativeAt p x n`, n > len (n = len: value 0)      | unwrap         | C20.rejects_poly_more (B), C20.derivativeN_rejects (B) |
| `get` i ≥ len                                                  | range          | C20.rejects_sparse_mesh_poly |
| `polydiv` by the empty / zero polynomial: `Err(&str)`, no panic | (`.ok none`)  | C20.polydiv_refuses (B) |
| `divStep` (`usub`, `aget`, `aset`; `divM`)                    | —              | internal; inside `polydiv` only `divM` can fail (C12.divStep_size, C12D) |

Model/Roots.lean
| `polySolve` `rootsReal`: no coefficient / one coefficient      | arith / range  | C20.rejects_polySolve (B) (∃: C10.rejects_degree0) |

Model/Dot.lean
| `dotThreaded` sizes differ                                     | size           | C20.rejects_sparse_mesh_poly |
| `dotThreaded` w = 0                                            | arith          | C20.rejects_dot_workers (B) |

Model/Cx.lean, Model/Inst.lean (`div` `divR` `divAssign` `divAssignR`, `divM` on `Rat`): divM only —
C13.cx_div_rejects, C13.toC_div_error, C13.toC_divR_error.
Model/Newton.lean (`jacobian`: `aget` / `setCol` when the map changes its output size):
C18.jacobian_rejects_size_change.
Model/Krylov.lean, Model/CxFun.lean, Model/Basic.lean: no `.error`.
Model/Fmt.lean (`output2`, `outputVar2`: raw reads, formatting of the driver) and Model/Wire.lean
(`throw` of the token parser of the driver): not library entry points, no clause.
-/

end Ohsl.Props.C20
