/-
  Property C04 (part B) — banded matrix against its dense twin (model: Ohsl/Model/Banded.lean).

  `WFb b`        the compact storage of `b` is a well-formed `n × (m1+m2+1)` matrix;
  `dense b i j`  the dense twin: compact slot `(i, m1 + j - i)` for in-band, in-matrix `(i,j)`,
                 zero elsewhere;  `inBand b i j` := `j ≤ i + m2 ∧ i ≤ j + m1`.

  (S) index operator, arithmetic, `fill_band`: pointwise on the dense twin, frame conditions.
  (S) `mulVec_ordered`, `mulVec_padding`; (E) `mulVec_spec`: the band-limited loop.
  (S) `shiftRows_spec` (first phase of `decompose`), `decompose_m1_zero`, `det_upper_ordered`;
  (E) `det_upper`, `solve_sound_upper_partial`, `solve_upper_complete`: upper-banded storage.
  (S) `decompose_padding`, `det_padding`, `solve_padding`: two runs in lock-step — padding slots
      never influence the outcome, any scalar type.
  (E) `solve_sound` (the compact LU with row exchanges and both substitution loops are simulated
      against the dense twin), `solve_complete`, `decompose_total`; (S) `decompose_rejects`.
-/
import Ohsl.Props.C04
import Ohsl.Lemmas.BandExact
import Ohsl.Lemmas.BandPadding
set_option linter.unusedSectionVars false
namespace Ohsl.Props.C04
open Ohsl Ohsl.Band

section Index
variable {K : Type} [Zero K]

/-- reading an in-band, in-matrix entry of a well-formed banded matrix returns the dense twin -/
theorem get_spec {b : Band K} (h : WFb b) {i j : Nat} (hb : inBand b i j) (hi : i < b.n)
    (hj : j < b.n) : Band.get b i j = .ok (dense b i j) :=
  Band.get_spec h hb hi hj

/-- outside the band the index operator panics (class `range`) -/
theorem get_out_of_band (b : Band K) {i j : Nat} (h : ¬ inBand b i j) :
    Band.get b i j = .error .range :=
  Band.get_out_of_band b h

/-- writing an in-band, in-matrix entry succeeds, keeps `(n, m1, m2)` and well-formedness,
    changes exactly the addressed entry of the dense twin (frame condition on every other one) -/
theorem set_spec {b : Band K} (h : WFb b) {i j : Nat} (hb : inBand b i j) (hi : i < b.n)
    (hj : j < b.n) (v : K) :
    ∃ b', Band.set b i j v = .ok b' ∧ WFb b' ∧ SameShape b' b ∧ dense b' i j = v ∧
      ∀ i' j', (i' ≠ i ∨ j' ≠ j) → dense b' i' j' = dense b i' j' :=
  Band.set_spec h hb hi hj v

/-- a write outside the band panics -/
theorem set_out_of_band (b : Band K) {i j : Nat} (v : K) (h : ¬ inBand b i j) :
    Band.set b i j v = .error .range :=
  Band.set_out_of_band b v h

/-- `set` then `get` at the same in-band position reads the written value back -/
theorem get_set_same {b : Band K} (h : WFb b) {i j : Nat} (hb : inBand b i j) (hi : i < b.n)
    (hj : j < b.n) (v : K) :
    ∃ b', Band.set b i j v = .ok b' ∧ Band.get b' i j = .ok v := by
  obtain ⟨b', h1, hw, ⟨s1, s2, s3⟩, hv, _⟩ := Band.set_spec h hb hi hj v
  refine ⟨b', h1, ?_⟩
  have hb' : inBand b' i j := by unfold inBand at *; omega
  rw [Band.get_spec hw hb' (by omega) (by omega), hv]

end Index

section Arith
variable {K : Type} [Add K] [Sub K] [Mul K] [Neg K] [Zero K] [One K] [BEq K] [ScalarExt K]

theorem add_spec {a b : Band K} (ha : WFb a) (hb : WFb b) (hs : SameShape a b) :
    ∃ c, Band.add a b = .ok c ∧ WFb c ∧ SameShape c a ∧
      ∀ i j, inBand a i j → i < a.n → j < a.n → dense c i j = dense a i j + dense b i j :=
  Band.add_spec ha hb hs

theorem sub_spec {a b : Band K} (ha : WFb a) (hb : WFb b) (hs : SameShape a b) :
    ∃ c, Band.sub' a b = .ok c ∧ WFb c ∧ SameShape c a ∧
      ∀ i j, inBand a i j → i < a.n → j < a.n → dense c i j = dense a i j - dense b i j :=
  Band.sub_spec ha hb hs

theorem neg_spec {a : Band K} (ha : WFb a) :
    ∃ c, Band.neg a = .ok c ∧ WFb c ∧ SameShape c a ∧
      ∀ i j, inBand a i j → i < a.n → j < a.n → dense c i j = - dense a i j :=
  Band.neg_spec ha

theorem smul_spec {a : Band K} (ha : WFb a) (s : K) :
    ∃ c, Band.smul a s = .ok c ∧ WFb c ∧ SameShape c a ∧
      ∀ i j, inBand a i j → i < a.n → j < a.n → dense c i j = dense a i j * s :=
  Band.smul_spec ha s

/-- scalar division: the loop divides EVERY compact slot (padding included), so success of the
    scalar division is required on all of them; `q` is the value of the division -/
theorem sdiv_spec {a : Band K} (ha : WFb a) (s : K) (q : K → K)
    (hq : ∀ i j, i < a.n → j < a.m1 + a.m2 + 1 →
      ScalarExt.divM (Mat.entryOf a.compact i j) s = .ok (q (Mat.entryOf a.compact i j))) :
    ∃ c, Band.sdiv a s = .ok c ∧ WFb c ∧ SameShape c a ∧
      ∀ i j, inBand a i j → i < a.n → j < a.n → dense c i j = q (dense a i j) :=
  Band.sdiv_spec ha s q hq

theorem addS_spec {a : Band K} (ha : WFb a) (s : K) :
    ∃ c, Band.addS a s = .ok c ∧ WFb c ∧ SameShape c a ∧
      ∀ i j, inBand a i j → i < a.n → j < a.n → dense c i j = dense a i j + s :=
  Band.addS_spec ha s

theorem subS_spec {a : Band K} (ha : WFb a) (s : K) :
    ∃ c, Band.subS a s = .ok c ∧ WFb c ∧ SameShape c a ∧
      ∀ i j, inBand a i j → i < a.n → j < a.n → dense c i j = dense a i j - s :=
  Band.subS_spec ha s

/-- all seven operators at once: each acts entrywise on the dense twin restricted to the band
    and preserves the shape (mismatched `(n, m1, m2)` is rejected: `add_rejects` in C04) -/
theorem arith_spec {a b : Band K} (ha : WFb a) (hb : WFb b) (hs : SameShape a b) (s : K) :
    (∃ c, Band.add a b = .ok c ∧ WFb c ∧ SameShape c a ∧
      ∀ i j, inBand a i j → i < a.n → j < a.n → dense c i j = dense a i j + dense b i j) ∧
    (∃ c, Band.sub' a b = .ok c ∧ WFb c ∧ SameShape c a ∧
      ∀ i j, inBand a i j → i < a.n → j < a.n → dense c i j = dense a i j - dense b i j) ∧
    (∃ c, Band.neg a = .ok c ∧ WFb c ∧ SameShape c a ∧
      ∀ i j, inBand a i j → i < a.n → j < a.n → dense c i j = - dense a i j) ∧
    (∃ c, Band.smul a s = .ok c ∧ WFb c ∧ SameShape c a ∧
      ∀ i j, inBand a i j → i < a.n → j < a.n → dense c i j = dense a i j * s) ∧
    (∃ c, Band.addS a s = .ok c ∧ WFb c ∧ SameShape c a ∧
      ∀ i j, inBand a i j → i < a.n → j < a.n → dense c i j = dense a i j + s) ∧
    (∃ c, Band.subS a s = .ok c ∧ WFb c ∧ SameShape c a ∧
      ∀ i j, inBand a i j → i < a.n → j < a.n → dense c i j = dense a i j - s) :=
  ⟨Band.add_spec ha hb hs, Band.sub_spec ha hb hs, Band.neg_spec ha, Band.smul_spec ha s,
    Band.addS_spec ha s, Band.subS_spec ha s⟩

/-- `fill_band(band, x)` for `-m1 ≤ band ≤ m2` sets exactly the entries with `j - i = band` -/
theorem fillBand_spec {b : Band K} (h : WFb b) (band : Int) (x : K)
    (h1 : -(b.m1 : Int) ≤ band) (h2 : band ≤ (b.m2 : Int)) :
    ∃ b', Band.fillBand b band x = .ok b' ∧ WFb b' ∧ SameShape b' b ∧
      ∀ i j, inBand b i j → i < b.n → j < b.n →
        dense b' i j = if (j : Int) - (i : Int) = band then x else dense b i j :=
  Band.fillBand_spec h band x h1 h2

/-- a freshly created banded matrix is well formed and constant on its band -/
theorem new_spec (n m1 m2 : Nat) (x : K) :
    WFb (Band.new n m1 m2 x) ∧
      ∀ i j, inBand (Band.new n m1 m2 x) i j → i < n → j < n → dense (Band.new n m1 m2 x) i j = x := by
  have hI : Mat.Is (Band.new n m1 m2 x).compact n (m1 + m2 + 1) (fun _ _ => x) :=
    Mat.Is.of_new n (m1 + m2 + 1) x
  refine ⟨⟨_, hI⟩, ?_⟩
  intro i j hb hi hj
  exact Band.dense_of_is (b := Band.new n m1 m2 x) hI hb hi hj

end Arith

section MulVecS
variable {K : Type} [Add K] [Mul K] [Zero K]

/-- (S) the band-limited loop as an ordered sum: for every well-formed banded matrix — any
    `(n, m1, m2)`, including `m1, m2 ≥ n - 1`, `n = 1` and `n = 0` — and every vector of length `n`
    the product succeeds with a vector of length `n` whose component `i` is the sum of
    `dense b i j * v[j]` over the in-band, in-matrix columns `j`, accumulated from `0` in
    increasing order of `j` -/
theorem mulVec_ordered {b : Band K} (h : WFb b) (v : Array K) (hv : v.size = b.n) :
    ∃ w, Band.mulVec b v = .ok w ∧ w.size = b.n ∧
      ∀ i, i < b.n → w[i]? = some
        ((List.range' (i - b.m1) (min b.n (i + b.m2 + 1) - (i - b.m1))).foldl
          (fun acc j => acc + dense b i j * v[j]?.getD 0) 0) :=
  Band.mulVec_ordered h v hv

/-- (S) padding slots are never read: two banded matrices of the same shape that agree on all
    in-band, in-matrix slots give the same product (same value or same panic) -/
theorem mulVec_padding {a b : Band K} (ha : WFb a) (hb : WFb b) (hs : SameShape a b)
    (hag : ∀ i j, inBand a i j → i < a.n → j < a.n → dense a i j = dense b i j) (v : Array K) :
    Band.mulVec a v = Band.mulVec b v :=
  Band.mulVec_padding ha hb hs hag v

end MulVecS

section MulVecE
variable {K : Type} [CommSemiring K]

/-- (E) the band-limited loop equals the dense product `w[i] = Σ_{j<n} dense b i j * v[j]`,
    for every `(n, m1, m2)` -/
theorem mulVec_spec {b : Band K} (h : WFb b) (v : Array K) (hv : v.size = b.n) :
    ∃ w, Band.mulVec b v = .ok w ∧ w.size = b.n ∧
      ∀ i, i < b.n → w[i]?.getD 0 = ∑ j ∈ Finset.range b.n, dense b i j * v[j]?.getD 0 :=
  Band.mulVec_spec h v hv

end MulVecE

section Dec
variable {K : Type} [Sub K] [Mul K] [Neg K] [Zero K] [One K] [BEq K] [ScalarExt K]

/-- (S) first phase of `decompose` (`m1 ≤ n`): row `i < m1` is shifted left by `m1 - i` and
    zero-filled on the right, every other row is unchanged -/
theorem shiftRows_spec {au : Mat K} {n m1 m2 : Nat} {c : Nat → Nat → K}
    (h : Mat.Is au n (m1 + m2 + 1) c) (hm : m1 ≤ n) :
    ∃ au', shiftRows m1 m2 au = .ok au' ∧
      Mat.Is au' n (m1 + m2 + 1) (fun i j =>
        if i < m1 then (if j + (m1 - i) < m1 + m2 + 1 then c i (j + (m1 - i)) else 0) else c i j) :=
  Band.shiftRows_spec h hm

/-- (S) after the first phase slot `(i, t)` holds the matrix entry `(i, (i - m1) + t)`: every row
    starts at its first in-matrix column -/
theorem shiftRows_dense {b : Band K} (h : WFb b) (hm : b.m1 ≤ b.n) :
    ∃ au', shiftRows b.m1 b.m2 b.compact = .ok au' ∧ au'.rows = b.n ∧
      au'.cols = b.m1 + b.m2 + 1 ∧ au'.WF ∧
      ∀ i t, i < b.n → t + (b.m1 - i) < b.m1 + b.m2 + 1 → (i - b.m1) + t < b.n →
        au'.get i t = .ok (dense b i ((i - b.m1) + t)) := by
  obtain ⟨au', h1, hI⟩ := Band.shiftRows_spec h.is hm
  refine ⟨au', h1, hI.rows, hI.cols, hI.wf, ?_⟩
  intro i t hi ht hn
  rw [hI.get hi (by omega), Band.shifted_dense h hi ht hn]

/-- (S) `decompose` on upper-banded storage (`m1 = 0`): no exchange (`index[k] = k + 1`, `d = 1`),
    no elimination (`al` is the empty `n × 0` matrix); the upper factor is the compact storage
    itself, except that a diagonal slot testing `== 0` is overwritten by the literal `0` -/
theorem decompose_m1_zero {b : Band K} (h : WFb b) (hm : b.m1 = 0) :
    ∃ s, decompose b = .ok s ∧
      Mat.Is s.au b.n (b.m1 + b.m2 + 1) (fun i j =>
        if j = 0 then fixZero (Mat.entryOf b.compact i 0) else Mat.entryOf b.compact i j) ∧
      s.al = Mat.new b.n 0 (0 : K) ∧ s.index.size = b.n ∧
      (∀ i, i < b.n → s.index[i]? = some (i + 1)) ∧ s.d = 1 :=
  Band.decompose_upper h hm

/-- (S) `det` on upper-banded storage: the ordered product of the (zero-fixed) diagonal -/
theorem det_upper_ordered {b : Band K} (h : WFb b) (hm : b.m1 = 0) :
    det b = .ok ((List.range' 0 b.n).foldl (fun dd i => dd * fixZero (dense b i i)) 1) :=
  Band.det_upper_ordered h hm

/-- (S) with more sub-diagonals than rows (`m1 > n`) the first phase of `decompose` addresses row
    `n`: `decompose`, `det` and `solve` panic (class `range`) -/
theorem decompose_rejects {b : Band K} (h : WFb b) (hm : b.n < b.m1) :
    decompose b = .error .range ∧ det b = .error .range ∧
      ∀ rhs : Array K, rhs.size = b.n → solve b rhs = .error .range :=
  ⟨Band.decompose_rejects h hm, Band.det_rejects h hm,
    fun rhs hr => Band.solve_rejects_m1 h hm rhs hr⟩

end Dec

section Padding
variable {K : Type} [Add K] [Sub K] [Mul K] [Neg K] [Zero K] [One K] [BEq K] [ScalarExt K]

/-- (S) `decompose` in lock-step on two well-formed banded matrices of the same shape that agree on
    all in-band, in-matrix slots (`DenseEq`): both runs panic identically, or they return the same
    multipliers, exchange record and sign, and upper factors that agree on every slot whose column
    lies inside the matrix.  No law about the scalar operations is used. -/
theorem decompose_padding {a b : Band K} (ha : WFb a) (hb : WFb b) (h : DenseEq a b) :
    RelRes (fun sa sb => sa.al = sb.al ∧ sa.index = sb.index ∧ sa.d = sb.d ∧
        PadEq a.n (a.m1 + a.m2 + 1) (fun i => i) sa.au sb.au) (decompose a) (decompose b) :=
  Band.decompose_rel ha hb h

/-- (S) `det` never reads a padding slot: same value or same panic -/
theorem det_padding {a b : Band K} (ha : WFb a) (hb : WFb b) (h : DenseEq a b) :
    det a = det b :=
  Band.det_padding ha hb h

/-- (S) `solve` never reads a padding slot: same solution (bit for bit) or same panic -/
theorem solve_padding {a b : Band K} (ha : WFb a) (hb : WFb b) (h : DenseEq a b)
    (rhs : Array K) : solve a rhs = solve b rhs :=
  Band.solve_padding ha hb h rhs

end Padding

section DetE
variable {K : Type} [CommRing K] [BEq K] [LawfulBEq K] [ScalarExt K]

/-- (E) `det` on upper-banded storage is the product of the diagonal -/
theorem det_upper {b : Band K} (h : WFb b) (hm : b.m1 = 0) :
    det b = .ok (∏ i ∈ Finset.range b.n, dense b i i) :=
  Band.det_upper h hm

end DetE

section SolveE
variable {F : Type} [Field F] [LinearOrder F]
attribute [local instance] Ohsl.Alg.scalarExt

set_option linter.unusedVariables false in
/-- (E) soundness of `solve` on upper-banded storage (back substitution): every returned vector
    solves the dense system.
    PARTIAL: this statement covers only `m1 = 0`; the general case is `solve_sound` below. -/
theorem solve_sound_upper_partial {b : Band F} (h : WFb b) (hm : b.m1 = 0) {rhs x : Array F}
    (hs : solve b rhs = .ok x) :
    x.size = b.n ∧ ∀ i, i < b.n →
      ∑ j ∈ Finset.range b.n, dense b i j * x[j]?.getD 0 = rhs[i]?.getD 0 :=
  Band.solve_sound h hs

/-- (E) the hypothesis of `solve_sound_upper_partial` is satisfiable: on upper-banded storage with
    a nowhere-zero diagonal `solve` succeeds for every right-hand side of length `n` -/
theorem solve_upper_complete {b : Band F} (h : WFb b) (hm : b.m1 = 0) {rhs : Array F}
    (hr : rhs.size = b.n) (hd : ∀ i, i < b.n → dense b i i ≠ 0) :
    ∃ x, solve b rhs = .ok x ∧ x.size = b.n :=
  Band.solve_complete h hr (Band.det_upper h hm)
    (Finset.prod_ne_zero_iff.mpr (fun i hi => hd i (Finset.mem_range.mp hi)))

/-- existence and correctness together -/
theorem solve_upper_correct {b : Band F} (h : WFb b) (hm : b.m1 = 0) {rhs : Array F}
    (hr : rhs.size = b.n) (hd : ∀ i, i < b.n → dense b i i ≠ 0) :
    ∃ x, solve b rhs = .ok x ∧ x.size = b.n ∧ ∀ i, i < b.n →
      ∑ j ∈ Finset.range b.n, dense b i j * x[j]?.getD 0 = rhs[i]?.getD 0 := by
  obtain ⟨x, hx, _⟩ := solve_upper_complete h hm hr hd
  exact ⟨x, hx, Band.solve_sound h hx⟩

/-- (E) **soundness of the banded solver for every shape** (`bandec` with row exchanges by
    magnitude + `banbks`; any `n`, `m1`, `m2`): every vector returned by `solve` has length `n`
    and solves the dense system `Σ_j dense b i j * x[j] = rhs[i]`.  Padding slots of the compact
    storage do not matter (the dense twin ignores them).  A zero pivot makes the final division
    fail, so nothing is returned for the systems the elimination cannot handle. -/
theorem solve_sound {b : Band F} (h : WFb b) {rhs x : Array F} (hs : solve b rhs = .ok x) :
    x.size = b.n ∧ ∀ i, i < b.n →
      ∑ j ∈ Finset.range b.n, dense b i j * x[j]?.getD 0 = rhs[i]?.getD 0 :=
  Band.solve_sound h hs

/-- (E) a non-zero computed determinant guarantees that `solve` succeeds, and the result solves
    the dense system: the hypothesis of `solve_sound` holds for every such matrix -/
theorem solve_complete {b : Band F} (h : WFb b) {rhs : Array F} (hr : rhs.size = b.n) {δ : F}
    (hd : det b = .ok δ) (hδ : δ ≠ 0) :
    ∃ x, solve b rhs = .ok x ∧ x.size = b.n ∧ ∀ i, i < b.n →
      ∑ j ∈ Finset.range b.n, dense b i j * x[j]?.getD 0 = rhs[i]?.getD 0 := by
  obtain ⟨x, hx, _⟩ := Band.solve_complete h hr hd hδ
  exact ⟨x, hx, Band.solve_sound h hx⟩

/-- (E) over a field `decompose` never fails when `m1 ≤ n` (a zero pivot only suppresses the
    elimination of that column) -/
theorem decompose_total {b : Band F} (h : WFb b) (hm : b.m1 ≤ b.n) :
    ∃ s, decompose b = .ok s ∧ s.au.WF ∧ s.au.rows = b.n ∧ s.au.cols = b.m1 + b.m2 + 1 ∧
      s.al.WF ∧ s.al.rows = b.n ∧ s.al.cols = b.m1 ∧ s.index.size = b.n := by
  obtain ⟨s, l, hdec, ⟨_, hau, hal, hsz, _⟩, _⟩ := Band.decompose_inv h hm
  exact ⟨s, hdec, hau.wf, hau.rows, hau.cols, hal.wf, hal.rows, hal.cols, hsz⟩

end SolveE

section Example
attribute [local instance] Ohsl.Alg.scalarExt

/-- the hypotheses `WFb`, `m1 = 0`, nowhere-zero diagonal are satisfiable for a non-trivial matrix
    (`3 × 3`, one super-diagonal, entries 2 on the band) -/
example : WFb (Band.new 3 0 1 (2 : ℚ)) ∧ (Band.new 3 0 1 (2 : ℚ)).m1 = 0 ∧
    ∀ i, i < (Band.new 3 0 1 (2 : ℚ)).n → dense (Band.new 3 0 1 (2 : ℚ)) i i ≠ 0 := by
  refine ⟨(new_spec 3 0 1 (2 : ℚ)).1, rfl, ?_⟩
  intro i hi
  have hi' : i < 3 := hi
  rw [(new_spec 3 0 1 (2 : ℚ)).2 i i (by unfold inBand; omega) hi' hi']
  norm_num

/-- a `3 × 3` tridiagonal system (`m1 = m2 = 1`) whose first pivot step exchanges rows; the two
    padding slots hold the garbage value `7`.  Dense matrix `[[1,2,0],[3,4,1],[0,1,1]]`. -/
def exBand : Band ℚ := ⟨3, 1, 1, ⟨#[7, 1, 2, 3, 4, 1, 1, 1, 7], 3, 3⟩⟩

theorem exBand_wf : WFb exBand := ⟨_, Mat.Is.of_wf (by unfold Mat.WF; rfl)⟩

/-- the hypothesis of `solve_sound` is satisfiable with `m1 > 0` and a row exchange -/
example : WFb exBand ∧ solve exBand #[3, 8, 2] = .ok #[1, 1, 1] := by
  exact ⟨exBand_wf, by decide +kernel⟩

/-- the same matrix with zeros in the padding slots -/
def exBand0 : Band ℚ := ⟨3, 1, 1, ⟨#[0, 1, 2, 3, 4, 1, 1, 1, 0], 3, 3⟩⟩

/-- the hypothesis `DenseEq` of the padding theorems is satisfiable by two different storages -/
example : WFb exBand ∧ WFb exBand0 ∧ DenseEq exBand exBand0 ∧ exBand.compact.data ≠ exBand0.compact.data := by
  refine ⟨exBand_wf, ⟨_, Mat.Is.of_wf (by unfold Mat.WF; rfl)⟩,
    ⟨⟨rfl, rfl, rfl⟩, ?_⟩, by decide +kernel⟩
  intro i j _ hi hj
  have key : ∀ i, i < 3 → ∀ j, j < 3 → dense exBand i j = dense exBand0 i j := by decide +kernel
  exact key i hi j hj

end Example

end Ohsl.Props.C04
