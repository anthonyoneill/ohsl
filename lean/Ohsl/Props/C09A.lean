/-
  Property C09A — the accuracy clause of C09 for all four iterative solvers, exact real arithmetic:
  "… and its answer agrees with the direct dense solution to within the tolerance times the
  condition number."  Model: `solveCG`, `solveBiCG`, `solveBiCGSTAB`, `solveQMR` of
  Ohsl/Model/Krylov.lean.

  Class (R): scalars ℝ with the real interpretation `Ohsl.RealI.transc`, vectors `Fin n → ℝ`,
  `A v = M *ᵥ v` for an INVERTIBLE real matrix `M` (`IsUnit M.det`; not necessarily symmetric),
  `norm2 v = enorm2 v = √(v ⬝ᵥ v)`.  The operations `euclidOps M At dot` are an instance of C08's
  `modOps` with ARBITRARY transposed product `At` and dot product `dot` (the C08/C08B soundness
  theorems need neither); `spdOps M` of C09G is the instance `At = Mᵀ *ᵥ ·`, `dot = ⬝ᵥ`.
  The direct solution is `x* = M⁻¹ *ᵥ b`.  `cinv`, `cM` are any constants with
  `‖M⁻¹ v‖₂ ≤ cinv ‖v‖₂`, `‖M v‖₂ ≤ cM ‖v‖₂` for all `v`; `opNorm_bound` (Mathlib's `ℓ²` operator
  norm, giving the spectral condition number) and `frobenius_bound` provide such constants for
  every matrix.

  (R) `forward_error_of_residual` (forward error from the residual, every `x`);
      `forward_error_of_test`, `forward_error_of_test_zero`, `forward_error_of_test_opNorm` (from the
      model's test on the true residual: `b ≠ 0`, `b = 0`, spectral condition number);
      `cg_…`, `bicg_…` (every `itol`), `stab_…`, `qmr_success_forward_error` and `…_zero_rhs` (a
      reported success of the model's run, for every guess, budget and `tol`, returns such an `x`);
      `cg_forward_error_spd`, `cg_forward_error_spd_opNorm` (SPD `M`: CG reports success within `n`
      iterations AND the returned `x` is that close to the direct solution — the full C09 statement
      for CG).
  NOT proved: that BiCG / BiCGSTAB / QMR do report success (they can break down, and no
  finite-termination theory is formalised for them); anything about f64 rounding (class F).
-/
import Ohsl.Props.C09G
import Ohsl.Props.C08B
import Ohsl.Props.C09
import Mathlib.LinearAlgebra.Matrix.NonsingularInverse
import Mathlib.LinearAlgebra.Matrix.DotProduct
import Mathlib.Algebra.Order.BigOperators.Ring.Finset
import Mathlib.Analysis.SpecialFunctions.Sqrt
import Mathlib.Analysis.CStarAlgebra.Matrix
import Mathlib.Tactic.Linarith
import Mathlib.Tactic.Positivity

namespace Ohsl.Props.C09
open Ohsl Ohsl.Krylov Ohsl.Props.C08 Ohsl.CGTheory Matrix

section Accuracy
variable {n : ℕ}

/-- the Euclidean norm as the model computes it: `norm2 v = √(v ⬝ᵥ v)` -/
noncomputable def enorm2 (v : Fin n → ℝ) : ℝ := Real.sqrt (v ⬝ᵥ v)

theorem dot_self_nonneg (v : Fin n → ℝ) : 0 ≤ v ⬝ᵥ v :=
  Finset.sum_nonneg fun i _ => mul_self_nonneg (v i)

theorem enorm2_nonneg (v : Fin n → ℝ) : 0 ≤ enorm2 v := Real.sqrt_nonneg _

theorem enorm2_eq_zero {v : Fin n → ℝ} : enorm2 v = 0 ↔ v = 0 := by
  unfold enorm2
  rw [Real.sqrt_eq_zero', ← dotProduct_self_eq_zero (v := v)]
  exact ⟨fun h => le_antisymm h (dot_self_nonneg v), fun h => h.le⟩

theorem enorm2_pos {v : Fin n → ℝ} (hv : v ≠ 0) : 0 < enorm2 v :=
  lt_of_le_of_ne (enorm2_nonneg v) (fun h => hv (enorm2_eq_zero.mp h.symm))

theorem enorm2_sub_comm (u v : Fin n → ℝ) : enorm2 (u - v) = enorm2 (v - u) := by
  unfold enorm2
  rw [← neg_sub v u, neg_dotProduct_neg]

theorem bound_nonneg (N : Matrix (Fin n) (Fin n) ℝ) (c : ℝ)
    (hc : ∀ v, enorm2 (N *ᵥ v) ≤ c * enorm2 v) {v : Fin n → ℝ} (hv : v ≠ 0) : 0 ≤ c := by
  have h := le_trans (enorm2_nonneg _) (hc v)
  by_contra hneg
  push Not at hneg
  have := mul_neg_of_neg_of_pos hneg (enorm2_pos hv)
  linarith

variable (M : Matrix (Fin n) (Fin n) ℝ)

theorem error_eq_inv_residual (hM : IsUnit M.det) (b x : Fin n → ℝ) :
    M⁻¹ *ᵥ b - x = M⁻¹ *ᵥ (b - M *ᵥ x) := by
  rw [mulVec_sub, mulVec_mulVec, nonsing_inv_mul M hM, one_mulVec]

/-- **Forward error ≤ ‖M⁻¹‖ · residual.**  `cinv` is any bound of `M⁻¹` in the Euclidean norm. -/
theorem forward_error_of_residual (hM : IsUnit M.det) (cinv : ℝ)
    (hcinv : ∀ v, enorm2 (M⁻¹ *ᵥ v) ≤ cinv * enorm2 v) (b x : Fin n → ℝ) :
    enorm2 (x - M⁻¹ *ᵥ b) ≤ cinv * enorm2 (b - M *ᵥ x) := by
  rw [enorm2_sub_comm, error_eq_inv_residual M hM]
  exact hcinv _

theorem rhs_le_of_solution (hM : IsUnit M.det) (cM : ℝ)
    (hcM : ∀ v, enorm2 (M *ᵥ v) ≤ cM * enorm2 v) (b : Fin n → ℝ) :
    enorm2 b ≤ cM * enorm2 (M⁻¹ *ᵥ b) := by
  have := hcM (M⁻¹ *ᵥ b)
  rwa [mulVec_mulVec, mul_nonsing_inv M hM, one_mulVec] at this

theorem guardNorm_enorm2_of_ne {b : Fin n → ℝ} (hb : b ≠ 0) : guardNorm (enorm2 b) = enorm2 b :=
  if_neg (mt beq_iff_eq.mp (enorm2_pos hb).ne')

theorem guardNorm_enorm2_zero : guardNorm (enorm2 (0 : Fin n → ℝ)) = 1 :=
  if_pos (beq_iff_eq.mpr (enorm2_eq_zero.mpr rfl))

theorem residual_of_test {b x : Fin n → ℝ} {tol : ℝ} (hb : b ≠ 0)
    (ht : Transc.le (enorm2 (b - M *ᵥ x) / guardNorm (enorm2 b)) tol = true) :
    enorm2 (b - M *ᵥ x) ≤ tol * enorm2 b ∧ 0 ≤ tol := by
  rw [le_iff, guardNorm_enorm2_of_ne hb] at ht
  have hpos := enorm2_pos hb
  refine ⟨(div_le_iff₀ hpos).mp ht, le_trans ?_ ht⟩
  exact div_nonneg (enorm2_nonneg _) hpos.le

/-- **Success test ⇒ forward error**, `b ≠ 0`: if the true residual passes the model's test then
    `‖x − x*‖ ≤ ‖M⁻¹‖·tol·‖b‖ ≤ (‖M⁻¹‖·‖M‖)·tol·‖x*‖`, `x* = M⁻¹ b`. -/
theorem forward_error_of_test (hM : IsUnit M.det) (cinv cM : ℝ)
    (hcinv : ∀ v, enorm2 (M⁻¹ *ᵥ v) ≤ cinv * enorm2 v)
    (hcM : ∀ v, enorm2 (M *ᵥ v) ≤ cM * enorm2 v)
    {b x : Fin n → ℝ} {tol : ℝ} (hb : b ≠ 0)
    (ht : Transc.le (enorm2 (b - M *ᵥ x) / guardNorm (enorm2 b)) tol = true) :
    enorm2 (x - M⁻¹ *ᵥ b) ≤ cinv * tol * enorm2 b ∧
    enorm2 (x - M⁻¹ *ᵥ b) ≤ (cinv * cM) * tol * enorm2 (M⁻¹ *ᵥ b) := by
  obtain ⟨hres, htol⟩ := residual_of_test M hb ht
  have hc : 0 ≤ cinv := bound_nonneg M⁻¹ cinv hcinv hb
  have h1 : enorm2 (x - M⁻¹ *ᵥ b) ≤ cinv * tol * enorm2 b := by
    calc enorm2 (x - M⁻¹ *ᵥ b) ≤ cinv * enorm2 (b - M *ᵥ x) :=
          forward_error_of_residual M hM cinv hcinv b x
      _ ≤ cinv * (tol * enorm2 b) := mul_le_mul_of_nonneg_left hres hc
      _ = cinv * tol * enorm2 b := by ring
  refine ⟨h1, le_trans h1 ?_⟩
  calc cinv * tol * enorm2 b ≤ cinv * tol * (cM * enorm2 (M⁻¹ *ᵥ b)) :=
        mul_le_mul_of_nonneg_left (rhs_le_of_solution M hM cM hcM b) (mul_nonneg hc htol)
    _ = (cinv * cM) * tol * enorm2 (M⁻¹ *ᵥ b) := by ring

/-- **Success test ⇒ forward error**, `b = 0` (`guardNorm` replaces `‖b‖` by `1`): the exact
    solution is `0` and `‖x‖ ≤ ‖M⁻¹‖·tol`. -/
theorem forward_error_of_test_zero (hM : IsUnit M.det) (cinv : ℝ) (hc : 0 ≤ cinv)
    (hcinv : ∀ v, enorm2 (M⁻¹ *ᵥ v) ≤ cinv * enorm2 v)
    {x : Fin n → ℝ} {tol : ℝ}
    (ht : Transc.le (enorm2 (0 - M *ᵥ x) / guardNorm (enorm2 (0 : Fin n → ℝ))) tol = true) :
    enorm2 x ≤ cinv * tol := by
  rw [le_iff, guardNorm_enorm2_zero, div_one] at ht
  have h := forward_error_of_residual M hM cinv hcinv 0 x
  rw [mulVec_zero, sub_zero] at h
  exact le_trans h (mul_le_mul_of_nonneg_left ht hc)

open scoped Matrix.Norms.L2Operator in
theorem enorm2_eq_norm (v : Fin n → ℝ) :
    enorm2 v = ‖(WithLp.toLp 2 v : EuclideanSpace ℝ (Fin n))‖ := by
  rw [EuclideanSpace.norm_eq]
  unfold enorm2 dotProduct
  congr 1
  apply Finset.sum_congr rfl
  intro i _
  simp [Real.norm_eq_abs, pow_two]

open scoped Matrix.Norms.L2Operator in
theorem opNorm_bound (N : Matrix (Fin n) (Fin n) ℝ) (v : Fin n → ℝ) :
    enorm2 (N *ᵥ v) ≤ ‖N‖ * enorm2 v := by
  have := Matrix.l2_opNorm_mulVec N (WithLp.toLp 2 v)
  rw [enorm2_eq_norm, enorm2_eq_norm]
  exact this

open scoped Matrix.Norms.L2Operator in
/-- `forward_error_of_test` with the spectral condition number `κ₂ = ‖M⁻¹‖₂·‖M‖₂` (Mathlib's `ℓ²`
    operator norm of matrices); combine with `run_test_of_success` below for any of the
    four solvers -/
theorem forward_error_of_test_opNorm (hM : IsUnit M.det) {b x : Fin n → ℝ} {tol : ℝ} (hb : b ≠ 0)
    (ht : Transc.le (enorm2 (b - M *ᵥ x) / guardNorm (enorm2 b)) tol = true) :
    enorm2 (x - M⁻¹ *ᵥ b) ≤ ‖M⁻¹‖ * tol * enorm2 b ∧
    enorm2 (x - M⁻¹ *ᵥ b) ≤ (‖M⁻¹‖ * ‖M‖) * tol * enorm2 (M⁻¹ *ᵥ b) :=
  forward_error_of_test M hM ‖M⁻¹‖ ‖M‖ (opNorm_bound M⁻¹) (opNorm_bound M) hb ht

/-- the Frobenius norm `√(Σᵢⱼ Nᵢⱼ²)` -/
noncomputable def frobenius (N : Matrix (Fin n) (Fin n) ℝ) : ℝ :=
  Real.sqrt (∑ i, ∑ j, N i j ^ 2)

theorem frobenius_nonneg (N : Matrix (Fin n) (Fin n) ℝ) : 0 ≤ frobenius N := Real.sqrt_nonneg _

/-- Cauchy–Schwarz: `‖N v‖₂ ≤ ‖N‖_F ‖v‖₂` -/
theorem frobenius_bound (N : Matrix (Fin n) (Fin n) ℝ) (v : Fin n → ℝ) :
    enorm2 (N *ᵥ v) ≤ frobenius N * enorm2 v := by
  unfold enorm2 frobenius
  have hF : 0 ≤ ∑ i, ∑ j, N i j ^ 2 :=
    Finset.sum_nonneg fun i _ => Finset.sum_nonneg fun j _ => sq_nonneg _
  rw [← Real.sqrt_mul hF]
  apply Real.sqrt_le_sqrt
  have hrow : ∀ i, (N *ᵥ v) i * (N *ᵥ v) i ≤ (∑ j, N i j ^ 2) * (v ⬝ᵥ v) := by
    intro i
    have h := Finset.sum_mul_sq_le_sq_mul_sq Finset.univ (fun j => N i j) v
    have hv : v ⬝ᵥ v = ∑ j, v j ^ 2 := by
      unfold dotProduct
      exact Finset.sum_congr rfl fun j _ => (pow_two _).symm
    rw [hv, ← pow_two]
    exact h
  calc (N *ᵥ v) ⬝ᵥ (N *ᵥ v) = ∑ i, (N *ᵥ v) i * (N *ᵥ v) i := rfl
    _ ≤ ∑ i, (∑ j, N i j ^ 2) * (v ⬝ᵥ v) := Finset.sum_le_sum fun i _ => hrow i
    _ = (∑ i, ∑ j, N i j ^ 2) * (v ⬝ᵥ v) := by rw [Finset.sum_mul]

/-- The model's vector operations for a dense real matrix `M` with the Euclidean norm: `A v = M *ᵥ v`,
    `norm2 v = √(v ⬝ᵥ v)`; the transposed product `At` and the dot product `dot` are ARBITRARY
    (the accuracy of a reported success does not depend on them).  An instance of C08's `modOps`. -/
noncomputable def euclidOps (M : Matrix (Fin n) (Fin n) ℝ) (At : (Fin n → ℝ) → (Fin n → ℝ))
    (dot : (Fin n → ℝ) → (Fin n → ℝ) → ℝ) : VOps ℝ (Fin n → ℝ) :=
  modOps (Matrix.mulVecLin M) At dot enorm2

/-- the operations the solvers really use (`At = Mᵀ *ᵥ ·`, `dot = ⬝ᵥ`) are C09G's `spdOps` -/
theorem spdOps_eq_euclidOps :
    spdOps M = euclidOps M (Matrix.mulVecLin Mᵀ) (fun u v => u ⬝ᵥ v) := rfl

variable (At : (Fin n → ℝ) → (Fin n → ℝ)) (dot : (Fin n → ℝ) → (Fin n → ℝ) → ℝ)
variable (cinv cM : ℝ) (b x0 : Fin n → ℝ) (maxIter : ℕ) (tol : ℝ)

theorem run_test_of_success (m : Sp.Method)
    (hok : (runOn (euclidOps M At dot) m b x0 maxIter tol).ok = true) :
    Transc.le (enorm2 (b - M *ᵥ (runOn (euclidOps M At dot) m b x0 maxIter tol).x) /
      guardNorm (enorm2 b)) tol = true :=
  run_success_sound (Matrix.mulVecLin M) At dot enorm2 m b x0 maxIter tol hok

/-- **CG, accuracy of a reported success.**  `M` invertible, `cinv`/`cM` bounds of `M⁻¹`/`M` in the
    Euclidean norm, `b ≠ 0`: the returned `x` is within `cinv·tol·‖b‖` of the direct solution
    `x* = M⁻¹ b`, hence within `tol` times the condition number `cinv·cM`, relative to `‖x*‖`. -/
theorem cg_success_forward_error (hM : IsUnit M.det)
    (hcinv : ∀ v, enorm2 (M⁻¹ *ᵥ v) ≤ cinv * enorm2 v)
    (hcM : ∀ v, enorm2 (M *ᵥ v) ≤ cM * enorm2 v) (hb : b ≠ 0)
    (hok : (solveCG (euclidOps M At dot) b x0 maxIter tol).ok = true) :
    enorm2 ((solveCG (euclidOps M At dot) b x0 maxIter tol).x - M⁻¹ *ᵥ b) ≤ cinv * tol * enorm2 b ∧
    enorm2 ((solveCG (euclidOps M At dot) b x0 maxIter tol).x - M⁻¹ *ᵥ b) ≤
      (cinv * cM) * tol * enorm2 (M⁻¹ *ᵥ b) :=
  forward_error_of_test M hM cinv cM hcinv hcM hb (run_test_of_success M At dot b x0 maxIter tol .cg hok)

/-- CG, zero right-hand side (the code divides by `1` instead of `‖b‖`): the exact solution is `0`
    and a reported success means `‖x‖ ≤ cinv·tol`. -/
theorem cg_success_forward_error_zero_rhs (hM : IsUnit M.det) (hc : 0 ≤ cinv)
    (hcinv : ∀ v, enorm2 (M⁻¹ *ᵥ v) ≤ cinv * enorm2 v)
    (hok : (solveCG (euclidOps M At dot) 0 x0 maxIter tol).ok = true) :
    enorm2 (solveCG (euclidOps M At dot) 0 x0 maxIter tol).x ≤ cinv * tol :=
  forward_error_of_test_zero M hM cinv hc hcinv (run_test_of_success M At dot 0 x0 maxIter tol .cg hok)

/-- **BiCG (any `itol`; the code accepts 1 and 2), accuracy of a reported success.** -/
theorem bicg_success_forward_error (itol : ℕ) (hM : IsUnit M.det)
    (hcinv : ∀ v, enorm2 (M⁻¹ *ᵥ v) ≤ cinv * enorm2 v)
    (hcM : ∀ v, enorm2 (M *ᵥ v) ≤ cM * enorm2 v) (hb : b ≠ 0)
    (hok : (solveBiCG (euclidOps M At dot) b x0 maxIter tol itol).ok = true) :
    enorm2 ((solveBiCG (euclidOps M At dot) b x0 maxIter tol itol).x - M⁻¹ *ᵥ b) ≤
      cinv * tol * enorm2 b ∧
    enorm2 ((solveBiCG (euclidOps M At dot) b x0 maxIter tol itol).x - M⁻¹ *ᵥ b) ≤
      (cinv * cM) * tol * enorm2 (M⁻¹ *ᵥ b) :=
  forward_error_of_test M hM cinv cM hcinv hcM hb
    (run_test_of_success M At dot b x0 maxIter tol (.bicg itol) hok)

theorem bicg_success_forward_error_zero_rhs (itol : ℕ) (hM : IsUnit M.det) (hc : 0 ≤ cinv)
    (hcinv : ∀ v, enorm2 (M⁻¹ *ᵥ v) ≤ cinv * enorm2 v)
    (hok : (solveBiCG (euclidOps M At dot) 0 x0 maxIter tol itol).ok = true) :
    enorm2 (solveBiCG (euclidOps M At dot) 0 x0 maxIter tol itol).x ≤ cinv * tol :=
  forward_error_of_test_zero M hM cinv hc hcinv
    (run_test_of_success M At dot 0 x0 maxIter tol (.bicg itol) hok)

/-- **BiCGSTAB, accuracy of a reported success** (either exit: `≤ tol` or the strict `< tol`). -/
theorem stab_success_forward_error (hM : IsUnit M.det)
    (hcinv : ∀ v, enorm2 (M⁻¹ *ᵥ v) ≤ cinv * enorm2 v)
    (hcM : ∀ v, enorm2 (M *ᵥ v) ≤ cM * enorm2 v) (hb : b ≠ 0)
    (hok : (solveBiCGSTAB (euclidOps M At dot) b x0 maxIter tol).ok = true) :
    enorm2 ((solveBiCGSTAB (euclidOps M At dot) b x0 maxIter tol).x - M⁻¹ *ᵥ b) ≤
      cinv * tol * enorm2 b ∧
    enorm2 ((solveBiCGSTAB (euclidOps M At dot) b x0 maxIter tol).x - M⁻¹ *ᵥ b) ≤
      (cinv * cM) * tol * enorm2 (M⁻¹ *ᵥ b) :=
  forward_error_of_test M hM cinv cM hcinv hcM hb
    (run_test_of_success M At dot b x0 maxIter tol .bicgstab hok)

theorem stab_success_forward_error_zero_rhs (hM : IsUnit M.det) (hc : 0 ≤ cinv)
    (hcinv : ∀ v, enorm2 (M⁻¹ *ᵥ v) ≤ cinv * enorm2 v)
    (hok : (solveBiCGSTAB (euclidOps M At dot) 0 x0 maxIter tol).ok = true) :
    enorm2 (solveBiCGSTAB (euclidOps M At dot) 0 x0 maxIter tol).x ≤ cinv * tol :=
  forward_error_of_test_zero M hM cinv hc hcinv
    (run_test_of_success M At dot 0 x0 maxIter tol .bicgstab hok)

/-- **QMR, accuracy of a reported success.** -/
theorem qmr_success_forward_error (hM : IsUnit M.det)
    (hcinv : ∀ v, enorm2 (M⁻¹ *ᵥ v) ≤ cinv * enorm2 v)
    (hcM : ∀ v, enorm2 (M *ᵥ v) ≤ cM * enorm2 v) (hb : b ≠ 0)
    (hok : (solveQMR (euclidOps M At dot) b x0 maxIter tol).ok = true) :
    enorm2 ((solveQMR (euclidOps M At dot) b x0 maxIter tol).x - M⁻¹ *ᵥ b) ≤
      cinv * tol * enorm2 b ∧
    enorm2 ((solveQMR (euclidOps M At dot) b x0 maxIter tol).x - M⁻¹ *ᵥ b) ≤
      (cinv * cM) * tol * enorm2 (M⁻¹ *ᵥ b) :=
  forward_error_of_test M hM cinv cM hcinv hcM hb
    (run_test_of_success M At dot b x0 maxIter tol .qmr hok)

theorem qmr_success_forward_error_zero_rhs (hM : IsUnit M.det) (hc : 0 ≤ cinv)
    (hcinv : ∀ v, enorm2 (M⁻¹ *ᵥ v) ≤ cinv * enorm2 v)
    (hok : (solveQMR (euclidOps M At dot) 0 x0 maxIter tol).ok = true) :
    enorm2 (solveQMR (euclidOps M At dot) 0 x0 maxIter tol).x ≤ cinv * tol :=
  forward_error_of_test_zero M hM cinv hc hcinv
    (run_test_of_success M At dot 0 x0 maxIter tol .qmr hok)

theorem isUnit_det_of_posDef (hM : M.PosDef) : IsUnit M.det :=
  (Matrix.isUnit_iff_isUnit_det M).mp hM.isUnit

/-- **C09 for CG, exact arithmetic.**  `M` symmetric positive definite, `tol ≥ 0`, budget `≥ n`:
    for every right-hand side and every initial guess the model's CG reports success after at most
    `n` iterations, and the returned `x` agrees with the direct solution `x* = M⁻¹ b` to within
    `cinv·tol·‖b‖ ≤ (cinv·cM)·tol·‖x*‖` — the tolerance times the condition number (for `b = 0`,
    where the code divides by `1`: `‖x‖ ≤ cinv·tol`). -/
theorem cg_forward_error_spd (hM : M.PosDef)
    (hc : 0 ≤ cinv) (hcinv : ∀ v, enorm2 (M⁻¹ *ᵥ v) ≤ cinv * enorm2 v)
    (hcM : ∀ v, enorm2 (M *ᵥ v) ≤ cM * enorm2 v)
    (hmax : n ≤ maxIter) (htol : 0 ≤ tol) :
    (solveCG (spdOps M) b x0 maxIter tol).ok = true ∧
    (solveCG (spdOps M) b x0 maxIter tol).iters ≤ n ∧
    (b ≠ 0 →
      enorm2 ((solveCG (spdOps M) b x0 maxIter tol).x - M⁻¹ *ᵥ b) ≤ cinv * tol * enorm2 b ∧
      enorm2 ((solveCG (spdOps M) b x0 maxIter tol).x - M⁻¹ *ᵥ b) ≤
        (cinv * cM) * tol * enorm2 (M⁻¹ *ᵥ b)) ∧
    (b = 0 → enorm2 (solveCG (spdOps M) b x0 maxIter tol).x ≤ cinv * tol) := by
  obtain ⟨hok, hit⟩ := cg_finite_termination M b x0 tol hM maxIter hmax htol
  have hdet := isUnit_det_of_posDef M hM
  refine ⟨hok, hit, fun hb => ?_, fun hb => ?_⟩
  · exact cg_success_forward_error M _ _ cinv cM b x0 maxIter tol hdet hcinv hcM hb hok
  · subst hb
    exact cg_success_forward_error_zero_rhs M _ _ cinv x0 maxIter tol hdet hc hcinv hok

open scoped Matrix.Norms.L2Operator in
/-- the same with the spectral condition number `κ₂ = ‖M⁻¹‖₂·‖M‖₂` (Mathlib's `ℓ²` operator norm) -/
theorem cg_forward_error_spd_opNorm (hM : M.PosDef) (hmax : n ≤ maxIter) (htol : 0 ≤ tol) :
    (solveCG (spdOps M) b x0 maxIter tol).ok = true ∧
    (solveCG (spdOps M) b x0 maxIter tol).iters ≤ n ∧
    (b ≠ 0 →
      enorm2 ((solveCG (spdOps M) b x0 maxIter tol).x - M⁻¹ *ᵥ b) ≤
        (‖M⁻¹‖ * ‖M‖) * tol * enorm2 (M⁻¹ *ᵥ b)) ∧
    (b = 0 → enorm2 (solveCG (spdOps M) b x0 maxIter tol).x ≤ ‖M⁻¹‖ * tol) := by
  have h := cg_forward_error_spd M ‖M⁻¹‖ ‖M‖ b x0 maxIter tol hM (norm_nonneg _)
    (opNorm_bound M⁻¹) (opNorm_bound M) hmax htol
  exact ⟨h.1, h.2.1, fun hb => (h.2.2.1 hb).2, h.2.2.2⟩

end Accuracy

section Example

/-! the operations of `euclidOps` on vectors `![x, y]` for a matrix `!![a, b; c, d]`: what the runs
    below evaluate -/
section Dim2
variable (a b c d : ℝ) (At : (Fin 2 → ℝ) → (Fin 2 → ℝ)) (dot : (Fin 2 → ℝ) → (Fin 2 → ℝ) → ℝ)
  (N : Matrix (Fin 2) (Fin 2) ℝ) (x y z w k : ℝ)

theorem euclidOps_A_two :
    (euclidOps !![a, b; c, d] At dot).A ![x, y] = ![a * x + b * y, c * x + d * y] := by
  show !![a, b; c, d] *ᵥ ![x, y] = _
  ext i; fin_cases i <;> simp [Matrix.mulVec]

theorem euclidOps_At_two :
    (euclidOps N (Matrix.mulVecLin !![a, b; c, d]ᵀ) dot).At ![x, y]
      = ![a * x + c * y, b * x + d * y] := by
  show !![a, b; c, d]ᵀ *ᵥ ![x, y] = _
  ext i; fin_cases i <;> simp [Matrix.mulVec]

theorem euclidOps_dot_two :
    (euclidOps N At fun u v => u ⬝ᵥ v).dot ![x, y] ![z, w] = x * z + y * w := by
  show ![x, y] ⬝ᵥ ![z, w] = _
  simp

theorem euclidOps_norm2_two : (euclidOps N At dot).norm2 ![x, y] = √(x * x + y * y) := by
  show √(![x, y] ⬝ᵥ ![x, y]) = _
  simp

theorem euclidOps_add_two : (euclidOps N At dot).add ![x, y] ![z, w] = ![x + z, y + w] :=
  Matrix.vec2_add x y z w

theorem euclidOps_sub_two : (euclidOps N At dot).sub ![x, y] ![z, w] = ![x - z, y - w] := by
  show ![x, y] - ![z, w] = _
  simp

theorem euclidOps_smul_two : (euclidOps N At dot).smul ![x, y] k = ![k * x, k * y] :=
  Matrix.smul_vec2 k x y

theorem euclidOps_lsmul_two : (euclidOps N At dot).lsmul k ![x, y] = ![k * x, k * y] :=
  Matrix.smul_vec2 k x y

theorem euclidOps_sdiv_two : (euclidOps N At dot).sdiv ![x, y] k = ![k⁻¹ * x, k⁻¹ * y] :=
  Matrix.smul_vec2 k⁻¹ x y

end Dim2

/-- `[[1, 2], [0, 1]]`: nonsymmetric, determinant `1` -/
noncomputable abbrev M0 : Matrix (Fin 2) (Fin 2) ℝ := !![1, 2; 0, 1]

theorem M0_isUnit_det : IsUnit M0.det := by
  simp [Matrix.det_fin_two]

theorem M0_not_symm : M0ᵀ ≠ M0 := by
  intro h
  have := congrFun (congrFun h 0) 1
  simp at this

/-- the operations the solvers really use on `M0` -/
noncomputable abbrev ops0 : VOps ℝ (Fin 2 → ℝ) :=
  euclidOps M0 (Matrix.mulVecLin M0ᵀ) (fun u v => u ⬝ᵥ v)

/-- on `M0 x = (1, 0)` from the zero guess with `tol = 1/2`, all four solvers fail the initial test
    and report success in iteration 1 of their loop -/
theorem example_runs :
    ((solveCG ops0 ![1, 0] ![0, 0] 1 (1/2)).ok = true ∧
      (solveCG ops0 ![1, 0] ![0, 0] 1 (1/2)).iters = 1) ∧
    ((solveBiCG ops0 ![1, 0] ![0, 0] 1 (1/2) 1).ok = true ∧
      (solveBiCG ops0 ![1, 0] ![0, 0] 1 (1/2) 1).iters = 1) ∧
    ((solveBiCG ops0 ![1, 0] ![0, 0] 1 (1/2) 2).ok = true ∧
      (solveBiCG ops0 ![1, 0] ![0, 0] 1 (1/2) 2).iters = 1) ∧
    ((solveBiCGSTAB ops0 ![1, 0] ![0, 0] 1 (1/2)).ok = true ∧
      (solveBiCGSTAB ops0 ![1, 0] ![0, 0] 1 (1/2)).iters = 1) ∧
    ((solveQMR ops0 ![1, 0] ![0, 0] 1 (1/2)).ok = true ∧
      (solveQMR ops0 ![1, 0] ![0, 0] 1 (1/2)).iters = 1) := by
  have hbi : ∀ itol, (solveBiCG ops0 ![1, 0] ![0, 0] 1 (1/2) itol).ok = true ∧
      (solveBiCG ops0 ![1, 0] ![0, 0] 1 (1/2) itol).iters = 1 := fun itol => by
    norm_num [Transc.le, solveBiCG, iterate, bicgStep, bicgErr_self, bicgDir, guardNorm,
      euclidOps_A_two, euclidOps_At_two, euclidOps_dot_two, euclidOps_norm2_two, euclidOps_add_two,
      euclidOps_sub_two, euclidOps_smul_two]
  refine ⟨?_, hbi 1, hbi 2, ?_, ?_⟩
  · norm_num [Transc.le, solveCG, iterate, cgStep, cgDir, guardNorm, euclidOps_A_two,
      euclidOps_dot_two, euclidOps_norm2_two, euclidOps_add_two, euclidOps_sub_two,
      euclidOps_smul_two]
  · norm_num [Transc.le, solveBiCGSTAB, iterate, stabStep, stabDir, guardNorm, euclidOps_A_two,
      euclidOps_dot_two, euclidOps_norm2_two, euclidOps_add_two, euclidOps_sub_two,
      euclidOps_smul_two, euclidOps_lsmul_two]
  · norm_num [Transc.le, Transc.sqrt, solveQMR, iterate, qmrStep, qmrDir, qmrUpd, guardNorm,
      euclidOps_A_two, euclidOps_At_two, euclidOps_dot_two, euclidOps_norm2_two, euclidOps_add_two,
      euclidOps_sub_two, euclidOps_lsmul_two, euclidOps_sdiv_two]

theorem e1_ne_zero : (![1, 0] : Fin 2 → ℝ) ≠ 0 := by
  intro h
  have := congrFun h 0
  simp at this

/-- every hypothesis of the four `…_success_forward_error` theorems holds on this system (with the
    Frobenius bounds as `cinv`, `cM`), so their conclusions hold of the vectors the solvers return -/
example :
    enorm2 ((solveCG ops0 ![1, 0] ![0, 0] 1 (1/2)).x - M0⁻¹ *ᵥ ![1, 0]) ≤
      (frobenius M0⁻¹ * frobenius M0) * (1/2) * enorm2 (M0⁻¹ *ᵥ ![1, 0]) ∧
    enorm2 ((solveBiCG ops0 ![1, 0] ![0, 0] 1 (1/2) 1).x - M0⁻¹ *ᵥ ![1, 0]) ≤
      (frobenius M0⁻¹ * frobenius M0) * (1/2) * enorm2 (M0⁻¹ *ᵥ ![1, 0]) ∧
    enorm2 ((solveBiCG ops0 ![1, 0] ![0, 0] 1 (1/2) 2).x - M0⁻¹ *ᵥ ![1, 0]) ≤
      (frobenius M0⁻¹ * frobenius M0) * (1/2) * enorm2 (M0⁻¹ *ᵥ ![1, 0]) ∧
    enorm2 ((solveBiCGSTAB ops0 ![1, 0] ![0, 0] 1 (1/2)).x - M0⁻¹ *ᵥ ![1, 0]) ≤
      (frobenius M0⁻¹ * frobenius M0) * (1/2) * enorm2 (M0⁻¹ *ᵥ ![1, 0]) ∧
    enorm2 ((solveQMR ops0 ![1, 0] ![0, 0] 1 (1/2)).x - M0⁻¹ *ᵥ ![1, 0]) ≤
      (frobenius M0⁻¹ * frobenius M0) * (1/2) * enorm2 (M0⁻¹ *ᵥ ![1, 0]) :=
  ⟨(cg_success_forward_error M0 _ _ _ _ _ _ 1 (1/2) M0_isUnit_det (frobenius_bound _)
      (frobenius_bound _) e1_ne_zero example_runs.1.1).2,
   (bicg_success_forward_error M0 _ _ _ _ _ _ 1 (1/2) 1 M0_isUnit_det (frobenius_bound _)
      (frobenius_bound _) e1_ne_zero example_runs.2.1.1).2,
   (bicg_success_forward_error M0 _ _ _ _ _ _ 1 (1/2) 2 M0_isUnit_det (frobenius_bound _)
      (frobenius_bound _) e1_ne_zero example_runs.2.2.1.1).2,
   (stab_success_forward_error M0 _ _ _ _ _ _ 1 (1/2) M0_isUnit_det (frobenius_bound _)
      (frobenius_bound _) e1_ne_zero example_runs.2.2.2.1.1).2,
   (qmr_success_forward_error M0 _ _ _ _ _ _ 1 (1/2) M0_isUnit_det (frobenius_bound _)
      (frobenius_bound _) e1_ne_zero example_runs.2.2.2.2.1).2⟩

/-- zero right-hand side with a nonzero guess that passes the absolute test `‖M x‖ ≤ tol`: the
    hypotheses of the `…_zero_rhs` theorems are satisfiable with a nonzero returned vector -/
example :
    (solveCG ops0 0 ![1/4, 0] 1 (1/2)).ok = true ∧ (solveCG ops0 0 ![1/4, 0] 1 (1/2)).x = ![1/4, 0] ∧
    (solveBiCG ops0 0 ![1/4, 0] 1 (1/2) 1).ok = true ∧
    (solveBiCGSTAB ops0 0 ![1/4, 0] 1 (1/2)).ok = true ∧
    (solveQMR ops0 0 ![1/4, 0] 1 (1/2)).ok = true := by
  -- all four apply the same initial test `‖0 − M0 x₀‖ / 1 ≤ 1/2`, here `1/4 ≤ 1/2`
  have hres : Transc.le (ops0.norm2 (ops0.sub 0 (ops0.A ![1/4, 0])) / guardNorm (ops0.norm2 0))
      (1/2) = true := by
    have h : Real.sqrt 16 = 4 := by
      rw [show (16 : ℝ) = 4 * 4 by norm_num]
      exact Real.sqrt_mul_self (by norm_num)
    rw [euclidOps_A_two]
    norm_num [Transc.le, guardNorm, euclidOps, modOps, enorm2, h]
  obtain ⟨h1, -, h2, h3, -, -, h4, -, -, h5, -⟩ := acceptsGuess_of_test ops0 0 ![1/4, 0] 1 (1/2) 1 hres
  exact ⟨h1, h2, h3, h4, h5⟩

end Example
end Ohsl.Props.C09
