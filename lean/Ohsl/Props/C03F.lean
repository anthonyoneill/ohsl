/-
  Property C03 (part F) — rounding-error bounds for the dense-matrix operations in the "rounded
  reals" interpretation `Fl M` of the model (Ohsl/Lemmas/Rounding.lean): the SAME model definitions
  `Mat.mulVec`, `Mat.mul`, `Mat.add`, … instantiated at real numbers whose `+ - * /` round with
  relative error `≤ u` (standard model of floating-point arithmetic, no overflow / underflow).

  The transfer to the Rust `f64` code rests on the ASSUMPTION stated in Rounding.lean (IEEE binary64
  without overflow/underflow satisfies `FlModel` with `u = 2⁻⁵³`); it is not proved here.

  Notation: `Is A r c ea` = "`A` is a well-formed `r × c` matrix whose entry (i,j) is `ea i j`",
  `M.gam n = (1+u)^n - 1`, `max0 n g` the maximum of `0, g 0, …, g (n-1)` (`max0_spec`).

  * `mulVec_rounding`, `mul_rounding` (F): componentwise forward error of `A·v` and `A·B`, every
    conformable shape (`|fl(AB) - AB| ≤ γ |A||B|`); `mulVec_rounding_gamma`, `mul_rounding_gamma`: with
    the classical constants.  Both forms are read off `rowDot_within`, `dotRC_within`: the computed
    entry is `c+1` resp. `k+1` roundings from the exact one, against the sum of the absolute products.
  * `add_rounding`, `sub_rounding`, `smul_rounding`, `sdiv_rounding`, `addS_rounding`,
    `subS_rounding`, `lsmul_rounding` (F): one rounding per entry; `neg_exact`; `sdiv_zero_rejects`.
  * Norms.  ALL norm definitions of the model (`norm1`, `normInf`, `normMax`, `normP`, `normFrob`)
    live in the `Transc` section (they use `f64::abs`, `f64::max`, `powf`), and there is no
    `Transc (Fl M)` instance in Rounding.lean.  The theorems below hold for EVERY instance
    `Transc (Fl M)` whose `fabs` and `fmax` are exact (`hfabs`, `hfmax`; IEEE `abs` and `max` are
    exact); such an instance, `flTransc M` (every other `f64` function = the real function rounded
    once), is defined here and used in the examples.  The loops are read as folds in
    Lemmas/NormFold.lean; what is proved here is the value of the folds.
      `norm1_rounding`, `normInf_rounding` (F), `norm1_rounding_gamma`; `normMax_exact` (F).
    `normP`, `normFrob` need `powf`, about which the standard model says nothing: they are in C03P,
    under an explicit error model for `powf`.
-/
import Ohsl.Props.C03M
import Ohsl.Props.C16F
import Ohsl.Lemmas.Rounding
import Ohsl.Lemmas.NormFold
import Ohsl.Lemmas.RealTransc
import Mathlib.Algebra.BigOperators.Intervals
import Mathlib.Algebra.Order.BigOperators.Group.Finset
import Mathlib.Tactic.Ring
namespace Ohsl.Props.C03
open Ohsl Ohsl.Mat

section Max0

/-- `max0 n g = max (0, g 0, …, g (n-1))` -/
def max0 : Nat → (Nat → ℝ) → ℝ
  | 0, _ => 0
  | n + 1, g => max (max0 n g) (g n)

theorem max0_eq_maxRow (n : Nat) (g : Nat → ℝ) : max0 n g = Mat.maxRow n g := by
  induction n with
  | zero => rfl
  | succ n ih => exact congrArg (max · (g n)) ih

theorem max0_nonneg (n : Nat) (g : Nat → ℝ) : 0 ≤ max0 n g :=
  max0_eq_maxRow n g ▸ Mat.maxRow_nonneg n g

theorem le_max0 {n : Nat} (g : Nat → ℝ) {j : Nat} (hj : j < n) : g j ≤ max0 n g :=
  max0_eq_maxRow n g ▸ Mat.le_maxRow g hj

theorem max0_le {n : Nat} (g : Nat → ℝ) {b : ℝ} (hb : 0 ≤ b) (h : ∀ j, j < n → g j ≤ b) :
    max0 n g ≤ b :=
  max0_eq_maxRow n g ▸ Mat.maxRow_le g hb h

theorem max0_attained (n : Nat) (g : Nat → ℝ) : max0 n g = 0 ∨ ∃ j, j < n ∧ max0 n g = g j := by
  induction n with
  | zero => exact Or.inl rfl
  | succ n ih =>
    show max (max0 n g) (g n) = 0 ∨ ∃ j, j < n + 1 ∧ max (max0 n g) (g n) = g j
    rcases max_choice (max0 n g) (g n) with h | h
    · rw [h]
      rcases ih with h0 | ⟨j, hj, hjg⟩
      · exact Or.inl h0
      · exact Or.inr ⟨j, by omega, hjg⟩
    · exact Or.inr ⟨n, by omega, h⟩

/-- `max0 n g` is THE maximum of `0` and the `g j`, `j < n`: the three clauses in which `norm1_spec` /
`normInf_spec` of C03N describe their results, and which determine the value (`max0_unique` there) -/
theorem max0_spec (n : Nat) (g : Nat → ℝ) :
    0 ≤ max0 n g ∧ (∀ j, j < n → g j ≤ max0 n g) ∧ (max0 n g = 0 ∨ ∃ j, j < n ∧ max0 n g = g j) :=
  ⟨max0_nonneg n g, fun _ hj => le_max0 g hj, max0_attained n g⟩

theorem max0_congr {n : Nat} {g g' : Nat → ℝ} (h : ∀ j, j < n → g j = g' j) :
    max0 n g = max0 n g' := by
  induction n with
  | zero => rfl
  | succ n ih =>
    show max (max0 n g) (g n) = max (max0 n g') (g' n)
    rw [ih (fun j hj => h j (by omega)), h n (by omega)]

theorem foldl_max_eq (n : Nat) (g : Nat → ℝ) (init : ℝ) (h0 : 0 ≤ init) :
    (List.range n).foldl (fun v j => max v (g j)) init = max init (max0 n g) := by
  induction n with
  | zero => exact (max_eq_left h0).symm
  | succ n ih =>
    rw [List.range_succ, List.foldl_append, ih]
    exact max_assoc _ _ _

theorem max0_perturb (n : Nat) (x y : Nat → ℝ) (ε : ℝ) (hε : 0 ≤ ε)
    (h : ∀ j, j < n → |x j - y j| ≤ ε * y j) :
    |max0 n x - max0 n y| ≤ ε * max0 n y := by
  have hεy : 0 ≤ ε * max0 n y := mul_nonneg hε (max0_nonneg n y)
  have hεj : ∀ j, j < n → ε * y j ≤ ε * max0 n y :=
    fun j hj => mul_le_mul_of_nonneg_left (le_max0 y hj) hε
  rw [abs_le]
  exact ⟨neg_le_sub_iff_le_add.mpr (max0_le y (add_nonneg (max0_nonneg n x) hεy) fun j hj =>
      (neg_le_sub_iff_le_add.mp (abs_le.mp (h j hj)).1).trans
        (add_le_add (le_max0 x hj) (hεj j hj))),
    sub_le_iff_le_add'.mpr (max0_le x (add_nonneg (max0_nonneg n y) hεy) fun j hj =>
      (sub_le_iff_le_add'.mp (abs_le.mp (h j hj)).2).trans
        (add_le_add (le_max0 y hj) (hεj j hj)))⟩

end Max0

section Rounding
variable {M : FlModel}
open Fl Ohsl.Props.C16

theorem zipWith_fold_within (a b : Array (Fl M)) (h : a.size = b.size) :
    M.Within (a.size + 1) ((Array.zipWith (· * ·) a b).foldl (· + ·) 0).val (exactDot a b)
      (absDot a b) := by
  obtain ⟨r, hr, hr'⟩ := dot_within a b h
  have : Vec.dot a b = .ok ((Array.zipWith (· * ·) a b).foldl (· + ·) 0) := by
    simp [Vec.dot, h]
  rw [this] at hr
  cases hr
  exact hr'

theorem rowDot_within (f : Nat → Fl M) (v : Array (Fl M)) (c : Nat) (hv : v.size = c) :
    M.Within (c + 1)
      ((Array.zipWith (· * ·) ((List.range c).map f).toArray v).foldl (· + ·) 0).val
      (∑ j ∈ Finset.range c, (f j).val * (v.getD j 0).val)
      (∑ j ∈ Finset.range c, |(f j).val * (v.getD j 0).val|) := by
  have hsz : ((List.range c).map f).toArray.size = c := by simp
  have h := zipWith_fold_within ((List.range c).map f).toArray v (by rw [hsz, hv])
  have hterm : ∀ j ∈ Finset.range c,
      term ((List.range c).map f).toArray v j = (f j).val * (v.getD j 0).val :=
    fun j hj => by rw [term, getD_map_range c f 0 j (Finset.mem_range.mp hj)]
  rwa [exactDot, absDot, hsz, Finset.sum_congr rfl hterm,
    Finset.sum_congr rfl fun j hj => congrArg abs (hterm j hj)] at h

/-- **matrix · vector**, componentwise, every shape `r × c`:
`|fl(Av)_i - Σ_j a_ij v_j| ≤ gam (c+1) · Σ_j |a_ij v_j|` (one rounding per product, `c` rounded
additions: the model starts from `0 + p₀`, which the abstract model rounds). -/
theorem mulVec_rounding {A : Mat (Fl M)} {r c : Nat} {ea : Nat → Nat → Fl M} (hA : Is A r c ea)
    (v : Array (Fl M)) (hv : v.size = c) :
    ∃ w, mulVec A v = .ok w ∧ w.size = r ∧
      ∀ i, i < r →
        |(w.getD i 0).val - ∑ j ∈ Finset.range c, (ea i j).val * (v.getD j 0).val|
          ≤ M.gam (c + 1) * ∑ j ∈ Finset.range c, |(ea i j).val * (v.getD j 0).val| := by
  refine ⟨_, mulVec_spec hA v hv, by simp, ?_⟩
  intro i hi
  rw [getD_map_range r _ 0 i hi]
  exact (rowDot_within (fun j => ea i j) v c hv).1

theorem mulVec_rounding_gamma {A : Mat (Fl M)} {r c : Nat} {ea : Nat → Nat → Fl M}
    (hA : Is A r c ea) (v : Array (Fl M)) (hv : v.size = c)
    (hu : ((c + 1 : ℕ) : ℝ) * M.u < 1) :
    ∃ w, mulVec A v = .ok w ∧ w.size = r ∧
      ∀ i, i < r →
        |(w.getD i 0).val - ∑ j ∈ Finset.range c, (ea i j).val * (v.getD j 0).val|
          ≤ ((c + 1 : ℕ) : ℝ) * M.u / (1 - ((c + 1 : ℕ) : ℝ) * M.u)
              * ∑ j ∈ Finset.range c, |(ea i j).val * (v.getD j 0).val| := by
  refine ⟨_, mulVec_spec hA v hv, by simp, ?_⟩
  intro i hi
  rw [getD_map_range r _ 0 i hi]
  exact (rowDot_within (fun j => ea i j) v c hv).gamma hu

theorem dotRC_within (ea eb : Nat → Nat → Fl M) (k i j : Nat) :
    M.Within (k + 1) (dotRC ea eb k i j).val (∑ t ∈ Finset.range k, (ea i t).val * (eb t j).val)
      (∑ t ∈ Finset.range k, |(ea i t).val * (eb t j).val|) := by
  have h := rowDot_within (fun t => ea i t) ((List.range k).map (fun t => eb t j)).toArray k
    (by simp)
  have hterm : ∀ t ∈ Finset.range k,
      (ea i t).val * (((List.range k).map (fun t => eb t j)).toArray.getD t 0).val
        = (ea i t).val * (eb t j).val :=
    fun t ht => by rw [getD_map_range k _ 0 t (Finset.mem_range.mp ht)]
  rwa [Finset.sum_congr rfl hterm, Finset.sum_congr rfl fun t ht => congrArg abs (hterm t ht)] at h

/-- **matrix · matrix**, componentwise, EVERY conformable pair of shapes `r×k · k×c`:
the call succeeds with a well-formed `r × c` matrix and
`|fl(AB)_ij - Σ_t a_it b_tj| ≤ gam (k+1) · Σ_t |a_it b_tj|`  (`|fl(AB) - AB| ≤ γ_{k+1} |A||B|`). -/
theorem mul_rounding {A B : Mat (Fl M)} {r k c : Nat} {ea eb : Nat → Nat → Fl M}
    (hA : Is A r k ea) (hB : Is B k c eb) :
    ∃ p, mul A B = .ok p ∧ Is p r c (dotRC ea eb k) ∧
      ∀ i j, i < r → j < c → ∃ x, p.get i j = .ok x ∧
        |x.val - ∑ t ∈ Finset.range k, (ea i t).val * (eb t j).val|
          ≤ M.gam (k + 1) * ∑ t ∈ Finset.range k, |(ea i t).val * (eb t j).val| := by
  obtain ⟨p, hp, hI⟩ := mul_spec hA hB
  exact ⟨p, hp, hI, fun i j hi hj => ⟨_, hI.entry i j hi hj, (dotRC_within ea eb k i j).1⟩⟩

theorem mul_rounding_gamma {A B : Mat (Fl M)} {r k c : Nat} {ea eb : Nat → Nat → Fl M}
    (hA : Is A r k ea) (hB : Is B k c eb) (hu : ((k + 1 : ℕ) : ℝ) * M.u < 1) :
    ∃ p, mul A B = .ok p ∧ Is p r c (dotRC ea eb k) ∧
      ∀ i j, i < r → j < c → ∃ x, p.get i j = .ok x ∧
        |x.val - ∑ t ∈ Finset.range k, (ea i t).val * (eb t j).val|
          ≤ ((k + 1 : ℕ) : ℝ) * M.u / (1 - ((k + 1 : ℕ) : ℝ) * M.u)
              * ∑ t ∈ Finset.range k, |(ea i t).val * (eb t j).val| := by
  obtain ⟨p, hp, hI⟩ := mul_spec hA hB
  exact ⟨p, hp, hI, fun i j hi hj => ⟨_, hI.entry i j hi hj, (dotRC_within ea eb k i j).gamma hu⟩⟩

/-- `&a + &b`: every entry is the exact sum with relative error `≤ u` -/
theorem add_rounding {A B : Mat (Fl M)} {r c : Nat} {ea eb : Nat → Nat → Fl M}
    (hA : Is A r c ea) (hB : Is B r c eb) :
    ∃ p, add A B = .ok p ∧ Is p r c (fun i j => ea i j + eb i j) ∧
      ∀ i j, i < r → j < c → ∃ x, p.get i j = .ok x ∧
        |x.val - ((ea i j).val + (eb i j).val)| ≤ M.u * |(ea i j).val + (eb i j).val| := by
  obtain ⟨p, hp, hI⟩ := add_correct hA hB
  exact ⟨p, hp, hI, fun i j hi hj => ⟨_, hI.entry i j hi hj, Fl.add_err _ _⟩⟩

/-- `&a - &b`: every entry is the exact difference with relative error `≤ u` -/
theorem sub_rounding {A B : Mat (Fl M)} {r c : Nat} {ea eb : Nat → Nat → Fl M}
    (hA : Is A r c ea) (hB : Is B r c eb) :
    ∃ p, sub A B = .ok p ∧ Is p r c (fun i j => ea i j - eb i j) ∧
      ∀ i j, i < r → j < c → ∃ x, p.get i j = .ok x ∧
        |x.val - ((ea i j).val - (eb i j).val)| ≤ M.u * |(ea i j).val - (eb i j).val| := by
  obtain ⟨p, hp, hI⟩ := sub_correct hA hB
  exact ⟨p, hp, hI, fun i j hi hj => ⟨_, hI.entry i j hi hj, Fl.sub_err _ _⟩⟩

/-- unary `-`: exact -/
theorem neg_exact {A : Mat (Fl M)} {r c : Nat} {e : Nat → Nat → Fl M} (hA : Is A r c e) :
    ∃ p, neg A = .ok p ∧ Is p r c (fun i j => - e i j) ∧
      ∀ i j, i < r → j < c → ∃ x, p.get i j = .ok x ∧ x.val = - (e i j).val := by
  obtain ⟨p, hp, hI⟩ := neg_correct hA
  exact ⟨p, hp, hI, fun i j hi hj => ⟨_, hI.entry i j hi hj, rfl⟩⟩

/-- `matrix * scalar`: every entry is the exact product with relative error `≤ u` -/
theorem smul_rounding {A : Mat (Fl M)} {r c : Nat} {e : Nat → Nat → Fl M} (hA : Is A r c e)
    (s : Fl M) :
    ∃ p, smul A s = .ok p ∧ Is p r c (fun i j => e i j * s) ∧
      ∀ i j, i < r → j < c → ∃ x, p.get i j = .ok x ∧
        |x.val - (e i j).val * s.val| ≤ M.u * |(e i j).val * s.val| := by
  obtain ⟨p, hp, hI⟩ := smul_correct hA s
  exact ⟨p, hp, hI, fun i j hi hj => ⟨_, hI.entry i j hi hj, Fl.mul_err _ _⟩⟩

/-- `matrix / scalar` for a non-zero scalar: never fails, every entry is the exact quotient with
relative error `≤ u` -/
theorem sdiv_rounding {A : Mat (Fl M)} {r c : Nat} {e : Nat → Nat → Fl M} (hA : Is A r c e)
    (s : Fl M) (hs : s.val ≠ 0) :
    ∃ p, sdiv A s = .ok p ∧ Is p r c (fun i j => e i j / s) ∧
      ∀ i j, i < r → j < c → ∃ x, p.get i j = .ok x ∧
        |x.val - (e i j).val / s.val| ≤ M.u * |(e i j).val / s.val| := by
  obtain ⟨p, hp, hI⟩ := sdiv_correct hA s (fun x => x / s)
    (fun i j _ _ => by simp [ScalarExt.divM, hs])
  exact ⟨p, hp, hI, fun i j hi hj => ⟨_, hI.entry i j hi hj, Fl.div_err _ _⟩⟩

/-- division of a non-empty matrix by an exact zero is outside the standard model: error `arith` -/
theorem sdiv_zero_rejects {A : Mat (Fl M)} {r c : Nat} {e : Nat → Nat → Fl M} (hA : Is A r c e)
    (hr : 0 < r) (hc : 0 < c) (s : Fl M) (hs : s.val = 0) : sdiv A s = .error .arith :=
  mapM1_guard _ hA hr hc .arith (by simp [ScalarExt.divM, hs])

/-- `matrix + scalar` -/
theorem addS_rounding {A : Mat (Fl M)} {r c : Nat} {e : Nat → Nat → Fl M} (hA : Is A r c e)
    (s : Fl M) :
    ∃ p, addS A s = .ok p ∧ Is p r c (fun i j => e i j + s) ∧
      ∀ i j, i < r → j < c → ∃ x, p.get i j = .ok x ∧
        |x.val - ((e i j).val + s.val)| ≤ M.u * |(e i j).val + s.val| := by
  obtain ⟨p, hp, hI⟩ := addS_correct hA s
  exact ⟨p, hp, hI, fun i j hi hj => ⟨_, hI.entry i j hi hj, Fl.add_err _ _⟩⟩

/-- `matrix - scalar` -/
theorem subS_rounding {A : Mat (Fl M)} {r c : Nat} {e : Nat → Nat → Fl M} (hA : Is A r c e)
    (s : Fl M) :
    ∃ p, subS A s = .ok p ∧ Is p r c (fun i j => e i j - s) ∧
      ∀ i j, i < r → j < c → ∃ x, p.get i j = .ok x ∧
        |x.val - ((e i j).val - s.val)| ≤ M.u * |(e i j).val - s.val| := by
  obtain ⟨p, hp, hI⟩ := subS_correct hA s
  exact ⟨p, hp, hI, fun i j hi hj => ⟨_, hI.entry i j hi hj, Fl.sub_err _ _⟩⟩

/-- A `Transc (Fl M)` instance for the rounded reals (NOT a global instance): `fabs`, `fmax`, `<=`
and the constants are exact, every other `f64`-only function is the real function (of
`Ohsl.RealI.transc`) rounded once.  Only `fabs` and `fmax` matter below. -/
@[instance_reducible] noncomputable def flTransc (M : FlModel) : Transc (Fl M) where
  sqrt x := ⟨M.fl (Transc.sqrt x.val)⟩
  sin x := ⟨M.fl (Transc.sin x.val)⟩
  cos x := ⟨M.fl (Transc.cos x.val)⟩
  tan x := ⟨M.fl (Transc.tan x.val)⟩
  exp x := ⟨M.fl (Transc.exp x.val)⟩
  ln x := ⟨M.fl (Transc.ln x.val)⟩
  sinh x := ⟨M.fl (Transc.sinh x.val)⟩
  cosh x := ⟨M.fl (Transc.cosh x.val)⟩
  fabs x := ⟨|x.val|⟩
  atan2 y x := ⟨M.fl (Transc.atan2 y.val x.val)⟩
  powf x y := ⟨M.fl (Transc.powf x.val y.val)⟩
  fmax x y := ⟨max x.val y.val⟩
  ofNat n := ⟨M.fl (n : ℝ)⟩
  le a b := Transc.le a.val b.val
  half := ⟨Transc.half⟩
  piHalf := ⟨M.fl Transc.piHalf⟩
  eps := ⟨Transc.eps⟩
  snap := ⟨M.fl Transc.snap⟩

/-- the exact `‖A‖₁`: the maximum absolute column sum (`0` without columns) -/
noncomputable def exactNorm1 (e : Nat → Nat → Fl M) (r c : Nat) : ℝ :=
  max0 c (fun j => ∑ i ∈ Finset.range r, |(e i j).val|)
/-- the exact `‖A‖∞`: the maximum absolute row sum (`0` without rows) -/
noncomputable def exactNormInf (e : Nat → Nat → Fl M) (r c : Nat) : ℝ :=
  max0 r (fun i => ∑ j ∈ Finset.range c, |(e i j).val|)
/-- the exact `max |a_ij|` (`0` for an empty matrix) -/
noncomputable def exactNormMax (e : Nat → Nat → Fl M) (r c : Nat) : ℝ :=
  max0 r (fun i => max0 c (fun j => |(e i j).val|))

variable [T : Transc (Fl M)]

theorem absSum_rounding (hfabs : ∀ x : Fl M, (Transc.fabs x).val = |x.val|) (n : Nat)
    (f : Nat → Fl M) :
    |(((List.range n).map (fun i => Transc.fabs (f i))).foldl (· + ·) (0 : Fl M)).val
        - (∑ i ∈ Finset.range n, |(f i).val|)|
      ≤ M.gam n * ∑ i ∈ Finset.range n, |(f i).val| := by
  have h := foldl_range_rounding n (fun i => Transc.fabs (f i))
  simp only [hfabs, abs_abs] at h
  exact h

theorem foldl_fmax_val (hfmax : ∀ x y : Fl M, (Transc.fmax x y).val = max x.val y.val) (n : Nat)
    (s : Nat → Fl M) (init : Fl M) (h0 : 0 ≤ init.val) :
    ((List.range n).foldl (fun v j => Transc.fmax v (s j)) init).val
      = max init.val (max0 n (fun j => (s j).val)) := by
  rw [← foldl_max_eq n (fun j => (s j).val) init.val h0]
  induction n with
  | zero => simp
  | succ n ih => simp only [List.range_succ, List.foldl_append, List.foldl_cons, List.foldl_nil,
      hfmax, ih]

theorem maxAbsSum_rounding (hfabs : ∀ x : Fl M, (Transc.fabs x).val = |x.val|)
    (hfmax : ∀ x y : Fl M, (Transc.fmax x y).val = max x.val y.val)
    (outer inner : Nat) (g : Nat → Nat → Fl M) :
    |(Mat.maxAbsSum outer inner g).val
        - max0 outer (fun a => ∑ b ∈ Finset.range inner, |(g a b).val|)|
      ≤ M.gam inner * max0 outer (fun a => ∑ b ∈ Finset.range inner, |(g a b).val|) := by
  rw [Mat.maxAbsSum, foldl_fmax_val hfmax outer _ 0 (le_refl _), show (0 : Fl M).val = 0 from rfl,
    max_eq_right (max0_nonneg _ _)]
  exact max0_perturb outer _ _ (M.gam inner) (M.gam_nonneg _)
    (fun a _ => absSum_rounding hfabs inner (fun b => g a b))

/-- **`norm_1`**: never fails on a well-formed matrix; the computed value is the exact maximum
absolute column sum up to the relative error `gam r` (`r` rounded additions per column; `abs` and
`max` are exact). -/
theorem norm1_rounding (hfabs : ∀ x : Fl M, (Transc.fabs x).val = |x.val|)
    (hfmax : ∀ x y : Fl M, (Transc.fmax x y).val = max x.val y.val)
    {A : Mat (Fl M)} {r c : Nat} {e : Nat → Nat → Fl M} (hA : Is A r c e) :
    ∃ v, Mat.norm1 A = .ok v ∧
      |v.val - exactNorm1 e r c| ≤ M.gam r * exactNorm1 e r c :=
  ⟨_, norm1_fold hA, maxAbsSum_rounding hfabs hfmax c r _⟩

/-- **`norm_inf`**: never fails on a well-formed matrix; the computed value is the exact maximum
absolute row sum up to the relative error `gam c`. -/
theorem normInf_rounding (hfabs : ∀ x : Fl M, (Transc.fabs x).val = |x.val|)
    (hfmax : ∀ x y : Fl M, (Transc.fmax x y).val = max x.val y.val)
    {A : Mat (Fl M)} {r c : Nat} {e : Nat → Nat → Fl M} (hA : Is A r c e) :
    ∃ v, Mat.normInf A = .ok v ∧
      |v.val - exactNormInf e r c| ≤ M.gam c * exactNormInf e r c :=
  ⟨_, normInf_fold hA, maxAbsSum_rounding hfabs hfmax r c e⟩

/-- the classical constants for the two norms -/
theorem norm1_rounding_gamma (hfabs : ∀ x : Fl M, (Transc.fabs x).val = |x.val|)
    (hfmax : ∀ x y : Fl M, (Transc.fmax x y).val = max x.val y.val)
    {A : Mat (Fl M)} {r c : Nat} {e : Nat → Nat → Fl M} (hA : Is A r c e)
    (hu : (r : ℝ) * M.u < 1) :
    ∃ v, Mat.norm1 A = .ok v ∧
      |v.val - exactNorm1 e r c| ≤ (r : ℝ) * M.u / (1 - (r : ℝ) * M.u) * exactNorm1 e r c := by
  obtain ⟨v, hv, hv'⟩ := norm1_rounding hfabs hfmax hA
  exact ⟨v, hv, hv'.trans (mul_le_mul_of_nonneg_right (M.gam_le_gamma _ hu) (max0_nonneg _ _))⟩

theorem normInf_rounding_gamma (hfabs : ∀ x : Fl M, (Transc.fabs x).val = |x.val|)
    (hfmax : ∀ x y : Fl M, (Transc.fmax x y).val = max x.val y.val)
    {A : Mat (Fl M)} {r c : Nat} {e : Nat → Nat → Fl M} (hA : Is A r c e)
    (hu : (c : ℝ) * M.u < 1) :
    ∃ v, Mat.normInf A = .ok v ∧
      |v.val - exactNormInf e r c| ≤ (c : ℝ) * M.u / (1 - (c : ℝ) * M.u) * exactNormInf e r c := by
  obtain ⟨v, hv, hv'⟩ := normInf_rounding hfabs hfmax hA
  exact ⟨v, hv, hv'.trans (mul_le_mul_of_nonneg_right (M.gam_le_gamma _ hu) (max0_nonneg _ _))⟩

/-- **`norm_max`** commits no rounding error: the result is exactly `max |a_ij|` -/
theorem normMax_exact (hfabs : ∀ x : Fl M, (Transc.fabs x).val = |x.val|)
    (hfmax : ∀ x y : Fl M, (Transc.fmax x y).val = max x.val y.val)
    {A : Mat (Fl M)} {r c : Nat} {e : Nat → Nat → Fl M} (hA : Is A r c e) :
    ∃ v, Mat.normMax A = .ok v ∧ v.val = exactNormMax e r c := by
  refine ⟨_, normMax_fold hA, ?_⟩
  -- row by row, each from a non-negative start
  have key : ∀ k, ((List.range k).foldl (fun v i =>
      (List.range c).foldl (fun v j => Transc.fmax v (Transc.fabs (e i j))) v) (0 : Fl M)).val
        = max0 k (fun i => max0 c (fun j => |(e i j).val|)) := by
    intro k
    induction k with
    | zero => rfl
    | succ k ih =>
      rw [List.range_succ, List.foldl_append, List.foldl_cons, List.foldl_nil,
        foldl_fmax_val hfmax c (fun j => Transc.fabs (e k j)) _ (by rw [ih]; exact max0_nonneg _ _),
        ih]
      simp only [hfabs]
      rfl
  exact key r

set_option linter.unusedSectionVars false in
/-- `f64 * Matrix<f64>` (same code as `matrix * scalar`) -/
theorem lsmul_rounding {A : Mat (Fl M)} {r c : Nat} {e : Nat → Nat → Fl M} (hA : Is A r c e)
    (s : Fl M) :
    ∃ p, lsmul s A = .ok p ∧ Is p r c (fun i j => e i j * s) ∧
      ∀ i j, i < r → j < c → ∃ x, p.get i j = .ok x ∧
        |x.val - (e i j).val * s.val| ≤ M.u * |(e i j).val * s.val| :=
  smul_rounding hA s

end Rounding

section Examples
open Fl
attribute [local instance] flTransc

/-- exact arithmetic is a model; there `mul_rounding` collapses to "the product entries are the
exact sums" -/
example {A B : Mat (Fl FlModel.exact)} {r k c : Nat} {ea eb : Nat → Nat → Fl FlModel.exact}
    (hA : Is A r k ea) (hB : Is B k c eb) :
    ∃ p, mul A B = .ok p ∧ ∀ i j, i < r → j < c → ∃ x, p.get i j = .ok x ∧
      x.val = ∑ t ∈ Finset.range k, (ea i t).val * (eb t j).val := by
  obtain ⟨p, hp, _, hb⟩ := mul_rounding hA hB
  refine ⟨p, hp, fun i j hi hj => ?_⟩
  obtain ⟨x, hx, hx'⟩ := hb i j hi hj
  refine ⟨x, hx, ?_⟩
  exact FlModel.eq_of_abs_sub_le_exact hx'

/-- a wide product `2×3 · 3×4` of constant matrices in an ARBITRARY model: the hypotheses of
`mul_rounding` are satisfiable for non-square shapes, and the bound reads
`|fl(AB)_ij - 3xy| ≤ gam 4 · 3|xy|` -/
example (M : FlModel) (x y : ℝ) :
    ∃ p, mul (Mat.new 2 3 (⟨x⟩ : Fl M)) (Mat.new 3 4 (⟨y⟩ : Fl M)) = .ok p ∧ p.rows = 2 ∧ p.cols = 4 ∧
      ∀ i j, i < 2 → j < 4 → ∃ z, p.get i j = .ok z ∧
        |z.val - 3 * (x * y)| ≤ M.gam 4 * (3 * |x * y|) := by
  obtain ⟨p, hp, hI, hb⟩ := mul_rounding (Is.of_new 2 3 (⟨x⟩ : Fl M)) (Is.of_new 3 4 (⟨y⟩ : Fl M))
  refine ⟨p, hp, hI.rows, hI.cols, fun i j hi hj => ?_⟩
  obtain ⟨z, hz, hz'⟩ := hb i j hi hj
  refine ⟨z, hz, ?_⟩
  simp only [Finset.sum_const, Finset.card_range, nsmul_eq_mul] at hz'
  norm_num at hz'
  rw [abs_mul]
  exact hz'

/-- a model that really rounds (`fl t = (1 + 2⁻⁵³) t`): the bound of `mul_rounding` is ATTAINED for
the `1×1` product `[x]·[1]`: computed `(1+u)² x`, exact `x`, error `gam 2 · |x|`. -/
example (x : ℝ) :
    let M := FlModel.scale (2 ^ (-53 : ℤ)) (by positivity)
    |(dotRC (fun _ _ => (⟨x⟩ : Fl M)) (fun _ _ => (1 : Fl M)) 1 0 0).val
        - ∑ t ∈ Finset.range 1, x * 1|
      = M.gam (1 + 1) * ∑ t ∈ Finset.range 1, |x * 1| := by
  intro M
  have hv : (dotRC (fun _ _ => (⟨x⟩ : Fl M)) (fun _ _ => (1 : Fl M)) 1 0 0).val
      = (1 + M.u) * (0 + (1 + M.u) * (x * 1)) := by
    simp [dotRC]
    rfl
  rw [hv]
  simp only [Finset.sum_const, Finset.card_range, one_smul, mul_one]
  rw [show (1 + M.u) * (0 + (1 + M.u) * x) = (1 + M.u) ^ 2 * x by ring, M.abs_pow_mul_sub_self]

/-- the hypotheses `hfabs`, `hfmax` of the norm theorems are satisfied by `flTransc M` (by `rfl`),
for every model: `norm_1` of the constant `2 × 3` matrix `x` is `2|x|` up to `gam 2` -/
example (M : FlModel) (x : ℝ) :
    ∃ v, Mat.norm1 (Mat.new 2 3 (⟨x⟩ : Fl M)) = .ok v ∧
      |v.val - (2 * |x|)| ≤ M.gam 2 * (2 * |x|) := by
  obtain ⟨v, hv, hv'⟩ := norm1_rounding (M := M) (fun _ => rfl) (fun _ _ => rfl)
    (Is.of_new 2 3 (⟨x⟩ : Fl M))
  refine ⟨v, hv, ?_⟩
  have e : exactNorm1 (fun _ _ => (⟨x⟩ : Fl M)) 2 3 = 2 * |x| := by
    have h2 : (0 : ℝ) ≤ 2 * |x| := by positivity
    simp [exactNorm1, max0, Finset.sum_const, h2]
  rwa [e] at hv'

/-- elementwise division: the hypothesis `s ≠ 0` is satisfiable; dividing by an exact zero is the
error `arith` -/
example (M : FlModel) (x : ℝ) :
    (∃ p, sdiv (Mat.new 2 3 (⟨x⟩ : Fl M)) ⟨2⟩ = .ok p ∧ ∃ z, p.get 1 2 = .ok z ∧
        |z.val - x / 2| ≤ M.u * |x / 2|) ∧
    sdiv (Mat.new 2 3 (⟨x⟩ : Fl M)) ⟨0⟩ = .error .arith := by
  constructor
  · obtain ⟨p, hp, _, hb⟩ := sdiv_rounding (Is.of_new 2 3 (⟨x⟩ : Fl M)) ⟨2⟩ (by norm_num)
    exact ⟨p, hp, hb 1 2 (by omega) (by omega)⟩
  · exact sdiv_zero_rejects (Is.of_new 2 3 (⟨x⟩ : Fl M)) (by omega) (by omega) ⟨0⟩ rfl

end Examples

end Ohsl.Props.C03
