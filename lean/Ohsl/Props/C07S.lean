/-
  Property C07 (sparse products), exact part — model: Ohsl/Model/Sparse.lean.
  Class (E), `K` a commutative semiring (`Sub`, `Neg`, `BEq`, `ScalarExt` arbitrary: unused by the
  code).  For a well-formed CSC storage `s` (`Sp.WF`, Ohsl/Lemmas/SparseSpec.lean):
  * the products as sums over the column slots: `multiply_spec`, `transposeMultiply_spec`;
  * the adjoint identity, also for the model's `Vec.dot`: `adjoint`, `adjoint_dot`;
  * `scale`: `scale_spec`, `scale_multiply`; linearity of `multiply s`: `multiply_add`,
    `multiply_smul`, `multiply_linear`, and as a `K`-linear map: `linOf`, `multiply_ofFn`;
  * for duplicate-free storage (`NoDup`, defined here, decidable) the dense matrix and the dense
    product: `toDense_spec`, `multiply_eq_dense`; with a position stored twice the two products
    differ: `duplicates_differ`.
-/
import Ohsl.Props.C07
import Ohsl.Lemmas.SparseFlat
import Ohsl.Lemmas.MatSpec
import Mathlib.Algebra.Module.LinearMap.Defs
import Mathlib.Algebra.Module.Pi
set_option linter.unusedSectionVars false
namespace Ohsl.Props.C07
open Ohsl Ohsl.Sp

section NoDup
variable {K : Type}

/-- no (row, column) position is stored twice -/
def NoDup (s : Sp K) : Prop :=
  ∀ j, j < s.cols → ∀ k k', s.cs j ≤ k → k < s.cs (j + 1) → s.cs j ≤ k' → k' < s.cs (j + 1) →
    s.ri k = s.ri k' → k = k'

theorem slot_inj {s : Sp K} (h : WF s) (hnd : NoDup s) {k k' : Nat} (hk : k < s.nonzero)
    (hk' : k' < s.nonzero) (e1 : s.ri k = s.ri k') (e2 : s.colOf k = s.colOf k') : k = k' := by
  obtain ⟨a, b⟩ := (h.colOf_spec hk).2
  obtain ⟨c, d⟩ := (h.colOf_spec hk').2
  rw [← e2] at c d
  exact hnd _ (h.colOf_lt hk) k k' a b c d e1

/-- `NoDup` with its quantifiers bounded, so that it can be evaluated on concrete storage -/
theorem noDup_iff (s : Sp K) : NoDup s ↔ ∀ j, j < s.cols → ∀ k, k < s.cs (j + 1) →
    ∀ k', k' < s.cs (j + 1) → s.cs j ≤ k → s.cs j ≤ k' → s.ri k = s.ri k' → k = k' :=
  ⟨fun h j hj k b k' d a c e => h j hj k k' a b c d e,
    fun h j hj k k' a b c d e => h j hj k b k' d a c e⟩

instance (s : Sp K) : Decidable (NoDup s) :=
  @decidable_of_iff _ _ (noDup_iff s).symm (Nat.decidableBallLT _ _)

end NoDup

section Entry
variable {K : Type} [CommSemiring K]

theorem entry_eq_firstSlot {s : Sp K} (h : WF s) (hnd : NoDup s) (i : Nat) {j : Nat}
    (hj : j < s.cols) : s.entry i j = ((firstSlot s i j).map s.vl).getD 0 := by
  unfold entry
  cases hf : firstSlot s i j with
  | none =>
    have hn := firstSlot_eq_none.mp hf
    refine Finset.sum_eq_zero fun k hk => if_neg fun e => ?_
    obtain ⟨a, b⟩ := Finset.mem_Ico.mp hk
    exact hn k (h.slot_lt hj b) ⟨e, h.colOf_eq hj a b⟩
  | some k0 =>
    obtain ⟨a, ⟨b1, b2⟩, _⟩ := firstSlot_eq_some.mp hf
    obtain ⟨c1, c2⟩ := (h.colOf_iff hj a).mp b2
    rw [Finset.sum_eq_single k0, if_pos b1]
    · rfl
    · intro k hk hne
      obtain ⟨d1, d2⟩ := Finset.mem_Ico.mp hk
      exact if_neg fun e => hne (hnd j hj k k0 d1 d2 c1 c2 (e.trans b1.symm))
    · exact fun hnot => absurd (Finset.mem_Ico.mpr ⟨c1, c2⟩) hnot

end Entry

variable {K : Type} [CommSemiring K] [Sub K] [Neg K] [BEq K] [ScalarExt K]

/-- `multiply` on a well-formed storage and a vector of length `cols` succeeds; component `i` of the
    result is `Σ_{j<cols} Σ_{k ∈ [colStart j, colStart (j+1)), rowIndex k = i} val k * x j`. -/
theorem multiply_spec {s : Sp K} (h : WF s) (x : Array K) (hx : x.size = s.cols) :
    ∃ y, multiply s x = .ok y ∧ y.size = s.rows ∧ ∀ i, i < s.rows → y[i]? = some
      (∑ j ∈ Finset.range s.cols, ∑ k ∈ Finset.Ico (s.cs j) (s.cs (j + 1)),
        if s.ri k = i then s.vl k * x[j]?.getD 0 else 0) := by
  obtain ⟨y, h1, h2, h3⟩ := multiply_fold h x hx
  refine ⟨y, h1, h2, fun i hi => ?_⟩
  have hy := h3 i hi
  rw [Array.getElem?_eq_getElem (h2 ▸ hi)] at hy ⊢
  simp only [Array.getD_eq_getD_getElem?] at hy
  rw [← h.sum_slots_by_col (fun j k => if s.ri k = i then s.vl k * x[j]?.getD 0 else 0),
    ← sum_map_slotsTo, List.sum_eq_foldl]
  exact congrArg some hy

theorem multiply_eq {s : Sp K} (h : WF s) (x : Array K) (hx : x.size = s.cols) :
    multiply s x = .ok (Array.ofFn fun i : Fin s.rows => mulF s (fun j => x[j]?.getD 0) i) := by
  obtain ⟨y, h1, h2, h3⟩ := multiply_spec h x hx
  exact h1.trans (congrArg _ (ext_ofFn h2 h3))

/-- `transpose_multiply` on a well-formed storage and a vector of length `rows` succeeds; component
    `j` of the result is `Σ_{k ∈ [colStart j, colStart (j+1))} val k * y (rowIndex k)`. -/
theorem transposeMultiply_spec {s : Sp K} (h : WF s) (y : Array K) (hy : y.size = s.rows) :
    ∃ z, transposeMultiply s y = .ok z ∧ z.size = s.cols ∧ ∀ j, j < s.cols → z[j]? = some
      (∑ k ∈ Finset.Ico (s.cs j) (s.cs (j + 1)), s.vl k * y[s.ri k]?.getD 0) := by
  obtain ⟨z, h1, h2, h3⟩ := transposeMultiply_slots h y hy
  refine ⟨z, h1, h2, fun j hj => ?_⟩
  have hz := h3 j hj
  rw [Array.getElem?_eq_getElem (h2 ▸ hj)] at hz ⊢
  simp only [Array.getD_eq_getD_getElem?] at hz
  rw [← h.sum_slots_of_col hj, ← sum_map_slotsTo, List.sum_eq_foldl]
  exact congrArg some hz

theorem transposeMultiply_eq {s : Sp K} (h : WF s) (y : Array K) (hy : y.size = s.rows) :
    transposeMultiply s y = .ok (Array.ofFn fun j : Fin s.cols => tmulF s (fun i => y[i]?.getD 0) j) := by
  obtain ⟨z, h1, h2, h3⟩ := transposeMultiply_spec h y hy
  exact h1.trans (congrArg _ (ext_ofFn h2 h3))

/-- ⟨y, A x⟩ = ⟨Aᵀ y, x⟩ with ⟨a, b⟩ = Σ_i a_i b_i -/
theorem adjoint {s : Sp K} (h : WF s) (x y : Array K) (hx : x.size = s.cols) (hy : y.size = s.rows) :
    ∃ u v, multiply s x = .ok u ∧ transposeMultiply s y = .ok v ∧ u.size = s.rows ∧ v.size = s.cols ∧
      ∑ i ∈ Finset.range s.rows, y[i]?.getD 0 * u[i]?.getD 0 =
        ∑ j ∈ Finset.range s.cols, v[j]?.getD 0 * x[j]?.getD 0 := by
  obtain ⟨u, h1, h2, h3⟩ := multiply_spec h x hx
  obtain ⟨v, g1, g2, g3⟩ := transposeMultiply_spec h y hy
  refine ⟨u, v, h1, g1, h2, g2, (Finset.sum_congr rfl fun i hi => ?_).trans
    ((sum_mulF_eq_sum_tmulF h (fun j => x[j]?.getD 0) (fun i => y[i]?.getD 0)).trans
      (Finset.sum_congr rfl fun j hj => ?_))⟩
  · rw [h3 i (Finset.mem_range.mp hi)]
    rfl
  · rw [g3 j (Finset.mem_range.mp hj)]
    rfl

/-- the same identity for the model's dot product `Vec.dot` (accumulation in index order) -/
theorem adjoint_dot {s : Sp K} (h : WF s) (x y : Array K) (hx : x.size = s.cols) (hy : y.size = s.rows) :
    (do let u ← multiply s x; Vec.dot y u) = (do let v ← transposeMultiply s y; Vec.dot v x) ∧
    ∃ d, (do let u ← multiply s x; Vec.dot y u) = .ok d := by
  obtain ⟨u, v, h1, h2, h3, h4, h5⟩ := adjoint h x y hx hy
  have e1 : ¬ y.size ≠ u.size := fun e => e (hy.trans h3.symm)
  have e2 : ¬ v.size ≠ x.size := fun e => e (h4.trans hx.symm)
  simp only [h1, h2, bind, Except.bind, Vec.dot, e1, e2, if_false,
    foldl_zipWith_eq_sum y u s.rows hy h3, foldl_zipWith_eq_sum v x s.cols h4 hx, h5]
  exact ⟨trivial, _, rfl⟩

/-- `scale` multiplies every stored value (on the right) and changes nothing else -/
theorem scale_spec (s : Sp K) (hv : s.val.size = s.nonzero) (a : K) :
    scale s a = .ok { s with val := s.val.map (· * a) } :=
  scale_eq s hv a

/-- `multiply (scale s a) x = (multiply s x) * a` componentwise (`Vec.smul y a` is `y[i] * a`) -/
theorem scale_multiply {s : Sp K} (h : WF s) (a : K) (x : Array K) (hx : x.size = s.cols) :
    ∃ s' y, scale s a = .ok s' ∧ WF s' ∧ multiply s x = .ok y ∧ multiply s' x = .ok (Vec.smul y a) := by
  have hw := h.with_val (s.val.map (· * a)) (Array.size_map ..)
  refine ⟨_, _, scale_spec s h.valSize a, hw, multiply_eq h x hx, ?_⟩
  rw [multiply_eq hw x hx, Vec.smul, Array.map_ofFn]
  refine congrArg (fun f => Except.ok (Array.ofFn f)) (funext fun i => ?_)
  show mulF _ _ i = mulF s _ i * a
  -- the factor `a` moves from the stored value to the vector entry; then `mulF_smul`
  rw [← mulF_smul]
  refine Finset.sum_congr rfl fun j hj => Finset.sum_congr rfl fun k hk => ?_
  have hk' : k < s.val.size :=
    h.valSize ▸ h.slot_lt (Finset.mem_range.mp hj) (Finset.mem_Ico.mp hk).2
  show (if s.ri k = i then Sp.vl _ k * _ else 0) = if s.ri k = i then s.vl k * (_ * a) else 0
  rw [vl_map s _ hk', mul_right_comm, mul_assoc]

/-- additivity of `multiply s`, as an equation between model computations -/
theorem multiply_add {s : Sp K} (h : WF s) (x x' : Array K) (hx : x.size = s.cols) (hx' : x'.size = s.cols) :
    (do let z ← Vec.add x x'; multiply s z) =
      (do let y ← multiply s x; let y' ← multiply s x'; Vec.add y y') ∧
    ∃ w, (do let z ← Vec.add x x'; multiply s z) = .ok w := by
  have e0 : ¬ x.size ≠ x'.size := fun e => e (hx.trans hx'.symm)
  have hz : (Array.zipWith (· + ·) x x').size = s.cols := by simp [hx, hx']
  simp only [Vec.add, e0, if_false, bind, Except.bind, multiply_eq h x hx, multiply_eq h x' hx',
    multiply_eq h _ hz, Array.size_ofFn, ne_eq, not_true_eq_false]
  refine ⟨congrArg _ (ext_ofFn (by simp) fun i hi => ?_).symm, _, rfl⟩
  simp only [Array.getElem?_zipWith, Array.getElem?_ofFn, hi, dif_pos, Option.some.injEq]
  rw [← mulF_add]
  refine mulF_congr s (fun j hj => ?_) i
  simp [show j < x.size from hx ▸ hj, show j < x'.size from hx' ▸ hj]

/-- homogeneity of `multiply s` (`Vec.smul x a` is `x[i] * a`) -/
theorem multiply_smul {s : Sp K} (h : WF s) (x : Array K) (a : K) (hx : x.size = s.cols) :
    ∃ y, multiply s x = .ok y ∧ multiply s (Vec.smul x a) = .ok (Vec.smul y a) := by
  refine ⟨_, multiply_eq h x hx, ?_⟩
  rw [multiply_eq h _ (by simpa [Vec.smul] using hx), Vec.smul, Vec.smul, Array.map_ofFn]
  refine congrArg (fun f => Except.ok (Array.ofFn f)) (funext fun i => ?_)
  show mulF s _ i = mulF s _ i * a
  rw [← mulF_smul]
  refine mulF_congr s (fun j hj => ?_) i
  simp [show j < x.size from hx ▸ hj]

/-- `multiply s` is linear: additive and homogeneous on vectors of length `cols` -/
theorem multiply_linear {s : Sp K} (h : WF s) (x x' : Array K) (a : K) (hx : x.size = s.cols)
    (hx' : x'.size = s.cols) :
    ((do let z ← Vec.add x x'; multiply s z) =
      (do let y ← multiply s x; let y' ← multiply s x'; Vec.add y y')) ∧
    ∃ y, multiply s x = .ok y ∧ multiply s (Vec.smul x a) = .ok (Vec.smul y a) :=
  ⟨(multiply_add h x x' hx hx').1, multiply_smul h x a hx⟩

/-- The `K`-linear map denoted by the storage (defined for every `s`; `multiply_ofFn` says that
    `multiply` computes it when `s` is well formed). -/
def linOf (s : Sp K) : (Fin s.cols → K) →ₗ[K] (Fin s.rows → K) where
  toFun v i := mulF s (fun j => if hj : j < s.cols then v ⟨j, hj⟩ else 0) i
  map_add' v w := by
    funext i
    simp only [Pi.add_apply]
    rw [← mulF_add]
    apply mulF_congr
    intro j hj
    simp [hj]
  map_smul' a v := by
    funext i
    simp only [Pi.smul_apply, smul_eq_mul, RingHom.id_apply]
    rw [mul_comm, ← mulF_smul]
    apply mulF_congr
    intro j hj
    simp [hj, mul_comm]

/-- `multiply s` is the action of the linear map `linOf s` -/
theorem multiply_ofFn {s : Sp K} (h : WF s) (v : Fin s.cols → K) :
    multiply s (Array.ofFn v) = .ok (Array.ofFn (linOf s v)) := by
  rw [multiply_eq h _ (by simp)]
  refine congrArg (fun f => Except.ok (Array.ofFn f)) (funext fun i => mulF_congr s (fun j hj => ?_) i)
  simp [hj]

/-- for duplicate-free well-formed storage `to_dense` succeeds and entry (i, j) of the result is
    the stored value at that position (0 if there is none), i.e. `Sp.entry s i j` -/
theorem toDense_spec {s : Sp K} (h : WF s) (hnd : NoDup s) :
    ∃ d, toDense s = .ok d ∧ Mat.Is d s.rows s.cols (fun i j => s.entry i j) := by
  obtain ⟨d, h1, h2⟩ := h.toDense_firstSlot fun _ _ hk hk' => slot_inj h hnd hk hk'
  exact ⟨d, h1, h2.congr fun i j _ hj => (entry_eq_firstSlot h hnd i hj).symm⟩

theorem mulVec_eq_sum {m : Mat K} {r c : Nat} {e : Nat → Nat → K} (h : Mat.Is m r c e)
    (v : Array K) (hv : v.size = c) :
    Mat.mulVec m v = .ok (Array.ofFn fun i : Fin r =>
      ∑ j ∈ Finset.range c, e i j * v[j]?.getD 0) := by
  rw [Mat.mulVec_eq_sum h v hv]
  exact congrArg _ (ext_ofFn (by simp) fun i hi => by
    rw [List.getElem?_toArray, List.getElem?_map, List.getElem?_range hi, Option.map_some])

/-- for duplicate-free well-formed storage the sparse product is the dense product of `to_dense` -/
theorem multiply_eq_dense {s : Sp K} (h : WF s) (hnd : NoDup s) (x : Array K) (hx : x.size = s.cols) :
    ∃ d y, toDense s = .ok d ∧ multiply s x = .ok y ∧ Mat.mulVec d x = .ok y := by
  obtain ⟨d, h1, h2⟩ := toDense_spec h hnd
  refine ⟨d, _, h1, multiply_eq h x hx, ?_⟩
  rw [mulVec_eq_sum h2 x hx]
  exact congrArg (fun f => Except.ok (Array.ofFn f)) (funext fun i => (mulF_eq_entry s _ i).symm)

/-- the 2×3 matrix `[[1,0,4],[2,3,0]]` -/
def demo : Sp ℤ := ⟨2, 3, 4, #[1, 2, 3, 4], #[0, 1, 1, 0], #[0, 2, 3, 4]⟩

theorem demo_wf : WF demo ∧ NoDup demo := by decide

example : WF demo ∧ NoDup demo := demo_wf

/-! ### duplicates: the hypothesis `NoDup` cannot be dropped

`from_triplets` keeps duplicate positions.  On such storage `multiply` SUMS the duplicates whereas
`to_dense` keeps the LAST one, so the two products differ. -/

/-- exact integer scalars (only used for the concrete instance below) -/
@[reducible] def intExt : ScalarExt ℤ :=
  ⟨fun a b => if b = 0 then .error .arith else .ok (a / b), fun a b => decide (a < b),
   fun a => if a < 0 then -a else a⟩
attribute [local instance] intExt

/-- the 1×1 matrix stored as two entries at position (0,0): 1 and 2 -/
def dup : Sp ℤ := ⟨1, 1, 2, #[1, 2], #[0, 0], #[0, 2]⟩

theorem dup_wf : WF dup := by decide

/-- well-formed storage with a duplicate: sparse product 3·x, dense product 2·x -/
theorem duplicates_differ :
    multiply dup #[1] = .ok #[3] ∧ (toDense dup >>= fun d => Mat.mulVec d #[1]) = .ok #[2] := by
  decide +kernel

end Ohsl.Props.C07
