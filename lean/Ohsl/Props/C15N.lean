/-
  Property C15, numeric part — reductions, norms, sort, find, linspace of the vector model
  (Ohsl/Model/Vec.lean).  The reductions `dot sumSlice sum productSlice product norm1` are computed
  once, through a map `φ` that preserves `+ * 0` into a commutative semiring (`ScalarHom`); the exact
  interpretation is `φ = id`.  `norm_inf` is specified once for every scalar whose `<` is the order of
  a value in a linear order; for real values it returns `m` exactly when `m` is the largest one.
  The comparisons of `norm_1`, `norm_2`, `norm_p`, `norm_inf` are facts about the p-norm `lp s f p` of a
  finite real family; `norm_1`, `norm_2` are its values at `p = 1, 2`, `norm_p` is read that way in C15P.
-/
import Ohsl.Props.C15
import Ohsl.Lemmas.DotSum
import Ohsl.Lemmas.Alg
import Ohsl.Lemmas.RealTransc
import Mathlib.Algebra.BigOperators.Group.Finset.Basic
import Mathlib.Algebra.BigOperators.Intervals
import Mathlib.Algebra.Order.BigOperators.Group.Finset
import Mathlib.Algebra.Order.BigOperators.Ring.Finset
import Mathlib.Analysis.SpecialFunctions.Pow.Real
import Mathlib.Analysis.SpecialFunctions.Sqrt
import Mathlib.Analysis.MeanInequalities
import Mathlib.Analysis.MeanInequalitiesPow
import Mathlib.Tactic.FieldSimp
import Mathlib.Tactic.Ring
import Mathlib.Tactic.Linarith
import Mathlib.Tactic.Positivity
set_option linter.unusedSectionVars false
namespace Ohsl.Props.C15
open Ohsl Ohsl.Vec

section Entries
variable {K : Type} [Mul K] [Zero K] {R : Type} [AddCommMonoid R]

theorem sum_getD_smul (f : K → R) (a : Array K) (c : K) :
    ∑ i ∈ Finset.range (Vec.smul a c).size, f ((Vec.smul a c).getD i 0)
      = ∑ i ∈ Finset.range a.size, f (a.getD i 0 * c) := by
  rw [smul_size]
  exact Finset.sum_congr rfl fun i hi => congrArg f (smul_getD a c (Finset.mem_range.mp hi))

end Entries

section Hom
variable {K R : Type} [Add K] [Mul K] [Zero K] [CommSemiring R] {φ : K → R}

theorem sumSlice_hom (hφ : ScalarHom φ) (a : Array K) (s e : Nat) (hse : s ≤ e) (he : e < a.size) :
    ∃ r, sumSlice a s e = .ok r ∧ φ r = ∑ i ∈ Finset.Icc s e, φ (a.getD i 0) := by
  refine ⟨_, sumSlice_eq_fold a s e hse he, ?_⟩
  rw [List.range'_eq_map_range, List.map_map, hφ.foldl_map_range, ← Finset.Ico_add_one_right_eq_Icc,
    Finset.sum_Ico_eq_sum_range]
  rfl

/-- the empty vector underflows `size - 1`: `sum_empty` in C15F -/
theorem sum_hom (hφ : ScalarHom φ) (a : Array K) (h : 0 < a.size) :
    ∃ r, Vec.sum a = .ok r ∧ φ r = ∑ i ∈ Finset.range a.size, φ (a.getD i 0) :=
  ⟨_, sum_eq_fold a h, hφ.foldl_map_range _ _⟩

theorem productSlice_hom (hφ : ScalarHom φ) (a : Array K) (s e : Nat) (hse : s ≤ e)
    (he : e < a.size) :
    ∃ r, productSlice a s e = .ok r ∧ φ r = ∏ i ∈ Finset.Icc s e, φ (a.getD i 0) := by
  have hs : s < a.size := by omega
  have hg : aget a s = .ok (a.getD s 0) := by
    rw [aget, Array.getElem?_eq_getElem hs, getD_of_lt a 0 hs]
  refine ⟨(a.extract (s + 1) (e + 1)).foldl (· * ·) (a.getD s 0), ?_, ?_⟩
  · unfold productSlice
    rw [if_neg (by omega), if_neg (by omega), if_neg (by omega), hg]
    rfl
  · rw [hφ.foldl_mul, ← Finset.Ico_add_one_right_eq_Icc,
      Finset.prod_eq_prod_Ico_succ_bot (by omega), Finset.prod_Ico_eq_prod_range,
      Array.size_extract, Nat.min_eq_left (by omega)]
    refine congrArg _ (Finset.prod_congr rfl fun i hi => congrArg φ (getD_extract a 0 (by omega) ?_))
    have := Finset.mem_range.mp hi
    omega

theorem product_hom (hφ : ScalarHom φ) (a : Array K) (h : 0 < a.size) :
    ∃ r, product a = .ok r ∧ φ r = ∏ i ∈ Finset.range a.size, φ (a.getD i 0) := by
  rw [product_eq_productSlice a h, Nat.range_eq_Icc_zero_sub_one _ h.ne']
  exact productSlice_hom hφ a 0 (a.size - 1) (Nat.zero_le _) (by omega)

theorem norm1_hom [ScalarExt K] (hφ : ScalarHom φ) (a : Array K) :
    φ (norm1 a) = ∑ i ∈ Finset.range a.size, φ (ScalarExt.mag (a.getD i 0)) := by
  rw [norm1_eq_fold, hφ.foldl_map_range]

end Hom

section ProductEmpty
variable {K : Type} [Add K] [Sub K] [Mul K] [Neg K] [Zero K] [One K] [BEq K] [ScalarExt K]

/-- `product()` of the empty vector: `size - 1` underflows (class S) -/
theorem product_empty : product (#[] : Array K) = .error .arith := rfl

end ProductEmpty

section Exact
variable {K : Type} [Field K] [LinearOrder K] [IsStrictOrderedRing K]
attribute [local instance] Ohsl.Alg.scalarExt

theorem dot_eq_sum (a b : Array K) (h : a.size = b.size) :
    Vec.dot a b = .ok (∑ i ∈ Finset.range a.size, a.getD i 0 * b.getD i 0) :=
  ok_of_hom_id (dot_hom scalarHom_id a b h)

theorem dot_comm (a b : Array K) : Vec.dot a b = Vec.dot b a := by
  by_cases h : a.size = b.size
  · rw [dot_eq_sum a b h, dot_eq_sum b a h.symm, h]
    exact congrArg _ (Finset.sum_congr rfl fun i _ => mul_comm _ _)
  · rw [(binary_rejects a b h).2.2, (binary_rejects b a (Ne.symm h)).2.2]

theorem sumSlice_eq (a : Array K) (s e : Nat) (hse : s ≤ e) (he : e < a.size) :
    Vec.sumSlice a s e = .ok (∑ i ∈ Finset.Icc s e, a.getD i 0) :=
  ok_of_hom_id (sumSlice_hom scalarHom_id a s e hse he)

theorem productSlice_eq (a : Array K) (s e : Nat) (hse : s ≤ e) (he : e < a.size) :
    Vec.productSlice a s e = .ok (∏ i ∈ Finset.Icc s e, a.getD i 0) :=
  ok_of_hom_id (productSlice_hom scalarHom_id a s e hse he)

theorem norm1_eq (a : Array K) : Vec.norm1 a = ∑ i ∈ Finset.range a.size, |a.getD i 0| :=
  (norm1_hom scalarHom_id a).trans (Finset.sum_congr rfl fun _ _ => Alg.mag_eq_abs _)

theorem norm1_nonneg (a : Array K) : 0 ≤ Vec.norm1 a :=
  norm1_eq a ▸ Finset.sum_nonneg fun _ _ => abs_nonneg _

theorem norm1_smul (a : Array K) (c : K) : Vec.norm1 (Vec.smul a c) = |c| * Vec.norm1 a := by
  rw [norm1_eq, norm1_eq, Finset.mul_sum, sum_getD_smul (fun x => |x|)]
  exact Finset.sum_congr rfl fun i _ => by rw [abs_mul, mul_comm]

theorem norm1_triangle (a b : Array K) (h : a.size = b.size) :
    Vec.norm1 (Array.zipWith (· + ·) a b) ≤ Vec.norm1 a + Vec.norm1 b := by
  rw [norm1_eq, norm1_eq, norm1_eq, sum_getD_zipWith (fun x => |x|) _ a b h, ← h,
    ← Finset.sum_add_distrib]
  exact Finset.sum_le_sum fun i _ => abs_add_le _ _

/-- the triangle inequality phrased on the checked addition -/
theorem norm1_add_le (a b c : Array K) (h : Vec.add a b = .ok c) :
    Vec.norm1 c ≤ Vec.norm1 a + Vec.norm1 b := by
  obtain ⟨hs, rfl⟩ := (add_ok_iff a b c).mp h
  exact norm1_triangle a b hs

end Exact

section InsSorted
variable {K : Type} [ScalarExt K]

theorem insSorted_perm (x : K) (l : List K) : (Vec.insSorted x l).Perm (x :: l) := by
  induction l with
  | nil => simp [Vec.insSorted]
  | cons y ys ih =>
    unfold Vec.insSorted
    split
    · exact (List.Perm.cons y ih).trans (List.Perm.swap x y ys)
    · exact List.Perm.refl _

theorem insSorted_sorted [LinearOrder K] (hlt : ∀ x y : K, ScalarExt.lt x y = decide (x < y)) (x : K) (l : List K)
    (hl : l.Pairwise (· ≤ ·)) : (Vec.insSorted x l).Pairwise (· ≤ ·) := by
  induction l with
  | nil => simp [Vec.insSorted]
  | cons y ys ih =>
    rw [List.pairwise_cons] at hl
    unfold Vec.insSorted
    split
    · rename_i hc
      rw [hlt, decide_eq_true_eq] at hc
      rw [List.pairwise_cons]
      refine ⟨fun z hz => ?_, ih hl.2⟩
      have hz' := (insSorted_perm x ys).subset hz
      rcases List.mem_cons.mp hz' with rfl | hz'
      · exact hc.le
      · exact hl.1 z hz'
    · rename_i hc
      rw [hlt, decide_eq_true_eq, not_lt] at hc
      rw [List.pairwise_cons, List.pairwise_cons]
      refine ⟨fun z hz => ?_, hl⟩
      rcases List.mem_cons.mp hz with rfl | hz'
      · exact hc
      · exact hc.trans (hl.1 z hz')

theorem sort_perm (a : Array K) : (Vec.sort a).toList.Perm a.toList := by
  unfold Vec.sort
  generalize a.toList = l
  induction l with
  | nil => simp
  | cons x l ih => exact (insSorted_perm x _).trans (List.Perm.cons x ih)

end InsSorted

section SortSec
variable {K : Type} [LinearOrder K] [Add K] [Sub K] [Mul K] [Neg K] [Zero K] [One K] [BEq K]
  [ScalarExt K]

/-- `sort()` returns the sorted permutation of its input whenever the scalar's `<` is the order's. -/
theorem sort_spec (hlt : ∀ x y : K, ScalarExt.lt x y = decide (x < y)) (a : Array K) :
    (Vec.sort a).toList.Pairwise (· ≤ ·) ∧ (Vec.sort a).toList.Perm a.toList := by
  refine ⟨?_, sort_perm a⟩
  unfold Vec.sort
  generalize a.toList = l
  induction l with
  | nil => simp
  | cons x l ih => exact insSorted_sorted hlt x _ ih

theorem sort_size (a : Array K) : (Vec.sort a).size = a.size := by
  rw [← Array.length_toList, (sort_perm a).length_eq, Array.length_toList]

end SortSec

section SortField
variable {K : Type} [Field K] [LinearOrder K] [IsStrictOrderedRing K]
attribute [local instance] Ohsl.Alg.scalarExt

/-- `sort_spec` for the exact interpretation -/
theorem sort_spec_exact (a : Array K) :
    (Vec.sort a).toList.Pairwise (· ≤ ·) ∧ (Vec.sort a).toList.Perm a.toList :=
  sort_spec (fun _ _ => rfl) a

end SortField

section Linspace
variable {K : Type} [Field K] [LinearOrder K] [IsStrictOrderedRing K] [Transc K]
attribute [local instance] Ohsl.Alg.scalarExt

/-- `linspace(a, b, n)` for `n ≥ 2` whenever `n as f64` is the cast: size `n`, node `i` is
    `a + (b-a)/(n-1) * i`, first node is `a`, last node is `b`, strictly increasing if `a < b`. -/
theorem linspace_spec (hcast : ∀ n : Nat, (Transc.ofNat n : K) = (n : K)) (a b : K) (n : Nat)
    (hn : 2 ≤ n) :
    ∃ v, Vec.linspace a b n = .ok v ∧ v.size = n ∧
      (∀ i, i < n → v.getD i 0 = a + (b - a) / ((n : K) - 1) * (i : K)) ∧
      v.getD 0 0 = a ∧ v.getD (n - 1) 0 = b ∧
      (a < b → ∀ i j, i < j → j < n → v.getD i 0 < v.getD j 0) := by
  have hn1 : (0 : K) < (n : K) - 1 := sub_pos.mpr (Nat.one_lt_cast.mpr hn)
  have hel : ∀ i, i < n →
      (Array.ofFn (n := n) fun i => a + (b - a) / ((n : K) - 1) * (Transc.ofNat i.val : K)).getD i 0
        = a + (b - a) / ((n : K) - 1) * (i : K) :=
    fun i hi => by rw [getD_ofFn _ _ hi, hcast]
  refine ⟨_, ?_, Array.size_ofFn, hel, ?_, ?_, ?_⟩
  · unfold Vec.linspace
    rw [hcast n, Alg.divM_ne hn1.ne']
    rfl
  · rw [hel 0 (by omega), Nat.cast_zero, mul_zero, add_zero]
  · rw [hel (n - 1) (by omega), Nat.cast_pred (by omega), div_mul_cancel₀ _ hn1.ne',
      add_sub_cancel]
  · intro hab i j hij hj
    rw [hel i (by omega), hel j hj]
    exact (add_lt_add_iff_left a).mpr
      (mul_lt_mul_of_pos_left (Nat.cast_lt.mpr hij) (div_pos (sub_pos.mpr hab) hn1))

end Linspace

section LinspaceReal
open Ohsl.RealI

/-- `linspace_spec` at the real interpretation of `f64` -/
theorem linspace_spec_real (a b : ℝ) (n : Nat) (hn : 2 ≤ n) :
    ∃ v, Vec.linspace a b n = .ok v ∧ v.size = n ∧
      (∀ i, i < n → v.getD i 0 = a + (b - a) / ((n : ℝ) - 1) * (i : ℝ)) ∧
      v.getD 0 0 = a ∧ v.getD (n - 1) 0 = b ∧
      (a < b → ∀ i j, i < j → j < n → v.getD i 0 < v.getD j 0) :=
  linspace_spec (fun _ => rfl) a b n hn

/-- fewer than two nodes: `size as f64 - 1.0` is an exact zero for `n = 1` -/
theorem linspace_one_rejects (a b : ℝ) : Vec.linspace a b 1 = .error .arith := by
  unfold Vec.linspace
  have : (Transc.ofNat 1 : ℝ) - 1 = 0 := by
    show ((1 : ℕ) : ℝ) - 1 = 0
    rw [Nat.cast_one, sub_self]
  rw [this, Alg.divM_zero]
  rfl

theorem pred_cast_pos {n : Nat} (hn : 2 ≤ n) : (0 : ℝ) < (n : ℝ) - 1 :=
  sub_pos.mpr (Nat.one_lt_cast.mpr hn)

theorem abscissa_mem_unit {n i : Nat} (hn : 2 ≤ n) (hi : i < n) :
    0 ≤ (i : ℝ) / ((n : ℝ) - 1) ∧ (i : ℝ) / ((n : ℝ) - 1) ≤ 1 := by
  have hpos := pred_cast_pos hn
  refine ⟨div_nonneg (Nat.cast_nonneg i) hpos.le, (div_le_one hpos).mpr ?_⟩
  rw [le_sub_iff_add_le]
  exact_mod_cast hi

end LinspaceReal

section NormInfBy
variable {α K : Type} [BEq K] [ScalarExt K]

/-- the empty vector is rejected (`self.vec[0]` is out of bounds) -/
theorem normInfBy_empty (f : α → K) : Vec.normInfBy f (#[] : Array α) = .error .range := rfl

theorem normInfBy_ok_size_pos {f : α → K} {a : Array α} {m : K} (h : Vec.normInfBy f a = .ok m) :
    0 < a.size := by
  refine Nat.pos_of_ne_zero fun h0 => ?_
  rw [Array.size_eq_zero_iff.mp h0, normInfBy_empty] at h
  cases h

/-- **`normInfBy f`** of a non-empty vector, for a scalar whose `<` is the order of a value `v` in
a linear order (`ℝ`: `v = id`; `Fl M`: `v = Fl.val`) and whose `==` is reflexive, so that the NaN test
`|x| != |x|` of `norm_inf` never fires: the result is an `f`-value of an entry, and the largest. -/
theorem normInfBy_spec_of_val {β : Type} [LinearOrder β] (v : K → β)
    (hlt : ∀ x y : K, ScalarExt.lt x y = decide (v x < v y))
    (hbeq : ∀ x : K, (x == x) = true) (f : α → K) (a : Array α) (h : 0 < a.size) :
    ∃ m, Vec.normInfBy f a = .ok m ∧ (∀ i (hi : i < a.size), v (f a[i]) ≤ v m) ∧
      ∃ i, ∃ hi : i < a.size, m = f a[i] := by
  rcases a with ⟨l⟩
  cases l with
  | nil => exact absurd h (Nat.lt_irrefl 0)
  | cons x0 t =>
    have hok : Vec.normInfBy f (⟨x0 :: t⟩ : Array α) = .ok (t.foldl
        (fun r x => if ScalarExt.lt r (f x) || !(f x == f x) then f x else r) (f x0)) := by
      have hex : ((⟨x0 :: t⟩ : Array α).extract 1 (⟨x0 :: t⟩ : Array α).size) = ⟨t⟩ := by
        simp
      unfold Vec.normInfBy
      simp only [List.getElem?_toArray, List.getElem?_cons_zero]
      rw [hex, ← Array.foldl_toList]
    obtain ⟨h1, h2, h3⟩ := foldl_max_spec v f
      (fun r x => if ScalarExt.lt r (f x) || !(f x == f x) then f x else r)
      (fun r x => by simp only [hlt, hbeq, Bool.not_true, Bool.or_false, decide_eq_true_eq])
      t (f x0)
    refine ⟨_, hok, fun i hi => ?_, ?_⟩
    · cases i with
      | zero => exact h1
      | succ i => exact h2 _ (List.getElem_mem (Nat.lt_of_succ_lt_succ hi))
    · rcases h3 with h3 | ⟨y, hy, h3, -⟩
      · exact ⟨0, Nat.succ_pos _, h3⟩
      · obtain ⟨i, hi, rfl⟩ := List.mem_iff_getElem.mp hy
        exact ⟨i + 1, Nat.succ_lt_succ hi, h3⟩

end NormInfBy

section NormInf
open Ohsl.RealI

theorem normInfBy_spec {α : Type} (f : α → ℝ) (a : Array α) (h : 0 < a.size) :
    ∃ m, Vec.normInfBy f a = .ok m ∧ (∀ i (hi : i < a.size), f a[i] ≤ m) ∧
      ∃ i, ∃ hi : i < a.size, m = f a[i] :=
  normInfBy_spec_of_val id (fun _ _ => rfl) (fun _ => beq_self_eq_true _) f a h

theorem normInfBy_ok_iff {α : Type} (f : α → ℝ) (a : Array α) (m : ℝ) :
    Vec.normInfBy f a = .ok m ↔
      (∀ i (hi : i < a.size), f a[i] ≤ m) ∧ ∃ i, ∃ hi : i < a.size, m = f a[i] := by
  constructor
  · intro h
    obtain ⟨m', hm', hle, hatt⟩ := normInfBy_spec f a (normInfBy_ok_size_pos h)
    rw [hm'] at h
    cases h
    exact ⟨hle, hatt⟩
  · rintro ⟨hle, i, hi, rfl⟩
    obtain ⟨m', hm', hle', j, hj, rfl⟩ := normInfBy_spec f a (Nat.zero_lt_of_lt hi)
    rw [hm']
    exact congrArg _ (le_antisymm (hle j hj) (hle' i hi))

theorem fabs_eq (x : ℝ) : (Transc.fabs x : ℝ) = |x| := rfl

/-- `m` is the largest element magnitude of the non-empty vector `a` -/
def IsMaxAbs (a : Array ℝ) (m : ℝ) : Prop :=
  (∀ i, i < a.size → |a.getD i 0| ≤ m) ∧ ∃ i, i < a.size ∧ m = |a.getD i 0|

theorem IsMaxAbs.unique {a : Array ℝ} {m m' : ℝ} (h : IsMaxAbs a m) (h' : IsMaxAbs a m') :
    m = m' := by
  obtain ⟨i, hi, rfl⟩ := h.2
  obtain ⟨j, hj, rfl⟩ := h'.2
  exact le_antisymm (h'.1 i hi) (h.1 j hj)

theorem normInf_ok_iff (a : Array ℝ) (m : ℝ) : Vec.normInf a = .ok m ↔ IsMaxAbs a m :=
  -- the two sides differ in `a[i]` against `a.getD i 0` only
  (normInfBy_ok_iff (Transc.fabs : ℝ → ℝ) a m).trans (and_congr
    (forall₂_congr fun _ hi => getD_of_lt a 0 hi ▸ Iff.rfl) (exists_congr fun _ =>
      ⟨fun ⟨hi, e⟩ => ⟨hi, getD_of_lt a 0 hi ▸ e⟩, fun ⟨hi, e⟩ => ⟨hi, getD_of_lt a 0 hi ▸ e⟩⟩))

theorem normInf_isMaxAbs {a : Array ℝ} {m : ℝ} (h : Vec.normInf a = .ok m) : IsMaxAbs a m :=
  (normInf_ok_iff a m).mp h

theorem normInf_of_isMaxAbs {a : Array ℝ} {m : ℝ} (h : IsMaxAbs a m) : Vec.normInf a = .ok m :=
  (normInf_ok_iff a m).mpr h

theorem normInf_spec (a : Array ℝ) (h : 0 < a.size) :
    ∃ m, Vec.normInf a = .ok m ∧ IsMaxAbs a m := by
  obtain ⟨m, hm, _⟩ := normInfBy_spec (Transc.fabs : ℝ → ℝ) a h
  exact ⟨m, hm, normInf_isMaxAbs hm⟩

/-- the empty vector is rejected (`self.vec[0]` is out of bounds) -/
theorem normInf_empty : Vec.normInf (#[] : Array ℝ) = .error .range := rfl

theorem normInf_nonneg {a : Array ℝ} {m : ℝ} (h : Vec.normInf a = .ok m) : 0 ≤ m := by
  obtain ⟨i, hi, rfl⟩ := (normInf_isMaxAbs h).2
  exact abs_nonneg _

theorem normInf_smul {a : Array ℝ} {m : ℝ} (h : Vec.normInf a = .ok m) (c : ℝ) :
    Vec.normInf (Vec.smul a c) = .ok (|c| * m) := by
  have hm := normInf_isMaxAbs h
  apply normInf_of_isMaxAbs
  constructor
  · intro i hi
    rw [smul_size] at hi
    rw [smul_getD a c hi, abs_mul, mul_comm]
    exact mul_le_mul_of_nonneg_left (hm.1 i hi) (abs_nonneg c)
  · obtain ⟨i, hi, rfl⟩ := hm.2
    exact ⟨i, by rw [smul_size]; exact hi, by rw [smul_getD a c hi, abs_mul, mul_comm]⟩

theorem normInf_triangle {a b : Array ℝ} {ma mb mab : ℝ} (hs : a.size = b.size)
    (ha : Vec.normInf a = .ok ma) (hb : Vec.normInf b = .ok mb)
    (hab : Vec.normInf (Array.zipWith (· + ·) a b) = .ok mab) : mab ≤ ma + mb := by
  obtain ⟨i, hi, rfl⟩ := (normInf_isMaxAbs hab).2
  have hia : i < a.size := by rwa [Array.size_zipWith, ← hs, Nat.min_self] at hi
  rw [getD_zipWith _ a b 0 0 0 hs hia]
  exact (abs_add_le _ _).trans
    (add_le_add ((normInf_isMaxAbs ha).1 i hia) ((normInf_isMaxAbs hb).1 i (hs ▸ hia)))

theorem normInf_le_norm1 {a : Array ℝ} {m : ℝ} (h : Vec.normInf a = .ok m) : m ≤ Vec.norm1 a := by
  obtain ⟨i, hi, rfl⟩ := (normInf_isMaxAbs h).2
  rw [norm1_eq]
  exact Finset.single_le_sum (f := fun i => |a.getD i 0|) (fun _ _ => abs_nonneg _)
    (Finset.mem_range.mpr hi)

end NormInf

section Lp
variable (s : Finset ℕ) (f g : ℕ → ℝ) {p q : ℝ}

/-- the p-norm of the finite real family `f i`, `i ∈ s`: what `norm_1` (`p = 1`), `norm_2` (`p = 2`)
    and `norm_p` compute on the entries of a vector -/
noncomputable def lp (p : ℝ) : ℝ := (∑ i ∈ s, |f i| ^ p) ^ (1 / p)

theorem lp_sum_nonneg (p : ℝ) : 0 ≤ ∑ i ∈ s, |f i| ^ p :=
  Finset.sum_nonneg fun _ _ => Real.rpow_nonneg (abs_nonneg _) p

theorem lp_one : lp s f 1 = ∑ i ∈ s, |f i| := by
  rw [lp, div_one, Real.rpow_one]
  exact Finset.sum_congr rfl fun i _ => Real.rpow_one _

theorem lp_two : lp s f 2 = Real.sqrt (∑ i ∈ s, f i ^ 2) := by
  rw [lp, Real.sqrt_eq_rpow]
  exact congrArg (· ^ (1 / (2 : ℝ))) (Finset.sum_congr rfl fun i _ => by rw [Real.rpow_two, sq_abs])

theorem abs_le_lp {i : ℕ} (hi : i ∈ s) (hp : 0 < p) : |f i| ≤ lp s f p := by
  have h1 : |f i| = (|f i| ^ p) ^ (1 / p) := by
    rw [← Real.rpow_mul (abs_nonneg _), mul_one_div_cancel hp.ne', Real.rpow_one]
  rw [h1]
  refine Real.rpow_le_rpow (Real.rpow_nonneg (abs_nonneg _) p) ?_ (by positivity)
  exact Finset.single_le_sum (f := fun i => |f i| ^ p)
    (fun _ _ => Real.rpow_nonneg (abs_nonneg _) p) hi

theorem sum_rpow_le_rpow_sum (s : Finset ℕ) (f : ℕ → ℝ) (hf : ∀ i ∈ s, 0 ≤ f i) {r : ℝ}
    (hr : 1 ≤ r) : ∑ i ∈ s, f i ^ r ≤ (∑ i ∈ s, f i) ^ r := by
  induction s using Finset.induction_on with
  | empty =>
    have : r ≠ 0 := by linarith
    simp [Real.zero_rpow this]
  | insert x s hx ih =>
    rw [Finset.sum_insert hx, Finset.sum_insert hx]
    have h0 : 0 ≤ f x := hf x (Finset.mem_insert_self x s)
    have hs : ∀ i ∈ s, 0 ≤ f i := fun i hi => hf i (Finset.mem_insert_of_mem hi)
    have hS : 0 ≤ ∑ i ∈ s, f i := Finset.sum_nonneg hs
    calc f x ^ r + ∑ i ∈ s, f i ^ r ≤ f x ^ r + (∑ i ∈ s, f i) ^ r := by linarith [ih hs]
      _ ≤ (f x + ∑ i ∈ s, f i) ^ r := Real.add_rpow_le_rpow_add h0 hS hr

theorem lp_antitone (hp : 0 < p) (hpq : p ≤ q) : lp s f q ≤ lp s f p := by
  have hq : 0 < q := lt_of_lt_of_le hp hpq
  have hr : 1 ≤ q / p := by rwa [one_le_div hp]
  have hterm : ∀ i, |f i| ^ q = (|f i| ^ p) ^ (q / p) := fun i => by
    rw [← Real.rpow_mul (abs_nonneg _), mul_div_cancel₀ q hp.ne']
  have hsum : ∑ i ∈ s, |f i| ^ q ≤ (∑ i ∈ s, |f i| ^ p) ^ (q / p) := by
    simp only [hterm]
    exact sum_rpow_le_rpow_sum _ (fun i => |f i| ^ p)
      (fun _ _ => Real.rpow_nonneg (abs_nonneg _) p) hr
  have h1 : (0 : ℝ) ≤ 1 / q := by positivity
  refine (Real.rpow_le_rpow (lp_sum_nonneg s f q) hsum h1).trans (le_of_eq ?_)
  rw [lp, ← Real.rpow_mul (lp_sum_nonneg s f p)]
  congr 1
  field_simp

/-- Minkowski's inequality (`p ≥ 1`) -/
theorem lp_add_le (hp : 1 ≤ p) : lp s (fun i => f i + g i) p ≤ lp s f p + lp s g p :=
  Real.Lp_add_le s f g hp

theorem lp_zipWith_add {a b : Array ℝ} (h : a.size = b.size) (p : ℝ) :
    lp (Finset.range (Array.zipWith (· + ·) a b).size)
        (fun i => (Array.zipWith (· + ·) a b).getD i 0) p
      = lp (Finset.range a.size) (fun i => a.getD i 0 + b.getD i 0) p :=
  congrArg (· ^ (1 / p)) (sum_getD_zipWith (fun x => |x| ^ p) _ a b h)

end Lp

section Norm2
open Ohsl.RealI

theorem norm2_eq (a : Array ℝ) :
    Vec.norm2 a = Real.sqrt (∑ i ∈ Finset.range a.size, (a.getD i 0) ^ 2) := by
  rw [norm2_eq_fold, foldl_map_range_eq_sum]
  show Real.sqrt _ = _
  refine congrArg Real.sqrt (Finset.sum_congr rfl fun i _ => ?_)
  show |a.getD i 0| ^ ((1 : ℝ) + 1) = _
  rw [one_add_one_eq_two, Real.rpow_two, sq_abs]

theorem norm2_nonneg (a : Array ℝ) : 0 ≤ Vec.norm2 a :=
  norm2_eq a ▸ Real.sqrt_nonneg _

theorem norm2_smul (a : Array ℝ) (c : ℝ) : Vec.norm2 (Vec.smul a c) = |c| * Vec.norm2 a := by
  rw [norm2_eq, norm2_eq, sum_getD_smul (fun x => x ^ 2), ← Real.sqrt_sq_eq_abs,
    ← Real.sqrt_mul (sq_nonneg c), Finset.mul_sum]
  exact congrArg _ (Finset.sum_congr rfl fun i _ => by rw [mul_pow, mul_comm])

theorem norm1_eq_lp (a : Array ℝ) : Vec.norm1 a = lp (Finset.range a.size) (fun i => a.getD i 0) 1 :=
  (norm1_eq a).trans (lp_one _ _).symm

theorem norm2_eq_lp (a : Array ℝ) : Vec.norm2 a = lp (Finset.range a.size) (fun i => a.getD i 0) 2 :=
  (norm2_eq a).trans (lp_two _ _).symm

/- the order of the exact norms of a finite family of reals, `|fᵢ| ≤ √Σfⱼ² ≤ Σ|fⱼ|`, and Minkowski's
    inequality for `p = 2`, written with `√`: the values `p = 2`, `(p, q) = (1, 2)` of the `lp` facts -/

theorem abs_le_sqrt_sum_sq (s : Finset ℕ) (f : ℕ → ℝ) {i : ℕ} (hi : i ∈ s) :
    |f i| ≤ Real.sqrt (∑ j ∈ s, f j ^ 2) :=
  lp_two s f ▸ abs_le_lp s f hi two_pos

theorem sqrt_sum_sq_le_sum_abs (s : Finset ℕ) (f : ℕ → ℝ) :
    Real.sqrt (∑ j ∈ s, f j ^ 2) ≤ ∑ j ∈ s, |f j| :=
  lp_two s f ▸ lp_one s f ▸ lp_antitone s f one_pos one_le_two

theorem sqrt_sum_add_sq_le (s : Finset ℕ) (f g : ℕ → ℝ) :
    Real.sqrt (∑ i ∈ s, (f i + g i) ^ 2) ≤
      Real.sqrt (∑ i ∈ s, f i ^ 2) + Real.sqrt (∑ i ∈ s, g i ^ 2) :=
  lp_two s f ▸ lp_two s g ▸ lp_two s (fun i => f i + g i) ▸ lp_add_le s f g one_le_two

theorem normInf_le_norm2 {a : Array ℝ} {m : ℝ} (h : Vec.normInf a = .ok m) : m ≤ Vec.norm2 a := by
  obtain ⟨i, hi, rfl⟩ := (normInf_isMaxAbs h).2
  exact norm2_eq_lp a ▸ abs_le_lp _ (fun i => a.getD i 0) (Finset.mem_range.mpr hi) two_pos

theorem norm2_le_norm1 (a : Array ℝ) : Vec.norm2 a ≤ Vec.norm1 a := by
  rw [norm2_eq_lp, norm1_eq_lp]
  exact lp_antitone _ _ one_pos one_le_two

theorem norm2_triangle (a b : Array ℝ) (h : a.size = b.size) :
    Vec.norm2 (Array.zipWith (· + ·) a b) ≤ Vec.norm2 a + Vec.norm2 b := by
  rw [norm2_eq_lp, norm2_eq_lp, norm2_eq_lp, lp_zipWith_add h, ← h]
  exact lp_add_le _ _ _ one_le_two

/-- the triangle inequalities phrased on the checked addition `&a + &b` -/
theorem norms_add_le (a b c : Array ℝ) (h : Vec.add a b = .ok c) :
    Vec.norm1 c ≤ Vec.norm1 a + Vec.norm1 b ∧ Vec.norm2 c ≤ Vec.norm2 a + Vec.norm2 b ∧
    ∀ ma mb mc, Vec.normInf a = .ok ma → Vec.normInf b = .ok mb → Vec.normInf c = .ok mc →
      mc ≤ ma + mb := by
  obtain ⟨hs, rfl⟩ := (add_ok_iff a b c).mp h
  exact ⟨norm1_triangle a b hs, norm2_triangle a b hs,
    fun ma mb mc ha hb hc => normInf_triangle hs ha hb hc⟩

end Norm2

section FindMiss
variable {K : Type} [BEq K]

/-- a miss on a non-empty vector returns `size - 1` (the source's sentinel) -/
theorem find_spec_none [LawfulBEq K] (a : Array K) (v : K) (hne : 0 < a.size) (hv : ∀ x ∈ a, x ≠ v) :
    Vec.find a v = .ok (a.size - 1) := by
  have : a.findIdx? (· == v) = none :=
    Array.findIdx?_eq_none_iff.mpr fun x hx => beq_eq_false_iff_ne.mpr (hv x hx)
  unfold Vec.find
  rw [this]
  exact usub_ok hne

/-- the empty vector underflows `size - 1` -/
theorem find_empty (v : K) : Vec.find (#[] : Array K) v = .error .arith := by
  simp [Vec.find, usub]

end FindMiss

section Find
variable {K : Type} [Add K] [Sub K] [Mul K] [Neg K] [Zero K] [One K] [BEq K] [LawfulBEq K]
  [ScalarExt K]

/-- a hit: the first index holding `v` -/
theorem find_spec_some (a : Array K) (v : K) (i : Nat) (hi : i < a.size) (hv : a[i] = v)
    (hfirst : ∀ j (hj : j < i), a[j] ≠ v) : Vec.find a v = .ok i := by
  have : a.findIdx? (· == v) = some i :=
    Array.findIdx?_eq_some_iff_getElem.mpr
      ⟨hi, beq_iff_eq.mpr hv, fun j hj h => hfirst j hj (beq_iff_eq.mp h)⟩
  unfold Vec.find
  rw [this]

/-- complete specification of `find` -/
theorem find_spec (a : Array K) (v : K) :
    (a.size = 0 → Vec.find a v = .error .arith) ∧
    (0 < a.size → ∃ r, Vec.find a v = .ok r ∧ r < a.size ∧
      ((∃ h : r < a.size, a[r] = v ∧ ∀ j (hj : j < r), a[j] ≠ v) ∨
       ((∀ x ∈ a, x ≠ v) ∧ r = a.size - 1))) := by
  constructor
  · intro h
    rw [Array.size_eq_zero_iff.mp h]
    exact find_empty v
  · intro hne
    cases hf : a.findIdx? (· == v) with
    | some i =>
      obtain ⟨hlt, hp, hq⟩ := Array.findIdx?_eq_some_iff_getElem.mp hf
      refine ⟨i, ?_, hlt, Or.inl ⟨hlt, beq_iff_eq.mp hp, fun j hj h => hq j hj (beq_iff_eq.mpr h)⟩⟩
      unfold Vec.find
      rw [hf]
    | none =>
      have hall : ∀ x ∈ a, x ≠ v := fun x hx =>
        beq_eq_false_iff_ne.mp (Array.findIdx?_eq_none_iff.mp hf x hx)
      exact ⟨a.size - 1, find_spec_none a v hne hall, by omega, Or.inr ⟨hall, rfl⟩⟩

end Find

end Ohsl.Props.C15
