/-
  Property C11 — polynomial arithmetic, evaluation, differentiation (model: Ohsl/Model/Poly.lean).
  Proved here: (S) the empty polynomial acts as zero for + and −, annihilates ·, and is rejected by
  `eval`, `derivative`, `trim`; sizes of negation and scalar multiple; (E) the derivative's repeated
  addition `0 + c + … + c` (n summands) is `n • c`; Horner evaluation of `[c0, c1]`, `[c0, c1, c2]`
  unfolds to the textbook value over any commutative semiring.
-/
import Ohsl.Lemmas.PolyArr
import Mathlib.Algebra.Ring.Defs
import Mathlib.Algebra.Group.Defs
import Mathlib.Tactic.Ring
set_option linter.unusedSectionVars false
namespace Ohsl.Props.C11
open Ohsl Ohsl.Poly

section Structural
variable {K : Type} [Add K] [Sub K] [Mul K] [Neg K] [Zero K] [One K] [BEq K] [ScalarExt K]

theorem add_empty_left (q : Array K) : add (#[] : Array K) q = q := by simp [add]
theorem add_empty_right (p : Array K) : add p (#[] : Array K) = p := by
  unfold add
  by_cases h : p.size = 0
  · have : p = #[] := Array.eq_empty_of_size_eq_zero h
    simp [this]
  · simp [h]
theorem sub_empty_left (q : Array K) : sub (#[] : Array K) q = neg q := by simp [sub]
theorem sub_empty_right (p : Array K) : sub p (#[] : Array K) = p ∨ p.size = 0 := by
  by_cases h : p.size = 0
  · exact Or.inr h
  · left; simp [sub, h]
theorem mul_empty (p : Array K) : mul p (#[] : Array K) = #[] ∧ mul (#[] : Array K) p = #[] := by
  constructor
  · unfold mul; by_cases h : p.size = 0 <;> simp [h]
  · simp [mul]
theorem neg_size (p : Array K) : (neg p).size = p.size := by simp [neg]
theorem smul_size (p : Array K) (t : K) : (smul p t).size = p.size := by simp [smul]
set_option linter.unusedVariables false in
theorem add_size (p q : Array K) (hp : p.size ≠ 0) (hq : q.size ≠ 0) : (add p q).size = max p.size q.size :=
  PolyAlg.size_add p q
theorem eval_empty (x : K) : eval (#[] : Array K) x = .error .unwrap := by simp [eval]
theorem derivative_empty : derivative (#[] : Array K) = .error .unwrap := by simp [derivative]
theorem trim_empty : trim (#[] : Array K) = .error .arith := by simp [trim]
theorem derivative_size (p : Array K) (h : p.size ≠ 0) : ∃ d, derivative p = .ok d ∧ d.size = p.size - 1 :=
  (PolyAlg.derivative_ok p h).imp fun _ hd => ⟨hd.1, hd.2.1⟩
end Structural

theorem get_rejects {K : Type} (p : Array K) (i : Nat) (h : p.size ≤ i) :
    get p i = .error .range := by
  have : p[i]? = none := by simp [h]
  simp [Poly.get, aget, this]

section Exact
theorem addRep_eq_nsmul {K : Type} [AddMonoid K] (c : K) (n : Nat) : addRep c n = n • c := by
  induction n with
  | zero => simp [addRep]
  | succ n ih => simp [addRep, ih, succ_nsmul]

variable {K : Type} [CommSemiring K] [Neg K] [Sub K] [BEq K] [ScalarExt K]
theorem eval_linear (c0 c1 x : K) : eval #[c0, c1] x = .ok (c1 * x + c0) := by
  simp [eval]
theorem eval_quadratic (c0 c1 c2 x : K) : eval #[c0, c1, c2] x = .ok (c0 + c1 * x + c2 * x ^ 2) := by
  simp [eval]; ring
end Exact

end Ohsl.Props.C11
