/-
  Property C01 (continued) — exact-arithmetic soundness of the dense direct solvers.
  Model: Ohsl/Model/Solve.lean.

  Class (E): `K` a linearly ordered field, `/` fails on an exact zero divisor
  (`Ohsl.Alg.scalarExt`).  No pivot hypothesis is needed: a vanishing pivot makes a division
  fail, which is the error branch, so nothing is returned.

  * `solveBasic_sound`, `solveBasic_sound_get`, `solveLU_sound`   a returned vector solves the system
  * `solveBasic_unique`     … and is the only solution
  * `solvers_agree`, `solvers_agree_partial`   both returned a value ⇒ the same value

  Note on the pivot search of `solve_basic`: since fix 337d180 `max_abs_in_column` starts from
  `max_index = start_row`, so on an all-zero pivot sub-column it returns the current row and no
  exchange takes place (before the fix it returned row 0 and an already eliminated row was
  exchanged back in: defect D11); the zero pivot then makes the first division of the elimination
  fail (in the last column, where nothing is left to eliminate, the division of `backsolve`).
-/
import Ohsl.Props.C01
import Ohsl.Lemmas.SolveSound
import Ohsl.Lemmas.SolveComplete
import Mathlib.Tactic.NormNum
import Mathlib.Algebra.BigOperators.Fin
import Mathlib.Algebra.Order.Field.Rat
namespace Ohsl.Props.C01
open Ohsl Ohsl.Mat

section Exact
variable {K : Type} [Field K] [LinearOrder K]
attribute [local instance] Ohsl.Alg.scalarExt

/-- **Soundness of `solve_basic`** (Gaussian elimination with partial pivoting, then back
    substitution): for a well-formed `n × n` matrix (`n ≥ 1`) with entries `a i j` and a
    right-hand side of length `n`, any returned vector has length `n` and satisfies every
    equation `Σ_j a i j · x_j = b_i` exactly. -/
theorem solveBasic_sound {n : Nat} (hn : 1 ≤ n) {A : Mat K} {a : Nat → Nat → K}
    (hA : Mat.Is A n n a) {b x : Array K} (hb : b.size = n)
    (h : Mat.solveBasic A b = .ok x) :
    x.size = n ∧
      ∀ i, i < n → ∑ j ∈ Finset.range n, a i j * (x[j]?.getD 0) = b[i]?.getD 0 :=
  (Mat.solveBasic_spec hn hA hb h).imp_right And.left

/-- the same statement with bounded indices -/
theorem solveBasic_sound_get {n : Nat} (hn : 1 ≤ n) {A : Mat K} {a : Nat → Nat → K}
    (hA : Mat.Is A n n a) {b x : Array K} (hb : b.size = n)
    (h : Mat.solveBasic A b = .ok x) :
    ∃ hs : x.size = n, ∀ (i : Nat) (hi : i < n),
      ∑ j : Fin n, a i j * x[j.1]'(by rw [hs]; exact j.2) = b[i]'(by rw [hb]; exact hi) := by
  obtain ⟨hs, hsol⟩ := solveBasic_sound hn hA hb h
  refine ⟨hs, ?_⟩
  intro i hi
  have := hsol i hi
  have hbi : i < b.size := by omega
  simp only [hbi, Array.getElem?_eq_getElem, Option.getD_some] at this
  rw [← this, Finset.sum_range]
  apply Finset.sum_congr rfl
  intro j _
  have hj : j.1 < x.size := by rw [hs]; exact j.2
  simp [hj]

/-- **Soundness of `solve_lu`** (in-place LU with recorded row permutation, `P b`, forward and
    back substitution): any returned vector has length `n` and solves `A x = b` exactly.
    `IsStrictOrderedRing K` (the order is compatible with the field operations) is needed
    because the decomposition *skips* a column whose largest magnitude compares equal to zero;
    without compatibility `|x| ≤ 0` would not force `x = 0`. -/
theorem solveLU_sound [IsStrictOrderedRing K] {n : Nat} (hn : 1 ≤ n) {A : Mat K}
    {a : Nat → Nat → K} (hA : Mat.Is A n n a) {b x : Array K} (hb : b.size = n)
    (h : Mat.solveLU A b = .ok x) :
    x.size = n ∧
      ∀ i, i < n → ∑ j ∈ Finset.range n, a i j * (x[j]?.getD 0) = b[i]?.getD 0 :=
  (Mat.solveLU_spec hn hA hb h).imp_right And.left

set_option linter.unusedVariables false in
/-- The two direct solvers agree whenever both return a value and the system has at most one
    solution.  ("partial": nothing is said when one of them fails, and uniqueness of the
    solution is a hypothesis rather than derived from the success of the elimination; it is
    not needed: `solvers_agree`.) -/
theorem solvers_agree_partial [IsStrictOrderedRing K] {n : Nat} (hn : 1 ≤ n) {A : Mat K}
    {a : Nat → Nat → K} (hA : Mat.Is A n n a) {b x₁ x₂ : Array K} (hb : b.size = n)
    (huniq : ∀ z z' : Nat → K,
      (∀ i, i < n → ∑ j ∈ Finset.range n, a i j * z j = b[i]?.getD 0) →
      (∀ i, i < n → ∑ j ∈ Finset.range n, a i j * z' j = b[i]?.getD 0) →
      ∀ j, j < n → z j = z' j)
    (h₁ : Mat.solveBasic A b = .ok x₁) (h₂ : Mat.solveLU A b = .ok x₂) : x₁ = x₂ :=
  Mat.solvers_agree hn hA hb h₁ h₂

/-- A successful `solve_basic` certifies uniqueness: every exact solution of the system
    coincides with the returned vector (all pivots of the reduced triangular system were
    non-zero, otherwise a division would have failed). -/
theorem solveBasic_unique {n : Nat} (hn : 1 ≤ n) {A : Mat K} {a : Nat → Nat → K}
    (hA : Mat.Is A n n a) {b x : Array K} (hb : b.size = n)
    (h : Mat.solveBasic A b = .ok x) (z : Nat → K)
    (hz : ∀ i, i < n → ∑ j ∈ Finset.range n, a i j * z j = b[i]?.getD 0) :
    ∀ j, j < n → z j = x[j]?.getD 0 :=
  (Mat.solveBasic_spec hn hA hb h).2.2.2 z hz

/-- The two direct solvers agree whenever both return a value — no uniqueness hypothesis:
    it follows from the success of `solve_basic` (`solveBasic_unique`). -/
theorem solvers_agree [IsStrictOrderedRing K] {n : Nat} (hn : 1 ≤ n) {A : Mat K}
    {a : Nat → Nat → K} (hA : Mat.Is A n n a) {b x₁ x₂ : Array K} (hb : b.size = n)
    (h₁ : Mat.solveBasic A b = .ok x₁) (h₂ : Mat.solveLU A b = .ok x₂) : x₁ = x₂ :=
  Mat.solvers_agree hn hA hb h₁ h₂

end Exact

section Examples
attribute [local instance] Ohsl.Alg.scalarExt

/-- the 3×3 rational matrix of the examples, whose first pivot is zero, has determinant −2 -/
theorem ex3_det : Matrix.det (Matrix.of fun (i j : Fin 3) =>
    Mat.ent (K := ℚ) ⟨#[0, 1, 2, 1, 0, 3, 4, -3, 8], 3, 3⟩ i.val j.val) = -2 := by
  rw [Matrix.det_fin_three]
  exact (by norm_num :
    (0 : ℚ) * 0 * 8 - 0 * 3 * (-3) - 1 * 1 * 8 + 1 * 3 * 4 + 2 * 1 * (-3) - 2 * 0 * 4 = -2)

/-- the hypotheses of the soundness theorems are satisfiable: a 3×3 rational system whose first
    pivot is zero (a row exchange is needed) is solved by both solvers -/
example : ∃ (A : Mat ℚ) (b x : Array ℚ), Mat.Is A 3 3 (Mat.ent A) ∧ b.size = 3 ∧
    Mat.solveBasic A b = .ok x ∧ Mat.solveLU A b = .ok x := by
  -- `(1, 2, 3)` solves the system and the matrix is nonsingular: both solvers return it
  have hA : Mat.Is (K := ℚ) ⟨#[0, 1, 2, 1, 0, 3, 4, -3, 8], 3, 3⟩ 3 3
      (Mat.ent ⟨#[0, 1, 2, 1, 0, 3, 4, -3, 8], 3, 3⟩) := Mat.WFn.is ⟨rfl, rfl, rfl⟩
  have h := Mat.solve_eq_of_sol (by decide) hA (b := #[8, 10, 22]) (y := #[1, 2, 3]) rfl
    (ne_of_eq_of_ne ex3_det (by norm_num)) rfl fun i hi => by
      obtain rfl | rfl | rfl : i = 0 ∨ i = 1 ∨ i = 2 := by omega
      all_goals decide +kernel
  exact ⟨_, _, _, hA, rfl, h.1, h.2⟩

/-- and both solvers do refuse a singular system whose second pivot column vanishes (the pivot
    search finds no non-zero candidate there): no value is returned -/
example : Mat.solveBasic (K := ℚ) ⟨#[1, 1, 0, 0, 0, 1, 0, 0, 1], 3, 3⟩ #[1, 2, 3] = .error .arith ∧
    Mat.solveLU (K := ℚ) ⟨#[1, 1, 0, 0, 0, 1, 0, 0, 1], 3, 3⟩ #[1, 2, 3] = .error .arith :=
  ⟨by decide +kernel, by decide +kernel⟩

end Examples
end Ohsl.Props.C01
