/-
  Property C02 (part L) — LEFT residual and FORWARD error of the computed inverse, with the
  conditioning explicit.  Class F ("rounded reals" `Fl M`, Ohsl/Lemmas/Rounding.lean): the model's
  `Mat.inverse` (Ohsl/Model/Solve.lean) instantiated at real numbers whose `+ - * /` round with
  relative error `≤ u`.  Completes C02F, which proves the componentwise RIGHT residual bound
  `|A X̂ − I| ≤ c_n · Pᵀ|L̂||Û||X̂|` (`inverse_right_residual`, `c_n = gq (n−1) + gq (2n−1)`) and
  claims nothing about the left residual `X̂ A − I` and the forward error `X̂ − A⁻¹`, which need the
  conditioning.

  Everything here is EXACT linear algebra over `ℝ` (Ohsl/Lemmas/C02L.lean) on top of that theorem;
  the bound of C02F is used as it stands, not re-derived.  The transfer to Rust `f64` rests on the
  assumption stated once in Rounding.lean.

  Notation: `realMat n a`, `compMat n X̂` the real matrices `A`, `X̂`; `absLUX n s X̂ = |L̂||Û||X̂|`;
  `invConst M n = c_n`; `nrmInf` the max-row-sum norm `‖·‖∞` (= Mathlib's
  `Matrix.linftyOpNormedRing` norm, `MatNorm.nrmInf_eq_norm`), `A⁻¹` Mathlib's `Matrix.inv`.
  All statements are NORMWISE in `‖·‖∞` for the whole matrix (not columnwise): the left residual
  `X̂A − I = A⁻¹(AX̂ − I)A` mixes the columns.  The row permutation `P` disappears from the
  statements because `‖Pᵀ B‖∞ = ‖B‖∞`.  Write `ρ := c_n · ‖ |L̂||Û||X̂| ‖∞`.

  End results (F): `inverse_right_residual_norm` (C02F's bound, normwise); `inverse_forward_error`,
  `inverse_left_residual`, `…_relative`, `…_coarse` (for nonsingular `A`: with `‖A⁻¹‖∞` resp. `κ∞(A)`);
  `inverse_nonsingular_of_small`, `…_apost` (for `ρ < 1`: NO hypothesis on `A`, no `A⁻¹` on the
  right); `inverse_forward_left_gamma` (the classical constants).
  Nothing is `_partial`.  NOT claimed: a bound of `‖|L̂||Û|‖∞` by `‖A‖∞` (that is the growth of the
  elimination; C01H bounds `‖Û‖∞`, and nothing is derived from it here), hence no bound purely in
  `κ∞(A)·u`.  (C01F and C01H write the same norm as `Mat.rowNorm n F`, for entries indexed by `Nat`
  (LURounding.lean); `nrmInf (toMat n F) = rowNorm n F` is not proved anywhere, so their normwise
  statements and the ones of this file do not combine as they stand.)
-/
import Ohsl.Props.C02F
import Ohsl.Lemmas.C02L
import Mathlib.Algebra.BigOperators.Fin
import Mathlib.Tactic.Ring
import Mathlib.Tactic.Linarith
import Mathlib.Tactic.Positivity
import Mathlib.Tactic.NormNum
import Mathlib.Tactic.FieldSimp
import Mathlib.Tactic.Set
namespace Ohsl.Props.C02
open Ohsl Ohsl.Mat Ohsl.MatNorm
open Ohsl.Props.C01 (Lhat Uhat absLU permFn absLU_nonneg)

section Rounding
variable {M : FlModel}

/-- the real matrix of an entry function over `Fl M` -/
noncomputable def realMat (n : Nat) (a : Nat → Nat → Fl M) : Matrix (Fin n) (Fin n) ℝ :=
  toMat n fun i j => (a i j).val
/-- the real matrix of a model matrix over `Fl M` (its leading `n × n` entries) -/
noncomputable def compMat (n : Nat) (X : Mat (Fl M)) : Matrix (Fin n) (Fin n) ℝ :=
  toMat n (valEnt X)
/-- `|L̂||Û|` as a real matrix -/
noncomputable def absLUMat (n : Nat) (s : LU (Fl M)) : Matrix (Fin n) (Fin n) ℝ :=
  toMat n (absLU n s)
/-- `|L̂||Û||X̂|` as a real matrix -/
noncomputable def absLUX (n : Nat) (s : LU (Fl M)) (X : Mat (Fl M)) : Matrix (Fin n) (Fin n) ℝ :=
  toMat n fun r j => ∑ c ∈ Finset.range n, absLU n s r c * |valEnt X c j|
/-- the constant `c_n = gq (n−1) + gq (2n−1)` of `inverse_right_residual` -/
noncomputable def invConst (M : FlModel) (n : Nat) : ℝ := M.gq (n - 1) + M.gq (2 * n - 1)

theorem invConst_nonneg (hu : M.u < 1) (n : Nat) : 0 ≤ invConst M n :=
  add_nonneg (FlModel.gq_nonneg hu _) (FlModel.gq_nonneg hu _)

theorem invConst_le_gamma {n : Nat} (hn : 1 ≤ n) (hnu : ((2 * n - 1 : ℕ) : ℝ) * M.u < 1) :
    invConst M n ≤ ((n - 1 : ℕ) : ℝ) * M.u / (1 - ((n - 1 : ℕ) : ℝ) * M.u)
      + ((2 * n - 1 : ℕ) : ℝ) * M.u / (1 - ((2 * n - 1 : ℕ) : ℝ) * M.u) :=
  add_le_add (FlModel.gq_le_gamma (n - 1) (FlModel.mul_u_lt_one_of_le (by omega) hnu))
    (FlModel.gq_le_gamma (2 * n - 1) hnu)

theorem absLUX_nonneg (n : Nat) (s : LU (Fl M)) (X : Mat (Fl M)) (i j : Fin n) :
    0 ≤ absLUX n s X i j := by
  show 0 ≤ ∑ c ∈ Finset.range n, absLU n s i.val c * |valEnt X c j.val|
  exact Finset.sum_nonneg fun c _ => mul_nonneg (absLU_nonneg n s _ c) (abs_nonneg _)

theorem absLUX_eq_mul (n : Nat) (s : LU (Fl M)) (X : Mat (Fl M)) :
    absLUX n s X = absLUMat n s * (compMat n X).map fun x => |x| := by
  ext i j
  rw [Matrix.mul_apply]
  exact (Fin.sum_univ_eq_sum_range (fun c => absLU n s i.val c * |valEnt X c j.val|) n).symm

theorem absLUX_norm_le (n : Nat) (s : LU (Fl M)) (X : Mat (Fl M)) :
    nrmInf (absLUX n s X) ≤ nrmInf (absLUMat n s) * nrmInf (compMat n X) := by
  rw [absLUX_eq_mul, ← nrmInf_abs (compMat n X)]
  exact nrmInf_mul_le _ _

theorem realMat_mul_compMat_sub_one (n : Nat) (a : Nat → Nat → Fl M) (X : Mat (Fl M))
    (i j : Fin n) :
    (realMat n a * compMat n X - 1) i j
      = (∑ c ∈ Finset.range n, (a i.val c).val * (ent X c j.val).val)
        - (if i.val = j.val then 1 else 0) := by
  rw [Matrix.sub_apply, Matrix.mul_apply, Matrix.one_apply]
  congr 1
  · exact Fin.sum_univ_eq_sum_range (fun c => (a i.val c).val * (ent X c j.val).val) n
  · simp only [Fin.ext_iff]

/-- **`inverse()`, right residual in the `∞`-norm** (`u < 1`).  Whenever `inverse A` returns `X̂`
in `Fl M`, with `s` the state returned by `luDecomp A`:
`‖A X̂ − I‖∞ ≤ c_n · ‖ |L̂||Û||X̂| ‖∞`, `c_n = gq (n−1) + gq (2n−1)`.  This is
`inverse_right_residual` (C02F) summed over the rows; the row permutation drops out of the norm. -/
theorem inverse_right_residual_norm (hu : M.u < 1) {n : Nat} {A : Mat (Fl M)}
    {a : Nat → Nat → Fl M} (hA : Mat.Is A n n a) {X : Mat (Fl M)} (h : Mat.inverse A = .ok X) :
    ∃ s : LU (Fl M), Mat.luDecomp A = .ok s ∧ Mat.WFn X n ∧
      nrmInf (realMat n a * compMat n X - 1) ≤ invConst M n * nrmInf (absLUX n s X) := by
  obtain ⟨s, π, σ, hd, hp, _, hX, hres⟩ := inverse_right_residual hu hA h
  refine ⟨s, hd, hX, ?_⟩
  have hc := invConst_nonneg (M := M) hu n
  rw [nrmInf_le_iff _ (mul_nonneg hc (nrmInf_nonneg _))]
  intro i
  have hσ : σ i.val < n := (hp.2 i.val i.isLt).1
  calc ∑ j, |(realMat n a * compMat n X - 1) i j|
      ≤ ∑ j, invConst M n * |absLUX n s X ⟨σ i.val, hσ⟩ j| := by
        apply Finset.sum_le_sum
        intro j _
        rw [realMat_mul_compMat_sub_one, abs_of_nonneg (absLUX_nonneg n s X _ _)]
        exact hres i.val j.val i.isLt j.isLt
    _ = invConst M n * ∑ j, |absLUX n s X ⟨σ i.val, hσ⟩ j| := by rw [Finset.mul_sum]
    _ ≤ invConst M n * nrmInf (absLUX n s X) :=
        mul_le_mul_of_nonneg_left (row_sum_le_nrmInf _ _) hc

/-- **`inverse()`, forward error** (`u < 1`, `A` nonsingular over `ℝ`).  Whenever `inverse A`
returns `X̂` in `Fl M`, with `s` the state returned by `luDecomp A`:
`‖X̂ − A⁻¹‖∞ ≤ ‖A⁻¹‖∞ · c_n ‖ |L̂||Û||X̂| ‖∞`  (from `X̂ − A⁻¹ = A⁻¹ (A X̂ − I)`);
`A⁻¹` is the exact real inverse (Mathlib's `Matrix.inv`) of the real matrix of `A`.  Normwise for
the whole matrix. -/
theorem inverse_forward_error (hu : M.u < 1) {n : Nat} {A : Mat (Fl M)}
    {a : Nat → Nat → Fl M} (hA : Mat.Is A n n a) {X : Mat (Fl M)} (h : Mat.inverse A = .ok X)
    (hdet : (realMat n a).det ≠ 0) :
    ∃ s : LU (Fl M), Mat.luDecomp A = .ok s ∧
      nrmInf (compMat n X - (realMat n a)⁻¹)
        ≤ nrmInf (realMat n a)⁻¹ * (invConst M n * nrmInf (absLUX n s X)) := by
  obtain ⟨s, hd, _, hres⟩ := inverse_right_residual_norm hu hA h
  exact ⟨s, hd, (forward_error_le (isUnit_iff_ne_zero.mpr hdet) _).trans
    (mul_le_mul_of_nonneg_left hres (nrmInf_nonneg _))⟩

/-- **forward error, relative form**: `‖X̂ − A⁻¹‖∞ ≤ ‖A⁻¹‖∞ · c_n ‖|L̂||Û|‖∞ ‖X̂‖∞`, i.e. the error
relative to `‖A⁻¹‖∞` is at most `c_n ‖|L̂||Û|‖∞ ‖X̂‖∞`. -/
theorem inverse_forward_error_relative (hu : M.u < 1) {n : Nat} {A : Mat (Fl M)}
    {a : Nat → Nat → Fl M} (hA : Mat.Is A n n a) {X : Mat (Fl M)} (h : Mat.inverse A = .ok X)
    (hdet : (realMat n a).det ≠ 0) :
    ∃ s : LU (Fl M), Mat.luDecomp A = .ok s ∧
      nrmInf (compMat n X - (realMat n a)⁻¹)
        ≤ nrmInf (realMat n a)⁻¹ *
          (invConst M n * (nrmInf (absLUMat n s) * nrmInf (compMat n X))) := by
  obtain ⟨s, hd, hres⟩ := inverse_forward_error hu hA h hdet
  exact ⟨s, hd, hres.trans (mul_le_mul_of_nonneg_left
    (mul_le_mul_of_nonneg_left (absLUX_norm_le n s X) (invConst_nonneg hu n)) (nrmInf_nonneg _))⟩

/-- **`inverse()`, left residual** (`u < 1`, `A` nonsingular over `ℝ`).  Whenever `inverse A`
returns `X̂` in `Fl M`, with `s` the state returned by `luDecomp A`:
`‖X̂ A − I‖∞ ≤ ‖A⁻¹‖∞ ‖A‖∞ · c_n ‖ |L̂||Û||X̂| ‖∞ = κ∞(A) · c_n ‖ |L̂||Û||X̂| ‖∞`
(from `X̂ A − I = A⁻¹ (A X̂ − I) A`).  Normwise for the whole matrix. -/
theorem inverse_left_residual (hu : M.u < 1) {n : Nat} {A : Mat (Fl M)}
    {a : Nat → Nat → Fl M} (hA : Mat.Is A n n a) {X : Mat (Fl M)} (h : Mat.inverse A = .ok X)
    (hdet : (realMat n a).det ≠ 0) :
    ∃ s : LU (Fl M), Mat.luDecomp A = .ok s ∧
      nrmInf (compMat n X * realMat n a - 1)
        ≤ nrmInf (realMat n a)⁻¹ * nrmInf (realMat n a)
          * (invConst M n * nrmInf (absLUX n s X)) := by
  obtain ⟨s, hd, _, hres⟩ := inverse_right_residual_norm hu hA h
  exact ⟨s, hd, (left_residual_le (isUnit_iff_ne_zero.mpr hdet) _).trans
    (mul_le_mul_of_nonneg_left hres (mul_nonneg (nrmInf_nonneg _) (nrmInf_nonneg _)))⟩

/-- **left residual, coarse form**: `‖X̂ A − I‖∞ ≤ κ∞(A) · c_n ‖|L̂||Û|‖∞ ‖X̂‖∞` -/
theorem inverse_left_residual_coarse (hu : M.u < 1) {n : Nat} {A : Mat (Fl M)}
    {a : Nat → Nat → Fl M} (hA : Mat.Is A n n a) {X : Mat (Fl M)} (h : Mat.inverse A = .ok X)
    (hdet : (realMat n a).det ≠ 0) :
    ∃ s : LU (Fl M), Mat.luDecomp A = .ok s ∧
      nrmInf (compMat n X * realMat n a - 1)
        ≤ nrmInf (realMat n a)⁻¹ * nrmInf (realMat n a)
          * (invConst M n * (nrmInf (absLUMat n s) * nrmInf (compMat n X))) := by
  obtain ⟨s, hd, hres⟩ := inverse_left_residual hu hA h hdet
  exact ⟨s, hd, hres.trans (mul_le_mul_of_nonneg_left
    (mul_le_mul_of_nonneg_left (absLUX_norm_le n s X) (invConst_nonneg hu n))
    (mul_nonneg (nrmInf_nonneg _) (nrmInf_nonneg _)))⟩

/-- **a small residual bound certifies nonsingularity** (`u < 1`; NO hypothesis on `A`).  Whenever
`inverse A` returns `X̂` in `Fl M`, with `s` the state returned by `luDecomp A`: if
`ρ = c_n ‖ |L̂||Û||X̂| ‖∞ < 1` then both the real matrix `A` and the computed `X̂` are nonsingular. -/
theorem inverse_nonsingular_of_small (hu : M.u < 1) {n : Nat} {A : Mat (Fl M)}
    {a : Nat → Nat → Fl M} (hA : Mat.Is A n n a) {X : Mat (Fl M)} (h : Mat.inverse A = .ok X) :
    ∃ s : LU (Fl M), Mat.luDecomp A = .ok s ∧
      (invConst M n * nrmInf (absLUX n s X) < 1 →
        (realMat n a).det ≠ 0 ∧ (compMat n X).det ≠ 0) := by
  obtain ⟨s, hd, _, hres⟩ := inverse_right_residual_norm hu hA h
  refine ⟨s, hd, fun hρ => ?_⟩
  obtain ⟨h1, h2⟩ := isUnit_det_of_right_residual_lt_one (lt_of_le_of_lt hres hρ)
  exact ⟨isUnit_iff_ne_zero.mp h1, isUnit_iff_ne_zero.mp h2⟩

/-- **forward error, a posteriori form** (`u < 1`; no hypothesis on `A`, no `A⁻¹` on the right).
With `ρ = c_n ‖ |L̂||Û||X̂| ‖∞`: if `ρ < 1` then `‖X̂ − A⁻¹‖∞ ≤ ‖X̂‖∞ · ρ/(1 − ρ)`
(`A` is nonsingular by `inverse_nonsingular_of_small`; uses `‖A⁻¹‖∞ ≤ ‖X̂‖∞/(1 − ρ)`). -/
theorem inverse_forward_error_apost (hu : M.u < 1) {n : Nat} {A : Mat (Fl M)}
    {a : Nat → Nat → Fl M} (hA : Mat.Is A n n a) {X : Mat (Fl M)} (h : Mat.inverse A = .ok X) :
    ∃ s : LU (Fl M), Mat.luDecomp A = .ok s ∧
      (invConst M n * nrmInf (absLUX n s X) < 1 →
        nrmInf (compMat n X - (realMat n a)⁻¹)
          ≤ nrmInf (compMat n X) / (1 - invConst M n * nrmInf (absLUX n s X))
            * (invConst M n * nrmInf (absLUX n s X))) := by
  obtain ⟨s, hd, _, hres⟩ := inverse_right_residual_norm hu hA h
  exact ⟨s, hd, fun hρ => forward_error_le_apost_of_le hres hρ⟩

/-- **left residual, a posteriori form** (`u < 1`; no hypothesis on `A`).  With
`ρ = c_n ‖ |L̂||Û||X̂| ‖∞`: if `ρ < 1` then `‖X̂ A − I‖∞ ≤ ‖X̂‖∞ ‖A‖∞ · ρ/(1 − ρ)`. -/
theorem inverse_left_residual_apost (hu : M.u < 1) {n : Nat} {A : Mat (Fl M)}
    {a : Nat → Nat → Fl M} (hA : Mat.Is A n n a) {X : Mat (Fl M)} (h : Mat.inverse A = .ok X) :
    ∃ s : LU (Fl M), Mat.luDecomp A = .ok s ∧
      (invConst M n * nrmInf (absLUX n s X) < 1 →
        nrmInf (compMat n X * realMat n a - 1)
          ≤ nrmInf (compMat n X) * nrmInf (realMat n a)
              / (1 - invConst M n * nrmInf (absLUX n s X))
            * (invConst M n * nrmInf (absLUX n s X))) := by
  obtain ⟨s, hd, _, hres⟩ := inverse_right_residual_norm hu hA h
  exact ⟨s, hd, fun hρ => left_residual_le_apost_of_le hres hρ⟩

/-- **the classical constants**: forward error and left residual with `γ_{n−1} + γ_{2n−1}`,
`γ_k = k u/(1 − k u)`, when `(2n−1) u < 1` and `A` is nonsingular over `ℝ`:
`‖X̂ − A⁻¹‖∞ ≤ ‖A⁻¹‖∞ (γ_{n−1}+γ_{2n−1}) ‖|L̂||Û||X̂|‖∞` and
`‖X̂ A − I‖∞ ≤ κ∞(A) (γ_{n−1}+γ_{2n−1}) ‖|L̂||Û||X̂|‖∞`. -/
theorem inverse_forward_left_gamma {n : Nat} (hn : 1 ≤ n)
    (hnu : ((2 * n - 1 : ℕ) : ℝ) * M.u < 1) {A : Mat (Fl M)} {a : Nat → Nat → Fl M}
    (hA : Mat.Is A n n a) {X : Mat (Fl M)} (h : Mat.inverse A = .ok X)
    (hdet : (realMat n a).det ≠ 0) :
    ∃ s : LU (Fl M), Mat.luDecomp A = .ok s ∧
      nrmInf (compMat n X - (realMat n a)⁻¹)
        ≤ nrmInf (realMat n a)⁻¹ *
          ((((n - 1 : ℕ) : ℝ) * M.u / (1 - ((n - 1 : ℕ) : ℝ) * M.u)
              + ((2 * n - 1 : ℕ) : ℝ) * M.u / (1 - ((2 * n - 1 : ℕ) : ℝ) * M.u))
            * nrmInf (absLUX n s X)) ∧
      nrmInf (compMat n X * realMat n a - 1)
        ≤ nrmInf (realMat n a)⁻¹ * nrmInf (realMat n a) *
          ((((n - 1 : ℕ) : ℝ) * M.u / (1 - ((n - 1 : ℕ) : ℝ) * M.u)
              + ((2 * n - 1 : ℕ) : ℝ) * M.u / (1 - ((2 * n - 1 : ℕ) : ℝ) * M.u))
            * nrmInf (absLUX n s X)) := by
  have hu : M.u < 1 := FlModel.u_lt_one_of_mul_lt_one (by omega) hnu
  obtain ⟨s, hd, _, hres⟩ := inverse_right_residual_norm hu hA h
  have hres' := hres.trans
    (mul_le_mul_of_nonneg_right (invConst_le_gamma hn hnu) (nrmInf_nonneg (absLUX n s X)))
  have hunit := isUnit_iff_ne_zero.mpr hdet
  exact ⟨s, hd,
    (forward_error_le hunit _).trans (mul_le_mul_of_nonneg_left hres' (nrmInf_nonneg _)),
    (left_residual_le hunit _).trans
      (mul_le_mul_of_nonneg_left hres' (mul_nonneg (nrmInf_nonneg _) (nrmInf_nonneg _)))⟩

end Rounding

section Examples

theorem invConst_exact (n : Nat) : invConst FlModel.exact n = 0 := by
  show FlModel.exact.gq _ + FlModel.exact.gq _ = 0
  rw [FlModel.gq_exact, FlModel.gq_exact, add_zero]

/-- in exact arithmetic (`u = 0`, `c_n = 0`) the left residual bound is `0`: `X̂ A = I` for every
nonsingular `A` on which `inverse` succeeds -/
example {n : Nat} {A X : Mat (Fl FlModel.exact)} {a : Nat → Nat → Fl FlModel.exact}
    (hA : Mat.Is A n n a) (h : Mat.inverse A = .ok X) (hdet : (realMat n a).det ≠ 0) :
    compMat n X * realMat n a = 1 ∧ compMat n X = (realMat n a)⁻¹ := by
  have hu := FlModel.exact_u_lt_one
  have hc := invConst_exact n
  obtain ⟨s, _, h1⟩ := inverse_left_residual hu hA h hdet
  obtain ⟨s', _, h2⟩ := inverse_forward_error hu hA h hdet
  rw [hc, zero_mul, mul_zero] at h1 h2
  have e1 := le_antisymm h1 (nrmInf_nonneg _)
  have e2 := le_antisymm h2 (nrmInf_nonneg _)
  constructor
  · apply sub_eq_zero.mp
    ext i j
    have := abs_entry_le_nrmInf (compMat n X * realMat n a - 1) i j
    rw [e1] at this
    simpa using abs_nonpos_iff.mp this
  · apply sub_eq_zero.mp
    ext i j
    have := abs_entry_le_nrmInf (compMat n X - (realMat n a)⁻¹) i j
    rw [e2] at this
    simpa using abs_nonpos_iff.mp this

namespace Ex
open Ohsl.Props.C01.Ex

theorem det_A2 : (realMat 2 (Mat.ent A2)).det = -2 := by
  rw [Matrix.det_fin_two]
  norm_num [realMat, toMat, Mat.ent, A2]

/-- every hypothesis of the theorems of this file is met by the concrete `2 × 2` matrix
`[[1,2],[3,4]]` (a genuine row exchange) in the exact model: `Is`, `u < 1`, `inverse = .ok`,
`det ≠ 0`, and the smallness hypothesis `ρ < 1` (there `ρ = 0`) for the state `s` that the theorems
produce -/
example : ∃ (A X : Mat E), Mat.Is A 2 2 (Mat.ent A) ∧ FlModel.exact.u < 1 ∧
    Mat.inverse A = .ok X ∧ (realMat 2 (Mat.ent A)).det ≠ 0 ∧
    ∃ s : LU E, Mat.luDecomp A = .ok s ∧
      invConst FlModel.exact 2 * nrmInf (absLUX 2 s X) < 1 ∧
      nrmInf (compMat 2 X - (realMat 2 (Mat.ent A))⁻¹)
        ≤ nrmInf (realMat 2 (Mat.ent A))⁻¹ * (invConst FlModel.exact 2 * nrmInf (absLUX 2 s X)) ∧
      nrmInf (compMat 2 X * realMat 2 (Mat.ent A) - 1)
        ≤ nrmInf (realMat 2 (Mat.ent A))⁻¹ * nrmInf (realMat 2 (Mat.ent A))
          * (invConst FlModel.exact 2 * nrmInf (absLUX 2 s X)) := by
  have hu := FlModel.exact_u_lt_one
  have hA := A2_is
  have hdet : (realMat 2 (Mat.ent A2)).det ≠ 0 := by rw [det_A2]; norm_num
  have hc := invConst_exact 2
  obtain ⟨s, hd, h1⟩ := inverse_forward_error hu hA inverse_A2 hdet
  obtain ⟨s', hd', h2⟩ := inverse_left_residual hu hA inverse_A2 hdet
  cases Except.ok.inj (hd.symm.trans hd')
  refine ⟨A2, _, hA, hu, inverse_A2, hdet, s, hd, ?_, h1, h2⟩
  rw [hc, zero_mul]
  exact zero_lt_one

/-! a model that really rounds, `fl x = (1+u) x` (`FlModel.scale`), and the `1 × 1` matrix `[2]`:
`X̂ = [fl(1/2)] = [(1+u)/2]`, `|L̂||Û||X̂| = [1+u]`, `c_1 = gq 1 = u/(1−u)`, so
`ρ = u(1+u)/(1−u)`, which is `> 0` for `u > 0` and `< 1` for `u ≤ 1/4`: the smallness hypothesis
is met non-trivially -/

section Scale
variable (u : ℝ) (hu0 : 0 ≤ u)

theorem inverse_scale :
    Mat.inverse (⟨#[⟨2⟩], 1, 1⟩ : Mat (S u hu0)) = .ok ⟨#[⟨(1 + u) * (1 / 2)⟩], 1, 1⟩ := by
  have h2 : ¬ (1 : Nat) ≠ 1 := by simp
  simp only [inverse, h2, if_false, luDecomp_scale, bind, Except.bind]
  norm_num only [model_eval, List.reverse_cons, List.reverse_nil, S.divM_eq, Fl.one_val]

theorem rho_scale (hu1 : u < 1) :
    invConst (FlModel.scale u hu0) 1 *
      nrmInf (absLUX 1 (⟨⟨#[⟨2⟩], 1, 1⟩, ⟨#[1], 1, 1⟩, 0⟩ : LU (S u hu0))
        (⟨#[⟨(1 + u) * (1 / 2)⟩], 1, 1⟩ : Mat (S u hu0)))
      = u * (1 + u) / (1 - u) := by
  have h1 : (1 : ℝ) - u ≠ 0 := by linarith
  have h2 : |1 + u| = 1 + u := abs_of_nonneg (by linarith)
  set s : LU (S u hu0) := ⟨⟨#[⟨2⟩], 1, 1⟩, ⟨#[1], 1, 1⟩, 0⟩ with hs
  set X : Mat (S u hu0) := ⟨#[⟨(1 + u) * (1 / 2)⟩], 1, 1⟩ with hX
  have hL : Lhat s 0 0 = 1 := by rw [C01.Lhat_apply]; simp
  have hU : Uhat 1 s 0 0 = 2 := by rw [C01.Uhat_apply 1 s (by omega)]; simp [Mat.ent, hs]
  have hx : valEnt X 0 0 = (1 + u) * (1 / 2) := by simp [valEnt, Mat.ent, hX]
  have e : absLUX 1 s X 0 0 = 1 + u := by
    show ∑ c ∈ Finset.range 1, absLU 1 s 0 c * |valEnt X c 0| = _
    simp only [Finset.sum_range_one, absLU, hL, hU, hx, abs_mul, h2]
    norm_num
    ring
  have hc : invConst (FlModel.scale u hu0) 1 = u / (1 - u) := by
    show (1 - u)⁻¹ ^ 0 - 1 + ((1 - u)⁻¹ ^ 1 - 1) = _
    field_simp
    ring
  rw [nrmInf_fin_one, e, h2, hc]
  ring

/-- the hypotheses of `inverse_nonsingular_of_small`, `inverse_forward_error_apost` and
`inverse_left_residual_apost` are met in a model that really rounds, with `0 < ρ < 1`
(`0 < u ≤ 1/4`), and their conclusions hold there -/
example (hpos : 0 < u) (hu4 : u ≤ 1 / 4) :
    ∃ (A X : Mat (S u hu0)), Mat.Is A 1 1 (Mat.ent A) ∧ (FlModel.scale u hu0).u < 1 ∧
      Mat.inverse A = .ok X ∧
      ∃ s : LU (S u hu0), Mat.luDecomp A = .ok s ∧
        0 < invConst (FlModel.scale u hu0) 1 * nrmInf (absLUX 1 s X) ∧
        invConst (FlModel.scale u hu0) 1 * nrmInf (absLUX 1 s X) < 1 ∧
        (realMat 1 (Mat.ent A)).det ≠ 0 ∧ (compMat 1 X).det ≠ 0 ∧
        nrmInf (compMat 1 X - (realMat 1 (Mat.ent A))⁻¹)
          ≤ nrmInf (compMat 1 X)
              / (1 - invConst (FlModel.scale u hu0) 1 * nrmInf (absLUX 1 s X))
            * (invConst (FlModel.scale u hu0) 1 * nrmInf (absLUX 1 s X)) := by
  have hu1 : u < 1 := by linarith
  have hu : (FlModel.scale u hu0).u < 1 := hu1
  have hA : Mat.Is (⟨#[⟨2⟩], 1, 1⟩ : Mat (S u hu0)) 1 1 (Mat.ent _) := Mat.WFn.is ⟨rfl, rfl, rfl⟩
  obtain ⟨s, hd, hns⟩ := inverse_nonsingular_of_small hu hA (inverse_scale u hu0)
  obtain ⟨s', hd', hfe⟩ := inverse_forward_error_apost hu hA (inverse_scale u hu0)
  cases Except.ok.inj (hd.symm.trans hd')
  have hs := Except.ok.inj ((luDecomp_scale u hu0).symm.trans hd)
  have hρ := rho_scale u hu0 hu1
  rw [hs] at hρ
  have h1 : 0 < 1 - u := by linarith
  have hlt : invConst (FlModel.scale u hu0) 1 *
      nrmInf (absLUX 1 s (⟨#[⟨(1 + u) * (1 / 2)⟩], 1, 1⟩ : Mat (S u hu0))) < 1 := by
    rw [hρ, div_lt_one h1]
    linarith [mul_le_mul_of_nonneg_right hu4 hu0]
  have hgt : 0 < invConst (FlModel.scale u hu0) 1 *
      nrmInf (absLUX 1 s (⟨#[⟨(1 + u) * (1 / 2)⟩], 1, 1⟩ : Mat (S u hu0))) := by
    rw [hρ]; positivity
  exact ⟨_, _, hA, hu, inverse_scale u hu0, s, hd, hgt, hlt, (hns hlt).1, (hns hlt).2, hfe hlt⟩

end Scale

end Ex

end Examples

end Ohsl.Props.C02
