/-
  Property C13, real interpretation — the model's complex numbers over ℝ ARE Mathlib's ℂ:
  `toC : Cx ℝ → ℂ` (Ohsl/Lemmas/RealTransc.lean) is a bijection that commutes with every
  arithmetic operation of `Ohsl.Cx` (Ohsl/Model/Cx.lean), including the fallible division, the
  conjugate, the squared modulus and the mixed complex/real forms; packaged as a ring isomorphism
  from `Cx ℝ` with the ring structure `C13.cx_ring`.  The model's `PartialOrd` is the
  lexicographic order on `(re, im)`.
-/
import Ohsl.Props.C13
import Ohsl.Props.C14
import Mathlib.Data.Complex.Basic
import Mathlib.Algebra.Ring.Equiv
import Mathlib.Order.Lex
import Mathlib.Data.Prod.Lex
import Mathlib.Tactic.Ring


namespace Ohsl.Props.C13
open Ohsl Ohsl.Cx Ohsl.RealI Ohsl.Props.C14

section Order
variable {K : Type} [Field K] [LinearOrder K]
attribute [local instance] Alg.scalarExt

/-- `partial_cmp` of the model: `Less` (0) / `Equal` (1) / `Greater` (2) are exactly the three
    cases of the lexicographic order; `None` (3) never occurs -/
theorem cmp_iff_lex (a b : Cx K) :
    (Cx.cmp a b = 0 ↔ a.re < b.re ∨ (a.re = b.re ∧ a.im < b.im)) ∧
    (Cx.cmp a b = 1 ↔ a = b) ∧
    (Cx.cmp a b = 2 ↔ b.re < a.re ∨ (b.re = a.re ∧ b.im < a.im)) ∧
    Cx.cmp a b ≠ 3 := by
  rw [← key_lt, ← key_lt]
  exact cmp_iff a b

theorem lt_strict_total (a b c : Cx K) :
    Cx.lt a a = false ∧ (Cx.lt a b = true → Cx.lt b c = true → Cx.lt a c = true) ∧
    (Cx.lt a b = true ∨ a = b ∨ Cx.lt b a = true) := by
  simp only [lt_iff_key, ← key_inj (a := a) (b := b)]
  exact ⟨Bool.eq_false_iff.mpr fun h => lt_irrefl _ ((lt_iff_key a a).mp h), fun h1 h2 => h1.trans h2,
    lt_trichotomy _ _⟩

end Order

section Real

theorem toC_eq_zero {w : Cx ℝ} : toC w = 0 ↔ w = 0 := by
  rw [← toC_zero, toC_inj]

theorem toC_absSqr (z : Cx ℝ) : Cx.absSqr z = Complex.normSq (toC z) := by
  simp [Cx.absSqr, Complex.normSq_apply, toC]

theorem toC_conj (z : Cx ℝ) : toC (Cx.conj z) = (starRingEnd ℂ) (toC z) := by
  apply Complex.ext <;> simp [toC, Cx.conj]

theorem div_eq_toC (z w : Cx ℝ) :
    Cx.div z w = if toC w = 0 then .error .arith else .ok (divT z w) := by
  rw [Cx.div_eq, toC_absSqr]
  simp only [Complex.normSq_eq_zero]

theorem toC_div_ok (z w : Cx ℝ) (hw : toC w ≠ 0) :
    ∃ q, Cx.div z w = .ok q ∧ toC q = toC z / toC w :=
  ⟨divT z w, by rw [div_eq_toC, if_neg hw], divT_eq z w⟩

theorem toC_div {z w q : Cx ℝ} (h : Cx.div z w = .ok q) : toC q = toC z / toC w := by
  rw [div_eq_toC] at h
  split_ifs at h
  cases h
  exact divT_eq z w

theorem toC_div_error (z w : Cx ℝ) : Cx.div z w = .error .arith ↔ toC w = 0 := by
  rw [div_eq_toC]
  split_ifs with hw <;> simp [hw]

/-- the error branch on a zero divisor exists only in the exact interpretation: `f64` never rejects -/
theorem toC_div_total (z w : Cx ℝ) :
    (toC w = 0 ∧ Cx.div z w = .error .arith) ∨
    (toC w ≠ 0 ∧ ∃ q, Cx.div z w = .ok q ∧ toC q = toC z / toC w) := by
  by_cases hw : toC w = 0
  · exact Or.inl ⟨hw, (toC_div_error z w).mpr hw⟩
  · exact Or.inr ⟨hw, toC_div_ok z w hw⟩

/-- `/=` is the same computation -/
theorem toC_divAssign {z w q : Cx ℝ} (h : Cx.divAssign z w = .ok q) : toC q = toC z / toC w :=
  toC_div (by rw [← divAssign_eq]; exact h)

theorem toC_divR {z q : Cx ℝ} {r : ℝ} (h : Cx.divR z r = .ok q) : toC q = toC z / (r : ℂ) := by
  rw [Cx.divR_eq] at h
  split_ifs at h
  cases h
  exact toC_divRT z r

theorem toC_divR_error (z : Cx ℝ) (r : ℝ) : Cx.divR z r = .error .arith ↔ r = 0 := by
  rw [Cx.divR_eq]
  split_ifs with hr <;> simp [hr]

theorem toC_divR_ok (z : Cx ℝ) {r : ℝ} (hr : r ≠ 0) :
    ∃ q, Cx.divR z r = .ok q ∧ toC q = toC z / (r : ℂ) :=
  ⟨divRT z r, by rw [Cx.divR_eq, if_neg hr], toC_divRT z r⟩

/-- all four mixed complex/real forms at once (`addR`, `subR`, `mulR` from C14) -/
theorem toC_mixed_real (z : Cx ℝ) (r : ℝ) :
    toC (addR z r) = toC z + (r : ℂ) ∧ toC (subR z r) = toC z - (r : ℂ) ∧
    toC (mulR z r) = toC z * (r : ℂ) ∧
    (∀ q, Cx.divR z r = .ok q → toC q = toC z / (r : ℂ)) ∧
    (Cx.divR z r = .error .arith ↔ r = 0) :=
  ⟨toC_addR z r, toC_subR z r, toC_mulR z r, fun _ h => toC_divR h, toC_divR_error z r⟩

theorem toC_assign (a b : Cx ℝ) :
    toC (addAssign a b) = toC a + toC b ∧ toC (subAssign a b) = toC a - toC b ∧
    toC (mulAssign a b) = toC a * toC b := by
  refine ⟨toC_add a b, toC_sub a b, ?_⟩
  rw [mulAssign_eq (fun x y : ℝ => add_comm x y), toC_mul]

theorem toC_surjective : Function.Surjective toC := fun c => ⟨⟨c.re, c.im⟩, rfl⟩
theorem toC_injective : Function.Injective toC := fun _ _ h => toC_inj.mp h
theorem toC_bijective : Function.Bijective toC := ⟨toC_injective, toC_surjective⟩

/-- **`toC` is a field isomorphism** (homomorphism equations on the model's own operators):
    bijective, preserves `0 1 + * - neg`, conjugation, the squared modulus, and division wherever
    the model's division is defined (which is: wherever ℂ's is non-degenerate). -/
theorem toC_ringHom :
    Function.Bijective toC ∧ toC (0 : Cx ℝ) = 0 ∧ toC (1 : Cx ℝ) = 1 ∧
    (∀ a b : Cx ℝ, toC (a + b) = toC a + toC b) ∧ (∀ a b : Cx ℝ, toC (a * b) = toC a * toC b) ∧
    (∀ a b : Cx ℝ, toC (a - b) = toC a - toC b) ∧ (∀ a : Cx ℝ, toC (-a) = -toC a) ∧
    (∀ a b q : Cx ℝ, Cx.div a b = .ok q → toC q = toC a / toC b) ∧
    (∀ a b : Cx ℝ, toC b ≠ 0 → ∃ q, Cx.div a b = .ok q) :=
  ⟨toC_bijective, toC_zero, toC_one, toC_add, toC_mul, toC_sub, toC_neg,
    fun _ _ _ h => toC_div h,
    fun a b hb => (toC_div_ok a b hb).imp fun _ h => h.1⟩

/-- the commutative ring `Cx ℝ` (`cx_ring`) is a field: every non-zero element has the inverse computed by the
    model's division -/
theorem cx_inv_exists (w : Cx ℝ) (hw : w ≠ 0) : ∃ q, Cx.div 1 w = .ok q ∧ q * w = 1 :=
  cx_div_mul 1 w (mt (absSqr_eq_zero w).mp hw)

end Real

section Ring
set_option warn.classDefReducibility false in
attribute [local instance] cx_ring

/-- `toC` as a ring homomorphism; the ring structure on `Cx ℝ` is `C13.cx_ring` -/
noncomputable def toCRingHom : Cx ℝ →+* ℂ where
  toFun := toC
  map_one' := toC_one
  map_mul' := toC_mul
  map_zero' := toC_zero
  map_add' := toC_add

/-- `toC` as a ring isomorphism `(Cx ℝ, cx_ring) ≃+* ℂ` -/
noncomputable def toCRingEquiv : Cx ℝ ≃+* ℂ :=
  RingEquiv.ofBijective toCRingHom toC_bijective

theorem toCRingHom_apply (z : Cx ℝ) : toCRingHom z = toC z := rfl
theorem toCRingEquiv_apply (z : Cx ℝ) : toCRingEquiv z = toC z := rfl
theorem toCRingEquiv_symm_apply (c : ℂ) : toCRingEquiv.symm c = ⟨c.re, c.im⟩ := by
  apply toCRingEquiv.injective
  rw [RingEquiv.apply_symm_apply]
  rfl

/-- the operations of `cx_ring` are the model's operations (so the packaged isomorphism speaks
    about `Cx.add`, `Cx.mul`, …) -/
theorem cx_ring_ops (a b : Cx ℝ) :
    (cx_ring (K := ℝ)).add a b = Cx.add a b ∧ (cx_ring (K := ℝ)).mul a b = Cx.mul a b ∧
    (cx_ring (K := ℝ)).neg a = Cx.neg a ∧ (cx_ring (K := ℝ)).zero = Cx.zero ∧
    (cx_ring (K := ℝ)).one = Cx.one :=
  ⟨rfl, rfl, rfl, rfl, rfl⟩

end Ring

example : toC (⟨3, -4⟩ : Cx ℝ) ≠ 0 := by
  intro h
  have := congrArg Complex.re h
  norm_num [toC] at this

example : Cx.lt (⟨1, 2⟩ : Cx ℝ) ⟨1, 3⟩ = true := by
  rw [lt_iff_lex]; right; norm_num

end Ohsl.Props.C13
