/-
  Property C01 (continued) — completeness of the dense direct solvers: a nonsingular system is
  never refused, and a returned value certifies nonsingularity.
  Model: Ohsl/Model/Solve.lean.

  Class (E): `K` a linearly ordered field, `/` fails on an exact zero divisor
  (`Ohsl.Alg.scalarExt`).  `A` is a well-formed `n × n` matrix with entries `a i j`, `n ≥ 1`
  (an order-0 system is always rejected, `solveBasic_order0`), `b.size = n`; "nonsingular" is
  `Matrix.det (Matrix.of fun (i j : Fin n) => a i j) ≠ 0`.

  * `solveBasic_complete`, `solveLU_complete`         nonsingular ⇒ a value
  * `solveBasic_nonsingular`, `solveLU_nonsingular`   a value ⇒ nonsingular
  * `solveBasic_ok_iff`, `solveLU_ok_iff`, `solvers_ok_iff`
  * `solveBasic_singular_rejects`, `solveLU_singular_rejects`   singular ⇒ an error, for every `b`
  * `solve_correct`           the three together: one vector, from both solvers, the only solution

  `IsStrictOrderedRing K` (the order is compatible with the field operations) is needed for the
  completeness direction: both pivot searches compare magnitudes `mag x = if x < 0 then -x else x`
  with `<`, and only under compatibility does "no magnitude exceeds 0" mean "the column is zero".

  Note on the pivot search of `solve_basic`: `max_abs_in_column` starts from the current row, so
  on an all-zero pivot sub-column it returns that row.  For a nonsingular matrix this never happens:
  the current matrix has echelon shape in the columns already processed and a determinant equal
  to `± det A ≠ 0`, hence its pivot sub-column is not zero, and the search then returns a row on or
  below the diagonal with a non-zero entry.
-/
import Ohsl.Props.C01S
import Ohsl.Lemmas.SolveComplete
import Mathlib.Algebra.Order.Field.Rat
import Mathlib.Tactic.NormNum
namespace Ohsl.Props.C01
open Ohsl Ohsl.Mat

section Exact
variable {K : Type} [Field K] [LinearOrder K]
attribute [local instance] Ohsl.Alg.scalarExt

/-- **A value returned by `solve_basic` certifies nonsingularity** (no pivot or order
    hypothesis): all divisors were non-zero, so the reduced triangular matrix has no zero on its
    diagonal, and its determinant vanishes exactly when `det A` does (`Mat.GaussInv.diag_iff`). -/
theorem solveBasic_nonsingular {n : Nat} (hn : 1 ≤ n) {A : Mat K} {a : Nat → Nat → K}
    (hA : Mat.Is A n n a) {b x : Array K} (hb : b.size = n)
    (h : Mat.solveBasic A b = .ok x) :
    Matrix.det (Matrix.of fun (i j : Fin n) => a i.val j.val) ≠ 0 :=
  (Mat.solveBasic_spec hn hA hb h).2.2.1

variable [IsStrictOrderedRing K]

/-- **Completeness of `solve_basic`** (Gaussian elimination with partial pivoting, then back
    substitution): a nonsingular `n × n` system (`n ≥ 1`) with a right-hand side of length `n` is
    never refused. -/
theorem solveBasic_complete {n : Nat} (hn : 1 ≤ n) {A : Mat K} {a : Nat → Nat → K}
    (hA : Mat.Is A n n a) {b : Array K} (hb : b.size = n)
    (hdet : Matrix.det (Matrix.of fun (i j : Fin n) => a i.val j.val) ≠ 0) :
    ∃ x, Mat.solveBasic A b = .ok x :=
  Mat.solveBasic_complete hn hA hb hdet

/-- **Completeness of `solve_lu`** (in-place LU with recorded row permutation, `P b`, forward
    and back substitution): a nonsingular system is never refused. -/
theorem solveLU_complete {n : Nat} (hn : 1 ≤ n) {A : Mat K} {a : Nat → Nat → K}
    (hA : Mat.Is A n n a) {b : Array K} (hb : b.size = n)
    (hdet : Matrix.det (Matrix.of fun (i j : Fin n) => a i.val j.val) ≠ 0) :
    ∃ x, Mat.solveLU A b = .ok x :=
  Mat.solveLU_complete hn hA hb hdet

/-- **A value returned by `solve_lu` certifies nonsingularity**: the factorisation itself never
    fails (a zero pivot column is skipped), but then the back substitution divides by the zero
    diagonal entry of `U`; since every division succeeded, `det U = ± det A ≠ 0`. -/
theorem solveLU_nonsingular {n : Nat} (hn : 1 ≤ n) {A : Mat K} {a : Nat → Nat → K}
    (hA : Mat.Is A n n a) {b x : Array K} (hb : b.size = n)
    (h : Mat.solveLU A b = .ok x) :
    Matrix.det (Matrix.of fun (i j : Fin n) => a i.val j.val) ≠ 0 :=
  (Mat.solveLU_spec hn hA hb h).2.2

/-- `solve_basic` returns a value **if and only if** the matrix is nonsingular (for a square
    well-formed matrix of order `n ≥ 1` and a right-hand side of matching length; whatever `b`) -/
theorem solveBasic_ok_iff {n : Nat} (hn : 1 ≤ n) {A : Mat K} {a : Nat → Nat → K}
    (hA : Mat.Is A n n a) {b : Array K} (hb : b.size = n) :
    (∃ x, Mat.solveBasic A b = .ok x) ↔
      Matrix.det (Matrix.of fun (i j : Fin n) => a i.val j.val) ≠ 0 :=
  ⟨fun ⟨_, h⟩ => solveBasic_nonsingular hn hA hb h, solveBasic_complete hn hA hb⟩

/-- `solve_lu` returns a value **if and only if** the matrix is nonsingular -/
theorem solveLU_ok_iff {n : Nat} (hn : 1 ≤ n) {A : Mat K} {a : Nat → Nat → K}
    (hA : Mat.Is A n n a) {b : Array K} (hb : b.size = n) :
    (∃ x, Mat.solveLU A b = .ok x) ↔
      Matrix.det (Matrix.of fun (i j : Fin n) => a i.val j.val) ≠ 0 :=
  ⟨fun ⟨_, h⟩ => solveLU_nonsingular hn hA hb h, solveLU_complete hn hA hb⟩

set_option linter.unusedSectionVars false in
/-- a singular system is refused by `solve_basic` whatever the right-hand side (also when the
    system happens to be consistent): the call ends in an error, never in a value -/
theorem solveBasic_singular_rejects {n : Nat} (hn : 1 ≤ n) {A : Mat K} {a : Nat → Nat → K}
    (hA : Mat.Is A n n a) {b : Array K} (hb : b.size = n)
    (hdet : Matrix.det (Matrix.of fun (i j : Fin n) => a i.val j.val) = 0) :
    ∃ e, Mat.solveBasic A b = .error e :=
  ⟨.arith, Mat.solveBasic_singular hn hA hb hdet⟩

set_option linter.unusedVariables false in
/-- a singular system is refused by `solve_lu` whatever the right-hand side -/
theorem solveLU_singular_rejects {n : Nat} (hn : 1 ≤ n) {A : Mat K} {a : Nat → Nat → K}
    (hA : Mat.Is A n n a) {b : Array K} (hb : b.size = n)
    (hdet : Matrix.det (Matrix.of fun (i j : Fin n) => a i.val j.val) = 0) :
    ∃ e, Mat.solveLU A b = .error e :=
  ⟨.arith, Mat.solveLU_singular hA hb hdet⟩

/-- the two direct solvers accept exactly the same systems (right-hand sides may even differ) -/
theorem solvers_ok_iff {n : Nat} (hn : 1 ≤ n) {A : Mat K} {a : Nat → Nat → K}
    (hA : Mat.Is A n n a) {b b' : Array K} (hb : b.size = n) (hb' : b'.size = n) :
    (∃ x, Mat.solveBasic A b = .ok x) ↔ (∃ x, Mat.solveLU A b' = .ok x) :=
  (solveBasic_ok_iff hn hA hb).trans (solveLU_ok_iff hn hA hb').symm

/-- **Correctness of the dense direct solvers**: for a nonsingular system both `solve_basic` and
    `solve_lu` return a value, the SAME vector `x`; it has length `n`, satisfies every equation
    `Σ_j a i j · x_j = b_i` exactly, and every exact solution of the system coincides with it. -/
theorem solve_correct {n : Nat} (hn : 1 ≤ n) {A : Mat K} {a : Nat → Nat → K}
    (hA : Mat.Is A n n a) {b : Array K} (hb : b.size = n)
    (hdet : Matrix.det (Matrix.of fun (i j : Fin n) => a i.val j.val) ≠ 0) :
    ∃ x, Mat.solveBasic A b = .ok x ∧ Mat.solveLU A b = .ok x ∧ x.size = n ∧
      (∀ i, i < n → ∑ j ∈ Finset.range n, a i j * (x[j]?.getD 0) = b[i]?.getD 0) ∧
      (∀ z : Nat → K, (∀ i, i < n → ∑ j ∈ Finset.range n, a i j * z j = b[i]?.getD 0) →
        ∀ j, j < n → z j = x[j]?.getD 0) :=
  Mat.solve_correct hn hA hb hdet

end Exact

section Examples
attribute [local instance] Ohsl.Alg.scalarExt

/-- the hypotheses of the completeness theorems are satisfiable: a 3×3 rational matrix whose
    first pivot is zero (a row exchange is needed) has determinant −2 -/
example : ∃ (A : Mat ℚ) (b : Array ℚ), Mat.Is A 3 3 (Mat.ent A) ∧ b.size = 3 ∧
    Matrix.det (Matrix.of fun (i j : Fin 3) => Mat.ent A i.val j.val) ≠ 0 :=
  ⟨⟨#[0, 1, 2, 1, 0, 3, 4, -3, 8], 3, 3⟩, #[8, 10, 22], Mat.WFn.is ⟨rfl, rfl, rfl⟩, rfl,
    ne_of_eq_of_ne ex3_det (by norm_num)⟩

/-- … and `solve_correct` then applies to it -/
example : ∃ x : Array ℚ,
    Mat.solveBasic (K := ℚ) ⟨#[0, 1, 2, 1, 0, 3, 4, -3, 8], 3, 3⟩ #[8, 10, 22] = .ok x ∧
    Mat.solveLU (K := ℚ) ⟨#[0, 1, 2, 1, 0, 3, 4, -3, 8], 3, 3⟩ #[8, 10, 22] = .ok x := by
  have hA : Mat.Is (K := ℚ) ⟨#[0, 1, 2, 1, 0, 3, 4, -3, 8], 3, 3⟩ 3 3
      (Mat.ent ⟨#[0, 1, 2, 1, 0, 3, 4, -3, 8], 3, 3⟩) := Mat.WFn.is ⟨rfl, rfl, rfl⟩
  obtain ⟨x, h1, h2, _⟩ := solve_correct (by decide) hA (b := #[8, 10, 22]) rfl
    (ne_of_eq_of_ne ex3_det (by norm_num))
  exact ⟨x, h1, h2⟩

/-- the singular matrix [[1,2],[2,4]] is refused by both solvers even for the consistent
    right-hand side (3, 6) -/
example : (∃ e, Mat.solveBasic (K := ℚ) ⟨#[1, 2, 2, 4], 2, 2⟩ #[3, 6] = .error e) ∧
    (∃ e, Mat.solveLU (K := ℚ) ⟨#[1, 2, 2, 4], 2, 2⟩ #[3, 6] = .error e) := by
  have hA : Mat.Is (K := ℚ) ⟨#[1, 2, 2, 4], 2, 2⟩ 2 2 (Mat.ent ⟨#[1, 2, 2, 4], 2, 2⟩) :=
    Mat.WFn.is ⟨rfl, rfl, rfl⟩
  have hdet : Matrix.det (Matrix.of fun (i j : Fin 2) =>
      Mat.ent (K := ℚ) ⟨#[1, 2, 2, 4], 2, 2⟩ i.val j.val) = 0 := by
    rw [Matrix.det_fin_two]
    exact (by norm_num : (1 : ℚ) * 4 - 2 * 2 = 0)
  exact ⟨solveBasic_singular_rejects (by decide) hA rfl hdet,
    solveLU_singular_rejects (by decide) hA rfl hdet⟩

end Examples
end Ohsl.Props.C01
