/-
  Property C11 (continued) — the coefficient-array polynomial model denotes Mathlib polynomials.
  With `toPoly cs = Σ_i C cs[i] * X^i` (`Ohsl/Lemmas/PolyAlg.lean`):
  (E) over any semiring: Horner `eval` is `Polynomial.eval`; `add`, `smul`, `mul` are `+`, `· * C t`,
  `*` (including the empty operands) with the expected sizes; `derivative`/`derivativeN` are
  `Polynomial.derivative` and its iterates; linearity and the product rule hold on the model
  (as equalities of coefficient arrays); `eval` is additive, and multiplicative over a commutative
  semiring.  Over a ring: `neg`, `sub` are `-`.
-/
import Ohsl.Props.C11
import Ohsl.Lemmas.PolyAlg
namespace Ohsl.Props.C11
open Ohsl Ohsl.Poly Ohsl.PolyAlg Polynomial

section Semi
variable {K : Type} [Semiring K]

/-- Horner evaluation is polynomial evaluation -/
theorem eval_spec (cs : Array K) (x : K) (h : cs ≠ #[]) :
    Poly.eval cs x = .ok ((toPoly cs).eval x) := by
  obtain ⟨l', a, rfl⟩ := exists_eq_concat h
  rw [eval_eq_foldr, horner_list]

/-- `add` is polynomial addition (the empty polynomial acts as zero) -/
theorem add_spec (p q : Array K) : toPoly (add p q) = toPoly p + toPoly q := by
  by_cases hp : p.size = 0
  · rw [toPoly_eq_of_size_zero hp, zero_add, add, if_pos hp]
  by_cases hq : q.size = 0
  · rw [toPoly_eq_of_size_zero hq, add_zero, add, if_neg hp, if_pos hq]
  ext k
  rw [coeff_add, coeff_toPoly, coeff_toPoly, coeff_toPoly, add_coeff p q hp hq k]
  rcases Nat.lt_or_ge k p.size with h1 | h1 <;> rcases Nat.lt_or_ge k q.size with h2 | h2
  · rw [if_pos h1, if_pos h2, zero_add]
  · rw [if_pos h1, if_neg (Nat.not_lt.2 h2), zero_add, getD_of_le h2, add_zero]
  · rw [if_neg (Nat.not_lt.2 h1), if_pos h2, getD_of_le h1]
  · rw [if_neg (Nat.not_lt.2 h1), if_neg (Nat.not_lt.2 h2), getD_of_le h1, getD_of_le h2, add_zero]

/-- `smul p t` multiplies every coefficient by `t` on the right -/
theorem smul_spec (p : Array K) (t : K) : toPoly (smul p t) = toPoly p * C t := by
  ext k
  rw [coeff_mul_C, coeff_toPoly, coeff_toPoly, getElem?_smul]
  cases p[k]? <;> simp

/-- `mul` is polynomial multiplication (the empty polynomial annihilates) -/
theorem mul_spec (p q : Array K) : toPoly (mul p q) = toPoly p * toPoly q := by
  ext k
  rw [coeff_toPoly, mul_getD, foldl_convTerms, coeff_mul]
  exact Finset.sum_congr rfl fun ij _ => by rw [coeff_toPoly, coeff_toPoly]

/-- `derivative` is the formal derivative -/
theorem derivative_spec (p : Array K) (h : p ≠ #[]) :
    ∃ d, Poly.derivative p = .ok d ∧ d.size = p.size - 1 ∧
      toPoly d = Polynomial.derivative (toPoly p) := by
  obtain ⟨d, hd, hs, hc⟩ := derivative_ok p (ne_empty_iff.mp h)
  refine ⟨d, hd, hs, ?_⟩
  ext k
  rw [coeff_derivative, coeff_toPoly, coeff_toPoly, hc k]
  split
  · rw [addRep_eq_nsmul, nsmul_eq_mul, Nat.cast_comm, Nat.cast_add, Nat.cast_one]
  · rw [Array.getElem?_eq_none (by omega), Option.getD_none, zero_mul]

/-- `derivativeN p n` succeeds exactly as long as coefficients remain (`n ≤ p.size`) and is the
    `n`-fold formal derivative -/
theorem derivativeN_spec (p : Array K) (n : Nat) (h : n ≤ p.size) :
    ∃ d, Poly.derivativeN p n = .ok d ∧ d.size = p.size - n ∧
      toPoly d = Polynomial.derivative^[n] (toPoly p) := by
  induction n with
  | zero => exact ⟨p, rfl, rfl, rfl⟩
  | succ n ih =>
    obtain ⟨d, h1, h2, h3⟩ := ih (by omega)
    have hd : d ≠ #[] := ne_empty_iff.mpr (by omega)
    obtain ⟨e, g1, g2, g3⟩ := derivative_spec d hd
    refine ⟨e, ?_, by omega, ?_⟩
    · simp only [Poly.derivativeN, h1, bind, Except.bind, g1]
    · rw [g3, h3, Function.iterate_succ_apply']

/-- one derivative too many: `derivativeN p (p.size + 1)` panics -/
theorem derivativeN_fail (p : Array K) : Poly.derivativeN p (p.size + 1) = .error .unwrap := by
  obtain ⟨d, h1, h2, _⟩ := derivativeN_spec p p.size (le_refl _)
  have : d = #[] := Array.eq_empty_of_size_eq_zero (by omega)
  subst this
  simp [Poly.derivativeN, h1, bind, Except.bind, Poly.derivative]

theorem derivative_eq_of_toPoly {r e : Array K} (hr : r.size ≠ 0) (hs : e.size = r.size - 1)
    (he : toPoly e = Polynomial.derivative (toPoly r)) : Poly.derivative r = .ok e := by
  obtain ⟨d, c1, c2, c3⟩ := derivative_spec r (ne_empty_iff.mpr hr)
  rw [c1, toPoly_inj (c2.trans hs.symm) (c3.trans he.symm)]

/-- linearity of the model derivative (additivity), as an equality of coefficient arrays -/
theorem derivative_add (p q : Array K) (hp : p ≠ #[]) (hq : q ≠ #[]) :
    ∃ dp dq, Poly.derivative p = .ok dp ∧ Poly.derivative q = .ok dq ∧
      Poly.derivative (add p q) = .ok (add dp dq) := by
  have hp' := ne_empty_iff.mp hp
  obtain ⟨dp, a1, a2, a3⟩ := derivative_spec p hp
  obtain ⟨dq, b1, b2, b3⟩ := derivative_spec q hq
  refine ⟨dp, dq, a1, b1, derivative_eq_of_toPoly ?_ ?_ ?_⟩
  · rw [size_add]; exact Nat.ne_of_gt (lt_max_of_lt_left (Nat.pos_of_ne_zero hp'))
  · rw [size_add, size_add, a2, b2, Nat.sub_max_sub_right]
  · rw [add_spec, add_spec, Polynomial.derivative_add, a3, b3]

/-- linearity of the model derivative (homogeneity) -/
theorem derivative_smul (p : Array K) (t : K) (hp : p ≠ #[]) :
    ∃ dp, Poly.derivative p = .ok dp ∧ Poly.derivative (smul p t) = .ok (smul dp t) := by
  obtain ⟨dp, a1, a2, a3⟩ := derivative_spec p hp
  have hs : ∀ r : Array K, (smul r t).size = r.size := fun r => Array.size_map
  refine ⟨dp, a1, derivative_eq_of_toPoly ?_ ?_ ?_⟩
  · rw [hs]; exact ne_empty_iff.mp hp
  · rw [hs, hs, a2]
  · rw [smul_spec, smul_spec, Polynomial.derivative_mul, derivative_C, a3, mul_zero, add_zero]

/-- sizes in the product rule for factors of sizes `m + 1`, `n + 1`: each of `p'·q`, `p·q'` has
size `m + n`, or is empty when the differentiated factor is a constant -/
theorem size_product_rule (m n : Nat) :
    max (if m + 1 - 1 = 0 ∨ n + 1 = 0 then 0 else m + 1 - 1 + (n + 1) - 1)
        (if m + 1 = 0 ∨ n + 1 - 1 = 0 then 0 else m + 1 + (n + 1 - 1) - 1)
      = (if m + 1 = 0 ∨ n + 1 = 0 then 0 else m + 1 + (n + 1) - 1) - 1 := by
  have e : m + 1 + n - 1 = m + n := by rw [Nat.add_right_comm]; rfl
  have e' : m + (n + 1) - 1 = m + n := rfl
  have e'' : m + 1 + (n + 1) - 1 - 1 = m + n := e
  simp only [Nat.add_sub_cancel, Nat.succ_ne_zero, or_false, false_or, if_false, e, e', e'']
  by_cases hm : m = 0
  · rw [if_pos hm, Nat.zero_max]
    split
    · rename_i h; rw [hm, h]
    · rfl
  · rw [if_neg hm]
    split
    · exact Nat.max_zero _
    · exact Nat.max_self _

/-- product rule on the model, as an equality of coefficient arrays -/
theorem derivative_mul (p q : Array K) (hp : p ≠ #[]) (hq : q ≠ #[]) :
    ∃ dp dq, Poly.derivative p = .ok dp ∧ Poly.derivative q = .ok dq ∧
      Poly.derivative (mul p q) = .ok (add (mul dp q) (mul p dq)) := by
  have hp' := ne_empty_iff.mp hp
  have hq' := ne_empty_iff.mp hq
  obtain ⟨dp, a1, a2, a3⟩ := derivative_spec p hp
  obtain ⟨dq, b1, b2, b3⟩ := derivative_spec q hq
  refine ⟨dp, dq, a1, b1, derivative_eq_of_toPoly ?_ ?_ ?_⟩
  · exact size_mul_ne_zero hp' hq'
  · obtain ⟨m, hm⟩ := Nat.exists_eq_succ_of_ne_zero hp'
    obtain ⟨n, hn⟩ := Nat.exists_eq_succ_of_ne_zero hq'
    rw [size_add, size_mul, size_mul, size_mul, a2, b2, hm, hn]
    exact size_product_rule m n
  · rw [add_spec, mul_spec, mul_spec, mul_spec, Polynomial.derivative_mul, a3, b3]

/-- `eval` is additive -/
theorem eval_add (p q : Array K) (x : K) (hp : p ≠ #[]) (hq : q ≠ #[]) :
    ∃ a b, Poly.eval p x = .ok a ∧ Poly.eval q x = .ok b ∧
      Poly.eval (add p q) x = .ok (a + b) := by
  have hp' := ne_empty_iff.mp hp
  have hpq : add p q ≠ #[] := ne_empty_iff.mpr (by rw [size_add]; omega)
  refine ⟨_, _, eval_spec p x hp, eval_spec q x hq, ?_⟩
  rw [eval_spec _ x hpq, add_spec, Polynomial.eval_add]

end Semi

section CommSemi
variable {K : Type} [CommSemiring K]

/-- `eval` is multiplicative (commutative coefficients) -/
theorem eval_mul (p q : Array K) (x : K) (hp : p ≠ #[]) (hq : q ≠ #[]) :
    ∃ a b, Poly.eval p x = .ok a ∧ Poly.eval q x = .ok b ∧
      Poly.eval (mul p q) x = .ok (a * b) := by
  have hp' := ne_empty_iff.mp hp
  have hq' := ne_empty_iff.mp hq
  have hpq : mul p q ≠ #[] := ne_empty_iff.mpr (size_mul_ne_zero hp' hq')
  refine ⟨_, _, eval_spec p x hp, eval_spec q x hq, ?_⟩
  rw [eval_spec _ x hpq, mul_spec, Polynomial.eval_mul]

/-- over a commutative semiring `smul` is the Mathlib scalar action -/
theorem smul_spec' (p : Array K) (t : K) : toPoly (smul p t) = t • toPoly p := by
  rw [smul_spec, mul_comm, Polynomial.smul_eq_C_mul]

end CommSemi

section Rng
variable {K : Type} [Ring K]

theorem neg_spec (p : Array K) : toPoly (neg p) = - toPoly p := by
  ext k
  rw [coeff_neg, coeff_toPoly, coeff_toPoly, getElem?_neg]
  cases p[k]? <;> simp

/-- `sub` is polynomial subtraction (`sub #[] q = neg q`) -/
theorem sub_spec (p q : Array K) : toPoly (sub p q) = toPoly p - toPoly q := by
  by_cases hp : p.size = 0
  · rw [toPoly_eq_of_size_zero hp, zero_sub, ← neg_spec, sub, if_pos hp]
  by_cases hq : q.size = 0
  · rw [toPoly_eq_of_size_zero hq, sub_zero, sub, if_neg hp, if_pos hq]
  ext k
  rw [coeff_sub, coeff_toPoly, coeff_toPoly, coeff_toPoly, sub_coeff p q hp hq k]
  rcases Nat.lt_or_ge k p.size with h1 | h1 <;> rcases Nat.lt_or_ge k q.size with h2 | h2
  · rw [if_pos h1, if_pos h2, zero_add]
  · rw [if_pos h1, if_neg (Nat.not_lt.2 h2), zero_add, getD_of_le h2, sub_zero]
  · rw [if_neg (Nat.not_lt.2 h1), if_pos h2, getD_of_le h1]
  · rw [if_neg (Nat.not_lt.2 h1), if_neg (Nat.not_lt.2 h2), getD_of_le h1, getD_of_le h2, sub_zero]

theorem eval_sub (p q : Array K) (x : K) (hp : p ≠ #[]) (hq : q ≠ #[]) :
    ∃ a b, Poly.eval p x = .ok a ∧ Poly.eval q x = .ok b ∧
      Poly.eval (sub p q) x = .ok (a - b) := by
  have hp' := ne_empty_iff.mp hp
  have hpq : sub p q ≠ #[] := ne_empty_iff.mpr (by rw [size_sub]; omega)
  refine ⟨_, _, eval_spec p x hp, eval_spec q x hq, ?_⟩
  rw [eval_spec _ x hpq, sub_spec, Polynomial.eval_sub]

theorem eval_neg (p : Array K) (x : K) (hp : p ≠ #[]) :
    ∃ a, Poly.eval p x = .ok a ∧ Poly.eval (neg p) x = .ok (-a) := by
  have hn : neg p ≠ #[] := ne_empty_iff.mpr (by simpa [neg] using ne_empty_iff.mp hp)
  refine ⟨_, eval_spec p x hp, ?_⟩
  rw [eval_spec _ x hn, neg_spec, Polynomial.eval_neg]

/-- the model derivative commutes with subtraction, as an equality of coefficient arrays -/
theorem derivative_sub (p q : Array K) (hp : p ≠ #[]) (hq : q ≠ #[]) :
    ∃ dp dq, Poly.derivative p = .ok dp ∧ Poly.derivative q = .ok dq ∧
      Poly.derivative (sub p q) = .ok (sub dp dq) := by
  have hp' := ne_empty_iff.mp hp
  obtain ⟨dp, a1, a2, a3⟩ := derivative_spec p hp
  obtain ⟨dq, b1, b2, b3⟩ := derivative_spec q hq
  refine ⟨dp, dq, a1, b1, derivative_eq_of_toPoly ?_ ?_ ?_⟩
  · rw [size_sub]; exact Nat.ne_of_gt (lt_max_of_lt_left (Nat.pos_of_ne_zero hp'))
  · rw [size_sub, size_sub, a2, b2, Nat.sub_max_sub_right]
  · rw [sub_spec, sub_spec, Polynomial.derivative_sub, a3, b3]

/-- non-vacuity / sanity: `(1 + x)² ` and its derivative, computed by the model over `ℤ` -/
example : mul (#[1, 1] : Array ℤ) #[1, 1] = #[1, 2, 1] ∧
    Poly.derivative (#[1, 2, 1] : Array ℤ) = .ok #[2, 2] ∧
    Poly.eval (#[1, 2, 1] : Array ℤ) 3 = .ok 16 := by decide

end Rng

end Ohsl.Props.C11
