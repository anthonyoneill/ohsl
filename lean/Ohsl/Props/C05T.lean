/-
  Property C05 (continued) — tridiagonal matrix against its dense twin `dense t`.
  Model: Ohsl/Model/Tridiag.lean.

  * (S) `mulVec_rows`        `&T * &v` succeeds for every n ≥ 1 and returns the band expressions
  * (S) `solve_run_char`, `solve_run_ok_iff`   the run of `solve` over any scalar type whose `/` is
                             what `divM` returns on a divisor that passed `== 0`
  * (S) `solve_total_structural`, `solve_error_class_structural`
                             no panic class other than `zeroPivot` / `size`
  * (E) any field whose `divM` is the guarded field division (`Alg.DivLaw`): `mulVec_spec_field`,
        `solve_char_field`, `solve_sound_field`, `solve_refuses_field`, `solve_ok_iff_field`,
        `solve_error_class_field`, `det_spec_field`, `det_correct_field`
  * (E) `mulVec_spec`, `solve_sound`, `solve_refuses`, `solve_ok_iff`, `solve_error_class`,
        `det_correct`        the same over a linearly ordered field with `Alg.scalarExt`
-/
import Ohsl.Props.C05
import Ohsl.Lemmas.Alg
import Ohsl.Lemmas.Tridiag
import Mathlib.Algebra.BigOperators.Group.Finset.Basic
import Mathlib.Algebra.BigOperators.Ring.Finset
import Mathlib.LinearAlgebra.Matrix.Determinant.Basic
set_option linter.unusedSectionVars false
namespace Ohsl.Props.C05
open Ohsl Ohsl.Tri

/-- the dense twin: entry (i,j) is `main[i]` on the diagonal, `sub[j]` just below it,
    `sup[i]` just above it and 0 elsewhere -/
def dense {K : Type} [Zero K] (t : Tri K) (i j : Nat) : K :=
  if i = j then t.main[i]?.getD 0
  else if i = j + 1 then t.sub[j]?.getD 0
  else if i + 1 = j then t.sup[i]?.getD 0
  else 0

theorem dense_eq_triEntry {K : Type} [Zero K] (t : Tri K) :
    dense t = triEntry (fun k => t.sub[k]?.getD 0) (fun k => t.main[k]?.getD 0)
      (fun k => t.sup[k]?.getD 0) := rfl

theorem dense_diag {K : Type} [Zero K] (t : Tri K) (i : Nat) : dense t i i = t.main[i]?.getD 0 :=
  if_pos rfl

theorem dense_lower {K : Type} [Zero K] (t : Tri K) (j : Nat) :
    dense t (j + 1) j = t.sub[j]?.getD 0 := by
  rw [dense, if_neg (by omega), if_pos rfl]

theorem dense_upper {K : Type} [Zero K] (t : Tri K) (i : Nat) :
    dense t i (i + 1) = t.sup[i]?.getD 0 := by
  rw [dense, if_neg (by omega), if_neg (by omega), if_pos rfl]

section RowExpr
variable {K : Type} [Add K] [Mul K] [Zero K]

/-- the expression `&T * &v` computes for row `i` (first and last rows have two terms, the 1×1
    case one term) -/
def rowExpr (t : Tri K) (v : Array K) (i : Nat) : K :=
  if t.n = 1 then t.main[0]?.getD 0 * v[0]?.getD 0
  else if i = 0 then t.main[0]?.getD 0 * v[0]?.getD 0 + t.sup[0]?.getD 0 * v[1]?.getD 0
  else if i = t.n - 1 then
    t.sub[t.n - 2]?.getD 0 * v[t.n - 2]?.getD 0 + t.main[t.n - 1]?.getD 0 * v[t.n - 1]?.getD 0
  else t.sub[i - 1]?.getD 0 * v[i - 1]?.getD 0 + t.main[i]?.getD 0 * v[i]?.getD 0
    + t.sup[i]?.getD 0 * v[i + 1]?.getD 0

theorem rowExpr_one (t : Tri K) (v : Array K) (i : Nat) (h1 : t.n = 1) :
    rowExpr t v i = t.main[0]?.getD 0 * v[0]?.getD 0 := if_pos h1

theorem rowExpr_first (t : Tri K) (v : Array K) (h1 : ¬ t.n = 1) :
    rowExpr t v 0 = t.main[0]?.getD 0 * v[0]?.getD 0 + t.sup[0]?.getD 0 * v[1]?.getD 0 := by
  rw [rowExpr, if_neg h1, if_pos rfl]

theorem rowExpr_last (t : Tri K) (v : Array K) (h1 : ¬ t.n = 1) (h0 : ¬ t.n - 1 = 0) :
    rowExpr t v (t.n - 1) =
      t.sub[t.n - 2]?.getD 0 * v[t.n - 2]?.getD 0 + t.main[t.n - 1]?.getD 0 * v[t.n - 1]?.getD 0 := by
  rw [rowExpr, if_neg h1, if_neg h0, if_pos rfl]

theorem rowExpr_mid (t : Tri K) (v : Array K) (i : Nat) (h1 : ¬ t.n = 1) (h0 : ¬ i = 0)
    (hl : ¬ i = t.n - 1) :
    rowExpr t v i = t.sub[i - 1]?.getD 0 * v[i - 1]?.getD 0 + t.main[i]?.getD 0 * v[i]?.getD 0
      + t.sup[i]?.getD 0 * v[i + 1]?.getD 0 := by
  rw [rowExpr, if_neg h1, if_neg h0, if_neg hl]

end RowExpr

section Structural
variable {K : Type} [Add K] [Sub K] [Mul K] [Neg K] [Zero K] [One K] [BEq K] [ScalarExt K]

/-- (S) `&T * &v` succeeds for every well-formed `T` of size n ≥ 1 (including n = 1, n = 2) and
    every `v` of length n; row `i` of the result is the band expression `rowExpr t v i`. -/
theorem mulVec_rows (t : Tri K) (h : WF t) (v : Array K) (hv : v.size = t.n) :
    ∃ w, mulVec t v = .ok w ∧ w.size = t.n ∧ ∀ i, i < t.n → w[i]? = some (rowExpr t v i) := by
  have hpos := h.pos
  have a0 : 0 < t.main.size := h.main ▸ hpos
  have V : ∀ {i}, i < t.n → i < v.size := fun hi => hv ▸ hi
  obtain ⟨w0, hw0, I1⟩ := (Arr.Is.replicate_zero t.n (rowExpr t v)).aset_prefix hpos
  rw [mulVec_eq, if_neg fun hne => hne hv.symm]
  by_cases h1 : t.n = 1
  · rw [if_pos h1, aget_getD a0 0, aget_getD (V hpos) 0]
    simp only [bind, Except.bind]
    rw [← rowExpr_one t v 0 h1, hw0]
    exact ⟨w0, rfl, I1.size, fun i hi => (I1.entry i hi).trans (by rw [if_pos (by omega)])⟩
  · obtain ⟨a3, a5, a7, a4, a6, a8⟩ := h.ends h1
    obtain ⟨w1, hw1, I2⟩ := Mat.forM'_inv
      (fun k (s : Array K) => Arr.Is s t.n (fun j => if j < k then rowExpr t v j else 0))
      1 (t.n - 1) w0 (mulBody t v) (Nat.le_sub_one_of_lt a4) I1
      (by
        intro k s hk1 hk2 hs
        obtain ⟨b1, b3, b5, b2, b4, b6⟩ := h.mid hk2
        obtain ⟨s', hs', I⟩ := hs.aset_prefix b4
        refine ⟨s', ?_, I⟩
        simp only [mulBody, aget_getD b1 0, aget_getD (V b2) 0, aget_getD b3 0, aget_getD (V b4) 0,
          aget_getD b5 0, aget_getD (V b6) 0, bind, Except.bind]
        rw [← rowExpr_mid t v k h1 (Nat.ne_of_gt hk1) (Nat.ne_of_lt hk2)]
        exact hs')
    obtain ⟨w2, hw2, I3⟩ := I2.aset_prefix a8
    rw [if_neg h1, aget_getD a0 0, aget_getD (V hpos) 0, aget_getD a3 0, aget_getD (V a4) 0]
    simp only [bind, Except.bind]
    rw [← rowExpr_first t v h1, hw0, show usub t.n 1 = .ok (t.n - 1) by simp [usub, hpos]]
    simp only [hw1, aget_getD a5 0, aget_getD (V a6) 0, aget_getD a7 0, aget_getD (V a8) 0]
    rw [← rowExpr_last t v h1 (Nat.sub_ne_zero_of_lt a4), hw2]
    exact ⟨w2, rfl, I3.size, fun i hi => (I3.entry i hi).trans (by rw [if_pos (by omega)])⟩
end Structural

section Run
variable {K : Type} [Add K] [Sub K] [Mul K] [Div K] [Neg K] [Zero K] [One K] [BEq K] [ScalarExt K]

/-- computed pivots, with the operations of `K` in the order of the code:
`β₀ = main[0]`, `βⱼ₊₁ = main[j+1] − sub[j] * (sup[j] / βⱼ)` -/
def cPivot (t : Tri K) : Nat → K
  | 0 => t.main[0]?.getD 0
  | j + 1 => t.main[j + 1]?.getD 0 - t.sub[j]?.getD 0 * (t.sup[j]?.getD 0 / cPivot t j)

/-- computed multipliers `γⱼ₊₁ = sup[j] / βⱼ` (`γ₀ = 0` is never used) -/
def cMult (t : Tri K) : Nat → K
  | 0 => 0
  | j + 1 => t.sup[j]?.getD 0 / cPivot t j

/-- computed forward sweep `y₀ = r₀ / β₀`, `yⱼ₊₁ = (rⱼ₊₁ − sub[j] * yⱼ) / βⱼ₊₁` -/
def cFwd (t : Tri K) (r : Array K) : Nat → K
  | 0 => r[0]?.getD 0 / cPivot t 0
  | j + 1 => (r[j + 1]?.getD 0 - t.sub[j]?.getD 0 * cFwd t r j) / cPivot t (j + 1)

theorem cPivot_succ (t : Tri K) (j : Nat) :
    cPivot t (j + 1) = t.main[j + 1]?.getD 0 - t.sub[j]?.getD 0 * cMult t (j + 1) := rfl

/-- forward-sweep invariant before step `k`: the pivots so far did not test zero, `beta` is the
    last of them, and `gamma`, `u` hold the multipliers and the forward sweep below `k`, `0` from `k` on -/
structure SweepInv (t : Tri K) (r : Array K) (k : Nat) (s : Sweep K) : Prop where
  beta : s.beta = cPivot t (k - 1)
  piv : ∀ j, j < k → (cPivot t j == 0) = false
  gam : Arr.Is s.gamma t.n (fun j => if j < k then cMult t j else 0)
  fw : Arr.Is s.u t.n (fun j => if j < k then cFwd t r j else 0)

/-- back-substitution invariant: rows `m … n-1` already satisfy the bidiagonal system -/
structure BackInv (t : Tri K) (r : Array K) (m : Nat) (u : Array K) : Prop where
  usize : u.size = t.n
  low : ∀ j, j < m → u[j]?.getD 0 = cFwd t r j
  last : u[t.n - 1]?.getD 0 = cFwd t r (t.n - 1)
  rel : ∀ j, m ≤ j → j + 1 < t.n → u[j]?.getD 0 = cFwd t r j - cMult t (j + 1) * u[j + 1]?.getD 0

end Run

section SweepStep
variable {K : Type} [Sub K] [Mul K] [Div K] [Zero K] [BEq K] [ScalarExt K]

theorem sweepBody_spec (t : Tri K) (h : WF t) (r : Array K) (hr : t.n = r.size)
    (hdiv : ∀ a b : K, (b == 0) = false → divM a b = .ok (a / b))
    (k : Nat) (s : Sweep K) (hk1 : 1 ≤ k) (hk : k < t.n) (hs : SweepInv t r k s) :
    (∃ s', sweepBody t r s k = .ok s' ∧ SweepInv t r (k + 1) s') ∨
    (∃ e, sweepBody t r s k = .error e ∧
      e = .zeroPivot ∧ ∃ j, j < t.n ∧ (cPivot t j == 0) = true) := by
  obtain ⟨m, rfl⟩ : ∃ m, k = m + 1 := ⟨k - 1, (Nat.sub_add_cancel hk1).symm⟩
  obtain ⟨beta, gamma, u⟩ := s
  obtain ⟨hbeta, hpiv, hgam, hfw⟩ := hs
  simp only [Nat.add_sub_cancel] at hbeta hgam hfw
  subst hbeta
  obtain ⟨b1, b2, b3⟩ := h.step hk
  have b4 : m + 1 < r.size := hr ▸ hk
  obtain ⟨gamma', eg, Ig⟩ := hgam.aset_prefix hk
  obtain ⟨u', eu, Iu⟩ := hfw.aset_prefix hk
  have ru := hfw.aget (Nat.lt_of_succ_lt hk)
  rw [if_pos m.lt_succ_self] at ru
  simp only [sweepBody, Nat.add_sub_cancel, aget_push_lt b1, hdiv _ _ (hpiv m m.lt_succ_self),
    aget_getD b3 0, aget_singleton_append_succ b2, bind, Except.bind]
  rw [show t.sup[m]?.getD 0 / cPivot t m = cMult t (m + 1) from rfl, eg]
  simp only []
  rw [show t.main[m + 1]?.getD 0 - t.sub[m]?.getD 0 * cMult t (m + 1) = cPivot t (m + 1) from rfl]
  cases hz : (cPivot t (m + 1) == 0)
  · left
    simp only [Bool.false_eq_true, if_false, aget_getD b4 0, ru, hdiv _ _ hz]
    rw [show (r[m + 1]?.getD 0 - t.sub[m]?.getD 0 * cFwd t r m) / cPivot t (m + 1)
      = cFwd t r (m + 1) from rfl, eu]
    refine ⟨_, rfl, rfl, fun j hj => ?_, Ig, Iu⟩
    by_cases hjm : j = m + 1
    · rw [hjm]; exact hz
    · exact hpiv j (Nat.lt_of_le_of_ne (Nat.le_of_lt_succ hj) hjm)
  · right
    exact ⟨_, rfl, rfl, m + 1, hk, hz⟩

end SweepStep

section BackStep
variable {K : Type} [Sub K] [Mul K] [Div K] [Zero K]

theorem backBody_spec (t : Tri K) (r gamma : Array K) (hg : gamma.size = t.n)
    (hgam : ∀ j, j < t.n → gamma[j]?.getD 0 = cMult t j)
    (j : Nat) (u : Array K) (hj : j < t.n - 1) (hu : BackInv t r (j + 1) u) :
    ∃ u', backBody gamma u j = .ok u' ∧ BackInv t r j u' := by
  obtain ⟨hsz, hlow, hlast, hrel⟩ := hu
  have c : j + 1 < t.n := Nat.add_lt_of_lt_sub hj
  have b1 : j + 1 < gamma.size := hg ▸ c
  have b2 : j + 1 < u.size := hsz ▸ c
  have b3 : j < u.size := Nat.lt_of_succ_lt b2
  have b4 : ¬ t.n - 1 = j := Ne.symm (Nat.ne_of_lt hj)
  simp only [backBody, aget_getD b1 0, aget_getD b2 0, aget_getD b3 0, Mat.aset_ok _ b3, bind,
    Except.bind]
  refine ⟨_, rfl, Array.size_setIfInBounds.trans hsz, fun i hi => ?_, ?_, fun i hi1 hi2 => ?_⟩
  · rw [getD_setIfInBounds b3, if_neg (Nat.ne_of_lt hi)]
    exact hlow i (Nat.lt_succ_of_lt hi)
  · rw [getD_setIfInBounds b3, if_neg b4]
    exact hlast
  · rw [getD_setIfInBounds b3, getD_setIfInBounds b3,
      if_neg (Nat.ne_of_gt (Nat.lt_succ_of_le hi1))]
    by_cases hij : i = j
    · rw [if_pos hij, hij, hlow j j.lt_succ_self, hgam (j + 1) (hg ▸ b1)]
    · rw [if_neg hij]
      exact hrel i (Nat.lt_of_le_of_ne hi1 (Ne.symm hij)) hi2

end BackStep

section Run
variable {K : Type} [Add K] [Sub K] [Mul K] [Div K] [Neg K] [Zero K] [One K] [BEq K] [ScalarExt K]

/-- (S) **the run of `solve` in any scalar type** whose `/` returns the quotient `a / b` on every
divisor that passed the `== 0` test: either no computed pivot tests equal to zero and the call
returns `x` with `xₙ₋₁ = yₙ₋₁`, `xⱼ = yⱼ − γⱼ₊₁ * xⱼ₊₁` (operations of `K`, in this order), or some
computed pivot tests equal to zero and the call refuses with `zeroPivot`. -/
theorem solve_run_char (t : Tri K) (h : WF t) (r : Array K) (hr : t.n = r.size)
    (hdiv : ∀ a b : K, (b == 0) = false → divM a b = .ok (a / b)) :
    ((∀ j, j < t.n → (cPivot t j == 0) = false) ∧ ∃ x, solve t r = .ok x ∧ x.size = t.n ∧
        x[t.n - 1]?.getD 0 = cFwd t r (t.n - 1) ∧
        ∀ j, j + 1 < t.n → x[j]?.getD 0 = cFwd t r j - cMult t (j + 1) * x[j + 1]?.getD 0) ∨
    ((∃ j, j < t.n ∧ (cPivot t j == 0) = true) ∧ solve t r = .error .zeroPivot) := by
  have hpos : 0 < t.n := h.pos
  obtain ⟨u0, e0, Iu⟩ := (Arr.Is.replicate_zero t.n (cFwd t r)).aset_prefix hpos
  rw [solve_eq, if_neg (not_not_intro hr), aget_getD (h.main ▸ hpos : 0 < t.main.size) 0]
  simp only [bind, Except.bind]
  cases hb0 : (t.main[0]?.getD 0 == 0)
  swap
  · exact Or.inr ⟨⟨0, hpos, hb0⟩, rfl⟩
  simp only [Bool.false_eq_true, if_false, aget_getD (hr ▸ hpos : 0 < r.size) 0, hdiv _ _ hb0]
  rw [show r[0]?.getD 0 / t.main[0]?.getD 0 = cFwd t r 0 from rfl, e0]
  simp only []
  rcases Mat.forM'_inv_err (SweepInv t r)
      (fun e => e = .zeroPivot ∧ ∃ j, j < t.n ∧ (cPivot t j == 0) = true) 1 t.n
      ⟨t.main[0]?.getD 0, Array.replicate t.n 0, u0⟩
      (sweepBody t r) hpos
      ⟨rfl, fun j hj => by rw [Nat.lt_one_iff.1 hj]; exact hb0,
        (Arr.Is.replicate_zero t.n (cMult t)).congr fun j _ => by
          by_cases hj : j < 1
          · rw [if_pos hj, if_neg (Nat.not_lt_zero j), Nat.lt_one_iff.1 hj]; rfl
          · rw [if_neg hj, if_neg (Nat.not_lt_zero j)], Iu⟩
      (fun k s hk1 hk hs => sweepBody_spec t h r hr hdiv k s hk1 hk hs)
    with ⟨s, hs, hP⟩ | ⟨e, he, rfl, hE⟩
  swap
  · exact Or.inr ⟨hE, by rw [he]⟩
  have fw : ∀ j, j < t.n → s.u[j]?.getD 0 = cFwd t r j := fun j hj =>
    (hP.fw.getD 0 hj).trans (if_pos hj)
  obtain ⟨x, hx, hQ⟩ := foldlM_rev_inv (BackInv t r) (backBody s.gamma) (t.n - 1) s.u
    ⟨hP.fw.size, fun j hj => fw j (Nat.lt_of_lt_pred hj), fw _ (Nat.sub_lt hpos Nat.one_pos),
      fun j h1 h2 => absurd (Nat.lt_sub_of_add_lt h2) (Nat.not_lt.2 h1)⟩
    (fun j u hj hu => backBody_spec t r s.gamma hP.gam.size
      (fun j hj => (hP.gam.getD 0 hj).trans (if_pos hj)) j u hj hu)
  refine Or.inl ⟨hP.piv, x, ?_, hQ.usize, hQ.last, fun j hj => hQ.rel j (Nat.zero_le _) hj⟩
  rw [hs, show usub t.n 1 = .ok (t.n - 1) by simp [usub, h.pos]]
  exact hx

/-- (S) `solve` returns a value exactly when the lengths agree and no computed pivot tests zero -/
theorem solve_run_ok_iff (t : Tri K) (h : WF t) (r : Array K)
    (hdiv : ∀ a b : K, (b == 0) = false → divM a b = .ok (a / b)) :
    (∃ x, solve t r = .ok x) ↔ t.n = r.size ∧ ∀ j, j < t.n → (cPivot t j == 0) = false := by
  constructor
  · rintro ⟨x, hx⟩
    by_cases hr : t.n = r.size
    · rcases solve_run_char t h r hr hdiv with ⟨hp, _⟩ | ⟨_, he⟩
      · exact ⟨hr, hp⟩
      · rw [he] at hx; cases hx
    · rw [solve_rejects_size t r hr] at hx; cases hx
  · rintro ⟨hr, hp⟩
    rcases solve_run_char t h r hr hdiv with ⟨_, x, hx, _⟩ | ⟨⟨j, hj, hz⟩, _⟩
    · exact ⟨x, hx⟩
    · rw [hp j hj] at hz; cases hz

end Run

section Structural
variable {K : Type} [Add K] [Sub K] [Mul K] [Neg K] [Zero K] [One K] [BEq K] [ScalarExt K]

/-- (S) **`solve` never panics in any class other than `zeroPivot`** on a well-formed matrix and a
    right-hand side of the right length, for ANY scalar type whose `/` cannot fail on a divisor
    that passed the `== 0` test (IEEE floats: `/` never fails; exact types: `/` fails only on an
    exact zero): it either returns a vector of length n or refuses with `zeroPivot`. -/
theorem solve_total_structural (t : Tri K) (h : WF t) (r : Array K) (hr : t.n = r.size)
    (hdiv : ∀ a b : K, (b == 0) = false → ∃ q, divM a b = .ok q) :
    (∃ u, solve t r = .ok u ∧ u.size = t.n) ∨ solve t r = .error .zeroPivot := by
  -- read `a / b` as the value `divM a b` returns
  let _ : Div K := ⟨fun a b => match divM a b with | .ok q => q | .error _ => a⟩
  have hdiv' : ∀ a b : K, (b == 0) = false → divM a b = .ok (a / b) := by
    intro a b hb
    obtain ⟨q, hq⟩ := hdiv a b hb
    show divM a b = .ok (match divM a b with | .ok q => q | .error _ => a)
    rw [hq]
  rcases solve_run_char t h r hr hdiv' with ⟨_, x, hx, hs, _⟩ | ⟨_, he⟩
  · exact Or.inl ⟨x, hx, hs⟩
  · exact Or.inr he

/-- (S) the only panic classes of `solve` on a well-formed matrix are the two explicit refusals:
    `size` (right-hand side of the wrong length) and `zeroPivot`. -/
theorem solve_error_class_structural (t : Tri K) (h : WF t) (r : Array K)
    (hdiv : ∀ a b : K, (b == 0) = false → ∃ q, divM a b = .ok q) (e : Err)
    (he : solve t r = .error e) : e = .zeroPivot ∨ e = .size := by
  by_cases hr : t.n = r.size
  · rcases solve_total_structural t h r hr hdiv with ⟨u, hu, _⟩ | hz
    · rw [hu] at he; cases he
    · rw [hz] at he; cases he; exact Or.inl rfl
  · rw [solve_rejects_size t r hr] at he
    cases he; exact Or.inr rfl

end Structural

section Exact
variable {K : Type} [Field K] [LinearOrder K]
attribute [local instance] Alg.scalarExt
open Finset

/-- the pivots of the elimination: `β₀ = main[0]`, `βⱼ₊₁ = main[j+1] − sub[j]·(sup[j]/βⱼ)` -/
def pivot (t : Tri K) : Nat → K :=
  thBeta (fun k => t.sub[k]?.getD 0) (fun k => t.main[k]?.getD 0) (fun k => t.sup[k]?.getD 0)
/-- the multipliers `γⱼ₊₁ = sup[j]/βⱼ` -/
def mult (t : Tri K) : Nat → K :=
  thGamma (fun k => t.sub[k]?.getD 0) (fun k => t.main[k]?.getD 0) (fun k => t.sup[k]?.getD 0)
/-- the forward-substituted right-hand side -/
def fwd (t : Tri K) (r : Array K) : Nat → K :=
  thY (fun k => t.sub[k]?.getD 0) (fun k => t.main[k]?.getD 0) (fun k => t.sup[k]?.getD 0)
    (fun k => r[k]?.getD 0)

theorem pivot_zero (t : Tri K) : pivot t 0 = t.main[0]?.getD 0 := rfl
theorem pivot_succ (t : Tri K) (j : Nat) :
    pivot t (j + 1) = t.main[j + 1]?.getD 0 - t.sub[j]?.getD 0 * (t.sup[j]?.getD 0 / pivot t j) := rfl
theorem mult_succ (t : Tri K) (j : Nat) : mult t (j + 1) = t.sup[j]?.getD 0 / pivot t j := rfl
theorem fwd_zero (t : Tri K) (r : Array K) : fwd t r 0 = r[0]?.getD 0 / pivot t 0 := rfl

def denseMatrix (t : Tri K) : Matrix (Fin t.n) (Fin t.n) K :=
  Matrix.of fun i j => dense t i.val j.val

theorem denseMatrix_apply (t : Tri K) (i j : Fin t.n) : denseMatrix t i j = dense t i.val j.val := rfl

end Exact

theorem denseMatrix_eq_triMatrix {K : Type} [Field K] (t : Tri K) :
    denseMatrix t = triMatrix (fun k => t.sub[k]?.getD 0) (fun k => t.main[k]?.getD 0)
      (fun k => t.sup[k]?.getD 0) t.n := rfl

/-! ### any field whose `divM` is the guarded field division (`Alg.DivLaw`)

  The model never compares magnitudes, so nothing below depends on an order: `Alg.scalarExt`
  (ordered fields) and `Alg.scalarExtField` (any field with decidable equality, e.g. `ℂ`) are both
  instances.  `det` and `&T * &v` do not even divide. -/
section FieldOnly
variable {K : Type} [Field K]
open Finset

theorem rowExpr_eq_sum (t : Tri K) (h : WF t) (v : Array K) (i : Nat) (hi : i < t.n) :
    rowExpr t v i = ∑ j ∈ range t.n, dense t i j * v[j]?.getD 0 := by
  rw [dense_eq_triEntry, triEntry_row_sum _ _ _ (fun j => v[j]?.getD 0) t.n i hi]
  by_cases h1 : t.n = 1
  · obtain rfl : i = 0 := Nat.lt_one_iff.1 (h1 ▸ hi)
    rw [rowExpr_one t v 0 h1, if_neg (Nat.lt_irrefl 0), if_neg (h1.symm ▸ Nat.lt_irrefl 1),
      zero_add, add_zero]
  · by_cases h0 : i = 0
    · subst h0
      rw [rowExpr_first t v h1, if_neg (Nat.lt_irrefl 0),
        if_pos (Nat.lt_of_le_of_ne hi (Ne.symm h1)), zero_add]
    · by_cases hl : i = t.n - 1
      · subst hl
        rw [rowExpr_last t v h1 h0, if_pos (Nat.pos_of_ne_zero h0), Nat.sub_add_cancel h.pos,
          if_neg (Nat.lt_irrefl _), add_zero, Nat.sub_sub]
      · rw [rowExpr_mid t v i h1 h0 hl, if_pos (Nat.pos_of_ne_zero h0),
          if_pos (Nat.add_lt_of_lt_sub (Nat.lt_of_le_of_ne (Nat.le_sub_one_of_lt hi) hl))]

theorem cPivot_eq (t : Tri K) (j : Nat) : cPivot t j = pivot t j := by
  induction j with
  | zero => rfl
  | succ j ih => rw [cPivot, ih]; rfl

theorem cMult_eq (t : Tri K) (j : Nat) : cMult t j = mult t j := by
  cases j with
  | zero => rfl
  | succ j => rw [cMult, cPivot_eq]; rfl

theorem cFwd_eq (t : Tri K) (r : Array K) (j : Nat) : cFwd t r j = fwd t r j := by
  induction j with
  | zero => rw [cFwd, cPivot_eq]; rfl
  | succ j ih => rw [cFwd, ih, cPivot_eq]; rfl

end FieldOnly

section FieldLoops
variable {K : Type} [Field K] [BEq K] [ScalarExt K]
open Finset

/-- (E) `det` succeeds on every well-formed matrix and returns the determinant of the dense twin
    (Laplace expansion along the last row gives the three-term recurrence the code runs). -/
theorem det_spec_field (t : Tri K) (h : WF t) : Tri.det t = .ok (Matrix.det (denseMatrix t)) := by
  have hpos := h.pos
  rw [denseMatrix_eq_triMatrix, triMatrix_det, det_eq,
    aget_getD (h.main ▸ hpos : 0 < t.main.size) 0]
  simp only [bind, Except.bind]
  rw [if_neg (Nat.not_lt.2 (Nat.succ_le_succ hpos))]
  -- before step `j` the state is `(f (j-2), f (j-1))`, `f = triDet`
  obtain ⟨s, hs, hP⟩ := Mat.forM'_inv
    (fun j (s : K × K) => s =
      (triDet (fun k => t.sub[k]?.getD 0) (fun k => t.main[k]?.getD 0)
          (fun k => t.sup[k]?.getD 0) (j - 2),
        triDet (fun k => t.sub[k]?.getD 0) (fun k => t.main[k]?.getD 0)
          (fun k => t.sup[k]?.getD 0) (j - 1)))
    2 (t.n + 1) ((1 : K), t.main[0]?.getD 0 * 1) (detBody t) (Nat.succ_le_succ hpos)
    (Prod.ext rfl (mul_one _))
    (by
      rintro j s hj1 hj2 rfl
      obtain ⟨m, rfl⟩ : ∃ m, j = m + 2 := ⟨j - 2, (Nat.sub_add_cancel hj1).symm⟩
      obtain ⟨b1, b2, b3⟩ := h.step (Nat.lt_of_succ_lt_succ hj2)
      refine ⟨_, ?_, rfl⟩
      simp only [detBody, aget_getD (show m + 2 - 1 < t.main.size from b3) 0,
        aget_getD (show m + 2 - 2 < t.sub.size from b2) 0,
        aget_getD (show m + 2 - 2 < t.sup.size from b1) 0, bind, Except.bind]
      rfl)
  rw [hs, hP]
  rfl

end FieldLoops

section Field
variable {K : Type} [Field K] [BEq K] [LawfulBEq K] [ScalarExt K]
open Finset

/-- (E) **matrix–vector product = dense twin times vector**, for every n ≥ 1 (n = 1 and n = 2
    included): the call succeeds, the result has length n and `w[i] = Σ_{j<n} dense t i j · v[j]`. -/
theorem mulVec_spec_field (t : Tri K) (h : WF t) (v : Array K) (hv : v.size = t.n) :
    ∃ w, mulVec t v = .ok w ∧ w.size = t.n ∧
      ∀ i, i < t.n → w[i]? = some (∑ j ∈ range t.n, dense t i j * v[j]?.getD 0) := by
  obtain ⟨w, hw, hs, hr⟩ := mulVec_rows t h v hv
  refine ⟨w, hw, hs, fun i hi => ?_⟩
  rw [hr i hi, rowExpr_eq_sum t h v i hi]

/-- (E) **`det` is the determinant of the dense twin** -/
theorem det_correct_field (t : Tri K) (h : WF t) (d : K) (hd : Tri.det t = .ok d) :
    d = Matrix.det (denseMatrix t) := by
  rw [det_spec_field t h] at hd
  cases hd; rfl

variable [Alg.DivLaw K]

theorem divM_of_beq_false (a b : K) (hb : (b == 0) = false) : divM a b = .ok (a / b) :=
  Alg.DivLaw.divM_ne a b (by simpa using hb)

/-- (E) **complete description of `solve`** for a well-formed matrix and a right-hand side of the
    right length: either every pivot is non-zero and the call returns `u` of length n with
    `dense t · u = r` exactly, or some pivot vanishes and the call refuses with `zeroPivot`. -/
theorem solve_char_field (t : Tri K) (h : WF t) (r : Array K) (hr : t.n = r.size) :
    ((∀ j, j < t.n → pivot t j ≠ 0) ∧ ∃ u, solve t r = .ok u ∧ u.size = t.n ∧
        ∀ i, i < t.n → ∑ j ∈ range t.n, dense t i j * u[j]?.getD 0 = r[i]?.getD 0) ∨
    ((∃ j, j < t.n ∧ pivot t j = 0) ∧ solve t r = .error .zeroPivot) := by
  rcases solve_run_char t h r hr divM_of_beq_false with
    ⟨hp, u, hu, hsz, hlast, hrel⟩ | ⟨⟨j, hj, hz⟩, he⟩
  · simp only [cPivot_eq, cMult_eq, cFwd_eq, beq_eq_false_iff_ne] at hp hlast hrel
    -- `u` reads as `0` past its end, so the last row has the form of the others
    have hn : u[t.n]?.getD 0 = 0 := by simp [hsz]
    have hx : ∀ j, j < t.n → u[j]?.getD 0 = fwd t r j - mult t (j + 1) * u[j + 1]?.getD 0 := by
      intro j hj
      by_cases h1 : j + 1 < t.n
      · exact hrel j h1
      · have e : j + 1 = t.n := Nat.le_antisymm hj (Nat.not_lt.1 h1)
        rw [e, hn, mul_zero, sub_zero, Nat.eq_sub_of_add_eq e]
        exact hlast
    refine Or.inl ⟨hp, u, hu, hsz, fun i hi => ?_⟩
    rw [dense_eq_triEntry, triEntry_row_sum _ _ _ (fun j => u[j]?.getD 0) t.n i hi]
    exact thomas_row _ _ _ (fun k => r[k]?.getD 0) (fun j => u[j]?.getD 0) t.n hp hx hn i hi
  · rw [cPivot_eq, beq_iff_eq] at hz
    exact Or.inr ⟨⟨j, hj, hz⟩, he⟩

/-- (E) **soundness of `solve`**: whenever the call returns a vector `u`, it has length n and
    `dense t · u = r` holds exactly (row by row). -/
theorem solve_sound_field (t : Tri K) (h : WF t) (r u : Array K) (hu : solve t r = .ok u) :
    u.size = t.n ∧ ∀ i, i < t.n → ∑ j ∈ range t.n, dense t i j * u[j]?.getD 0 = r[i]?.getD 0 := by
  by_cases hr : t.n = r.size
  · rcases solve_char_field t h r hr with ⟨_, u', hu', hs, hrow⟩ | ⟨_, hz⟩
    · rw [hu] at hu'
      cases hu'
      exact ⟨hs, hrow⟩
    · rw [hu] at hz; cases hz
  · rw [solve_rejects_size t r hr] at hu; cases hu

/-- (E) **`solve` refuses rather than lies**: for a right-hand side of the right length it returns
    `zeroPivot` exactly when `main[0] = 0` or a later pivot `βⱼ` vanishes, and in that case it
    never returns a value. -/
theorem solve_refuses_field (t : Tri K) (h : WF t) (r : Array K) (hr : t.n = r.size) :
    (solve t r = .error .zeroPivot ↔ ∃ j, j < t.n ∧ pivot t j = 0) ∧
    ((∃ j, j < t.n ∧ pivot t j = 0) → ∀ u, solve t r ≠ .ok u) := by
  rcases solve_char_field t h r hr with ⟨hp, u, hu, _⟩ | ⟨hz, he⟩
  · refine ⟨⟨fun he => ?_, fun ⟨j, hj, hz⟩ => absurd hz (hp j hj)⟩,
      fun ⟨j, hj, hz⟩ => absurd hz (hp j hj)⟩
    rw [hu] at he; cases he
  · refine ⟨⟨fun _ => hz, fun _ => he⟩, fun _ u hu => ?_⟩
    rw [he] at hu; cases hu

/-- (E) `solve` returns a value exactly when the lengths agree and no pivot vanishes -/
theorem solve_ok_iff_field (t : Tri K) (h : WF t) (r : Array K) :
    (∃ u, solve t r = .ok u) ↔ t.n = r.size ∧ ∀ j, j < t.n → pivot t j ≠ 0 := by
  rw [solve_run_ok_iff t h r divM_of_beq_false]
  simp only [cPivot_eq, beq_eq_false_iff_ne]

/-- (E) no other panic class can arise from `solve` on a well-formed matrix -/
theorem solve_error_class_field (t : Tri K) (h : WF t) (r : Array K) (e : Err)
    (he : solve t r = .error e) : e = .zeroPivot ∨ e = .size :=
  solve_error_class_structural t h r (fun a b hb => ⟨_, divM_of_beq_false a b hb⟩) e he

end Field

section Exact
variable {K : Type} [Field K] [LinearOrder K]
attribute [local instance] Alg.scalarExt
open Finset

/-- (E) **matrix–vector product = dense twin times vector**, for every n ≥ 1 (n = 1 and n = 2
    included): the call succeeds, the result has length n and `w[i] = Σ_{j<n} dense t i j · v[j]`. -/
theorem mulVec_spec (t : Tri K) (h : WF t) (v : Array K) (hv : v.size = t.n) :
    ∃ w, mulVec t v = .ok w ∧ w.size = t.n ∧
      ∀ i, i < t.n → w[i]? = some (∑ j ∈ range t.n, dense t i j * v[j]?.getD 0) :=
  mulVec_spec_field t h v hv

/-- (E) **soundness of `solve`**: whenever the call returns a vector `u`, it has length n and
    `dense t · u = r` holds exactly (row by row). -/
theorem solve_sound (t : Tri K) (h : WF t) (r u : Array K) (hu : solve t r = .ok u) :
    u.size = t.n ∧ ∀ i, i < t.n → ∑ j ∈ range t.n, dense t i j * u[j]?.getD 0 = r[i]?.getD 0 :=
  solve_sound_field t h r u hu

/-- (E) **`solve` refuses rather than lies**: for a right-hand side of the right length it returns
    `zeroPivot` exactly when `main[0] = 0` or a later pivot `βⱼ` vanishes, and in that case it
    never returns a value. -/
theorem solve_refuses (t : Tri K) (h : WF t) (r : Array K) (hr : t.n = r.size) :
    (solve t r = .error .zeroPivot ↔ ∃ j, j < t.n ∧ pivot t j = 0) ∧
    ((∃ j, j < t.n ∧ pivot t j = 0) → ∀ u, solve t r ≠ .ok u) :=
  solve_refuses_field t h r hr

/-- (E) `solve` returns a value exactly when the lengths agree and no pivot vanishes -/
theorem solve_ok_iff (t : Tri K) (h : WF t) (r : Array K) :
    (∃ u, solve t r = .ok u) ↔ t.n = r.size ∧ ∀ j, j < t.n → pivot t j ≠ 0 :=
  solve_ok_iff_field t h r

/-- (E) no other panic class can arise from `solve` on a well-formed matrix -/
theorem solve_error_class (t : Tri K) (h : WF t) (r : Array K) (e : Err)
    (he : solve t r = .error e) : e = .zeroPivot ∨ e = .size :=
  solve_error_class_field t h r e he

/-- (E) **`det` is the determinant of the dense twin** -/
theorem det_correct (t : Tri K) (h : WF t) (d : K) (hd : Tri.det t = .ok d) :
    d = Matrix.det (denseMatrix t) :=
  det_correct_field t h d hd

end Exact

section Examples
attribute [local instance] Alg.scalarExt

def T3 : Tri ℚ := ⟨#[1, 1], #[2, 2, 2], #[1, 1], 3⟩
def S2 : Tri ℚ := ⟨#[1], #[1, 1], #[1], 2⟩

theorem T3_wf : WF T3 := ⟨by decide, rfl, rfl, rfl⟩
theorem S2_wf : WF S2 := ⟨by decide, rfl, rfl, rfl⟩

theorem T3_pivots : ∀ j, j < T3.n → pivot T3 j ≠ 0 := by
  intro j hj
  have hj' : j < 3 := hj
  have h0 : pivot T3 0 = 2 := by simp [pivot, thBeta, T3]
  have h1 : pivot T3 1 = 3 / 2 := by rw [pivot_succ, h0]; simp [T3]; norm_num
  have h2 : pivot T3 2 = 4 / 3 := by rw [pivot_succ, h1]; simp [T3]; norm_num
  obtain rfl | rfl | rfl : j = 0 ∨ j = 1 ∨ j = 2 := by omega
  · rw [h0]; norm_num
  · rw [h1]; norm_num
  · rw [h2]; norm_num

/-- the hypotheses of `solve_sound` are satisfiable: `solve` returns a value on `T3` -/
example : ∃ u, solve T3 #[1, 2, 3] = .ok u :=
  (solve_ok_iff T3 T3_wf #[1, 2, 3]).mpr ⟨rfl, T3_pivots⟩

/-- the refusal branch is reachable with a non-zero leading pivot: [[1,1],[1,1]] -/
example : solve S2 #[1, 2] = .error .zeroPivot :=
  ((solve_refuses S2 S2_wf #[1, 2] rfl).1).mpr ⟨1, by decide, by
    rw [pivot_succ, pivot_zero]; simp [S2]⟩

example : Tri.det T3 = .ok 4 := by
  rw [det_spec_field T3 T3_wf]
  congr 1
  rw [denseMatrix_eq_triMatrix, triMatrix_det]
  show triDet _ _ _ 3 = 4
  simp [triDet, T3]; norm_num
end Examples

end Ohsl.Props.C05
