/-
  Property C13 (part N) — IEEE 754 round-to-nearest-even IS an instance of the standard model.

  All class-F theorems of this project are statements about an abstract `FlModel`
  (Ohsl/Lemmas/Rounding.lean: `u ≥ 0`, `fl : ℝ → ℝ`, `|fl x - x| ≤ u |x|`).  Rounding.lean states as an
  ASSUMPTION that IEEE binary64 arithmetic without overflow / underflow is such a model with
  `u = 2⁻⁵³`.  This file reduces that assumption: the IEEE rounding function itself is defined on
  the reals (Ohsl/Lemmas/RNE.lean) and PROVED to be an instance.

  WHAT IS COVERED
    `rne p : ℝ → ℝ` is IEEE 754 `roundTiesToEven` to the binary format with a `(p+1)`-bit
    significand and an UNBOUNDED exponent range: for `x ≠ 0`, `e = ⌊log₂|x|⌋`, `ulp = 2^(e-p)`,
    `rne p x = roundHalfEven (x / ulp) · ulp` (nearest integer significand, ties to the even one),
    `rne p 0 = 0`.  `FlModel.ieee64 = FlModel.rne 52` (`fl = rne 52`, `u = 2⁻⁵³`).
    * `ieee64_is_standard_model`, `rne_is_standard_model` (every significand width): the bundle;
    * `ieee64_rep_iff`: the representable numbers;
    * `ieee64_ops_correctly_rounded`: each of `+ - * /` in `Fl FlModel.ieee64`;
    * `ieee64_ties_to_even`; `ieee64_eq_binary64_off_ties`: against the ties-upward instance
      `FlModel.binary64`;
    * `ieee64_mul_rounding`, `ieee64_dot_rounding`, `ieee64_dot_rounding_gamma`: plumbing, the
      class-F theorems `C13.mul_rounding` and `C16.dot_rounding` instantiated at
      `M := FlModel.ieee64`, constants written out; `ieee64_dot_rounding_head`: what idempotence buys.
    Every class-F theorem holds for ANY `FlModel`, hence for `FlModel.ieee64`.

  WHAT IS NOT COVERED / STILL ASSUMED
    * The exponent range is unbounded: no overflow to `±∞`, no subnormals / gradual underflow (for
      `|x| < 2⁻¹⁰²²` binary64 has FEWER significant bits than `rne 52`), no signed zero, no NaN.
    * Nothing here is a statement about Lean's `Float` or Rust's `f64`.  What remains assumed for the
      transfer of class-F theorems to the `f64` code is only: *the hardware / library operation
      returns `rne 52` of the exact real result whenever no overflow, underflow or NaN occurs.*
      This is the IEEE 754 definition of a correctly rounded operation and is required by the
      standard for `+ - × ÷ √` (and fused multiply-add); it is NOT guaranteed for libm's `powf`,
      `exp`, `sin`, … — class-F theorems that model those by one rounding (`C03.flTransc`) keep
      that as a separate assumption.
-/
import Ohsl.Props.C13F
import Ohsl.Props.C16F
import Ohsl.Lemmas.RNE
import Mathlib.Tactic.Ring
import Mathlib.Tactic.Positivity
import Mathlib.Tactic.NormNum
namespace Ohsl.Props.C13
open Ohsl Ohsl.Cx

section Rounding
open Fl

/-- **round-to-nearest-even with a `(p+1)`-bit significand (unbounded exponent) is a standard
model** with `u = 2^(-p-1)`, and has the additional properties that `FlModel` does not assume:
monotone, sign-symmetric, idempotent, exact on integers up to `2^(p+1)` and on powers of two. -/
theorem rne_is_standard_model (p : ℕ) :
    (FlModel.rne p).u = 2 ^ (-(p : ℤ) - 1)
    ∧ (FlModel.rne p).fl = rne p
    ∧ (∀ x : ℝ, |rne p x - x| ≤ 2 ^ (-(p : ℤ) - 1) * |x|)
    ∧ Monotone (rne p)
    ∧ (∀ x : ℝ, rne p (-x) = -rne p x)
    ∧ (∀ x : ℝ, rne p (rne p x) = rne p x)
    ∧ (∀ k : ℤ, |k| ≤ 2 ^ (p + 1) → rne p (k : ℝ) = k)
    ∧ (∀ e : ℤ, rne p ((2 : ℝ) ^ e) = 2 ^ e) :=
  ⟨rfl, rfl, rne_err p, rne_monotone p, rne_neg p, rne_idempotent p, rne_int p, rne_zpow p⟩

/-- **IEEE 754 binary64 rounding (`roundTiesToEven`, 53-bit significand, exponent range unbounded)
is a standard model with `u = 2⁻⁵³`**, with the additional properties of `rne_is_standard_model`. -/
theorem ieee64_is_standard_model :
    FlModel.ieee64.u = 2 ^ (-53 : ℤ)
    ∧ FlModel.ieee64.fl = rne 52
    ∧ (∀ x : ℝ, |rne 52 x - x| ≤ 2 ^ (-53 : ℤ) * |x|)
    ∧ Monotone (rne 52)
    ∧ (∀ x : ℝ, rne 52 (-x) = -rne 52 x)
    ∧ (∀ x : ℝ, rne 52 (rne 52 x) = rne 52 x)
    ∧ (∀ k : ℤ, |k| ≤ 2 ^ 53 → rne 52 (k : ℝ) = k)
    ∧ (∀ e : ℤ, rne 52 ((2 : ℝ) ^ e) = 2 ^ e) := by
  refine ⟨FlModel.ieee64_u, rfl, fun x => ?_, rne_monotone 52, rne_neg 52, rne_idempotent 52,
    fun k hk => rne_int 52 k hk, rne_zpow 52⟩
  have h := FlModel.ieee64.fl_err x
  rwa [FlModel.ieee64_u] at h

/-- the representable numbers of `FlModel.ieee64` are exactly the numbers `k · 2^j` with an integer
significand `|k| < 2⁵³` and any integer exponent `j`: the binary64 numbers without exponent limits -/
theorem ieee64_rep_iff (x : ℝ) :
    FlModel.ieee64.Rep x ↔ ∃ k j : ℤ, |k| < 2 ^ 53 ∧ x = (k : ℝ) * 2 ^ j :=
  FlModel.rne_rep_iff 52 x

/-- in `Fl FlModel.ieee64` every arithmetic operation of the model is the correctly rounded IEEE
operation — `rne 52` of the exact real result —, its value is representable, and the exact negation of
the model keeps representable numbers representable (as IEEE negation does) -/
theorem ieee64_ops_correctly_rounded (a b : Fl FlModel.ieee64) :
    (a + b).val = rne 52 (a.val + b.val) ∧ (a - b).val = rne 52 (a.val - b.val)
    ∧ (a * b).val = rne 52 (a.val * b.val) ∧ (a / b).val = rne 52 (a.val / b.val)
    ∧ FlModel.ieee64.Rep (a + b).val ∧ FlModel.ieee64.Rep (a - b).val
    ∧ FlModel.ieee64.Rep (a * b).val ∧ FlModel.ieee64.Rep (a / b).val
    ∧ (FlModel.ieee64.Rep a.val → FlModel.ieee64.Rep (-a).val) :=
  ⟨rfl, rfl, rfl, rfl, FlModel.rne_rep_fl 52 _, FlModel.rne_rep_fl 52 _, FlModel.rne_rep_fl 52 _,
    FlModel.rne_rep_fl 52 _, fun h => FlModel.rne_rep_neg 52 h⟩

/-- **ties go to the even significand**, in both directions and symmetrically in the sign; the
ties-upward instance `FlModel.binary64` differs at the first of these numbers and is not
sign-symmetric there -/
theorem ieee64_ties_to_even :
    rne 52 (2 ^ 53 + 1) = 2 ^ 53 ∧ rne 52 (2 ^ 53 + 3) = 2 ^ 53 + 4
    ∧ rne 52 (-(2 ^ 53 + 1)) = -2 ^ 53
    ∧ FlModel.binary64.fl (2 ^ 53 + 1) = 2 ^ 53 + 2
    ∧ FlModel.binary64.fl (-(2 ^ 53 + 1)) = -2 ^ 53 :=
  ⟨rne_tie_down 52 (by norm_num), rne_tie_up 52 (by norm_num),
    by rw [rne_neg, rne_tie_down 52 (by norm_num)], roundBits_tie 52, roundBits_neg_tie 52⟩

/-- off ties the two instances coincide: `rne 52 x = FlModel.binary64.fl x` unless the significand
`x / ulp` is exactly halfway between two integers -/
theorem ieee64_eq_binary64_off_ties (x : ℝ)
    (h : Int.fract (x / 2 ^ (Int.log 2 |x| - (52 : ℕ))) ≠ 1 / 2) :
    FlModel.ieee64.fl x = FlModel.binary64.fl x :=
  rne_eq_roundBits_off_ties 52 x h

theorem ieee64_gam (n : ℕ) : FlModel.ieee64.gam n = (1 + 2 ^ (-53 : ℤ)) ^ n - 1 := by
  rw [FlModel.gam, FlModel.ieee64_u]

theorem ieee64_gam_two : FlModel.ieee64.gam 2 = 2 ^ (-52 : ℤ) + 2 ^ (-106 : ℤ) := by
  rw [ieee64_gam]
  have e1 : (2 : ℝ) ^ (-52 : ℤ) = 2 * 2 ^ (-53 : ℤ) := by
    rw [show (-52 : ℤ) = 1 + -53 by norm_num, zpow_add₀ two_ne_zero, zpow_one]
  have e2 : (2 : ℝ) ^ (-106 : ℤ) = 2 ^ (-53 : ℤ) * 2 ^ (-53 : ℤ) := by
    rw [← zpow_add₀ two_ne_zero]; norm_num
  rw [e1, e2]; ring

/-- **complex multiplication under IEEE round-to-nearest-even** (`C13.mul_rounding` at
`M := FlModel.ieee64`): the componentwise and the normwise bound with the constant
`gam 2 = 2⁻⁵² + 2⁻¹⁰⁶`. -/
theorem ieee64_mul_rounding (z w : Cx (Fl FlModel.ieee64)) :
    |(z * w).re.val - (z.re.val * w.re.val - z.im.val * w.im.val)|
      ≤ (2 ^ (-52 : ℤ) + 2 ^ (-106 : ℤ)) * (|z.re.val * w.re.val| + |z.im.val * w.im.val|) ∧
    |(z * w).im.val - (z.re.val * w.im.val + z.im.val * w.re.val)|
      ≤ (2 ^ (-52 : ℤ) + 2 ^ (-106 : ℤ)) * (|z.re.val * w.im.val| + |z.im.val * w.re.val|) ∧
    ‖val (z * w) - val z * val w‖
      ≤ √2 * (2 ^ (-52 : ℤ) + 2 ^ (-106 : ℤ)) * (‖val z‖ * ‖val w‖) := by
  have h := mul_rounding z w
  rwa [ieee64_gam_two] at h

/-- **dot product under IEEE round-to-nearest-even** (`C16.dot_rounding` at
`M := FlModel.ieee64`): `|dot - Σ aᵢbᵢ| ≤ ((1+2⁻⁵³)^(n+1) - 1) Σ|aᵢbᵢ|`. -/
theorem ieee64_dot_rounding (a b : Array (Fl FlModel.ieee64)) (h : a.size = b.size) :
    ∃ r, Vec.dot a b = .ok r
      ∧ |r.val - C16.exactDot a b|
          ≤ ((1 + 2 ^ (-53 : ℤ)) ^ (a.size + 1) - 1) * C16.absDot a b := by
  have := C16.dot_rounding a b h
  rwa [ieee64_gam] at this

/-- the classical form (`C16.dot_rounding_gamma` at `M := FlModel.ieee64`): for fewer than `2⁵³ - 1`
terms the hypothesis `(n+1) u < 1` holds and
`|dot - Σ aᵢbᵢ| ≤ γ_{n+1} Σ|aᵢbᵢ|`, `γ_k = k 2⁻⁵³ / (1 - k 2⁻⁵³)`. -/
theorem ieee64_dot_rounding_gamma (a b : Array (Fl FlModel.ieee64)) (h : a.size = b.size)
    (hn : a.size + 1 < 2 ^ 53) :
    ∃ r, Vec.dot a b = .ok r
      ∧ |r.val - C16.exactDot a b|
          ≤ ((a.size + 1 : ℕ) : ℝ) * 2 ^ (-53 : ℤ)
              / (1 - ((a.size + 1 : ℕ) : ℝ) * 2 ^ (-53 : ℤ)) * C16.absDot a b := by
  have hu : ((a.size + 1 : ℕ) : ℝ) * FlModel.ieee64.u < 1 := by
    rw [FlModel.ieee64_u, zpow_neg, ← div_eq_mul_inv, div_lt_one (by positivity)]
    exact_mod_cast hn
  have := C16.dot_rounding_gamma a b h hu
  rwa [FlModel.ieee64_u] at this

/-- **what idempotence buys**: in `ieee64` the first addition `0 + a₀b₀` of the model's dot product
is exact (`a₀b₀` is a rounded result, hence representable, `FlModel.rne_rep_fl`), so for `n ≥ 1` terms
the constant is `gam n = (1+2⁻⁵³)^n - 1` — one rounding per product and `n - 1` rounded additions —
instead of the `gam (n+1)` of `C16.dot_rounding`, which holds for every `FlModel` (and is attained in
`FlModel.scale`). -/
theorem ieee64_dot_rounding_head (a b : Array (Fl FlModel.ieee64)) (h : a.size = b.size)
    (hn : 0 < a.size) :
    ∃ r, Vec.dot a b = .ok r
      ∧ |r.val - C16.exactDot a b| ≤ ((1 + 2 ^ (-53 : ℤ)) ^ a.size - 1) * C16.absDot a b := by
  refine ⟨_, C16.dot_eq_fold a b h, ?_⟩
  obtain ⟨n, hn'⟩ : ∃ n, a.size = n + 1 := ⟨a.size - 1, by omega⟩
  have hl : (List.range a.size).map (fun j => a.getD j 0 * b.getD j 0)
      = (a.getD 0 0 * b.getD 0 0) :: (List.range' 1 n).map (fun j => a.getD j 0 * b.getD j 0) := by
    rw [hn', List.range_eq_range', List.range'_succ, List.map_cons]
  have h1 := Fl.foldl_sum_rounding_head_exact (a.getD 0 0 * b.getD 0 0)
    ((List.range' 1 n).map (fun j => a.getD j 0 * b.getD j 0)) (FlModel.rne_rep_fl 52 _)
  rw [← hl, List.length_map, List.length_range', Fl.rsum_map, Fl.asum_map] at h1
  have := (FlModel.Within.list_sum_trans (List.range a.size) h1
    fun j _ => (FlModel.approx_fl (C16.term a b j)).within).1
  rw [sum_map_range, sum_map_range, ← hn', ieee64_gam] at this
  exact this

end Rounding

section Examples

/-- the hypothesis of `ieee64_eq_binary64_off_ties` is satisfiable (`x = 1`: significand `2⁵²`), and
`1 + 1`, `3 * 5`, `1 / 4` are computed exactly in `Fl FlModel.ieee64` -/
example : Int.fract ((1 : ℝ) / 2 ^ (Int.log 2 |(1 : ℝ)| - (52 : ℕ))) ≠ 1 / 2 := by
  have e : (1 : ℝ) / 2 ^ (Int.log 2 |(1 : ℝ)| - (52 : ℕ)) = (((2 : ℤ) ^ 52 : ℤ) : ℝ) := by
    rw [abs_one, Int.log_one_right, zero_sub, zpow_neg, one_div, inv_inv]
    norm_num
  rw [e, Int.fract_intCast]
  norm_num

example : ((⟨1⟩ : Fl FlModel.ieee64) + ⟨1⟩).val = 2 ∧ ((⟨3⟩ : Fl FlModel.ieee64) * ⟨5⟩).val = 15
    ∧ ((⟨1⟩ : Fl FlModel.ieee64) / ⟨4⟩).val = 1 / 4 := by
  refine ⟨?_, ?_, ?_⟩
  · show rne 52 (1 + 1) = 2
    have := rne_int 52 2 (by norm_num)
    norm_num at this ⊢; exact this
  · show rne 52 (3 * 5) = 15
    have := rne_int 52 15 (by norm_num)
    norm_num at this ⊢; exact this
  · show rne 52 (1 / 4) = 1 / 4
    have := rne_zpow 52 (-2)
    norm_num [zpow_neg] at this ⊢; exact this

end Examples

end Ohsl.Props.C13
