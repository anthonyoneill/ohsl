/-
  Property C11 (part F) — rounding-error bounds for the polynomial operations of the model
  (`Ohsl/Model/Poly.lean`) in the "rounded reals" interpretation `Fl M` (Ohsl/Lemmas/Rounding.lean):
  the SAME definitions `Poly.eval`, `Poly.add`, `Poly.sub`, `Poly.smul`, `Poly.mul`,
  `Poly.derivative` instantiated at real numbers whose `+ - *` round with relative error `≤ u`
  (standard model of floating-point arithmetic, no overflow / underflow).

  The transfer to the Rust `f64` code rests on the ASSUMPTION stated in Rounding.lean (IEEE binary64
  without overflow/underflow satisfies `FlModel` with `u = 2⁻⁵³`); it is not proved here.

  Notation: `coef p i = (p[i]).val` (the real value of coefficient `i`, `0` beyond the end),
  `n = p.size - 1` the degree, `M.gam k = (1+u)^k - 1`.

  * `eval_backward` (F): backward error of Horner's rule (list form `horner_backward`);
    `eval_rounding` (F), `eval_rounding_gamma`: the classical forward bound; `eval_degree_zero`;
    `exactEval_eq_toPoly`.
  * `add_backward` (F): the model computes `(0 + aᵢ) + bᵢ`, with the cases in which a rounding is
    absent; from it `add_rounding`, `sub_rounding` (F), `add_rounding_sym`, and `add_rounding_rep`,
    `sub_rounding_rep` for representable coefficients.
  * `smul_rounding` (F).
  * `mul_rounding` (F): against the exact convolution, constant by the number `nterms` of products
    accumulated; `mul_rounding_min`, `mul_rounding_low`; `exactConv_eq_toPoly`.
  * `derivative_rounding` (F), `derivative_rounding_rep`; `derivativeAt_one_rounding` (F).
-/
import Ohsl.Props.C11P
import Ohsl.Lemmas.Rounding
import Mathlib.Algebra.BigOperators.Intervals
import Mathlib.Algebra.Order.BigOperators.Group.Finset
import Mathlib.Algebra.BigOperators.Ring.Finset
import Mathlib.Algebra.BigOperators.NatAntidiagonal
import Mathlib.Order.Interval.Finset.Nat
namespace Ohsl.Props.C11
open Ohsl Ohsl.Poly Ohsl.PolyAlg

section Structural

theorem nterms_le (m n k : Nat) : nterms m n k ≤ min (min m n) (k + 1) := by
  have h1 : nterms m n k ≤ m := by
    unfold nterms convIdx
    exact (List.length_filter_le _ _).trans (by simp)
  have h2 : nterms m n k ≤ (Finset.Ico (k + 1 - n) (k + 1)).card := by
    unfold nterms
    rw [← List.toFinset_card_of_nodup (convIdx_nodup m n k), convIdx_toFinset]
    apply Finset.card_le_card
    intro i hi
    simp only [Finset.mem_filter, Finset.mem_range, Finset.mem_Ico] at hi ⊢
    omega
  rw [Nat.card_Ico] at h2
  omega

end Structural

section Rounding
variable {M : FlModel}
open Fl FlModel

/-- the real value of coefficient `i` (`0` beyond the end) -/
def coef (p : Array (Fl M)) (i : Nat) : ℝ := (p[i]?.getD 0).val

theorem coef_of_le (p : Array (Fl M)) (i : Nat) (h : p.size ≤ i) : coef p i = 0 := by
  simp [coef, Array.getElem?_eq_none h]

theorem coef_ne_zero_lt (p : Array (Fl M)) (i : Nat) (h : coef p i ≠ 0) : i < p.size := by
  by_contra hc
  exact h (coef_of_le p i (by omega))

theorem coef_eq_map (p : Array (Fl M)) (i : Nat) : (p.map Fl.val)[i]?.getD 0 = coef p i := by
  rw [Array.getElem?_map, coef]
  cases p[i]? <;> rfl

theorem one_add_theta_step (θ δ : ℝ) (k : ℕ) (hθ : |θ| ≤ M.gam k) (hδ : |δ| ≤ M.u) :
    |(1 + θ) * (1 + δ) - 1| ≤ M.gam (k + 1) := by
  simpa [Approx] using
    Approx.mul (show M.Approx k (1 + θ) 1 by simpa [Approx] using hθ) (approx_delta hδ)

theorem one_add_theta_step2 (θ δ₁ δ₂ : ℝ) (k : ℕ) (hθ : |θ| ≤ M.gam k) (h₁ : |δ₁| ≤ M.u)
    (h₂ : |δ₂| ≤ M.u) : |(1 + θ) * (1 + δ₁) * (1 + δ₂) - 1| ≤ M.gam (k + 2) := by
  have h := one_add_theta_step θ δ₁ k hθ h₁
  have h' := one_add_theta_step ((1 + θ) * (1 + δ₁) - 1) δ₂ (k + 1) h h₂
  have e : 1 + ((1 + θ) * (1 + δ₁) - 1) = (1 + θ) * (1 + δ₁) := by ring
  rwa [e] at h'

/-- the exact value `Σ aᵢ xⁱ` of the polynomial with the given coefficients at the given point -/
def exactEval (p : Array (Fl M)) (x : Fl M) : ℝ :=
  ∑ i ∈ Finset.range p.size, coef p i * x.val ^ i
/-- `p̃(|x|) = Σ |aᵢ| |x|ⁱ` -/
def absEval (p : Array (Fl M)) (x : Fl M) : ℝ :=
  ∑ i ∈ Finset.range p.size, |coef p i| * |x.val| ^ i

theorem absEval_nonneg (p : Array (Fl M)) (x : Fl M) : 0 ≤ absEval p x :=
  Finset.sum_nonneg (fun _ _ => by positivity)

/-- `exactEval` is evaluation of the Mathlib polynomial denoted by the real coefficients
(cf. `eval_spec` in C11P) -/
theorem exactEval_eq_toPoly (p : Array (Fl M)) (x : Fl M) :
    exactEval p x = (toPoly (p.map Fl.val)).eval x.val := by
  unfold exactEval toPoly
  rw [Polynomial.eval_finsetSum, Array.size_map]
  apply Finset.sum_congr rfl
  intro i _
  rw [coef_eq_map]
  simp

/-- Horner's rule on a coefficient list (lowest degree first, leading coefficient separate):
backward error, coefficient `i < n` is perturbed by `2i+1` roundings, the leading one by `2n`. -/
theorem horner_backward (l : List (Fl M)) (lead x : Fl M) :
    ∃ θ : ℕ → ℝ, (∀ i, i < l.length → |θ i| ≤ M.gam (2 * i + 1)) ∧
      |θ l.length| ≤ M.gam (2 * l.length) ∧
      (l.foldr (fun c acc => acc * x + c) lead).val
        = ∑ i ∈ Finset.range (l.length + 1),
            ((l ++ [lead])[i]?.getD 0).val * (1 + θ i) * x.val ^ i := by
  induction l with
  | nil =>
    refine ⟨fun _ => 0, fun i hi => absurd hi (Nat.not_lt_zero i),
      abs_zero.le.trans (M.gam_nonneg _), ?_⟩
    simp only [List.length_nil, List.foldr_nil, zero_add, Finset.sum_range_one, List.nil_append,
      List.getElem?_cons_zero, Option.getD_some, add_zero, mul_one, pow_zero]
  | cons c l ih =>
    obtain ⟨θ, h1, h2, h3⟩ := ih
    set H := l.foldr (fun c acc => acc * x + c) lead with hH
    obtain ⟨δm, hm, em⟩ := M.exists_delta (H.val * x.val)
    obtain ⟨δa, ha, ea⟩ := M.exists_delta ((H * x).val + c.val)
    refine ⟨fun i => match i with
      | 0 => δa
      | j + 1 => (1 + θ j) * (1 + δm) * (1 + δa) - 1, ?_, ?_, ?_⟩
    · intro i hi
      cases i with
      | zero => simpa using ha
      | succ j =>
        exact one_add_theta_step2 (θ j) δm δa (2 * j + 1) (h1 j (Nat.lt_of_succ_lt_succ hi)) hm ha
    · exact one_add_theta_step2 (θ l.length) δm δa (2 * l.length) h2 hm ha
    · have hv : ((c :: l).foldr (fun c acc => acc * x + c) lead).val
          = (H.val * x.val * (1 + δm) + c.val) * (1 + δa) := by
        show (H * x + c).val = _
        rw [Fl.add_val, ea, Fl.mul_val, em]
      rw [hv, List.length_cons, Finset.sum_range_succ']
      simp only [List.cons_append, List.getElem?_cons_succ, List.getElem?_cons_zero,
        Option.getD_some, pow_zero, mul_one]
      have hs : ∑ i ∈ Finset.range (l.length + 1),
            ((l ++ [lead])[i]?.getD 0).val * (1 + ((1 + θ i) * (1 + δm) * (1 + δa) - 1))
              * x.val ^ (i + 1)
          = H.val * (x.val * (1 + δm) * (1 + δa)) := by
        rw [h3, Finset.sum_mul]
        apply Finset.sum_congr rfl
        intro i _
        ring
      rw [hs]
      ring

/-- **backward error of Horner's rule**: the computed value is the EXACT value at `x` of the
polynomial with coefficients `aᵢ (1 + θᵢ)`, `|θᵢ| ≤ gam (2i+1)` for `i < n` and `|θₙ| ≤ gam (2n)`
(`n = p.size - 1`; degree 0: `θ₀ = 0`). -/
theorem eval_backward (p : Array (Fl M)) (x : Fl M) (h : p ≠ #[]) :
    ∃ r, Poly.eval p x = .ok r ∧ ∃ θ : ℕ → ℝ,
      (∀ i, i < p.size → |θ i| ≤ M.gam (min (2 * i + 1) (2 * (p.size - 1)))) ∧
      r.val = ∑ i ∈ Finset.range p.size, coef p i * (1 + θ i) * x.val ^ i := by
  obtain ⟨l', a, rfl⟩ := exists_eq_concat h
  obtain ⟨θ, h1, h2, h3⟩ := horner_backward l' a x
  have hsz : (l' ++ [a]).toArray.size = l'.length + 1 := by
    rw [List.size_toArray, List.length_append]; rfl
  rw [hsz, Nat.add_sub_cancel]
  refine ⟨_, eval_eq_foldr l' a x, θ, fun i hi => ?_, ?_⟩
  · rcases Nat.lt_succ_iff_lt_or_eq.1 hi with hlt | rfl
    · rw [min_eq_left ((Nat.le_succ (2 * i + 1)).trans (Nat.mul_le_mul_left 2 hlt))]
      exact h1 i hlt
    · rw [min_eq_right (Nat.le_succ _)]; exact h2
  · rw [h3]
    exact Finset.sum_congr rfl fun i _ => by simp [coef]

/-- **the classical forward bound for Horner's rule**:
`|computed − Σ aᵢ xⁱ| ≤ gam (2n) · Σ |aᵢ| |x|ⁱ`, `n = p.size − 1` the degree. -/
theorem eval_rounding (p : Array (Fl M)) (x : Fl M) (h : p ≠ #[]) :
    ∃ r, Poly.eval p x = .ok r ∧
      |r.val - exactEval p x| ≤ M.gam (2 * (p.size - 1)) * absEval p x := by
  obtain ⟨r, hr, θ, hθ, hv⟩ := eval_backward p x h
  refine ⟨r, hr, ?_⟩
  rw [hv, absEval]
  simp only [← abs_pow]
  exact (Within.finset_sum _ fun i hi => ((Approx.of_factor (k := 2 * (p.size - 1))
    (by simpa [Approx] using (hθ i (Finset.mem_range.mp hi)).trans (M.gam_mono (min_le_right _ _)))
    (coef p i)).within.mul_const (x.val ^ i))).1

/-- degree 0: no operation, the value is the coefficient itself -/
theorem eval_degree_zero (a x : Fl M) : Poly.eval #[a] x = .ok a := by
  simp [Poly.eval]

/-- the classical constant `γ_{2n} = 2n u / (1 − 2n u)` -/
theorem eval_rounding_gamma (p : Array (Fl M)) (x : Fl M) (h : p ≠ #[])
    (hu : ((2 * (p.size - 1) : ℕ) : ℝ) * M.u < 1) :
    ∃ r, Poly.eval p x = .ok r ∧
      |r.val - exactEval p x|
        ≤ ((2 * (p.size - 1) : ℕ) : ℝ) * M.u / (1 - ((2 * (p.size - 1) : ℕ) : ℝ) * M.u)
            * absEval p x := by
  obtain ⟨r, hr, hr'⟩ := eval_rounding p x h
  exact ⟨r, hr, hr'.trans (mul_le_mul_of_nonneg_right (M.gam_le_gamma _ hu) (absEval_nonneg p x))⟩

theorem zero_add_delta (a : Fl M) :
    ∃ δ, |δ| ≤ M.u ∧ ((0 : Fl M) + a).val = a.val * (1 + δ) ∧ (M.Rep a.val → δ = 0) := by
  by_cases h : M.Rep a.val
  · exact ⟨0, by simpa using M.u_nonneg, by rw [zero_add_of_rep a h, add_zero, mul_one], fun _ => rfl⟩
  · obtain ⟨δ, hδ, e⟩ := M.exists_delta (0 + a.val)
    exact ⟨δ, hδ, by rw [Fl.add_val, Fl.zero_val, e, zero_add], fun h' => absurd h' h⟩

theorem one_step_err {x δ : ℝ} (h : |δ| ≤ M.u) : |x * (1 + δ) - x| ≤ M.u * |x| := by
  rw [show x * (1 + δ) - x = δ * x by ring, abs_mul]
  exact mul_le_mul_of_nonneg_right h (abs_nonneg x)

theorem two_step_err {a b δ₁ δ₂ : ℝ} (h₁ : |δ₁| ≤ M.u) (h₂ : |δ₂| ≤ M.u) :
    |(a * (1 + δ₁) + b) * (1 + δ₂) - (a + b)| ≤ M.gam 2 * |a| + M.u * |b| := by
  have hθ := one_add_theta_step (M := M) δ₁ δ₂ 1 (by simpa using h₁) h₂
  rw [show (a * (1 + δ₁) + b) * (1 + δ₂) - (a + b) = ((1 + δ₁) * (1 + δ₂) - 1) * a + δ₂ * b by ring]
  refine (abs_add_le _ _).trans ?_
  rw [abs_mul, abs_mul]
  exact add_le_add (mul_le_mul_of_nonneg_right hθ (abs_nonneg a))
    (mul_le_mul_of_nonneg_right h₂ (abs_nonneg b))

theorem approx_zero_add (a : Fl M) : M.Approx 1 ((0 : Fl M) + a).val a.val := by
  show M.Approx 1 (M.fl (0 + a.val)) a.val
  rw [zero_add]; exact M.approx_fl _

/-- `s = 0; s += a; s -= b` -/
theorem sub3_err (a b : Fl M) :
    |((0 + a) - b).val - (a.val - b.val)| ≤ M.gam 2 * |a.val| + M.u * |b.val| := by
  have := (approx_zero_add a).within.fl_sub_le (Approx.refl b.val).within
  rwa [M.gam_one] at this

/-- **backward-error form of `add`**: slot `i` of `add p q` holds `(aᵢ(1+δ₁) + bᵢ)(1+δ₂)` — the
model computes `(0 + aᵢ) + bᵢ`.  `δ₁ = 0` when `aᵢ` is representable; `δ₂ = 0` beyond the end of `q`;
an operand without a slot `i` (in particular the empty polynomial) causes no rounding at all. -/
theorem add_backward (p q : Array (Fl M)) (i : Nat) :
    ∃ δ₁ δ₂ : ℝ, |δ₁| ≤ M.u ∧ |δ₂| ≤ M.u ∧
      coef (add p q) i = (coef p i * (1 + δ₁) + coef q i) * (1 + δ₂) ∧
      (M.Rep (coef p i) → δ₁ = 0) ∧ (q.size ≤ i → δ₂ = 0) := by
  have hu : |(0 : ℝ)| ≤ M.u := abs_zero.le.trans M.u_nonneg
  by_cases hp : p.size = 0
  · refine ⟨0, 0, hu, hu, ?_, fun _ => rfl, fun _ => rfl⟩
    rw [show add p q = q by simp [add, hp], coef_of_le p i (hp ▸ Nat.zero_le i)]; ring
  by_cases hq : q.size = 0
  · refine ⟨0, 0, hu, hu, ?_, fun _ => rfl, fun _ => rfl⟩
    rw [show add p q = p by simp [add, hp, hq], coef_of_le q i (hq ▸ Nat.zero_le i)]; ring
  have hc : coef (add p q) i = ((add p q)[i]?.getD 0).val := rfl
  rw [hc, add_coeff p q hp hq i]
  by_cases h1 : i < p.size <;> by_cases h2 : i < q.size
  · obtain ⟨δ₁, h₁, e₁, r₁⟩ := zero_add_delta (p[i]?.getD 0)
    obtain ⟨δ₂, h₂, e₂⟩ := M.exists_delta (((0 : Fl M) + p[i]?.getD 0).val + (q[i]?.getD 0).val)
    refine ⟨δ₁, δ₂, h₁, h₂, ?_, r₁, fun h => absurd h2 (Nat.not_lt.2 h)⟩
    rw [if_pos h1, if_pos h2, Fl.add_val, e₂, e₁]; rfl
  · obtain ⟨δ₁, h₁, e₁, r₁⟩ := zero_add_delta (p[i]?.getD 0)
    refine ⟨δ₁, 0, h₁, hu, ?_, r₁, fun _ => rfl⟩
    rw [if_pos h1, if_neg h2, e₁, coef_of_le q i (Nat.not_lt.1 h2), add_zero, add_zero, mul_one]; rfl
  · obtain ⟨δ₂, h₂, e₂, -⟩ := zero_add_delta (q[i]?.getD 0)
    refine ⟨0, δ₂, hu, h₂, ?_, fun _ => rfl, fun h => absurd h2 (Nat.not_lt.2 h)⟩
    rw [if_neg h1, if_pos h2, e₂, coef_of_le p i (Nat.not_lt.1 h1), zero_mul, zero_add]; rfl
  · refine ⟨0, 0, hu, hu, ?_, fun _ => rfl, fun _ => rfl⟩
    rw [if_neg h1, if_neg h2, coef_of_le p i (Nat.not_lt.1 h1), coef_of_le q i (Nat.not_lt.1 h2)]
    simp

/-- **addition**: coefficient `i` of `add p q` against `aᵢ + bᵢ`: `aᵢ` is rounded twice and `bᵢ`
once (all `p`, `q`, `i`). -/
theorem add_rounding (p q : Array (Fl M)) (i : Nat) :
    |coef (add p q) i - (coef p i + coef q i)| ≤ M.gam 2 * |coef p i| + M.u * |coef q i| := by
  obtain ⟨δ₁, δ₂, h₁, h₂, e, -, -⟩ := add_backward p q i
  rw [e]; exact two_step_err h₁ h₂

theorem add_rounding_sym (p q : Array (Fl M)) (i : Nat) :
    |coef (add p q) i - (coef p i + coef q i)| ≤ M.gam 2 * (|coef p i| + |coef q i|) := by
  have := mul_le_mul_of_nonneg_right (M.u_le_gam_succ 1) (abs_nonneg (coef q i))
  have := add_rounding p q i
  linarith

theorem add_rounding_of_rep (p q : Array (Fl M)) (i : Nat) (hpr : M.Rep (coef p i)) :
    |coef (add p q) i - (coef p i + coef q i)| ≤ M.u * |coef p i + coef q i| := by
  obtain ⟨δ₁, δ₂, -, h₂, e, r₁, -⟩ := add_backward p q i
  rw [e, r₁ hpr, add_zero, mul_one]; exact one_step_err h₂

set_option linter.unusedVariables false in
/-- **addition of representable coefficients** (`fl a = a`, as for every IEEE number): then
`0 + aᵢ` is exact and the coefficient has relative error `≤ u` (one rounding). -/
theorem add_rounding_rep (p q : Array (Fl M)) (i : Nat)
    (hpr : M.Rep (coef p i)) (hqr : M.Rep (coef q i)) :
    |coef (add p q) i - (coef p i + coef q i)| ≤ M.u * |coef p i + coef q i| :=
  add_rounding_of_rep p q i hpr

theorem coef_neg (q : Array (Fl M)) (i : Nat) : coef (neg q) i = - coef q i := by
  unfold coef
  rw [getElem?_neg]
  cases q[i]? <;> simp

theorem coef_sub (p q : Array (Fl M)) (i : Nat) : coef (sub p q) i = coef (add p (neg q)) i := by
  have hn : (neg q).size = q.size := Array.size_map
  by_cases hp : p.size = 0
  · rw [show sub p q = neg q by simp [sub, hp], show add p (neg q) = neg q by simp [add, hp]]
  by_cases hq : q.size = 0
  · rw [show sub p q = p by simp [sub, hp, hq], show add p (neg q) = p by simp [add, hp, hn, hq]]
  have hb : (neg q)[i]?.getD 0 = -(q[i]?.getD 0) ∨ ¬ i < q.size := by
    by_cases h2 : i < q.size
    · left; simp [neg, h2]
    · exact Or.inr h2
  show ((sub p q)[i]?.getD 0).val = ((add p (neg q))[i]?.getD 0).val
  rw [sub_coeff p q hp hq i, add_coeff p (neg q) hp (by omega) i, hn]
  have hs : ∀ x b : Fl M, x - b = x + -b := fun x b =>
    Fl.ext (congrArg M.fl (sub_eq_add_neg x.val b.val))
  rcases hb with hb | hb
  · rw [hb]; simp only [hs]
  · simp only [hb, if_false]

/-- **subtraction**: coefficient `i` of `sub p q` against `aᵢ − bᵢ`; the model computes
`(0 + aᵢ) − bᵢ` (`sub #[] q = neg q` and `sub p #[] = p` are exact). -/
theorem sub_rounding (p q : Array (Fl M)) (i : Nat) :
    |coef (sub p q) i - (coef p i - coef q i)| ≤ M.gam 2 * |coef p i| + M.u * |coef q i| := by
  have := add_rounding p (neg q) i
  rwa [coef_neg, abs_neg, ← sub_eq_add_neg, ← coef_sub] at this

/-- **subtraction of representable coefficients**: one rounding, relative error `≤ u` -/
theorem sub_rounding_rep (p q : Array (Fl M)) (i : Nat) (hpr : M.Rep (coef p i)) :
    |coef (sub p q) i - (coef p i - coef q i)| ≤ M.u * |coef p i - coef q i| := by
  have := add_rounding_of_rep p (neg q) i hpr
  rwa [coef_neg, ← sub_eq_add_neg, ← coef_sub] at this

/-- **scalar multiple**: every coefficient is one rounded product, relative error `≤ u` -/
theorem smul_rounding (p : Array (Fl M)) (t : Fl M) (i : Nat) :
    |coef (smul p t) i - coef p i * t.val| ≤ M.u * |coef p i * t.val| := by
  unfold coef
  rw [getElem?_smul]
  cases p[i]? with
  | none => simp
  | some a => exact Fl.mul_err a t

/-- the exact convolution `Σ_{i+j=k} aᵢ bⱼ` -/
def exactConv (p q : Array (Fl M)) (k : Nat) : ℝ :=
  ∑ i ∈ Finset.range (k + 1), coef p i * coef q (k - i)
/-- `Σ_{i+j=k} |aᵢ bⱼ|` -/
def absConv (p q : Array (Fl M)) (k : Nat) : ℝ :=
  ∑ i ∈ Finset.range (k + 1), |coef p i * coef q (k - i)|

theorem absConv_nonneg (p q : Array (Fl M)) (k : Nat) : 0 ≤ absConv p q k :=
  Finset.sum_nonneg (fun _ _ => abs_nonneg _)

/-- `exactConv` is coefficient `k` of the product of the Mathlib polynomials denoted by the real
coefficients (cf. `mul_spec` in C11P) -/
theorem exactConv_eq_toPoly (p q : Array (Fl M)) (k : Nat) :
    exactConv p q k = (toPoly (p.map Fl.val) * toPoly (q.map Fl.val)).coeff k := by
  rw [Polynomial.coeff_mul,
    Finset.Nat.sum_antidiagonal_eq_sum_range_succ
      (fun i j => (toPoly (p.map Fl.val)).coeff i * (toPoly (q.map Fl.val)).coeff j) k]
  unfold exactConv
  apply Finset.sum_congr rfl
  intro i _
  rw [coeff_toPoly, coeff_toPoly, coef_eq_map, coef_eq_map]

/-- **multiplication**: coefficient `k` of `mul p q` against the exact convolution.  The model
adds the `m = nterms p.size q.size k` products `aᵢ b_{k-i}` (each rounded once) to `0` in increasing
`i`: `m` rounded additions, constant `gam (m + 1)` (all `p`, `q`, `k`). -/
theorem mul_rounding (p q : Array (Fl M)) (k : Nat) :
    |coef (mul p q) k - exactConv p q k|
      ≤ M.gam (nterms p.size q.size k + 1) * absConv p q k := by
  have hc : coef (mul p q) k = ((mul p q)[k]?.getD 0).val := rfl
  rw [hc, mul_getD]
  have h2 := (Within.foldl_sum (convIdx p.size q.size k)
    (fun i => p[i]?.getD 0 * q[k - i]?.getD 0) (fun i => coef p i * coef q (k - i))
    (fun i => |coef p i * coef q (k - i)|) fun i _ => (M.approx_fl _).within).1
  have hz : ∀ i, coef p i * coef q (k - i) ≠ 0 → i < p.size ∧ k - i < q.size := fun i hne =>
    ⟨coef_ne_zero_lt p i (left_ne_zero_of_mul hne),
      coef_ne_zero_lt q (k - i) (right_ne_zero_of_mul hne)⟩
  rw [sum_convIdx _ _ _ _ hz,
    sum_convIdx _ _ _ (fun i => |coef p i * coef q (k - i)|)
      (fun i hne => hz i (abs_ne_zero.mp hne))] at h2
  exact h2

/-- the same with the uniform constant `min(sizes) + 1` -/
theorem mul_rounding_min (p q : Array (Fl M)) (k : Nat) :
    |coef (mul p q) k - exactConv p q k|
      ≤ M.gam (min p.size q.size + 1) * absConv p q k := by
  refine (mul_rounding p q k).trans (mul_le_mul_of_nonneg_right (M.gam_mono ?_) (absConv_nonneg p q k))
  have := nterms_le p.size q.size k
  omega

/-- … and with `k + 2` (low-order coefficients: coefficient `0` is one product, `gam 2`) -/
theorem mul_rounding_low (p q : Array (Fl M)) (k : Nat) :
    |coef (mul p q) k - exactConv p q k| ≤ M.gam (k + 2) * absConv p q k := by
  refine (mul_rounding p q k).trans (mul_le_mul_of_nonneg_right (M.gam_mono ?_) (absConv_nonneg p q k))
  have := nterms_le p.size q.size k
  omega

theorem addRep_rounding (c : Fl M) (n : Nat) :
    |(addRep c n).val - n * c.val| ≤ M.gam n * |n * c.val| := by
  have h := foldl_sum_rounding (List.replicate n c)
  have e1 : rsum (List.replicate n c) = n * c.val := by
    simp [rsum, List.map_replicate, List.sum_replicate]
  have e2 : asum (List.replicate n c) = |n * c.val| := by
    simp [asum, List.map_replicate, List.sum_replicate, abs_mul]
  rw [e1, e2, List.length_replicate, ← addRep_eq_foldl] at h
  exact h

theorem addRep_rounding_rep (c : Fl M) (n : Nat) (hc : M.Rep c.val) :
    |(addRep c (n + 1)).val - (n + 1) * c.val| ≤ M.gam n * |(n + 1) * c.val| := by
  have h := foldl_sum_rounding_head_exact c (List.replicate n c) hc
  have e1 : rsum (c :: List.replicate n c) = (n + 1) * c.val := by
    simp [rsum, List.map_replicate, List.sum_replicate]; ring
  have e2 : asum (c :: List.replicate n c) = |(n + 1) * c.val| := by
    have : (0 : ℝ) ≤ n + 1 := by positivity
    simp [asum, List.map_replicate, List.sum_replicate, abs_mul, abs_of_nonneg this]; ring
  rw [e1, e2, List.length_replicate, ← List.replicate_succ, ← addRep_eq_foldl] at h
  exact h

/-- **derivative**: coefficient `i` of the model derivative (`i + 1` copies of `a_{i+1}` added to
`0`) has relative error `≤ gam (i+1)` w.r.t. `(i+1) · a_{i+1}`. -/
theorem derivative_rounding (p : Array (Fl M)) (h : p ≠ #[]) :
    ∃ d, Poly.derivative p = .ok d ∧ d.size = p.size - 1 ∧
      ∀ i, |coef d i - (i + 1) * coef p (i + 1)| ≤ M.gam (i + 1) * |(i + 1) * coef p (i + 1)| := by
  obtain ⟨d, hd, hs, hc⟩ := derivative_ok p (ne_empty_iff.mp h)
  refine ⟨d, hd, hs, fun i => ?_⟩
  unfold coef
  rw [hc i]
  split
  · simpa using addRep_rounding (p[i + 1]?.getD 0) (i + 1)
  · rw [Array.getElem?_eq_none (by omega)]; simp

theorem derivative_rounding_rep (p : Array (Fl M)) (h : p ≠ #[])
    (hrep : ∀ i, M.Rep (coef p i)) :
    ∃ d, Poly.derivative p = .ok d ∧ d.size = p.size - 1 ∧
      ∀ i, |coef d i - (i + 1) * coef p (i + 1)| ≤ M.gam i * |(i + 1) * coef p (i + 1)| := by
  obtain ⟨d, hd, hs, hc⟩ := derivative_ok p (ne_empty_iff.mp h)
  refine ⟨d, hd, hs, fun i => ?_⟩
  unfold coef
  rw [hc i]
  split
  · exact addRep_rounding_rep (p[i + 1]?.getD 0) i (hrep (i + 1))
  · rw [Array.getElem?_eq_none (by omega)]; simp

/-- the exact derivative value `Σ (i+1) a_{i+1} xⁱ` -/
def exactDeriv (p : Array (Fl M)) (x : Fl M) : ℝ :=
  ∑ i ∈ Finset.range (p.size - 1), ((i : ℝ) + 1) * coef p (i + 1) * x.val ^ i
/-- `Σ |(i+1) a_{i+1}| |x|ⁱ` -/
def absDeriv (p : Array (Fl M)) (x : Fl M) : ℝ :=
  ∑ i ∈ Finset.range (p.size - 1), |((i : ℝ) + 1) * coef p (i + 1)| * |x.val| ^ i

/-- **first derivative at a point** (`derivativeAt p x 1`, degree `n = p.size − 1 ≥ 1`): the
coefficient errors `gam n` of `derivative_rounding` composed with the Horner bound `gam (2(n−1))`
of `eval_rounding` for the degree `n − 1` derivative: constant `gam (2(n−1) + n)`. -/
theorem derivativeAt_one_rounding (p : Array (Fl M)) (x : Fl M) (h : 2 ≤ p.size) :
    ∃ r, Poly.derivativeAt p x 1 = .ok r ∧
      |r.val - exactDeriv p x| ≤ M.gam (2 * (p.size - 2) + (p.size - 1)) * absDeriv p x := by
  have hne : p ≠ #[] := ne_empty_iff.mpr (by omega)
  obtain ⟨d, hd, hsz, hc⟩ := derivative_rounding p hne
  obtain ⟨r, hr, hb⟩ := eval_rounding d x (ne_empty_iff.mpr (by omega))
  have hdsz : ¬ d.size = 0 := by omega
  refine ⟨r, by simp only [Poly.derivativeAt, Poly.derivativeN, bind, Except.bind, hd, hr, hdsz, if_false], ?_⟩
  rw [show d.size - 1 = p.size - 2 by omega, exactEval, absEval, hsz] at hb
  simp only [← abs_pow, ← abs_mul] at hb
  have := (Within.finset_sum_trans _ hb fun i hi => ((Approx.within (hc i)).mono
    (show i + 1 ≤ p.size - 1 by have := Finset.mem_range.mp hi; omega)).mul_const (x.val ^ i)).1
  simp only [abs_pow] at this
  exact this

end Rounding

section Examples
open Fl

/-- exact arithmetic is a model; there `eval_rounding` collapses to equality with `Σ aᵢ xⁱ` -/
example (p : Array (Fl FlModel.exact)) (x : Fl FlModel.exact) (h : p ≠ #[]) :
    ∃ r, Poly.eval p x = .ok r ∧ r.val = exactEval p x := by
  obtain ⟨r, hr, hr'⟩ := eval_rounding p x h
  refine ⟨r, hr, ?_⟩
  exact FlModel.eq_of_abs_sub_le_exact hr'

/-- a model that really rounds (`fl x = (1 + 2⁻⁵³) x`): the constant `gam (2n)` of `eval_rounding`
is attained for the degree-2 polynomial `a x²` (coefficients `[0, 0, a]`): the computed value is
`(1+u)⁴ a t²`, the error `((1+u)⁴ − 1) |a| |t|² = gam 4 · p̃(|t|)`. -/
example (a t : ℝ) :
    let M := FlModel.scale (2 ^ (-53 : ℤ)) (by positivity)
    let p : Array (Fl M) := #[0, 0, ⟨a⟩]
    let x : Fl M := ⟨t⟩
    ∃ r, Poly.eval p x = .ok r ∧ |r.val - exactEval p x| = M.gam (2 * (p.size - 1)) * absEval p x := by
  intro M p x
  have he : Poly.eval p x
      = .ok (([0, 0] : List (Fl M)).foldr (fun c acc => acc * x + c) ⟨a⟩) :=
    eval_eq_foldr ([0, 0] : List (Fl M)) (⟨a⟩ : Fl M) x
  refine ⟨_, he, ?_⟩
  have hv : (([0, 0] : List (Fl M)).foldr (fun c acc => acc * x + c) ⟨a⟩).val
      = (1 + M.u) * ((1 + M.u) * ((1 + M.u) * ((1 + M.u) * (a * t) + 0) * t) + 0) := rfl
  have e1 : exactEval p x = a * t ^ 2 := by
    show ∑ i ∈ Finset.range 3, coef p i * t ^ i = _
    rw [Finset.sum_range_succ, Finset.sum_range_succ, Finset.sum_range_one]
    show (0 : ℝ) * t ^ 0 + 0 * t ^ 1 + a * t ^ 2 = _
    ring
  have e2 : absEval p x = |a| * |t| ^ 2 := by
    show ∑ i ∈ Finset.range 3, |coef p i| * |t| ^ i = _
    rw [Finset.sum_range_succ, Finset.sum_range_succ, Finset.sum_range_one]
    show |(0 : ℝ)| * |t| ^ 0 + |(0 : ℝ)| * |t| ^ 1 + |a| * |t| ^ 2 = _
    rw [abs_zero]; ring
  rw [hv, e1, e2, show (1 + M.u) * ((1 + M.u) * ((1 + M.u) * ((1 + M.u) * (a * t) + 0) * t) + 0)
    = (1 + M.u) ^ 4 * (a * t ^ 2) by ring, M.abs_pow_mul_sub_self, abs_mul, abs_pow]
  rfl

/-- in the same model the constants of `add_rounding` (`gam 2` on `a`, `u` on `b`) are attained for
non-negative constants: `(0 + a) + b = (1+u)((1+u) a + b)`. -/
example (a b : ℝ) (ha : 0 ≤ a) (hb : 0 ≤ b) :
    let M := FlModel.scale (2 ^ (-53 : ℤ)) (by positivity)
    let p : Array (Fl M) := #[⟨a⟩]
    let q : Array (Fl M) := #[⟨b⟩]
    |coef (add p q) 0 - (coef p 0 + coef q 0)| = M.gam 2 * |coef p 0| + M.u * |coef q 0| := by
  intro M p q
  have hg := M.gam_nonneg 2
  have hu := M.u_nonneg
  have hg2 : M.gam 2 = (1 + M.u) ^ 2 - 1 := rfl
  have hv : coef (add p q) 0 = (1 + M.u) * ((1 + M.u) * (0 + a) + b) := by
    show ((add p q)[0]?.getD 0).val = _
    rw [add_coeff p q (Nat.succ_ne_zero 0) (Nat.succ_ne_zero 0) 0]; rfl
  have e1 : coef p 0 = a := rfl
  have e2 : coef q 0 = b := rfl
  rw [hv, e1, e2, abs_of_nonneg ha, abs_of_nonneg hb]
  have : (1 + M.u) * ((1 + M.u) * (0 + a) + b) - (a + b) = M.gam 2 * a + M.u * b := by
    rw [hg2]; ring
  rw [this, abs_of_nonneg (add_nonneg (mul_nonneg hg ha) (mul_nonneg hu hb))]

/-- … and the constant `gam (i+1)` of `derivative_rounding`: the derivative of `b + a x + c x²` has
the coefficient `(0 + c) + c = (1+u)((1+u) c + c)` at index 1; the error of the abstract model is
`(gam 2 + u) |c|`, below the bound `gam 2 · |2 c|`. -/
example (a b c : ℝ) :
    let M := FlModel.scale (2 ^ (-53 : ℤ)) (by positivity)
    let p : Array (Fl M) := #[⟨b⟩, ⟨a⟩, ⟨c⟩]
    ∃ d, Poly.derivative p = .ok d ∧ d.size = 2 ∧
      |coef d 0 - 1 * coef p 1| = M.gam 1 * |1 * coef p 1| ∧
      |coef d 1 - 2 * coef p 2| ≤ M.gam 2 * |2 * coef p 2| := by
  intro M p
  obtain ⟨d, hd, hs, hc⟩ := derivative_rounding p (by simp [p])
  refine ⟨d, hd, hs, ?_, ?_⟩
  · have hd' : Poly.derivative p = .ok #[(0 : Fl M) + ⟨a⟩, ((0 : Fl M) + ⟨c⟩) + ⟨c⟩] := rfl
    have : d = #[(0 : Fl M) + ⟨a⟩, ((0 : Fl M) + ⟨c⟩) + ⟨c⟩] := by
      rw [hd] at hd'; exact Except.ok.inj hd'
    subst this
    have hv : coef (#[(0 : Fl M) + ⟨a⟩, ((0 : Fl M) + ⟨c⟩) + ⟨c⟩]) 0 = (1 + M.u) * (0 + a) := rfl
    have e1 : coef p 1 = a := rfl
    rw [hv, e1, one_mul, zero_add, ← pow_one (1 + M.u), M.abs_pow_mul_sub_self]
  · have := hc 1
    rwa [Nat.cast_one, one_add_one_eq_two] at this

/-- the multiplication bound on `(1 + x)²` in exact arithmetic: coefficient 1 is the exact
convolution `1·1 + 1·1` (two terms, `nterms 2 2 1 = 2`) -/
example : nterms 2 2 1 = 2 ∧ nterms 2 2 0 = 1 ∧ nterms 2 2 2 = 1 ∧ nterms 2 2 3 = 0 := by decide

end Examples

end Ohsl.Props.C11
