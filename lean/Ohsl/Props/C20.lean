/-
  Property C20 — mismatched shapes rejected; operands never mutated; clones independent.
  Class (S): every lemma below holds for ANY scalar type with arbitrary operations.

  The `rejects_*` theorems state, per checked entry point of the model, that a failed size /
  shape / range guard yields `.error` — no value is produced.  In the model a rejected operation
  returns no state at all, so "the state is unchanged after a rejection" is checked on the CODE
  (the harness compares the post-panic state with the pre-state), together with operand snapshots
  around every by-reference call and clone/mutation interleavings: operand immutability and clone
  independence are true by construction of a pure model and follow on the code from Rust's `&`
  borrow rules and the deep `Clone` impls.
  For the dense matrix the file ends with `history_keeps_wf` (well-formedness survives any history of
  valid edits) and the frame condition `no_stray_write`; C20B, C20C, C20K complete the table.
-/
import Ohsl.Props.C01
import Ohsl.Props.C02
import Ohsl.Props.C03
import Ohsl.Props.C04
import Ohsl.Props.C05
import Ohsl.Props.C06
import Ohsl.Props.C07
import Ohsl.Props.C11
import Ohsl.Props.C15
import Ohsl.Props.C16
import Ohsl.Props.C19
import Ohsl.Props.C19M
import Ohsl.Props.C03M
namespace Ohsl.Props.C20
open Ohsl
variable {K : Type} [Add K] [Sub K] [Mul K] [Neg K] [Zero K] [One K] [BEq K] [ScalarExt K]

set_option linter.unusedSectionVars false in
theorem rejects_vector (a b : Array K) (h : a.size ≠ b.size) (p s e : Nat) (x : K) :
    Vec.add a b = .error .size ∧ Vec.sub a b = .error .size ∧ Vec.dot a b = .error .size ∧
    (a.size < p → Vec.insert a p x = .error .range) ∧
    ((s > e ∨ a.size ≤ s ∨ a.size ≤ e) → Vec.sumSlice a s e = .error .range ∧ Vec.productSlice a s e = .error .range) ∧
    Vec.pop (#[] : Array K) = .error .unwrap :=
  ⟨(C15.binary_rejects a b h).1, (C15.binary_rejects a b h).2.1, (C15.binary_rejects a b h).2.2,
   C15.insert_rejects a p x, C15.sumSlice_rejects a s e, C15.pop_empty⟩

set_option linter.unusedSectionVars false in
theorem rejects_matrix (m b : Mat K) (v : Array K) (k : Nat) :
    (m.cols ≤ k → Mat.getCol m k = .error .range) ∧ (m.rows ≤ k → Mat.getRow m k = .error .range) ∧
    ((v.size ≠ m.rows ∨ m.cols ≤ k) → ∃ e, Mat.setCol m k v = .error e) ∧
    (v.size ≠ m.cols → Mat.mulVec m v = .error .size) ∧ (m.cols ≠ b.rows → Mat.mul m b = .error .size) :=
  ⟨Mat.getCol_rejects m, Mat.getRow_rejects m, Mat.setCol_rejects m k v, Mat.mulVec_rejects m v, Mat.mul_rejects m b⟩

set_option linter.unusedSectionVars false in
theorem rejects_matrix_more (m b : Mat K) (v : Array K) (k k2 : Nat) (x : K) :
    ((v.size ≠ m.cols ∨ m.rows ≤ k) → ∃ e, Mat.setRow m k v = .error e) ∧
    ((m.rows ≤ k ∨ m.rows ≤ k2) → Mat.swapRows m k k2 = .error .range) ∧
    (m.rows ≤ k → Mat.deleteRow m k = .error .range) ∧
    (m.rows ≤ k → Mat.fillRow m k x = .error .range) ∧ (m.cols ≤ k → Mat.fillCol m k x = .error .range) ∧
    ((m.rows ≠ b.rows ∨ m.cols ≠ b.cols) → Mat.add m b = .error .size ∧ Mat.sub m b = .error .size) := by
  refine ⟨?_, ?_, ?_, ?_, ?_, ?_⟩
  · intro h; unfold Mat.setRow
    by_cases h1 : v.size ≠ m.cols
    · exact ⟨.size, by simp [h1]⟩
    · exact ⟨.range, by simp [h1, h.resolve_left h1]⟩
  · intro h; simp [Mat.swapRows, h]
  · intro h; simp [Mat.deleteRow, h]
  · intro h; simp [Mat.fillRow, h]
  · intro h; simp [Mat.fillCol, h]
  · intro h; unfold Mat.add Mat.sub
    by_cases h1 : m.rows ≠ b.rows
    · simp [h1]
    · simp [h1, h.resolve_left h1]

theorem rejects_solvers (m : Mat K) (b : Array K) (h : m.rows ≠ b.size ∨ m.rows ≠ m.cols) (hns : m.rows ≠ m.cols) :
    Mat.solveBasic m b = .error .size ∧ Mat.solveLU m b = .error .size ∧
    Mat.determinant m = .error .size ∧ Mat.inverse m = .error .size :=
  ⟨C01.solveBasic_rejects m b h, C01.solveLU_rejects m b h, C02.determinant_rejects m hns, C02.inverse_rejects m hns⟩

theorem rejects_banded (a b : Band K) (v : Array K) (i j : Nat) (band : Int) (x : K) :
    ((a.n ≠ b.n ∨ a.m1 ≠ b.m1 ∨ a.m2 ≠ b.m2) → Band.add a b = .error .size ∧ Band.sub' a b = .error .size) ∧
    (a.n ≠ v.size → Band.solve a v = .error .size ∧ Band.mulVec a v = .error .size) ∧
    ((j > i + a.m2 ∨ i > j + a.m1) → Band.get a i j = .error .range ∧ Band.set a i j x = .error .range) ∧
    ((band < -(a.m1 : Int) ∨ band > (a.m2 : Int)) → Band.fillBand a band x = .error .range) :=
  ⟨C04.add_rejects a b, fun h => ⟨C04.solve_rejects a v h, C04.mulVec_rejects a v h⟩,
   fun h => ⟨C04.get_rejects a i j h, C04.set_rejects a i j x h⟩, C04.fillBand_rejects a band x⟩

theorem rejects_tridiagonal (t : Tri K) (h : C05.WF t) (v : Array K) (i j : Nat) :
    (t.n ≠ v.size → Tri.solve t v = .error .size ∧ Tri.mulVec t v = .error .size) ∧
    ((i ≥ t.n ∨ j ≥ t.n ∨ (i ≠ j ∧ i ≠ j + 1 ∧ i + 1 ≠ j)) → Tri.get t i j = .error .range) :=
  ⟨fun hn => ⟨C05.solve_rejects_size t v hn, C05.mulVec_rejects t v hn⟩, (C05.get_spec t h i j).2.2.2⟩

set_option linter.unusedSectionVars false in
theorem rejects_sparse_mesh_poly (s : Sp K) (x : Array K) (r c : Nat) (v : K) (p : Array K) (w : Nat) (a b : Array K) :
    (s.cols ≠ x.size → Sp.multiply s x = .error .size) ∧ (s.rows ≠ x.size → Sp.transposeMultiply s x = .error .size) ∧
    ((s.rows ≤ r ∨ s.cols ≤ c) → Sp.get s r c = .error .range ∧ Sp.insert s r c v = .error .range) ∧
    (p.size ≤ r → Poly.get p r = .error .range) ∧ (a.size ≠ b.size → Dot.dotThreaded w a b = .error .size) :=
  ⟨C07.multiply_rejects s x, C07.transposeMultiply_rejects s x,
   fun h => ⟨C06.get_outside s r c h, C06.insert_outside s r c v h⟩, C11.get_rejects p r, C16.rejects w a b⟩

theorem rejects_mesh {T X : Type} [Zero T] (m : Mesh1 T X) (node : Nat) (v : Array T) :
    ((node ≥ m.nodes.size ∨ v.size ≠ m.nvars) → ∃ e, Mesh1.setNodesVars m node v = .error e) ∧
    (node ≥ m.nodes.size → Mesh1.getNodesVars m node = .error .range) :=
  ⟨C19.set_rejects m node v, C19.get_rejects m node⟩

theorem rejects_mesh2 {T X : Type} [Zero T] (m : Mesh2 T X) (i j var : Nat) (v : Array T) :
    ((m.nx ≤ i ∨ m.ny ≤ j ∨ v.size ≠ m.nvars) → ∃ e, Mesh2.setNodesVars m i j v = .error e) ∧
    ((m.nx ≤ i ∨ m.ny ≤ j) → ∃ e, Mesh2.getNodesVars m i j = .error e) ∧
    (m.nvars ≤ var → Mesh2.varAsMatrix m var = .error .range) ∧
    (m.nx ≤ i → 0 < m.ny → ∃ e, Mesh2.crossSectionX m i = .error e) :=
  ⟨C19.set_rejects2 m i j v, C19.get_rejects2 m i j, fun h => C19.varAsMatrix_rejects m h,
   fun h hy => C19.crossSectionX_rejects m h hy⟩

/-- after ANY history of valid editing operations that does not panic the dense matrix is still well
    formed (len == rows*cols) -/
theorem history_keeps_wf (ops : List (Mat.MatOp K)) (m m' : Mat K) (h : m.WF)
    (hv : ∀ op ∈ ops, op.Valid) (hr : Mat.run ops m = .ok m') : m'.WF :=
  C03.history_wf ops hv h hr

set_option linter.unusedSectionVars false in
/-- a successful write changes only the addressed entry (frame condition for the dense matrix) -/
theorem no_stray_write {m : Mat K} (h : m.WF) {i j : Nat} (hi : i < m.rows) (hj : j < m.cols) (v : K) :
    ∃ m', m.set i j v = .ok m' ∧
      ∀ i' j', j' < m.cols → (i' ≠ i ∨ j' ≠ j) → m'.get i' j' = m.get i' j' := by
  obtain ⟨m', h1, _, _, _, _, h6⟩ := C03.set_frame h hi hj v
  exact ⟨m', h1, h6⟩

end Ohsl.Props.C20
