/-
  Property C18 — finite-difference Jacobian (model: `Ohsl.Jac.jacobian`, Ohsl/Model/Newton.lean).
  Proved here, class (S) — every user function `f`, any scalar type, arbitrary arithmetic: the
  shape of the result and the number of evaluations for EVERY m and n (`jacobian_shape`; m < n and
  m > n included: this is the statement the original `set_col` range check broke), and the
  rejection of a map whose output size changes (`jacobian_rejects_size_change`).  The only
  hypothesis is that the element type's division by `delta` does not panic (always true of
  f64 / Complex<f64>; true of exact types when delta ≠ 0).  The shape is read off
  `jacobian_entries` (C18E, where the column loop is analysed).
  Accuracy O(delta) for smooth maps: C18R (exact reals), C18F (rounded reals).
-/
import Ohsl.Props.C18E
namespace Ohsl.Props.C18
open Ohsl Ohsl.Mat Ohsl.Jac
variable {E : Type} [Add E] [Sub E] [Mul E] [Neg E] [Zero E] [One E] [BEq E] [ScalarExt E]

/-- **shape**: m × n for every m, n; n + 1 evaluations -/
theorem jacobian_shape (f : Array E → Array E) (point : Array E) (delta : E) (m : Nat)
    (hf : ∀ x : Array E, x.size = point.size → (f x).size = m)
    (hdiv : ∀ a : E, ∃ q, divM a delta = .ok q) :
    ∃ J tr, jacobian f point delta = .ok (J, tr) ∧ J.rows = m ∧ J.cols = point.size ∧ J.WF ∧
      tr.length = point.size + 1 := by
  obtain ⟨J, h, hr, hc, hwf, _⟩ := jacobian_entries f point delta m hf hdiv
  exact ⟨J, _, h, hr, hc, hwf, by simp⟩

set_option linter.unusedSectionVars false in
/-- a map whose output has a different size at the first perturbed point is rejected -/
theorem jacobian_rejects_size_change (f : Array E → Array E) (point : Array E) (delta : E)
    (hn : 0 < point.size)
    (hbad : (f (point.setIfInBounds 0 (point[0] + delta))).size ≠ (f point).size) :
    jacobian f point delta = .error .size := by
  rw [jacobian_eq, forM'_first_error 0 point.size (jacInit f point) _ .size hn
    (jacBody_error f point delta _ _ hn
      (colOf_size_error f point delta ((evalPt_eq_set point delta 0 hn).symm ▸ hbad)))]
  rfl

end Ohsl.Props.C18
