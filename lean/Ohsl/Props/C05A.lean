/-
  Property C05 (continued) — tridiagonal matrix: arithmetic, conversion to dense, element writes
  and constructors agree with the dense twin `dense t` (Props/C05T.lean).
  Model: Ohsl/Model/Tridiag.lean.
-/
import Ohsl.Props.C05T
import Ohsl.Lemmas.MatSpec2
import Ohsl.Lemmas.ExceptMapM
set_option linter.unusedSectionVars false
namespace Ohsl.Props.C05
open Ohsl Ohsl.Tri

/-- (i,j) lies on one of the three diagonals: |i − j| ≤ 1 -/
def inBand (i j : Nat) : Prop := i = j ∨ i = j + 1 ∨ i + 1 = j

instance (i j : Nat) : Decidable (inBand i j) := by unfold inBand; infer_instance

theorem inBand_symm {i j : Nat} (h : inBand i j) : inBand j i := by
  unfold inBand at *; omega

section Shapes
variable {K : Type}

def zip3 (f : K → K → K) (a b : Tri K) : Tri K :=
  ⟨Array.zipWith f a.sub b.sub, Array.zipWith f a.main b.main, Array.zipWith f a.sup b.sup, a.n⟩

def map3 (f : K → K) (t : Tri K) : Tri K := ⟨t.sub.map f, t.main.map f, t.sup.map f, t.n⟩

theorem WF.sizes_eq {a b : Tri K} (ha : WF a) (hb : WF b) (hn : a.n = b.n) :
    a.sub.size = b.sub.size ∧ a.main.size = b.main.size ∧ a.sup.size = b.sup.size :=
  ⟨by rw [ha.sub, hb.sub, hn], by rw [ha.main, hb.main, hn], by rw [ha.sup, hb.sup, hn]⟩

theorem zip3_wf (f : K → K → K) (a b : Tri K) (ha : WF a) (hb : WF b) (hn : a.n = b.n) :
    WF (zip3 f a b) := by
  obtain ⟨e1, e2, e3⟩ := ha.sizes_eq hb hn
  exact ⟨ha.pos, by rw [zip3, Array.size_zipWith, ← e2, Nat.min_self, ha.main],
    by rw [zip3, Array.size_zipWith, ← e1, Nat.min_self, ha.sub],
    by rw [zip3, Array.size_zipWith, ← e3, Nat.min_self, ha.sup]⟩

theorem map3_wf (f : K → K) (t : Tri K) (h : WF t) : WF (map3 f t) :=
  ⟨h.pos, by simp [map3, h.main], by simp [map3, h.sub], by simp [map3, h.sup]⟩

end Shapes

section Dense
variable {K : Type} [Zero K]

theorem dense_offband (t : Tri K) (i j : Nat) (h : ¬ inBand i j) : dense t i j = 0 := by
  rw [dense_eq_triEntry]
  exact triEntry_off _ _ _ h

/-- outside the index range the dense twin of a well-formed matrix is `0` -/
theorem dense_oob (t : Tri K) (h : WF t) (i j : Nat) (hij : t.n ≤ i ∨ t.n ≤ j) : dense t i j = 0 := by
  have hm := h.main; have hsb := h.sub; have hsp := h.sup
  have out : ∀ (a : Array K) k, a.size ≤ k → a[k]?.getD 0 = 0 := fun a k hk => getD?_of_le a 0 hk
  by_cases hb : inBand i j
  · rcases hb with rfl | rfl | rfl
    · rw [dense_diag]; exact out _ _ (hm ▸ hij.elim id id)
    · rw [dense_lower]
      exact out _ _ (hsb ▸ hij.elim Nat.sub_le_of_le_add (Nat.le_trans (Nat.sub_le _ _)))
    · rw [dense_upper]
      exact out _ _ (hsp ▸ hij.elim (Nat.le_trans (Nat.sub_le _ _)) Nat.sub_le_of_le_add)
  · exact dense_offband t i j hb

theorem dense_inband_of (c : Tri K) (n : Nat) (e : Nat → Nat → K)
    (hm : ∀ k, k < n → c.main[k]?.getD 0 = e k k)
    (hs : ∀ k, k + 1 < n → c.sub[k]?.getD 0 = e (k + 1) k)
    (hp : ∀ k, k + 1 < n → c.sup[k]?.getD 0 = e k (k + 1)) :
    ∀ i j, i < n → j < n → inBand i j → dense c i j = e i j := by
  intro i j hi hj hb
  rcases hb with hb | hb | hb
  · subst hb; rw [dense_diag]; exact hm i hi
  · subst hb; rw [dense_lower]; exact hs j hi
  · subst hb; rw [dense_upper]; exact hp i hj

theorem zip3_dense (f : K → K → K) (a b : Tri K) (ha : WF a) (hb : WF b) (hn : a.n = b.n) :
    ∀ i j, i < a.n → j < a.n → inBand i j →
      dense (zip3 f a b) i j = f (dense a i j) (dense b i j) := by
  obtain ⟨e1, e2, e3⟩ := ha.sizes_eq hb hn
  apply dense_inband_of
  · intro k hk
    have hk' : k < a.main.size := ha.main ▸ hk
    rw [dense_diag, dense_diag]
    exact getD?_zipWith f _ _ 0 0 0 hk' (e2 ▸ hk')
  · intro k hk
    have hk' : k < a.sub.size := ha.sub ▸ Nat.lt_sub_of_add_lt hk
    rw [dense_lower, dense_lower]
    exact getD?_zipWith f _ _ 0 0 0 hk' (e1 ▸ hk')
  · intro k hk
    have hk' : k < a.sup.size := ha.sup ▸ Nat.lt_sub_of_add_lt hk
    rw [dense_upper, dense_upper]
    exact getD?_zipWith f _ _ 0 0 0 hk' (e3 ▸ hk')

theorem map3_dense (f : K → K) (t : Tri K) (h : WF t) :
    ∀ i j, i < t.n → j < t.n → inBand i j → dense (map3 f t) i j = f (dense t i j) := by
  apply dense_inband_of
  · intro k hk
    rw [dense_diag]
    exact getD?_map f _ 0 0 (h.main ▸ hk)
  · intro k hk
    rw [dense_lower]
    exact getD?_map f _ 0 0 (h.sub ▸ Nat.lt_sub_of_add_lt hk)
  · intro k hk
    rw [dense_upper]
    exact getD?_map f _ 0 0 (h.sup ▸ Nat.lt_sub_of_add_lt hk)

theorem zip3_dense_all (f : K → K → K) (h0 : f 0 0 = 0) (a b : Tri K) (ha : WF a) (hb : WF b)
    (hn : a.n = b.n) (i j : Nat) : dense (zip3 f a b) i j = f (dense a i j) (dense b i j) := by
  obtain ⟨e1, e2, e3⟩ := ha.sizes_eq hb hn
  rw [dense_eq_triEntry a, dense_eq_triEntry b, triEntry_map2 f h0]
  simp only [dense_eq_triEntry, zip3, getD?_zipWith_total f h0 _ _ e1, getD?_zipWith_total f h0 _ _ e2,
    getD?_zipWith_total f h0 _ _ e3]

theorem map3_dense_all (f : K → K) (h0 : f 0 = 0) (t : Tri K) (i j : Nat) :
    dense (map3 f t) i j = f (dense t i j) := by
  rw [dense_eq_triEntry t, triEntry_map f h0]
  simp only [dense_eq_triEntry, map3, getD?_map_total f h0]

theorem zip3_spec (f : K → K → K) (a b : Tri K) (ha : WF a) (hb : WF b) (hn : a.n = b.n) :
    WF (zip3 f a b) ∧ (zip3 f a b).n = a.n ∧
      (∀ i j, i < a.n → j < a.n → inBand i j →
        dense (zip3 f a b) i j = f (dense a i j) (dense b i j)) ∧
      (∀ i j, ¬ inBand i j → dense (zip3 f a b) i j = 0) :=
  ⟨zip3_wf f a b ha hb hn, rfl, zip3_dense f a b ha hb hn, fun i j h => dense_offband _ i j h⟩

theorem map3_spec (f : K → K) (t : Tri K) (h : WF t) :
    WF (map3 f t) ∧ (map3 f t).n = t.n ∧
      (∀ i j, i < t.n → j < t.n → inBand i j → dense (map3 f t) i j = f (dense t i j)) ∧
      (∀ i j, ¬ inBand i j → dense (map3 f t) i j = 0) :=
  ⟨map3_wf f t h, rfl, map3_dense f t h, fun i j hb => dense_offband _ i j hb⟩

theorem dense_congr (t t' : Tri K) (i j : Nat)
    (hm : i = j → t'.main[i]?.getD 0 = t.main[i]?.getD 0)
    (hs : i = j + 1 → t'.sub[j]?.getD 0 = t.sub[j]?.getD 0)
    (hp : i + 1 = j → t'.sup[i]?.getD 0 = t.sup[i]?.getD 0) : dense t' i j = dense t i j := by
  rw [dense_eq_triEntry, dense_eq_triEntry]
  exact triEntry_congr i j hm hs hp

end Dense

section ArithRuns
variable {K : Type}

theorem add_eq [Add K] (a b : Tri K) (ha : WF a) (hb : WF b) (hn : a.n = b.n) :
    Tri.add a b = .ok (zip3 (· + ·) a b) := by
  obtain ⟨e1, e2, e3⟩ := ha.sizes_eq hb hn
  simp only [Tri.add, Vec.add, if_neg (not_not.mpr hn), e1, e2, e3, ne_eq, not_true_eq_false, if_false, bind,
    Except.bind, pure, Except.pure]
  rfl

theorem sub_eq [Sub K] (a b : Tri K) (ha : WF a) (hb : WF b) (hn : a.n = b.n) :
    Tri.sub' a b = .ok (zip3 (· - ·) a b) := by
  obtain ⟨e1, e2, e3⟩ := ha.sizes_eq hb hn
  simp only [Tri.sub', Vec.sub, if_neg (not_not.mpr hn), e1, e2, e3, ne_eq, not_true_eq_false, if_false, bind,
    Except.bind, pure, Except.pure]
  rfl

theorem array_mapM_ok [Zero K] (a : Array K) (f : K → Res K) (g : K → K)
    (h : ∀ k, k < a.size → f (a[k]?.getD 0) = .ok (g (a[k]?.getD 0))) :
    a.mapM f = .ok (a.map g) := by
  refine mapM_ok_arr a f g fun x hx => ?_
  obtain ⟨k, hk, rfl⟩ := Array.getElem_of_mem hx
  simpa [hk] using h k hk

theorem sdiv_eq [Zero K] [ScalarExt K] (t : Tri K) (h : WF t) (s : K) (q : K → K)
    (hq : ∀ i j, i < t.n → j < t.n → inBand i j → divM (dense t i j) s = .ok (q (dense t i j))) :
    Tri.sdiv t s = .ok (map3 q t) := by
  have hm := h.main; have hsb := h.sub; have hsp := h.sup
  have e1 : Vec.sdiv t.sub s = .ok (t.sub.map q) := by
    apply array_mapM_ok
    intro k hk
    obtain ⟨c1, c2⟩ := rows_of_slot (hsb ▸ hk)
    have := hq (k + 1) k c2 c1 (Or.inr (Or.inl rfl))
    rwa [dense_lower] at this
  have e2 : Vec.sdiv t.main s = .ok (t.main.map q) := by
    apply array_mapM_ok
    intro k hk
    have := hq k k (hm ▸ hk) (hm ▸ hk) (Or.inl rfl)
    rwa [dense_diag] at this
  have e3 : Vec.sdiv t.sup s = .ok (t.sup.map q) := by
    apply array_mapM_ok
    intro k hk
    obtain ⟨c1, c2⟩ := rows_of_slot (hsp ▸ hk)
    have := hq k (k + 1) c1 c2 (Or.inr (Or.inr rfl))
    rwa [dense_upper] at this
  simp only [Tri.sdiv, e1, e2, e3, bind, Except.bind, pure, Except.pure]
  rfl

end ArithRuns

section Arith
variable {K : Type} [Add K] [Sub K] [Mul K] [Neg K] [Zero K] [One K] [BEq K] [ScalarExt K]

theorem neg_eq (t : Tri K) : Tri.neg t = map3 (fun x => -x) t := rfl
theorem smul_eq (t : Tri K) (s : K) : Tri.smul t s = map3 (· * s) t := rfl
theorem lsmul_eq (s : K) (t : Tri K) : Tri.lsmul s t = map3 (s * ·) t := rfl
theorem addS_eq (t : Tri K) (s : K) : Tri.addS t s = map3 (· + s) t := rfl
theorem subS_eq (t : Tri K) (s : K) : Tri.subS t s = map3 (· - s) t := rfl

/-- (S) **`T₁ + T₂`**: for well-formed operands of the same size n ≥ 1 the call succeeds, the
    result is well-formed of size n, every entry of the three diagonals is the sum of the
    corresponding entries, and nothing appears outside the band. -/
theorem add_spec (a b : Tri K) (ha : WF a) (hb : WF b) (hn : a.n = b.n) :
    ∃ c, Tri.add a b = .ok c ∧ WF c ∧ c.n = a.n ∧
      (∀ i j, i < a.n → j < a.n → inBand i j → dense c i j = dense a i j + dense b i j) ∧
      (∀ i j, ¬ inBand i j → dense c i j = 0) :=
  ⟨_, add_eq a b ha hb hn, zip3_spec _ a b ha hb hn⟩

/-- (S) operands of different sizes are rejected with the `size` class -/
theorem add_guard (a b : Tri K) (h : a.n ≠ b.n) : Tri.add a b = .error .size := by
  simp [Tri.add, h]

/-- (S) **`T₁ - T₂`** -/
theorem sub_spec (a b : Tri K) (ha : WF a) (hb : WF b) (hn : a.n = b.n) :
    ∃ c, Tri.sub' a b = .ok c ∧ WF c ∧ c.n = a.n ∧
      (∀ i j, i < a.n → j < a.n → inBand i j → dense c i j = dense a i j - dense b i j) ∧
      (∀ i j, ¬ inBand i j → dense c i j = 0) :=
  ⟨_, sub_eq a b ha hb hn, zip3_spec _ a b ha hb hn⟩

theorem sub_guard (a b : Tri K) (h : a.n ≠ b.n) : Tri.sub' a b = .error .size := by
  simp [Tri.sub', h]

/-- (S) **`-T`** (total) -/
theorem neg_spec (t : Tri K) (h : WF t) :
    WF (Tri.neg t) ∧ (Tri.neg t).n = t.n ∧
      (∀ i j, i < t.n → j < t.n → inBand i j → dense (Tri.neg t) i j = - dense t i j) ∧
      (∀ i j, ¬ inBand i j → dense (Tri.neg t) i j = 0) :=
  map3_spec _ t h

/-- (S) **`T * s`** and `T *= s` (total): `entry * s`, in this order -/
theorem smul_spec (t : Tri K) (h : WF t) (s : K) :
    WF (Tri.smul t s) ∧ (Tri.smul t s).n = t.n ∧
      (∀ i j, i < t.n → j < t.n → inBand i j → dense (Tri.smul t s) i j = dense t i j * s) ∧
      (∀ i j, ¬ inBand i j → dense (Tri.smul t s) i j = 0) :=
  map3_spec _ t h

/-- (S) **`s * T`** (total): `s * entry`, in this order -/
theorem lsmul_spec (s : K) (t : Tri K) (h : WF t) :
    WF (Tri.lsmul s t) ∧ (Tri.lsmul s t).n = t.n ∧
      (∀ i j, i < t.n → j < t.n → inBand i j → dense (Tri.lsmul s t) i j = s * dense t i j) ∧
      (∀ i j, ¬ inBand i j → dense (Tri.lsmul s t) i j = 0) :=
  map3_spec _ t h

/-- (S) **`T += s`** (total): the scalar is added to the entries of the three diagonals ONLY;
    entries outside the band stay structurally absent (`0` in the dense twin, not `0 + s`). -/
theorem addS_spec (t : Tri K) (h : WF t) (s : K) :
    WF (Tri.addS t s) ∧ (Tri.addS t s).n = t.n ∧
      (∀ i j, i < t.n → j < t.n → inBand i j → dense (Tri.addS t s) i j = dense t i j + s) ∧
      (∀ i j, ¬ inBand i j → dense (Tri.addS t s) i j = 0) :=
  map3_spec _ t h

/-- (S) **`T -= s`** (total): band entries only, as for `+=` -/
theorem subS_spec (t : Tri K) (h : WF t) (s : K) :
    WF (Tri.subS t s) ∧ (Tri.subS t s).n = t.n ∧
      (∀ i j, i < t.n → j < t.n → inBand i j → dense (Tri.subS t s) i j = dense t i j - s) ∧
      (∀ i j, ¬ inBand i j → dense (Tri.subS t s) i j = 0) :=
  map3_spec _ t h

/-- (S) **`T / s`** and `T /= s`: if the scalar division succeeds on every entry of the three
    diagonals (`q` names the quotient), the call succeeds and divides exactly those entries. -/
theorem sdiv_spec (t : Tri K) (h : WF t) (s : K) (q : K → K)
    (hq : ∀ i j, i < t.n → j < t.n → inBand i j → divM (dense t i j) s = .ok (q (dense t i j))) :
    ∃ c, Tri.sdiv t s = .ok c ∧ WF c ∧ c.n = t.n ∧
      (∀ i j, i < t.n → j < t.n → inBand i j → dense c i j = q (dense t i j)) ∧
      (∀ i j, ¬ inBand i j → dense c i j = 0) :=
  ⟨_, sdiv_eq t h s q hq, map3_spec q t h⟩

/-- (S) a divisor on which the scalar division fails (an exact zero for exact types) makes the
    whole call fail with the same class, for every n ≥ 1 (for n = 1 the failure comes from the
    main diagonal, the sub-diagonal being empty) -/
theorem sdiv_guard (t : Tri K) (h : WF t) (s : K) (e : Err) (hf : ∀ x : K, divM x s = .error e) :
    Tri.sdiv t s = .error e := by
  have hm := h.main; have hsb := h.sub; have hpos := h.pos
  by_cases h1 : t.n = 1
  · have e1 : Vec.sdiv t.sub s = .ok #[] := by
      have : t.sub = #[] := Array.eq_empty_of_size_eq_zero (by rw [hsb, h1])
      rw [this]
      simp [Vec.sdiv, Array.mapM_eq_mapM_toList, Functor.map, Except.map, pure, Except.pure]
    have e2 : Vec.sdiv t.main s = .error e := mapM_arr_error_first _ _ e (hm ▸ hpos) (hf _)
    simp only [Tri.sdiv, e1, e2, bind, Except.bind]
  · have e1 : Vec.sdiv t.sub s = .error e :=
      mapM_arr_error_first _ _ e (Nat.lt_of_le_of_lt (Nat.zero_le _) (h.ends h1).2.1) (hf _)
    simp only [Tri.sdiv, e1, bind, Except.bind]

end Arith

section Access
variable {K : Type} [Add K] [Sub K] [Mul K] [Neg K] [Zero K] [One K] [BEq K] [ScalarExt K]

theorem get_dense (t : Tri K) (h : WF t) (i j : Nat) (hi : i < t.n) (hj : j < t.n)
    (hb : inBand i j) : Tri.get t i j = .ok (dense t i j) := by
  have hm := h.main; have hsb := h.sub; have hsp := h.sup
  rcases hb with e | e | e
  · subst e
    rw [(get_spec t h i i).1 hi rfl, dense_diag, aget_getD (hm ▸ hi) 0]
  · subst e
    rw [(get_spec t h (j + 1) j).2.1 hi rfl, dense_lower, aget_getD (h.step hi).2.1 0]
  · subst e
    rw [(get_spec t h i (i + 1)).2.2.1 hj rfl, dense_upper, aget_getD (h.step hj).1 0]

/-- (S) out-of-range and out-of-band reads are rejected (class `range`) -/
theorem get_guard (t : Tri K) (i j : Nat) (h : t.n ≤ i ∨ t.n ≤ j ∨ ¬ inBand i j) :
    Tri.get t i j = .error .range := by
  unfold Tri.get
  by_cases h0 : i ≥ t.n ∨ j ≥ t.n
  · rw [if_pos h0]
  · have ⟨h1, h2, h3⟩ : ¬ i = j ∧ ¬ i = j + 1 ∧ ¬ i + 1 = j := by unfold inBand at h; omega
    rw [if_neg h0, if_neg h1, if_neg h2, if_neg h3]

theorem get_eq_of_dense {t t' : Tri K} (h : WF t) (h' : WF t') (hn : t'.n = t.n) (i j : Nat)
    (hd : dense t' i j = dense t i j) : Tri.get t' i j = Tri.get t i j := by
  by_cases hc : i < t.n ∧ j < t.n ∧ inBand i j
  · obtain ⟨hi, hj, hb⟩ := hc
    rw [get_dense t h i j hi hj hb, get_dense t' h' i j (hn ▸ hi) (hn ▸ hj) hb, hd]
  · rw [not_and_or, not_and_or, Nat.not_lt, Nat.not_lt] at hc
    rw [get_guard t i j hc, get_guard t' i j (hn ▸ hc)]

/-- (S) **element write** `T[(i,j)] = v` on the band of a well-formed matrix (every n ≥ 1):
    the call succeeds, keeps size and well-formedness, the entry reads back as `v`
    (`set_get`), and **every other entry is unchanged** — both as seen by the index operator
    (including which reads are rejected) and in the dense twin. -/
theorem set_spec (t : Tri K) (h : WF t) (i j : Nat) (v : K) (hi : i < t.n) (hj : j < t.n)
    (hb : inBand i j) :
    ∃ t', Tri.set t i j v = .ok t' ∧ WF t' ∧ t'.n = t.n ∧
      Tri.get t' i j = .ok v ∧ dense t' i j = v ∧
      (∀ i' j', (i' ≠ i ∨ j' ≠ j) → Tri.get t' i' j' = Tri.get t i' j') ∧
      (∀ i' j', (i' ≠ i ∨ j' ≠ j) → dense t' i' j' = dense t i' j') := by
  -- the written matrix and its dense twin are enough: they determine the index operator
  suffices H : ∃ t', Tri.set t i j v = .ok t' ∧ WF t' ∧ t'.n = t.n ∧ dense t' i j = v ∧
      ∀ i' j', (i' ≠ i ∨ j' ≠ j) → dense t' i' j' = dense t i' j' by
    obtain ⟨t', hs, hwf, hn, hv, hfr⟩ := H
    refine ⟨t', hs, hwf, hn, ?_, hv,
      fun i' j' hne => get_eq_of_dense h hwf hn i' j' (hfr i' j' hne), hfr⟩
    rw [get_dense t' hwf i j (hn ▸ hi) (hn ▸ hj) hb, hv]
  have hm := h.main; have hsb := h.sub; have hsp := h.sup
  rcases hb with rfl | rfl | rfl
  · have hlt : i < t.main.size := hm ▸ hi
    refine ⟨{ t with main := t.main.setIfInBounds i v }, ?_,
      ⟨h.pos, Array.size_setIfInBounds.trans hm, hsb, hsp⟩, rfl, ?_, fun i' j' hne => ?_⟩
    · simp [Tri.set, hi, Mat.aset_ok v hlt, bind, Except.bind, pure, Except.pure]
    · rw [dense_diag]
      exact (getD_setIfInBounds hlt).trans (if_pos rfl)
    · exact dense_congr t _ i' j'
        (fun e => (getD_setIfInBounds hlt).trans (if_neg fun c => hne.elim (· c) (· (e ▸ c))))
        (fun _ => rfl) (fun _ => rfl)
  · have hlt : j < t.sub.size := (h.step hi).2.1
    refine ⟨{ t with sub := t.sub.setIfInBounds j v }, ?_,
      ⟨h.pos, hm, Array.size_setIfInBounds.trans hsb, hsp⟩, rfl, ?_, fun i' j' hne => ?_⟩
    · simp [Tri.set, hi, hj, Mat.aset_ok v hlt, bind, Except.bind, pure, Except.pure]
    · rw [dense_lower]
      exact (getD_setIfInBounds hlt).trans (if_pos rfl)
    · exact dense_congr t _ i' j' (fun _ => rfl)
        (fun e => (getD_setIfInBounds hlt).trans
          (if_neg fun c => hne.elim (· (e.trans (congrArg (· + 1) c))) (· c))) (fun _ => rfl)
  · have hlt : i < t.sup.size := (h.step hj).1
    refine ⟨{ t with sup := t.sup.setIfInBounds i v }, ?_,
      ⟨h.pos, hm, hsb, Array.size_setIfInBounds.trans hsp⟩, rfl, ?_, fun i' j' hne => ?_⟩
    · have h2 : ¬ i = i + 1 + 1 := Nat.ne_of_lt (Nat.lt_succ_of_lt (Nat.lt_succ_self i))
      simp [Tri.set, hi, hj, h2, Mat.aset_ok v hlt, bind, Except.bind, pure, Except.pure]
    · rw [dense_upper]
      exact (getD_setIfInBounds hlt).trans (if_pos rfl)
    · exact dense_congr t _ i' j' (fun _ => rfl) (fun _ => rfl)
        (fun e => (getD_setIfInBounds hlt).trans
          (if_neg fun c => hne.elim (· c) (· (e.symm.trans (congrArg (· + 1) c)))))

/-- (S) read-after-write -/
theorem set_get (t : Tri K) (h : WF t) (i j : Nat) (v : K) (hi : i < t.n) (hj : j < t.n)
    (hb : inBand i j) (t' : Tri K) (ht : Tri.set t i j v = .ok t') : Tri.get t' i j = .ok v := by
  obtain ⟨t'', h1, _, _, h2, _⟩ := set_spec t h i j v hi hj hb
  rw [ht] at h1
  cases h1
  exact h2

/-- (S) out-of-range and out-of-band writes are rejected (class `range`), nothing is written -/
theorem set_guard (t : Tri K) (i j : Nat) (v : K) (h : t.n ≤ i ∨ t.n ≤ j ∨ ¬ inBand i j) :
    Tri.set t i j v = .error .range := by
  unfold Tri.set
  by_cases h0 : i ≥ t.n ∨ j ≥ t.n
  · rw [if_pos h0]
  · have ⟨h1, h2, h3⟩ : ¬ i = j ∧ ¬ i = j + 1 ∧ ¬ i + 1 = j := by unfold inBand at h; omega
    rw [if_neg h0, if_neg h1, if_neg h2, if_neg h3]

/-- (S) a write succeeds exactly on the band inside the index range -/
theorem set_ok_iff (t : Tri K) (h : WF t) (i j : Nat) (v : K) :
    (∃ t', Tri.set t i j v = .ok t') ↔ i < t.n ∧ j < t.n ∧ inBand i j := by
  constructor
  · rintro ⟨t', ht⟩
    by_contra hc
    rw [not_and_or, not_and_or, Nat.not_lt, Nat.not_lt] at hc
    rw [set_guard t i j v hc] at ht
    cases ht
  · rintro ⟨hi, hj, hb⟩
    obtain ⟨t', ht, _⟩ := set_spec t h i j v hi hj hb
    exact ⟨t', ht⟩

end Access

section Constructors
variable {K : Type} [Add K] [Sub K] [Mul K] [Neg K] [Zero K] [One K] [BEq K] [ScalarExt K]

/-- (S) **`new(n)`**, n ≥ 1: the zero matrix of size n -/
theorem new_spec (n : Nat) (hn : 1 ≤ n) :
    ∃ t : Tri K, Tri.new n = .ok t ∧ WF t ∧ t.n = n ∧ ∀ i j, dense t i j = 0 := by
  refine ⟨⟨Array.replicate (n - 1) 0, Array.replicate n 0, Array.replicate (n - 1) 0, n⟩, ?_,
    ⟨hn, by simp, by simp, by simp⟩, rfl, ?_⟩
  · simp [Tri.new, usub, hn, bind, Except.bind, pure, Except.pure]
  · intro i j
    unfold dense
    simp only [getD?_replicate, ite_self]

/-- (S) `new(0)` is rejected: `n - 1` underflows -/
theorem new_guard : Tri.new (K := K) 0 = .error .arith := by
  simp [Tri.new, usub, bind, Except.bind]

/-- (S) **`with_elements(a, b, c, n)`**, n ≥ 1: constant diagonals -/
theorem withElements_spec (a b c : K) (n : Nat) (hn : 1 ≤ n) :
    ∃ t : Tri K, Tri.withElements a b c n = .ok t ∧ WF t ∧ t.n = n ∧
      ∀ i j, i < n → j < n →
        dense t i j = triEntry (fun _ => a) (fun _ => b) (fun _ => c) i j := by
  refine ⟨⟨Array.replicate (n - 1) a, Array.replicate n b, Array.replicate (n - 1) c, n⟩, ?_,
    ⟨hn, by simp, by simp, by simp⟩, rfl, ?_⟩
  · simp [Tri.withElements, usub, hn, bind, Except.bind, pure, Except.pure]
  · intro i j hi hj
    rw [dense_eq_triEntry]
    exact triEntry_congr i j (fun _ => by simp only [getD?_replicate, if_pos hi])
      (fun e => by simp only [getD?_replicate, if_pos (show j < n - 1 by omega)])
      (fun e => by simp only [getD?_replicate, if_pos (show i < n - 1 by omega)])

theorem withElements_guard (a b c : K) : Tri.withElements a b c 0 = .error .arith := by
  simp [Tri.withElements, usub, bind, Except.bind]

/-- (S) **`with_vecs(sub, main, sup)`** with lengths n-1, n, n-1 (n ≥ 1): the three vectors
    become the three diagonals -/
theorem withVecs_spec (sub main sup : Array K) (hn : 1 ≤ main.size)
    (h1 : sub.size = main.size - 1) (h2 : sup.size = main.size - 1) :
    ∃ t, Tri.withVecs sub main sup = .ok t ∧ WF t ∧ t.n = main.size ∧
      t.sub = sub ∧ t.main = main ∧ t.sup = sup ∧
      dense t = triEntry (fun k => sub[k]?.getD 0) (fun k => main[k]?.getD 0)
        (fun k => sup[k]?.getD 0) := by
  refine ⟨⟨sub, main, sup, main.size⟩, ?_, ⟨hn, rfl, h1, h2⟩, rfl, rfl, rfl, rfl, rfl⟩
  simp [Tri.withVecs, usub, hn, h1, h2, bind, Except.bind, pure, Except.pure]

end Constructors

section ConstructorGuards
variable {K : Type}

/-- (S) an empty main diagonal is rejected by the underflow of `n - 1` (class `arith`) -/
theorem withVecs_guard_empty (sub main sup : Array K) (h : main.size = 0) :
    Tri.withVecs sub main sup = .error .arith := by
  simp [Tri.withVecs, usub, h, bind, Except.bind]

/-- (S) wrong lengths of the off-diagonals are rejected with class `size` -/
theorem withVecs_guard_size (sub main sup : Array K) (hn : 1 ≤ main.size)
    (h : sub.size ≠ main.size - 1 ∨ sup.size ≠ main.size - 1) :
    Tri.withVecs sub main sup = .error .size := by
  simp [Tri.withVecs, usub, hn, h, bind, Except.bind]

end ConstructorGuards

section ConvertWrites
variable {K : Type} [Zero K]

theorem band_number {a b : Nat} (h : inBand a b) : 3 * a ≤ 2 * a + b + 1 ∧ 2 * a + b ≤ 3 * a + 1 := by
  unfold inBand at h; omega

/-- `convert` writes the band row by row, and in that order entry `(a, b)` of the band is entry
    number `2 a + b` (`3 a − 1`, `3 a`, `3 a + 1` in row `a`).  One write: a matrix that holds
    `dense t` on the entries of the band with numbers below that of `(i, j)` and `0` elsewhere,
    written at `(i, j)`, holds it on the entries with numbers up to that of `(i, j)`. -/
theorem convert_write (t : Tri K) {m : Mat K} {n i j : Nat}
    (h : Mat.Is m n n (fun a b => if inBand a b ∧ 2 * a + b < 2 * i + j then dense t a b else 0))
    (hi : i < n) (hj : j < n) (hb : inBand i j) :
    ∃ m', m.set i j (dense t i j) = .ok m' ∧
      Mat.Is m' n n (fun a b => if inBand a b ∧ 2 * a + b < 2 * i + j + 1 then dense t a b else 0) := by
  obtain ⟨m', hm', hI⟩ := h.set hi hj (dense t i j)
  refine ⟨m', hm', hI.congr fun a b _ _ => ?_⟩
  by_cases hab : a = i ∧ b = j
  · rw [if_pos hab, hab.1, hab.2, if_pos ⟨hb, by omega⟩]
  · rw [if_neg hab]
    refine if_congr (and_congr_right fun hab' => ?_) rfl rfl
    -- the number determines the entry of the band
    have := band_number hb
    have := band_number hab'
    omega

theorem convert_done (t : Tri K) {m : Mat K} {n q : Nat}
    (h : Mat.Is m n n (fun a b => if inBand a b ∧ 2 * a + b < q then dense t a b else 0))
    (hq : 3 * n ≤ q + 2) : Mat.Is m n n (dense t) :=
  h.congr fun a b _ _ => by
    by_cases hab : inBand a b
    · rw [if_pos ⟨hab, by omega⟩]
    · rw [if_neg fun h => hab h.1, dense_offband t a b hab]

end ConvertWrites

section Convert
variable {K : Type} [Add K] [Sub K] [Mul K] [Neg K] [Zero K] [One K] [BEq K] [ScalarExt K]

/-- (S) **`convert()`**: for every well-formed tridiagonal matrix of size n ≥ 1 (n = 1 and n = 2
    included) the call succeeds and returns a well-formed n × n dense matrix whose entry (i,j) is
    the tridiagonal entry for |i − j| ≤ 1 and `0` elsewhere, i.e. the dense twin `dense t`. -/
theorem convert_spec (t : Tri K) (h : WF t) :
    ∃ m, Tri.convert t = .ok m ∧ Mat.Is m t.n t.n (dense t) := by
  have hpos := h.pos
  have a0 : 0 < t.main.size := h.main ▸ hpos
  unfold Tri.convert
  simp only [Nat.ne_of_gt hpos, if_false]
  -- nothing is written yet; every write is the next entry of the band (`convert_write`)
  have I0 : Mat.Is (Mat.new t.n t.n (0 : K)) t.n t.n
      (fun a b => if inBand a b ∧ 2 * a + b < 0 then dense t a b else 0) :=
    (Mat.Is.of_new t.n t.n 0).congr fun a b _ _ => (if_neg fun h => Nat.not_lt_zero _ h.2).symm
  obtain ⟨d1, hd1, I1⟩ := convert_write t I0 (i := 0) (j := 0) hpos hpos (.inl rfl)
  rw [dense_diag] at hd1
  by_cases h1 : t.n = 1
  · rw [if_pos h1]
    refine ⟨d1, ?_, convert_done t I1 (by omega)⟩
    simp only [aget_getD a0 0, hd1, bind, Except.bind]
  · rw [if_neg h1]
    obtain ⟨a2, a5, a6, a1, a4, a3⟩ := h.ends h1
    -- the last row is row `p + 1`
    obtain ⟨p, hp1, hp2⟩ : ∃ p, t.n - 1 = p + 1 ∧ t.n - 2 = p :=
      ⟨t.n - 2, (Nat.sub_add_cancel (Nat.le_sub_one_of_lt a1)).symm, rfl⟩
    rw [hp1] at a6 a3 ⊢
    rw [hp2] at a5 a4 ⊢
    obtain ⟨d2, hd2, I2⟩ := convert_write t I1 (i := 0) (j := 1) hpos a1 (.inr (.inr rfl))
    rw [dense_upper] at hd2
    -- before row `k` the entries below the number of `(k, k − 1)` are written
    obtain ⟨d3, hd3, I3⟩ := Mat.forM'_inv
      (fun k (d : Mat K) => Mat.Is d t.n t.n
        (fun a b => if inBand a b ∧ 2 * a + b < 2 * k + (k - 1) then dense t a b else 0))
      1 (p + 1) d2
      (fun d i => do
        let a ← aget t.sub (i - 1)
        let d ← d.set i (i - 1) a
        let b ← aget t.main i
        let d ← d.set i i b
        let c ← aget t.sup i
        d.set i (i + 1) c)
      (Nat.succ_le_succ (Nat.zero_le p)) I2
      (by
        intro k s hk1 hk2 hs
        obtain ⟨m, rfl⟩ : ∃ m, k = m + 1 := ⟨k - 1, (Nat.sub_add_cancel hk1).symm⟩
        obtain ⟨(b4 : m < t.sub.size), b5, b6, (b1 : m < t.n), b2, b3⟩ := h.mid (hp1 ▸ hk2)
        obtain ⟨s1, e1, J1⟩ := convert_write t hs (i := m + 1) (j := m) b2 b1 (.inr (.inl rfl))
        obtain ⟨s2, e2, J2⟩ := convert_write t J1 (i := m + 1) (j := m + 1) b2 b2 (.inl rfl)
        obtain ⟨s3, e3, J3⟩ := convert_write t J2 (i := m + 1) (j := m + 1 + 1) b2 b3
          (.inr (.inr rfl))
        rw [dense_lower] at e1
        rw [dense_diag] at e2
        rw [dense_upper] at e3
        refine ⟨s3, ?_, ?_⟩
        · simp only [Nat.add_sub_cancel, aget_getD b4 0, aget_getD b5 0, aget_getD b6 0, e1, e2,
            e3, bind, Except.bind]
        · rw [show 2 * (m + 1 + 1) + (m + 1 + 1 - 1) = 2 * (m + 1) + (m + 1 - 1) + 1 + 1 + 1 by omega]
          exact J3)
    obtain ⟨d4, e4, I4⟩ := convert_write t I3 (i := p + 1) (j := p) a3 a4 (.inr (.inl rfl))
    obtain ⟨d5, e5, I5⟩ := convert_write t I4 (i := p + 1) (j := p + 1) a3 a3 (.inl rfl)
    rw [dense_lower] at e4
    rw [dense_diag] at e5
    refine ⟨d5, ?_, convert_done t I5 (by omega)⟩
    have hd3' := hd3
    simp only [bind, Except.bind] at hd3' ⊢
    simp only [aget_getD a0 0, hd1, aget_getD a2 0, hd2, hd3', aget_getD a5 0, e4, aget_getD a6 0, e5]

/-- (S) the size-0 matrix is rejected (class `range`) -/
theorem convert_guard (t : Tri K) (h : t.n = 0) : Tri.convert t = .error .range := by
  simp [Tri.convert, h]

/-- (S) reading the converted matrix: in range, entry (i,j) is the dense twin -/
theorem convert_get (t : Tri K) (h : WF t) (m : Mat K) (hc : Tri.convert t = .ok m) :
    m.WF ∧ m.rows = t.n ∧ m.cols = t.n ∧
      (∀ i j, i < t.n → j < t.n → inBand i j → m.get i j = Tri.get t i j) ∧
      (∀ i j, i < t.n → j < t.n → ¬ inBand i j → m.get i j = .ok 0) := by
  obtain ⟨m', hm', hI⟩ := convert_spec t h
  rw [hc] at hm'
  cases hm'
  refine ⟨hI.wf, hI.rows, hI.cols, ?_, ?_⟩
  · intro i j hi hj hb
    rw [hI.entry i j hi hj, get_dense t h i j hi hj hb]
  · intro i j hi hj hb
    rw [hI.entry i j hi hj, dense_offband t i j hb]

end Convert

section DenseTranspose
variable {K : Type} [Zero K]

theorem dense_transpose (t : Tri K) (i j : Nat) : dense (Tri.transpose t) i j = dense t j i := by
  by_cases hb : inBand i j
  · rcases hb with rfl | rfl | rfl
    · rw [dense_diag, dense_diag]; rfl
    · rw [dense_lower, dense_upper]; rfl
    · rw [dense_upper, dense_lower]; rfl
  · rw [dense_offband _ _ _ hb, dense_offband _ _ _ (mt inBand_symm hb)]

end DenseTranspose

section Diagrams
variable {K : Type} [Add K] [Sub K] [Mul K] [Neg K] [Zero K] [One K] [BEq K] [ScalarExt K]

theorem transpose_wf (t : Tri K) (h : WF t) : WF (Tri.transpose t) ∧ (Tri.transpose t).n = t.n :=
  ⟨⟨h.pos, h.main, h.sup, h.sub⟩, rfl⟩

/-- (S) **transpose commutes with the dense conversion**: converting `Tᵀ` gives exactly the
    matrix obtained by transposing the conversion of `T` with the dense `transpose`. -/
theorem transpose_dense (t : Tri K) (h : WF t) :
    ∃ m mt, Tri.convert t = .ok m ∧ Tri.convert (Tri.transpose t) = .ok mt ∧
      Mat.transpose m = .ok mt ∧ Mat.Is mt t.n t.n (fun i j => dense t j i) := by
  obtain ⟨m, hm, I⟩ := convert_spec t h
  obtain ⟨mt, hmt, It⟩ := convert_spec _ (transpose_wf t h).1
  have It' : Mat.Is mt t.n t.n (fun i j => dense t j i) :=
    It.congr (fun i j _ _ => dense_transpose t i j)
  obtain ⟨m', hm', I'⟩ := Mat.transpose_spec I
  have e : m' = mt := I'.unique It'
  subst e
  exact ⟨m, m', hm, hmt, hm', It'⟩

theorem zip3_convert (f : K → K → K) (h0 : f 0 0 = 0) (a b : Tri K) (ha : WF a) (hb : WF b)
    (hn : a.n = b.n) (opM : Mat K → Mat K → Res (Mat K))
    (hop : ∀ {ma mb : Mat K} {ea eb : Nat → Nat → K}, Mat.Is ma a.n a.n ea → Mat.Is mb a.n a.n eb →
      ∃ ms, opM ma mb = .ok ms ∧ Mat.Is ms a.n a.n (fun i j => f (ea i j) (eb i j))) :
    ∃ ma mb mc, Tri.convert a = .ok ma ∧ Tri.convert b = .ok mb ∧
      Tri.convert (zip3 f a b) = .ok mc ∧ opM ma mb = .ok mc := by
  obtain ⟨ma, hma, Ia⟩ := convert_spec a ha
  obtain ⟨mb, hmb, Ib⟩ := convert_spec b hb
  rw [← hn] at Ib
  obtain ⟨ms, hms, Is⟩ := hop Ia Ib
  obtain ⟨mc, hmc, Ic⟩ := convert_spec _ (zip3_wf f a b ha hb hn)
  rw [(Ic.congr fun i j _ _ => zip3_dense_all f h0 a b ha hb hn i j).unique Is] at hmc
  exact ⟨ma, mb, ms, hma, hmb, hmc, hms⟩

theorem map3_convert (f : K → K) (h0 : f 0 = 0) (t : Tri K) (h : WF t) (opM : Mat K → Res (Mat K))
    (hop : ∀ {m : Mat K} {e : Nat → Nat → K}, Mat.Is m t.n t.n e →
      ∃ ms, opM m = .ok ms ∧ Mat.Is ms t.n t.n (fun i j => f (e i j))) :
    ∃ m mc, Tri.convert t = .ok m ∧ Tri.convert (map3 f t) = .ok mc ∧ opM m = .ok mc := by
  obtain ⟨m, hm, I⟩ := convert_spec t h
  obtain ⟨ms, hms, Is⟩ := hop I
  obtain ⟨mc, hmc, Ic⟩ := convert_spec _ (map3_wf f t h)
  rw [(Ic.congr fun i j _ _ => map3_dense_all f h0 t i j).unique Is] at hmc
  exact ⟨m, ms, hm, hmc, hms⟩

/-- **`+` commutes with the dense conversion** as soon as `0 + 0 = 0` (the only fact about the
    scalar operations that is used: it says the absent entries stay absent). -/
theorem add_convert (h0 : (0 : K) + 0 = 0) (a b : Tri K) (ha : WF a) (hb : WF b) (hn : a.n = b.n) :
    ∃ c ma mb mc, Tri.add a b = .ok c ∧ Tri.convert a = .ok ma ∧ Tri.convert b = .ok mb ∧
      Tri.convert c = .ok mc ∧ Mat.add ma mb = .ok mc :=
  let ⟨ma, mb, mc, h⟩ := zip3_convert (· + ·) h0 a b ha hb hn Mat.add Mat.add_spec
  ⟨_, ma, mb, mc, add_eq a b ha hb hn, h⟩

theorem sub_convert (h0 : (0 : K) - 0 = 0) (a b : Tri K) (ha : WF a) (hb : WF b) (hn : a.n = b.n) :
    ∃ c ma mb mc, Tri.sub' a b = .ok c ∧ Tri.convert a = .ok ma ∧ Tri.convert b = .ok mb ∧
      Tri.convert c = .ok mc ∧ Mat.sub ma mb = .ok mc :=
  let ⟨ma, mb, mc, h⟩ := zip3_convert (· - ·) h0 a b ha hb hn Mat.sub Mat.sub_spec
  ⟨_, ma, mb, mc, sub_eq a b ha hb hn, h⟩

theorem neg_convert (h0 : -(0 : K) = 0) (t : Tri K) (h : WF t) :
    ∃ m mc, Tri.convert t = .ok m ∧ Tri.convert (Tri.neg t) = .ok mc ∧ Mat.neg m = .ok mc :=
  map3_convert (fun x => -x) h0 t h Mat.neg Mat.neg_spec

theorem smul_convert (t : Tri K) (h : WF t) (s : K) (h0 : (0 : K) * s = 0) :
    ∃ m mc, Tri.convert t = .ok m ∧ Tri.convert (Tri.smul t s) = .ok mc ∧
      Mat.smul m s = .ok mc :=
  map3_convert (· * s) h0 t h (Mat.smul · s) fun I => Mat.smul_spec I s

theorem sdiv_convert (t : Tri K) (h : WF t) (s : K) (q : K → K)
    (hq : ∀ x : K, divM x s = .ok (q x)) (h0 : q 0 = 0) :
    ∃ c m mc, Tri.sdiv t s = .ok c ∧ Tri.convert t = .ok m ∧ Tri.convert c = .ok mc ∧
      Mat.sdiv m s = .ok mc :=
  let ⟨m, mc, hc⟩ :=
    map3_convert q h0 t h (Mat.sdiv · s) fun I => Mat.sdiv_spec I s q fun _ _ _ _ => hq _
  ⟨_, m, mc, sdiv_eq t h s q (fun _ _ _ _ _ => hq _), hc⟩

/-- `s * T`: the whole dense twin is scaled as soon as `s * 0 = 0` -/
theorem lsmul_dense_all (s : K) (h0 : s * (0 : K) = 0) (t : Tri K) (i j : Nat) :
    dense (Tri.lsmul s t) i j = s * dense t i j :=
  map3_dense_all (s * ·) h0 t i j

theorem map3_convert_band (f : K → K) (t : Tri K) (h : WF t) (opM : Mat K → Res (Mat K))
    (hop : ∀ {m : Mat K} {e : Nat → Nat → K}, Mat.Is m t.n t.n e →
      ∃ ms, opM m = .ok ms ∧ Mat.Is ms t.n t.n (fun i j => f (e i j))) :
    ∃ m mc md, Tri.convert t = .ok m ∧ Tri.convert (map3 f t) = .ok mc ∧ opM m = .ok md ∧
      (∀ i j, i < t.n → j < t.n → inBand i j → mc.get i j = md.get i j) ∧
      (∀ i j, i < t.n → j < t.n → ¬ inBand i j → mc.get i j = .ok 0 ∧ md.get i j = .ok (f 0)) := by
  obtain ⟨m, hm, I⟩ := convert_spec t h
  obtain ⟨md, hmd, Id⟩ := hop I
  obtain ⟨mc, hmc, Ic⟩ := convert_spec _ (map3_wf f t h)
  refine ⟨m, mc, md, hm, hmc, hmd, fun i j hi hj hb => ?_, fun i j hi hj hb => ?_⟩
  · rw [Ic.entry i j hi hj, Id.entry i j hi hj, map3_dense f t h i j hi hj hb]
  · rw [Ic.entry i j hi hj, Id.entry i j hi hj, dense_offband _ i j hb, dense_offband _ i j hb]
    exact ⟨rfl, rfl⟩

/-- **`T += s` does NOT commute with the dense conversion**: it agrees with the dense `+= s`
    on the three diagonals, but outside the band the tridiagonal matrix keeps its structural
    zero where the dense twin receives `0 + s`. (This is the behaviour of the source:
    `add_assign` adds the scalar to the three stored vectors.) -/
theorem addS_convert (t : Tri K) (h : WF t) (s : K) :
    ∃ m mc md, Tri.convert t = .ok m ∧ Tri.convert (Tri.addS t s) = .ok mc ∧
      Mat.addS m s = .ok md ∧
      (∀ i j, i < t.n → j < t.n → inBand i j → mc.get i j = md.get i j) ∧
      (∀ i j, i < t.n → j < t.n → ¬ inBand i j →
        mc.get i j = .ok 0 ∧ md.get i j = .ok (0 + s)) :=
  map3_convert_band (· + s) t h (Mat.addS · s) fun I => Mat.addS_spec I s

/-- `T -= s`: as for `+=`, band entries only -/
theorem subS_convert (t : Tri K) (h : WF t) (s : K) :
    ∃ m mc md, Tri.convert t = .ok m ∧ Tri.convert (Tri.subS t s) = .ok mc ∧
      Mat.subS m s = .ok md ∧
      (∀ i j, i < t.n → j < t.n → inBand i j → mc.get i j = md.get i j) ∧
      (∀ i j, i < t.n → j < t.n → ¬ inBand i j →
        mc.get i j = .ok 0 ∧ md.get i j = .ok (0 - s)) :=
  map3_convert_band (· - s) t h (Mat.subS · s) fun I => Mat.subS_spec I s

end Diagrams

/-! ### class (E): over a field the absent entries take part in the arithmetic as exact zeros -/
section Exact
variable {K : Type} [Field K] [LinearOrder K]
attribute [local instance] Alg.scalarExt

/-- (E) `dense (T₁ + T₂) = dense T₁ + dense T₂` for ALL (i, j) -/
theorem add_exact (a b : Tri K) (ha : WF a) (hb : WF b) (hn : a.n = b.n) :
    ∃ c, Tri.add a b = .ok c ∧ WF c ∧ c.n = a.n ∧
      ∀ i j, dense c i j = dense a i j + dense b i j :=
  ⟨_, add_eq a b ha hb hn, zip3_wf _ a b ha hb hn, rfl,
    zip3_dense_all (· + ·) (add_zero 0) a b ha hb hn⟩

theorem sub_exact (a b : Tri K) (ha : WF a) (hb : WF b) (hn : a.n = b.n) :
    ∃ c, Tri.sub' a b = .ok c ∧ WF c ∧ c.n = a.n ∧
      ∀ i j, dense c i j = dense a i j - dense b i j :=
  ⟨_, sub_eq a b ha hb hn, zip3_wf _ a b ha hb hn, rfl,
    zip3_dense_all (· - ·) (sub_zero 0) a b ha hb hn⟩

theorem neg_exact (t : Tri K) (i j : Nat) : dense (Tri.neg t) i j = - dense t i j :=
  map3_dense_all (fun x => -x) neg_zero t i j

theorem smul_exact (t : Tri K) (s : K) (i j : Nat) : dense (Tri.smul t s) i j = dense t i j * s :=
  map3_dense_all (· * s) (zero_mul s) t i j

theorem lsmul_exact (s : K) (t : Tri K) (i j : Nat) : dense (Tri.lsmul s t) i j = s * dense t i j :=
  map3_dense_all (s * ·) (mul_zero s) t i j

/-- (E) division by a non-zero scalar divides the whole dense twin -/
theorem sdiv_exact (t : Tri K) (h : WF t) (s : K) (hs : s ≠ 0) :
    ∃ c, Tri.sdiv t s = .ok c ∧ WF c ∧ c.n = t.n ∧ ∀ i j, dense c i j = dense t i j / s :=
  ⟨_, sdiv_eq t h s (· / s) (fun _ _ _ _ _ => Alg.divM_ne hs), map3_wf _ t h, rfl,
    map3_dense_all (· / s) (zero_div s) t⟩

/-- (E) division by an exact zero is rejected (class `arith`) for every n ≥ 1 -/
theorem sdiv_zero (t : Tri K) (h : WF t) : Tri.sdiv t 0 = .error .arith :=
  sdiv_guard t h 0 .arith (fun x => Alg.divM_zero x)

/-- (E) the four ring operations commute with the dense conversion -/
theorem add_convert_exact (a b : Tri K) (ha : WF a) (hb : WF b) (hn : a.n = b.n) :
    ∃ c ma mb mc, Tri.add a b = .ok c ∧ Tri.convert a = .ok ma ∧ Tri.convert b = .ok mb ∧
      Tri.convert c = .ok mc ∧ Mat.add ma mb = .ok mc :=
  add_convert (add_zero 0) a b ha hb hn

theorem sub_convert_exact (a b : Tri K) (ha : WF a) (hb : WF b) (hn : a.n = b.n) :
    ∃ c ma mb mc, Tri.sub' a b = .ok c ∧ Tri.convert a = .ok ma ∧ Tri.convert b = .ok mb ∧
      Tri.convert c = .ok mc ∧ Mat.sub ma mb = .ok mc :=
  sub_convert (sub_zero 0) a b ha hb hn

theorem neg_convert_exact (t : Tri K) (h : WF t) :
    ∃ m mc, Tri.convert t = .ok m ∧ Tri.convert (Tri.neg t) = .ok mc ∧ Mat.neg m = .ok mc :=
  neg_convert neg_zero t h

theorem smul_convert_exact (t : Tri K) (h : WF t) (s : K) :
    ∃ m mc, Tri.convert t = .ok m ∧ Tri.convert (Tri.smul t s) = .ok mc ∧
      Mat.smul m s = .ok mc :=
  smul_convert t h s (zero_mul s)

theorem sdiv_convert_exact (t : Tri K) (h : WF t) (s : K) (hs : s ≠ 0) :
    ∃ c m mc, Tri.sdiv t s = .ok c ∧ Tri.convert t = .ok m ∧ Tri.convert c = .ok mc ∧
      Mat.sdiv m s = .ok mc :=
  sdiv_convert t h s (· / s) (fun _ => Alg.divM_ne hs) (zero_div s)

end Exact

section Examples
attribute [local instance] Alg.scalarExt

/-- [[1,6,0],[4,2,7],[0,5,3]] -/
def A3 : Tri ℚ := ⟨#[4, 5], #[1, 2, 3], #[6, 7], 3⟩

theorem A3_wf : WF A3 := ⟨by decide, rfl, rfl, rfl⟩

/-- the hypotheses of `convert_spec`, `add_spec`, `set_spec`, `transpose_dense` are satisfiable -/
example : ∃ m, Tri.convert A3 = .ok m ∧ Mat.Is m 3 3 (dense A3) := convert_spec A3 A3_wf

example : dense A3 1 0 = 4 ∧ dense A3 1 2 = 7 ∧ dense A3 0 2 = 0 ∧ dense A3 2 2 = 3 := by
  simp [dense, A3]

example : ∃ c, Tri.add A3 T3 = .ok c ∧ dense c 1 0 = 5 ∧ dense c 2 0 = 0 := by
  obtain ⟨c, hc, _, _, hd⟩ := add_exact A3 T3 A3_wf T3_wf rfl
  refine ⟨c, hc, ?_, ?_⟩
  · rw [hd]; simp [dense, A3, T3]; norm_num
  · rw [hd]; simp [dense]

example : ∃ t', Tri.set A3 1 2 9 = .ok t' ∧ dense t' 1 2 = 9 ∧ dense t' 1 0 = 4 := by
  obtain ⟨t', h1, _, _, _, h2, _, h3⟩ :=
    set_spec A3 A3_wf 1 2 9 (by decide) (by decide) (by decide)
  refine ⟨t', h1, h2, ?_⟩
  rw [h3 1 0 (Or.inr (by decide))]
  simp [dense, A3]

example : Tri.set A3 0 2 9 = .error .range := set_guard A3 0 2 9 (Or.inr (Or.inr (by decide)))
example : Tri.add A3 S2 = .error .size := add_guard A3 S2 (by decide)
example : Tri.sdiv A3 0 = .error .arith := sdiv_zero A3 A3_wf
end Examples

end Ohsl.Props.C05
