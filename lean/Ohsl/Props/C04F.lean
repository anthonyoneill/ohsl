/-
  Property C04 (part F) — backward error analysis of the banded solver in the "rounded reals"
  interpretation `Fl M` of the model (Ohsl/Lemmas/Rounding.lean): the SAME model definitions
  `Band.mulVec`, `Band.decompose` (`bandec`: compact-storage LU with row exchanges inside the band),
  `Band.solve` (`banbks`) instantiated at real numbers whose `+ - * /` round with relative error
  `≤ u` (standard model of floating-point arithmetic, no overflow / underflow).  Clause "and with
  backward error of the order of machine epsilon over floats" of C04.

  The transfer to the Rust `f64` code rests on the ASSUMPTION stated in Rounding.lean (IEEE binary64
  without overflow/underflow satisfies `FlModel` with `u = 2⁻⁵³`); it is not proved here.

  Notation.  `b : Band (Fl M)` well formed (`WFb b`), `n = b.n`, `m1 = b.m1`, `m2 = b.m2`,
  `mm = m1 + m2 + 1` (the width of the compact storage), `B = dense b` the dense twin.  For a state
  `s` returned by `decompose b`:
    `permF n s`  the row permutation `π` recorded in `s.index` (position `r` of the factorisation is
                 row `π r` of `B`; `permInvF n s` is its inverse, `PermOK n π σ`),
    `LhatF n m1 s`  the unit lower factor `L̂` of `P·B = L̂·Û` (real values): its strictly lower part
                 consists of the multipliers stored in `s.al`, entry `(r, t)` being the multiplier
                 that step `t` applied to the row which ends at position `r` (`bandec` does not
                 permute the stored multipliers; `Band.Lt` replays `s.index` to find them; without
                 exchanges `l̂_rt = al[t][r-t-1]`, `Lhat_noexchange`).  (Remark, not needed and not
                 proved: each COLUMN of `L̂` has at most `m1` non-zeros below the diagonal; with
                 exchanges a ROW may have many.)
    `UhatS mm s`  the upper factor `Û`: compact row `i` of `s.au` placed at its diagonal,
                 bandwidth `m1 + m2` (`Uhat_band`),
    `absLUF n m1 mm s = |L̂||Û|`,
    `stayF n m1 s r`  the number of elimination steps the row that ends at position `r` went through
                 (`stay_le`: `≤ r` and `≤ r + m1 − π r`; hence `≤ m1` without exchanges).
  `M.gq k = (1−u)^{−k} − 1` (`gam k ≤ gq k ≤ γ_k = k u/(1 − k u)`, see the header of C01F for why `gam`
  is not a valid constant of a backward error with unperturbed right-hand side).

  1. `mulVec_rounding`, `mulVec_rounding_band`: the product against the exact dense product.
  2. `decompose_backward`: the factorisation, WITH the row exchanges and with a constant that does
     not depend on `n`: an entry of column `c` enters the compact storage as a literal zero at step
     `c − (m1+m2)`, so it receives at most `m1 + m2` rounded updates, however far the exchanges move
     its row.  `multiplier_bound`: by `1 + u`, NOT by `1` (cf. C01F).
  3. `solve_backward`: `(B + ΔB) x̂ = rhs` EXACTLY, row by row against `|L̂||Û|`.  Its constant has a
     part from the factorisation, `stayF r` factors from the forward substitution — component `r` of
     the right-hand side is updated once per elimination step of its row —, and `mm` from the back
     substitution of a row of `Û` and its division.  `solve_backward_n`: uniform in `n`.
     `solve_backward_band_partial`: the BANDED form, if no row is moved down by more than `d`
     positions (`r ≤ π r + d`): a constant in `m1, m2, d` only.
       PARTIAL with respect to the ideal statement "`c` depends on the bandwidths only": that
       statement is NOT available with row exchanges — a row that the exchanges push down by `p`
       positions stays in the elimination window for `p` more steps, its right-hand side component is
       updated (with two roundings) in each of them, and these `p` factors land on one coefficient of
       the perturbed equation (informal remark: these roundings are genuine in IEEE arithmetic as
       well, the multipliers of such a row being non-zero fill-in).  `d = 0` is the case without
       exchanges:
     `solve_backward_noexchange`, `solve_backward_upper` (`m1 = 0`: no exchange can happen),
     `solve_residual`, `solve_backward_gamma` (the classical constants `γ_k = k u / (1 − k u)`).
  No sufficient condition for "no exchange" (e.g. diagonal dominance) is proved: dominance of the
  ROUNDED intermediate matrices does not follow from dominance of the input in the standard model.
-/
import Ohsl.Props.C04B
import Ohsl.Props.C01F
import Ohsl.Lemmas.BandRounding
import Ohsl.Lemmas.ExactModel
import Ohsl.Lemmas.BandDet
import Mathlib.Algebra.BigOperators.Intervals
import Mathlib.Algebra.Order.BigOperators.Group.Finset
import Mathlib.Algebra.BigOperators.Ring.Finset
import Mathlib.Tactic.Ring
import Mathlib.Tactic.NormNum
namespace Ohsl.Props.C04
open Ohsl Ohsl.Band Ohsl.Mat

section Structural
variable {K : Type} [Add K] [Mul K] [Zero K]

theorem rowFold_eq_foldl_map (b : Band K) (v : Array K) (i len : Nat) :
    rowFold b v i 0 len
      = ((List.range' (i - b.m1) len).map (fun j => dense b i j * v[j]?.getD 0)).foldl (· + ·) 0 := by
  unfold rowFold
  rw [List.foldl_map]

end Structural

theorem rowLen_le {K : Type} (b : Band K) (i : Nat) : rowLen b i ≤ b.m1 + b.m2 + 1 := by
  unfold rowLen; omega

section Rounding
variable {M : FlModel}

/-- **Rounding error of `&B * &v`**: for a well-formed banded matrix and a vector of length `n` the
product succeeds and component `i` differs from the exact dense product `Σ_j b_ij v_j` by at most
`gam (w_i + 1) · Σ_j |b_ij v_j|`, `w_i = rowLen b i` the number of in-band, in-matrix entries of row `i`
(one rounding per product, `w_i` rounded additions: the accumulation starts with `0 + p`, which the
abstract model rounds, see `Fl.foldl_sum_rounding_sharp`). -/
theorem mulVec_rounding {b : Band (Fl M)} (h : WFb b) (v : Array (Fl M)) (hv : v.size = b.n) :
    ∃ w, Band.mulVec b v = .ok w ∧ w.size = b.n ∧ ∀ i, i < b.n →
      |(w[i]?.getD 0).val - ∑ j ∈ Finset.range b.n, (dense b i j).val * (v[j]?.getD 0).val|
        ≤ M.gam (rowLen b i + 1)
          * ∑ j ∈ Finset.range b.n, |(dense b i j).val * (v[j]?.getD 0).val| := by
  obtain ⟨w, hw, hwn, hwe⟩ := Band.mulVec_ordered h v hv
  refine ⟨w, hw, hwn, ?_⟩
  intro i hi
  rw [hwe i hi, Option.getD_some, rowFold_eq_foldl_map]
  have hsum : ∀ g : Nat → ℝ, (∀ j, ¬ (inBand b i j ∧ i < b.n ∧ j < b.n) → g j = 0) →
      ((List.range' (i - b.m1) (rowLen b i)).map g).sum = ∑ j ∈ Finset.range b.n, g j := by
    intro g hg
    rw [sum_map_range']
    apply Finset.sum_subset
    · intro j hj
      exact Finset.mem_range.mpr ((row_cols b i j).mp (Finset.mem_Ico.mp hj)).2
    · intro j _ hnj
      exact hg j (fun h => hnj (Finset.mem_Ico.mpr ((row_cols b i j).mpr ⟨h.1, h.2.2⟩)))
  have hd0 : ∀ j, ¬ (inBand b i j ∧ i < b.n ∧ j < b.n) → (dense b i j).val = 0 := by
    intro j hj
    rw [dense_out hj]; rfl
  have h2 := (FlModel.Within.foldl_sum (List.range' (i - b.m1) (rowLen b i))
    (fun j => dense b i j * v[j]?.getD 0) (fun j => (dense b i j).val * (v[j]?.getD 0).val)
    (fun j => |(dense b i j).val * (v[j]?.getD 0).val|) fun j _ => (M.approx_fl _).within).1
  rw [List.length_range', hsum _ (fun j hj => by rw [hd0 j hj, zero_mul]),
    hsum _ (fun j hj => by rw [hd0 j hj, zero_mul, abs_zero])] at h2
  exact h2

/-- the uniform banded constant: `gam (m1 + m2 + 2)`, independent of `n` -/
theorem mulVec_rounding_band {b : Band (Fl M)} (h : WFb b) (v : Array (Fl M)) (hv : v.size = b.n) :
    ∃ w, Band.mulVec b v = .ok w ∧ w.size = b.n ∧ ∀ i, i < b.n →
      |(w[i]?.getD 0).val - ∑ j ∈ Finset.range b.n, (dense b i j).val * (v[j]?.getD 0).val|
        ≤ M.gam (b.m1 + b.m2 + 2)
          * ∑ j ∈ Finset.range b.n, |(dense b i j).val * (v[j]?.getD 0).val| := by
  obtain ⟨w, hw, hwn, hwe⟩ := mulVec_rounding h v hv
  refine ⟨w, hw, hwn, fun i hi => (hwe i hi).trans ?_⟩
  exact mul_le_mul_of_nonneg_right (M.gam_mono (by have := rowLen_le b i; omega))
    (Finset.sum_nonneg (fun _ _ => abs_nonneg _))

theorem decompose_ok_invF (hu : M.u < 1) {b : Band (Fl M)} (h : WFb b) {s : Dec (Fl M)}
    (hd : Band.decompose b = .ok s) : ∃ l,
      DecInvF M b.n b.m1 (b.m1 + b.m2 + 1) (fun i j => (dense b i j).val) b.n (s, l) := by
  by_cases hm : b.m1 ≤ b.n
  · obtain ⟨s', l, hdec, hinv⟩ := decompose_invF hu h hm
    rw [hd] at hdec
    cases hdec
    exact ⟨l, hinv⟩
  · rw [Band.decompose_rejects h (by omega)] at hd
    cases hd

/-- `Û` is upper triangular with bandwidth `mm - 1 = m1 + m2` -/
theorem Uhat_band (mm : Nat) (s : Dec (Fl M)) {t c : Nat} (h : c < t ∨ t + mm ≤ c) :
    UhatS mm s t c = 0 := by
  unfold UhatS UhatF
  rw [if_neg (by omega)]

theorem Lhat_diag (n m1 : Nat) (s : Dec (Fl M)) (r : Nat) : LhatF n m1 s r r = 1 := by
  unfold LhatF; rw [if_pos rfl]

/-- without row exchanges `L̂` is the banded matrix of the stored multipliers:
`l̂_rt = al[t][r - t - 1]` for `t < r ≤ t + m1`, zero elsewhere below the diagonal -/
theorem Lhat_noexchange (n m1 : Nat) (s : Dec (Fl M))
    (hne : ∀ k, k < n → idxf s.index k = k + 1) {r t : Nat} (hrt : t ≠ r) :
    LhatF n m1 s r t =
      if t < r ∧ r < min (m1 + t + 1) n then (Mat.entryOf s.al t (r - t - 1)).val else 0 := by
  have key : ∀ k, k ≤ n → ∀ r t,
      Lt n m1 (fun a b => (Mat.entryOf s.al a b).val) (idxf s.index) k r t =
        if t < k ∧ t < r ∧ r < min (m1 + t + 1) n then (Mat.entryOf s.al t (r - t - 1)).val
        else 0 := by
    intro k
    induction k with
    | zero => intro _ r t; simp [Lt]
    | succ k ih =>
      intro hk r t
      simp only [Lt]
      rw [hne k hk, Nat.add_sub_cancel, Mat.swapIdx_self, ih (Nat.le_of_succ_le hk)]
      by_cases htk : t = k
      · subst htk
        rw [if_pos rfl]
        by_cases hc : t < r ∧ r < min (m1 + t + 1) n
        · rw [if_pos hc, if_pos ⟨Nat.lt_succ_self t, hc.1, hc.2⟩]
        · rw [if_neg hc, if_neg fun c => hc c.2]
      · rw [if_neg htk]
        by_cases hc : t < k ∧ t < r ∧ r < min (m1 + t + 1) n
        · rw [if_pos hc, if_pos ⟨Nat.lt_succ_of_lt hc.1, hc.2.1, hc.2.2⟩]
        · rw [if_neg hc,
            if_neg fun c => hc ⟨Nat.lt_of_le_of_ne (Nat.le_of_lt_succ c.1) htk, c.2⟩]
  unfold LhatF
  rw [if_neg hrt, key n (Nat.le_refl _)]
  by_cases hc : t < r ∧ r < min (m1 + t + 1) n
  · rw [if_pos hc, if_pos ⟨Nat.lt_trans hc.1 (Nat.lt_of_lt_of_le hc.2 (Nat.min_le_right _ _)),
      hc.1, hc.2⟩]
  · rw [if_neg hc, if_neg fun c => hc c.2]

/-- **Banded LU with row exchanges inside the band, backward error** (Higham, Thm 9.3, for the
compact-storage elimination `bandec` of the model: multipliers `l̂ = fl(a_i0 / a_k0)`, shifted updates
`a_{i,j-1} ← fl(a_ij − fl(l̂ a_kj))`, magnitude pivoting inside the window of `m1 + 1` rows, zero pivots
skipped).  Whenever `decompose b` returns the state `s` (it never fails in `Fl M` when `m1 ≤ n`):
the exchange record describes a permutation `π`, `L̂` is unit lower triangular, `Û` is upper
triangular with bandwidth `m1 + m2`, and
`|(L̂Û)_{rc} − b_{π r, c}| ≤ gq (m1 + m2 + 1) · (|L̂||Û|)_{rc}` for all `r, c < n`
— a constant that depends on the bandwidths only. -/
theorem decompose_backward (hu : M.u < 1) {b : Band (Fl M)} (h : WFb b) {s : Dec (Fl M)}
    (hd : Band.decompose b = .ok s) :
    PermOK b.n (permF b.n s) (permInvF b.n s) ∧
    (∀ r t, r < t → LhatF b.n b.m1 s r t = 0) ∧
    (∀ r c, r < b.n → c < b.n →
      |∑ t ∈ Finset.range b.n, LhatF b.n b.m1 s r t * UhatS (b.m1 + b.m2 + 1) s t c
          - (dense b (permF b.n s r) c).val|
        ≤ M.gq (b.m1 + b.m2 + 1) * absLUF b.n b.m1 (b.m1 + b.m2 + 1) s r c) := by
  obtain ⟨l, hinv⟩ := decompose_ok_invF hu h hd
  have hidx := hinv.idx
  simp only at hidx
  refine ⟨?_, ?_, hinv.backward hu (by omega)⟩
  · exact permOK_pik b.n (Nat.le_refl _) (fun k' hk' => (idx_pred_bounds (hidx k' hk')).2.2)
  · intro r t hrt
    unfold LhatF
    rw [if_neg (by omega)]
    exact Lt_zero_of_row b.n (fun k' hk' => (idx_pred_bounds (hidx k' hk')).1) r t (Nat.le_of_lt hrt)

/-- **the multipliers are bounded by `1 + u`** (magnitude pivoting: every multiplier is the rounded
quotient of an entry by a pivot of at least its magnitude; the standard model allows rounding a
quotient `≤ 1` upwards past `1`, `Fl.abs_div_le`) -/
theorem multiplier_bound (hu : M.u < 1) {b : Band (Fl M)} (h : WFb b) {s : Dec (Fl M)}
    (hd : Band.decompose b = .ok s) :
    ∀ r t, t ≠ r → |LhatF b.n b.m1 s r t| ≤ 1 + M.u := by
  obtain ⟨l, hinv⟩ := decompose_ok_invF hu h hd
  intro r t hrt
  unfold LhatF
  rw [if_neg hrt]
  exact hinv.mult r t

theorem stay_le (hu : M.u < 1) {b : Band (Fl M)} (h : WFb b) {s : Dec (Fl M)}
    (hd : Band.decompose b = .ok s) (r : Nat) (hr : r < b.n) :
    stayF b.n b.m1 s r ≤ r ∧ stayF b.n b.m1 s r ≤ r + b.m1 - permF b.n s r := by
  obtain ⟨l, hinv⟩ := decompose_ok_invF hu h hd
  have hidx := hinv.idx
  simp only at hidx
  have hb : ∀ k', k' < b.n → k' ≤ idxf s.index k' - 1 ∧
      idxf s.index k' - 1 < min (b.m1 + k' + 1) b.n :=
    fun k' hk' => ⟨(idx_pred_bounds (hidx k' hk')).1, (idx_pred_bounds (hidx k' hk')).2.1⟩
  constructor
  · have := age_le (n := b.n) (m1 := b.m1) b.n (fun k' hk' => (hb k' hk').1) r
    unfold stayF; omega
  · have := age_le_disp (n := b.n) (m1 := b.m1) b.n hb r
    unfold stayF permF
    have e : min r b.n = r := by omega
    rw [e] at this
    exact this

/-- **`Band.solve`, backward error** (Higham, Thm 9.4, for `bandec` + `banbks`).  Whenever
`solve b rhs` returns `x̂` in `Fl M` (`b` well formed, `u < 1`): with `s` the state returned by
`decompose b`, `π` its row permutation, `(B + ΔB) x̂ = rhs` holds EXACTLY for the dense twin `B` and
`|ΔB_{π r, c}| ≤ (gq (m1+m2+1) + gq (stayF r + m1+m2+1)) · (|L̂||Û|)_{rc}` for all `r, c < n`, where
`stayF r` is the number of elimination steps the row that ends at position `r` went through.
All pivots of `Û` are non-zero. -/
theorem solve_backward (hu : M.u < 1) {b : Band (Fl M)} (h : WFb b) {rhs x : Array (Fl M)}
    (hs : Band.solve b rhs = .ok x) :
    ∃ s : Dec (Fl M), Band.decompose b = .ok s ∧ x.size = b.n ∧ rhs.size = b.n ∧
      PermOK b.n (permF b.n s) (permInvF b.n s) ∧
      (∀ i, i < b.n → UhatS (b.m1 + b.m2 + 1) s i i ≠ 0) ∧
      ∃ ΔB : Nat → Nat → ℝ,
        (∀ i, i < b.n →
          ∑ j ∈ Finset.range b.n, ((dense b i j).val + ΔB i j) * (x[j]?.getD 0).val
            = (rhs[i]?.getD 0).val) ∧
        ∀ r c, r < b.n → c < b.n → |ΔB (permF b.n s r) c| ≤
          (M.gq (b.m1 + b.m2 + 1) + M.gq (stayF b.n b.m1 s r + (b.m1 + b.m2 + 1)))
            * absLUF b.n b.m1 (b.m1 + b.m2 + 1) s r c := by
  obtain ⟨s, l, hdec, hm, hr, hxs, hinv, hpiv, ΔB', hrow, hbd⟩ := solve_backward_coreF hu h hs
  have hperm := (decompose_backward hu h hdec).1
  refine ⟨s, hdec, hxs, hr, hperm, ?_, fun i j => ΔB' (permInvF b.n s i) j, ?_, ?_⟩
  · intro i hi
    unfold UhatS UhatF
    rw [if_pos (by omega), Nat.sub_self]
    exact hpiv i hi
  · intro i hi
    obtain ⟨hσ, hπσ⟩ := hperm.2 i hi
    have := hrow (permInvF b.n s i) hσ
    rw [hπσ] at this
    exact this
  · intro r c hr' hc
    show |ΔB' (permInvF b.n s (permF b.n s r)) c| ≤ _
    rw [(hperm.1 r hr').2]
    exact hbd r c hr' hc

theorem solve_backward_n (hu : M.u < 1) {b : Band (Fl M)} (h : WFb b) {rhs x : Array (Fl M)}
    (hs : Band.solve b rhs = .ok x) :
    ∃ s : Dec (Fl M), Band.decompose b = .ok s ∧ x.size = b.n ∧
      PermOK b.n (permF b.n s) (permInvF b.n s) ∧
      ∃ ΔB : Nat → Nat → ℝ,
        (∀ i, i < b.n →
          ∑ j ∈ Finset.range b.n, ((dense b i j).val + ΔB i j) * (x[j]?.getD 0).val
            = (rhs[i]?.getD 0).val) ∧
        ∀ r c, r < b.n → c < b.n → |ΔB (permF b.n s r) c| ≤
          (M.gq (b.m1 + b.m2 + 1) + M.gq (b.n - 1 + (b.m1 + b.m2 + 1)))
            * absLUF b.n b.m1 (b.m1 + b.m2 + 1) s r c := by
  obtain ⟨s, hdec, hxs, _, hperm, _, ΔB, hsol, hbd⟩ := solve_backward hu h hs
  refine ⟨s, hdec, hxs, hperm, ΔB, hsol, fun r c hr hc => (hbd r c hr hc).trans ?_⟩
  have := (stay_le hu h hdec r hr).1
  exact mul_le_mul_of_nonneg_right
    (add_le_add (le_refl _) (FlModel.gq_mono hu (by omega))) (absLUF_nonneg _ _ _ _ _ _)

/-- **the banded form** — PARTIAL (see the header): if the exchanges move no row down by more than
`d` positions (`r ≤ π r + d` for all `r`), then
`|ΔB| ≤ (gq (m1+m2+1) + gq (2 m1 + m2 + 1 + d)) · Pᵀ|L̂||Û|`, a constant that depends on the
bandwidths and on `d` only, not on `n`.  What is missing for the ideal statement (a constant in
`m1, m2` alone) is a bound on `d`; none exists in general, and the dependence on `d` is genuine. -/
theorem solve_backward_band_partial (hu : M.u < 1) {b : Band (Fl M)} (h : WFb b)
    {rhs x : Array (Fl M)} (hs : Band.solve b rhs = .ok x) :
    ∃ s : Dec (Fl M), Band.decompose b = .ok s ∧ x.size = b.n ∧
      PermOK b.n (permF b.n s) (permInvF b.n s) ∧
      ∃ ΔB : Nat → Nat → ℝ,
        (∀ i, i < b.n →
          ∑ j ∈ Finset.range b.n, ((dense b i j).val + ΔB i j) * (x[j]?.getD 0).val
            = (rhs[i]?.getD 0).val) ∧
        ∀ d, (∀ r, r < b.n → r ≤ permF b.n s r + d) →
          ∀ r c, r < b.n → c < b.n → |ΔB (permF b.n s r) c| ≤
            (M.gq (b.m1 + b.m2 + 1) + M.gq (2 * b.m1 + b.m2 + 1 + d))
              * absLUF b.n b.m1 (b.m1 + b.m2 + 1) s r c := by
  obtain ⟨s, hdec, hxs, _, hperm, _, ΔB, hsol, hbd⟩ := solve_backward hu h hs
  refine ⟨s, hdec, hxs, hperm, ΔB, hsol, fun d hd r c hr hc => (hbd r c hr hc).trans ?_⟩
  have h1 := (stay_le hu h hdec r hr).2
  have h2 := hd r hr
  exact mul_le_mul_of_nonneg_right
    (add_le_add (le_refl _) (FlModel.gq_mono hu (by omega))) (absLUF_nonneg _ _ _ _ _ _)

theorem solve_backward_noexchange (hu : M.u < 1) {b : Band (Fl M)} (h : WFb b)
    {rhs x : Array (Fl M)} (hs : Band.solve b rhs = .ok x) :
    ∃ s : Dec (Fl M), Band.decompose b = .ok s ∧ x.size = b.n ∧
      ((∀ k, k < b.n → idxf s.index k = k + 1) →
        ∃ ΔB : Nat → Nat → ℝ,
          (∀ i, i < b.n →
            ∑ j ∈ Finset.range b.n, ((dense b i j).val + ΔB i j) * (x[j]?.getD 0).val
              = (rhs[i]?.getD 0).val) ∧
          ∀ r c, r < b.n → c < b.n → |ΔB r c| ≤
            (M.gq (b.m1 + b.m2 + 1) + M.gq (2 * b.m1 + b.m2 + 1))
              * absLUF b.n b.m1 (b.m1 + b.m2 + 1) s r c) := by
  obtain ⟨s, hdec, hxs, _, ΔB, hsol, hbd⟩ := solve_backward_band_partial hu h hs
  refine ⟨s, hdec, hxs, fun hne => ⟨ΔB, hsol, ?_⟩⟩
  have hid : ∀ r, permF b.n s r = r := by
    intro r
    unfold permF
    exact pik_id b.n (fun k' hk' => by rw [hne k' hk', Nat.add_sub_cancel]) r
  intro r c hr hc
  have := hbd 0 (fun r _ => by rw [hid r]; omega) r c hr hc
  rw [hid r, Nat.add_zero] at this
  exact this

/-- **upper-banded storage (`m1 = 0`)**: the window has a single row, so no exchange can happen, and
the banded constant holds unconditionally:
`|ΔB| ≤ (gq (m2+1) + gq (m2+1)) · |L̂||Û|` with `L̂ = I` — independent of `n`. -/
theorem solve_backward_upper (hu : M.u < 1) {b : Band (Fl M)} (h : WFb b) (hm : b.m1 = 0)
    {rhs x : Array (Fl M)} (hs : Band.solve b rhs = .ok x) :
    ∃ s : Dec (Fl M), Band.decompose b = .ok s ∧ x.size = b.n ∧
      ∃ ΔB : Nat → Nat → ℝ,
        (∀ i, i < b.n →
          ∑ j ∈ Finset.range b.n, ((dense b i j).val + ΔB i j) * (x[j]?.getD 0).val
            = (rhs[i]?.getD 0).val) ∧
        ∀ r c, r < b.n → c < b.n → |ΔB r c| ≤
          (M.gq (b.m2 + 1) + M.gq (b.m2 + 1)) * absLUF b.n b.m1 (b.m1 + b.m2 + 1) s r c := by
  obtain ⟨s, hdec, hxs, himp⟩ := solve_backward_noexchange hu h hs
  obtain ⟨l, hinv⟩ := decompose_ok_invF hu h hdec
  have hidx := hinv.idx
  simp only at hidx
  obtain ⟨ΔB, hsol, hbd⟩ := himp (fun k hk => by have := hidx k hk; omega)
  refine ⟨s, hdec, hxs, ΔB, hsol, fun r c hr hc => ?_⟩
  have := hbd r c hr hc
  have e1 : M.gq (b.m1 + b.m2 + 1) = M.gq (b.m2 + 1) := by rw [hm, Nat.zero_add]
  have e2 : M.gq (2 * b.m1 + b.m2 + 1) = M.gq (b.m2 + 1) := by
    rw [hm, Nat.mul_zero, Nat.zero_add]
  rw [e1, e2] at this
  exact this

/-- **residual form** (what a test oracle can check): the residual of the computed solution is
bounded componentwise, `|rhs − B x̂|_{π r} ≤ (gq (m1+m2+1) + gq (n − 1 + m1+m2+1)) · (|L̂||Û||x̂|)_r` -/
theorem solve_residual (hu : M.u < 1) {b : Band (Fl M)} (h : WFb b) {rhs x : Array (Fl M)}
    (hs : Band.solve b rhs = .ok x) :
    ∃ s : Dec (Fl M), Band.decompose b = .ok s ∧ x.size = b.n ∧
      PermOK b.n (permF b.n s) (permInvF b.n s) ∧
      ∀ r, r < b.n →
        |(rhs[permF b.n s r]?.getD 0).val
            - ∑ j ∈ Finset.range b.n, (dense b (permF b.n s r) j).val * (x[j]?.getD 0).val|
          ≤ (M.gq (b.m1 + b.m2 + 1) + M.gq (b.n - 1 + (b.m1 + b.m2 + 1)))
            * ∑ j ∈ Finset.range b.n,
                absLUF b.n b.m1 (b.m1 + b.m2 + 1) s r j * |(x[j]?.getD 0).val| := by
  obtain ⟨s, hdec, hxs, hperm, ΔB, hsol, hbd⟩ := solve_backward_n hu h hs
  refine ⟨s, hdec, hxs, hperm, fun r hr => ?_⟩
  have hπ := (hperm.1 r hr).1
  rw [← hsol _ hπ, ← Finset.sum_sub_distrib, Finset.mul_sum]
  refine (Finset.abs_sum_le_sum_abs _ _).trans (Finset.sum_le_sum ?_)
  intro j hj
  have e : ((dense b (permF b.n s r) j).val + ΔB (permF b.n s r) j) * (x[j]?.getD 0).val
      - (dense b (permF b.n s r) j).val * (x[j]?.getD 0).val
      = ΔB (permF b.n s r) j * (x[j]?.getD 0).val := by ring
  rw [e, abs_mul, ← mul_assoc]
  exact mul_le_mul_of_nonneg_right (hbd r j hr (Finset.mem_range.mp hj)) (abs_nonneg _)

/-- **the classical constants** for `solve_backward_n`: with `N = n + m1 + m2`,
`|ΔB| ≤ (γ_{m1+m2+1} + γ_N) · Pᵀ|L̂||Û|`, `γ_k = k u / (1 − k u)`, when `N u < 1` -/
theorem solve_backward_gamma {b : Band (Fl M)} (h : WFb b) {rhs x : Array (Fl M)}
    (hn : 1 ≤ b.n) (hNu : ((b.n + b.m1 + b.m2 : ℕ) : ℝ) * M.u < 1)
    (hs : Band.solve b rhs = .ok x) :
    ∃ s : Dec (Fl M), Band.decompose b = .ok s ∧ x.size = b.n ∧
      PermOK b.n (permF b.n s) (permInvF b.n s) ∧
      ∃ ΔB : Nat → Nat → ℝ,
        (∀ i, i < b.n →
          ∑ j ∈ Finset.range b.n, ((dense b i j).val + ΔB i j) * (x[j]?.getD 0).val
            = (rhs[i]?.getD 0).val) ∧
        ∀ r c, r < b.n → c < b.n → |ΔB (permF b.n s r) c| ≤
          (((b.m1 + b.m2 + 1 : ℕ) : ℝ) * M.u / (1 - ((b.m1 + b.m2 + 1 : ℕ) : ℝ) * M.u)
            + ((b.n + b.m1 + b.m2 : ℕ) : ℝ) * M.u / (1 - ((b.n + b.m1 + b.m2 : ℕ) : ℝ) * M.u))
            * absLUF b.n b.m1 (b.m1 + b.m2 + 1) s r c := by
  have hu0 := M.u_nonneg
  have hN1 : (1 : ℝ) ≤ ((b.n + b.m1 + b.m2 : ℕ) : ℝ) := by
    have : 1 ≤ b.n + b.m1 + b.m2 := by omega
    exact_mod_cast this
  have hu : M.u < 1 := lt_of_le_of_lt (le_mul_of_one_le_left hu0 hN1) hNu
  have hle : ((b.m1 + b.m2 + 1 : ℕ) : ℝ) ≤ ((b.n + b.m1 + b.m2 : ℕ) : ℝ) := by
    have : b.m1 + b.m2 + 1 ≤ b.n + b.m1 + b.m2 := by omega
    exact_mod_cast this
  have hmu : ((b.m1 + b.m2 + 1 : ℕ) : ℝ) * M.u < 1 :=
    lt_of_le_of_lt (mul_le_mul_of_nonneg_right hle hu0) hNu
  obtain ⟨s, hdec, hxs, hperm, ΔB, hsol, hbd⟩ := solve_backward_n hu h hs
  refine ⟨s, hdec, hxs, hperm, ΔB, hsol, fun r c hr hc => (hbd r c hr hc).trans ?_⟩
  have e : b.n - 1 + (b.m1 + b.m2 + 1) = b.n + b.m1 + b.m2 := by omega
  rw [e]
  exact mul_le_mul_of_nonneg_right
    (add_le_add (FlModel.gq_le_gamma _ hmu) (FlModel.gq_le_gamma _ hNu))
    (absLUF_nonneg _ _ _ _ _ _)

end Rounding

section Examples

/-- exact arithmetic is a model (`u = 0 < 1`); there all the constants vanish, `ΔB = 0`, and the
exact soundness theorem (`solve_sound` of C04B, for `Fl exact`) is recovered: `B x = rhs` -/
example {b : Band (Fl FlModel.exact)} (h : WFb b) {rhs x : Array (Fl FlModel.exact)}
    (hs : Band.solve b rhs = .ok x) :
    x.size = b.n ∧ ∀ i, i < b.n →
      ∑ j ∈ Finset.range b.n, (dense b i j).val * (x[j]?.getD 0).val = (rhs[i]?.getD 0).val := by
  obtain ⟨s, _, hxs, _, hperm, _, ΔB, hsol, hbd⟩ := solve_backward FlModel.exact_u_lt_one h hs
  refine ⟨hxs, fun i hi => ?_⟩
  rw [← hsol i hi]
  apply Finset.sum_congr rfl
  intro j hj
  obtain ⟨hσ, hπσ⟩ := hperm.2 i hi
  have h0 : ΔB i j = 0 := by
    simpa [hπσ] using hbd (permInvF b.n s i) j hσ (Finset.mem_range.mp hj)
  rw [h0, add_zero]

/-- in exact arithmetic the banded product is the exact dense product -/
example {b : Band (Fl FlModel.exact)} (h : WFb b) (v : Array (Fl FlModel.exact))
    (hv : v.size = b.n) :
    ∃ w, Band.mulVec b v = .ok w ∧ ∀ i, i < b.n →
      (w[i]?.getD 0).val = ∑ j ∈ Finset.range b.n, (dense b i j).val * (v[j]?.getD 0).val := by
  obtain ⟨w, hw, _, hwe⟩ := mulVec_rounding h v hv
  refine ⟨w, hw, fun i hi => ?_⟩
  exact FlModel.eq_of_abs_sub_le_exact (hwe i hi)

/-! the tridiagonal `3 × 3` system of C04B (`m1 = m2 = 1`, dense matrix `[[1,2,0],[3,4,1],[0,1,1]]`,
garbage `7` in the two padding slots) evaluated in the exact model: BOTH pivot steps exchange rows
(`index = [2,3,3]`), `L̂ = [[1,0,0],[0,1,0],[1/3,2/3,1]]`, `Û = [[3,4,1],[0,1,1],[0,0,-1]]`,
`π = (0 1 2 ↦ 1 2 0)` -/

namespace Ex

abbrev E := Fl FlModel.exact

theorem E.add_eq (a b : E) : a + b = ⟨a.val + b.val⟩ := rfl
theorem E.sub_eq (a b : E) : a - b = ⟨a.val - b.val⟩ := rfl
theorem E.mul_eq (a b : E) : a * b = ⟨a.val * b.val⟩ := rfl
theorem E.neg_eq (a : E) : -a = ⟨-a.val⟩ := rfl
theorem E.lt_eq (a b : E) : ScalarExt.lt a b = decide (a.val < b.val) := rfl
theorem E.divM_eq (a b : E) :
    divM a b = if b.val = 0 then .error .arith else .ok ⟨a.val / b.val⟩ := rfl

noncomputable def exBandE : Band E :=
  ⟨3, 1, 1, ⟨#[⟨7⟩, ⟨1⟩, ⟨2⟩, ⟨3⟩, ⟨4⟩, ⟨1⟩, ⟨1⟩, ⟨1⟩, ⟨7⟩], 3, 3⟩⟩
noncomputable def rhsE : Array E := #[⟨3⟩, ⟨8⟩, ⟨2⟩]

theorem wf_exBandE : WFb exBandE := ⟨_, Mat.Is.of_wf (by unfold Mat.WF; rfl)⟩

/-- the working storage after the first phase, after step 0, and after step 1 (the upper factor) -/
noncomputable def auS : Mat E := ⟨#[⟨1⟩, ⟨2⟩, 0, ⟨3⟩, ⟨4⟩, ⟨1⟩, ⟨1⟩, ⟨1⟩, ⟨7⟩], 3, 3⟩
noncomputable def au1 : Mat E := ⟨#[⟨3⟩, ⟨4⟩, ⟨1⟩, ⟨2/3⟩, ⟨-1/3⟩, 0, ⟨1⟩, ⟨1⟩, ⟨7⟩], 3, 3⟩
noncomputable def au2 : Mat E := ⟨#[⟨3⟩, ⟨4⟩, ⟨1⟩, ⟨1⟩, ⟨1⟩, ⟨7⟩, ⟨-1⟩, ⟨-14/3⟩, 0], 3, 3⟩

/-- step 0: `|1| < |3|`, rows 0 and 1 are exchanged, row 1 is eliminated with the multiplier `1/3`.
The stages that decide nothing about real numbers are evaluated by `rfl`, leaving the arithmetic
as written; the comparisons, zero tests and values are supplied as separate facts. -/
theorem step0_exBandE : decStep 3 3 ((⟨auS, ⟨#[0, 0, 0], 3, 1⟩, #[0, 0, 0], 1⟩ : Dec E), 1) 0
    = .ok (⟨au1, ⟨#[⟨1/3⟩, 0, 0], 3, 1⟩, #[2, 0, 0], -1⟩, 2) := by
  have p : forM' 1 2 ((⟨1⟩ : E), 0) (pivBody auS) = .ok (⟨3⟩, 1) := by
    norm_num [auS, forM', List.range', pivBody, Mat.get, aget, bind, Except.bind, pure,
      Except.pure, E.lt_eq, Fl.mag_eq, E.neg_eq]
  have z : ¬ ((⟨3⟩ : E) == 0) = true := by norm_num [Fl.ext_iff]
  have d : dumR (⟨1⟩ : E) ⟨3⟩ = .ok ⟨1/3⟩ := by norm_num [dumR, E.divM_eq, Fl.ext_iff]
  have e1 : (⟨2⟩ - ⟨1/3⟩ * ⟨4⟩ : E) = ⟨2/3⟩ := by norm_num [E.sub_eq, E.mul_eq]
  have e2 : ((0 : E) - ⟨1/3⟩ * ⟨1⟩) = ⟨-1/3⟩ := by norm_num [E.sub_eq, E.mul_eq, Fl.ext_iff]
  unfold au1
  rw [← e1, ← e2]
  exact decStep_of rfl rfl p rfl (by rw [if_neg z]; rfl) rfl
    (show (decElim 3 0 _ 1 >>= pure) = _ by rw [decElim_of rfl rfl d rfl]; rfl)

/-- step 1: `|2/3| < |1|`, rows 1 and 2 are exchanged, row 2 is eliminated with `2/3` -/
theorem step1_exBandE :
    decStep 3 3 ((⟨au1, ⟨#[⟨1/3⟩, 0, 0], 3, 1⟩, #[2, 0, 0], -1⟩ : Dec E), 2) 1
      = .ok (⟨au2, ⟨#[⟨1/3⟩, ⟨2/3⟩, 0], 3, 1⟩, #[2, 3, 0], - -1⟩, 3) := by
  have p : forM' 2 3 ((⟨2/3⟩ : E), 1) (pivBody au1) = .ok (⟨1⟩, 2) := by
    norm_num [au1, forM', List.range', pivBody, Mat.get, aget, bind, Except.bind, pure,
      Except.pure, E.lt_eq, Fl.mag_eq, E.neg_eq]
  have z : ¬ ((⟨1⟩ : E) == 0) = true := by norm_num [Fl.ext_iff]
  have d : dumR (⟨2/3⟩ : E) ⟨1⟩ = .ok ⟨2/3⟩ := by norm_num [dumR, E.divM_eq, Fl.ext_iff]
  have e1 : (⟨-1/3⟩ - ⟨2/3⟩ * ⟨1⟩ : E) = ⟨-1⟩ := by norm_num [E.sub_eq, E.mul_eq]
  have e2 : ((0 : E) - ⟨2/3⟩ * ⟨7⟩) = ⟨-14/3⟩ := by norm_num [E.sub_eq, E.mul_eq, Fl.ext_iff]
  unfold au2
  rw [← e1, ← e2]
  exact decStep_of rfl rfl p rfl (by rw [if_neg z]; rfl) rfl
    (show (decElim 3 1 _ 2 >>= pure) = _ by rw [decElim_of rfl rfl d rfl]; rfl)

/-- step 2: the window is the last row, nothing is exchanged or eliminated -/
theorem step2_exBandE (d : E) :
    decStep 3 3 ((⟨au2, ⟨#[⟨1/3⟩, ⟨2/3⟩, 0], 3, 1⟩, #[2, 3, 0], d⟩ : Dec E), 3) 2
      = .ok (⟨au2, ⟨#[⟨1/3⟩, ⟨2/3⟩, 0], 3, 1⟩, #[2, 3, 3], d⟩, 3) := by
  have z : ¬ ((⟨-1⟩ : E) == 0) = true := by norm_num [Fl.ext_iff]
  exact decStep_of (d0 := ⟨-1⟩) (p := ⟨-1⟩) rfl rfl rfl rfl (by rw [if_neg z]; rfl) rfl rfl

theorem decompose_exBandE :
    Band.decompose exBandE = .ok ⟨⟨#[⟨3⟩, ⟨4⟩, ⟨1⟩, ⟨1⟩, ⟨1⟩, ⟨7⟩, ⟨-1⟩, ⟨-14/3⟩, ⟨0⟩], 3, 3⟩,
      ⟨#[⟨1/3⟩, ⟨2/3⟩, ⟨0⟩], 3, 1⟩, #[2, 3, 3], ⟨1⟩⟩ := by
  have hd : (- -1 : E) = ⟨1⟩ := by norm_num [E.neg_eq, Fl.ext_iff]
  show ((decStep 3 3 ((⟨auS, ⟨#[0, 0, 0], 3, 1⟩, #[0, 0, 0], 1⟩ : Dec E), 1) 0 >>= fun s1 =>
    decStep 3 3 s1 1 >>= fun s2 => decStep 3 3 s2 2 >>= fun s3 => pure s3) >>= fun p => pure p.1) = _
  simp only [step0_exBandE, step1_exBandE, step2_exBandE, bind, Except.bind]
  rw [hd]
  rfl

/-- the dense matrix `[[1,2,0],[3,4,1],[0,1,1]]` has determinant `−3` and maps `[1,1,1]` to `rhsE`, so
`solve` returns `[1,1,1]` (`Band.solve_eq_of_sol`) -/
theorem solve_exBandE : Band.solve exBandE rhsE = .ok #[⟨1⟩, ⟨1⟩, ⟨1⟩] := by
  let _ := Fl.exactField
  let _ := Fl.exactPivotLaws
  refine solve_eq_of_sol wf_exBandE (by decide) rfl rfl ?_ fun i hi => Fl.ext ?_
  · show (Mat.toMat 3 (dense exBandE)).det ≠ 0
    rw [Matrix.det_fin_three]
    intro h
    have : (1 : ℝ) * 4 * 1 - 1 * 1 * 1 - 2 * 3 * 1 + 2 * 1 * 0 + 0 * 3 * 1 - 0 * 4 * 0 = 0 :=
      congrArg Fl.val h
    norm_num at this
  · show Fl.val (∑ j ∈ Finset.range 3, _) = _
    rw [Finset.sum_range_succ, Finset.sum_range_succ, Finset.sum_range_one]
    obtain rfl | rfl | rfl : i = 0 ∨ i = 1 ∨ i = 2 := by
      have : i < 3 := hi
      omega
    · show (1 : ℝ) * 1 + 2 * 1 + 0 * 1 = 3
      norm_num
    · show (3 : ℝ) * 1 + 4 * 1 + 1 * 1 = 8
      norm_num
    · show (0 : ℝ) * 1 + 1 * 1 + 1 * 1 = 2
      norm_num

/-- the hypotheses of `solve_backward` are satisfiable for a concrete tridiagonal system with
genuine row exchanges (`m1 = 1 > 0`), and its conclusion holds there with a permutation `π ≠ id` -/
example : ∃ (b : Band E) (rhs x : Array E), WFb b ∧ b.m1 = 1 ∧ FlModel.exact.u < 1 ∧
    Band.solve b rhs = .ok x ∧
    ∃ s : Dec E, Band.decompose b = .ok s ∧ permF b.n s 0 = 1 ∧ permF b.n s 2 = 0 ∧
      ∃ ΔB : Nat → Nat → ℝ,
        (∀ i, i < b.n →
          ∑ j ∈ Finset.range b.n, ((dense b i j).val + ΔB i j) * (x[j]?.getD 0).val
            = (rhs[i]?.getD 0).val) ∧
        ∀ r c, r < b.n → c < b.n → |ΔB (permF b.n s r) c| ≤
          (FlModel.exact.gq (b.m1 + b.m2 + 1)
              + FlModel.exact.gq (stayF b.n b.m1 s r + (b.m1 + b.m2 + 1)))
            * absLUF b.n b.m1 (b.m1 + b.m2 + 1) s r c := by
  have hu := FlModel.exact_u_lt_one
  obtain ⟨s, hd, _, _, _, _, ΔB, h1, h2⟩ := solve_backward hu wf_exBandE solve_exBandE
  -- `s` is the evaluated decomposition, whose permutation is read off by evaluation
  cases Except.ok.inj (decompose_exBandE.symm.trans hd)
  exact ⟨exBandE, rhsE, _, wf_exBandE, rfl, hu, solve_exBandE, _, hd, by decide, by decide, ΔB, h1,
    h2⟩

/-! a model that really rounds, `fl x = (1+u) x` (`FlModel.scale`), and the `1 × 1` banded system
`2 x = 6`: the computed solution is `3 (1+u) ≠ 3` (one rounded division), so `ΔB ≠ 0`; the
hypotheses of `solve_backward` are satisfiable there for every `0 ≤ u < 1` -/

section Scale
variable (u : ℝ) (hu0 : 0 ≤ u)

abbrev S := Fl (FlModel.scale u hu0)

theorem S.lt_eq (a b : S u hu0) : ScalarExt.lt a b = decide (a.val < b.val) := rfl
theorem S.divM_eq (a b : S u hu0) :
    divM a b = if b.val = 0 then .error .arith else .ok ⟨(1 + u) * (a.val / b.val)⟩ := rfl

theorem solve_scale :
    Band.solve (⟨1, 0, 0, ⟨#[⟨2⟩], 1, 1⟩⟩ : Band (S u hu0)) #[⟨6⟩] = .ok #[⟨(1 + u) * 3⟩] := by
  have z : ¬ ((⟨2⟩ : S u hu0) == 0) = true := by norm_num [Fl.ext_iff]
  have hdec : Band.decompose (⟨1, 0, 0, ⟨#[⟨2⟩], 1, 1⟩⟩ : Band (S u hu0))
      = .ok ⟨⟨#[⟨2⟩], 1, 1⟩, ⟨#[], 1, 0⟩, #[1], 1⟩ := by
    show ((decStep 1 1 ((⟨⟨#[⟨2⟩], 1, 1⟩, ⟨#[], 1, 0⟩, #[0], 1⟩ : Dec (S u hu0)), 0) 0
      >>= fun s => pure s) >>= fun p => pure p.1) = _
    rw [decStep_of (d0 := ⟨2⟩) (p := ⟨2⟩) rfl rfl rfl rfl (by rw [if_neg z]; rfl) rfl rfl]
    rfl
  have d : divM (⟨6⟩ : S u hu0) ⟨2⟩ = .ok ⟨(1 + u) * 3⟩ := by norm_num [S.divM_eq, Fl.ext_iff]
  unfold Band.solve
  rw [if_neg (fun h => h rfl), hdec]
  show ((backBody ⟨#[⟨2⟩], 1, 1⟩ 1 (#[(⟨6⟩ : S u hu0)], 1) 0 >>= fun s => pure s)
    >>= fun p => pure p.1) = _
  rw [backBody_ok.mpr ⟨_, _, _, _, _, rfl, rfl, rfl, d, rfl, rfl⟩]
  rfl

example (hu1 : u < 1) :
    ∃ (b : Band (S u hu0)) (rhs x : Array (S u hu0)), WFb b ∧ Band.solve b rhs = .ok x ∧
      (x[0]?.getD 0).val = (1 + u) * 3 ∧
      ∃ (s : Dec (S u hu0)) (ΔB : Nat → Nat → ℝ), Band.decompose b = .ok s ∧
        ((dense b 0 0).val + ΔB 0 0) * (x[0]?.getD 0).val = (rhs[0]?.getD 0).val ∧
        |ΔB (permF 1 s 0) 0| ≤ ((FlModel.scale u hu0).gq 1 + (FlModel.scale u hu0).gq (0 + 1))
          * absLUF 1 0 1 s 0 0 := by
  have hw : WFb (⟨1, 0, 0, ⟨#[⟨2⟩], 1, 1⟩⟩ : Band (S u hu0)) :=
    ⟨_, Mat.Is.of_wf (by unfold Mat.WF; rfl)⟩
  have hu : (FlModel.scale u hu0).u < 1 := hu1
  obtain ⟨s, hd, _, _, _, _, ΔB, hsol, hbd⟩ := solve_backward hu hw (solve_scale u hu0)
  refine ⟨_, _, _, hw, solve_scale u hu0, rfl, s, ΔB, hd, ?_, ?_⟩
  · have := hsol 0 (by show 0 < 1; omega)
    simpa using this
  · have h1 := hbd 0 0 (by show 0 < 1; omega) (by show 0 < 1; omega)
    have h2 := (stay_le hu hw hd 0 (by show 0 < 1; omega)).1
    have h3 : stayF 1 0 s 0 = 0 := Nat.le_zero.mp h2
    rw [h3] at h1
    exact h1

end Scale

end Ex

end Examples

end Ohsl.Props.C04
