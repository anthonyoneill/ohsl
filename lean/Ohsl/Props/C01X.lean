/-
  Property C01 (continued) — the exact-arithmetic theorems about the dense direct solvers for
  EVERY exact element type, complex scalars included (model: Ohsl/Model/Solve.lean).

  C01S / C01C state soundness, uniqueness and completeness for a linearly ordered field `K` with
  the interpretation `Alg.scalarExt` (`mag = |·|`, `lt = <`).  That does not cover
  `Complex<f64>`-like scalars: ℂ has no compatible order, and the code pivots on the modulus there
  (`mag z = |z| + 0i`, compared with the lexicographic `<`).  The proofs, however, never use the
  order of `K`; they use `Alg.DivLaw K` (`divM` is the division, failing exactly on a zero divisor)
  and `Alg.PivotLaws K` (`lt (mag a) (mag b)` compares a `size` in some linear order, least exactly
  at `0`).

  Generic theorems (`…_gen`): `K` any field, ANY `ScalarExt K`/`BEq K` instances satisfying those
  laws (`BEq` lawful).  The theorems of C01S/C01C are the instance `Alg.pivotLaws` (size `|·|`).

  Complex theorems (`…_cx`): matrices over the model's own complex type `Cx ℝ` with the model's
  own instances (`Cx.add`, `Cx.mul`, …, `Cx.beq`, `Cx.instScalarExt`: `divM = Cx.div`,
  `lt = Cx.lt`, `mag z = ⟨Cx.abs z, 0⟩`; over ℝ the `f64` primitives are the real functions of
  Ohsl/Lemmas/RealTransc.lean).  Equations and determinants are stated in Mathlib's ℂ through
  `toC : Cx ℝ → ℂ` (`toC ⟨x, y⟩ = x + iy`, a bijection commuting with the operations, C13R):
  the system is `Σ_j toC (a i j) · toC x_j = toC b_i`, "nonsingular" is
  `Matrix.det (Matrix.of fun i j : Fin n => toC (a i j)) ≠ 0` with `Matrix.det` over ℂ.
-/
import Ohsl.Props.C01C
import Ohsl.Lemmas.CxField
import Mathlib.Algebra.BigOperators.Fin
set_option linter.unusedSectionVars false
namespace Ohsl.Props.C01
open Ohsl Ohsl.Mat

section Gen
variable {K : Type} [Field K] [BEq K] [LawfulBEq K] [ScalarExt K] [DecidableEq K]

section Div
variable [Alg.DivLaw K]

/-- **Soundness of `solve_basic`, any exact field** (`Alg.DivLaw` only; the pivot comparison may
    be arbitrary): any returned vector has length `n` and satisfies every equation exactly. -/
theorem solveBasic_sound_gen {n : Nat} (hn : 1 ≤ n) {A : Mat K} {a : Nat → Nat → K}
    (hA : Mat.Is A n n a) {b x : Array K} (hb : b.size = n)
    (h : Mat.solveBasic A b = .ok x) :
    x.size = n ∧
      ∀ i, i < n → ∑ j ∈ Finset.range n, a i j * (x[j]?.getD 0) = b[i]?.getD 0 :=
  (Mat.solveBasic_spec hn hA hb h).imp_right And.left

/-- a successful `solve_basic` certifies uniqueness of the solution -/
theorem solveBasic_unique_gen {n : Nat} (hn : 1 ≤ n) {A : Mat K} {a : Nat → Nat → K}
    (hA : Mat.Is A n n a) {b x : Array K} (hb : b.size = n)
    (h : Mat.solveBasic A b = .ok x) (z : Nat → K)
    (hz : ∀ i, i < n → ∑ j ∈ Finset.range n, a i j * z j = b[i]?.getD 0) :
    ∀ j, j < n → z j = x[j]?.getD 0 :=
  (Mat.solveBasic_spec hn hA hb h).2.2.2 z hz

/-- a value returned by `solve_basic` certifies nonsingularity -/
theorem solveBasic_nonsingular_gen {n : Nat} (hn : 1 ≤ n) {A : Mat K} {a : Nat → Nat → K}
    (hA : Mat.Is A n n a) {b x : Array K} (hb : b.size = n)
    (h : Mat.solveBasic A b = .ok x) :
    Matrix.det (Matrix.of fun (i j : Fin n) => a i.val j.val) ≠ 0 :=
  (Mat.solveBasic_spec hn hA hb h).2.2.1

end Div

end Gen

section LU
variable {K : Type} [Field K] [BEq K] [LawfulBEq K] [ScalarExt K] [Alg.PivotLaws K]

theorem solveLU_sound_gen {n : Nat} (hn : 1 ≤ n) {A : Mat K}
    {a : Nat → Nat → K} (hA : Mat.Is A n n a) {b x : Array K} (hb : b.size = n)
    (h : Mat.solveLU A b = .ok x) :
    x.size = n ∧
      ∀ i, i < n → ∑ j ∈ Finset.range n, a i j * (x[j]?.getD 0) = b[i]?.getD 0 :=
  (Mat.solveLU_spec hn hA hb h).imp_right And.left

theorem solvers_agree_gen {n : Nat} (hn : 1 ≤ n) {A : Mat K}
    {a : Nat → Nat → K} (hA : Mat.Is A n n a) {b x₁ x₂ : Array K} (hb : b.size = n)
    (h₁ : Mat.solveBasic A b = .ok x₁) (h₂ : Mat.solveLU A b = .ok x₂) : x₁ = x₂ :=
  Mat.solvers_agree hn hA hb h₁ h₂

theorem solveLU_complete_gen {n : Nat} (hn : 1 ≤ n) {A : Mat K} {a : Nat → Nat → K}
    (hA : Mat.Is A n n a) {b : Array K} (hb : b.size = n)
    (hdet : Matrix.det (Matrix.of fun (i j : Fin n) => a i.val j.val) ≠ 0) :
    ∃ x, Mat.solveLU A b = .ok x :=
  Mat.solveLU_complete hn hA hb hdet

theorem solveLU_nonsingular_gen {n : Nat} (hn : 1 ≤ n) {A : Mat K} {a : Nat → Nat → K}
    (hA : Mat.Is A n n a) {b x : Array K} (hb : b.size = n)
    (h : Mat.solveLU A b = .ok x) :
    Matrix.det (Matrix.of fun (i j : Fin n) => a i.val j.val) ≠ 0 :=
  (Mat.solveLU_spec hn hA hb h).2.2

theorem solveLU_ok_iff_gen {n : Nat} (hn : 1 ≤ n) {A : Mat K} {a : Nat → Nat → K}
    (hA : Mat.Is A n n a) {b : Array K} (hb : b.size = n) :
    (∃ x, Mat.solveLU A b = .ok x) ↔
      Matrix.det (Matrix.of fun (i j : Fin n) => a i.val j.val) ≠ 0 :=
  ⟨fun ⟨_, h⟩ => solveLU_nonsingular_gen hn hA hb h, solveLU_complete_gen hn hA hb⟩

end LU

section Gen
variable {K : Type} [Field K] [BEq K] [LawfulBEq K] [ScalarExt K] [DecidableEq K]
  [Alg.PivotLaws K]

/-- **Completeness of `solve_basic`**: a nonsingular system is never refused -/
theorem solveBasic_complete_gen {n : Nat} (hn : 1 ≤ n) {A : Mat K} {a : Nat → Nat → K}
    (hA : Mat.Is A n n a) {b : Array K} (hb : b.size = n)
    (hdet : Matrix.det (Matrix.of fun (i j : Fin n) => a i.val j.val) ≠ 0) :
    ∃ x, Mat.solveBasic A b = .ok x :=
  Mat.solveBasic_complete hn hA hb hdet

theorem solveBasic_ok_iff_gen {n : Nat} (hn : 1 ≤ n) {A : Mat K} {a : Nat → Nat → K}
    (hA : Mat.Is A n n a) {b : Array K} (hb : b.size = n) :
    (∃ x, Mat.solveBasic A b = .ok x) ↔
      Matrix.det (Matrix.of fun (i j : Fin n) => a i.val j.val) ≠ 0 :=
  ⟨fun ⟨_, h⟩ => solveBasic_nonsingular_gen hn hA hb h, solveBasic_complete_gen hn hA hb⟩

/-- the two direct solvers accept exactly the same systems -/
theorem solvers_ok_iff_gen {n : Nat} (hn : 1 ≤ n) {A : Mat K} {a : Nat → Nat → K}
    (hA : Mat.Is A n n a) {b b' : Array K} (hb : b.size = n) (hb' : b'.size = n) :
    (∃ x, Mat.solveBasic A b = .ok x) ↔ (∃ x, Mat.solveLU A b' = .ok x) :=
  (solveBasic_ok_iff_gen hn hA hb).trans (solveLU_ok_iff_gen hn hA hb').symm

/-- **Correctness of the dense direct solvers, any exact element type**: for a nonsingular system
    both solvers return the SAME vector; it has length `n`, solves the system exactly and is the
    only solution. -/
theorem solve_correct_gen {n : Nat} (hn : 1 ≤ n) {A : Mat K} {a : Nat → Nat → K}
    (hA : Mat.Is A n n a) {b : Array K} (hb : b.size = n)
    (hdet : Matrix.det (Matrix.of fun (i j : Fin n) => a i.val j.val) ≠ 0) :
    ∃ x, Mat.solveBasic A b = .ok x ∧ Mat.solveLU A b = .ok x ∧ x.size = n ∧
      (∀ i, i < n → ∑ j ∈ Finset.range n, a i j * (x[j]?.getD 0) = b[i]?.getD 0) ∧
      (∀ z : Nat → K, (∀ i, i < n → ∑ j ∈ Finset.range n, a i j * z j = b[i]?.getD 0) →
        ∀ j, j < n → z j = x[j]?.getD 0) :=
  Mat.solve_correct hn hA hb hdet

end Gen

section Ordered
variable {K : Type} [Field K] [LinearOrder K] [IsStrictOrderedRing K]
attribute [local instance] Ohsl.Alg.scalarExt

/-- `solve_correct` of C01C is the instance `Alg.pivotLaws` (size `|·|`) of `solve_correct_gen` -/
example {n : Nat} (hn : 1 ≤ n) {A : Mat K} {a : Nat → Nat → K}
    (hA : Mat.Is A n n a) {b : Array K} (hb : b.size = n)
    (hdet : Matrix.det (Matrix.of fun (i j : Fin n) => a i.val j.val) ≠ 0) :
    ∃ x, Mat.solveBasic A b = .ok x ∧ Mat.solveLU A b = .ok x ∧ x.size = n ∧
      (∀ i, i < n → ∑ j ∈ Finset.range n, a i j * (x[j]?.getD 0) = b[i]?.getD 0) ∧
      (∀ z : Nat → K, (∀ i, i < n → ∑ j ∈ Finset.range n, a i j * z j = b[i]?.getD 0) →
        ∀ j, j < n → z j = x[j]?.getD 0) :=
  solve_correct_gen hn hA hb hdet

end Ordered

section Complex
open Ohsl.RealI Ohsl.CxField Ohsl.Props.C13 Ohsl.Props.C14

/-- the system `A z = b` over `Cx ℝ`, written in ℂ -/
def SolC (n : Nat) (a : Nat → Nat → Cx ℝ) (b : Array (Cx ℝ)) (z : Nat → Cx ℝ) : Prop :=
  ∀ i, i < n → ∑ j ∈ Finset.range n, toC (a i j) * toC (z j) = toC (b[i]?.getD 0)

/-- the complex determinant of the matrix described by `a` -/
noncomputable def detC (n : Nat) (a : Nat → Nat → Cx ℝ) : ℂ :=
  Matrix.det (Matrix.of fun (i j : Fin n) => toC (a i.val j.val))

theorem detC_eq (n : Nat) (a : Nat → Nat → Cx ℝ) : detC n a = (toCMat n a).det := rfl

theorem solC_iff (n : Nat) (a : Nat → Nat → Cx ℝ) (b : Array (Cx ℝ)) (z : Nat → Cx ℝ) :
    SolC n a b z ↔
      ∀ i, i < n → @Finset.sum _ _ CxField.field.toAddCommMonoid (Finset.range n)
        (fun j => a i j * z j) = b[i]?.getD 0 := by
  let _ := CxField.field
  have e : ∀ f : Nat → Cx ℝ, toC (∑ j ∈ Finset.range n, f j) = ∑ j ∈ Finset.range n, toC (f j) :=
    fun f => map_sum CxField.toCHom f _
  unfold SolC
  refine forall_congr' fun i => forall_congr' fun _ => ?_
  rw [← toC_inj, e]
  simp only [toC_mul]

theorem detC_ne_zero_iff (n : Nat) (a : Nat → Nat → Cx ℝ) :
    detC n a ≠ 0 ↔
      @Matrix.det _ _ _ _ CxField.field.toCommRing
        (Matrix.of fun (i j : Fin n) => a i.val j.val) ≠ 0 :=
  (CxField.det_ne_zero_iff n a).symm

variable {n : Nat} {A : Mat (Cx ℝ)} {a : Nat → Nat → Cx ℝ}

/-- **Soundness of `solve_basic` over complex scalars**: any vector returned for a well-formed
    `n × n` complex system has length `n` and solves it exactly (equations read in ℂ). -/
theorem solveBasic_sound_cx (hn : 1 ≤ n) (hA : Mat.Is A n n a) {b x : Array (Cx ℝ)}
    (hb : b.size = n) (h : Mat.solveBasic A b = .ok x) :
    x.size = n ∧ SolC n a b (fun j => x[j]?.getD 0) := by
  obtain ⟨hs, hsol⟩ := @solveBasic_sound_gen (Cx ℝ) CxField.field _ _ _ (Classical.decEq _) _
    n hn A a hA b x hb h
  exact ⟨hs, (solC_iff n a b _).2 hsol⟩

/-- **Soundness of `solve_lu` over complex scalars** (the factorisation pivots on the modulus) -/
theorem solveLU_sound_cx (hn : 1 ≤ n) (hA : Mat.Is A n n a) {b x : Array (Cx ℝ)}
    (hb : b.size = n) (h : Mat.solveLU A b = .ok x) :
    x.size = n ∧ SolC n a b (fun j => x[j]?.getD 0) := by
  obtain ⟨hs, hsol⟩ := @solveLU_sound_gen (Cx ℝ) CxField.field _ _ _ _
    n hn A a hA b x hb h
  exact ⟨hs, (solC_iff n a b _).2 hsol⟩

/-- a successful complex `solve_basic` certifies that the system has no other solution -/
theorem solveBasic_unique_cx (hn : 1 ≤ n) (hA : Mat.Is A n n a) {b x : Array (Cx ℝ)}
    (hb : b.size = n) (h : Mat.solveBasic A b = .ok x) (z : Nat → Cx ℝ) (hz : SolC n a b z) :
    ∀ j, j < n → z j = x[j]?.getD 0 :=
  @solveBasic_unique_gen (Cx ℝ) CxField.field _ _ _ (Classical.decEq _) _
    n hn A a hA b x hb h z ((solC_iff n a b z).1 hz)

/-- the two solvers agree on complex systems whenever both return a value -/
theorem solvers_agree_cx (hn : 1 ≤ n) (hA : Mat.Is A n n a) {b x₁ x₂ : Array (Cx ℝ)}
    (hb : b.size = n) (h₁ : Mat.solveBasic A b = .ok x₁) (h₂ : Mat.solveLU A b = .ok x₂) :
    x₁ = x₂ :=
  @solvers_agree_gen (Cx ℝ) CxField.field _ _ _ _ n hn A a hA b x₁ x₂ hb h₁ h₂

/-- complex `solve_basic` returns a value **if and only if** `det A ≠ 0` (determinant over ℂ) -/
theorem solveBasic_ok_iff_cx (hn : 1 ≤ n) (hA : Mat.Is A n n a) {b : Array (Cx ℝ)}
    (hb : b.size = n) : (∃ x, Mat.solveBasic A b = .ok x) ↔ detC n a ≠ 0 := by
  rw [detC_ne_zero_iff]
  exact @solveBasic_ok_iff_gen (Cx ℝ) CxField.field _ _ _ (Classical.decEq _) _ n hn A a hA b hb

/-- complex `solve_lu` returns a value **if and only if** `det A ≠ 0` -/
theorem solveLU_ok_iff_cx (hn : 1 ≤ n) (hA : Mat.Is A n n a) {b : Array (Cx ℝ)}
    (hb : b.size = n) : (∃ x, Mat.solveLU A b = .ok x) ↔ detC n a ≠ 0 := by
  rw [detC_ne_zero_iff]
  exact @solveLU_ok_iff_gen (Cx ℝ) CxField.field _ _ _ _ n hn A a hA b hb

/-- a singular complex system is refused by both solvers whatever the right-hand side -/
theorem singular_rejects_cx (hn : 1 ≤ n) (hA : Mat.Is A n n a) {b : Array (Cx ℝ)}
    (hb : b.size = n) (hdet : detC n a = 0) :
    (∃ e, Mat.solveBasic A b = .error e) ∧ (∃ e, Mat.solveLU A b = .error e) := by
  have h0 : @Matrix.det _ _ _ _ CxField.field.toCommRing
      (Matrix.of fun (i j : Fin n) => a i.val j.val) = 0 := by
    by_contra hne
    exact (detC_ne_zero_iff n a).2 hne hdet
  exact ⟨⟨.arith, @Mat.solveBasic_singular (Cx ℝ) CxField.field _ _ _ n hn A a hA b hb h0⟩,
    ⟨.arith, @Mat.solveLU_singular (Cx ℝ) CxField.field _ _ _ _ n A a hA b hb h0⟩⟩

/-- **Correctness of the dense direct solvers over complex scalars**: for a nonsingular complex
    system both `solve_basic` and `solve_lu` return a value, the SAME vector `x`; it has length
    `n`, solves the system exactly, and every solution of the system coincides with it. -/
theorem solve_correct_cx (hn : 1 ≤ n) (hA : Mat.Is A n n a) {b : Array (Cx ℝ)}
    (hb : b.size = n) (hdet : detC n a ≠ 0) :
    ∃ x, Mat.solveBasic A b = .ok x ∧ Mat.solveLU A b = .ok x ∧ x.size = n ∧
      SolC n a b (fun j => x[j]?.getD 0) ∧
      (∀ z : Nat → Cx ℝ, SolC n a b z → ∀ j, j < n → z j = x[j]?.getD 0) := by
  obtain ⟨x, h1, h2, hs, hsol, hu⟩ := @solve_correct_gen (Cx ℝ) CxField.field _ _ _
    (Classical.decEq _) _ n hn A a hA b hb ((detC_ne_zero_iff n a).1 hdet)
  exact ⟨x, h1, h2, hs, (solC_iff n a b _).2 hsol, fun z hz => hu z ((solC_iff n a b z).1 hz)⟩

end Complex

/-! ### examples: a zero first pivot candidate, exchange decided by the modulus; a singular matrix -/
section Examples
open Ohsl.RealI Ohsl.CxField Ohsl.Props.C13 Ohsl.Props.C14

/-- the complex matrix [[0, 1], [i, 1]] -/
def exA : Mat (Cx ℝ) := ⟨#[⟨0, 0⟩, ⟨1, 0⟩, ⟨0, 1⟩, ⟨1, 0⟩], 2, 2⟩
/-- the singular complex matrix [[1, i], [i, -1]] -/
def exS : Mat (Cx ℝ) := ⟨#[⟨1, 0⟩, ⟨0, 1⟩, ⟨0, 1⟩, ⟨-1, 0⟩], 2, 2⟩

theorem exA_is : Mat.Is exA 2 2 (Mat.ent exA) := Mat.WFn.is ⟨rfl, rfl, rfl⟩
theorem exS_is : Mat.Is exS 2 2 (Mat.ent exS) := Mat.WFn.is ⟨rfl, rfl, rfl⟩

theorem exA_detC : detC 2 (Mat.ent exA) = -Complex.I := by
  unfold detC
  rw [Matrix.det_fin_two]
  show toC ⟨0, 0⟩ * toC ⟨1, 0⟩ - toC ⟨1, 0⟩ * toC ⟨0, 1⟩ = -Complex.I
  simp [toC, Complex.ext_iff]

theorem exA_det : detC 2 (Mat.ent exA) ≠ 0 := by
  rw [exA_detC]
  exact neg_ne_zero.2 Complex.I_ne_zero

theorem exS_det : detC 2 (Mat.ent exS) = 0 := by
  unfold detC
  rw [Matrix.det_fin_two]
  show toC ⟨1, 0⟩ * toC ⟨-1, 0⟩ - toC ⟨0, 1⟩ * toC ⟨0, 1⟩ = 0
  simp [toC, Complex.ext_iff]

theorem exA_get00 : exA.get 0 0 = .ok ⟨0, 0⟩ := by
  rw [exA_is.get (by norm_num) (by norm_num)]; simp [Mat.ent, exA]
theorem exA_get10 : exA.get 1 0 = .ok ⟨0, 1⟩ := by
  rw [exA_is.get (by norm_num) (by norm_num)]; simp [Mat.ent, exA]

/-- on column 0 of `exA` the diagonal candidate is `0`; both pivot searches choose row 1, whose
    entry `i` has modulus 1 (it is not `>` 0 in any order on ℂ compatible with the field: the
    comparison is on `|i| + 0i` against `0`) -/
example : Mat.luPivot exA 0 = .ok (⟨1, 0⟩, 1) ∧ Mat.maxAbsInColumn exA 0 0 = .ok 1 := by
  constructor
  · simp only [Mat.luPivot, Mat.forM', show exA.rows = 2 from rfl, List.range', List.foldlM,
      exA_get00, bind, Except.bind, pure, Except.pure]
    simp [ScalarExt.mag, ScalarExt.lt, Cx.lt, Cx.abs, Cx.absSqr, Transc.sqrt, exA_get10]
  · simp only [Mat.maxAbsInColumn, Mat.forM', show exA.rows = 2 from rfl, List.range', List.foldlM,
      exA_get00, bind, Except.bind, pure, Except.pure]
    simp [ScalarExt.mag, ScalarExt.lt, Cx.lt, Cx.abs, Cx.absSqr, Transc.sqrt, exA_get10]

/-- … and both solvers return the solution `(1, 1)` of `x₁ = 1`, `i·x₀ + x₁ = 1 + i` -/
example : ∃ x, Mat.solveBasic exA #[⟨1, 0⟩, ⟨1, 1⟩] = .ok x ∧
    Mat.solveLU exA #[⟨1, 0⟩, ⟨1, 1⟩] = .ok x ∧ x.size = 2 ∧
    x[0]?.getD 0 = ⟨1, 0⟩ ∧ x[1]?.getD 0 = ⟨1, 0⟩ := by
  obtain ⟨x, h1, h2, hs, _, huniq⟩ :=
    solve_correct_cx (by norm_num) exA_is (b := #[⟨1, 0⟩, ⟨1, 1⟩]) rfl exA_det
  have hz : SolC 2 (Mat.ent exA) #[⟨1, 0⟩, ⟨1, 1⟩] (fun _ => ⟨1, 0⟩) := by
    intro i hi
    rw [Finset.sum_range_succ, Finset.sum_range_one]
    obtain rfl | rfl : i = 0 ∨ i = 1 := by omega
    · show toC ⟨0, 0⟩ * toC ⟨1, 0⟩ + toC ⟨1, 0⟩ * toC ⟨1, 0⟩ = toC ⟨1, 0⟩
      simp [toC, Complex.ext_iff]
    · show toC ⟨0, 1⟩ * toC ⟨1, 0⟩ + toC ⟨1, 0⟩ * toC ⟨1, 0⟩ = toC ⟨1, 1⟩
      simp [toC, Complex.ext_iff]
  exact ⟨x, h1, h2, hs, (huniq _ hz 0 (by norm_num)).symm, (huniq _ hz 1 (by norm_num)).symm⟩

/-- the singular complex matrix `exS` (`det = -1 - i² = 0`) is refused by both solvers -/
example : (∃ e, Mat.solveBasic exS #[⟨1, 0⟩, ⟨0, 1⟩] = .error e) ∧
    (∃ e, Mat.solveLU exS #[⟨1, 0⟩, ⟨0, 1⟩] = .error e) :=
  singular_rejects_cx (by norm_num) exS_is rfl exS_det

end Examples
end Ohsl.Props.C01
