/-
  Property C13 (part F) — rounding-error bounds for the complex arithmetic of `Ohsl.Cx`
  (Ohsl/Model/Cx.lean) in the "rounded reals" interpretation `Fl M` of the model
  (Ohsl/Lemmas/Rounding.lean): the SAME model definitions `Cx.add/sub/mul/div`, the mixed
  complex/real forms, `absSqr`, `conj`, instantiated at real numbers whose `+ - * /` round with
  relative error `≤ u` (standard model of floating-point arithmetic, no overflow / underflow).
  This is the "agrees with the exact result to a few ulps over f64" half of C13.

  The transfer to the Rust `f64` code rests on the ASSUMPTION stated in Rounding.lean (IEEE binary64
  without overflow/underflow satisfies `FlModel` with `u = 2⁻⁵³`); it is not proved here (that the IEEE
  rounding function is such a model is proved in Ohsl/Props/C13N.lean).

  Notation: `z = a + i b`, `w = c + i d` (the `.val`s of the components), `val : Cx (Fl M) → ℂ`,
  `M.gam k = (1+u)^k - 1`, `divC M = (1+u)^3 / (1-u)^2 - 1` (`= 5u + O(u²)`; `≤ M.gam 6` when
  `u ≤ 1/3`, `≤ γ₅ = 5u/(1-5u)` when `5u < 1`).

  End results (F): `add_rounding`, `sub_rounding`, `mul_rounding` (`mul_rounding_gamma`): componentwise
  and normwise error of `+ - *`; `div_ok_iff_fl`, `div_rounding` (`_gam`, `_gamma`): when the division
  returns and its normwise error; `addR_rounding`, `subR_rounding`, `mulR_rounding`, `divR_rounding`,
  `absSqr_rounding`, `conj_exact`, `assign_eq_binary_fl`: the mixed forms, `|z|²`, the exact operations,
  the compound assignments.
-/
import Ohsl.Props.C13
import Ohsl.Lemmas.Rounding
import Mathlib.Analysis.Complex.Norm
import Mathlib.Tactic.Ring
import Mathlib.Tactic.Linarith
import Mathlib.Tactic.Positivity
import Mathlib.Tactic.FieldSimp
namespace Ohsl.Props.C13
open Ohsl Ohsl.Cx

section Rounding
variable {M : FlModel}

/-- the complex number represented by a model value over the rounded reals -/
noncomputable def val (z : Cx (Fl M)) : ℂ := ⟨z.re.val, z.im.val⟩

@[simp] theorem val_re (z : Cx (Fl M)) : (val z).re = z.re.val := rfl
@[simp] theorem val_im (z : Cx (Fl M)) : (val z).im = z.im.val := rfl

/-- the constant of the division: three roundings in the numerator path (product, sum, quotient)
over two in the denominator path (square, sum): `(1+u)^3/(1-u)^2 - 1 = 5u + O(u²)` -/
noncomputable def divC (M : FlModel) : ℝ := (1 + M.u) ^ 3 / (1 - M.u) ^ 2 - 1

theorem divC_nonneg (M : FlModel) (hu : M.u < 1) : 0 ≤ divC M := by
  have h1 : (1 - M.u) ^ 2 ≤ 1 := pow_le_one₀ (sub_nonneg.mpr hu.le) (sub_le_self 1 M.u_nonneg)
  rw [divC, sub_nonneg, one_le_div (pow_pos (sub_pos.mpr hu) 2)]
  exact h1.trans (one_le_pow₀ M.one_le_one_add_u)

/-- `(1+u)^3/(1-u)^2 - 1 ≤ (1+u)^6 - 1` when `u ≤ 1/3`: then `1 ≤ (1+u)³ (1-u)²` -/
theorem divC_le_gam6 (M : FlModel) (hu : M.u ≤ 1 / 3) : divC M ≤ M.gam 6 := by
  have h0 := M.u_nonneg
  have hu2 : M.u ^ 2 ≤ 1 / 3 * M.u := by rw [sq]; exact mul_le_mul_of_nonneg_right hu h0
  have key : 1 ≤ (1 + M.u) ^ 3 * (1 - M.u) ^ 2 := by
    rw [← sub_nonneg, show (1 + M.u) ^ 3 * (1 - M.u) ^ 2 - 1
      = M.u * (1 - 2 * M.u - 2 * M.u ^ 2 + M.u ^ 3 + M.u ^ 4) by ring]
    exact mul_nonneg h0 (by linarith only [hu, hu2, pow_nonneg h0 3, pow_nonneg h0 4])
  rw [divC, FlModel.gam, sub_le_sub_iff_right, div_le_iff₀ (pow_pos (by linarith only [hu]) 2),
    show (6 : ℕ) = 3 + 3 from rfl, pow_add, mul_assoc]
  exact le_mul_of_one_le_right (pow_nonneg M.one_add_u_pos.le 3) key

/-- five roundings in all: `(1+u)³/(1-u)² ≤ (1-u)⁻⁵` because `1 + u ≤ (1-u)⁻¹` -/
theorem divC_le_gq5 (M : FlModel) (hu : M.u < 1) : divC M ≤ M.gq 5 := by
  have hpos : 0 < 1 - M.u := sub_pos.mpr hu
  rw [divC, FlModel.gq, sub_le_sub_iff_right, div_eq_mul_inv, ← inv_pow,
    show (5 : ℕ) = 3 + 2 from rfl, pow_add]
  exact mul_le_mul_of_nonneg_right (pow_le_pow_left₀ M.one_add_u_pos.le (M.one_add_u_le_inv hu) 3)
    (pow_nonneg (inv_nonneg.mpr hpos.le) 2)

theorem divC_le_gamma5 (M : FlModel) (hu : 5 * M.u < 1) : divC M ≤ 5 * M.u / (1 - 5 * M.u) :=
  (divC_le_gq5 M (by linarith [M.u_nonneg])).trans
    (by simpa using M.gq_le_gamma 5 (by push_cast; linarith))

/-- the accumulated factor of `k` roundings lies in `[(1-u)^k, (1+u)^k]` -/
def Factor (M : FlModel) (k : ℕ) (e : ℝ) : Prop := (1 - M.u) ^ k ≤ e ∧ e ≤ (1 + M.u) ^ k

theorem Factor.mul {M : FlModel} (hu : M.u ≤ 1) {j k : ℕ} {e f : ℝ} (he : Factor M j e)
    (hf : Factor M k f) : Factor M (j + k) (e * f) := by
  have h0 : 0 ≤ 1 - M.u := sub_nonneg.mpr hu
  have hf0 : 0 ≤ f := (pow_nonneg h0 k).trans hf.1
  rw [Factor, pow_add, pow_add]
  exact ⟨mul_le_mul he.1 hf.1 (pow_nonneg h0 k) ((pow_nonneg h0 j).trans he.1),
    mul_le_mul he.2 hf.2 hf0 (pow_nonneg M.one_add_u_pos.le j)⟩

theorem exists_factor (M : FlModel) (x : ℝ) : ∃ e, Factor M 1 e ∧ M.fl x = x * e := by
  obtain ⟨δ, hδ, h⟩ := M.exists_delta x
  have := abs_le.mp hδ
  exact ⟨1 + δ, ⟨by rw [pow_one, sub_eq_add_neg]; exact (add_le_add_iff_left 1).mpr this.1,
    by rw [pow_one]; exact (add_le_add_iff_left 1).mpr this.2⟩, h⟩

theorem two_term_factor (M : FlModel) (hu : M.u ≤ 1) {x y P Q : ℝ}
    (hP : ∃ e, Factor M 1 e ∧ P = x * e) (hQ : ∃ e, Factor M 1 e ∧ Q = y * e) :
    ∃ α β, Factor M 2 α ∧ Factor M 2 β ∧ M.fl (P + Q) = x * α + y * β := by
  obtain ⟨e1, h1, rfl⟩ := hP
  obtain ⟨e2, h2, rfl⟩ := hQ
  obtain ⟨e3, h3, g3⟩ := exists_factor M (x * e1 + y * e2)
  exact ⟨e1 * e3, e2 * e3, h1.mul hu h3, h2.mul hu h3, by rw [g3]; ring⟩

/-- the downward deviation `1 - a³/b²` of a quotient factor is covered by the upward one
`b³/a² - 1`: for `a + b = 2` the claim `2 a² b² ≤ a⁵ + b⁵` is `0 ≤ (b³ - a³)(b² - a²)` -/
theorem quot_dev_le {a b : ℝ} (ha : 0 < a) (hab : a ≤ b) (hs : a + b = 2) :
    1 - a ^ 3 / b ^ 2 ≤ b ^ 3 / a ^ 2 - 1 := by
  have ha2 := pow_pos ha 2
  have hb2 := pow_pos (ha.trans_le hab) 2
  have h := mul_nonneg (sub_nonneg.mpr (pow_le_pow_left₀ ha.le hab 3))
    (sub_nonneg.mpr (pow_le_pow_left₀ ha.le hab 2))
  have h2 : b ^ 2 * a ^ 2 * (a + b) = b ^ 2 * a ^ 2 * 2 := by rw [hs]
  have : 2 ≤ a ^ 3 / b ^ 2 + b ^ 3 / a ^ 2 := by
    rw [div_add_div _ _ hb2.ne' ha2.ne', le_div_iff₀ (mul_pos hb2 ha2)]
    linarith only [h, h2]
  linarith only [this]

theorem factor_quot (M : FlModel) (hu : M.u < 1) (g den D : ℝ) (hg : Factor M 3 g) (hD : 0 < D)
    (hden : (1 - M.u) ^ 2 * D ≤ den ∧ den ≤ (1 + M.u) ^ 2 * D) :
    |g / den - 1 / D| ≤ divC M / D := by
  have ha : 0 < 1 - M.u := sub_pos.mpr hu
  have hlo : 0 < (1 - M.u) ^ 2 * D := mul_pos (pow_pos ha 2) hD
  have hden0 : 0 < den := hlo.trans_le hden.1
  have h1 : (1 - M.u) ^ 3 / (1 + M.u) ^ 2 / D ≤ g / den := by
    rw [div_div]
    exact div_le_div₀ ((pow_nonneg ha.le 3).trans hg.1) hg.1 hden0 hden.2
  have h2 : g / den ≤ (1 + M.u) ^ 3 / (1 - M.u) ^ 2 / D := by
    rw [div_div]
    exact div_le_div₀ (pow_nonneg M.one_add_u_pos.le 3) hg.2 hlo hden.1
  have h3 := div_le_div_of_nonneg_right
    (quot_dev_le ha ((sub_le_self 1 M.u_nonneg).trans M.one_le_one_add_u) (by ring)) hD.le
  rw [sub_div, sub_div] at h3
  rw [abs_le, divC, sub_div]
  -- `h3` rearranged bounds the downward deviation by the upward one
  exact ⟨(neg_le_sub_iff_le_add.mpr (sub_le_iff_le_add'.mp h3)).trans (sub_le_sub_right h1 _),
    sub_le_sub_right h2 _⟩

theorem quot_err (hu : M.u < 1) {x y D : ℝ} {n den : Fl M}
    (hn : ∃ α β, Factor M 2 α ∧ Factor M 2 β ∧ n.val = x * α + y * β) (hD : 0 < D)
    (hden : (1 - M.u) ^ 2 * D ≤ den.val ∧ den.val ≤ (1 + M.u) ^ 2 * D) :
    |(n / den).val - (x + y) / D| ≤ divC M * ((|x| + |y|) / D) := by
  obtain ⟨α, β, hα, hβ, hn⟩ := hn
  obtain ⟨e, he, hq⟩ := exists_factor M (n.val / den.val)
  have h1 := mul_le_mul_of_nonneg_left
    (factor_quot M hu (α * e) den.val D (hα.mul hu.le he) hD hden) (abs_nonneg x)
  have h2 := mul_le_mul_of_nonneg_left
    (factor_quot M hu (β * e) den.val D (hβ.mul hu.le he) hD hden) (abs_nonneg y)
  rw [Fl.div_val, hq, hn, show (x * α + y * β) / den.val * e - (x + y) / D
      = x * (α * e / den.val - 1 / D) + y * (β * e / den.val - 1 / D) by ring]
  refine (abs_add_le _ _).trans ?_
  rw [abs_mul, abs_mul]
  refine (add_le_add h1 h2).trans (le_of_eq ?_)
  ring

theorem norm_le_of_components (x y : ℂ) (k : ℝ) (hk : 0 ≤ k) (h1 : |x.re| ≤ k * |y.re|)
    (h2 : |x.im| ≤ k * |y.im|) : ‖x‖ ≤ k * ‖y‖ := by
  apply le_of_pow_le_pow_left₀ two_ne_zero (mul_nonneg hk (norm_nonneg _))
  have a1 := sq_le_sq' (abs_le.mp h1).1 (abs_le.mp h1).2
  have a2 := sq_le_sq' (abs_le.mp h2).1 (abs_le.mp h2).2
  rw [mul_pow, sq_abs] at a1 a2
  rw [mul_pow, Complex.sq_norm, Complex.sq_norm, Complex.normSq_apply, Complex.normSq_apply,
    ← sq, ← sq, ← sq, ← sq, mul_add]
  exact add_le_add a1 a2

theorem norm_val_sq (z : Cx (Fl M)) :
    ‖val z‖ ^ 2 = z.re.val * z.re.val + z.im.val * z.im.val := by
  rw [Complex.sq_norm, Complex.normSq_apply]; rfl

/-- `(AC+BD)² + (AD+BC)² ≤ 2 (A²+B²)(C²+D²)`: the difference is `(AC-BD)² + (AD-BC)²` -/
theorem cross_sq_le (A B C D : ℝ) :
    (A * C + B * D) ^ 2 + (A * D + B * C) ^ 2 ≤ 2 * ((A * A + B * B) * (C * C + D * D)) := by
  linarith only [sq_nonneg (A * C - B * D), sq_nonneg (A * D - B * C)]

/-- the bound pattern of a complex product `z w`: both components of `e` bounded relative to the
sums without cancellation give the normwise bound with the factor `√2` -/
theorem norm_le_cross (e z w : ℂ) (g : ℝ) (hg : 0 ≤ g)
    (h1 : |e.re| ≤ g * (|z.re * w.re| + |z.im * w.im|))
    (h2 : |e.im| ≤ g * (|z.re * w.im| + |z.im * w.re|)) :
    ‖e‖ ≤ √2 * g * (‖z‖ * ‖w‖) := by
  apply le_of_pow_le_pow_left₀ two_ne_zero (by positivity)
  rw [mul_pow, mul_pow, mul_pow, Real.sq_sqrt zero_le_two, Complex.sq_norm, Complex.sq_norm,
    Complex.sq_norm, Complex.normSq_apply, Complex.normSq_apply, Complex.normSq_apply, ← sq, ← sq]
  generalize z.re = a, z.im = b, w.re = c, w.im = d at h1 h2 ⊢
  have a1 := sq_le_sq' (abs_le.mp h1).1 (abs_le.mp h1).2
  have a2 := sq_le_sq' (abs_le.mp h2).1 (abs_le.mp h2).2
  have key := mul_le_mul_of_nonneg_left (cross_sq_le |a| |b| |c| |d|) (sq_nonneg g)
  rw [mul_pow, abs_mul, abs_mul] at a1 a2
  rw [mul_add, abs_mul_abs_self, abs_mul_abs_self, abs_mul_abs_self, abs_mul_abs_self,
    mul_left_comm, ← mul_assoc] at key
  exact (add_le_add a1 a2).trans key

theorem sqrt_two_mul_le {x c c' n : ℝ} (h : x ≤ √2 * c * n) (hc : c ≤ c') (hn : 0 ≤ n) :
    x ≤ √2 * c' * n :=
  h.trans (mul_le_mul_of_nonneg_right (mul_le_mul_of_nonneg_left hc (Real.sqrt_nonneg _)) hn)

/-- the bound pattern of a complex quotient: `z / w = z conj w / |w|²` has the pattern of a product -/
theorem norm_sub_div_le (q z w : ℂ) (g : ℝ) (hg : 0 ≤ g) (hw : w ≠ 0)
    (h1 : |q.re - (z.re * w.re + z.im * w.im) / Complex.normSq w|
      ≤ g * ((|z.re * w.re| + |z.im * w.im|) / Complex.normSq w))
    (h2 : |q.im - (z.im * w.re - z.re * w.im) / Complex.normSq w|
      ≤ g * ((|z.im * w.re| + |z.re * w.im|) / Complex.normSq w)) :
    ‖q - z / w‖ ≤ √2 * g * ‖z / w‖ := by
  have hN : 0 < Complex.normSq w := Complex.normSq_pos.mpr hw
  have hc := norm_le_cross (q - z / w) z w (g / Complex.normSq w) (div_nonneg hg hN.le)
    (by rw [Complex.sub_re, Complex.div_re, ← add_div, div_mul_eq_mul_div, mul_div_assoc]
        exact h1)
    (by rw [Complex.sub_im, Complex.div_im, ← sub_div, div_mul_eq_mul_div, mul_div_assoc,
          add_comm |z.re * w.im|]
        exact h2)
  refine hc.trans (le_of_eq ?_)
  rw [Complex.norm_div, Complex.normSq_eq_norm_sq]
  have hn : ‖w‖ ≠ 0 := norm_ne_zero_iff.mpr hw
  field_simp

theorem val_ne_zero_iff (w : Cx (Fl M)) :
    val w ≠ 0 ↔ 0 < w.re.val * w.re.val + w.im.val * w.im.val := by
  rw [← Complex.normSq_pos, Complex.normSq_apply]; rfl

/-- **addition**: each component is rounded once (the components of `val (z + w) - (val z + val w)`
are by definition the differences in the first two claims) -/
theorem add_rounding (z w : Cx (Fl M)) :
    |(z + w).re.val - (z.re.val + w.re.val)| ≤ M.u * |z.re.val + w.re.val| ∧
    |(z + w).im.val - (z.im.val + w.im.val)| ≤ M.u * |z.im.val + w.im.val| ∧
    ‖val (z + w) - (val z + val w)‖ ≤ M.u * ‖val z + val w‖ :=
  ⟨Fl.add_err z.re w.re, Fl.add_err z.im w.im,
    norm_le_of_components _ _ _ M.u_nonneg (Fl.add_err z.re w.re) (Fl.add_err z.im w.im)⟩

/-- **subtraction**: each component is rounded once -/
theorem sub_rounding (z w : Cx (Fl M)) :
    |(z - w).re.val - (z.re.val - w.re.val)| ≤ M.u * |z.re.val - w.re.val| ∧
    |(z - w).im.val - (z.im.val - w.im.val)| ≤ M.u * |z.im.val - w.im.val| ∧
    ‖val (z - w) - (val z - val w)‖ ≤ M.u * ‖val z - val w‖ :=
  ⟨Fl.sub_err z.re w.re, Fl.sub_err z.im w.im,
    norm_le_of_components _ _ _ M.u_nonneg (Fl.sub_err z.re w.re) (Fl.sub_err z.im w.im)⟩

theorem mul_add_mul_err (p q r s : Fl M) :
    |(p * q + r * s).val - (p.val * q.val + r.val * s.val)|
      ≤ M.gam 2 * (|p.val * q.val| + |r.val * s.val|) :=
  ((M.approx_fl _).within.add (M.approx_fl _).within).fl.1

theorem mul_sub_mul_err (p q r s : Fl M) :
    |(p * q - r * s).val - (p.val * q.val - r.val * s.val)|
      ≤ M.gam 2 * (|p.val * q.val| + |r.val * s.val|) :=
  ((M.approx_fl _).within.sub (M.approx_fl _).within).fl.1

/-- **multiplication**: componentwise `gam 2` relative to `|ac| + |bd|` resp. `|ad| + |bc|`
(cancellation in `ac - bd` is not controlled componentwise), and the classical normwise bound
`√2 γ₂ ‖z‖ ‖w‖`.  No hypothesis on `u`. -/
theorem mul_rounding (z w : Cx (Fl M)) :
    |(z * w).re.val - (z.re.val * w.re.val - z.im.val * w.im.val)|
      ≤ M.gam 2 * (|z.re.val * w.re.val| + |z.im.val * w.im.val|) ∧
    |(z * w).im.val - (z.re.val * w.im.val + z.im.val * w.re.val)|
      ≤ M.gam 2 * (|z.re.val * w.im.val| + |z.im.val * w.re.val|) ∧
    ‖val (z * w) - val z * val w‖ ≤ √2 * M.gam 2 * (‖val z‖ * ‖val w‖) :=
  have h1 := mul_sub_mul_err z.re w.re z.im w.im
  have h2 := mul_add_mul_err z.re w.im z.im w.re
  ⟨h1, h2, norm_le_cross _ (val z) (val w) _ (M.gam_nonneg 2) h1 h2⟩

/-- the classical form: `γ₂ = 2u/(1-2u)` -/
theorem mul_rounding_gamma (z w : Cx (Fl M)) (hu : 2 * M.u < 1) :
    ‖val (z * w) - val z * val w‖ ≤ √2 * (2 * M.u / (1 - 2 * M.u)) * (‖val z‖ * ‖val w‖) := by
  have hg : M.gam 2 ≤ 2 * M.u / (1 - 2 * M.u) := by
    simpa using M.gam_le_gamma 2 (by push_cast; linarith)
  exact sqrt_two_mul_le (mul_rounding z w).2.2 hg (by positivity)

theorem den_bounds (hu : M.u ≤ 1) (c d : Fl M) :
    (1 - M.u) ^ 2 * (c.val * c.val + d.val * d.val) ≤ (c * c + d * d).val ∧
    (c * c + d * d).val ≤ (1 + M.u) ^ 2 * (c.val * c.val + d.val * d.val) := by
  obtain ⟨α, β, hα, hβ, h⟩ :=
    two_term_factor M hu (exists_factor M (c.val * c.val)) (exists_factor M (d.val * d.val))
  have hc := mul_self_nonneg c.val
  have hd := mul_self_nonneg d.val
  rw [show (c * c + d * d).val = c.val * c.val * α + d.val * d.val * β from h,
    mul_comm _ (_ + _), mul_comm _ (_ + _), add_mul, add_mul]
  exact ⟨add_le_add (mul_le_mul_of_nonneg_left hα.1 hc) (mul_le_mul_of_nonneg_left hβ.1 hd),
    add_le_add (mul_le_mul_of_nonneg_left hα.2 hc) (mul_le_mul_of_nonneg_left hβ.2 hd)⟩

theorem div_rejects_fl (z w : Cx (Fl M)) (hw : val w = 0) : Cx.div z w = .error .arith := by
  have hc : w.re.val = 0 := congrArg Complex.re hw
  have hd : w.im.val = 0 := congrArg Complex.im hw
  have hden : (absSqr w).val = 0 := by
    simp [absSqr, hc, hd, M.fl_zero]
  exact div_of_divM_error z w fun a => if_pos hden

/-- **division, componentwise**: for `u < 1` and a non-zero divisor the call returns a value; its
components against the exact quotient's, relative to the numerators WITHOUT cancellation, and the
bounds on the rounded denominator used. -/
theorem div_rounding_components (hu : M.u < 1) (z w : Cx (Fl M)) (hw : val w ≠ 0) :
    ∃ q, Cx.div z w = .ok q ∧
      |q.re.val - (z.re.val * w.re.val + z.im.val * w.im.val)
            / (w.re.val * w.re.val + w.im.val * w.im.val)|
        ≤ divC M * ((|z.re.val * w.re.val| + |z.im.val * w.im.val|)
            / (w.re.val * w.re.val + w.im.val * w.im.val)) ∧
      |q.im.val - (z.im.val * w.re.val - z.re.val * w.im.val)
            / (w.re.val * w.re.val + w.im.val * w.im.val)|
        ≤ divC M * ((|z.im.val * w.re.val| + |z.re.val * w.im.val|)
            / (w.re.val * w.re.val + w.im.val * w.im.val)) ∧
      (1 - M.u) ^ 2 * (w.re.val * w.re.val + w.im.val * w.im.val) ≤ (Cx.absSqr w).val ∧
      (Cx.absSqr w).val ≤ (1 + M.u) ^ 2 * (w.re.val * w.re.val + w.im.val * w.im.val) ∧
      0 < (Cx.absSqr w).val := by
  have hD : 0 < w.re.val * w.re.val + w.im.val * w.im.val := (val_ne_zero_iff w).mp hw
  have hb := den_bounds hu.le w.re w.im
  have hden0 : 0 < (w.re * w.re + w.im * w.im).val :=
    (mul_pos (pow_pos (sub_pos.mpr hu) 2) hD).trans_le hb.1
  refine ⟨divT z w, div_of_divM_ok z w fun a => if_neg hden0.ne', ?_, ?_, hb.1, hb.2, hden0⟩
  · exact quot_err hu (two_term_factor M hu.le (exists_factor M _) (exists_factor M _)) hD hb
  · -- the difference is the sum of `b c` and `-(a d)`
    obtain ⟨e, he, h⟩ := exists_factor M (z.re.val * w.im.val)
    have := quot_err (n := z.im * w.re - z.re * w.im) hu (two_term_factor M hu.le
      (exists_factor M (z.im.val * w.re.val))
      ⟨e, he, (congrArg Neg.neg h).trans (neg_mul _ _).symm⟩) hD hb
    rwa [← sub_eq_add_neg, abs_neg] at this

theorem div_ok_iff_fl (hu : M.u < 1) (z w : Cx (Fl M)) :
    (∃ q, Cx.div z w = .ok q) ↔ val w ≠ 0 := by
  constructor
  · rintro ⟨q, hq⟩ hw
    rw [div_rejects_fl z w hw] at hq
    cases hq
  · intro hw
    obtain ⟨q, hq, _⟩ := div_rounding_components hu z w hw
    exact ⟨q, hq⟩

/-- **division, normwise**: `‖q - z/w‖ ≤ √2 · ((1+u)³/(1-u)² - 1) · ‖z/w‖` -/
theorem div_rounding (hu : M.u < 1) (z w : Cx (Fl M)) (hw : val w ≠ 0) :
    ∃ q, Cx.div z w = .ok q ∧ ‖val q - val z / val w‖ ≤ √2 * divC M * ‖val z / val w‖ := by
  obtain ⟨q, hq, h1, h2, -⟩ := div_rounding_components hu z w hw
  exact ⟨q, hq, norm_sub_div_le (val q) (val z) (val w) _ (divC_nonneg M hu) hw h1 h2⟩

theorem div_rounding_gam (hu : M.u ≤ 1 / 3) (z w : Cx (Fl M)) (hw : val w ≠ 0) :
    ∃ q, Cx.div z w = .ok q ∧ ‖val q - val z / val w‖ ≤ √2 * M.gam 6 * ‖val z / val w‖ := by
  obtain ⟨q, hq, h⟩ := div_rounding (hu.trans_lt (by norm_num)) z w hw
  exact ⟨q, hq, sqrt_two_mul_le h (divC_le_gam6 M hu) (norm_nonneg _)⟩

theorem div_rounding_gamma (hu : 5 * M.u < 1) (z w : Cx (Fl M)) (hw : val w ≠ 0) :
    ∃ q, Cx.div z w = .ok q
      ∧ ‖val q - val z / val w‖ ≤ √2 * (5 * M.u / (1 - 5 * M.u)) * ‖val z / val w‖ := by
  obtain ⟨q, hq, h⟩ := div_rounding (by linarith [M.u_nonneg]) z w hw
  exact ⟨q, hq, sqrt_two_mul_le h (divC_le_gamma5 M hu) (norm_nonneg _)⟩

theorem abs_sub_self_le {k : ℝ} (hk : 0 ≤ k) (x y : ℝ) : |x - x| ≤ k * |y| := by
  rw [sub_self, abs_zero]; exact mul_nonneg hk (abs_nonneg y)

/-- `z + r`: the real part is rounded once, the imaginary part is untouched -/
theorem addR_rounding (z : Cx (Fl M)) (r : Fl M) :
    |(addR z r).re.val - (z.re.val + r.val)| ≤ M.u * |z.re.val + r.val| ∧
    (addR z r).im.val = z.im.val ∧
    ‖val (addR z r) - (val z + (r.val : ℂ))‖ ≤ M.u * ‖val z + (r.val : ℂ)‖ := by
  refine ⟨Fl.add_err z.re r, rfl,
    norm_le_of_components _ _ _ M.u_nonneg (Fl.add_err z.re r) ?_⟩
  rw [Complex.sub_im, Complex.add_im, Complex.ofReal_im, add_zero]
  exact abs_sub_self_le M.u_nonneg _ _

theorem subR_rounding (z : Cx (Fl M)) (r : Fl M) :
    |(subR z r).re.val - (z.re.val - r.val)| ≤ M.u * |z.re.val - r.val| ∧
    (subR z r).im.val = z.im.val ∧
    ‖val (subR z r) - (val z - (r.val : ℂ))‖ ≤ M.u * ‖val z - (r.val : ℂ)‖ := by
  refine ⟨Fl.sub_err z.re r, rfl,
    norm_le_of_components _ _ _ M.u_nonneg (Fl.sub_err z.re r) ?_⟩
  rw [Complex.sub_im, Complex.sub_im, Complex.ofReal_im, sub_zero]
  exact abs_sub_self_le M.u_nonneg _ _

/-- `z * r`: each component is rounded once -/
theorem mulR_rounding (z : Cx (Fl M)) (r : Fl M) :
    |(mulR z r).re.val - z.re.val * r.val| ≤ M.u * |z.re.val * r.val| ∧
    |(mulR z r).im.val - z.im.val * r.val| ≤ M.u * |z.im.val * r.val| ∧
    ‖val (mulR z r) - val z * (r.val : ℂ)‖ ≤ M.u * ‖val z * (r.val : ℂ)‖ := by
  refine ⟨Fl.mul_err z.re r, Fl.mul_err z.im r, norm_le_of_components _ _ _ M.u_nonneg ?_ ?_⟩
  · rw [Complex.sub_re, Complex.re_mul_ofReal]; exact Fl.mul_err z.re r
  · rw [Complex.sub_im, Complex.im_mul_ofReal]; exact Fl.mul_err z.im r

/-- `z / r` for a non-zero real `r`: returns a value, each component rounded once; a zero `r` is
the error `arith` -/
theorem divR_rounding (z : Cx (Fl M)) (r : Fl M) (hr : r.val ≠ 0) :
    ∃ q, divR z r = .ok q ∧
      |q.re.val - z.re.val / r.val| ≤ M.u * |z.re.val / r.val| ∧
      |q.im.val - z.im.val / r.val| ≤ M.u * |z.im.val / r.val| ∧
      ‖val q - val z / (r.val : ℂ)‖ ≤ M.u * ‖val z / (r.val : ℂ)‖ := by
  refine ⟨divRT z r, divR_of_divM_ok z r fun a => if_neg hr, Fl.div_err z.re r, Fl.div_err z.im r,
    norm_le_of_components _ _ _ M.u_nonneg ?_ ?_⟩
  · rw [Complex.sub_re, Complex.div_ofReal_re]; exact Fl.div_err z.re r
  · rw [Complex.sub_im, Complex.div_ofReal_im]; exact Fl.div_err z.im r

theorem divR_rejects_fl (z : Cx (Fl M)) (r : Fl M) (hr : r.val = 0) :
    divR z r = .error .arith :=
  divR_of_divM_error z r fun _ => if_pos hr

/-- `abs_sqr`: two squares and one sum, no cancellation: relative error `gam 2` -/
theorem absSqr_rounding (z : Cx (Fl M)) :
    |(absSqr z).val - (z.re.val * z.re.val + z.im.val * z.im.val)|
      ≤ M.gam 2 * (z.re.val * z.re.val + z.im.val * z.im.val) ∧
    |(absSqr z).val - ‖val z‖ ^ 2| ≤ M.gam 2 * ‖val z‖ ^ 2 := by
  have h := mul_add_mul_err z.re z.re z.im z.im
  rw [abs_of_nonneg (mul_self_nonneg z.re.val), abs_of_nonneg (mul_self_nonneg z.im.val)] at h
  exact ⟨h, by rw [norm_val_sq]; exact h⟩

/-- `conj` and unary `-` are exact -/
theorem conj_exact (z : Cx (Fl M)) : val (conj z) = (starRingEnd ℂ) (val z) := rfl

theorem neg_exact (z : Cx (Fl M)) : val (-z) = -val z := rfl

end Rounding

section Structural
variable {M : FlModel}

theorem fl_add_comm (x y : Fl M) : x + y = y + x := by
  ext; simp [add_comm]

/-- the compound-assignment forms return exactly the values of the binary forms also over the
rounded reals (instance of `assign_eq_binary`) -/
theorem assign_eq_binary_fl (a b : Cx (Fl M)) (r : Fl M) :
    addAssign a b = a + b ∧ subAssign a b = a - b ∧ mulAssign a b = a * b ∧
    divAssign a b = Cx.div a b ∧
    addAssignR a r = addR a r ∧ subAssignR a r = subR a r ∧ mulAssignR a r = mulR a r ∧
    divAssignR a r = divR a r :=
  assign_eq_binary fl_add_comm a b r

end Structural

section Examples

/-- exact arithmetic is a model: there the division bound collapses to equality with `z / w` -/
example (z w : Cx (Fl FlModel.exact)) (hw : val w ≠ 0) :
    ∃ q, Cx.div z w = .ok q ∧ val q = val z / val w := by
  obtain ⟨q, hq, h⟩ := div_rounding FlModel.exact_u_lt_one z w hw
  refine ⟨q, hq, ?_⟩
  have hc : divC FlModel.exact = 0 := by
    show (1 + (0:ℝ)) ^ 3 / (1 - 0) ^ 2 - 1 = 0
    norm_num
  rw [hc, mul_zero, zero_mul] at h
  exact sub_eq_zero.mp (norm_le_zero_iff.mp h)

example (z w : Cx (Fl FlModel.exact)) : val (z * w) = val z * val w := by
  have h := (mul_rounding z w).2.2
  rw [FlModel.gam_exact, mul_zero, zero_mul] at h
  exact sub_eq_zero.mp (norm_le_zero_iff.mp h)

/-- a model that really rounds (`fl x = (1 + 2⁻⁵³) x`): the hypotheses of `div_rounding` are met by
`(1 + 2i) / (3 - 4i)` -/
example :
    let M := FlModel.scale (2 ^ (-53 : ℤ)) (by positivity)
    let z : Cx (Fl M) := ⟨⟨1⟩, ⟨2⟩⟩
    let w : Cx (Fl M) := ⟨⟨3⟩, ⟨-4⟩⟩
    ∃ q, Cx.div z w = .ok q ∧ ‖val q - val z / val w‖ ≤ √2 * M.gam 6 * ‖val z / val w‖ := by
  intro M z w
  have hu : M.u ≤ 1 / 3 := by
    show (2:ℝ) ^ (-53 : ℤ) ≤ 1 / 3
    have : (2:ℝ) ^ (-53 : ℤ) ≤ 2 ^ (-2 : ℤ) := zpow_le_zpow_right₀ (by norm_num) (by norm_num)
    refine this.trans ?_
    norm_num
  have hw : val w ≠ 0 := by
    rw [val_ne_zero_iff]
    show (0:ℝ) < 3 * 3 + (-4) * (-4)
    norm_num
  exact div_rounding_gam hu z w hw

/-- in that model the componentwise bound of `mul_rounding` is attained: `(x + 0i)(1 + 0i)` has the
computed real part `(1+u)² x`, i.e. the error `gam 2 · |x| = gam 2 · (|ac| + |bd|)`. -/
example (x : ℝ) :
    let M := FlModel.scale (2 ^ (-53 : ℤ)) (by positivity)
    let z : Cx (Fl M) := ⟨⟨x⟩, 0⟩
    let w : Cx (Fl M) := ⟨1, 0⟩
    |(z * w).re.val - (z.re.val * w.re.val - z.im.val * w.im.val)|
      = M.gam 2 * (|z.re.val * w.re.val| + |z.im.val * w.im.val|) := by
  intro M z w
  have hg := M.gam_nonneg 2
  have hg2 : M.gam 2 = (1 + M.u) ^ 2 - 1 := rfl
  have hv : (z * w).re.val = (1 + M.u) * ((1 + M.u) * (x * 1) - (1 + M.u) * (0 * 0)) := rfl
  have e1 : z.re.val = x := rfl
  have e2 : w.re.val = 1 := rfl
  have e3 : z.im.val = 0 := rfl
  have e4 : w.im.val = 0 := rfl
  rw [hv]
  simp only [e1, e2, e3, e4]
  have : (1 + M.u) * ((1 + M.u) * (x * 1) - (1 + M.u) * (0 * 0)) - (x * 1 - 0 * 0)
      = M.gam 2 * x := by rw [hg2]; ring
  rw [this, abs_mul, abs_of_nonneg hg]
  simp

end Examples

end Ohsl.Props.C13
