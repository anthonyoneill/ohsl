/-
  Property C17 (continued), class (R) — CONVERGENCE of the COMPLEX scalar Newton iteration
  (`Newton<Cmplx>::solve`, model `Ohsl.Newton.solveCx`, Ohsl/Model/Newton.lean) from inside the basin
  of a simple root, in exact arithmetic: `K = ℝ` with the instances of `Ohsl/Lemmas/RealTransc.lean`,
  the model's complex numbers read in Mathlib's ℂ through `toC`.  Complex analogue of the real
  theorems of Ohsl/Props/C18R.lean (`newton_scalar_model_step`, `newton_scalar_model_converges`).

  The model (read off `solveCx`): per iteration `deriv = (f(x+δ) − f(x−δ)) / (2δ)` with the REAL step
  `δ` embedded as `⟨δ, 0⟩` (`Complex / f64`), `dx = f(x) / deriv` (`Complex / Complex`),
  `x⁺ = x − dx`, and the run stops with `Ok(x⁺)` — the UPDATED point — when `dx.abs() <= tol`, i.e.
  when the modulus of the step `‖x − x⁺‖` is at most `tol` (the test is on the step, not on `‖f‖`).

  The user closure `f : Cx ℝ → Cx ℝ` denotes `F : ℂ → ℂ`: hypothesis `∀ z, toC (f z) = F (toC z)`.

  `F` is complex differentiable with derivative `F'` on a convex set, `F'` `M₂`-Lipschitz there (no
  second derivative is needed; `‖F''‖ ≤ M₂` implies it): the analysis is that of
  Ohsl/Lemmas/NewtonAnalysis.lean at `𝕜 = ℂ`, the iteration that of Ohsl/Lemmas/NewtonConv.lean with
  the value map `toC`; the constants are those of the real case.
  (R) `newton_cx_model_step_general`, `newton_cx_model_step` (one step of the model; contraction in
      the disc of `NewtonBallC`, factor `newtonQC`); `newton_cx_converges`, `newton_cx_model_tendsto`
      (the iterates); `newton_cx_model_converges`, `newton_cx_model_success_within_tol` (what
      `solveCx` returns).
  NOT proved: `O(δ²)` accuracy of the central quotient for holomorphic `F` (the `O(δ)` bound used
  here only needs `F'` Lipschitz); rounding (class F).
-/
import Ohsl.Props.C17C
import Ohsl.Props.C14I
import Ohsl.Lemmas.NewtonConv
import Ohsl.Lemmas.NewtonAnalysis
import Ohsl.Lemmas.RealTransc
import Mathlib.Analysis.Calculus.MeanValue
import Mathlib.Analysis.Calculus.Deriv.Pow
import Mathlib.Analysis.Calculus.Deriv.Comp
import Mathlib.Analysis.SpecificLimits.Basic
import Mathlib.Analysis.Normed.Module.Convex
import Mathlib.Tactic.Ring
import Mathlib.Tactic.NormNum
import Mathlib.Tactic.Linarith
namespace Ohsl.Props.C17
open Ohsl Ohsl.Newton Ohsl.RealI Ohsl.Props.C14 Set

section AnalysisC

/-- the model's derivative estimate, correction and update, read in ℂ: central quotient with a
    REAL step `δ` -/
noncomputable def cdiffC (F : ℂ → ℂ) (δ : ℝ) (z : ℂ) : ℂ := (F (z + δ) - F (z - δ)) / (2 * (δ : ℂ))
noncomputable def newtonDxC (F : ℂ → ℂ) (δ : ℝ) (z : ℂ) : ℂ := F z / cdiffC F δ z
noncomputable def newtonStepC (F : ℂ → ℂ) (δ : ℝ) (z : ℂ) : ℂ := z - newtonDxC F δ z

theorem cx_centraldiff_error (F F' : ℂ → ℂ) (s : Set ℂ) (hs : Convex ℝ s) (x : ℂ) (δ M₂ : ℝ)
    (hδ : δ ≠ 0) (hx : x ∈ s) (hxp : x + δ ∈ s) (hxm : x - δ ∈ s)
    (h1 : ∀ z ∈ s, HasDerivAt F (F' z) z)
    (hL : ∀ z ∈ s, ∀ w ∈ s, ‖F' z - F' w‖ ≤ M₂ * ‖z - w‖) :
    ‖cdiffC F δ x - F' x‖ ≤ M₂ * |δ| / 2 := by
  have := NewtonAnalysis.centraldiff_error_field F F' s hs x δ M₂ (Complex.ofReal_ne_zero.mpr hδ)
    hx hxp hxm h1 (fun z hz => hL z hz x hx)
  rwa [Complex.norm_real, Real.norm_eq_abs] at this

/-- quadratic convergence up to a linear term of size `O(δ)`: the estimate and the constant
    `C = M₂ / (2m − M₂|δ|)` of the real case (`C18.newton_scalar_model_step`) -/
theorem newton_cx_step (F F' : ℂ → ℂ) (s : Set ℂ) (hs : Convex ℝ s) (x r : ℂ) (δ m M₂ : ℝ)
    (h1 : ∀ z ∈ s, HasDerivAt F (F' z) z)
    (hL : ∀ z ∈ s, ∀ w ∈ s, ‖F' z - F' w‖ ≤ M₂ * ‖z - w‖)
    (hx : x ∈ s) (hxp : x + δ ∈ s) (hxm : x - δ ∈ s) (hrs : r ∈ s) (hr : F r = 0)
    (hm : m ≤ ‖F' x‖) (hδ : δ ≠ 0) (hsmall : M₂ * |δ| / 2 < m) :
    cdiffC F δ x ≠ 0 ∧
    ‖newtonStepC F δ x - r‖ ≤ M₂ / (2 * m - M₂ * |δ|) * (‖x - r‖ ^ 2 + |δ| * ‖x - r‖) := by
  have hT := NewtonAnalysis.taylor1_field F F' s hs x r M₂ hx hrs h1 (fun z hz => hL z hz x hx)
  rw [hr] at hT
  exact NewtonAnalysis.newton_step_quotient hT hm
    (cx_centraldiff_error F F' s hs x δ M₂ hδ hx hxp hxm h1 hL) hsmall

end AnalysisC

section Bridge

theorem toC_cxDeriv (f : Cx ℝ → Cx ℝ) (F : ℂ → ℂ) (hf : ∀ z, toC (f z) = F (toC z)) (δ : ℝ)
    (x : Cx ℝ) :
    toC (Cx.divRT (f (x + ⟨δ, 0⟩) - f (x - ⟨δ, 0⟩)) ((1 + 1) * δ)) = cdiffC F δ (toC x) := by
  rw [toC_divRT, toC_sub, hf, hf, toC_add, toC_sub, toC_ofReal, cdiffC, one_add_one_eq_two,
    Complex.ofReal_mul, Complex.ofReal_ofNat]

/-- both model divisions are total over ℝ (`x / 0 = 0`), as in Mathlib's ℂ -/
theorem toC_cxDx (f : Cx ℝ → Cx ℝ) (F : ℂ → ℂ) (hf : ∀ z, toC (f z) = F (toC z)) (δ : ℝ)
    (c : Cx ℝ) : toC (cxDx f δ c) = newtonDxC F δ (toC c) := by
  rw [cxDx, divT_eq, toC_cxDeriv f F hf, hf, newtonDxC]

theorem toC_cxStep (f : Cx ℝ → Cx ℝ) (F : ℂ → ℂ) (hf : ∀ z, toC (f z) = F (toC z)) (δ : ℝ)
    (c : Cx ℝ) : toC (cxStep f δ c) = newtonStepC F δ (toC c) := by
  rw [cxStep, toC_sub, toC_cxDx f F hf, newtonStepC]

theorem cxTest_iff (f : Cx ℝ → Cx ℝ) (F : ℂ → ℂ) (hf : ∀ z, toC (f z) = F (toC z)) (tol δ : ℝ)
    (c : Cx ℝ) :
    Transc.le (Cx.abs (cxDx f δ c)) tol = true ↔ ‖newtonDxC F δ (toC c)‖ ≤ tol := by
  rw [abs_eq, toC_cxDx f F hf]
  simp [Transc.le]

end Bridge

section Converge

/-- the contraction factor `q` of the model's step on the disc of radius `ρ`
    (`NewtonBallC.hq`: `q < 1`; the expression of `C18.newtonQ`) -/
noncomputable def newtonQC (δ ρ m M₂ : ℝ) : ℝ := M₂ / (2 * m - M₂ * |δ|) * (ρ + |δ|)

/-- hypotheses of the convergence theorems: `F` is complex differentiable on the closed disc of
    radius `ρ + |δ|` around a root `r` with `F'` `M₂`-Lipschitz there (e.g. `‖F''‖ ≤ M₂`),
    `‖F'‖ ≥ m` on the disc of radius `ρ`, `δ ≠ 0`, `M₂|δ|/2 < m`, and the contraction factor
    `q = M₂/(2m − M₂|δ|) · (ρ + |δ|)` is `< 1`.  (`C18.NewtonBall` with moduli.) -/
structure NewtonBallC (F F' : ℂ → ℂ) (r : ℂ) (δ ρ m M₂ : ℝ) : Prop where
  hδ : δ ≠ 0
  h1 : ∀ z ∈ Metric.closedBall r (ρ + |δ|), HasDerivAt F (F' z) z
  hL : ∀ z ∈ Metric.closedBall r (ρ + |δ|), ∀ w ∈ Metric.closedBall r (ρ + |δ|),
    ‖F' z - F' w‖ ≤ M₂ * ‖z - w‖
  hm : ∀ z ∈ Metric.closedBall r ρ, m ≤ ‖F' z‖
  hr : F r = 0
  hsmall : M₂ * |δ| / 2 < m
  hq : M₂ / (2 * m - M₂ * |δ|) * (ρ + |δ|) < 1

theorem NewtonBallC.M_nonneg {F F' : ℂ → ℂ} {r : ℂ} {δ ρ m M₂ : ℝ}
    (H : NewtonBallC F F' r δ ρ m M₂) (hρ : 0 ≤ ρ) : 0 ≤ M₂ := by
  -- the Lipschitz condition at the two points `r + |δ|`, `r` of the disc
  have hr : r ∈ Metric.closedBall r (ρ + |δ|) :=
    Metric.mem_closedBall_self (add_nonneg hρ (abs_nonneg δ))
  have hr' : r + (|δ| : ℝ) ∈ Metric.closedBall r (ρ + |δ|) := by
    rw [mem_closedBall_iff_norm, add_sub_cancel_left, Complex.norm_real, Real.norm_eq_abs, abs_abs]
    exact le_add_of_nonneg_left hρ
  have := (norm_nonneg _).trans (H.hL _ hr' _ hr)
  rw [add_sub_cancel_left, Complex.norm_real, Real.norm_eq_abs, abs_abs] at this
  exact nonneg_of_mul_nonneg_left this (abs_pos.mpr H.hδ)

theorem NewtonBallC.C_nonneg {F F' : ℂ → ℂ} {r : ℂ} {δ ρ m M₂ : ℝ}
    (H : NewtonBallC F F' r δ ρ m M₂) (hρ : 0 ≤ ρ) : 0 ≤ M₂ / (2 * m - M₂ * |δ|) :=
  div_nonneg (H.M_nonneg hρ) (by linarith [H.hsmall])

theorem NewtonBallC.q_nonneg {F F' : ℂ → ℂ} {r : ℂ} {δ ρ m M₂ : ℝ}
    (H : NewtonBallC F F' r δ ρ m M₂) (hρ : 0 ≤ ρ) : 0 ≤ newtonQC δ ρ m M₂ :=
  mul_nonneg (H.C_nonneg hρ) (add_nonneg hρ (abs_nonneg δ))

theorem NewtonBallC.step {F F' : ℂ → ℂ} {r : ℂ} {δ ρ m M₂ : ℝ}
    (H : NewtonBallC F F' r δ ρ m M₂) (x : ℂ) (hx : ‖x - r‖ ≤ ρ) :
    cdiffC F δ x ≠ 0 ∧
    ‖newtonStepC F δ x - r‖ ≤ M₂ / (2 * m - M₂ * |δ|) * (‖x - r‖ ^ 2 + |δ| * ‖x - r‖) ∧
    ‖newtonStepC F δ x - r‖ ≤ newtonQC δ ρ m M₂ * ‖x - r‖ := by
  have hρ : 0 ≤ ρ := (norm_nonneg _).trans hx
  -- `x`, `x ± δ` and `r` lie in the disc of radius `ρ + |δ|`
  have hnδ : ‖(δ : ℂ)‖ = |δ| := by rw [Complex.norm_real, Real.norm_eq_abs]
  obtain ⟨hp, hn⟩ := NewtonAnalysis.norm_shift_le hx (δ : ℂ)
  rw [hnδ, ← mem_closedBall_iff_norm] at hp hn
  have hx' : x ∈ Metric.closedBall r (ρ + |δ|) :=
    mem_closedBall_iff_norm.mpr (hx.trans (le_add_of_nonneg_right (abs_nonneg δ)))
  obtain ⟨g1, g2⟩ := newton_cx_step F F' (Metric.closedBall r (ρ + |δ|)) (convex_closedBall _ _)
    x r δ m M₂ H.h1 H.hL hx' hp hn (Metric.mem_closedBall_self (add_nonneg hρ (abs_nonneg δ)))
    H.hr (H.hm x (mem_closedBall_iff_norm.mpr hx)) H.hδ H.hsmall
  refine ⟨g1, g2, g2.trans ?_⟩
  -- `e² + |δ| e = (e + |δ|) e ≤ (ρ + |δ|) e`
  rw [newtonQC, mul_assoc, sq, ← add_mul]
  exact mul_le_mul_of_nonneg_left
    (mul_le_mul_of_nonneg_right (add_le_add hx le_rfl) (norm_nonneg _)) (H.C_nonneg hρ)

/-- **convergence of the complex iteration** (exact arithmetic, in ℂ): from any guess `x₀` with
    `‖x₀ − r‖ ≤ ρ`, every iterate stays in the disc, the derivative estimate never vanishes, the
    one-step estimate holds at every step, and `‖x_k − r‖ ≤ q^k ‖x₀ − r‖`, `q = C (ρ + |δ|) < 1`. -/
theorem newton_cx_converges (F F' : ℂ → ℂ) (r : ℂ) (δ ρ m M₂ : ℝ)
    (H : NewtonBallC F F' r δ ρ m M₂) (x₀ : ℂ) (hx₀ : ‖x₀ - r‖ ≤ ρ) (k : ℕ) :
    ‖(newtonStepC F δ)^[k] x₀ - r‖ ≤ newtonQC δ ρ m M₂ ^ k * ‖x₀ - r‖ ∧
    ‖(newtonStepC F δ)^[k] x₀ - r‖ ≤ ρ ∧
    cdiffC F δ ((newtonStepC F δ)^[k] x₀) ≠ 0 ∧
    ‖(newtonStepC F δ)^[k + 1] x₀ - r‖ ≤ M₂ / (2 * m - M₂ * |δ|) *
      (‖(newtonStepC F δ)^[k] x₀ - r‖ ^ 2 + |δ| * ‖(newtonStepC F δ)^[k] x₀ - r‖) ∧
    ‖(newtonStepC F δ)^[k + 1] x₀ - r‖ ≤ newtonQC δ ρ m M₂ * ‖(newtonStepC F δ)^[k] x₀ - r‖ := by
  have hρ : 0 ≤ ρ := (norm_nonneg _).trans hx₀
  -- the iterates contract exactly (`ε = 0` in `NewtonGen.iter_contracts`)
  obtain ⟨m2, m1⟩ := NewtonGen.iter_contracts id (newtonStepC F δ) r (H.q_nonneg hρ) H.hq (ε := 0)
    (by rw [add_zero]; exact mul_le_of_le_one_left hρ H.hq.le)
    (fun x hx => ((H.step x hx).2.2).trans_eq (add_zero _).symm) hx₀ k
  rw [zero_mul, zero_div, add_zero] at m1
  rw [NewtonGen.iter_eq_iterate] at m1 m2
  obtain ⟨s1, s2, s3⟩ := H.step _ m2
  rw [Function.iterate_succ_apply']
  exact ⟨m1, m2, s1, s2, s3⟩

/-- **one step of the MODEL, general form** (no disc, no contraction hypothesis): for a closure
    `f` denoting `F`, complex differentiable on a convex set `s` containing `x`, `x ± δ` and a root
    `r`, with `F'` `M₂`-Lipschitz on `s`, `‖F' x‖ ≥ m`, `δ ≠ 0`, `M₂|δ|/2 < m`: the model's derivative
    estimate is non-zero and its update satisfies
    `‖x⁺ − r‖ ≤ C (‖x − r‖² + |δ| ‖x − r‖)`, `C = M₂ / (2m − M₂|δ|)`. -/
theorem newton_cx_model_step_general (f : Cx ℝ → Cx ℝ) (F F' : ℂ → ℂ)
    (hf : ∀ z, toC (f z) = F (toC z)) (s : Set ℂ) (hs : Convex ℝ s) (x : Cx ℝ) (r : ℂ)
    (δ m M₂ : ℝ)
    (h1 : ∀ z ∈ s, HasDerivAt F (F' z) z)
    (hL : ∀ z ∈ s, ∀ w ∈ s, ‖F' z - F' w‖ ≤ M₂ * ‖z - w‖)
    (hx : toC x ∈ s) (hxp : toC x + δ ∈ s) (hxm : toC x - δ ∈ s) (hrs : r ∈ s) (hr : F r = 0)
    (hm : m ≤ ‖F' (toC x)‖) (hδ : δ ≠ 0) (hsmall : M₂ * |δ| / 2 < m) :
    toC (Cx.divRT (f (x + ⟨δ, 0⟩) - f (x - ⟨δ, 0⟩)) ((1 + 1) * δ)) ≠ 0 ∧
    ‖toC (cxStep f δ x) - r‖
      ≤ M₂ / (2 * m - M₂ * |δ|) * (‖toC x - r‖ ^ 2 + |δ| * ‖toC x - r‖) := by
  rw [toC_cxDeriv f F hf, toC_cxStep f F hf]
  exact newton_cx_step F F' s hs (toC x) r δ m M₂ h1 hL hx hxp hxm hrs hr hm hδ hsmall

/-- **one step of the MODEL near a simple root** (`Newton<Cmplx>::solve`, exact arithmetic): for a
    closure `f` denoting `F` and a point `x` with `‖x − r‖ ≤ ρ`, the model's derivative estimate
    is non-zero and the model's update `x⁺ = cxStep f δ x` satisfies
    `‖x⁺ − r‖ ≤ C (‖x − r‖² + |δ| ‖x − r‖)`, `C = M₂ / (2m − M₂|δ|)`, and `‖x⁺ − r‖ ≤ q ‖x − r‖`. -/
theorem newton_cx_model_step (f : Cx ℝ → Cx ℝ) (F F' : ℂ → ℂ) (hf : ∀ z, toC (f z) = F (toC z))
    (r : ℂ) (δ ρ m M₂ : ℝ) (H : NewtonBallC F F' r δ ρ m M₂) (x : Cx ℝ)
    (hx : ‖toC x - r‖ ≤ ρ) :
    toC (Cx.divRT (f (x + ⟨δ, 0⟩) - f (x - ⟨δ, 0⟩)) ((1 + 1) * δ)) ≠ 0 ∧
    ‖toC (cxStep f δ x) - r‖
      ≤ M₂ / (2 * m - M₂ * |δ|) * (‖toC x - r‖ ^ 2 + |δ| * ‖toC x - r‖) ∧
    ‖toC (cxStep f δ x) - r‖ ≤ newtonQC δ ρ m M₂ * ‖toC x - r‖ := by
  obtain ⟨g1, g2, g3⟩ := H.step (toC x) hx
  rw [toC_cxStep f F hf]
  refine ⟨?_, g2, g3⟩
  rw [toC_cxDeriv f F hf]
  exact g1

theorem NewtonBallC.contracts {F F' : ℂ → ℂ} {r : ℂ} {δ ρ m M₂ : ℝ}
    (H : NewtonBallC F F' r δ ρ m M₂) (f : Cx ℝ → Cx ℝ) (hf : ∀ z, toC (f z) = F (toC z))
    (x : Cx ℝ) (hx : ‖toC x - r‖ ≤ ρ) :
    ‖toC (cxStep f δ x) - r‖ ≤ newtonQC δ ρ m M₂ * ‖toC x - r‖ := by
  rw [toC_cxStep f F hf]
  exact (H.step _ hx).2.2

/-- the model's iterates (read in ℂ) converge to the root -/
theorem newton_cx_model_tendsto (f : Cx ℝ → Cx ℝ) (F F' : ℂ → ℂ)
    (hf : ∀ z, toC (f z) = F (toC z)) (r : ℂ) (δ ρ m M₂ : ℝ)
    (H : NewtonBallC F F' r δ ρ m M₂) (x₀ : Cx ℝ) (hx₀ : ‖toC x₀ - r‖ ≤ ρ) :
    Filter.Tendsto (fun k => toC (cxIter f δ x₀ k)) Filter.atTop (nhds r) :=
  have hρ := (norm_nonneg _).trans hx₀
  NewtonGen.iter_tendsto toC (cxStep f δ) r (H.q_nonneg hρ) H.hq
    (mul_le_of_le_one_left hρ (le_of_lt H.hq)) (H.contracts f hf) hx₀

/-- **the model's complex `solve` near a simple root** (exact arithmetic, any `tol`, any budget `n`,
    any closure `f` denoting `F`): the returned point is never farther from the root than the
    guess; a reported success is within `q/(1−q) · tol` of the root (`≤ tol` when `q ≤ 1/2`) — the
    stopping test `dx.abs() <= tol` bounds the modulus of the last STEP `‖x_k − x_{k+1}‖`, which
    certifies `(1 − q) ‖x_{k+1} − r‖ ≤ q · tol` for the returned `x_{k+1}`; a reported failure has
    error `≤ qⁿ ‖x₀ − r‖`; and success IS reported as soon as `(1+q) q^(n−1) ‖x₀ − r‖ ≤ tol`. -/
theorem newton_cx_model_converges (f : Cx ℝ → Cx ℝ) (F F' : ℂ → ℂ)
    (hf : ∀ z, toC (f z) = F (toC z)) (r : ℂ) (δ ρ m M₂ : ℝ)
    (H : NewtonBallC F F' r δ ρ m M₂) (x₀ : Cx ℝ) (hx₀ : ‖toC x₀ - r‖ ≤ ρ)
    (tol : ℝ) (n : ℕ) (tr : List (Cx ℝ)) :
    ‖toC (solveCx f tol δ n x₀ tr).1.x - r‖ ≤ ‖toC x₀ - r‖ ∧
    ((solveCx f tol δ n x₀ tr).1.ok = true →
      (1 - newtonQC δ ρ m M₂) * ‖toC (solveCx f tol δ n x₀ tr).1.x - r‖
        ≤ newtonQC δ ρ m M₂ * tol) ∧
    ((solveCx f tol δ n x₀ tr).1.ok = false →
      ‖toC (solveCx f tol δ n x₀ tr).1.x - r‖ ≤ newtonQC δ ρ m M₂ ^ n * ‖toC x₀ - r‖) ∧
    (1 ≤ n → (1 + newtonQC δ ρ m M₂) * newtonQC δ ρ m M₂ ^ (n - 1) * ‖toC x₀ - r‖ ≤ tol →
      (solveCx f tol δ n x₀ tr).1.ok = true) := by
  have hρ := (norm_nonneg _).trans hx₀
  -- the test quantity `‖dx‖` IS the length of the step
  have := NewtonGen.loop_converges_exact toC (cxStep f δ) r (H.q_nonneg hρ) H.hq hρ
    (H.contracts f hf) (fun x => ‖newtonDxC F δ (toC x)‖)
    (fun x _ => by rw [toC_cxStep f F hf, newtonStepC, sub_sub_cancel])
    (cxTest f tol δ) tol (fun x _ => cxTest_iff f F hf tol δ x) (cxPts δ) n x₀ tr hx₀
  rwa [← solveCx_eq_loop] at this

/-- with `q ≤ 1/2` a reported success is within `tol` of the root -/
theorem newton_cx_model_success_within_tol (f : Cx ℝ → Cx ℝ) (F F' : ℂ → ℂ)
    (hf : ∀ z, toC (f z) = F (toC z)) (r : ℂ) (δ ρ m M₂ : ℝ)
    (H : NewtonBallC F F' r δ ρ m M₂) (hhalf : newtonQC δ ρ m M₂ ≤ 1 / 2)
    (x₀ : Cx ℝ) (hx₀ : ‖toC x₀ - r‖ ≤ ρ) (tol : ℝ) (n : ℕ) (tr : List (Cx ℝ))
    (hok : (solveCx f tol δ n x₀ tr).1.ok = true) :
    ‖toC (solveCx f tol δ n x₀ tr).1.x - r‖ ≤ tol := by
  have h := (newton_cx_model_converges f F F' hf r δ ρ m M₂ H x₀ hx₀ tol n tr).2.1 hok
  obtain ⟨c, _, e2⟩ := cx_success_char f tol δ n x₀ tr hok
  have htol : 0 ≤ tol := (norm_nonneg _).trans ((cxTest_iff f F hf tol δ c).1 e2)
  exact NewtonGen.within_tol hhalf h htol

end Converge

section ExamplesC

/-- the contraction factor of the example: `q = 2/(18/5 − 1/50) · 11/100 ≈ 0.061` -/
theorem exQC : newtonQC (1 / 100) (1 / 10) (9 / 5) 2 = 11 / 179 := by
  rw [newtonQC, abs_of_pos (by norm_num : (0 : ℝ) < 1 / 100)]
  norm_num

/-- `F z = z² + 1`, root `i`, `δ = 1/100`, disc radius `ρ = 1/10`, `m = 9/5`, `M₂ = 2` -/
theorem exNewtonBallC :
    NewtonBallC (fun z : ℂ => z ^ 2 + 1) (fun z => 2 * z) Complex.I (1 / 100) (1 / 10) (9 / 5) 2 := by
  have hδ : |(1 / 100 : ℝ)| = 1 / 100 := abs_of_pos (by norm_num)
  refine ⟨by norm_num, fun z _ => ?_, fun z _ w _ => ?_, fun z hz => ?_, ?_, ?_, ?_⟩
  · exact ((hasDerivAt_pow 2 z).add_const 1).congr_deriv (by simp)
  · rw [← mul_sub, norm_mul, Complex.norm_ofNat]
  · -- `‖z‖ ≥ ‖i‖ − ‖i − z‖ ≥ 9/10`
    have h1 := norm_sub_norm_le Complex.I z
    rw [Complex.norm_I, norm_sub_rev] at h1
    rw [norm_mul, Complex.norm_ofNat]
    calc (9 / 5 : ℝ) = 2 * (1 - 1 / 10) := by norm_num
      _ ≤ 2 * ‖z‖ := mul_le_mul_of_nonneg_left
          (sub_le_comm.mp (h1.trans (mem_closedBall_iff_norm.mp hz))) zero_le_two
  · rw [Complex.I_sq, neg_add_cancel]
  · rw [hδ]; norm_num
  · show newtonQC (1 / 100) (1 / 10) (9 / 5) 2 < 1
    rw [exQC]
    norm_num

/-- the model closure `z ↦ z * z + 1` on `Cx ℝ` denotes `z ↦ z² + 1` -/
theorem exClosure (z : Cx ℝ) : toC (z * z + 1) = (fun w : ℂ => w ^ 2 + 1) (toC z) := by
  rw [toC_add, toC_mul, toC_one]; ring

/-- the guess `1/20 + (21/20) i` is within `1/10` of `i` (distance `√2/20`) -/
theorem exGuessC : ‖toC (⟨1 / 20, 21 / 20⟩ : Cx ℝ) - Complex.I‖ ≤ 1 / 10 := by
  have e : toC (⟨1 / 20, 21 / 20⟩ : Cx ℝ) - Complex.I = ⟨1 / 20, 1 / 20⟩ := by
    apply Complex.ext
    · simp [toC]
    · simp [toC]; norm_num
  rw [e, Complex.norm_def, Complex.normSq_mk]
  exact Real.sqrt_le_iff.mpr ⟨by norm_num, by norm_num⟩

/-- from the guess `1/20 + (21/20) i` the model's iterates converge to `i` … -/
example : Filter.Tendsto
    (fun k => toC (cxIter (fun z : Cx ℝ => z * z + 1) (1 / 100) ⟨1 / 20, 21 / 20⟩ k))
    Filter.atTop (nhds Complex.I) :=
  newton_cx_model_tendsto _ _ _ exClosure _ _ _ _ _ exNewtonBallC _ exGuessC

/-- … whenever the model's `solve` reports success from that guess, the result is within `tol`
    of `i` … -/
example (tol : ℝ) (n : ℕ)
    (hok : (solveCx (fun z : Cx ℝ => z * z + 1) tol (1 / 100) n ⟨1 / 20, 21 / 20⟩ []).1.ok = true) :
    ‖toC (solveCx (fun z : Cx ℝ => z * z + 1) tol (1 / 100) n ⟨1 / 20, 21 / 20⟩ []).1.x
      - Complex.I‖ ≤ tol :=
  newton_cx_model_success_within_tol _ _ _ exClosure _ _ _ _ _ exNewtonBallC
    (by rw [exQC]; norm_num) _ exGuessC tol n [] hok

/-- … and with `tol = 10⁻⁶` a budget of 6 iterations is enough for success to be reported
    (`q ≤ 1/16`, `(1 + q) q⁵ ρ ≤ 10⁻⁶`) -/
example : (solveCx (fun z : Cx ℝ => z * z + 1) (1 / 10 ^ 6) (1 / 100) 6 ⟨1 / 20, 21 / 20⟩ []).1.ok
    = true := by
  refine (newton_cx_model_converges _ _ _ exClosure _ _ _ _ _ exNewtonBallC _ exGuessC
    (1 / 10 ^ 6) 6 []).2.2.2 (by norm_num) ?_
  rw [exQC]
  exact (mul_le_mul_of_nonneg_left exGuessC (by norm_num)).trans (by norm_num)

end ExamplesC

end Ohsl.Props.C17
