/-
  Property C12 (part F) — rounding-error analysis of the polynomial long division of the model
  (`Ohsl/Model/Poly.lean`: `divStep`, `divLoop`, `polydiv`) in the "rounded reals" interpretation
  `Fl M` (Ohsl/Lemmas/Rounding.lean): the clause "accuracy over floats" of C12, `u = q·v + r` up to a
  coefficientwise residual of the order of the unit roundoff times the natural scale.

  The transfer to the Rust `f64` code rests on the ASSUMPTION stated in Rounding.lean (IEEE binary64
  without overflow/underflow satisfies `FlModel` with `u = 2⁻⁵³`); it is not proved here.

  Notation: `coef p i` the real value of coefficient `i` (`0` beyond the end, from C11F), `k = deg r − deg v`
  the shift of a step, `c = fl(r_lead / v_lead)` its multiplier, `sh v k j = v_{j−k}` (`0` for `j < k`),
  `conv a b j = Σ_{i ≤ j} a_i b_{j−i}`, `exactConv`/`absConv` (C11F) the same for coefficient arrays,
  `M.gam n = (1+u)^n − 1`.

  (F) 1a. `divStep_slots`: what one step computes, literally;
      1b. `divStep_rounding`: rounding analysis of one step;
          `run_rounding`: telescoping over `m` steps, in the multipliers `d` of the steps;
      2a. `polydiv_multiplier_rounding`: backward-error form in the multipliers;
      2b. `polydiv_residual_steps`: the residual of the division identity, division-free form;
      2.  `polydiv_residual_rounding`, `gam_lt_one`: the residual relative to the natural scale, with
          the constant `divConst`;
      3.  `polydiv_degree_fl`, `polydiv_total_fl`: the degree facts are structural; total statement.

  Remark on the abstract standard model: `FlModel` does not assume `fl (fl x) = fl x`, so `0 + x` is a
  rounding.  `Poly.add q t` therefore re-rounds EVERY stored quotient coefficient in every step (and
  `Poly.sub` every remainder coefficient below the shift): the returned `q̂` differs from the multipliers
  `d` used in the remainder updates by up to `m` roundings.  This is why the bound in terms of `q̂` needs
  `1/(1 − gam m)`; the multiplier form 2a needs no such factor.  For IEEE arithmetic these re-roundings
  are exact and the bounds are pessimistic but valid.
-/
import Ohsl.Props.C12D
import Ohsl.Props.C11F
namespace Ohsl.Props.C12
open Ohsl Ohsl.Poly Ohsl.PolyDiv Ohsl.Props.C11

section Rounding
variable {M : FlModel}
open Fl FlModel

theorem fl_beq_zero : ((0 : Fl M) == 0) = true := by simp

theorem coef_trimA (p : Array (Fl M)) (k : Nat) : coef (trimA p) k = coef p k := by
  unfold coef; rw [getD_trimA]

theorem coef_stepT (k : Nat) (c : Fl M) (i : Nat) :
    coef (stepT k c) i = if i = k then c.val else 0 := by
  unfold coef
  rw [stepT_getD]
  split <;> rfl

theorem coef_last (v : Array (Fl M)) (hv : 1 ≤ v.size) :
    coef v (v.size - 1) = (v[v.size - 1]'(by omega)).val := by
  unfold coef; rw [Array.getElem?_eq_getElem (by omega)]; rfl

theorem isZero_iff_coef (p : Array (Fl M)) : isZero p = true ↔ ∀ j, coef p j = 0 :=
  (isZero_iff_getD p).trans
    ⟨fun h j => by unfold coef; rw [h j]; rfl, fun h j => Fl.ext (h j)⟩

/-- `fl(0 + fl(c·x))`: two roundings -/
theorem zero_add_mul_err (c x : Fl M) :
    |((0 : Fl M) + c * x).val - c.val * x.val| ≤ M.gam 2 * |c.val * x.val| :=
  (approx_zero_add (c * x)).trans (M.approx_fl _)

/-- the remainder slot `(0 + a) − (0 + c·x)`: `a` is rounded twice (`0 + a`, then the subtraction),
the product three times (product, `0 + ·`, subtraction) -/
theorem sub_zero_add_mul_err (a c x : Fl M) :
    |((0 + a) - (0 + c * x)).val - (a.val - c.val * x.val)|
      ≤ M.gam 2 * |a.val| + M.gam 3 * |c.val * x.val| :=
  (approx_zero_add a).within.fl_sub_le (Approx.within (zero_add_mul_err c x))

theorem rel_compose (x y z : ℝ) (n : ℕ) (h1 : |y - x| ≤ M.u * |x|)
    (h2 : |z - y| ≤ M.gam n * |y|) : |z - x| ≤ M.gam (n + 1) * |x| :=
  Approx.trans h2 (show M.Approx 1 y x by rwa [Approx, M.gam_one])

/-- coefficient `j` of `x^k · v` as a real number (`0` outside `k ≤ j < k + v.size`) -/
def sh (v : Array (Fl M)) (k j : Nat) : ℝ := if k ≤ j then coef v (j - k) else 0

theorem sh_eq_zero (v : Array (Fl M)) (k j : Nat) (h : ¬ (k ≤ j ∧ j - k < v.size)) : sh v k j = 0 := by
  unfold sh
  split
  · exact coef_of_le v _ (by omega)
  · rfl

theorem sh_last (v : Array (Fl M)) (n : Nat) (hv : 1 ≤ v.size) (hn : v.size ≤ n) :
    sh v (n - v.size) (n - 1) = coef v (v.size - 1) := by
  unfold sh
  rw [if_pos (by omega)]
  congr 1
  omega

/-- `Poly.mul (c·x^k) v`: the products with the zero coefficients of the monomial are exact zeros and
leave the accumulator `0`; the slot `j` receives the single product `c·v_{j−k}`, added to `0` -/
theorem mul_stepT_getD (k : Nat) (c : Fl M) (v : Array (Fl M)) (j : Nat) :
    (mul (stepT k c) v)[j]?.getD 0
      = if k ≤ j ∧ j - k < v.size then 0 + c * v[j - k]?.getD 0 else 0 := by
  rw [mul_getD, stepT_size]
  unfold convTerms
  rw [convIdx_succ, List.map_append, List.foldl_append]
  have h0 : ((convIdx k v.size j).map
      (fun i => (stepT k c)[i]?.getD 0 * v[j - i]?.getD 0)).foldl (· + ·) (0 : Fl M) = 0 := by
    apply foldl_zeros
    intro x hx
    obtain ⟨i, hi, rfl⟩ := List.mem_map.mp hx
    have : i < k := by
      unfold convIdx at hi
      exact List.mem_range.mp (List.mem_filter.mp hi).1
    rw [stepT_getD, if_neg (by omega)]; exact fl_zero_mul _
  rw [h0]
  by_cases hc : k ≤ j ∧ j - k < v.size
  · rw [if_pos hc, if_pos hc, List.map_cons, List.map_nil, List.foldl_cons, List.foldl_nil,
      stepT_getD, if_pos rfl]
  · rw [if_neg hc, if_neg hc]; rfl

theorem stepR0_rounding (v r : Array (Fl M)) (c : Fl M) (hv : 1 ≤ v.size) (hr : v.size ≤ r.size)
    (j : Nat) (hj : j ≠ r.size - 1) :
    |coef (stepR0 v r c) j - (coef r j - c.val * sh v (r.size - v.size) j)|
      ≤ M.gam 2 * |coef r j| + M.gam 3 * |c.val * sh v (r.size - v.size) j| := by
  have hc : coef (stepR0 v r c) j = ((stepR0 v r c)[j]?.getD 0).val := rfl
  rw [hc, stepR0_getD v r c hv hr j, if_neg hj]
  by_cases h1 : j < r.size
  · rw [if_pos h1, mul_stepT_getD]
    have ha : coef r j = (r[j]?.getD 0).val := rfl
    rw [ha]
    generalize r[j]?.getD 0 = a
    by_cases h2 : r.size - v.size ≤ j ∧ j - (r.size - v.size) < v.size
    · rw [if_pos h2]
      have hsh : sh v (r.size - v.size) j = (v[j - (r.size - v.size)]?.getD 0).val := by
        unfold sh coef; rw [if_pos h2.1]
      rw [hsh]
      generalize v[j - (r.size - v.size)]?.getD 0 = x
      exact sub_zero_add_mul_err a c x
    · rw [if_neg h2, sh_eq_zero v _ j h2]
      simpa only [Fl.zero_val, mul_zero, sub_zero, abs_zero, add_zero] using sub3_err a (0 : Fl M)
  · rw [if_neg h1, coef_of_le r j (by omega), sh_eq_zero v _ j (by omega)]
    simp only [Fl.zero_val, mul_zero, sub_zero, abs_zero, add_zero, le_refl]

/-- the leading slot: it is set to the literal `0`, while `r_lead − c·v_lead = −δ·r_lead` for the
rounded multiplier `c = fl(r_lead / v_lead)` -/
theorem stepR0_lead_bound (v r : Array (Fl M)) (c : Fl M) (hv : 1 ≤ v.size)
    (hr : v.size ≤ r.size) (hlv : coef v (v.size - 1) ≠ 0)
    (hc : c.val = M.fl (coef r (r.size - 1) / coef v (v.size - 1))) :
    coef (stepR0 v r c) (r.size - 1) = 0 ∧
    |coef r (r.size - 1) - c.val * sh v (r.size - v.size) (r.size - 1)|
      ≤ M.u * |coef r (r.size - 1)| := by
  constructor
  · have h : coef (stepR0 v r c) (r.size - 1) = ((stepR0 v r c)[r.size - 1]?.getD 0).val := rfl
    rw [h, stepR0_getD v r _ hv hr, if_pos rfl]; rfl
  · rw [sh_last v r.size hv hr, hc]
    generalize coef r (r.size - 1) = a
    generalize coef v (v.size - 1) = b at hlv
    obtain ⟨δ, hδ, e⟩ := M.exists_delta (a / b)
    have : a - a / b * (1 + δ) * b = -δ * a := by field_simp; ring
    rw [e, this, abs_mul, abs_neg]
    exact mul_le_mul_of_nonneg_right hδ (abs_nonneg _)

/-- … for the multiplier as the code computes it.  The proofs of `v.size - 1 < v.size` and
`r.size - 1 < r.size` made for this statement are the ones every later statement that indexes the
leading coefficients refers to (`divStep_slots`): it stands first among them. -/
theorem stepR0_lead_rounding (v r : Array (Fl M)) (hv : 1 ≤ v.size) (hr : v.size ≤ r.size)
    (hlv : (v[v.size - 1]'(by omega)).val ≠ 0) :
    coef (stepR0 v r (r[r.size - 1]'(by omega) / v[v.size - 1]'(by omega))) (r.size - 1) = 0 ∧
    |coef r (r.size - 1) - (r[r.size - 1]'(by omega) / v[v.size - 1]'(by omega)).val
        * sh v (r.size - v.size) (r.size - 1)| ≤ M.u * |coef r (r.size - 1)| :=
  stepR0_lead_bound v r _ hv hr (by rwa [coef_last v hv])
    (by rw [coef_last v hv, coef_last r (hv.trans hr)]; rfl)

theorem stepR_rounding (v r : Array (Fl M)) (c : Fl M) (hv : 1 ≤ v.size) (hr : v.size ≤ r.size)
    (hlv : coef v (v.size - 1) ≠ 0)
    (hc : c.val = M.fl (coef r (r.size - 1) / coef v (v.size - 1))) (j : Nat) :
    |coef (trimA (stepR0 v r c)) j - (coef r j - c.val * sh v (r.size - v.size) j)|
      ≤ M.gam 2 * |coef r j| + M.gam 3 * |c.val * sh v (r.size - v.size) j| := by
  rw [coef_trimA]
  by_cases hj : j = r.size - 1
  · obtain ⟨h1, h2⟩ := stepR0_lead_bound v r c hv hr hlv hc
    subst hj
    rw [h1, zero_sub, abs_neg]
    exact h2.trans ((mul_le_mul_of_nonneg_right (M.gam_one ▸ M.gam_mono one_le_two)
      (abs_nonneg _)).trans (le_add_of_nonneg_right (mul_nonneg (M.gam_nonneg 3) (abs_nonneg _))))
  · exact stepR0_rounding v r _ hv hr j hj

theorem divM_lead {v r : Array (Fl M)} (hv : 1 ≤ v.size) (hr : v.size ≤ r.size) {c : Fl M}
    (h : divM (r[r.size - 1]'(by omega)) (v[v.size - 1]'(by omega)) = .ok c) :
    coef v (v.size - 1) ≠ 0 ∧ c.val = M.fl (coef r (r.size - 1) / coef v (v.size - 1)) := by
  obtain ⟨hlv, rfl⟩ := Fl.divM_ok h
  rw [coef_last v hv, coef_last r (hv.trans hr)]
  exact ⟨hlv, rfl⟩

theorem add_coef_of_zero (p q : Array (Fl M)) (i : Nat) (h : coef p i = 0) :
    |coef (add p q) i - coef q i| ≤ M.u * |coef q i| := by
  obtain ⟨δ₁, δ₂, -, h₂, e, -, -⟩ := add_backward p q i
  rw [e, h, zero_mul, zero_add]; exact one_step_err h₂

theorem add_coef_beyond (p q : Array (Fl M)) (i : Nat) (h : q.size ≤ i) :
    |coef (add p q) i - coef p i| ≤ M.u * |coef p i| := by
  obtain ⟨δ₁, δ₂, h₁, -, e, -, r₂⟩ := add_backward p q i
  rw [e, r₂ h, coef_of_le q i h, add_zero, add_zero, mul_one]; exact one_step_err h₁

/-- **the new quotient of one step** `q' = trim (add q (c·x^k))`: slot `i` is `(0 + q_i) + t_i`, `t_k = c`,
`t_i = 0` otherwise (so, in the abstract standard model, EVERY coefficient of the quotient is re-rounded in
every step); above `k` it is `0 + q_i`, where `q_i = 0` it is `0 + t_i`, the first step (`q = #[]`) is exact -/
theorem stepQ_rounding (v q r : Array (Fl M)) (c : Fl M) (k : Nat)
    (hk : r.size - v.size = k) (i : Nat) :
    |coef (trimA (stepQ0 v q r c)) i - (coef q i + if i = k then c.val else 0)|
      ≤ M.gam 2 * |coef q i| + M.u * |if i = k then c.val else 0| ∧
    (k < i → |coef (trimA (stepQ0 v q r c)) i - coef q i| ≤ M.u * |coef q i|) ∧
    (coef q i = 0 → |coef (trimA (stepQ0 v q r c)) i - (if i = k then c.val else 0)|
      ≤ M.u * |if i = k then c.val else 0|) ∧
    (q.size = 0 → coef (trimA (stepQ0 v q r c)) i = if i = k then c.val else 0) := by
  rw [coef_trimA, stepQ0, hk, ← coef_stepT k c i]
  refine ⟨add_rounding _ _ i, fun hk => add_coef_beyond _ _ i (by rw [stepT_size]; omega),
    fun h0 => add_coef_of_zero _ _ i h0, fun hq => ?_⟩
  have : add q (stepT k c) = stepT k c := by simp [add, hq]
  rw [this]

/-- **1a. the slots of one step, literally** (`Fl M`, divisor with non-zero leading coefficient):
with `c = r_lead / v_lead` (one rounded division) and `k = deg r − deg v`
* every remainder slot below the leading one is `(0 + r_j) − (0 + c·v_{j−k})` (`Poly.mul` adds the
  single non-trivial product to `0`, `Poly.sub` is `s = 0; s += a; s -= b`), resp. `(0 + r_j) − 0`
  for `j < k`;
* the leading remainder slot is the literal `0`;
* the quotient slot `k` is `(0 + q_k) + c` when `q` is non-empty and long enough. -/
theorem divStep_slots (v q r : Array (Fl M)) (hv : 1 ≤ v.size) (hr : v.size ≤ r.size)
    (hlv : coef v (v.size - 1) ≠ 0) :
    ∃ c q' r', divStep v q r = .ok (q', r') ∧
      c = r[r.size - 1]'(by omega) / v[v.size - 1]'(by omega) ∧
      (∀ j, j < r.size - 1 → r'[j]?.getD 0 = (0 + r[j]?.getD 0)
          - (if r.size - v.size ≤ j then 0 + c * v[j - (r.size - v.size)]?.getD 0 else 0)) ∧
      r'[r.size - 1]?.getD 0 = 0 ∧
      (r.size - v.size < q.size →
        q'[r.size - v.size]?.getD 0 = (0 + q[r.size - v.size]?.getD 0) + c) := by
  have hlv' : (v[v.size - 1]'(by omega)).val ≠ 0 := by rwa [← coef_last v hv]
  refine ⟨r[r.size - 1]'(by omega) / v[v.size - 1]'(by omega), _, _,
    by rw [divStep_eq v q r hv hr, Fl.divM_of_val_ne hlv']; rfl, rfl, ?_, ?_, ?_⟩
  · intro j hj
    have hjr : j < r.size := Nat.lt_of_lt_of_le hj (Nat.sub_le _ _)
    rw [getD_trimA, stepR0_getD v r _ hv hr j, if_neg (Nat.ne_of_lt hj), if_pos hjr,
      mul_stepT_getD]
    by_cases h : r.size - v.size ≤ j
    · rw [if_pos ⟨h, Nat.sub_lt_left_of_lt_add h (by rwa [Nat.sub_add_cancel hr])⟩, if_pos h]
    · rw [if_neg (fun h' => h h'.1), if_neg h]
  · rw [getD_trimA, stepR0_getD v r _ hv hr, if_pos rfl]
  · intro hq
    rw [getD_trimA, stepQ0, add_coeff _ _ (Nat.ne_of_gt (Nat.zero_lt_of_lt hq))
      (by rw [stepT_size]; exact Nat.succ_ne_zero _), if_pos hq, stepT_size,
      if_pos (Nat.lt_succ_self _), stepT_getD, if_pos rfl]

/-- **1b. rounding analysis of one step** (`Fl M`, divisor with non-zero leading coefficient).  With
`c = fl(r_lead / v_lead)`, `k = deg r − deg v`, `t_i = c` for `i = k` and `0` otherwise:
* quotient: `|q'_i − (q_i + t_i)| ≤ gam 2·|q_i| + u·|t_i|` (`(0 + q_i) + t_i`); one rounding above `k`
  and where `q_i = 0`; no rounding at all in the first step (`q = #[]`);
* remainder, `j` not the leading slot: `|r'_j − (r_j − c·v_{j−k})| ≤ gam 2·|r_j| + gam 3·|c·v_{j−k}|`;
* the leading slot of the remainder is removed exactly (`r'_lead = 0`), the exact update would have
  left `|r_lead − c·v_lead| ≤ u·|r_lead|`;
* the remainder gets shorter. -/
theorem divStep_rounding (v q r : Array (Fl M)) (hv : 1 ≤ v.size) (hr : v.size ≤ r.size)
    (hlv : coef v (v.size - 1) ≠ 0) :
    ∃ (c : ℝ) (q' r' : Array (Fl M)), divStep v q r = .ok (q', r') ∧
      c = M.fl (coef r (r.size - 1) / coef v (v.size - 1)) ∧
      (∀ i, |coef q' i - (coef q i + if i = r.size - v.size then c else 0)|
          ≤ M.gam 2 * |coef q i| + M.u * |if i = r.size - v.size then c else 0|) ∧
      (∀ i, r.size - v.size < i → |coef q' i - coef q i| ≤ M.u * |coef q i|) ∧
      (∀ i, coef q i = 0 → |coef q' i - (if i = r.size - v.size then c else 0)|
          ≤ M.u * |if i = r.size - v.size then c else 0|) ∧
      (q.size = 0 → ∀ i, coef q' i = if i = r.size - v.size then c else 0) ∧
      (∀ j, j ≠ r.size - 1 → |coef r' j - (coef r j - c * sh v (r.size - v.size) j)|
          ≤ M.gam 2 * |coef r j| + M.gam 3 * |c * sh v (r.size - v.size) j|) ∧
      coef r' (r.size - 1) = 0 ∧
      |coef r (r.size - 1) - c * coef v (v.size - 1)| ≤ M.u * |coef r (r.size - 1)| ∧
      r'.size ≤ max 1 (r.size - 1) ∧ 1 ≤ r'.size ∧ 1 ≤ q'.size := by
  have hlv' : (v[v.size - 1]'(by omega)).val ≠ 0 := by rwa [← coef_last v hv]
  obtain ⟨hl1, hl2⟩ := stepR0_lead_rounding v r hv hr hlv'
  rw [sh_last v r.size hv hr] at hl2
  have hQ := stepQ_rounding v q r (r[r.size - 1]'(by omega) / v[v.size - 1]'(by omega)) _ rfl
  refine ⟨(r[r.size - 1]'(by omega) / v[v.size - 1]'(by omega)).val, _, _,
    by rw [divStep_eq v q r hv hr, Fl.divM_of_val_ne hlv']; rfl,
    by rw [coef_last v hv, coef_last r (hv.trans hr)]; rfl,
    fun i => (hQ i).1, fun i hi => (hQ i).2.1 hi, fun i hi => (hQ i).2.2.1 hi,
    fun hq i => (hQ i).2.2.2 hq, fun j hj => ?_, ?_, hl2,
    stepR_size_le v r _ fl_beq_zero hv hr,
    trimA_size_pos _ (by rw [stepR0_size v r _ hv hr]; omega),
    trimA_size_pos _ (stepQ0_size_pos v q r _)⟩
  · rw [coef_trimA]; exact stepR0_rounding v r _ hv hr j hj
  · rw [coef_trimA]; exact hl1

def conv (a b : ℕ → ℝ) (j : ℕ) : ℝ := ∑ i ∈ Finset.range (j + 1), a i * b (j - i)

theorem conv_add_single (d b : ℕ → ℝ) (k : ℕ) (c : ℝ) (j : ℕ) :
    conv (fun i => d i + (if i = k then c else 0)) b j
      = conv d b j + c * (if k ≤ j then b (j - k) else 0) := by
  unfold conv
  simp only [add_mul, Finset.sum_add_distrib, ite_mul, zero_mul]
  congr 1
  rw [Finset.sum_ite_eq' (Finset.range (j + 1)) k (fun i => c * b (j - i))]
  by_cases h : k ≤ j
  · simp [h, Nat.lt_succ_of_le h]
  · have : ¬ k < j + 1 := by omega
    simp [h, this]

theorem conv_nonneg (a b : ℕ → ℝ) (j : ℕ) (ha : ∀ i, 0 ≤ a i) (hb : ∀ i, 0 ≤ b i) :
    0 ≤ conv a b j :=
  Finset.sum_nonneg (fun i _ => mul_nonneg (ha i) (hb _))

theorem abs_conv_le (a b : ℕ → ℝ) (j : ℕ) : |conv a b j| ≤ conv (fun i => |a i|) (fun i => |b i|) j :=
  (Finset.abs_sum_le_sum_abs _ _).trans_eq (Finset.sum_congr rfl fun _ _ => abs_mul _ _)

theorem exactConv_eq_conv (p q : Array (Fl M)) (j : ℕ) :
    exactConv p q j = conv (coef p) (coef q) j := rfl

theorem absConv_eq_conv (p q : Array (Fl M)) (j : ℕ) :
    absConv p q j = conv (fun i => |coef p i|) (fun i => |coef q i|) j := by
  unfold absConv conv
  exact Finset.sum_congr rfl (fun i _ => abs_mul _ _)

/-- one more step in front of a run: the step turns `a` into `r₁`, three roundings from `a − Y`; the rest
of the run ends `k` roundings from `r₁ − D`; the counts add (`Within.trans`) -/
theorem within_step {k : ℕ} {a Y r₁ D r' A : ℝ}
    (hs : |r₁ - (a - Y)| ≤ M.gam 2 * |a| + M.gam 3 * |Y|) (hD : |D| ≤ A)
    (hb : M.Within k r' (r₁ - D) (|r₁| + A)) :
    M.Within (k + 3) r' (a - (D + Y)) (|a| + (A + |Y|)) := by
  have hg : M.gam 2 * |a| + M.gam 3 * |Y| ≤ M.gam 3 * (|a| + |Y|) := by
    rw [mul_add]
    exact add_le_add
      (mul_le_mul_of_nonneg_right (M.gam_mono (show 2 ≤ 3 by norm_num)) (abs_nonneg _)) le_rfl
  have h1 : M.Within 3 r₁ (a - Y) (|a| + |Y|) := ⟨hs.trans hg, abs_sub _ _⟩
  have hT : |r₁| + A ≤ (1 + M.gam 3) * (|a| + |Y| + A) := by
    have := h1.abs_le
    have := mul_nonneg (M.gam_nonneg 3) ((abs_nonneg D).trans hD)
    linarith
  have h3 := hb.trans (h1.sub ((Within.of_le (M := M) hD).mono (Nat.zero_le 3))) hT
  rwa [sub_sub, add_comm Y, add_assoc |a|, add_comm |Y|] at h3

/-- **the run of the division loop in `Fl M`.**  `m` steps from `(q, r)` to `(q', r')` use multipliers
`d` (`d_k = c` for the step with shift `k`, `0` elsewhere; supported on `i ≤ deg r − deg v`) with
* where `q_i = 0` the final quotient coefficient is `d_i` up to `m` roundings;
* above the current shift the quotient coefficients are only re-rounded (once per step);
* `r'_j` is `r_j − (d * v)_j` up to `3m` roundings against the size `|r_j| + (|d| * |v|)_j`, for every `j`
  (three per step: `stepR_rounding`; the counts add by `Within.trans`). -/
theorem run_rounding (v : Array (Fl M)) (hv : 1 ≤ v.size) {m : Nat} {q r q' r' : Array (Fl M)}
    (h : Run v m q r q' r') :
    ∃ d : ℕ → ℝ,
      (∀ i, d i ≠ 0 → i + v.size ≤ r.size ∧ 0 < m) ∧
      (∀ i, coef q i = 0 → |coef q' i - d i| ≤ M.gam m * |d i|) ∧
      (∀ i, r.size < i + v.size → |coef q' i - coef q i| ≤ M.gam m * |coef q i|) ∧
      (∀ j, M.Within (3 * m) (coef r' j) (coef r j - conv d (coef v) j)
          (|coef r j| + conv (fun i => |d i|) (fun i => |coef v i|) j)) := by
  induction h with
  | done q r =>
    refine ⟨fun _ => 0, by simp, ?_, by simp, ?_⟩
    · intro i hi; simp [hi]
    · intro j; simpa [conv] using Within.of_le (M := M) (le_refl |coef r j|)
  | @step m q r q1 r1 q' r' hr hz hstep hrun ih =>
    obtain ⟨d', hS, hQ1, hQ2, hB⟩ := ih
    obtain ⟨c, hc, hq1, hr1⟩ := divStep_ok v q r q1 r1 hv hr hstep
    obtain ⟨hlv, hcv⟩ := divM_lead hv hr hc
    have hRs : ∀ j, |coef r1 j - (coef r j - c.val * sh v (r.size - v.size) j)|
        ≤ M.gam 2 * |coef r j| + M.gam 3 * |c.val * sh v (r.size - v.size) j| := by
      intro j; rw [hr1]; exact stepR_rounding v r c hv hr hlv hcv j
    have hQb : ∀ i, r.size - v.size < i → |coef q1 i - coef q i| ≤ M.u * |coef q i| := by
      intro i hi
      rw [hq1]; exact (stepQ_rounding v q r c _ rfl i).2.1 hi
    have hQc : ∀ i, coef q i = 0 →
        |coef q1 i - (if i = r.size - v.size then c.val else 0)|
          ≤ M.u * |if i = r.size - v.size then c.val else 0| := by
      intro i hi
      rw [hq1]; exact (stepQ_rounding v q r c _ rfl i).2.2.1 hi
    -- the rest of the run only touches shifts below the current one
    have H : (∀ i, d' i ≠ 0 → i + v.size < r.size) ∧
        (∀ i, r.size ≤ i + v.size → |coef q' i - coef q1 i| ≤ M.gam m * |coef q1 i|) := by
      rcases divStep_zero_or_shorter v q r q1 r1 hv hr fl_beq_zero hstep with hz1 | hlt
      · obtain ⟨hm0, hq', hr'⟩ := run_of_isZero v hrun hz1
        refine ⟨fun i hi => absurd (hS i hi).2 (hm0 ▸ Nat.lt_irrefl 0), fun i _ => ?_⟩
        rw [hq', sub_self, abs_zero]; exact mul_nonneg (M.gam_nonneg _) (abs_nonneg _)
      · exact ⟨fun i hi => Nat.lt_of_le_of_lt (hS i hi).1 hlt,
          fun i hi => hQ2 i (Nat.lt_of_lt_of_le hlt hi)⟩
    obtain ⟨H1, H2⟩ := H
    have hkv : r.size - v.size + v.size = r.size := Nat.sub_add_cancel hr
    have hd'k : d' (r.size - v.size) = 0 := by
      by_contra hne
      exact (H1 _ hne).ne hkv
    refine ⟨fun i => d' i + (if i = r.size - v.size then c.val else 0), ?_, ?_, ?_, ?_⟩
    · intro i hi
      beta_reduce at hi
      by_cases hik : i = r.size - v.size
      · exact ⟨by rw [hik, hkv], Nat.succ_pos m⟩
      · rw [if_neg hik, add_zero] at hi
        exact ⟨(H1 i hi).le, Nat.succ_pos m⟩
    · intro i hi
      by_cases hik : i = r.size - v.size
      · subst hik
        simp only [if_true, hd'k, zero_add]
        have h1 := hQc _ hi
        rw [if_pos rfl] at h1
        exact rel_compose _ _ _ m h1 (H2 _ hkv.ge)
      · simp only [if_neg hik, add_zero]
        have h1 := hQc _ hi
        rw [if_neg hik] at h1
        have h0 : coef q1 i = 0 := by simpa using h1
        refine (hQ1 i h0).trans ?_
        exact mul_le_mul_of_nonneg_right (M.gam_mono (Nat.le_succ m)) (abs_nonneg _)
    · intro i hi
      exact rel_compose _ _ _ m (hQb i ((Nat.sub_lt_iff_lt_add hr).2 hi)) (H2 i hi.le)
    · intro j
      have habs : (fun i => |d' i + (if i = r.size - v.size then c.val else 0)|)
          = fun i => |d' i| + (if i = r.size - v.size then |c.val| else 0) := by
        funext i
        by_cases hik : i = r.size - v.size
        · rw [if_pos hik, if_pos hik, hik, hd'k, zero_add, abs_zero, zero_add]
        · rw [if_neg hik, if_neg hik, add_zero, add_zero]
      rw [habs, conv_add_single, conv_add_single]
      have hX : |c.val| * (if r.size - v.size ≤ j then |coef v (j - (r.size - v.size))| else 0)
          = |c.val * sh v (r.size - v.size) j| := by
        unfold sh; split
        · rw [abs_mul]
        · rw [mul_zero, mul_zero, abs_zero]
      have hY : c.val * (if r.size - v.size ≤ j then coef v (j - (r.size - v.size)) else 0)
          = c.val * sh v (r.size - v.size) j := rfl
      rw [hX, hY]
      exact within_step (hRs j) (abs_conv_le d' (coef v) j) (hB j)

theorem run_size_le (v : Array (Fl M)) (hv : 1 ≤ v.size) {m : Nat} {q r q' r' : Array (Fl M)}
    (h : Run v m q r q' r') : r'.size ≤ r.size := by
  induction h with
  | done q r => exact le_refl _
  | @step m q r q1 r1 q' r' hr hz hstep hrun ih =>
    have hsz := (divStep_shrinks v q r q1 r1 hv hr fl_beq_zero hstep).1
    omega

/-- **2a. backward-error form in the multipliers.**  If `polydiv u v` returns `(q̂, r̂)` then there are
`m ≤ deg u − deg v + 1` steps and multipliers `d` (the rounded quotients `c` of leading coefficients
actually used in the remainder updates) such that
* `q̂_i = d_i (1 + ψ_i)`, `|ψ_i| ≤ gam m` — in the abstract standard model `fl(0 + x)` is a rounding, so the
  stored quotient coefficients are re-rounded once in every later step;
* `|u_j − ((d * v)_j + r̂_j)| ≤ gam (3m) · (|u_j| + (|d| * |v|)_j)` for every `j`. -/
theorem polydiv_multiplier_rounding (u v q r : Array (Fl M))
    (h : polydiv u v = .ok (some (q, r))) :
    ∃ m, m ≤ u.size + 1 - v.size ∧ ∃ d : ℕ → ℝ,
      (∀ i, d i ≠ 0 → i + v.size ≤ u.size) ∧
      (∀ i, |coef q i - d i| ≤ M.gam m * |d i|) ∧
      (∀ j, |coef u j - (conv d (coef v) j + coef r j)|
          ≤ M.gam (3 * m) * (|coef u j| + conv (fun i => |d i|) (fun i => |coef v i|) j)) := by
  obtain ⟨hv, ⟨m, hrun⟩, _⟩ := polydiv_run u v q r h
  obtain ⟨d, hS, hQ1, _, hB⟩ := run_rounding v hv hrun
  have hm := run_steps_le v hv fl_beq_zero hrun
  unfold pot at hm
  refine ⟨m, by split at hm <;> omega, d, fun i hi => (hS i hi).1, fun i => hQ1 i (coef_of_le _ i (by simp)), ?_⟩
  intro j
  have := (hB j).1
  rwa [abs_sub_comm, sub_sub] at this

/-- from the bound in terms of the multipliers (`D` their scale) to the bound in terms of the returned
quotient (`Q` its scale), which is within relative distance `gₘ` of the multipliers -/
theorem residual_of_multiplier_bound {g₃ gₘ U E D Q : ℝ} (hg₃ : 0 ≤ g₃) (hgₘ : 0 ≤ gₘ) (hU : 0 ≤ U)
    (hE0 : 0 ≤ E) (hQ : 0 ≤ Q) (hE : E ≤ g₃ * (U + D) + gₘ * D) (hD : (1 - gₘ) * D ≤ Q) :
    (1 - gₘ) * E ≤ (g₃ + gₘ) * (U + Q) := by
  by_cases hρ : 0 ≤ 1 - gₘ
  · have t1 := mul_le_mul_of_nonneg_left hE hρ
    have t2 := mul_le_mul_of_nonneg_left hD (add_nonneg hg₃ hgₘ)
    have t3 := mul_nonneg (mul_nonneg hg₃ hU) hgₘ
    have t4 := mul_nonneg hgₘ hU
    linarith
  · have t1 := mul_nonneg (neg_nonneg.2 (not_le.mp hρ).le) hE0
    have t2 := mul_nonneg (add_nonneg hg₃ hgₘ) (add_nonneg hU hQ)
    linarith

theorem polydiv_residual_steps (u v q r : Array (Fl M)) (h : polydiv u v = .ok (some (q, r))) :
    ∃ m, m ≤ u.size + 1 - v.size ∧ ∀ j,
      (1 - M.gam m) * |coef u j - (exactConv q v j + coef r j)|
        ≤ (M.gam (3 * m) + M.gam m) * (|coef u j| + absConv q v j) := by
  obtain ⟨m, hm, d, _, hQ, hB⟩ := polydiv_multiplier_rounding u v q r h
  refine ⟨m, hm, fun j => ?_⟩
  rw [exactConv_eq_conv, absConv_eq_conv]
  set D := conv (fun i => |d i|) (fun i => |coef v i|) j with hD
  have h2 : |conv (coef q) (coef v) j - conv d (coef v) j| ≤ M.gam m * D :=
    (FlModel.Within.finset_sum _ fun i _ => (FlModel.Approx.within (hQ i)).mul_const _).1
  have h3 : (1 - M.gam m) * D ≤ conv (fun i => |coef q i|) (fun i => |coef v i|) j := by
    rw [hD, conv, Finset.mul_sum]
    exact Finset.sum_le_sum fun i _ => (mul_assoc _ _ _).symm.trans_le
      (mul_le_mul_of_nonneg_right (FlModel.Approx.abs_ge (hQ i)) (abs_nonneg _))
  refine residual_of_multiplier_bound (M.gam_nonneg _) (M.gam_nonneg _) (abs_nonneg _)
    (abs_nonneg _) (conv_nonneg _ _ j (fun _ => abs_nonneg _) (fun _ => abs_nonneg _)) ?_ h3
  rw [show coef u j - (conv (coef q) (coef v) j + coef r j)
      = (coef u j - (conv d (coef v) j + coef r j))
        - (conv (coef q) (coef v) j - conv d (coef v) j) by ring]
  exact (abs_sub _ _).trans (add_le_add (hB j) h2)

/-- the constant of the residual bound: `(gam (3m) + gam m) / (1 − gam m)` (`≈ 4 m u`) -/
noncomputable def divConst (M : FlModel) (m : ℕ) : ℝ :=
  (M.gam (3 * m) + M.gam m) / (1 - M.gam m)

/-- **2. accuracy of `polydiv` over floats**: if `polydiv u v` returns `(q̂, r̂)` and
`N = deg u − deg v + 1` (a bound for the number of steps) satisfies `gam N < 1`, then for every `j`
`|u_j − ((q̂ * v)_j + r̂_j)| ≤ (gam (3N) + gam N) / (1 − gam N) · (|u_j| + (|q̂| * |v|)_j)`:
the computed quotient and remainder satisfy the division identity up to a residual that is small
relative to the natural scale of each coefficient (`*` the exact convolution of the real coefficients). -/
theorem polydiv_residual_rounding (u v q r : Array (Fl M)) (h : polydiv u v = .ok (some (q, r)))
    (hN : M.gam (u.size + 1 - v.size) < 1) (j : Nat) :
    |coef u j - (exactConv q v j + coef r j)|
      ≤ divConst M (u.size + 1 - v.size) * (|coef u j| + absConv q v j) := by
  obtain ⟨m, hm, hres⟩ := polydiv_residual_steps u v q r h
  have hgm : M.gam m ≤ M.gam (u.size + 1 - v.size) := M.gam_mono hm
  unfold divConst
  rw [div_mul_eq_mul_div, le_div_iff₀ (sub_pos.2 hN), mul_comm]
  exact (mul_le_mul_of_nonneg_right (sub_le_sub_left hgm 1) (abs_nonneg _)).trans ((hres j).trans
    (mul_le_mul_of_nonneg_right (add_le_add (M.gam_mono (Nat.mul_le_mul_left 3 hm)) hgm)
      (add_nonneg (abs_nonneg _) (absConv_nonneg q v j))))

/-- a sufficient condition for the hypothesis `gam N < 1`: `2 N u < 1` -/
theorem gam_lt_one (M : FlModel) (n : ℕ) (h : 2 * (n : ℝ) * M.u < 1) : M.gam n < 1 := by
  have hx : 0 ≤ (n : ℝ) * M.u := mul_nonneg (Nat.cast_nonneg n) M.u_nonneg
  rw [mul_assoc] at h
  refine (M.gam_le_gamma n (by linarith)).trans_lt ?_
  rw [div_lt_one (by linarith)]; linarith

/-- **3. degrees in `Fl M`**: a returned remainder is zero (all coefficients `0`) or shorter than the
divisor, it is not longer than the dividend, and the quotient has no coefficient above
`deg u − deg v` — rounding plays no role (the leading coefficient is removed structurally). -/
theorem polydiv_degree_fl (u v q r : Array (Fl M)) (h : polydiv u v = .ok (some (q, r))) :
    ((∀ j, coef r j = 0) ∨ r.size < v.size) ∧ r.size ≤ u.size ∧
      (∀ i, u.size < i + v.size → coef q i = 0) := by
  obtain ⟨hv, ⟨m, hrun⟩, hex⟩ := polydiv_run u v q r h
  refine ⟨?_, run_size_le v hv hrun, ?_⟩
  · rcases hex with hz | hs
    · exact Or.inl ((isZero_iff_coef r).mp hz)
    · exact Or.inr hs
  · obtain ⟨m', _, d, hS, hQ, _⟩ := polydiv_multiplier_rounding u v q r h
    intro i hi
    have hd : d i = 0 := by
      by_contra hne
      have := hS i hne; omega
    have := hQ i
    rw [hd, abs_zero, mul_zero, sub_zero] at this
    exact abs_nonpos_iff.mp this

/-- **total statement in `Fl M`** (instance of the class-S theorem `polydiv_terminates_of_lead`): for
a divisor with non-zero leading coefficient and `deg u − deg v < 1000` the division returns a quotient
and a remainder — never a panic, never "exceeded maximum iterations" — with the degree facts of
`polydiv_degree_fl` and the residual bound of `polydiv_residual_rounding`. -/
theorem polydiv_total_fl (u v : Array (Fl M)) (hlead : coef v (v.size - 1) ≠ 0)
    (hu : u.size < v.size + 1000) (hN : M.gam (u.size + 1 - v.size) < 1) :
    ∃ q r, polydiv u v = .ok (some (q, r)) ∧
      ((∀ j, coef r j = 0) ∨ r.size < v.size) ∧ r.size ≤ u.size ∧
      (∀ i, u.size < i + v.size → coef q i = 0) ∧
      ∀ j, |coef u j - (exactConv q v j + coef r j)|
        ≤ divConst M (u.size + 1 - v.size) * (|coef u j| + absConv q v j) := by
  have hv : v.size ≥ 1 := by
    by_contra hc
    exact hlead (coef_of_le v _ (by omega))
  have hz : isZero v = false := by
    by_contra hc
    have hc' : isZero v = true := by simpa using hc
    exact hlead ((isZero_iff_coef v).mp hc' _)
  obtain ⟨q, r, h, _⟩ := polydiv_terminates_of_lead u v hv hz hu fl_beq_zero (by
    intro a lv hl
    have hlv : lv.val ≠ 0 := by
      have : coef v (v.size - 1) = lv.val := by unfold coef; rw [hl]; rfl
      rwa [← this]
    exact ⟨a / lv, Fl.divM_of_val_ne hlv⟩)
  obtain ⟨h1, h2, h3⟩ := polydiv_degree_fl u v q r h
  exact ⟨q, r, h, h1, h2, h3, fun j => polydiv_residual_rounding u v q r h hN j⟩

end Rounding

section Examples
open Fl

/-- exact arithmetic is a model (`u = 0`): there the residual is `0`, i.e. `u = q·v + r`
coefficientwise (the class-E statement `polydiv_spec` of C12D, re-derived from the rounding bound) -/
example (u v q r : Array (Fl FlModel.exact)) (h : polydiv u v = .ok (some (q, r))) (j : Nat) :
    coef u j = exactConv q v j + coef r j := by
  have := polydiv_residual_rounding u v q r h (by rw [FlModel.gam_exact]; norm_num) j
  rw [divConst, FlModel.gam_exact, FlModel.gam_exact] at this
  simp only [add_zero, zero_div, zero_mul] at this
  exact sub_eq_zero.mp (abs_nonpos_iff.mp this)

/-- a concrete division, `(x² + 2x + 3) / (2x + 1)`, in ANY model with `gam 2 < 1`: all hypotheses of
`polydiv_total_fl` hold, so a quotient and a remainder of size `< 2` are returned and
`u = q̂ v + r̂` up to `divConst M 2 ≈ 8u` relative to `|u_j| + (|q̂||v|)_j` -/
example (M : FlModel) (hM : M.gam 2 < 1) :
    let u : Array (Fl M) := #[⟨3⟩, ⟨2⟩, ⟨1⟩]
    let v : Array (Fl M) := #[⟨1⟩, ⟨2⟩]
    ∃ q r, polydiv u v = .ok (some (q, r)) ∧ ((∀ j, coef r j = 0) ∨ r.size < 2) ∧
      ∀ j, |coef u j - (exactConv q v j + coef r j)|
        ≤ divConst M 2 * (|coef u j| + absConv q v j) := by
  intro u v
  have hl : coef v (v.size - 1) ≠ 0 := by
    show (2 : ℝ) ≠ 0
    norm_num
  obtain ⟨q, r, h, h1, _, _, h4⟩ := polydiv_total_fl u v hl (by simp [u, v]) hM
  exact ⟨q, r, h, h1, h4⟩

/-- the hypothesis `gam N < 1` holds with a huge margin for binary64's unit roundoff and every
admissible number of steps `N ≤ 1001` -/
example (N : ℕ) (hN : N ≤ 1001) : FlModel.binary64.gam N < 1 := by
  apply gam_lt_one
  rw [FlModel.binary64_u]
  have h1 : (N : ℝ) ≤ 1001 := by exact_mod_cast hN
  have h2 : (2 : ℝ) ^ (-53 : ℤ) ≤ 1 / 4004 := by
    rw [zpow_neg, ← one_div]
    apply one_div_le_one_div_of_le (by norm_num)
    norm_num
  have h3 : (0 : ℝ) ≤ (2 : ℝ) ^ (-53 : ℤ) := by positivity
  generalize (2 : ℝ) ^ (-53 : ℤ) = x at h2 h3 ⊢
  have h4 := mul_le_mul h1 h2 h3 (by norm_num : (0 : ℝ) ≤ 1001)
  linarith

/-- the step theorem is not vacuous either: one step of `(x² + 2x + 3) / (2x + 1)` -/
example (M : FlModel) :
    let r : Array (Fl M) := #[⟨3⟩, ⟨2⟩, ⟨1⟩]
    let v : Array (Fl M) := #[⟨1⟩, ⟨2⟩]
    ∃ (c : ℝ) (q' r' : Array (Fl M)), divStep v #[] r = .ok (q', r') ∧ c = M.fl (1 / 2) ∧
      coef q' 1 = c ∧ coef r' 2 = 0 ∧ r'.size ≤ 2 := by
  intro r v
  have hl : coef v (v.size - 1) ≠ 0 := by
    show (2 : ℝ) ≠ 0
    norm_num
  obtain ⟨c, q', r', h, hc, _, _, _, hq, _, h0, _, hs, _, _⟩ :=
    divStep_rounding v #[] r (by simp [v]) (by simp [r, v]) hl
  refine ⟨c, q', r', h, ?_, ?_, h0, hs⟩
  · rw [hc]; rfl
  · have := hq rfl 1
    simpa [r, v] using this

end Examples

end Ohsl.Props.C12
