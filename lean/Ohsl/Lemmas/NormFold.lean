/-
  Ohsl.Lemmas.NormFold — the loops of `Mat.norm1`, `Mat.normInf`, `Mat.normMax` and the accumulation
  loop of `Mat.normP` read as left folds, for every scalar type (no law about `+`, `fabs`, `fmax`,
  `powf` is used).  The exact statements about the norms (Props/C03N) and the rounded ones
  (Props/C03F, C03P) are facts about these folds.  `norm_max` is the running `fmax` over all
  entries, row by row; `norm_1` and `norm_inf` are the two instances (column sums, row sums) of one
  loop, `maxAbsSum`: a running `fmax` over `outer` sums, each accumulated from `0` over `inner`
  values `fabs (g a b)`.
-/
import Ohsl.Lemmas.MatSpec
import Ohsl.Lemmas.Loop
namespace Ohsl.Mat
variable {K : Type} [Zero K] [Transc K]

theorem normMax_fold {m : Mat K} {r c : Nat} {e : Nat → Nat → K} (h : Is m r c e) :
    Mat.normMax m = .ok ((List.range r).foldl (fun v i =>
      (List.range c).foldl (fun v j => Transc.fmax v (Transc.fabs (e i j))) v) 0) := by
  simp only [Mat.normMax, h.rows, h.cols]
  exact forM'_eq_foldl r _ _ 0 fun v i hi => forM'_eq_foldl c _ _ v fun w j hj => by
    simp only [h.entry i j hi hj, bind, Except.bind, pure, Except.pure]

variable [Add K]

/-- the value of the common loop of `norm_1` and `norm_inf` -/
def maxAbsSum (outer inner : Nat) (g : Nat → Nat → K) : K :=
  (List.range outer).foldl (fun v a => Transc.fmax v
    (((List.range inner).map fun b => Transc.fabs (g a b)).foldl (· + ·) 0)) 0

theorem maxAbsSum_fold (outer inner : Nat) (g : Nat → Nat → K) (get : Nat → Nat → Res K)
    (hget : ∀ a b, a < outer → b < inner → get a b = .ok (g a b)) :
    forM' 0 outer (0 : K) (fun result a => do
        let s ← forM' 0 inner (0 : K) (fun s b => do
          let x ← get a b
          pure (s + Transc.fabs x))
        pure (Transc.fmax result s)) = .ok (maxAbsSum outer inner g) :=
  forM'_eq_foldl outer _ _ 0 fun v a ha => by
    rw [forM'_eq_foldl inner (fun s b => s + Transc.fabs (g a b)) _ 0 fun s b hb => by
      simp only [hget a b ha hb, bind, Except.bind, pure, Except.pure], ← List.foldl_map]
    rfl

theorem norm1_fold {m : Mat K} {r c : Nat} {e : Nat → Nat → K} (h : Is m r c e) :
    Mat.norm1 m = .ok (maxAbsSum c r fun j i => e i j) := by
  simp only [Mat.norm1, h.rows, h.cols]
  exact maxAbsSum_fold c r (fun j i => e i j) (fun j i => m.get i j)
    fun j i hj hi => h.entry i j hi hj

theorem normInf_fold {m : Mat K} {r c : Nat} {e : Nat → Nat → K} (h : Is m r c e) :
    Mat.normInf m = .ok (maxAbsSum r c e) := by
  simp only [Mat.normInf, h.rows, h.cols]
  exact maxAbsSum_fold r c e (fun i j => m.get i j) fun i j hi hj => h.entry i j hi hj

theorem normP_fold [Sub K] [Mul K] [Neg K] [One K] [BEq K] [ScalarExt K]
    {m : Mat K} {r c : Nat} {e : Nat → Nat → K} (h : Is m r c e) (p : K) :
    forM' 0 r (0 : K) (fun s i =>
      forM' 0 c s (fun s j => do
        let x ← m.get i j
        pure (s + Transc.powf (Transc.fabs x) p))) =
      .ok ((List.range r).foldl (fun s i =>
        (List.range c).foldl (fun s j => s + Transc.powf (Transc.fabs (e i j)) p) s) 0) :=
  forM'_eq_foldl r _ _ 0 fun s i hi => forM'_eq_foldl c _ _ s fun s j hj => by
    simp only [h.get hi hj, bind, Except.bind, pure, Except.pure]

end Ohsl.Mat
