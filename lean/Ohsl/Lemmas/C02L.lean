/-
  Helper file for Ohsl/Props/C02L.lean: exact linear algebra over `ℝ` relating the RIGHT residual
  `R = A X − I` of an approximate inverse `X` of a nonsingular `A` to its LEFT residual `X A − I`
  and to its forward error `X − A⁻¹`, in the max-row-sum norm `‖·‖∞` (`nrmInf`, defined explicitly
  and shown equal, `nrmInf_eq_norm`, to Mathlib's `Matrix.linftyOpNormedRing` norm, from which
  submultiplicativity etc. are inherited).  `X − A⁻¹ = A⁻¹ R` and `X A − I = A⁻¹ R A` (`det A` a
  unit) give the bounds with `‖A⁻¹‖∞` resp. `κ∞(A)`; `‖R‖∞ < 1` makes `A` and `X` nonsingular with
  `‖A⁻¹‖∞ ≤ ‖X‖∞/(1 − ‖R‖∞)`, which gives the bounds free of `A⁻¹`.  Nothing here mentions the model.
-/
import Mathlib.Analysis.Matrix.Normed
import Mathlib.LinearAlgebra.Matrix.NonsingularInverse
import Mathlib.LinearAlgebra.Matrix.ToLin
import Mathlib.Tactic.Ring
import Mathlib.Tactic.Linarith
import Mathlib.Tactic.SplitIfs
import Mathlib.Tactic.Lift
import Mathlib.Tactic.Abel
namespace Ohsl
namespace MatNorm
open Matrix
open scoped NNReal

variable {n : ℕ}

/-- the max-row-sum norm `‖A‖∞ = max_i Σ_j |a_ij|` (`0` for the empty matrix) -/
noncomputable def nrmInf (A : Matrix (Fin n) (Fin n) ℝ) : ℝ :=
  ((Finset.univ : Finset (Fin n)).sup fun i => ∑ j, ‖A i j‖₊ : ℝ≥0)

section
attribute [local instance] Matrix.linftyOpNormedAddCommGroup Matrix.linftyOpNormedRing
  Matrix.linftyOpNormedSpace

theorem nrmInf_eq_norm (A : Matrix (Fin n) (Fin n) ℝ) : nrmInf A = ‖A‖ :=
  (Matrix.linfty_opNorm_def A).symm

theorem nrmInf_nonneg (A : Matrix (Fin n) (Fin n) ℝ) : 0 ≤ nrmInf A := by
  rw [nrmInf_eq_norm]; exact norm_nonneg _

theorem nrmInf_mul_le (A B : Matrix (Fin n) (Fin n) ℝ) : nrmInf (A * B) ≤ nrmInf A * nrmInf B := by
  simp only [nrmInf_eq_norm]; exact norm_mul_le _ _

theorem nrmInf_add_le (A B : Matrix (Fin n) (Fin n) ℝ) : nrmInf (A + B) ≤ nrmInf A + nrmInf B := by
  simp only [nrmInf_eq_norm]; exact norm_add_le _ _

theorem nrmInf_sub_le (A B : Matrix (Fin n) (Fin n) ℝ) : nrmInf (A - B) ≤ nrmInf A + nrmInf B := by
  simp only [nrmInf_eq_norm]; exact norm_sub_le _ _

theorem nrmInf_neg (A : Matrix (Fin n) (Fin n) ℝ) : nrmInf (-A) = nrmInf A := by
  simp only [nrmInf_eq_norm]; exact norm_neg _

theorem nrmInf_smul (c : ℝ) (A : Matrix (Fin n) (Fin n) ℝ) : nrmInf (c • A) = |c| * nrmInf A := by
  simp only [nrmInf_eq_norm]; rw [norm_smul, Real.norm_eq_abs]

theorem nrmInf_mulVec_le (A : Matrix (Fin n) (Fin n) ℝ) (v : Fin n → ℝ) :
    ‖A *ᵥ v‖ ≤ nrmInf A * ‖v‖ := by
  rw [nrmInf_eq_norm]; exact Matrix.linfty_opNorm_mulVec A v

end

theorem coe_row_sum (A : Matrix (Fin n) (Fin n) ℝ) (i : Fin n) :
    ((∑ j, ‖A i j‖₊ : ℝ≥0) : ℝ) = ∑ j, |A i j| := by
  simp only [NNReal.coe_sum, coe_nnnorm, Real.norm_eq_abs]

theorem row_sum_le_nrmInf (A : Matrix (Fin n) (Fin n) ℝ) (i : Fin n) :
    ∑ j, |A i j| ≤ nrmInf A := by
  rw [← coe_row_sum]
  exact NNReal.coe_le_coe.mpr
    (Finset.le_sup (f := fun i => ∑ j, ‖A i j‖₊) (Finset.mem_univ i))

theorem nrmInf_le_iff (A : Matrix (Fin n) (Fin n) ℝ) {c : ℝ} (hc : 0 ≤ c) :
    nrmInf A ≤ c ↔ ∀ i, ∑ j, |A i j| ≤ c := by
  constructor
  · intro h i
    exact (row_sum_le_nrmInf A i).trans h
  · intro h
    lift c to ℝ≥0 using hc
    unfold nrmInf
    rw [NNReal.coe_le_coe]
    apply Finset.sup_le
    intro i _
    rw [← NNReal.coe_le_coe, coe_row_sum]
    exact h i

theorem abs_entry_le_nrmInf (A : Matrix (Fin n) (Fin n) ℝ) (i j : Fin n) : |A i j| ≤ nrmInf A :=
  (Finset.single_le_sum (f := fun j => |A i j|) (fun _ _ => abs_nonneg _)
    (Finset.mem_univ j)).trans (row_sum_le_nrmInf A i)

theorem nrmInf_le_of_abs_le {A B : Matrix (Fin n) (Fin n) ℝ} (h : ∀ i j, |A i j| ≤ B i j) :
    nrmInf A ≤ nrmInf B := by
  rw [nrmInf_le_iff A (nrmInf_nonneg B)]
  intro i
  refine (Finset.sum_le_sum fun j _ => (h i j).trans (le_abs_self _)).trans
    (row_sum_le_nrmInf B i)

theorem nrmInf_abs (A : Matrix (Fin n) (Fin n) ℝ) : nrmInf (A.map fun x => |x|) = nrmInf A := by
  apply le_antisymm
  · exact nrmInf_le_of_abs_le (B := A.map fun x => |x|) (A := A.map fun x => |x|)
      (fun i j => by simp) |>.trans (by
        rw [nrmInf_le_iff _ (nrmInf_nonneg A)]
        intro i
        simp only [Matrix.map_apply, abs_abs]
        exact row_sum_le_nrmInf A i)
  · exact nrmInf_le_of_abs_le (fun i j => by simp)

theorem nrmInf_one_le : nrmInf (1 : Matrix (Fin n) (Fin n) ℝ) ≤ 1 := by
  rw [nrmInf_le_iff _ zero_le_one]
  intro i
  have e : ∀ j, |(1 : Matrix (Fin n) (Fin n) ℝ) i j| = if i = j then 1 else 0 := by
    intro j
    rw [Matrix.one_apply]
    split_ifs <;> simp
  rw [Finset.sum_congr rfl (fun j _ => e j), Finset.sum_ite_eq, if_pos (Finset.mem_univ i)]

theorem nrmInf_fin_one (A : Matrix (Fin 1) (Fin 1) ℝ) : nrmInf A = |A 0 0| := by
  apply le_antisymm
  · rw [nrmInf_le_iff _ (abs_nonneg _)]
    intro i
    fin_cases i
    simp
  · exact abs_entry_le_nrmInf A 0 0

theorem sub_inv_eq {A : Matrix (Fin n) (Fin n) ℝ} (hA : IsUnit A.det)
    (X : Matrix (Fin n) (Fin n) ℝ) : X - A⁻¹ = A⁻¹ * (A * X - 1) := by
  rw [Matrix.mul_sub, ← Matrix.mul_assoc, Matrix.nonsing_inv_mul A hA, Matrix.one_mul,
    Matrix.mul_one]

theorem left_residual_eq {A : Matrix (Fin n) (Fin n) ℝ} (hA : IsUnit A.det)
    (X : Matrix (Fin n) (Fin n) ℝ) : X * A - 1 = A⁻¹ * (A * X - 1) * A := by
  rw [Matrix.mul_sub, Matrix.sub_mul, ← Matrix.mul_assoc, Matrix.nonsing_inv_mul A hA,
    Matrix.one_mul, Matrix.mul_one, Matrix.nonsing_inv_mul A hA]

theorem forward_error_le {A : Matrix (Fin n) (Fin n) ℝ} (hA : IsUnit A.det)
    (X : Matrix (Fin n) (Fin n) ℝ) :
    nrmInf (X - A⁻¹) ≤ nrmInf A⁻¹ * nrmInf (A * X - 1) := by
  rw [sub_inv_eq hA]; exact nrmInf_mul_le _ _

theorem left_residual_le {A : Matrix (Fin n) (Fin n) ℝ} (hA : IsUnit A.det)
    (X : Matrix (Fin n) (Fin n) ℝ) :
    nrmInf (X * A - 1) ≤ nrmInf A⁻¹ * nrmInf A * nrmInf (A * X - 1) := by
  rw [left_residual_eq hA]
  refine (nrmInf_mul_le _ _).trans ?_
  have h1 := nrmInf_mul_le A⁻¹ (A * X - 1)
  have h2 := nrmInf_nonneg A
  calc nrmInf (A⁻¹ * (A * X - 1)) * nrmInf A
      ≤ (nrmInf A⁻¹ * nrmInf (A * X - 1)) * nrmInf A := mul_le_mul_of_nonneg_right h1 h2
    _ = nrmInf A⁻¹ * nrmInf A * nrmInf (A * X - 1) := by ring

theorem isUnit_det_one_add {R : Matrix (Fin n) (Fin n) ℝ} (hR : nrmInf R < 1) :
    IsUnit (1 + R).det := by
  rw [isUnit_iff_ne_zero]
  intro h0
  obtain ⟨v, hv, hv0⟩ := Matrix.exists_mulVec_eq_zero_iff.mpr h0
  rw [Matrix.add_mulVec, Matrix.one_mulVec] at hv0
  have e : v = -(R *ᵥ v) := eq_neg_of_add_eq_zero_left hv0
  have hpos : 0 < ‖v‖ := norm_pos_iff.mpr hv
  have h1 : ‖v‖ ≤ nrmInf R * ‖v‖ := by
    calc ‖v‖ = ‖R *ᵥ v‖ := by conv_lhs => rw [e, norm_neg]
      _ ≤ _ := nrmInf_mulVec_le R v
  have h2 := mul_lt_mul_of_pos_right hR hpos
  rw [one_mul] at h2
  exact absurd h1 (not_le.mpr h2)

theorem isUnit_det_of_right_residual_lt_one {A X : Matrix (Fin n) (Fin n) ℝ}
    (hR : nrmInf (A * X - 1) < 1) : IsUnit A.det ∧ IsUnit X.det := by
  have h := isUnit_det_one_add hR
  rw [add_sub_cancel, Matrix.det_mul] at h
  exact ⟨isUnit_of_mul_isUnit_left h, isUnit_of_mul_isUnit_right h⟩

theorem inv_norm_le {A X : Matrix (Fin n) (Fin n) ℝ} (hR : nrmInf (A * X - 1) < 1) :
    nrmInf A⁻¹ ≤ nrmInf X / (1 - nrmInf (A * X - 1)) := by
  have hA := (isUnit_det_of_right_residual_lt_one hR).1
  have e : A⁻¹ = X - A⁻¹ * (A * X - 1) := by rw [← sub_inv_eq hA]; abel
  have h1 : nrmInf A⁻¹ ≤ nrmInf X + nrmInf A⁻¹ * nrmInf (A * X - 1) := by
    conv_lhs => rw [e]
    exact (nrmInf_sub_le _ _).trans (add_le_add le_rfl (nrmInf_mul_le _ _))
  rw [le_div_iff₀ (sub_pos.mpr hR), mul_sub, mul_one]
  exact sub_le_iff_le_add.mpr h1

theorem forward_error_le_apost {A X : Matrix (Fin n) (Fin n) ℝ} (hR : nrmInf (A * X - 1) < 1) :
    nrmInf (X - A⁻¹) ≤ nrmInf X / (1 - nrmInf (A * X - 1)) * nrmInf (A * X - 1) :=
  (forward_error_le (isUnit_det_of_right_residual_lt_one hR).1 X).trans
    (mul_le_mul_of_nonneg_right (inv_norm_le hR) (nrmInf_nonneg _))

theorem left_residual_le_apost {A X : Matrix (Fin n) (Fin n) ℝ} (hR : nrmInf (A * X - 1) < 1) :
    nrmInf (X * A - 1)
      ≤ nrmInf X / (1 - nrmInf (A * X - 1)) * nrmInf A * nrmInf (A * X - 1) :=
  (left_residual_le (isUnit_det_of_right_residual_lt_one hR).1 X).trans
    (mul_le_mul_of_nonneg_right
      (mul_le_mul_of_nonneg_right (inv_norm_le hR) (nrmInf_nonneg _)) (nrmInf_nonneg _))

theorem apost_mono {c r ρ : ℝ} (hc : 0 ≤ c) (hrρ : r ≤ ρ) (hρ : ρ < 1) :
    c / (1 - r) * r ≤ c / (1 - ρ) * ρ := by
  have h1 : 0 < 1 - ρ := by linarith
  have h2 : 0 < 1 - r := by linarith
  have e1 : c / (1 - r) * r = c * (r / (1 - r)) := by ring
  have e2 : c / (1 - ρ) * ρ = c * (ρ / (1 - ρ)) := by ring
  rw [e1, e2]
  apply mul_le_mul_of_nonneg_left _ hc
  rw [div_le_div_iff₀ h2 h1]
  linarith [mul_comm r ρ]

theorem forward_error_le_apost_of_le {A X : Matrix (Fin n) (Fin n) ℝ} {ρ : ℝ}
    (hR : nrmInf (A * X - 1) ≤ ρ) (hρ : ρ < 1) :
    nrmInf (X - A⁻¹) ≤ nrmInf X / (1 - ρ) * ρ :=
  (forward_error_le_apost (lt_of_le_of_lt hR hρ)).trans
    (apost_mono (nrmInf_nonneg X) hR hρ)

theorem left_residual_le_apost_of_le {A X : Matrix (Fin n) (Fin n) ℝ} {ρ : ℝ}
    (hR : nrmInf (A * X - 1) ≤ ρ) (hρ : ρ < 1) :
    nrmInf (X * A - 1) ≤ nrmInf X * nrmInf A / (1 - ρ) * ρ := by
  refine (left_residual_le_apost (lt_of_le_of_lt hR hρ)).trans ?_
  have := apost_mono (mul_nonneg (nrmInf_nonneg X) (nrmInf_nonneg A)) hR hρ
  calc nrmInf X / (1 - nrmInf (A * X - 1)) * nrmInf A * nrmInf (A * X - 1)
      = nrmInf X * nrmInf A / (1 - nrmInf (A * X - 1)) * nrmInf (A * X - 1) := by ring
    _ ≤ _ := this

end MatNorm
end Ohsl
