/-
  Ohsl.Lemmas.C03G — the dense-matrix operations that check only the flat offset `i*cols + j` (the
  raw element read and write, `swap_elem`): on a described matrix they act on the entry stored at
  that offset, `Is.get_raw`, `Is.set_raw`, `swapElem_raw`, each with its rejection case.  With these
  the operation set `MatOp` of Lemmas/MatSpec2 is extended by `set`, `sdiv`, `eye`, `clear`,
  `swapElem`, `lsmul` (`MatOp2`, `run2`, `refRun2`); `run2_refines` is `run_refines` for the larger
  set.  Core Lean only, class (S).
-/
import Ohsl.Lemmas.MatSpec2
namespace Ohsl
namespace Mat
variable {K : Type}

/-- a raw read whose flat offset is inside the buffer returns the entry stored at that offset —
    entry `(f / c, f % c)` — also when `j ≥ c` -/
theorem Is.get_raw {m : Mat K} {r c : Nat} {e : Nat → Nat → K} (h : Is m r c e) {i j : Nat}
    (hf : i * c + j < r * c) :
    m.get i j = .ok (e ((i * c + j) / c) ((i * c + j) % c)) := by
  obtain ⟨h1, h2, h3⟩ := flat_decomp hf
  have := h.entry _ _ h1 h2
  simp only [Mat.get, h.cols] at this ⊢
  rw [h3] at this
  exact this

theorem get_raw_err {m : Mat K} {r c : Nat} {e : Nat → Nat → K} (h : Is m r c e) {i j : Nat}
    (hf : r * c ≤ i * c + j) : m.get i j = .error .range := by
  simp only [Mat.get, h.cols]
  exact aget_err (by rw [h.size]; exact hf)

/-- a raw write whose flat offset `f = i*c + j` is inside the buffer overwrites exactly the entry
    stored at that offset: the in-range entry `(a, b)` with `a*c + b = f` -/
theorem Is.set_raw {m : Mat K} {r c : Nat} {e : Nat → Nat → K} (h : Is m r c e) {i j : Nat}
    (hf : i * c + j < r * c) (v : K) :
    ∃ m', m.set i j v = .ok m' ∧
      Is m' r c (fun a b => if a * c + b = i * c + j then v else e a b) := by
  obtain ⟨h1, h2, h3⟩ := flat_decomp hf
  obtain ⟨m', hm', hI⟩ := h.set h1 h2 v
  refine ⟨m', ?_, hI.congr ?_⟩
  · simp only [Mat.set, h.cols] at hm' ⊢
    rw [h3] at hm'
    exact hm'
  · intro a b ha hb
    by_cases hab : a * c + b = i * c + j
    · have := idx_inj hb h2 (hab.trans h3.symm)
      rw [if_pos hab, if_pos this]
    · have : ¬ (a = (i * c + j) / c ∧ b = (i * c + j) % c) := by
        rintro ⟨rfl, rfl⟩; exact hab h3
      rw [if_neg hab, if_neg this]

theorem set_raw_err {m : Mat K} {r c : Nat} {e : Nat → Nat → K} (h : Is m r c e) {i j : Nat}
    (hf : r * c ≤ i * c + j) (v : K) : m.set i j v = .error .range :=
  set_err v (by rw [h.size, h.cols]; exact hf)

theorem Is.of_empty (e : Nat → Nat → K) : Is (Mat.empty : Mat K) 0 0 e :=
  ⟨by simp [WF, Mat.empty], rfl, rfl, fun i j hi _ => absurd hi (Nat.not_lt_zero _)⟩

theorem swapElem_raw {m : Mat K} {r c : Nat} {e : Nat → Nat → K} (h : Is m r c e)
    {i1 j1 i2 j2 : Nat} (hf1 : i1 * c + j1 < r * c) (hf2 : i2 * c + j2 < r * c) :
    ∃ m', swapElem m i1 j1 i2 j2 = .ok m' ∧
      Is m' r c (fun a b =>
        if a * c + b = i1 * c + j1 then e ((i2 * c + j2) / c) ((i2 * c + j2) % c)
        else if a * c + b = i2 * c + j2 then e ((i1 * c + j1) / c) ((i1 * c + j1) % c)
        else e a b) := by
  obtain ⟨s1, hs1, hI1⟩ := h.set_raw hf2 (e ((i1 * c + j1) / c) ((i1 * c + j1) % c))
  obtain ⟨s2, hs2, hI2⟩ := hI1.set_raw hf1 (e ((i2 * c + j2) / c) ((i2 * c + j2) % c))
  refine ⟨s2, ?_, hI2⟩
  simp only [swapElem, h.get_raw hf1, h.get_raw hf2, hs1, bind, Except.bind]
  exact hs2

theorem swapElem_raw_err {m : Mat K} {r c : Nat} {e : Nat → Nat → K} (h : Is m r c e)
    {i1 j1 i2 j2 : Nat} (hf : r * c ≤ i1 * c + j1 ∨ r * c ≤ i2 * c + j2) :
    swapElem m i1 j1 i2 j2 = .error .range := by
  by_cases hf1 : i1 * c + j1 < r * c
  · have hf2 : r * c ≤ i2 * c + j2 := by omega
    simp only [swapElem, h.get_raw hf1, get_raw_err h hf2, bind, Except.bind]
  · simp only [swapElem, get_raw_err h (Nat.le_of_not_lt hf1), bind, Except.bind]

section Ops
variable [Add K] [Sub K] [Mul K] [Neg K] [Zero K] [One K] [ScalarExt K]

/-- `MatOp` (embedded by `old`) plus: the raw element write `m[(i,j)] = v`, `matrix / scalar`,
    `Matrix::eye(n)` (the state is replaced), `clear()`, the raw `swap_elem`, and the left scalar
    product `scalar * matrix` -/
inductive MatOp2 (K : Type) where
  | old (op : MatOp K)
  | set (i j : Nat) (v : K)
  | sdiv (q : K)
  | eye (n : Nat)
  | clear
  | swapElem (r1 c1 r2 c2 : Nat)
  | lsmul (s : K)

/-- what the model does for one operation -/
def MatOp2.apply : MatOp2 K → Mat K → Res (Mat K)
  | .old op, m => op.apply m
  | .set i j v, m => Mat.set m i j v
  | .sdiv q, m => Mat.sdiv m q
  | .eye n, _ => Mat.eye n
  | .clear, m => .ok (Mat.clear m)
  | .swapElem r1 c1 r2 c2, m => Mat.swapElem m r1 c1 r2 c2
  | .lsmul s, m => Mat.lsmul s m

/-- the model's state after a history of operations (the first panic aborts) -/
def run2 : List (MatOp2 K) → Mat K → Res (Mat K)
  | [], m => .ok m
  | op :: ops, m => do
    let m' ← op.apply m
    run2 ops m'

theorem run2_eq_foldlM (ops : List (MatOp2 K)) (m : Mat K) :
    run2 ops m = ops.foldlM (fun m op => op.apply m) m := by
  induction ops generalizing m with
  | nil => rfl
  | cons op ops ih =>
    simp only [run2, List.foldlM_cons, bind, Except.bind]
    cases op.apply m with
    | error e => rfl
    | ok m' => exact ih m'

theorem run2_old (ops : List (MatOp K)) (m : Mat K) : run2 (ops.map MatOp2.old) m = run ops m := by
  induction ops generalizing m with
  | nil => rfl
  | cons op ops ih =>
    simp only [List.map_cons, run2, run, MatOp2.apply, bind, Except.bind]
    cases op.apply m with
    | error e => rfl
    | ok m' => exact ih m'

open Classical in
/-- reference semantics of one operation on `(rows, cols, (i j) ↦ value)`; `none` = the call is
    rejected (panics).
    * `set i j v` (raw): only the flat offset `f = i*cols + j` is checked; the entry stored at `f`
      — `(a, b)` with `a*cols + b = f`, which is `(i, j)` itself when `j < cols` — becomes `v`;
    * `sdiv q`: every entry is divided by `q` with the scalar type's own (partial) division; the
      call is rejected iff the division is rejected on some entry;
    * `eye n`: the `n × n` identity, whatever the state;  `clear`: the `0 × 0` matrix;
    * `swapElem` (raw): both flat offsets must be inside the buffer; the two stored values are
      exchanged;  `lsmul s`: every entry is multiplied by `s` ON THE RIGHT (`matrix[(i,j)] * s`). -/
noncomputable def MatOp2.ref : MatOp2 K → Ref K → Option (Ref K)
  | .old op, s => op.ref s
  | .set i j v, s =>
    if i * s.cols + j < s.rows * s.cols then
      some ⟨s.rows, s.cols, fun a b => if a * s.cols + b = i * s.cols + j then v else s.entry a b⟩
    else none
  | .sdiv q, s =>
    if ∀ i j, i < s.rows → j < s.cols → ∃ y, ScalarExt.divM (s.entry i j) q = .ok y then
      some ⟨s.rows, s.cols, fun i j =>
        match ScalarExt.divM (s.entry i j) q with
        | .ok y => y
        | .error _ => 0⟩
    else none
  | .eye n, _ => some ⟨n, n, fun i j => if i = j then 1 else 0⟩
  | .clear, _ => some ⟨0, 0, fun _ _ => 0⟩
  | .swapElem r1 c1 r2 c2, s =>
    if r1 * s.cols + c1 < s.rows * s.cols ∧ r2 * s.cols + c2 < s.rows * s.cols then
      some ⟨s.rows, s.cols, fun a b =>
        if a * s.cols + b = r1 * s.cols + c1 then
          s.entry ((r2 * s.cols + c2) / s.cols) ((r2 * s.cols + c2) % s.cols)
        else if a * s.cols + b = r2 * s.cols + c2 then
          s.entry ((r1 * s.cols + c1) / s.cols) ((r1 * s.cols + c1) % s.cols)
        else s.entry a b⟩
    else none
  | .lsmul k, s => some ⟨s.rows, s.cols, fun i j => s.entry i j * k⟩

/-- reference state after a history -/
noncomputable def refRun2 : List (MatOp2 K) → Ref K → Option (Ref K)
  | [], s => some s
  | op :: ops, s => (op.ref s).bind (refRun2 ops)

/-- operand matrices of the (old) binary operations are well-formed -/
def MatOp2.Valid : MatOp2 K → Prop
  | .old op => op.Valid
  | _ => True

variable [BEq K]

theorem step_refines2 (op : MatOp2 K) (hv : op.Valid) {m : Mat K} {s : Ref K} (h : Rel m s) :
    Refines (op.apply m) (op.ref s) := by
  cases op with
  | old op => exact step_refines op hv h
  | set i j v =>
    exact Refines.ite (fun hg => Is.set_raw h hg v)
      (fun hg => ⟨_, set_raw_err h (Nat.le_of_not_lt hg) v⟩)
  | sdiv q =>
    simp only [MatOp2.apply, MatOp2.ref]
    by_cases hg : ∀ i j, i < s.rows → j < s.cols → ∃ y, ScalarExt.divM (s.entry i j) q = .ok y
    · rw [if_pos hg]
      refine sdiv_spec h q (fun x => match ScalarExt.divM x q with | .ok y => y | .error _ => 0) ?_
      intro i j hi hj
      obtain ⟨y, hy⟩ := hg i j hi hj
      simp only [hy]
    · rw [if_neg hg]
      simp only [Classical.not_forall] at hg
      obtain ⟨i, j, hi, hj, hne⟩ := hg
      apply mapM1_fails (fun x => ScalarExt.divM x q) h hi hj
      cases hd : ScalarExt.divM (s.entry i j) q with
      | error err => exact ⟨err, rfl⟩
      | ok y => exact absurd ⟨y, hd⟩ hne
  | eye n => exact eye_spec n
  | clear => exact ⟨Mat.empty, rfl, Is.of_empty _⟩
  | swapElem r1 c1 r2 c2 =>
    exact Refines.ite (fun hg => swapElem_raw h hg.1 hg.2)
      (fun hg => ⟨_, swapElem_raw_err h
        (not_lt_and hg)⟩)
  | lsmul k => exact mapM1_spec (fun x => pure (x * k)) (fun x => x * k) h (fun _ _ _ _ => rfl)

theorem run2_refines (ops : List (MatOp2 K)) (hv : ∀ op ∈ ops, op.Valid) {m : Mat K} {s : Ref K}
    (h : Rel m s) : Refines (run2 ops m) (refRun2 ops s) := by
  induction ops generalizing m s with
  | nil => exact ⟨m, rfl, h⟩
  | cons op ops ih =>
    exact (step_refines2 op (hv op List.mem_cons_self) h).bind fun m1 s1 h1 =>
      ih (fun o ho => hv o (List.mem_cons_of_mem _ ho)) h1

end Ops

end Mat
end Ohsl
