/-
  Ohsl.Lemmas.Loop — rules for the bounded loops of the model: `Mat.forM' lo hi s f` = Rust
  `for i in lo..hi { s = f(s, i)? }`, and the descending loop `for j in (0..m).rev()` =
  `(List.range m).reverse.foldlM f s`.

  One loop.  `Res.Sat r P E` says how a call ends: with a value satisfying `P`, or with a panic whose
  class satisfies `E`.  The invariant rule is stated once per direction for `Res.Sat`
  (`Mat.forM'_sat`, `foldlM_rev_sat`); the other rules for one loop are its readings.
  Two loops side by side.  `ExRel R a b`: the two calls end alike (the same panic class, or
  `R`-related values); the simulation rules are stated for it.
  Core Lean only.
-/
import Ohsl.Model.Mat
namespace Ohsl

theorem bind_eq_ok {ε α β : Type} {x : Except ε α} {f : α → Except ε β} {b : β}
    (h : (x >>= f) = .ok b) : ∃ a, x = .ok a ∧ f a = .ok b := by
  cases x with
  | error e => cases h
  | ok a => exact ⟨a, rfl, h⟩

theorem bind_ok_of {α β : Type} {x : Res α} {g : α → Res β} {Q : β → Prop} (P : α → Prop)
    (hx : ∃ a, x = .ok a ∧ P a) (hg : ∀ a, P a → ∃ b, g a = .ok b ∧ Q b) :
    ∃ b, (x >>= g) = .ok b ∧ Q b := by
  obtain ⟨a, h1, h2⟩ := hx
  rw [h1]; exact hg a h2

theorem bind_error {α β : Type} {x : Res α} {g : α → Res β} {e : Err} (h : x = .error e) :
    (x >>= g) = .error e := by rw [h]; rfl

theorem ok_bind {α β : Type} (a : α) (f : α → Res β) : ((Except.ok a : Res α) >>= f) = f a := rfl

theorem bind_eq_of_ok {α β : Type} {x : Res α} {a : α} (f : α → Res β) (hx : x = .ok a) :
    (x >>= f) = f a := by rw [hx]; rfl

/-- the values a loop writes, chosen before the loop rule is applied -/
theorem Mat.exists_fun_of {ι α : Type} [Nonempty α] {D : ι → Prop} {P : ι → α → Prop}
    (h : ∀ r, D r → ∃ x, P r x) : ∃ f : ι → α, ∀ r, D r → P r (f r) := by
  classical
  exact ⟨fun r => if hr : D r then Classical.choose (h r hr) else Classical.choice ‹Nonempty α›,
    fun r hr => by
      show P r (if hr : D r then Classical.choose (h r hr) else _)
      rw [dif_pos hr]; exact Classical.choose_spec (h r hr)⟩

theorem Mat.exists_fun_of_lt {α : Type} [Nonempty α] {n : Nat} {P : Nat → α → Prop}
    (h : ∀ r, r < n → ∃ x, P r x) : ∃ f : Nat → α, ∀ r, r < n → P r (f r) :=
  exists_fun_of h

/-- how a modelled call ends: `P` holds of the value returned, `E` of the class of the panic -/
def Res.Sat {α : Type} (r : Res α) (P : α → Prop) (E : Err → Prop) : Prop :=
  match r with
  | .ok a => P a
  | .error e => E e

namespace Res.Sat
variable {α β : Type} {P : α → Prop} {E : Err → Prop}

theorem bind {r : Res α} {k : α → Res β} {Q : β → Prop} (h : Res.Sat r P E)
    (hk : ∀ a, P a → Res.Sat (k a) Q E) : Res.Sat (r >>= k) Q E := by
  cases r with
  | error e => exact h
  | ok a => exact hk a h

theorem ok {r : Res α} (h : Res.Sat r P (fun _ => False)) : ∃ a, r = .ok a ∧ P a := by
  cases r with
  | error e => exact h.elim
  | ok a => exact ⟨a, rfl, h⟩

theorem of_ok {r : Res α} (h : ∃ a, r = .ok a ∧ P a) : Res.Sat r P E := by
  obtain ⟨a, rfl, ha⟩ := h
  exact ha

theorem of_partial {r : Res α} (h : ∀ a, r = .ok a → P a) : Res.Sat r P (fun _ => True) := by
  cases r with
  | error e => trivial
  | ok a => exact h a rfl

theorem of_error {r : Res α} {e : Err} (h : r = .error e) (he : E e) : Res.Sat r P E := by
  subst h
  exact he

theorem elim_ok {r : Res α} {a : α} (h : Res.Sat r P E) (hr : r = .ok a) : P a := by
  subst hr; exact h

theorem elim_error {r : Res α} {e : Err} (h : Res.Sat r P E) (hr : r = .error e) : E e := by
  subst hr; exact h

end Res.Sat

theorem Mat.forM'_empty {σ : Type} (lo hi : Nat) (s : σ) (f : σ → Nat → Res σ) (h : hi ≤ lo) :
    Mat.forM' lo hi s f = .ok s := by
  have : hi - lo = 0 := by omega
  simp [Mat.forM', this, pure, Except.pure]

theorem Mat.forM'_split {σ : Type} (lo mid hi : Nat) (s : σ) (f : σ → Nat → Res σ)
    (h1 : lo ≤ mid) (h2 : mid ≤ hi) :
    forM' lo hi s f = (forM' lo mid s f >>= fun s' => forM' mid hi s' f) := by
  unfold forM'
  rw [← Nat.sub_add_sub_cancel h2 h1, Nat.add_comm (hi - mid), ← List.range'_append_1,
    List.foldlM_append, Nat.add_sub_of_le h1]

theorem Mat.forM'_succ {σ : Type} (lo hi : Nat) (s : σ) (f : σ → Nat → Res σ) (h : lo ≤ hi) :
    forM' lo (hi + 1) s f = (forM' lo hi s f >>= fun s' => f s' hi) := by
  rw [forM'_split lo hi (hi + 1) s f h (Nat.le_succ hi)]
  congr 1
  funext s'
  rw [forM', Nat.add_sub_cancel_left]
  exact bind_pure _

theorem Mat.forM'_first {σ : Type} (lo hi : Nat) (s : σ) (f : σ → Nat → Res σ) (h : lo < hi) :
    Mat.forM' lo hi s f = (f s lo >>= fun s' => Mat.forM' (lo + 1) hi s' f) := by
  unfold Mat.forM'
  have : hi - lo = (hi - (lo + 1)) + 1 := by omega
  rw [this]
  rfl

theorem range_reverse (n : Nat) :
    (List.range n).reverse = (List.range' 1 n).map (fun nn => n - nn) := by
  apply List.ext_getElem (by simp)
  intro i h1 h2
  simp
  omega

/-- **the loop rule**: an invariant that every iteration re-establishes unless it panics with a
    class in `E` -/
theorem foldlM_range'_sat {σ : Type} (P : Nat → σ → Prop) (E : Err → Prop) (f : σ → Nat → Res σ) :
    ∀ (n lo : Nat) (s : σ), P lo s →
      (∀ i s, lo ≤ i → i < lo + n → P i s → Res.Sat (f s i) (P (i + 1)) E) →
      Res.Sat ((List.range' lo n).foldlM f s) (P (lo + n)) E
  | 0, _, _, h0, _ => h0
  | n + 1, lo, s, h0, hstep => by
    rw [List.range', List.foldlM_cons, Nat.add_comm n 1, ← Nat.add_assoc]
    exact (hstep lo s (Nat.le_refl _) (Nat.lt_add_of_pos_right n.succ_pos) h0).bind fun s1 p1 =>
      foldlM_range'_sat P E f n (lo + 1) s1 p1 fun i s h1 h2 =>
        hstep i s (Nat.le_of_succ_le h1) (by omega)

theorem Mat.forM'_sat {σ : Type} (P : Nat → σ → Prop) (E : Err → Prop) (lo hi : Nat) (s : σ)
    (f : σ → Nat → Res σ) (hle : lo ≤ hi) (h0 : P lo s)
    (hstep : ∀ i s, lo ≤ i → i < hi → P i s → Res.Sat (f s i) (P (i + 1)) E) :
    Res.Sat (Mat.forM' lo hi s f) (P hi) E := by
  have := foldlM_range'_sat P E f (hi - lo) lo s h0 fun i s h1 h2 => hstep i s h1 (by omega)
  rwa [Nat.add_sub_of_le hle] at this

/-- the loop rule for the descending loop `for j in (0..m).rev()` -/
theorem foldlM_rev_sat {σ : Type} (Q : Nat → σ → Prop) (E : Err → Prop) (f : σ → Nat → Res σ) :
    ∀ (m : Nat) (s : σ), Q m s →
      (∀ j s, j < m → Q (j + 1) s → Res.Sat (f s j) (Q j) E) →
      Res.Sat ((List.range m).reverse.foldlM f s) (Q 0) E
  | 0, _, h0, _ => h0
  | m + 1, s, h0, hstep => by
    rw [List.range_succ, List.reverse_append, List.reverse_singleton, List.singleton_append,
      List.foldlM_cons]
    exact (hstep m s (Nat.lt_succ_self m) h0).bind fun s1 q1 =>
      foldlM_rev_sat Q E f m s1 q1 fun j s hj => hstep j s (Nat.lt_succ_of_lt hj)

theorem Mat.forM'_inv {σ : Type} (P : Nat → σ → Prop) (lo hi : Nat) (s : σ) (f : σ → Nat → Res σ)
    (hle : lo ≤ hi) (h0 : P lo s)
    (hstep : ∀ i s, lo ≤ i → i < hi → P i s → ∃ s', f s i = .ok s' ∧ P (i + 1) s') :
    ∃ s', Mat.forM' lo hi s f = .ok s' ∧ P hi s' :=
  (forM'_sat P _ lo hi s f hle h0 fun i s h1 h2 hp => .of_ok (hstep i s h1 h2 hp)).ok

theorem Mat.forM'_inv_of {σ : Type} (P : Nat → σ → Prop) {Q : σ → Prop} (lo hi : Nat) (s : σ)
    (f : σ → Nat → Res σ) (hle : lo ≤ hi) (h0 : P lo s)
    (hstep : ∀ i s, lo ≤ i → i < hi → P i s → ∃ s', f s i = .ok s' ∧ P (i + 1) s')
    (hQ : ∀ s, P hi s → Q s) : ∃ s', Mat.forM' lo hi s f = .ok s' ∧ Q s' :=
  (forM'_inv P lo hi s f hle h0 hstep).imp fun s' h => ⟨h.1, hQ s' h.2⟩

/-- Two-level loop rule: outer invariant `Q i` ("rows < i done"), inner invariant `P i j`
    ("row i, columns < j done"); the inner loop runs over `lo i .. c`. -/
theorem Mat.forM'_inv2 {σ : Type} (Q : Nat → σ → Prop) (P : Nat → Nat → σ → Prop)
    (r c : Nat) (lo : Nat → Nat) (s : σ) (F : σ → Nat → Res σ) (f : σ → Nat → Nat → Res σ)
    (hF : ∀ i s, i < r → Q i s → F s i = Mat.forM' (lo i) c s (fun s j => f s i j))
    (hlo : ∀ i, i < r → lo i ≤ c)
    (h0 : Q 0 s)
    (hin : ∀ i s, i < r → Q i s → P i (lo i) s)
    (hout : ∀ i s, i < r → P i c s → Q (i + 1) s)
    (hstep : ∀ i j s, i < r → lo i ≤ j → j < c → P i j s →
      ∃ s', f s i j = .ok s' ∧ P i (j + 1) s') :
    ∃ s', Mat.forM' 0 r s F = .ok s' ∧ Q r s' := by
  refine Mat.forM'_inv Q 0 r s F (Nat.zero_le _) h0 ?_
  intro i s _ hi hQ
  rw [hF i s hi hQ]
  exact Mat.forM'_inv_of (P i) (lo i) c s (fun s j => f s i j) (hlo i hi)
    (hin i s hi hQ) (fun j s hj1 hj2 hp => hstep i j s hi hj1 hj2 hp) fun s' => hout i s' hi

theorem Mat.forM'_ok_inv {σ : Type} (P : Nat → σ → Prop) (lo hi : Nat) (s s' : σ)
    (f : σ → Nat → Res σ) (hle : lo ≤ hi) (h0 : P lo s)
    (hstep : ∀ i s s1, lo ≤ i → i < hi → P i s → f s i = .ok s1 → P (i + 1) s1)
    (h : Mat.forM' lo hi s f = .ok s') : P hi s' :=
  (forM'_sat P _ lo hi s f hle h0 fun i s h1 h2 hp =>
    .of_partial fun s1 => hstep i s s1 h1 h2 hp).elim_ok h

theorem Mat.forM'_preserves {σ : Type} {P : σ → Prop} {lo hi : Nat} {s s' : σ}
    {f : σ → Nat → Res σ} (hf : ∀ s i s1, P s → f s i = .ok s1 → P s1) (h0 : P s)
    (h : Mat.forM' lo hi s f = .ok s') : P s' := by
  rcases Nat.le_total lo hi with hle | hle
  · exact forM'_ok_inv (fun _ s => P s) lo hi s s' f hle h0
      (fun i s s1 _ _ hp hs => hf s i s1 hp hs) h
  · cases (forM'_empty lo hi s f hle).symm.trans h
    exact h0

theorem Mat.forM'_inv_err {σ : Type} (P : Nat → σ → Prop) (E : Err → Prop) (lo hi : Nat) (s : σ)
    (f : σ → Nat → Res σ) (hle : lo ≤ hi) (h0 : P lo s)
    (hstep : ∀ i s, lo ≤ i → i < hi → P i s →
      (∃ s', f s i = .ok s' ∧ P (i + 1) s') ∨ (∃ e, f s i = .error e ∧ E e)) :
    (∃ s', Mat.forM' lo hi s f = .ok s' ∧ P hi s') ∨ (∃ e, Mat.forM' lo hi s f = .error e ∧ E e) := by
  have := forM'_sat P E lo hi s f hle h0 fun i s h1 h2 hp => by
    rcases hstep i s h1 h2 hp with h | ⟨e, h, he⟩
    · exact .of_ok h
    · rw [h]; exact he
  cases hr : Mat.forM' lo hi s f with
  | ok s' => exact .inl ⟨s', rfl, this.elim_ok hr⟩
  | error e => exact .inr ⟨e, rfl, this.elim_error hr⟩

theorem Mat.forM'_error {σ : Type} (P : Err → Prop) (lo hi : Nat) (s : σ) (f : σ → Nat → Res σ)
    (hf : ∀ s i e, f s i = .error e → P e) (e : Err) (h : Mat.forM' lo hi s f = .error e) : P e :=
  (foldlM_range'_sat (fun _ _ => True) P f (hi - lo) lo s trivial fun i s _ _ _ => by
    cases hr : f s i with
    | ok s1 => trivial
    | error e => exact hf s i e hr).elim_error h

/-- the invariant is the prefix that returned -/
theorem Mat.forM'_error_split {σ : Type} (lo hi : Nat) (s : σ) (f : σ → Nat → Res σ) (e : Err)
    (h : Mat.forM' lo hi s f = .error e) :
    ∃ j s', lo ≤ j ∧ j < hi ∧ Mat.forM' lo j s f = .ok s' ∧ f s' j = .error e := by
  rcases Nat.lt_or_ge hi lo with hlt | hle
  · cases (forM'_empty lo hi s f (Nat.le_of_lt hlt)).symm.trans h
  · exact (forM'_sat (fun j s' => Mat.forM' lo j s f = .ok s')
      (fun e => ∃ j s', lo ≤ j ∧ j < hi ∧ Mat.forM' lo j s f = .ok s' ∧ f s' j = .error e)
      lo hi s f hle (forM'_empty lo lo s f (Nat.le_refl _)) fun j s' h1 h2 hp => by
        cases hr : f s' j with
        | ok s1 => exact (forM'_succ lo j s f h1).trans (by rw [hp]; exact hr)
        | error e' => exact ⟨j, s', h1, h2, hp, hr⟩).elim_error h

theorem foldlM_rev_inv {σ : Type} (Q : Nat → σ → Prop) (f : σ → Nat → Res σ) (m : Nat) (s : σ)
    (h0 : Q m s) (hstep : ∀ j s, j < m → Q (j + 1) s → ∃ s', f s j = .ok s' ∧ Q j s') :
    ∃ s', (List.range m).reverse.foldlM f s = .ok s' ∧ Q 0 s' :=
  (foldlM_rev_sat Q _ f m s h0 fun j s hj hq => .of_ok (hstep j s hj hq)).ok

theorem foldlM_rev_ok_inv {σ : Type} (Q : Nat → σ → Prop) (f : σ → Nat → Res σ) (m : Nat)
    (s s' : σ) (h0 : Q m s) (hstep : ∀ j s s1, j < m → Q (j + 1) s → f s j = .ok s1 → Q j s1)
    (h : (List.range m).reverse.foldlM f s = .ok s') : Q 0 s' :=
  (foldlM_rev_sat Q _ f m s h0 fun j s hj hq =>
    .of_partial fun s1 => hstep j s s1 hj hq).elim_ok h

theorem Mat.forM'_eq_of_inv {σ : Type} (v : Nat → σ) (lo hi : Nat) (s : σ) (f : σ → Nat → Res σ)
    (hle : lo ≤ hi) (h0 : s = v lo) (hstep : ∀ i, lo ≤ i → i < hi → f (v i) i = .ok (v (i + 1))) :
    forM' lo hi s f = .ok (v hi) := by
  obtain ⟨r, h1, h2⟩ := forM'_inv (fun i st => st = v i) lo hi s f hle h0
    (fun i st a b e => ⟨_, e ▸ hstep i a b, rfl⟩)
  rw [h1, h2]

theorem Mat.forM'_eq_foldl {σ : Type} (n : Nat) (h : σ → Nat → σ) (F : σ → Nat → Res σ) (init : σ)
    (hF : ∀ s i, i < n → F s i = .ok (h s i)) :
    forM' 0 n init F = .ok ((List.range n).foldl h init) :=
  forM'_eq_of_inv (fun k => (List.range k).foldl h init) 0 n init F (Nat.zero_le _) rfl
    fun k _ hk => by rw [hF _ k hk, List.range_succ, List.foldl_append]; rfl

theorem Mat.forM'_first_error {σ : Type} (lo hi : Nat) (s : σ) (f : σ → Nat → Res σ) (e : Err)
    (hlt : lo < hi) (h : f s lo = .error e) : Mat.forM' lo hi s f = .error e := by
  rw [forM'_first lo hi s f hlt, h]
  rfl

theorem Mat.forM'_error_of_prefix {σ : Type} (lo j hi : Nat) (s s' : σ) (f : σ → Nat → Res σ) (e : Err)
    (h1 : lo ≤ j) (h2 : j < hi) (hpre : forM' lo j s f = .ok s') (hbody : f s' j = .error e) :
    forM' lo hi s f = .error e := by
  rw [forM'_split lo j hi s f h1 (Nat.le_of_lt h2), hpre]
  exact forM'_first_error j hi s' f e h2 hbody

theorem Mat.forM'_error_at {σ : Type} (P : Nat → σ → Prop) (lo mid hi : Nat) (s : σ)
    (f : σ → Nat → Res σ) (e : Err) (h1 : lo ≤ mid) (h2 : mid < hi) (h0 : P lo s)
    (hstep : ∀ i s, lo ≤ i → i < mid → P i s → ∃ s', f s i = .ok s' ∧ P (i + 1) s')
    (hfail : ∀ s, P mid s → f s mid = .error e) : Mat.forM' lo hi s f = .error e := by
  obtain ⟨s', h, hp⟩ := forM'_inv P lo mid s f h1 h0 hstep
  exact forM'_error_of_prefix lo mid hi s s' f e h1 h2 h (hfail s' hp)

theorem Mat.forM'_fails {σ : Type} (lo hi i0 : Nat) (s : σ) (f : σ → Nat → Res σ) (h1 : lo ≤ i0)
    (h2 : i0 < hi) (hf : ∀ s, ∃ e, f s i0 = .error e) : ∃ e, Mat.forM' lo hi s f = .error e := by
  rw [forM'_split lo i0 hi s f h1 (Nat.le_of_lt h2)]
  cases forM' lo i0 s f with
  | error err => exact ⟨err, rfl⟩
  | ok s' =>
    obtain ⟨err, herr⟩ := hf s'
    exact ⟨err, forM'_first_error i0 hi s' f err h2 herr⟩

theorem Sim.map_pure {α β : Type} (g : α → β) (a : α) : Except.map g (pure a : Res α) = pure (g a) := rfl

theorem Sim.map_error {α β : Type} (g : α → β) (e : Err) :
    Except.map g (.error e : Res α) = .error e := rfl

theorem Sim.map_bind {α α' β : Type} (g : α → α') (x : Res α) (k' : α' → Res β) :
    (Except.map g x >>= k') = x >>= fun a => k' (g a) := by
  cases x <;> rfl

theorem Sim.map_bind_out {α β β' : Type} (h : β → β') (x : Res α) (k : α → Res β) :
    Except.map h (x >>= k) = x >>= fun a => Except.map h (k a) := by
  cases x <;> rfl

theorem Sim.bind_map {α β α' β' : Type} (g : α → α') (h : β → β') (x : Res α) (k : α → Res β)
    (k' : α' → Res β') (hk : ∀ a, k' (g a) = Except.map h (k a)) :
    (Except.map g x >>= k') = Except.map h (x >>= k) := by
  cases x with
  | error e => rfl
  | ok a => exact hk a

theorem Sim.foldlM_map {σ σ' : Type} (g : σ → σ') (f : σ → Nat → Res σ) (f' : σ' → Nat → Res σ')
    (hf : ∀ s i, f' (g s) i = Except.map g (f s i)) :
    ∀ (l : List Nat) (s : σ), l.foldlM f' (g s) = Except.map g (l.foldlM f s)
  | [], s => rfl
  | i :: l, s => by
    simp only [List.foldlM_cons]
    rw [hf s i]
    exact bind_map g g (f s i) _ _ (fun a => foldlM_map g f f' hf l a)

theorem Sim.forM'_map {σ σ' : Type} (g : σ → σ') (lo hi : Nat) (s : σ) (f : σ → Nat → Res σ)
    (f' : σ' → Nat → Res σ') (hf : ∀ s i, f' (g s) i = Except.map g (f s i)) :
    Mat.forM' lo hi (g s) f' = Except.map g (Mat.forM' lo hi s f) :=
  foldlM_map g f f' hf _ s

theorem Sim.aget_map {α β : Type} (f : α → β) (a : Array α) (i : Nat) :
    aget (a.map f) i = Except.map f (aget a i) := by
  unfold aget
  rw [Array.getElem?_map]
  cases a[i]? <;> rfl

theorem Sim.aset_map {α β : Type} (f : α → β) (a : Array α) (i : Nat) (v : α) :
    aset (a.map f) i (f v) = Except.map (Array.map f) (aset a i v) := by
  unfold aset
  by_cases h : i < a.size
  · simp [h, Except.map]
  · simp [h, Except.map]

/-- the two modelled calls have the same outcome: the same panic class, or values related by `R` -/
def ExRel {α β : Type} (R : α → β → Prop) : Res α → Res β → Prop
  | .ok a, .ok b => R a b
  | .error e, .error e' => e = e'
  | _, _ => False

namespace ExRel
variable {α β γ α' β' : Type}

theorem ok_ok {R : α → β → Prop} {a : α} {b : β} (h : R a b) : ExRel R (.ok a) (.ok b) := h

theorem err_err {R : α → β → Prop} (e : Err) : ExRel R (.error e : Res α) (.error e : Res β) := rfl

theorem refl_eq (a : Res α) : ExRel Eq a a := by
  cases a <;> rfl

theorem mono {R S : α → β → Prop} {a : Res α} {b : Res β} (h : ExRel R a b)
    (hRS : ∀ x y, R x y → S x y) : ExRel S a b := by
  cases a <;> cases b <;> simp only [ExRel] at h ⊢
  · exact h
  · exact hRS _ _ h

theorem symm {R : α → β → Prop} {a : Res α} {b : Res β} (h : ExRel R a b) :
    ExRel (fun y x => R x y) b a := by
  cases a <;> cases b <;> simp only [ExRel] at h ⊢
  · exact h.symm
  · exact h

theorem trans {R : α → β → Prop} {S : β → γ → Prop} {a : Res α} {b : Res β} {c : Res γ}
    (h1 : ExRel R a b) (h2 : ExRel S b c) : ExRel (fun x z => ∃ y, R x y ∧ S y z) a c := by
  cases a <;> cases b <;> cases c <;> simp only [ExRel] at h1 h2 ⊢
  · exact h1.trans h2
  · exact ⟨_, h1, h2⟩

theorem bind {R : α → β → Prop} {R' : α' → β' → Prop} {a : Res α} {b : Res β} {k : α → Res α'}
    {k' : β → Res β'} (h : ExRel R a b) (hk : ∀ x y, R x y → ExRel R' (k x) (k' y)) :
    ExRel R' (a >>= k) (b >>= k') := by
  cases a <;> cases b <;> simp only [ExRel] at h
  · subst h; rfl
  · exact hk _ _ h

theorem bind_same {R' : α' → β' → Prop} (a : Res α) {k : α → Res α'} {k' : α → Res β'}
    (hk : ∀ x, a = .ok x → ExRel R' (k x) (k' x)) : ExRel R' (a >>= k) (a >>= k') := by
  cases a with
  | error e => rfl
  | ok x => exact hk x rfl

theorem ok_iff {R : α → β → Prop} {a : Res α} {b : Res β} (h : ExRel R a b) :
    (∃ x, a = .ok x) ↔ (∃ y, b = .ok y) := by
  cases a <;> cases b <;> simp only [ExRel] at h
  · constructor <;> rintro ⟨_, h⟩ <;> cases h
  · exact ⟨fun _ => ⟨_, rfl⟩, fun _ => ⟨_, rfl⟩⟩

theorem error_iff {R : α → β → Prop} {a : Res α} {b : Res β} (h : ExRel R a b) (e : Err) :
    a = .error e ↔ b = .error e := by
  cases a <;> cases b <;> simp only [ExRel] at h
  · subst h; exact ⟨fun h => by cases h; rfl, fun h => by cases h; rfl⟩
  · constructor <;> intro h <;> cases h

theorem ok_rel {R : α → β → Prop} {a : Res α} {b : Res β} (h : ExRel R a b) {x : α} {y : β}
    (ha : a = .ok x) (hb : b = .ok y) : R x y := by
  subst ha; subst hb; exact h

theorem of_ok_left {R : α → β → Prop} {x : α} {b : Res β}
    (h : ExRel R (.ok x) b) : ∃ y, b = .ok y ∧ R x y := by
  cases b with
  | error e => exact h.elim
  | ok y => exact ⟨y, rfl, h⟩

theorem of_ok_right {R : α → β → Prop} {a : Res α} {y : β}
    (h : ExRel R a (.ok y)) : ∃ x, a = .ok x ∧ R x y := by
  cases a with
  | error e => exact h.elim
  | ok x => exact ⟨x, rfl, h⟩

theorem of_error_right {R : α → β → Prop} {a : Res α} {e : Err}
    (h : ExRel R a (.error e : Res β)) : a = .error e := by
  cases a with
  | error e' => exact congrArg _ h
  | ok x => exact h.elim

theorem eq {a b : Res α} (h : ExRel Eq a b) : a = b := by
  cases a <;> cases b <;> simp only [ExRel] at h
  · exact congrArg _ h
  · exact congrArg _ h

theorem map_unit {R : α → Unit → Prop} {a : Res α} {b : Res Unit} (h : ExRel R a b) :
    a.map (fun _ => ()) = b := by
  cases a <;> cases b <;> simp only [ExRel] at h
  · subst h; rfl
  · rfl

end ExRel

/-- **simulation rule**: two folds over the same list whose bodies have the same outcome on
    related states have the same outcome -/
theorem foldlM_sim {ι σ τ : Type} (R : σ → τ → Prop) (f : σ → ι → Res σ) (g : τ → ι → Res τ) :
    ∀ (l : List ι) (s : σ) (t : τ), R s t →
      (∀ i, i ∈ l → ∀ s t, R s t → ExRel R (f s i) (g t i)) →
      ExRel R (l.foldlM f s) (l.foldlM g t)
  | [], s, t, h0, _ => h0
  | i :: l, s, t, h0, hstep => by
    simp only [List.foldlM_cons]
    exact ExRel.bind (hstep i (List.mem_cons_self ..) s t h0)
      (fun s1 t1 h1 => foldlM_sim R f g l s1 t1 h1
        (fun j hj => hstep j (List.mem_cons_of_mem _ hj)))

theorem Mat.forM'_sim {σ τ : Type} (R : σ → τ → Prop) (lo hi : Nat) (s : σ) (t : τ)
    (f : σ → Nat → Res σ) (g : τ → Nat → Res τ) (h0 : R s t)
    (hstep : ∀ i s t, lo ≤ i → i < hi → R s t → ExRel R (f s i) (g t i)) :
    ExRel R (Mat.forM' lo hi s f) (Mat.forM' lo hi t g) := by
  unfold Mat.forM'
  apply foldlM_sim R f g _ s t h0
  intro i hi s t hst
  rw [List.mem_range'_1] at hi
  exact hstep i s t hi.1 (by omega) hst

theorem Mat.forM'_congr {σ : Type} (lo hi : Nat) (s : σ) (f g : σ → Nat → Res σ)
    (h : ∀ k s, lo ≤ k → k < hi → f s k = g s k) : forM' lo hi s f = forM' lo hi s g :=
  (forM'_sim Eq lo hi s s f g rfl fun i s _ a b e => e ▸ h i s a b ▸ ExRel.refl_eq _).eq

theorem foldlM_range'_simIdx {σ τ : Type} (R : Nat → σ → τ → Prop) (f : σ → Nat → Res σ)
    (g : τ → Nat → Res τ) :
    ∀ (n lo : Nat) (s : σ) (t : τ), R lo s t →
      (∀ i s t, lo ≤ i → i < lo + n → R i s t → ExRel (R (i + 1)) (f s i) (g t i)) →
      ExRel (R (lo + n)) ((List.range' lo n).foldlM f s) ((List.range' lo n).foldlM g t)
  | 0, _, _, _, h0, _ => h0
  | n + 1, lo, s, t, h0, hstep => by
    rw [List.range', List.foldlM_cons, List.foldlM_cons, Nat.add_comm n 1, ← Nat.add_assoc]
    exact (hstep lo s t (Nat.le_refl _) (Nat.lt_add_of_pos_right n.succ_pos) h0).bind
      fun s1 t1 h1 => foldlM_range'_simIdx R f g n (lo + 1) s1 t1 h1 fun i s t a b =>
        hstep i s t (Nat.le_of_succ_le a) (by omega)

theorem Mat.forM'_simIdx {σ τ : Type} (R : Nat → σ → τ → Prop) (lo hi : Nat) (s : σ) (t : τ)
    (f : σ → Nat → Res σ) (g : τ → Nat → Res τ) (hle : lo ≤ hi) (h0 : R lo s t)
    (hstep : ∀ i s t, lo ≤ i → i < hi → R i s t → ExRel (R (i + 1)) (f s i) (g t i)) :
    ExRel (R hi) (Mat.forM' lo hi s f) (Mat.forM' lo hi t g) := by
  have := foldlM_range'_simIdx R f g (hi - lo) lo s t h0 fun i s t a b => hstep i s t a (by omega)
  rwa [Nat.add_sub_of_le hle] at this

theorem foldlM_rev_simIdx {σ τ : Type} (R : Nat → σ → τ → Prop) (f : σ → Nat → Res σ)
    (g : τ → Nat → Res τ) :
    ∀ (m : Nat) (s : σ) (t : τ), R m s t →
      (∀ j s t, j < m → R (j + 1) s t → ExRel (R j) (f s j) (g t j)) →
      ExRel (R 0) ((List.range m).reverse.foldlM f s) ((List.range m).reverse.foldlM g t)
  | 0, _, _, h0, _ => h0
  | m + 1, s, t, h0, hstep => by
    rw [List.range_succ, List.reverse_append, List.reverse_singleton, List.singleton_append,
      List.foldlM_cons, List.foldlM_cons]
    exact (hstep m s t (Nat.lt_succ_self m) h0).bind fun s1 t1 h1 =>
      foldlM_rev_simIdx R f g m s1 t1 h1 fun j s t hj => hstep j s t (Nat.lt_succ_of_lt hj)

end Ohsl
