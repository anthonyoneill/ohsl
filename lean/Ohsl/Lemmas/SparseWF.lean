/-
  Ohsl.Lemmas.SparseWF — what the constructors / views of `Ohsl.Sp` (model: Ohsl/Model/Sparse.lean)
  compute on well-formed compressed-sparse-column storage, and that they keep it well formed, in
  terms of `colOf` (the column of a slot), `trips` (the stored triplets in storage order) and
  `firstSlot` (the slot `get` / `insert` find).  The loops over "every column, every slot of the
  column" are read as one loop over all slots; the loops that add into a target position per slot —
  both products (Lemmas/SparseFlat) and the histograms of the two counting sorts — are one scatter
  loop (`flat_scatter`).  A column pointer holds counts (`cnt`).  Both sorts are stable:
  `from_triplets` stores `sortByCol` of its input; `transpose` sends slot `j` to
  `pos row_index nonzero j`, which is `sortByCol` of the swapped triplets again.  Class (S).
-/
import Ohsl.Model.Sparse
import Ohsl.Lemmas.SparseSpec
import Ohsl.Props.C06
import Mathlib.Data.List.Perm.Basic
import Mathlib.Data.List.Perm.Subperm
import Mathlib.Data.List.Sort
import Mathlib.Data.Nat.Count
namespace Ohsl
open Mat (forM' forM'_inv aget_ok aset_ok)

/-- number of `k < n` with `p k` -/
def cnt (p : Nat → Bool) : Nat → Nat
  | 0 => 0
  | n + 1 => cnt p n + (if p n then 1 else 0)

theorem cnt_eq_count (p : Nat → Bool) : ∀ n, cnt p n = Nat.count (fun k => p k = true) n
  | 0 => (Nat.count_zero _).symm
  | n + 1 => by rw [cnt, cnt_eq_count p n, Nat.count_succ]

theorem cnt_eq_card (p : Nat → Bool) (n : Nat) :
    cnt p n = ((Finset.range n).filter (fun k => p k = true)).card :=
  (cnt_eq_count p n).trans (Nat.count_eq_card_filter_range _ n)

theorem cnt_le (p : Nat → Bool) (n : Nat) : cnt p n ≤ n := cnt_eq_count p n ▸ Nat.count_le _

theorem cnt_succ_pos {p : Nat → Bool} {n : Nat} (h : p n = true) : cnt p (n + 1) = cnt p n + 1 := by
  simp only [cnt, h, if_true]

theorem cnt_succ_neg {p : Nat → Bool} {n : Nat} (h : p n = false) : cnt p (n + 1) = cnt p n := by
  simp only [cnt, h, Bool.false_eq_true, if_false, Nat.add_zero]

theorem cnt_congr {p q : Nat → Bool} : ∀ n, (∀ k, k < n → p k = q k) → cnt p n = cnt q n
  | 0, _ => rfl
  | n + 1, h => by
    simp only [cnt, cnt_congr n (fun k hk => h k (Nat.lt_succ_of_lt hk)), h n (Nat.lt_succ_self n)]

theorem cnt_false {p : Nat → Bool} (n : Nat) (h : ∀ k, k < n → p k = false) : cnt p n = 0 := by
  rw [cnt_eq_count]
  exact Nat.count_iff_forall_not.2 fun k hk => by rw [h k hk]; exact Bool.false_ne_true

theorem cnt_true {p : Nat → Bool} (n : Nat) (h : ∀ k, k < n → p k = true) : cnt p n = n := by
  rw [cnt_eq_count]
  exact Nat.count_iff_forall.2 h

theorem cnt_mono_pred {p q : Nat → Bool} (n : Nat) (h : ∀ k, k < n → p k = true → q k = true) :
    cnt p n ≤ cnt q n := by
  rw [cnt_eq_count, cnt_eq_count]
  exact Nat.count_mono_left h

theorem cnt_mono (p : Nat → Bool) {m n : Nat} (h : m ≤ n) : cnt p m ≤ cnt p n := by
  rw [cnt_eq_count, cnt_eq_count]
  exact Nat.count_monotone _ h

theorem cnt_lt_of_mem (p : Nat → Bool) {m n : Nat} (h : m < n) (hp : p m = true) :
    cnt p m < cnt p n := by
  rw [cnt_eq_count, cnt_eq_count]
  exact Nat.count_strict_mono hp h

theorem cnt_le_of_bound {p : Nat → Bool} {m : Nat} : ∀ n, (∀ k, k < n → p k = true → k < m) →
    cnt p n ≤ m
  | 0, _ => Nat.zero_le _
  | n + 1, h => by
    cases hp : p n
    · rw [cnt_succ_neg hp]
      exact cnt_le_of_bound n (fun k hk => h k (Nat.lt_succ_of_lt hk))
    · rw [cnt_succ_pos hp]
      exact Nat.lt_of_le_of_lt (cnt_le p n) (h n (Nat.lt_succ_self n) hp)

theorem cnt_ge_of_prefix {p : Nat → Bool} {m n : Nat} (hmn : m ≤ n) (h : ∀ k, k < m → p k = true) :
    m ≤ cnt p n :=
  cnt_true m h ▸ cnt_mono p hmn

theorem cnt_threshold {p : Nat → Bool} {j : Nat} : ∀ n, j ≤ n → (∀ i, i < j → p i = true) →
    (∀ i, j ≤ i → i < n → p i = false) → cnt p n = j
  | 0, h, _, _ => (Nat.le_zero.mp h).symm ▸ rfl
  | n + 1, h, h1, h2 => by
    rcases Nat.eq_or_lt_of_le h with hj | hj
    · subst hj; exact cnt_true _ h1
    · have hjn := Nat.le_of_lt_succ hj
      rw [cnt_succ_neg (h2 n hjn (Nat.lt_succ_self n)),
        cnt_threshold n hjn h1 (fun i a b => h2 i a (Nat.lt_succ_of_lt b))]

-- `cnt (fun k => f k < j)`: what entry `j` of a column pointer holds, for the key `f`

theorem cnt_lt_succ (f : Nat → Nat) (j : Nat) : ∀ n,
    cnt (fun k => decide (f k < j + 1)) n =
      cnt (fun k => decide (f k < j)) n + cnt (fun k => f k == j) n
  | 0 => rfl
  | n + 1 => by
    simp only [cnt, cnt_lt_succ f j n, decide_eq_true_eq, beq_iff_eq]
    rcases Nat.lt_trichotomy (f n) j with h | h | h
    · rw [if_pos h, if_pos (Nat.lt_succ_of_lt h), if_neg (Nat.ne_of_lt h)]; omega
    · rw [if_pos h, if_pos (h ▸ Nat.lt_succ_self _), if_neg (h ▸ Nat.lt_irrefl _)]; omega
    · rw [if_neg (by omega), if_neg (by omega), if_neg (by omega)]; rfl

theorem cnt_lt_zero (f : Nat → Nat) (n : Nat) : cnt (fun k => decide (f k < 0)) n = 0 :=
  cnt_false n (fun _ _ => decide_eq_false (Nat.not_lt_zero _))

theorem cnt_lt_mono (f : Nat → Nat) {i j : Nat} (h : i ≤ j) (n : Nat) :
    cnt (fun k => decide (f k < i)) n ≤ cnt (fun k => decide (f k < j)) n :=
  cnt_mono_pred n (fun _ _ hk => decide_eq_true (Nat.lt_of_lt_of_le (of_decide_eq_true hk) h))

theorem cnt_lt_bound (f : Nat → Nat) {n c : Nat} (h : ∀ k, k < n → f k < c) :
    cnt (fun k => decide (f k < c)) n = n :=
  cnt_true n (fun k hk => decide_eq_true (h k hk))

theorem cnt_sorted_slot (f : Nat → Nat) (nz k : Nat) (hk : k < nz)
    (hs : ∀ a b, a ≤ b → b < nz → f a ≤ f b) :
    cnt (fun i => decide (f i < f k)) nz ≤ k ∧ k < cnt (fun i => decide (f i < f k + 1)) nz := by
  constructor
  · refine cnt_le_of_bound nz fun i hi hp => Nat.lt_of_not_le fun hki => ?_
    exact Nat.not_le_of_lt (of_decide_eq_true hp) (hs k i hki hi)
  · exact cnt_ge_of_prefix (Nat.succ_le_of_lt hk) fun i hi =>
      decide_eq_true (Nat.lt_succ_of_le (hs i k (Nat.le_of_lt_succ hi) hk))

theorem filter_map_cnt (p : Nat → Bool) : ∀ n,
    ((List.range n).filter p).map (fun j => cnt p j) = List.range (cnt p n)
  | 0 => rfl
  | n + 1 => by
    rw [List.range_succ, List.filter_append, List.map_append, filter_map_cnt p n]
    cases hp : p n
    · simp [cnt, hp]
    · simp [cnt, hp, List.range_succ]

theorem cnt_eq_length_filter (p : Nat → Bool) (n : Nat) :
    cnt p n = ((List.range n).filter p).length := by
  have := congrArg List.length (filter_map_cnt p n)
  rw [List.length_map, List.length_range] at this
  exact this.symm

namespace Sp
variable {K : Type}

/-- the column that slot `k` belongs to: the number of columns that end at or before `k` -/
def colOf (s : Sp K) (k : Nat) : Nat := cnt (fun j => decide (s.cs (j + 1) ≤ k)) s.cols

theorem WF.colOf_eq {s : Sp K} (h : WF s) {j k : Nat} (hj : j < s.cols) (h1 : s.cs j ≤ k)
    (h2 : k < s.cs (j + 1)) : s.colOf k = j := by
  refine cnt_threshold _ (Nat.le_of_lt hj) (fun i hi => decide_eq_true ?_)
    (fun i hi1 hi2 => decide_eq_false ?_)
  · exact Nat.le_trans (h.cs_le_cs hi (Nat.le_of_lt hj)) h1
  · exact Nat.not_le_of_lt (Nat.lt_of_lt_of_le h2 (h.cs_le_cs (Nat.succ_le_succ hi1) hi2))

theorem exists_bucket (f : Nat → Nat) (k : Nat) : ∀ n, f 0 ≤ k → k < f n →
    ∃ j, j < n ∧ f j ≤ k ∧ k < f (j + 1)
  | 0, h1, h2 => absurd (Nat.lt_of_le_of_lt h1 h2) (Nat.lt_irrefl _)
  | n + 1, h1, h2 => by
    by_cases hc : k < f n
    · obtain ⟨j, a, b, c⟩ := exists_bucket f k n h1 hc
      exact ⟨j, Nat.lt_succ_of_lt a, b, c⟩
    · exact ⟨n, Nat.lt_succ_self n, Nat.le_of_not_lt hc, h2⟩

theorem WF.colOf_spec {s : Sp K} (h : WF s) {k : Nat} (hk : k < s.nonzero) :
    s.colOf k < s.cols ∧ s.cs (s.colOf k) ≤ k ∧ k < s.cs (s.colOf k + 1) := by
  obtain ⟨j, a, b, c⟩ := exists_bucket s.cs k s.cols (h.cs_zero.symm ▸ Nat.zero_le k)
    (h.cs_last.symm ▸ hk)
  rw [h.colOf_eq a b c]
  exact ⟨a, b, c⟩

theorem WF.colOf_lt {s : Sp K} (h : WF s) {k : Nat} (hk : k < s.nonzero) : s.colOf k < s.cols :=
  (h.colOf_spec hk).1

theorem WF.colOf_iff {s : Sp K} (h : WF s) {j k : Nat} (hj : j < s.cols) (hk : k < s.nonzero) :
    s.colOf k = j ↔ s.cs j ≤ k ∧ k < s.cs (j + 1) := by
  constructor
  · intro e; subst e; exact (h.colOf_spec hk).2
  · intro ⟨a, b⟩; exact h.colOf_eq hj a b

theorem WF.forM'_cols_flat {σ : Type} {s : Sp K} (h : WF s) (g : Nat → σ → Nat → Res σ) (st : σ) :
    forM' 0 s.cols st (fun st i => do
      let lo ← aget s.colStart i
      let hi ← aget s.colStart (i + 1)
      forM' lo hi st (g i)) =
    forM' 0 s.nonzero st (fun st k => g (s.colOf k) st k) := by
  have key : ∀ m, m ≤ s.cols → forM' 0 m st (fun st i => do
      let lo ← aget s.colStart i
      let hi ← aget s.colStart (i + 1)
      forM' lo hi st (g i)) = forM' 0 (s.cs m) st (fun st k => g (s.colOf k) st k) := by
    intro m
    induction m with
    | zero =>
      intro _
      rw [h.cs_zero, Mat.forM'_empty _ _ _ _ (Nat.le_refl _), Mat.forM'_empty _ _ _ _ (Nat.le_refl _)]
    | succ m ih =>
      intro hm
      rw [Mat.forM'_succ _ _ _ _ (Nat.zero_le _), ih (Nat.le_of_lt hm),
        Mat.forM'_split 0 (s.cs m) (s.cs (m + 1)) st _ (Nat.zero_le _) (h.mono m hm)]
      congr 1
      funext st'
      rw [h.aget_cs (Nat.le_of_lt hm), h.aget_cs hm]
      show forM' (s.cs m) (s.cs (m + 1)) st' (g m) = _
      apply Mat.forM'_congr
      intro k st'' hk1 hk2
      rw [h.colOf_eq hm hk1 hk2]
  have := key s.cols (Nat.le_refl _)
  rw [h.cs_last] at this
  exact this

theorem foldl_ones : ∀ (l : List Nat) (a : Nat), (l.map (fun _ => 1)).foldl (· + ·) a = a + l.length
  | [], a => rfl
  | _ :: l, a => by
    rw [List.map_cons, List.foldl_cons, foldl_ones l, List.length_cons, Nat.add_assoc, Nat.add_comm 1]

/-- the flat scatter loop `res[tgt k] += term k`, `k = 0 … N-1`, from the zero vector: component `i`
    is the LEFT FOLD from `0` of the terms aimed at `i`, in slot order (no algebraic law) -/
theorem flat_scatter [Add K] [Zero K] (tgt : Nat → Nat) (term : Nat → K) (n N : Nat)
    (htgt : ∀ k, k < N → tgt k < n) :
    ∃ y, forM' 0 N (Array.replicate n (0 : K)) (fun res k => do
        let r ← aget res (tgt k)
        aset res (tgt k) (r + term k)) = .ok y ∧ y.size = n ∧
      ∀ i, i < n → y[i]?.getD 0 =
        (((List.range N).filter (fun k => decide (tgt k = i))).map term).foldl (· + ·) 0 := by
  refine forM'_inv
    (fun m (r : Array K) => r.size = n ∧ ∀ i, i < n → r[i]?.getD 0 =
      (((List.range m).filter (fun k => decide (tgt k = i))).map term).foldl (· + ·) 0)
    0 N (Array.replicate n (0 : K)) _ (Nat.zero_le _)
    ⟨Array.size_replicate, by intro i hi; simp [hi]⟩ ?_
  intro m r _ hm ⟨hsz, hr⟩
  have a4 : tgt m < r.size := hsz ▸ htgt m hm
  refine ⟨r.setIfInBounds (tgt m) (r[tgt m] + term m),
    by simp only [aget_ok a4, aset_ok _ a4, bind, Except.bind],
    (Array.size_setIfInBounds ..).trans hsz, ?_⟩
  intro i hi
  rw [List.range_succ, List.filter_append, List.map_append, List.foldl_append, ← hr i hi,
    Array.getElem?_setIfInBounds]
  by_cases hc : tgt m = i
  · subst hc; simp [a4]
  · simp [hc]

/-- the histogram loop `count[idx[k]] += 1`, `k < nz`, from zeros (first loop of
    `col_start_from_index` and of `transpose`): the scatter loop with every term `1` -/
theorem histogram_loop (idx : Array Nat) (n nz : Nat) (hsz : nz ≤ idx.size)
    (hlt : ∀ k, k < nz → idx[k]?.getD 0 < n) :
    ∃ c, forM' 0 nz (Array.replicate n 0) (fun c k => do
        let r ← aget idx k
        let x ← aget c r
        aset c r (x + 1)) = .ok c ∧ c.size = n ∧
      ∀ r, r < n → c[r]? = some (cnt (fun k => idx[k]?.getD 0 == r) nz) := by
  obtain ⟨c, h1, h2, h3⟩ := flat_scatter (fun k => idx[k]?.getD 0) (fun _ => 1) n nz hlt
  refine ⟨c, (Mat.forM'_congr _ _ _ _ _ fun k res _ hk => ?_).trans h1, h2, fun r hr => ?_⟩
  · have hk' : k < idx.size := Nat.lt_of_lt_of_le hk hsz
    rw [aget_ok hk', Array.getElem?_eq_getElem hk']
    rfl
  · have := h3 r hr
    rw [Array.getElem?_eq_getElem (h2 ▸ hr)] at this ⊢
    rw [cnt_eq_length_filter, ← Nat.zero_add (List.length _), ← foldl_ones]
    refine congrArg some (this.trans ?_)
    congr 2

theorem colStartFromIndex_count (cols nz : Nat) (ci : Array Nat) (hsz : nz ≤ ci.size)
    (hlt : ∀ k, k < nz → ci[k]?.getD 0 < cols) :
    ∃ cs, colStartFromIndex cols nz ci = .ok cs ∧ cs.size = cols + 1 ∧
      ∀ j, j ≤ cols → cs[j]? = some (cnt (fun k => decide (ci[k]?.getD 0 < j)) nz) := by
  obtain ⟨c1, h1, h1s, h1v⟩ := histogram_loop ci (cols + 1) nz hsz
    (fun k hk => Nat.lt_succ_of_lt (hlt k hk))
  -- exclusive prefix sums, in place: the sums below `m`, still the histogram from `m` on
  obtain ⟨⟨c2, sum⟩, h2, h2s, h2sum, h2v, _⟩ := forM'_inv
    (fun m (st : Array Nat × Nat) => st.1.size = cols + 1 ∧
      st.2 = cnt (fun k => decide (ci[k]?.getD 0 < m)) nz ∧
      (∀ j, j < m → st.1[j]? = some (cnt (fun k => decide (ci[k]?.getD 0 < j)) nz)) ∧
      ∀ j, m ≤ j → j ≤ cols → st.1[j]? = some (cnt (fun k => ci[k]?.getD 0 == j) nz))
    0 cols (c1, 0) (fun (cs, sum) k => do
      let ck ← aget cs k
      let cs ← aset cs k sum
      pure (cs, sum + ck)) (Nat.zero_le _)
    ⟨h1s, (cnt_lt_zero _ _).symm, fun j hj => absurd hj (Nat.not_lt_zero j),
      fun j _ hj => h1v j (Nat.lt_succ_of_le hj)⟩ (by
      rintro m ⟨c, sm⟩ _ hm ⟨hs, hsum, hlo, hhi⟩
      have a1 : m < c.size := hs ▸ Nat.lt_succ_of_lt hm
      refine ⟨(c.setIfInBounds m sm, sm + cnt (fun k => ci[k]?.getD 0 == m) nz), ?_,
        (Array.size_setIfInBounds ..).trans hs, (hsum ▸ cnt_lt_succ _ m nz).symm,
        fun j hj => ?_, fun j hj hj' => ?_⟩
      · simp only [Mat.aget_eq_ok.mpr (hhi m (Nat.le_refl m) (Nat.le_of_lt hm)), aset_ok _ a1, bind,
          Except.bind, pure, Except.pure]
      · rcases Nat.eq_or_lt_of_le (Nat.le_of_lt_succ hj) with rfl | hjm
        · exact (Array.getElem?_setIfInBounds_self_of_lt a1).trans (congrArg some hsum)
        · exact (Array.getElem?_setIfInBounds_ne (Nat.ne_of_gt hjm)).trans (hlo j hjm)
      · exact (Array.getElem?_setIfInBounds_ne (Nat.ne_of_lt hj)).trans
          (hhi j (Nat.le_of_succ_le hj) hj'))
  have a1 : cols < c2.size := h2s ▸ Nat.lt_succ_self cols
  refine ⟨c2.setIfInBounds cols sum, ?_, (Array.size_setIfInBounds ..).trans h2s, fun j hj => ?_⟩
  · simp only [colStartFromIndex]
    rw [h1, ok_bind, h2, ok_bind]
    exact aset_ok _ a1
  · rcases Nat.eq_or_lt_of_le hj with rfl | hjc
    · exact (Array.getElem?_setIfInBounds_self_of_lt a1).trans (congrArg some h2sum)
    · exact (Array.getElem?_setIfInBounds_ne (Nat.ne_of_gt hjc)).trans (h2v j hjc)

/-- `col_index()` of a well-formed storage lists the column of every slot -/
theorem WF.colIndex_spec {s : Sp K} (h : WF s) :
    ∃ ci, colIndex s = .ok ci ∧ ci.size = s.nonzero ∧ ∀ k, k < s.nonzero → ci[k]? = some (s.colOf k) := by
  unfold colIndex
  by_cases hz : s.nonzero = 0
  · exact ⟨#[], if_pos hz, hz.symm, fun k hk => absurd (hz ▸ hk) (Nat.not_lt_zero k)⟩
  · rw [if_neg hz, if_neg (h.csSize ▸ Nat.lt_irrefl _), h.csSize, Nat.add_sub_cancel]
    obtain ⟨ci, h1, h2, h3⟩ := forM'_inv
      (fun m (acc : Array Nat) => acc.size = s.cs m ∧ ∀ k, k < s.cs m → acc[k]? = some (s.colOf k))
      0 s.cols (#[] : Array Nat) (fun acc k => do
        let a ← aget s.colStart (k + 1)
        let b ← aget s.colStart k
        let gap ← usub a b
        pure (acc ++ Array.replicate gap k)) (Nat.zero_le _)
      ⟨h.cs_zero.symm, fun k hk => absurd (h.cs_zero ▸ hk) (Nat.not_lt_zero k)⟩ (by
        intro m acc _ hm ⟨hs, hv⟩
        have hmono := h.mono m hm
        refine ⟨acc ++ Array.replicate (s.cs (m + 1) - s.cs m) m, by
          simp only [h.aget_cs hm, h.aget_cs (Nat.le_of_lt hm), usub, hmono, if_true, bind,
            Except.bind, pure, Except.pure], by
          rw [Array.size_append, Array.size_replicate, hs, Nat.add_sub_cancel' hmono], ?_⟩
        intro k hk
        by_cases hc : k < s.cs m
        · rw [Array.getElem?_append_left (hs ▸ hc)]
          exact hv k hc
        · rw [Array.getElem?_append_right (hs ▸ Nat.le_of_not_lt hc), Array.getElem?_replicate,
            if_pos (hs.symm ▸ Nat.sub_lt_sub_right (Nat.le_of_not_lt hc) hk),
            h.colOf_eq hm (Nat.le_of_not_lt hc) hk])
    rw [h.cs_last] at h2 h3
    exact ⟨ci, h1, h2, h3⟩

theorem WF.aget_ri {s : Sp K} (h : WF s) {k : Nat} (hk : k < s.nonzero) :
    aget s.rowIndex k = .ok (s.ri k) := by
  have hk' : k < s.rowIndex.size := h.riSize ▸ hk
  rw [aget_ok hk', ri, Array.getElem?_eq_getElem hk']
  rfl

section Trip
variable [Zero K]

def trip (s : Sp K) (k : Nat) : Nat × Nat × K := (s.ri k, s.colOf k, s.vl k)

def trips (s : Sp K) : List (Nat × Nat × K) := (List.range s.nonzero).map (trip s)

@[simp] theorem length_trips (s : Sp K) : (trips s).length = s.nonzero := by simp [trips]

theorem getElem?_trips (s : Sp K) {k : Nat} (hk : k < s.nonzero) : (trips s)[k]? = some (trip s k) := by
  simp [trips, hk]

theorem mem_trips {s : Sp K} {t : Nat × Nat × K} :
    t ∈ trips s ↔ ∃ k, k < s.nonzero ∧ trip s k = t := by
  simp [trips]

theorem WF.aget_vl {s : Sp K} (h : WF s) {k : Nat} (hk : k < s.nonzero) :
    aget s.val k = .ok (s.vl k) := by
  have hk' : k < s.val.size := h.valSize ▸ hk
  rw [aget_ok hk', vl, Array.getElem?_eq_getElem hk']
  rfl

theorem WF.toTriplets_spec {s : Sp K} (h : WF s) : toTriplets s = .ok (trips s) := by
  unfold toTriplets
  rw [h.forM'_cols_flat (σ := Array (Nat × Nat × K)) (fun j acc k => do
      let r ← aget s.rowIndex k
      let v ← aget s.val k
      pure (acc.push (r, j, v)))]
  refine (bind_eq_of_ok _ (Mat.forM'_eq_of_inv (fun m => ((List.range m).map (trip s)).toArray)
    0 s.nonzero _ _ (Nat.zero_le _) rfl fun m _ hm => ?_)).trans rfl
  simp [h.aget_ri hm, h.aget_vl hm, bind, Except.bind, trip, pure, Except.pure, List.range_succ]

theorem WF.trips_inRange {s : Sp K} (h : WF s) :
    ∀ t, t ∈ trips s → t.1 < s.rows ∧ t.2.1 < s.cols := by
  intro t ht
  obtain ⟨k, hk, rfl⟩ := mem_trips.mp ht
  exact ⟨h.riLt k hk, h.colOf_lt hk⟩

end Trip

/-- the least `k < n` with `p k` -/
def firstHit (p : Nat → Bool) : Nat → Option Nat
  | 0 => none
  | n + 1 => match firstHit p n with
    | some k => some k
    | none => if p n then some n else none

theorem find?_range (p : Nat → Bool) : ∀ n, (List.range n).find? p = firstHit p n
  | 0 => rfl
  | n + 1 => by
    rw [List.range_succ, List.find?_append, find?_range p n, firstHit]
    cases firstHit p n with
    | some k => rfl
    | none => rw [Option.none_or, List.find?_singleton]

theorem firstHit_eq_none {p : Nat → Bool} {n : Nat} :
    firstHit p n = none ↔ ∀ k, k < n → p k = false := by
  rw [← find?_range, List.find?_range_eq_none]
  simp only [Bool.not_eq_true']

theorem firstHit_eq_some {p : Nat → Bool} {n k : Nat} :
    firstHit p n = some k ↔ k < n ∧ p k = true ∧ ∀ k', k' < k → p k' = false := by
  rw [← find?_range, List.find?_range_eq_some, List.mem_range]
  simp only [Bool.not_eq_true']
  exact ⟨fun ⟨a, b, c⟩ => ⟨b, a, c⟩, fun ⟨a, b, c⟩ => ⟨b, a, c⟩⟩

def firstSlot (s : Sp K) (row col : Nat) : Option Nat :=
  firstHit (fun k => s.ri k == row && s.colOf k == col) s.nonzero

theorem firstSlot_eq_some {s : Sp K} {row col k : Nat} :
    firstSlot s row col = some k ↔ k < s.nonzero ∧ (s.ri k = row ∧ s.colOf k = col) ∧
      ∀ k', k' < k → ¬ (s.ri k' = row ∧ s.colOf k' = col) := by
  unfold firstSlot
  rw [firstHit_eq_some]
  simp only [Bool.and_eq_true, beq_iff_eq, Bool.and_eq_false_imp, beq_eq_false_iff_ne, ne_eq, not_and]

theorem firstSlot_eq_none {s : Sp K} {row col : Nat} :
    firstSlot s row col = none ↔ ∀ k, k < s.nonzero → ¬ (s.ri k = row ∧ s.colOf k = col) := by
  unfold firstSlot
  rw [firstHit_eq_none]
  simp only [Bool.and_eq_false_imp, beq_iff_eq, beq_eq_false_iff_ne, ne_eq, not_and]

/-- the search loop shared by `get` and `insert`: scan the slots in storage order for the first
    one holding the position; `hit k` is what is done with it (`get` reads `val[k]`, `insert` keeps
    `k`) -/
theorem WF.search_loop {α : Type} {s : Sp K} (h : WF s) (ci : Array Nat)
    (hci : ∀ k, k < s.nonzero → ci[k]? = some (s.colOf k)) (row col : Nat) (hit : Nat → Res α)
    (val : Nat → α) (hhit : ∀ k, k < s.nonzero → hit k = .ok (val k)) :
    forM' 0 s.nonzero (none : Option α) (fun found k =>
      match found with
      | some v => pure (some v)
      | none => do
        let ri ← aget s.rowIndex k
        if ri == row then do
          let c ← aget ci k
          if c == col then do
            let v ← hit k
            pure (some v)
          else pure none
        else pure none) = .ok ((firstSlot s row col).map val) := by
  refine Mat.forM'_eq_of_inv
    (fun m => (firstHit (fun k => s.ri k == row && s.colOf k == col) m).map val) 0 s.nonzero _ _
    (Nat.zero_le _) rfl fun m _ hm => ?_
  have hc := Mat.aget_eq_ok.mpr (hci m hm)
  simp only [firstHit]
  cases hh : firstHit (fun k => s.ri k == row && s.colOf k == col) m with
  | some i => rfl
  | none =>
    simp only [Option.map_none, h.aget_ri hm, bind, Except.bind]
    by_cases hr : (s.ri m == row) = true
    · by_cases hcc : (s.colOf m == col) = true
      · simp only [hr, hcc, if_true, hc, Bool.true_and, hhit m hm]
        rfl
      · simp only [hr, hcc, if_true, hc, Bool.true_and]
        rfl
    · simp only [hr, Bool.false_and]
      rfl

theorem WF.search_slot {s : Sp K} (h : WF s) (ci : Array Nat)
    (hci : ∀ k, k < s.nonzero → ci[k]? = some (s.colOf k)) (row col : Nat) :
    forM' 0 s.nonzero (none : Option Nat) (fun found k =>
      match found with
      | some i => pure (some i)
      | none => do
        let ri ← aget s.rowIndex k
        if ri == row then do
          let c ← aget ci k
          if c == col then pure (some k) else pure none
        else pure none) = .ok (firstSlot s row col) := by
  have := h.search_loop ci hci row col pure id (fun _ _ => rfl)
  simp only [pure_bind, Option.map_id_fun, id] at this
  refine (Mat.forM'_congr _ _ _ _ _ fun k found _ _ => ?_).trans this
  cases found <;> rfl

/-- `get(row, col)` of a well-formed storage returns the value of the FIRST slot holding that
    position, `None` if there is none -/
theorem WF.get_spec [Zero K] {s : Sp K} (h : WF s) {row col : Nat} (hr : row < s.rows)
    (hc : col < s.cols) :
    get s row col = .ok ((firstSlot s row col).map s.vl) := by
  obtain ⟨ci, c1, c2, c3⟩ := h.colIndex_spec
  rw [get, if_neg (Nat.not_le_of_lt hr), if_neg (Nat.not_le_of_lt hc),
    if_neg (h.csSize ▸ Nat.not_le_of_lt (Nat.lt_succ_of_lt hc)), c1, ok_bind]
  exact h.search_loop ci c3 row col _ s.vl fun k hk => h.aget_vl hk

theorem wf_of_counts {rows cols nz : Nat} {ri cs : Array Nat} {vs : Array K} (key : Nat → Nat)
    (hcs : cs.size = cols + 1)
    (hcnt : ∀ j, j ≤ cols → cs[j]? = some (cnt (fun k => decide (key k < j)) nz))
    (hkey : ∀ k, k < nz → key k < cols) (hri : ri.size = nz) (hvs : vs.size = nz)
    (hr : ∀ k, k < nz → ri[k]?.getD 0 < rows) :
    WF (⟨rows, cols, nz, vs, ri, cs⟩ : Sp K) ∧
      ∀ c p, c < cols → cnt (fun k => decide (key k < c)) nz ≤ p →
        p < cnt (fun k => decide (key k < c + 1)) nz →
        colOf (⟨rows, cols, nz, vs, ri, cs⟩ : Sp K) p = c := by
  have hcs' : ∀ j, j ≤ cols → Sp.cs (⟨rows, cols, nz, vs, ri, cs⟩ : Sp K) j =
      cnt (fun k => decide (key k < j)) nz := fun j hj => by
    show cs[j]?.getD 0 = _
    rw [hcnt j hj]; rfl
  have hwf : WF (⟨rows, cols, nz, vs, ri, cs⟩ : Sp K) := by
    refine ⟨hcs, ?_, fun j hj => ?_, ?_, hvs, hri, hr⟩
    · show cs[0]? = some 0
      rw [hcnt 0 (Nat.zero_le _), cnt_lt_zero]
    · rw [hcs' j (Nat.le_of_lt hj), hcs' (j + 1) hj]
      exact cnt_lt_mono key (Nat.le_succ j) nz
    · show cs[cols]? = some nz
      rw [hcnt cols (Nat.le_refl _), cnt_lt_bound key hkey]
  refine ⟨hwf, fun c p hc a b => hwf.colOf_eq hc ?_ ?_⟩
  · rw [hcs' c (Nat.le_of_lt hc)]; exact a
  · rw [hcs' (c + 1) hc]; exact b

theorem wf_of_colIndex (rows cols nz : Nat) (ri ci : Array Nat) (vs : Array K)
    (hri : ri.size = nz) (hci : ci.size = nz) (hvs : vs.size = nz)
    (hr : ∀ k, k < nz → ri[k]?.getD 0 < rows) (hc : ∀ k, k < nz → ci[k]?.getD 0 < cols)
    (hs : ∀ a b, a ≤ b → b < nz → ci[a]?.getD 0 ≤ ci[b]?.getD 0) :
    ∃ cs, colStartFromIndex cols nz ci = .ok cs ∧ WF (⟨rows, cols, nz, vs, ri, cs⟩ : Sp K) ∧
      ∀ k, k < nz → colOf (⟨rows, cols, nz, vs, ri, cs⟩ : Sp K) k = ci[k]?.getD 0 := by
  obtain ⟨cs, h1, h2, h3⟩ := colStartFromIndex_count cols nz ci (Nat.le_of_eq hci.symm) hc
  obtain ⟨hwf, hcol⟩ := wf_of_counts (fun k => ci[k]?.getD 0) h2 h3 hc hri hvs hr
  refine ⟨cs, h1, hwf, fun k hk => ?_⟩
  obtain ⟨a, b⟩ := cnt_sorted_slot (fun i => ci[i]?.getD 0) nz k hk hs
  exact hcol _ k (hc k hk) a b

/-- one step of the fold in `from_triplets` -/
def ftStep (rows cols : Nat) (acc : Array Nat × Array Nat × Array K) (t : Nat × Nat × K) :
    Res (Array Nat × Array Nat × Array K) :=
  if t.1 ≥ rows then .error .range
  else if t.2.1 ≥ cols then .error .range
  else .ok (acc.1.push t.1, acc.2.1.push t.2.1, acc.2.2.push t.2.2)

theorem fromTriplets_eq (rows cols : Nat) (ts : List (Nat × Nat × K)) :
    fromTriplets rows cols ts = ((sortByCol ts).foldlM (ftStep rows cols) (#[], #[], #[]) >>= fun x =>
      colStartFromIndex cols x.1.size x.2.1 >>= fun cs =>
      pure ⟨rows, cols, x.1.size, x.2.2, x.1, cs⟩) := rfl

theorem ftStep_ok {rows cols : Nat} (acc : Array Nat × Array Nat × Array K) {t : Nat × Nat × K}
    (h : t.1 < rows ∧ t.2.1 < cols) :
    ftStep rows cols acc t = .ok (acc.1.push t.1, acc.2.1.push t.2.1, acc.2.2.push t.2.2) := by
  rw [ftStep, if_neg (Nat.not_le_of_lt h.1), if_neg (Nat.not_le_of_lt h.2)]

theorem ftStep_err {rows cols : Nat} (acc : Array Nat × Array Nat × Array K) {t : Nat × Nat × K}
    (h : ¬ (t.1 < rows ∧ t.2.1 < cols)) : ftStep rows cols acc t = .error .range := by
  unfold ftStep
  by_cases a : t.1 ≥ rows
  · rw [if_pos a]
  · rw [if_neg a, if_pos (Nat.le_of_not_lt fun b => h ⟨Nat.lt_of_not_le a, b⟩)]

theorem ftStep_fold_ok (rows cols : Nat) : ∀ (l : List (Nat × Nat × K))
    (acc : Array Nat × Array Nat × Array K), (∀ t, t ∈ l → t.1 < rows ∧ t.2.1 < cols) →
    l.foldlM (ftStep rows cols) acc = .ok (acc.1 ++ (l.map (·.1)).toArray,
      acc.2.1 ++ (l.map (·.2.1)).toArray, acc.2.2 ++ (l.map (·.2.2)).toArray)
  | [], acc, _ => by simp [pure, Except.pure]
  | t :: l, acc, h => by
    rw [List.foldlM_cons, ftStep_ok acc (h t List.mem_cons_self), ok_bind,
      ftStep_fold_ok rows cols l _ (fun u hu => h u (List.mem_cons_of_mem _ hu))]
    congr 1
    refine Prod.ext ?_ (Prod.ext ?_ ?_) <;> (apply Array.ext'; simp)

theorem ftStep_fold_err (rows cols : Nat) : ∀ (l : List (Nat × Nat × K))
    (acc : Array Nat × Array Nat × Array K), (∃ t, t ∈ l ∧ ¬ (t.1 < rows ∧ t.2.1 < cols)) →
    l.foldlM (ftStep rows cols) acc = .error .range
  | [], _, h => by obtain ⟨t, ht, _⟩ := h; cases ht
  | t :: l, acc, h => by
    rw [List.foldlM_cons]
    by_cases ht : t.1 < rows ∧ t.2.1 < cols
    · rw [ftStep_ok acc ht, ok_bind]
      obtain ⟨u, hu, hbad⟩ := h
      rcases List.mem_cons.mp hu with rfl | hu'
      · exact absurd ht hbad
      · exact ftStep_fold_err rows cols l _ ⟨u, hu', hbad⟩
    · rw [ftStep_err acc ht]
      rfl

open Props.C06 (sortByCol_perm sortByCol_sorted) in
/-- `from_triplets` on in-range triplets: the arrays of the result (no `Zero K` needed) -/
theorem fromTriplets_ok' (rows cols : Nat) (ts : List (Nat × Nat × K))
    (hr : ∀ t, t ∈ ts → t.1 < rows ∧ t.2.1 < cols) :
    ∃ s, fromTriplets rows cols ts = .ok s ∧ WF s ∧ s.rows = rows ∧ s.cols = cols ∧
      s.nonzero = ts.length ∧ s.rowIndex = ((sortByCol ts).map (·.1)).toArray ∧
      s.val = ((sortByCol ts).map (·.2.2)).toArray ∧
      ∀ k (hk : k < (sortByCol ts).length), colOf s k = (sortByCol ts)[k].2.1 := by
  have hlen := (sortByCol_perm ts).length_eq
  have hsorted := sortByCol_sorted ts
  replace hr : ∀ t, t ∈ sortByCol ts → t.1 < rows ∧ t.2.1 < cols :=
    fun t ht => hr t ((sortByCol_perm ts).subset ht)
  rw [fromTriplets_eq, ftStep_fold_ok rows cols _ _ hr, ok_bind]
  generalize sortByCol ts = L at hlen hsorted hr ⊢
  have hget : ∀ (k : Nat) (hk : k < L.length),
      (L.map (·.1)).toArray[k]?.getD 0 = L[k].1 ∧ (L.map (·.2.1)).toArray[k]?.getD 0 = L[k].2.1 := by
    intro k hk; simp [hk]
  obtain ⟨cs, h1, h2, h3⟩ := wf_of_colIndex rows cols L.length (L.map (·.1)).toArray
    (L.map (·.2.1)).toArray (L.map (·.2.2)).toArray (by simp) (by simp) (by simp)
    (by intro k hk; rw [(hget k hk).1]; exact (hr _ (List.getElem_mem hk)).1)
    (by intro k hk; rw [(hget k hk).2]; exact (hr _ (List.getElem_mem hk)).2)
    (by
      intro a b hab hb
      rw [(hget a (Nat.lt_of_le_of_lt hab hb)).2, (hget b hb).2]
      rcases Nat.eq_or_lt_of_le hab with e | e
      · subst e; exact Nat.le_refl _
      · exact List.pairwise_iff_getElem.mp hsorted a b _ hb e)
  simp only [Array.empty_append, List.size_toArray, List.length_map]
  rw [h1, ok_bind]
  refine ⟨_, rfl, h2, rfl, rfl, hlen, rfl, rfl, ?_⟩
  intro k hk
  rw [h3 k hk, (hget k hk).2]

section FromTriplets
variable [Zero K]

theorem fromTriplets_ok (rows cols : Nat) (ts : List (Nat × Nat × K))
    (hr : ∀ t, t ∈ ts → t.1 < rows ∧ t.2.1 < cols) :
    ∃ s, fromTriplets rows cols ts = .ok s ∧ WF s ∧ s.rows = rows ∧ s.cols = cols ∧
      s.nonzero = ts.length ∧ trips s = sortByCol ts := by
  obtain ⟨s, h1, h2, h3, h4, h5, h6, h7, h8⟩ := fromTriplets_ok' rows cols ts hr
  have hlen := (Props.C06.sortByCol_perm ts).length_eq
  refine ⟨s, h1, h2, h3, h4, h5, ?_⟩
  apply List.ext_getElem (by simp [h5, hlen])
  intro k hk1 hk2
  have hk : k < s.nonzero := by simpa using hk1
  have := getElem?_trips s hk
  rw [List.getElem?_eq_getElem hk1] at this
  rw [Option.some.inj this]
  simp only [trip, h8 k hk2, Sp.ri, Sp.vl, h6, h7]
  simp [hk2]

end FromTriplets

theorem fromTriplets_err (rows cols : Nat) (ts : List (Nat × Nat × K))
    (hbad : ∃ t, t ∈ ts ∧ ¬ (t.1 < rows ∧ t.2.1 < cols)) :
    fromTriplets rows cols ts = .error .range := by
  obtain ⟨t, ht, hb⟩ := hbad
  rw [fromTriplets_eq, ftStep_fold_err rows cols _ _
    ⟨t, (Props.C06.sortByCol_perm ts).symm.subset ht, hb⟩]
  rfl

section Insert
variable [Zero K]

theorem WF.insert_eq {s : Sp K} (h : WF s) {row col : Nat} (hr : row < s.rows) (hc : col < s.cols)
    (v : K) :
    insert s row col v = match firstSlot s row col with
      | some k => .ok { s with val := s.val.setIfInBounds k v }
      | none => fromTriplets s.rows s.cols (trips s ++ [(row, col, v)]) := by
  obtain ⟨ci, c1, c2, c3⟩ := h.colIndex_spec
  rw [insert, if_neg (Nat.not_le_of_lt hr), if_neg (Nat.not_le_of_lt hc),
    if_neg (by rw [h.csSize]; exact Nat.not_le_of_lt (Nat.lt_succ_of_lt hc)), c1, ok_bind]
  refine (bind_eq_of_ok _ (h.search_slot ci c3 row col)).trans ?_
  cases hk : firstSlot s row col with
  | some k =>
    show (aset s.val k v >>= fun vs => pure { s with val := vs }) = _
    rw [aset_ok _ (h.valSize ▸ (firstSlot_eq_some.mp hk).1)]
    rfl
  | none =>
    show (toTriplets s >>= fun ts => fromTriplets s.rows s.cols (ts ++ [(row, col, v)])) = _
    rw [h.toTriplets_spec]
    rfl

theorem WF.insert_hit {s : Sp K} (h : WF s) {row col k : Nat} (hr : row < s.rows) (hc : col < s.cols)
    (v : K) (hk : firstSlot s row col = some k) :
    insert s row col v = .ok { s with val := s.val.setIfInBounds k v } := by
  rw [h.insert_eq hr hc, hk]

theorem WF.insert_miss {s : Sp K} (h : WF s) {row col : Nat} (hr : row < s.rows) (hc : col < s.cols)
    (v : K) (hk : firstSlot s row col = none) :
    insert s row col v = fromTriplets s.rows s.cols (trips s ++ [(row, col, v)]) := by
  rw [h.insert_eq hr hc, hk]

end Insert

/-- target slot of the `j`-th element in a stable counting sort by the key `f` -/
def pos (f : Nat → Nat) (n j : Nat) : Nat :=
  cnt (fun i => decide (f i < f j)) n + cnt (fun i => f i == f j) j

theorem pos_ge (f : Nat → Nat) (n j : Nat) : cnt (fun i => decide (f i < f j)) n ≤ pos f n j :=
  Nat.le_add_right _ _

theorem pos_lt_succ (f : Nat → Nat) {n j : Nat} (hj : j < n) :
    pos f n j < cnt (fun i => decide (f i < f j + 1)) n := by
  rw [cnt_lt_succ]
  exact Nat.add_lt_add_left (cnt_lt_of_mem (fun i => f i == f j) hj (beq_self_eq_true _)) _

theorem pos_lt (f : Nat → Nat) {n j : Nat} (hj : j < n) : pos f n j < n :=
  Nat.lt_of_lt_of_le (pos_lt_succ f hj) (cnt_le _ n)

theorem pos_lt_pos (f : Nat → Nat) {n a b : Nat} (ha : a < n) (hab : f a < f b) :
    pos f n a < pos f n b :=
  Nat.lt_of_lt_of_le (pos_lt_succ f ha) (Nat.le_trans (cnt_lt_mono f hab n) (pos_ge f n b))

theorem pos_ne (f : Nat → Nat) {n j1 j2 : Nat} (h1 : j1 < j2) (h2 : j2 < n) :
    pos f n j1 ≠ pos f n j2 := by
  rcases Nat.lt_trichotomy (f j1) (f j2) with lt | e | gt
  · exact Nat.ne_of_lt (pos_lt_pos f (Nat.lt_trans h1 h2) lt)
  · -- equal keys: the earlier element is counted among the equal keys before the later one
    have := cnt_lt_of_mem (fun i => f i == f j2) h1 (beq_iff_eq.mpr e)
    unfold pos
    rw [e]
    exact Nat.ne_of_lt (Nat.add_lt_add_left this _)
  · exact Nat.ne_of_gt (pos_lt_pos f h2 gt)

section Transpose
variable [Zero K]

/-- the body of the third loop of `transpose` (slot `j` of column `i`), on the state
    `(row_index, val, count)` of the result under construction; `cs` is its column pointer -/
def tScatterStep (s : Sp K) (cs : Array Nat) (i : Nat) (st : Array Nat × Array K × Array Nat) (j : Nat) :
    Res (Array Nat × Array K × Array Nat) := do
  let k ← aget s.rowIndex j
  let base ← aget cs k
  let c ← aget st.2.2 k
  let ri ← aset st.1 (base + c) i
  let v ← aget s.val j
  let vs ← aset st.2.1 (base + c) v
  let count ← aset st.2.2 k (c + 1)
  pure (ri, vs, count)

theorem tScatterStep_ok {s : Sp K} (h : WF s) {cs : Array Nat} {i j base c : Nat}
    {st : Array Nat × Array K × Array Nat} (hj : j < s.nonzero)
    (hb : cs[s.ri j]? = some base) (hc : st.2.2[s.ri j]? = some c) (h1 : base + c < st.1.size)
    (h2 : base + c < st.2.1.size) (h3 : s.ri j < st.2.2.size) :
    tScatterStep s cs i st j = .ok (st.1.setIfInBounds (base + c) i,
      st.2.1.setIfInBounds (base + c) (s.vl j), st.2.2.setIfInBounds (s.ri j) (c + 1)) := by
  simp only [tScatterStep, h.aget_ri hj, Mat.aget_eq_ok.mpr hb, Mat.aget_eq_ok.mpr hc, h.aget_vl hj,
    aset_ok _ h1, aset_ok _ h2, aset_ok _ h3, bind, Except.bind]
  rfl

theorem transpose_eq (s : Sp K) : transpose s =
    (forM' 0 s.cols (Array.replicate s.rows 0) (fun count i => do
        let lo ← aget s.colStart i
        let hi ← aget s.colStart (i + 1)
        forM' lo hi count (fun count j => do
          let r ← aget s.rowIndex j
          let c ← aget count r
          aset count r (c + 1))) >>= fun count =>
      forM' 0 s.rows (Array.replicate (s.rows + 1) 0) (fun cs j => do
        let a ← aget cs j
        let c ← aget count j
        aset cs (j + 1) (a + c)) >>= fun cs =>
      forM' 0 s.cols (Array.replicate s.nonzero 0, Array.replicate s.nonzero (0 : K),
          Array.replicate s.rows 0) (fun st i => do
        let lo ← aget s.colStart i
        let hi ← aget s.colStart (i + 1)
        forM' lo hi st (tScatterStep s cs i)) >>= fun x =>
      pure ⟨s.cols, s.rows, s.nonzero, x.2.1, x.1, cs⟩) := rfl

def swapT (t : Nat × Nat × K) : Nat × Nat × K := (t.2.1, t.1, t.2.2)

theorem WF.transpose_ok {s : Sp K} (h : WF s) :
    ∃ t, transpose s = .ok t ∧ WF t ∧ t.rows = s.cols ∧ t.cols = s.rows ∧ t.nonzero = s.nonzero ∧
      (∀ j, j ≤ s.rows → t.cs j = cnt (fun i => decide (s.ri i < j)) s.nonzero) ∧
      ∀ j, j < s.nonzero → trip t (pos s.ri s.nonzero j) = swapT (trip s j) := by
  rw [transpose_eq, h.forM'_cols_flat (fun _ count j => do
      let r ← aget s.rowIndex j
      let c ← aget count r
      aset count r (c + 1))]
  -- loop 1: row histogram
  obtain ⟨count, h1, h1s, h1v⟩ := histogram_loop s.rowIndex s.rows s.nonzero
    (Nat.le_of_eq h.riSize.symm) h.riLt
  rw [h1, ok_bind]
  -- loop 2: prefix sums
  obtain ⟨cs, h2, h2s, h2v⟩ := forM'_inv
    (fun m (c : Array Nat) => c.size = s.rows + 1 ∧
      ∀ j, j ≤ m → c[j]? = some (cnt (fun i => decide (s.ri i < j)) s.nonzero))
    0 s.rows (Array.replicate (s.rows + 1) 0) (fun cs j => do
      let a ← aget cs j
      let c ← aget count j
      aset cs (j + 1) (a + c)) (Nat.zero_le _)
    ⟨Array.size_replicate, by
      intro j hj
      rw [Nat.le_zero.mp hj, cnt_lt_zero, Array.getElem?_replicate, if_pos (Nat.succ_pos _)]⟩ (by
      intro m c _ hm ⟨hs, hv⟩
      have a3 : m + 1 < c.size := hs ▸ Nat.succ_lt_succ hm
      refine ⟨c.setIfInBounds (m + 1) (cnt (fun i => decide (s.ri i < m)) s.nonzero +
          cnt (fun j => s.ri j == m) s.nonzero), by
        simp only [Mat.aget_eq_ok.mpr (hv m (Nat.le_refl _)),
          Mat.aget_eq_ok.mpr (h1v m hm), bind, Except.bind]
        exact aset_ok _ a3, (Array.size_setIfInBounds ..).trans hs, ?_⟩
      intro j hj
      by_cases hc : m + 1 = j
      · subst hc
        rw [Array.getElem?_setIfInBounds_self_of_lt a3, cnt_lt_succ]
      · rw [Array.getElem?_setIfInBounds_ne hc]
        exact hv j (Nat.le_of_lt_succ (Nat.lt_of_le_of_ne hj (Ne.symm hc))))
  rw [h2, ok_bind, h.forM'_cols_flat (tScatterStep s cs)]
  -- loop 3: scatter; `count[r]` is the number of slots with row `r` seen so far
  obtain ⟨⟨ri', vs', cnt'⟩, h3, h3a, h3b, h3c, h3d, h3e, h3f⟩ := forM'_inv
    (fun m (st : Array Nat × Array K × Array Nat) =>
      st.1.size = s.nonzero ∧ st.2.1.size = s.nonzero ∧ st.2.2.size = s.rows ∧
      (∀ r, r < s.rows → st.2.2[r]? = some (cnt (fun j => s.ri j == r) m)) ∧
      (∀ p, p < s.nonzero → st.1[p]?.getD 0 < s.cols) ∧
      (∀ j, j < m → st.1[pos s.ri s.nonzero j]?.getD 0 = s.colOf j ∧
        st.2.1[pos s.ri s.nonzero j]?.getD 0 = s.vl j))
    0 s.nonzero (Array.replicate s.nonzero 0, Array.replicate s.nonzero (0 : K),
      Array.replicate s.rows 0) (fun st k => tScatterStep s cs (s.colOf k) st k) (Nat.zero_le _)
    ⟨Array.size_replicate, Array.size_replicate, Array.size_replicate, by
      intro r hr
      rw [Array.getElem?_replicate, if_pos hr]; rfl, by
      intro p hp
      rw [Array.getElem?_replicate, if_pos hp]
      exact Nat.lt_of_le_of_lt (Nat.zero_le _) (h.colOf_lt (Nat.lt_of_le_of_lt (Nat.zero_le p) hp)),
      fun j hj => absurd hj (Nat.not_lt_zero j)⟩ (by
      rintro m ⟨a, b, c⟩ _ hm ⟨sa, sb, sc, hcnt, hlt, hpos⟩
      have hr := h.riLt m hm
      have hp := pos_lt s.ri hm
      have a1 : pos s.ri s.nonzero m < a.size := sa ▸ hp
      have a2 : pos s.ri s.nonzero m < b.size := sb ▸ hp
      have a3 : s.ri m < c.size := sc ▸ hr
      refine ⟨(a.setIfInBounds (pos s.ri s.nonzero m) (s.colOf m),
          b.setIfInBounds (pos s.ri s.nonzero m) (s.vl m),
          c.setIfInBounds (s.ri m) (cnt (fun j => s.ri j == s.ri m) m + 1)),
        tScatterStep_ok h hm (h2v _ (Nat.le_of_lt hr)) (hcnt _ hr) a1 a2 a3,
        (Array.size_setIfInBounds ..).trans sa, (Array.size_setIfInBounds ..).trans sb,
        (Array.size_setIfInBounds ..).trans sc, fun r hr' => ?_, fun p hp' => ?_, fun j hj => ?_⟩
      · by_cases hc : s.ri m = r
        · subst hc
          rw [Array.getElem?_setIfInBounds_self_of_lt a3, cnt_succ_pos (by simp)]
        · rw [Array.getElem?_setIfInBounds_ne hc, hcnt r hr', cnt_succ_neg (by simp [hc])]
      · by_cases hc : pos s.ri s.nonzero m = p
        · subst hc
          rw [Array.getElem?_setIfInBounds_self_of_lt a1]
          exact h.colOf_lt hm
        · rw [Array.getElem?_setIfInBounds_ne hc]; exact hlt p hp'
      · by_cases hc : j = m
        · subst hc
          rw [Array.getElem?_setIfInBounds_self_of_lt a1, Array.getElem?_setIfInBounds_self_of_lt a2]
          exact ⟨rfl, rfl⟩
        · have hjm : j < m := Nat.lt_of_le_of_ne (Nat.le_of_lt_succ hj) hc
          have hne : pos s.ri s.nonzero m ≠ pos s.ri s.nonzero j :=
            fun e => pos_ne s.ri hjm hm e.symm
          rw [Array.getElem?_setIfInBounds_ne hne, Array.getElem?_setIfInBounds_ne hne]
          exact hpos j hjm)
  simp only at h3a h3b h3c h3d h3e h3f
  rw [h3, ok_bind]
  obtain ⟨hwf, hcol⟩ := wf_of_counts (vs := vs') s.ri h2s h2v h.riLt h3a h3b h3e
  refine ⟨_, rfl, hwf, rfl, rfl, rfl, fun j hj => ?_, fun j hj => ?_⟩
  · show cs[j]?.getD 0 = _
    rw [h2v j hj]; rfl
  · obtain ⟨p1, p2⟩ := h3f j hj
    simp only [trip, swapT, hcol _ _ (h.riLt j hj) (pos_ge _ _ _) (pos_lt_succ _ hj)]
    exact Prod.ext p1 (Prod.ext rfl p2)

end Transpose

theorem insByCol_append (t : Nat × Nat × K) (R : List (Nat × Nat × K))
    (hR : ∀ r, r ∈ R → t.2.1 ≤ r.2.1) : ∀ (A : List (Nat × Nat × K)),
    (∀ a, a ∈ A → a.2.1 < t.2.1) → insByCol t (A ++ R) = A ++ t :: R
  | [], _ => by
    cases R with
    | nil => rfl
    | cons u us =>
      have := hR u List.mem_cons_self
      simp [insByCol, this]
  | a :: A, hA => by
    have h1 : ¬ t.2.1 ≤ a.2.1 := Nat.not_le_of_lt (hA a List.mem_cons_self)
    have ih := insByCol_append t R hR A (fun b hb => hA b (List.mem_cons_of_mem _ hb))
    simp only [List.cons_append, insByCol, h1, if_false, ih]

theorem range_split (c m : Nat) :
    List.range (c + m + 1) = List.range c ++ c :: List.range' (c + 1) m := by
  have := List.range'_append (s := 0) (m := c) (n := m + 1) (step := 1)
  rw [List.range'_succ] at this
  simp only [Nat.one_mul, Nat.zero_add] at this
  rw [List.range_eq_range', List.range_eq_range', Nat.add_assoc, ← this]

/-- the stable sort by column lists, column after column, the triplets of that column in their
    original order -/
theorem sortByCol_eq_buckets (n : Nat) : ∀ (L : List (Nat × Nat × K)), (∀ t, t ∈ L → t.2.1 < n) →
    sortByCol L = (List.range n).flatMap (fun c => L.filter (fun t => t.2.1 == c))
  | [], _ => by simp [sortByCol]
  | t :: L, h => by
    have ih := sortByCol_eq_buckets n L (fun u hu => h u (List.mem_cons_of_mem _ hu))
    obtain ⟨m, rfl⟩ := Nat.exists_eq_add_of_lt (h t List.mem_cons_self)
    have e : sortByCol (t :: L) = insByCol t (sortByCol L) := rfl
    rw [e, ih, range_split]
    simp only [List.flatMap_append, List.flatMap_cons]
    -- `t` only enters the bucket of its own column
    have hne : ∀ c, t.2.1 ≠ c →
        (t :: L).filter (fun u => u.2.1 == c) = L.filter (fun u => u.2.1 == c) :=
      fun c hc => by simp [hc]
    have hcol : ∀ {r : Nat × Nat × K} {c : Nat}, r ∈ L.filter (fun u => u.2.1 == c) → r.2.1 = c :=
      fun hr => by simpa using (List.mem_filter.mp hr).2
    rw [List.flatMap_congr fun c hc' => hne c (Nat.ne_of_gt (List.mem_range.mp hc')),
      List.flatMap_congr fun c hc' => hne c (Nat.ne_of_lt (List.mem_range'_1.mp hc').1),
      show (t :: L).filter (fun u => u.2.1 == t.2.1) = t :: L.filter (fun u => u.2.1 == t.2.1) by
        simp,
      List.cons_append]
    refine insByCol_append t _ (fun r hr => ?_) _ (fun a ha => ?_)
    · rcases List.mem_append.mp hr with hr | hr
      · exact Nat.le_of_eq (hcol hr).symm
      · obtain ⟨c, hc1, hc2⟩ := List.mem_flatMap.mp hr
        exact hcol hc2 ▸ Nat.le_of_lt (List.mem_range'_1.mp hc1).1
    · obtain ⟨c, hc1, hc2⟩ := List.mem_flatMap.mp ha
      exact hcol hc2 ▸ List.mem_range.mp hc1

theorem WF.range_eq_buckets {s : Sp K} (h : WF s) :
    List.range s.nonzero =
      (List.range s.cols).flatMap (fun j => List.range' (s.cs j) (s.cs (j + 1) - s.cs j)) := by
  have := range_eq_flatMap_cuts s.cs h.cs_zero s.cols h.mono
  rwa [h.cs_last] at this

section Buckets
variable [Zero K]

theorem WF.transpose_trips {s : Sp K} (h : WF s) :
    ∃ t, transpose s = .ok t ∧ WF t ∧ t.rows = s.cols ∧ t.cols = s.rows ∧ t.nonzero = s.nonzero ∧
      trips t = sortByCol ((trips s).map swapT) := by
  obtain ⟨t, h1, hwf, hr, hc, hn, hcs, hpos⟩ := h.transpose_ok
  refine ⟨t, h1, hwf, hr, hc, hn, ?_⟩
  rw [sortByCol_eq_buckets s.rows]
  · unfold trips
    rw [hwf.range_eq_buckets, List.map_flatMap, hc]
    apply List.flatMap_congr
    intro k hk
    have hk' : k < s.rows := List.mem_range.mp hk
    -- the slots of column `k` of `t` are the images of the slots of `s` with row `k`
    have e1 : t.cs (k + 1) - t.cs k = cnt (fun j => s.ri j == k) s.nonzero := by
      rw [hcs _ hk', hcs _ (Nat.le_of_lt hk'), cnt_lt_succ, Nat.add_sub_cancel_left]
    have e2 : List.range' (t.cs k) (t.cs (k + 1) - t.cs k) =
        ((List.range s.nonzero).filter (fun j => s.ri j == k)).map (pos s.ri s.nonzero) := by
      rw [e1, List.range'_eq_map_range, ← filter_map_cnt, List.map_map]
      apply List.map_congr_left
      intro j hj
      have hj2 : s.ri j = k := eq_of_beq (List.mem_filter.mp hj).2
      simp only [Function.comp, pos, hj2, hcs _ (Nat.le_of_lt hk')]
    rw [e2, List.map_map, List.map_map, List.filter_map]
    have e3 : ((fun u : Nat × Nat × K => u.2.1 == k) ∘ (swapT ∘ trip s)) = (fun j => s.ri j == k) := by
      funext j; rfl
    rw [e3]
    apply List.map_congr_left
    intro j hj
    have hj1 : j < s.nonzero := List.mem_range.mp (List.mem_filter.mp hj).1
    exact hpos j hj1
  · intro u hu
    obtain ⟨v, hv, rfl⟩ := List.mem_map.mp hu
    exact (h.trips_inRange v hv).1

end Buckets

end Sp
end Ohsl
