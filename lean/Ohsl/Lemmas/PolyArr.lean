/-
  Ohsl.Lemmas.PolyArr — what the operations of the coefficient-array model of polynomials
  (`Ohsl/Model/Poly.lean`) store in each slot, for ANY scalar type and without any algebraic law:
  sizes; slot `i` of `add`/`sub` is `(0 + pᵢ) ± qᵢ`; slot `k` of `mul` is the left fold from `0` of the
  products `pᵢ·q_(k−i)` in increasing `i`; `smul`, `neg` act slot by slot; `derivative` is repeated
  addition; `eval` is a `foldr`;
  `trim` (`trimA`) drops trailing coefficients that test `== 0`, never the last one; `isZero` for a
  lawful `==` says that every coefficient is `0` (`isZero_iff_getD`); one division
  step (`divStep_eq`) is `trimA (stepQ0 …)`, `trimA (stepR0 …)` and fails only in the division of the
  leading coefficients, it shortens the remainder, and slot `j` of the un-trimmed remainder is
  `(0 + r_j) − (t·v)_j` with the leading slot the literal `0` (`stepR0_getD`).
  The exact theorems (C11P, PolyDiv, C12D: a semiring, a field) and the rounding bounds (C11F, C12F:
  `Fl M`) are both readings of these.
-/
import Ohsl.Model.Poly
import Ohsl.Lemmas.FoldInv
import Ohsl.Lemmas.ArrayIndex
import Mathlib.Data.List.Nodup
import Mathlib.Order.MinMax
namespace Ohsl.PolyAlg
open Ohsl Ohsl.Poly

section Structural

theorem ne_empty_iff {K : Type} {p : Array K} : p ≠ #[] ↔ p.size ≠ 0 :=
  not_congr Array.size_eq_zero_iff.symm

theorem exists_eq_concat {K : Type} {p : Array K} (h : p ≠ #[]) :
    ∃ l a, p = (l ++ [a]).toArray := by
  obtain ⟨l⟩ := p
  have hl : l ≠ [] := by intro e; subst e; exact h rfl
  exact ⟨l.dropLast, l.getLast hl, by rw [List.dropLast_append_getLast hl]⟩

/-- the empty polynomial acts as zero, so this holds for all operands -/
theorem size_add {K : Type} [Add K] [Zero K] (p q : Array K) :
    (add p q).size = max p.size q.size := by
  unfold add
  split
  · rename_i h; rw [h, Nat.zero_max]
  split
  · rename_i h; rw [h, Nat.max_zero]
  · exact Array.size_ofFn

theorem size_sub {K : Type} [Add K] [Sub K] [Neg K] [Zero K] (p q : Array K) :
    (sub p q).size = max p.size q.size := by
  unfold sub
  split
  · rename_i h; rw [h, Nat.zero_max, neg, Array.size_map]
  split
  · rename_i h; rw [h, Nat.max_zero]
  · exact Array.size_ofFn

theorem size_mul {K : Type} [Add K] [Mul K] [Zero K] (p q : Array K) :
    (mul p q).size = if p.size = 0 ∨ q.size = 0 then 0 else p.size + q.size - 1 := by
  unfold mul
  split
  · rename_i h; rw [if_pos (Or.inl h)]; rfl
  split
  · rename_i h; rw [if_pos (Or.inr h)]; rfl
  · rename_i hp hq
    rw [if_neg (not_or.mpr ⟨hp, hq⟩), foldl_preserves Array.size, Array.size_replicate]
    exact fun a i => foldl_preserves Array.size _ (fun a j => Array.size_modify) _ a

theorem size_mul_ne_zero {K : Type} [Add K] [Mul K] [Zero K] {p q : Array K} (hp : p.size ≠ 0)
    (hq : q.size ≠ 0) : (mul p q).size ≠ 0 := by
  rw [size_mul, if_neg (not_or.mpr ⟨hp, hq⟩)]; omega

theorem derivative_ok {K : Type} [Add K] [Zero K] (p : Array K) (h : p.size ≠ 0) :
    ∃ d, derivative p = .ok d ∧ d.size = p.size - 1 ∧
      ∀ i, d[i]?.getD 0 = if i < p.size - 1 then addRep (p[i + 1]?.getD 0) (i + 1) else 0 := by
  refine ⟨_, if_neg h, Array.size_ofFn, fun i => ?_⟩
  rw [Array.getElem?_ofFn]
  split <;> rfl

theorem eval_eq_foldr {K : Type} [Add K] [Mul K] (l : List K) (lead x : K) :
    Poly.eval (l ++ [lead]).toArray x = .ok (l.foldr (fun c acc => acc * x + c) lead) := by
  unfold Poly.eval
  simp only [List.back?_toArray, List.getLast?_append, List.getLast?_singleton,
    List.pop_toArray, List.dropLast_concat, List.foldr_toArray]
  simp only [Option.some_or]

theorem getElem?_smul {K : Type} [Mul K] (p : Array K) (t : K) (i : Nat) :
    (smul p t)[i]? = p[i]?.map (· * t) := Array.getElem?_map ..

theorem getElem?_neg {K : Type} [Neg K] (p : Array K) (i : Nat) :
    (neg p)[i]? = p[i]?.map (fun x => -x) := Array.getElem?_map ..

theorem getD_of_le {K : Type} [Zero K] {p : Array K} {k : Nat} (h : p.size ≤ k) : p[k]?.getD 0 = 0 :=
  getD?_of_le p 0 h

end Structural
end Ohsl.PolyAlg

namespace Ohsl.Props.C11
open Ohsl Ohsl.Poly Ohsl.PolyAlg

section AddSlots
variable {K : Type} [Add K] [Zero K]

theorem addRep_eq_foldl (c : K) (n : Nat) :
    addRep c n = (List.replicate n c).foldl (· + ·) 0 := by
  induction n with
  | zero => rfl
  | succ n ih => rw [List.replicate_succ', List.foldl_append, ← ih]; rfl

/-- (S) coefficient `i` of `add p q` (both non-empty): the model's `s = 0; s += a; s += b` -/
theorem add_coeff (p q : Array K) (hp : p.size ≠ 0) (hq : q.size ≠ 0) (i : Nat) :
    (add p q)[i]?.getD 0 =
      if i < p.size then
        (if i < q.size then (0 + p[i]?.getD 0) + q[i]?.getD 0 else 0 + p[i]?.getD 0)
      else (if i < q.size then 0 + q[i]?.getD 0 else 0) := by
  simp only [add, hp, hq, if_false, Array.getElem?_ofFn]
  by_cases h1 : i < p.size <;> by_cases h2 : i < q.size <;> simp [h1, h2]

end AddSlots

section SubSlots
variable {K : Type} [Add K] [Sub K] [Neg K] [Zero K]

/-- (S) coefficient `i` of `sub p q` (both non-empty): `s = 0; s += a; s -= b` -/
theorem sub_coeff (p q : Array K) (hp : p.size ≠ 0) (hq : q.size ≠ 0) (i : Nat) :
    (sub p q)[i]?.getD 0 =
      if i < p.size then
        (if i < q.size then (0 + p[i]?.getD 0) - q[i]?.getD 0 else 0 + p[i]?.getD 0)
      else (if i < q.size then 0 - q[i]?.getD 0 else 0) := by
  simp only [sub, hp, hq, if_false, Array.getElem?_ofFn]
  by_cases h1 : i < p.size <;> by_cases h2 : i < q.size <;> simp [h1, h2]

end SubSlots

section MulSlots
variable {K : Type} [Add K] [Mul K] [Zero K]

/-- the indices `i < m` that contribute to coefficient `k` of a product of sizes `m`, `n`
(`i + j = k` with `j < n`), in the order in which the model adds them -/
def convIdx (m n k : Nat) : List Nat :=
  (List.range m).filter (fun i => decide (i ≤ k ∧ k - i < n))

def nterms (m n k : Nat) : Nat := (convIdx m n k).length

/-- the products accumulated into coefficient `k` by the first `m` outer iterations -/
def convTerms (p q : Array K) (m k : Nat) : List K :=
  (convIdx m q.size k).map (fun i => p[i]?.getD 0 * q[k - i]?.getD 0)

theorem convIdx_succ (m n k : Nat) :
    convIdx (m + 1) n k = convIdx m n k ++ (if m ≤ k ∧ k - m < n then [m] else []) := by
  unfold convIdx
  rw [List.range_succ, List.filter_append]
  congr 1
  by_cases h : m ≤ k ∧ k - m < n <;> simp [h]

theorem convIdx_nodup (m n k : Nat) : (convIdx m n k).Nodup :=
  List.Nodup.filter _ List.nodup_range

/-- inner loop of `mul` (no algebraic law): slot `m` receives at most one product -/
theorem inner_fold_gen (a : K) (q : Array K) (i n : Nat) (acc : Array K) :
    let r := (List.range n).foldl (fun acc j =>
      acc.modify (i + j) (fun c => c + a * (q[j]?.getD 0))) acc
    r.size = acc.size ∧ ∀ m, m < acc.size →
      r[m]?.getD 0 = if i ≤ m ∧ m - i < n then acc[m]?.getD 0 + a * (q[m - i]?.getD 0)
        else acc[m]?.getD 0 := by
  -- after `t` steps the slots `i ≤ m < i + t` have received their product
  refine foldl_range_inv (fun t (r : Array K) => r.size = acc.size ∧ ∀ m, m < acc.size →
      r[m]?.getD 0 = if i ≤ m ∧ m - i < t then acc[m]?.getD 0 + a * (q[m - i]?.getD 0)
        else acc[m]?.getD 0) _ acc n
    ⟨rfl, fun m _ => (if_neg fun h => Nat.not_lt_zero _ h.2).symm⟩ ?_
  rintro t r - ⟨h1, h2⟩
  refine ⟨(Array.size_modify ..).trans h1, fun m hm => ?_⟩
  rw [getD?_modify r _ m _ 0 (h1 ▸ hm), h2 m hm]
  by_cases h : i + t = m
  · subst h
    rw [if_pos rfl, Nat.add_sub_cancel_left, if_neg fun h => Nat.lt_irrefl _ h.2,
      if_pos ⟨Nat.le_add_right _ _, Nat.lt_succ_self _⟩]
  · rw [if_neg h]
    exact if_congr (and_congr_right fun hi => ⟨Nat.lt_succ_of_lt, fun h' =>
      (Nat.lt_succ_iff_lt_or_eq.1 h').resolve_right fun e =>
        h (by rw [← e, Nat.add_sub_cancel' hi])⟩) rfl rfl

/-- outer loop of `mul`: slot `k` is the left fold of its products, in index order -/
theorem outer_fold_gen (p q : Array K) (n : Nat) (acc : Array K) :
    let r := (List.range n).foldl (fun acc i =>
      (List.range q.size).foldl (fun acc j =>
        acc.modify (i + j) (fun c => c + (p[i]?.getD 0) * (q[j]?.getD 0))) acc) acc
    r.size = acc.size ∧ ∀ k, k < acc.size →
      r[k]?.getD 0 = (convTerms p q n k).foldl (· + ·) (acc[k]?.getD 0) := by
  refine foldl_range_inv (fun t (r : Array K) => r.size = acc.size ∧ ∀ k, k < acc.size →
      r[k]?.getD 0 = (convTerms p q t k).foldl (· + ·) (acc[k]?.getD 0)) _ acc n
    ⟨rfl, fun k _ => rfl⟩ ?_
  rintro t r - ⟨h1, h2⟩
  obtain ⟨s1, s2⟩ := inner_fold_gen (p[t]?.getD 0) q t q.size r
  refine ⟨s1.trans h1, fun k hk => ?_⟩
  rw [s2 k (h1 ▸ hk), h2 k hk]
  unfold convTerms
  rw [convIdx_succ, List.map_append, List.foldl_append]
  by_cases hc : t ≤ k ∧ k - t < q.size
  · rw [if_pos hc, if_pos hc]; rfl
  · rw [if_neg hc, if_neg hc]; rfl

/-- (S) every coefficient of the model product is the left fold from `0` of the products
`p[i] * q[k-i]` in increasing `i` (all `p`, `q`, `k`, including the empty operands and `k` beyond
the end, where both sides are `0`) -/
theorem mul_getD (p q : Array K) (k : Nat) :
    (mul p q)[k]?.getD 0 = (convTerms p q p.size k).foldl (· + ·) 0 := by
  by_cases h : p.size ≠ 0 ∧ q.size ≠ 0 ∧ k < p.size + q.size - 1
  · obtain ⟨s1, s2⟩ := outer_fold_gen p q p.size (Array.replicate (p.size + q.size - 1) (0 : K))
    unfold mul
    rw [if_neg h.1, if_neg h.2.1, s2 k (by rw [Array.size_replicate]; exact h.2.2),
      Array.getElem?_replicate, if_pos h.2.2]
    rfl
  · -- no slot `k`, and no index pair contributes
    have h1 : (mul p q)[k]? = none := by
      rw [Array.getElem?_eq_none_iff, size_mul]; split <;> omega
    have h2 : convIdx p.size q.size k = [] := by
      unfold convIdx
      rw [List.filter_eq_nil_iff]
      intro i hi
      have := List.mem_range.mp hi
      simp only [decide_eq_true_eq]
      omega
    rw [h1, convTerms, h2]; rfl

end MulSlots
end Ohsl.Props.C11

namespace Ohsl.PolyDiv
open Ohsl Ohsl.Poly

section Trim
variable {K : Type} [Zero K] [BEq K]

/-- the array computed by `trim` on a non-empty input -/
def trimA (p : Array K) : Array K := (trimList p.toList.reverse).reverse.toArray

theorem trim_ok (p : Array K) (h : p.size ≠ 0) : trim p = .ok (trimA p) := by
  simp [trim, h, trimA]

theorem trimList_length_le : ∀ l : List K, (trimList l).length ≤ l.length
  | [] => by simp [trimList]
  | [c] => by simp [trimList]
  | c :: d :: cs => by
    unfold trimList
    split
    · have := trimList_length_le (d :: cs); simp at this ⊢; omega
    · simp

theorem trimList_length_pos : ∀ l : List K, l ≠ [] → 1 ≤ (trimList l).length
  | [], h => absurd rfl h
  | [c], _ => by simp [trimList]
  | c :: d :: cs, _ => by
    unfold trimList
    split
    · exact trimList_length_pos (d :: cs) (by simp)
    · simp

theorem trimA_size_le (p : Array K) : (trimA p).size ≤ p.size := by
  have := trimList_length_le p.toList.reverse
  simpa [trimA] using this

theorem trimA_size_pos (p : Array K) (h : p.size ≠ 0) : 1 ≤ (trimA p).size := by
  have := trimList_length_pos p.toList.reverse (by
    intro h'; apply h; simpa using congrArg List.length h')
  simpa [trimA] using this

theorem trimA_size_lt (p : Array K) (h2 : 2 ≤ p.size) (hl : (p[p.size - 1]?.getD 0 == (0 : K)) = true) :
    (trimA p).size ≤ p.size - 1 := by
  obtain ⟨l⟩ := p
  rcases List.eq_nil_or_concat l with rfl | ⟨l1, c, rfl⟩
  · simp at h2
  rcases List.eq_nil_or_concat l1 with rfl | ⟨l2, d, rfl⟩
  · simp at h2
  have hc : (c == (0 : K)) = true := by simpa using hl
  have := trimList_length_le (d :: l2.reverse)
  simp only [trimA, List.concat_eq_append, List.reverse_append, List.reverse_cons, List.reverse_nil,
    List.nil_append, List.cons_append, trimList, hc, if_true, List.size_toArray, List.length_reverse,
    List.length_append, List.length_cons, List.length_nil] at this ⊢
  omega

theorem trimList_spec [LawfulBEq K] :
    ∀ l : List K, ∃ n, l = List.replicate n (0 : K) ++ trimList l
  | [] => ⟨0, by simp [trimList]⟩
  | [c] => ⟨0, by simp [trimList]⟩
  | c :: d :: cs => by
    unfold trimList
    split
    · rename_i h
      have hc : c = 0 := by simpa using h
      obtain ⟨n, hn⟩ := trimList_spec (d :: cs)
      refine ⟨n + 1, ?_⟩
      rw [List.replicate_succ, List.cons_append, ← hn, hc]
    · exact ⟨0, by simp⟩

theorem getD_trimA [LawfulBEq K] (p : Array K) (k : Nat) :
    (trimA p)[k]?.getD 0 = p[k]?.getD 0 := by
  obtain ⟨n, hn⟩ := trimList_spec p.toList.reverse
  have h : p.toList = (trimA p).toList ++ List.replicate n (0 : K) := by
    have := congrArg List.reverse hn
    simpa [trimA] using this
  rw [← Array.getElem?_toList, ← Array.getElem?_toList (xs := p), h, List.getElem?_append]
  split
  · rfl
  · rename_i hk
    rw [List.getElem?_eq_none (by omega)]
    rw [List.getElem?_replicate]
    split <;> rfl

end Trim

section Step
variable {K : Type} [Zero K]

/-- the monomial `c · x^k` -/
def stepT (k : Nat) (c : K) : Array K := (Array.replicate (k + 1) (0 : K)).setIfInBounds k c

@[simp] theorem stepT_size (k : Nat) (c : K) : (stepT k c).size = k + 1 := by simp [stepT]

theorem stepT_getD (k : Nat) (c : K) (i : Nat) :
    (stepT k c)[i]?.getD 0 = if i = k then c else 0 := by
  rw [stepT, Array.getElem?_setIfInBounds]
  by_cases hj : k = i
  · subst hj; simp
  · have hj' : ¬ i = k := fun e => hj e.symm
    simp only [hj, hj', if_false, Array.getElem?_replicate]
    split <;> rfl

variable [Add K]

/-- quotient after one step (before trimming); the shift `deg r − deg v` is `r.size - v.size` -/
def stepQ0 (v q r : Array K) (c : K) : Array K := add q (stepT (r.size - v.size) c)

theorem stepQ0_size_pos (v q r : Array K) (c : K) : (stepQ0 v q r c).size ≠ 0 := by
  rw [stepQ0, PolyAlg.size_add, stepT_size]; omega

variable [Mul K]

theorem stepMul_size (v r : Array K) (c : K) (hv : 1 ≤ v.size) (hr : v.size ≤ r.size) :
    (mul (stepT (r.size - v.size) c) v).size = r.size := by
  rw [PolyAlg.size_mul, if_neg (by rw [stepT_size]; omega), stepT_size]; omega

variable [Sub K] [Neg K]

/-- remainder after one step, leading coefficient zeroed (before trimming) -/
def stepR0 (v r : Array K) (c : K) : Array K :=
  (sub r (mul (stepT (r.size - v.size) c) v)).setIfInBounds (r.size - 1) 0

theorem stepSub_size (v r : Array K) (c : K) (hv : 1 ≤ v.size) (hr : v.size ≤ r.size) :
    (sub r (mul (stepT (r.size - v.size) c) v)).size = r.size := by
  rw [PolyAlg.size_sub, stepMul_size v r c hv hr, Nat.max_self]

theorem stepR0_size (v r : Array K) (c : K) (hv : 1 ≤ v.size) (hr : v.size ≤ r.size) :
    (stepR0 v r c).size = r.size := by
  rw [stepR0, Array.size_setIfInBounds, stepSub_size v r c hv hr]

theorem stepR0_lead (v r : Array K) (c : K) (hv : 1 ≤ v.size) (hr : v.size ≤ r.size) :
    (stepR0 v r c)[(stepR0 v r c).size - 1]?.getD 0 = (0 : K) := by
  rw [stepR0_size v r c hv hr, stepR0, Array.getElem?_setIfInBounds, if_pos rfl,
    if_pos (by rw [stepSub_size v r c hv hr]; omega)]
  rfl

variable [BEq K]

theorem stepR_size_le (v r : Array K) (c : K) (h00 : ((0 : K) == 0) = true)
    (hv : 1 ≤ v.size) (hr : v.size ≤ r.size) :
    (trimA (stepR0 v r c)).size ≤ max 1 (r.size - 1) := by
  by_cases h2 : 2 ≤ r.size
  · have := trimA_size_lt (stepR0 v r c) (by rw [stepR0_size v r c hv hr]; exact h2)
      (by rw [stepR0_lead v r c hv hr]; exact h00)
    rw [stepR0_size v r c hv hr] at this
    omega
  · have := trimA_size_le (stepR0 v r c)
    rw [stepR0_size v r c hv hr] at this
    omega

theorem stepR_single (v r : Array K) (c : K) (hv : 1 ≤ v.size) (hr : v.size ≤ r.size)
    (h1 : r.size = 1) : trimA (stepR0 v r c) = #[(0 : K)] := by
  have hs := stepR0_size v r c hv hr
  have hl := stepR0_lead v r c hv hr
  rw [hs] at hl
  generalize stepR0 v r c = a at hs hl
  obtain ⟨l⟩ := a
  simp only [List.size_toArray] at hs
  match l, hs, hl with
  | [x], _, hl =>
    simp [h1] at hl
    simp [trimA, trimList, hl]
  | [], hs, _ => simp [h1] at hs
  | _ :: _ :: _, hs, _ => simp [h1] at hs

variable [ScalarExt K]

/-- `divStep` in closed form: the only fallible operation is the division of the leading
    coefficients -/
theorem divStep_eq (v q r : Array K) (hv : 1 ≤ v.size) (hr : v.size ≤ r.size) :
    divStep v q r =
      (divM (r[r.size - 1]'(by omega)) (v[v.size - 1]'(by omega))).bind
        (fun c => .ok (trimA (stepQ0 v q r c), trimA (stepR0 v r c))) := by
  unfold divStep
  have h1 : usub r.size 1 = .ok (r.size - 1) := by unfold usub; rw [if_pos (by omega)]
  have h2 : usub v.size 1 = .ok (v.size - 1) := by unfold usub; rw [if_pos (by omega)]
  have h3 : usub (r.size - 1) (v.size - 1) = .ok (r.size - v.size) := by
    unfold usub; rw [if_pos (by omega), Nat.sub_sub_sub_cancel_right hv]
  have h4 : aget r (r.size - 1) = .ok (r[r.size - 1]'(by omega)) := Mat.aget_ok (by omega)
  have h5 : aget v (v.size - 1) = .ok (v[v.size - 1]'(by omega)) := Mat.aget_ok (by omega)
  simp only [h1, h2, h3, h4, h5, bind, Except.bind, pure, Except.pure]
  cases hd : divM (r[r.size - 1]'(by omega)) (v[v.size - 1]'(by omega)) with
  | error e => rfl
  | ok c =>
    have hs := stepSub_size v r c hv hr
    simp only [stepT] at hs
    have h6 : usub (sub r (mul ((Array.replicate (r.size - v.size + 1) (0 : K)).setIfInBounds
        (r.size - v.size) c) v)).size 1 = .ok (r.size - 1) := by
      rw [hs]; exact h1
    simp only [h6]
    rw [Mat.aset_ok _ (by rw [hs]; omega)]
    simp only []
    have h7 := trim_ok (stepR0 v r c) (by rw [stepR0_size v r c hv hr]; omega)
    have h8 := trim_ok (stepQ0 v q r c) (stepQ0_size_pos v q r c)
    simp only [stepR0, stepQ0, stepT] at h7 h8
    simp only [h7, h8, stepR0, stepQ0, stepT]

end Step

theorem isZero_iff_getD {K : Type} [Zero K] [BEq K] [LawfulBEq K] (p : Array K) :
    isZero p = true ↔ ∀ k : Nat, p[k]?.getD 0 = 0 := by
  unfold isZero
  rw [Array.all_eq_true]
  constructor
  · intro h k
    by_cases hk : k < p.size
    · rw [Array.getElem?_eq_getElem hk]; exact eq_of_beq (h k hk)
    · exact PolyAlg.getD_of_le (Nat.le_of_not_lt hk)
  · intro h i hi
    have := h i
    rw [Array.getElem?_eq_getElem hi] at this
    exact beq_iff_eq.mpr this

end Ohsl.PolyDiv

namespace Ohsl.Props.C12
open Ohsl Ohsl.Poly Ohsl.PolyDiv Ohsl.Props.C11

section Structural
variable {K : Type} [Add K] [Sub K] [Mul K] [Neg K] [Zero K]

/-- (S) coefficient `j` of the un-trimmed new remainder: the leading slot is the literal `0`, every
other slot `j < r.size` is `(0 + r_j) − (t·v)_j` (`Poly.sub`'s `s = 0; s += a; s -= b`) -/
theorem stepR0_getD (v r : Array K) (c : K) (hv : 1 ≤ v.size) (hr : v.size ≤ r.size) (j : Nat) :
    (stepR0 v r c)[j]?.getD 0 =
      if j = r.size - 1 then 0
      else if j < r.size then
        (0 + r[j]?.getD 0) - (mul (stepT (r.size - v.size) c) v)[j]?.getD 0
      else 0 := by
  have hms := stepMul_size v r c hv hr
  have hss := stepSub_size v r c hv hr
  rw [stepR0, Array.getElem?_setIfInBounds]
  by_cases hj : r.size - 1 = j
  · subst hj
    rw [if_pos rfl, if_pos (by rw [hss]; omega), if_pos rfl]; rfl
  · have hj' : ¬ j = r.size - 1 := fun e => hj e.symm
    rw [if_neg hj, if_neg hj', sub_coeff r _ (by omega) (by rw [hms]; omega) j, hms]
    by_cases h1 : j < r.size <;> simp only [h1, if_true, if_false]

end Structural

end Ohsl.Props.C12
