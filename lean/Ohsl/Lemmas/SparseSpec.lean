/-
  Ohsl.Lemmas.SparseSpec — the total accessors `cs`, `ri`, `vl` of the three arrays,
  compressed-sparse-column well-formedness over them (`Sp.WF`, decidable), and the `Finset` sums
  that the sparse products compute (`mulF`, `tmulF`, the denoted entry `entry`; `K` a commutative
  semiring).
-/
import Ohsl.Model.Sparse
import Ohsl.Lemmas.MatIdx
import Ohsl.Lemmas.DotSum
import Mathlib.Algebra.BigOperators.Intervals
import Mathlib.Algebra.BigOperators.Ring.Finset
import Mathlib.Tactic.Ring
namespace Ohsl
namespace Sp
open Mat (forM' forM'_inv aget_ok aset_ok)

section Acc
variable {K : Type}

/-- `col_start[j]` (0 outside the buffer) -/
def cs (s : Sp K) (j : Nat) : Nat := s.colStart[j]?.getD 0
/-- `row_index[k]` (0 outside the buffer) -/
def ri (s : Sp K) (k : Nat) : Nat := s.rowIndex[k]?.getD 0
/-- `val[k]` (0 outside the buffer) -/
def vl [Zero K] (s : Sp K) (k : Nat) : K := s.val[k]?.getD 0

/-- Well-formed compressed-sparse-column storage. -/
structure WF (s : Sp K) : Prop where
  /-- `col_start` has `cols + 1` entries … -/
  csSize : s.colStart.size = s.cols + 1
  /-- … starts at 0 … -/
  cs0 : s.colStart[0]? = some 0
  /-- … is non-decreasing … -/
  mono : ∀ j, j < s.cols → s.cs j ≤ s.cs (j + 1)
  /-- … and ends at `nonzero` -/
  csLast : s.colStart[s.cols]? = some s.nonzero
  valSize : s.val.size = s.nonzero
  riSize : s.rowIndex.size = s.nonzero
  /-- every stored row index is a row -/
  riLt : ∀ k, k < s.nonzero → s.ri k < s.rows

theorem vl_map {K' : Type} [Zero K] [Zero K'] (s : Sp K) (f : K → K') {k : Nat}
    (hk : k < s.val.size) :
    Sp.vl (⟨s.rows, s.cols, s.nonzero, s.val.map f, s.rowIndex, s.colStart⟩ : Sp K') k = f (s.vl k) := by
  simp [Sp.vl, hk]

theorem vl_set [Zero K] (s : Sp K) (v : K) {k : Nat} (hk : k < s.val.size) (k' : Nat) :
    Sp.vl { s with val := s.val.setIfInBounds k v } k' = if k' = k then v else s.vl k' := by
  simp only [Sp.vl, Array.getElem?_setIfInBounds]
  by_cases e : k = k'
  · subst e; simp [hk]
  · rw [if_neg e, if_neg (fun x => e x.symm)]

theorem WF.cs_last {s : Sp K} (h : WF s) : s.cs s.cols = s.nonzero := by
  simp [cs, h.csLast]

theorem WF.cs_zero {s : Sp K} (h : WF s) : s.cs 0 = 0 := by
  simp [cs, h.cs0]

theorem WF.cs_le_cs {s : Sp K} (h : WF s) {a b : Nat} (hab : a ≤ b) (hb : b ≤ s.cols) :
    s.cs a ≤ s.cs b := by
  induction b, hab using Nat.le_induction with
  | base => exact Nat.le_refl _
  | succ b hab ih => exact Nat.le_trans (ih (Nat.le_of_succ_le hb)) (h.mono b hb)

theorem WF.cs_le_nonzero {s : Sp K} (h : WF s) {j : Nat} (hj : j ≤ s.cols) : s.cs j ≤ s.nonzero :=
  h.cs_last ▸ h.cs_le_cs hj (Nat.le_refl _)

theorem WF.slot_lt {s : Sp K} (h : WF s) {j k : Nat} (hj : j < s.cols) (hk : k < s.cs (j + 1)) :
    k < s.nonzero :=
  Nat.lt_of_lt_of_le hk (h.cs_le_nonzero hj)

theorem WF.aget_cs {s : Sp K} (h : WF s) {j : Nat} (hj : j ≤ s.cols) :
    aget s.colStart j = .ok (s.cs j) := by
  have hlt : j < s.colStart.size := h.csSize ▸ Nat.lt_succ_of_le hj
  rw [aget_ok hlt, cs, Array.getElem?_eq_getElem hlt]
  rfl

theorem WF.with_val {K' : Type} {s : Sp K} (h : WF s) (v : Array K') (hv : v.size = s.val.size) :
    WF (⟨s.rows, s.cols, s.nonzero, v, s.rowIndex, s.colStart⟩ : Sp K') :=
  ⟨h.csSize, h.cs0, h.mono, h.csLast, hv.trans h.valSize, h.riSize, h.riLt⟩

theorem WF.sum_col_by_row {M : Type} [AddCommMonoid M] {s : Sp K} (h : WF s) {j : Nat}
    (hj : j < s.cols) (F : ℕ → ℕ → M) :
    ∑ k ∈ Finset.Ico (s.cs j) (s.cs (j + 1)), F k (s.ri k)
      = ∑ i ∈ Finset.range s.rows, ∑ k ∈ Finset.Ico (s.cs j) (s.cs (j + 1)),
          if s.ri k = i then F k i else 0 := by
  rw [Finset.sum_comm]
  refine Finset.sum_congr rfl (fun k hk => ?_)
  have hk' : k < s.nonzero := h.slot_lt hj (Finset.mem_Ico.mp hk).2
  rw [Finset.sum_ite_eq (Finset.range s.rows) (s.ri k) (fun i => F k i),
    if_pos (Finset.mem_range.mpr (h.riLt k hk'))]

end Acc

section Sums
variable {K : Type} [CommSemiring K]

/-- component `i` of the sparse product with the vector `j ↦ f j`:
    `Σ_{j<cols} Σ_{k ∈ [colStart j, colStart (j+1)), rowIndex k = i} val k * f j` -/
def mulF (s : Sp K) (f : Nat → K) (i : Nat) : K :=
  ∑ j ∈ Finset.range s.cols, ∑ k ∈ Finset.Ico (s.cs j) (s.cs (j + 1)),
    if s.ri k = i then s.vl k * f j else 0

/-- component `j` of the transposed sparse product with `i ↦ g i`:
    `Σ_{k ∈ [colStart j, colStart (j+1))} val k * g (rowIndex k)` -/
def tmulF (s : Sp K) (g : Nat → K) (j : Nat) : K :=
  ∑ k ∈ Finset.Ico (s.cs j) (s.cs (j + 1)), s.vl k * g (s.ri k)

/-- entry (i, j) of the matrix the storage denotes (duplicates are summed) -/
def entry (s : Sp K) (i j : Nat) : K :=
  ∑ k ∈ Finset.Ico (s.cs j) (s.cs (j + 1)), if s.ri k = i then s.vl k else 0

theorem mulF_eq_entry (s : Sp K) (f : Nat → K) (i : Nat) :
    mulF s f i = ∑ j ∈ Finset.range s.cols, s.entry i j * f j := by
  unfold mulF entry
  refine Finset.sum_congr rfl (fun j _ => ?_)
  rw [Finset.sum_mul]
  refine Finset.sum_congr rfl (fun k _ => ?_)
  split <;> simp

theorem tmulF_eq_entry {s : Sp K} (h : WF s) (g : Nat → K) {j : Nat} (hj : j < s.cols) :
    tmulF s g j = ∑ i ∈ Finset.range s.rows, s.entry i j * g i := by
  unfold tmulF entry
  rw [h.sum_col_by_row hj (fun k i => s.vl k * g i)]
  refine Finset.sum_congr rfl (fun i _ => ?_)
  rw [Finset.sum_mul]
  exact Finset.sum_congr rfl (fun k _ => by split <;> simp)

theorem mulF_congr (s : Sp K) {f g : Nat → K} (h : ∀ j, j < s.cols → f j = g j) (i : Nat) :
    mulF s f i = mulF s g i := by
  unfold mulF
  refine Finset.sum_congr rfl (fun j hj => ?_)
  rw [h j (Finset.mem_range.mp hj)]

theorem mulF_add (s : Sp K) (f g : Nat → K) (i : Nat) :
    mulF s (fun j => f j + g j) i = mulF s f i + mulF s g i := by
  simp only [mulF_eq_entry, mul_add, Finset.sum_add_distrib]

theorem mulF_smul (s : Sp K) (f : Nat → K) (a : K) (i : Nat) :
    mulF s (fun j => f j * a) i = mulF s f i * a := by
  simp only [mulF_eq_entry, Finset.sum_mul, mul_assoc]

theorem sum_mulF_eq_sum_tmulF {s : Sp K} (h : WF s) (f g : Nat → K) :
    ∑ i ∈ Finset.range s.rows, g i * mulF s f i = ∑ j ∈ Finset.range s.cols, tmulF s g j * f j := by
  simp only [mulF_eq_entry, Finset.mul_sum]
  rw [Finset.sum_comm]
  refine Finset.sum_congr rfl (fun j hj => ?_)
  rw [tmulF_eq_entry h g (Finset.mem_range.mp hj), Finset.sum_mul]
  refine Finset.sum_congr rfl (fun i _ => ?_)
  ring

end Sums

/-- `WF` is a conjunction of bounded checks on the arrays, so it can be evaluated on concrete storage -/
theorem wf_iff {K : Type} (s : Sp K) : WF s ↔
    s.colStart.size = s.cols + 1 ∧ s.colStart[0]? = some 0 ∧
    (∀ j, j < s.cols → s.cs j ≤ s.cs (j + 1)) ∧ s.colStart[s.cols]? = some s.nonzero ∧
    s.val.size = s.nonzero ∧ s.rowIndex.size = s.nonzero ∧ ∀ k, k < s.nonzero → s.ri k < s.rows :=
  ⟨fun h => ⟨h.csSize, h.cs0, h.mono, h.csLast, h.valSize, h.riSize, h.riLt⟩,
    fun ⟨a, b, c, d, e, f, g⟩ => ⟨a, b, c, d, e, f, g⟩⟩

instance {K : Type} (s : Sp K) : Decidable (WF s) := decidable_of_iff _ (wf_iff s).symm

end Sp
end Ohsl
