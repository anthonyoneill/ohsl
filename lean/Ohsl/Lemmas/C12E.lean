/-
  Ohsl.Lemmas.C12E — helper lemmas for Ohsl/Props/C12E.lean (number of iterations of the long
  division of `Ohsl/Model/Poly.lean`): the normal form of a trimmed remainder (zero, or non-zero last
  coefficient) for a ring with lawful `==`, and the `Alg.DivLaw` instance of the executable `Rat`
  (Ohsl/Model/Inst.lean).  `toPoly` is `Ohsl.PolyDiv.toPoly` (definitionally `Ohsl.PolyAlg.toPoly`).
-/
import Ohsl.Lemmas.PolyDiv
import Ohsl.Lemmas.Alg
import Ohsl.Model.Inst
namespace Ohsl.PolyDivE
open Ohsl Ohsl.Poly Ohsl.PolyDiv Polynomial

/-- the two interpretations of a coefficient array in use are the same definition -/
theorem toPoly_eq_polyAlg {K : Type} [Semiring K] (cs : Array K) :
    toPoly cs = Ohsl.PolyAlg.toPoly cs := rfl

section Lawful
variable {K : Type} [Ring K] [BEq K] [LawfulBEq K]

theorem trimList_head : ∀ l : List K,
    (trimList l).length ≤ 1 ∨ ∃ c cs, trimList l = c :: cs ∧ c ≠ 0
  | [] => Or.inl (by simp [trimList])
  | [c] => Or.inl (by simp [trimList])
  | c :: d :: cs => by
    unfold trimList
    split
    · exact trimList_head (d :: cs)
    · rename_i h
      exact Or.inr ⟨c, d :: cs, rfl, by simpa using h⟩

theorem trimA_lead (p : Array K) :
    (trimA p).size ≤ 1 ∨ (trimA p)[(trimA p).size - 1]?.getD 0 ≠ 0 := by
  rcases trimList_head p.toList.reverse with h | ⟨c, cs, h, hc⟩
  · left; simpa [trimA] using h
  · right
    have : (trimA p)[(trimA p).size - 1]?.getD 0 = c := by
      simp [trimA, h]
    rw [this]; exact hc

/-- the state invariant of the remainder after the first step: it is the zero polynomial or its
last stored coefficient is non-zero -/
theorem trimA_normal (p : Array K) (hp : p.size ≠ 0) :
    isZero (trimA p) = true ∨ (trimA p)[(trimA p).size - 1]?.getD 0 ≠ 0 := by
  rcases trimA_lead p with h | h
  · have h1 : (trimA p).size = 1 := by have := trimA_size_pos p hp; omega
    by_cases hz : (trimA p)[(trimA p).size - 1]?.getD 0 = 0
    · left
      refine (isZero_iff_getD _).2 fun k => ?_
      by_cases hk : k = 0
      · subst hk; rw [h1] at hz; exact hz
      · exact PolyAlg.getD_of_le (by omega)
    · exact Or.inr hz
  · exact Or.inr h

end Lawful

instance ratDivLaw : Alg.DivLaw Rat where
  divM_zero a := by show (if (0 : Rat) == 0 then _ else _) = _; simp
  divM_ne a b h := by
    show (if b == 0 then _ else _) = _
    have : (b == 0) = false := by simpa using h
    rw [this]; rfl

end Ohsl.PolyDivE
