/-
  Ohsl.Lemmas.BandPadding — the banded solver never reads the padding slots of the compact storage.

  * `RelRes`: both computations succeed with related values, or both panic with the same class.
        It is `ExRel` of Lemmas/Loop.lean under a name of its own; the proofs apply the `ExRel`
        lemmas and the loop rules `forM'_simIdx`, `foldlM_rev_simIdx` to `RelRes` goals by unfolding
  * (S) two runs on storages that agree on every slot inside the matrix (`PadEq`) are in lock-step:
        a row of the back substitution reads the first slots of its row only (`backBody_congr`);
        both pivot steps refine the same abstract step of BandSpec.lean (`decStep_rel`), hence
        `decompose_rel`, `det_padding`; the substitutions read in-matrix slots only
        (`solveWith_congr`), hence `solve_padding`
-/
import Ohsl.Lemmas.BandSpec
namespace Ohsl

/-- both computations succeed with related values, or both panic with the same class -/
def RelRes {α β : Type} (R : α → β → Prop) : Res α → Res β → Prop
  | .ok a, .ok b => R a b
  | .error e, .error e' => e = e'
  | _, _ => False

theorem RelRes.ok {α β : Type} {R : α → β → Prop} {a : α} {b : β} (h : R a b) :
    RelRes R (.ok a) (.ok b) := h

theorem RelRes.err {α β : Type} {R : α → β → Prop} (e : Err) :
    RelRes R (.error e : Res α) (.error e : Res β) := rfl

namespace Band
variable {K : Type}
open Mat (forM' Is forM'_inv aget_ok aset_ok aget_eq_ok swapFn swapFn_self)

/-- the two compact matrices are well formed and agree on every slot that lies inside the matrix
    (`o i` is the matrix column of slot 0 of row `i`) -/
def PadEq (n mm : Nat) (o : Nat → Nat) (ma mb : Mat K) : Prop :=
  ∃ ea eb, Is ma n mm ea ∧ Is mb n mm eb ∧
    ∀ i t, i < n → t < mm → o i + t < n → ea i t = eb i t

theorem PadEq.congr_off {n mm : Nat} {o o' : Nat → Nat} {ma mb : Mat K} (h : PadEq n mm o ma mb)
    (ho : ∀ i, i < n → o' i = o i) : PadEq n mm o' ma mb := by
  obtain ⟨ea, eb, h1, h2, h3⟩ := h
  exact ⟨ea, eb, h1, h2, fun i t hi ht hc => h3 i t hi ht (by rw [← ho i hi]; exact hc)⟩

/-- two entry functions agree on every slot that lies inside the matrix (the last clause of `PadEq`) -/
def AgreeIn (n mm : Nat) (o : Nat → Nat) (e1 e2 : Nat → Nat → K) : Prop :=
  ∀ i t, i < n → t < mm → o i + t < n → e1 i t = e2 i t

/-- the three moves of a pivot step keep the agreement: the zero fix (the tested slots agree) … -/
theorem AgreeIn.zeroFix [Zero K] [BEq K] {n mm : Nat} {o : Nat → Nat} {e1 e2 : Nat → Nat → K}
    (h : AgreeIn n mm o e1 e2) (k : Nat) {ip : Nat} (hc : e1 ip 0 = e2 ip 0) :
    AgreeIn n mm o (zeroFix e1 k ip) (zeroFix e2 k ip) := fun i t hi ht ho => by
  unfold Band.zeroFix
  rw [hc, h i t hi ht ho]

/-- … the exchange of two rows that start at the same column … -/
theorem AgreeIn.swapFn {n mm : Nat} {o : Nat → Nat} {e1 e2 : Nat → Nat → K}
    (h : AgreeIn n mm o e1 e2) {k ip : Nat} (hk : k < n) (hip : ip < n) (ho : o k = o ip) :
    AgreeIn n mm o (swapFn e1 k ip) (swapFn e2 k ip) := fun i t hi ht hc => by
  unfold Mat.swapFn
  split
  · rename_i e; exact h ip t hip ht (by rw [← ho, ← e]; exact hc)
  · split
    · rename_i e; exact h k t hk ht (by rw [ho, ← e]; exact hc)
    · exact h i t hi ht hc

/-- … and the elimination of the rows `k < a < l`, which start at column `k` like the pivot row and
    at column `k + 1` afterwards -/
theorem AgreeIn.elimE [Sub K] [Mul K] [Zero K] {n mm : Nat} {o : Nat → Nat} {e1 e2 : Nat → Nat → K}
    (h : AgreeIn n mm o e1 e2) (μ : Nat → K) {k l : Nat} (hk : k < n)
    (how : ∀ a, k ≤ a → a < l → o a = k) (hkl : k < l) :
    AgreeIn n mm (fun a => if k < a ∧ a < l then k + 1 else o a) (elimE mm e1 μ k l)
      (elimE mm e2 μ k l) := fun i t hi ht hc => by
  beta_reduce at hc
  unfold Band.elimE
  by_cases hw : k < i ∧ i < l
  · rw [if_pos hw] at hc
    rw [if_pos hw, if_pos hw]
    by_cases hb : t + 1 < mm
    · rw [if_pos hb, if_pos hb, h i (t + 1) hi hb (by rw [how i hw.1.le hw.2]; omega),
        h k (t + 1) hk hb (by rw [how k (Nat.le_refl k) hkl]; omega)]
    · rw [if_neg hb, if_neg hb]
  · rw [if_neg hw] at hc
    rw [if_neg hw, if_neg hw]
    exact h i t hi ht hc

theorem backBody_congr [Sub K] [Mul K] [ScalarExt K] {aua aub : Mat K} {mm i l : Nat} (x : Array K)
    (h : ∀ t, t < max l 1 → aua.get i t = aub.get i t) :
    backBody aua mm (x, l) i = backBody aub mm (x, l) i := by
  unfold backBody
  simp only
  rw [h 0 (by omega)]
  cases aget x i with
  | error e => rfl
  | ok xi =>
    show (forM' 1 l xi _ >>= _) = (forM' 1 l xi _ >>= _)
    rw [Mat.forM'_congr 1 l xi _ (fun dum k => do
      let a ← aub.get i k
      let xk ← aget x (k + i)
      pure (dum - a * xk)) (fun k dum _ hk2 => by rw [h k (by omega)])]

theorem backBody_snd [Sub K] [Mul K] [ScalarExt K] {au : Mat K} {mm i : Nat}
    {xl st : Array K × Nat} (h : backBody au mm xl i = .ok st) :
    st.2 = if xl.2 < mm then xl.2 + 1 else xl.2 := by
  obtain ⟨_, _, _, _, _, _, _, _, _, _, rfl⟩ := backBody_ok.mp h
  rfl

theorem solveWith_congr [Sub K] [Mul K] [ScalarExt K] {n m1 mm : Nat} {sa sb : Dec K}
    (hmm : 0 < mm) (hal : sa.al = sb.al) (hidx : sa.index = sb.index)
    (hp : PadEq n mm (fun i => i) sa.au sb.au) (rhs : Array K) :
    solveWith n m1 mm sa rhs = solveWith n m1 mm sb rhs := by
  obtain ⟨e1, e2, h1, h2, hag⟩ := hp
  unfold solveWith
  rw [hal, hidx]
  apply ExRel.eq
  refine ExRel.bind (ExRel.refl_eq _) ?_
  rintro st0 _ rfl
  refine ExRel.bind (R := fun p q => p = q) ?_ (fun p _ hpq => hpq ▸ ExRel.refl_eq _)
  refine (foldlM_rev_simIdx (fun j (p q : Array K × Nat) => p = q ∧ p.2 = min (n - j + 1) mm) _ _ n
    _ _ ⟨rfl, by simp only; omega⟩ ?_).mono (fun _ _ hpq => hpq.1)
  rintro i ⟨y, l⟩ _ hi ⟨rfl, hl⟩
  simp only at hl
  rw [backBody_congr (aub := sb.au) y (fun t ht => by
    rw [h1.get hi (show t < mm by omega), h2.get hi (show t < mm by omega),
      hag i t hi (by omega) (by show i + t < n; omega)])]
  cases hx : backBody sb.au mm (y, l) i with
  | error e => rfl
  | ok st => exact ⟨rfl, (backBody_snd hx).trans (backWindow_succ hl hi)⟩

section Decompose
variable [Sub K] [Mul K] [Neg K] [Zero K] [BEq K] [ScalarExt K]
open Mat (forM'_simIdx)

/-- the two pivot-loop states of `decompose` are in lock-step before step `k` -/
def RelDec (n m1 mm k : Nat) (sa sb : Dec K × Nat) : Prop :=
  sa.2 = sb.2 ∧ sa.2 = min (m1 + k) n ∧ sa.1.al = sb.1.al ∧ sa.1.index = sb.1.index ∧
  sa.1.d = sb.1.d ∧ (∃ ea, Is sa.1.al n m1 ea) ∧ sa.1.index.size = n ∧
  PadEq n mm (off m1 k sa.2) sa.1.au sb.1.au

theorem decStep_rel {n m1 mm k : Nat} (hk : k < n) (hmm : 0 < mm) {sa sb : Dec K × Nat}
    (h : RelDec n m1 mm k sa sb) :
    RelRes (RelDec n m1 mm (k + 1)) (decStep n mm sa k) (decStep n mm sb k) := by
  obtain ⟨sa, la⟩ := sa
  obtain ⟨sb, lb⟩ := sb
  obtain ⟨r1, r2, r3, r4, r5, ⟨ea, r6⟩, r7, r8⟩ := h
  simp only at r1 r2 r3 r4 r5 r6 r7 r8
  subst r1
  rw [r2] at r8
  obtain ⟨e1, e2, h1, h2, hag⟩ := r8
  obtain ⟨hw1, hw2, _⟩ := window_bounds m1 hk
  have hkl : k < min (m1 + k + 1) n := hw1
  have how : ∀ a, k ≤ a → a < min (m1 + k + 1) n → off m1 k (min (m1 + k + 1) n) a = k :=
    fun a g1 g2 => off_in g1 g2
  -- agreement of the in-matrix slots, with the window of the step
  have hag' : AgreeIn n mm (off m1 k (min (m1 + k + 1) n)) e1 e2 :=
    fun i t hi ht hc => hag i t hi ht (by rw [off_widen hi]; exact hc)
  have hcol : ∀ j, k ≤ j → j < min (m1 + k + 1) n → e1 j 0 = e2 j 0 :=
    fun j g1 g2 => hag' j 0 (Nat.lt_of_lt_of_le g2 hw2) hmm (by rw [how j g1 g2]; exact hk)
  -- after the zero fix and the exchange the two storages still agree inside the matrix
  have hsw : ∀ ip, k ≤ ip → ip < min (m1 + k + 1) n →
      AgreeIn n mm (off m1 k (min (m1 + k + 1) n)) (pivoted e1 k ip)
        (pivoted e2 k ip) := fun ip hip1 hip2 =>
    (hag'.zeroFix k (hcol ip hip1 hip2)).swapFn hk (Nat.lt_of_lt_of_le hip2 hw2)
      ((how k (Nat.le_refl k) hkl).trans (how ip hip1 hip2).symm)
  obtain ⟨ip, hip1, hip2, _, hpiv⟩ := pivotLoop_spec h2 (k := k) (l := min (m1 + k + 1) n)
    hw1 hw2 hmm (fun _ _ => True) (fun _ => trivial) (fun _ _ _ _ _ => trivial)
    (fun _ _ => by split <;> trivial)
  rw [pivLoop_eq h2 hw2 hmm] at hpiv
  -- both runs refine the same abstract step
  have hsame : absStep e1 k (min (m1 + k + 1) n) (fun _ => 0) =
      absStep e2 k (min (m1 + k + 1) n) (fun _ => 0) := by
    have hp : pivLoop e1 k (min (m1 + k + 1) n) = pivLoop e2 k (min (m1 + k + 1) n) := by
      unfold pivLoop
      rw [hcol k (Nat.le_refl k) hkl]
      exact Mat.forM'_congr _ _ _ _ _ (fun j st hj1 hj2 => by
        rw [hcol j (Nat.le_of_succ_le hj1) hj2])
    unfold absStep
    rw [hp, hpiv]
    show (multLoop _ k _ _ >>= _) = (multLoop _ k _ _ >>= _)
    rw [multLoop_congr _ (fun i g1 g2 => hsw ip hip1 hip2 i 0 (Nat.lt_of_lt_of_le g2 hw2) hmm
      (by rw [how i g1 g2]; exact hk))]
  have ha := decStep_sim h1 r6 r7 hk hmm r2 (fun _ => 0)
  have hb := decStep_sim h2 (r3 ▸ r6) (r4 ▸ r7) hk hmm r2 (fun _ => 0)
  rw [hsame] at ha
  refine ((ExRel.trans ha (ExRel.symm hb)).mono ?_ : RelRes _ _ _)
  rintro sa' sb' ⟨⟨ip', μ⟩, ⟨a1, a2, a3, a4, a5, a6, a7⟩, ⟨_, _, b3, b4, b5, b6, b7⟩⟩
  simp only at a1 a2 a3 a4 a5 a6 a7 b3 b4 b5 b6 b7
  -- the abstract step returned the row `ip'` and the multipliers `μ` to both
  refine ⟨a3.trans b3.symm, a3, Mat.Is.unique a7 b7, by rw [a4, b4, r4], by rw [a5, b5, r5],
    ⟨_, a7⟩, by rw [a4]; simpa using r7,
    PadEq.congr_off ⟨_, _, a6, b6, (hsw ip' a1 a2).elimE μ hk how hkl⟩ fun i _ => ?_⟩
  rw [a3, off_succ hkl]

variable [One K]

/-- two banded matrices of the same shape agree on all in-band, in-matrix slots -/
def DenseEq (a b : Band K) : Prop :=
  SameShape a b ∧ ∀ i j, inBand a i j → i < a.n → j < a.n → dense a i j = dense b i j

theorem decompose_rel {a b : Band K} (ha : WFb a) (hb : WFb b) (h : DenseEq a b) :
    RelRes (fun sa sb => sa.al = sb.al ∧ sa.index = sb.index ∧ sa.d = sb.d ∧
        PadEq a.n (a.m1 + a.m2 + 1) (fun i => i) sa.au sb.au) (decompose a) (decompose b) := by
  obtain ⟨⟨s1, s2, s3⟩, hag⟩ := h
  -- the two matrices have the same `(n, m1, m2)`: name them once
  obtain ⟨n, m1, m2, ca⟩ := a
  obtain ⟨_, _, _, cb⟩ := b
  simp only at s1 s2 s3
  subst s1 s2 s3
  simp only at hag ⊢
  by_cases hm : m1 ≤ n
  swap
  · rw [decompose_rejects ha (Nat.lt_of_not_le hm), decompose_rejects hb (Nat.lt_of_not_le hm)]
    rfl
  obtain ⟨au0a, g1, I1⟩ := shiftRows_spec ha.is hm
  obtain ⟨au0b, g2, I2⟩ := shiftRows_spec hb.is hm
  simp only at g1 g2 I1 I2
  unfold decompose
  simp only
  rw [g1, g2]
  show RelRes _ (forM' _ _ _ _ >>= _) (forM' _ _ _ _ >>= _)
  have hp0 : PadEq n (m1 + m2 + 1) (off m1 0 m1) au0a au0b := by
    refine ⟨_, _, I1, I2, ?_⟩
    intro i t hi ht hc
    rw [off_start] at hc
    by_cases hts : t + (m1 - i) < m1 + m2 + 1
    · have e1 := shifted_dense ha hi hts hc
      have e2 := shifted_dense hb hi hts hc
      simp only at e1 e2
      rw [e1, e2]
      exact hag i _ (by unfold inBand; simp only; omega) hi hc
    · unfold shifted
      rw [if_pos (by omega), if_neg hts, if_pos (by omega), if_neg hts]
  refine ExRel.bind (forM'_simIdx (RelDec n m1 (m1 + m2 + 1)) 0 n _ _ _ _ (Nat.zero_le _)
    ⟨rfl, (Nat.min_eq_left hm).symm, rfl, rfl, rfl, ⟨_, Mat.Is.of_new n m1 (0 : K)⟩, by simp, hp0⟩
    (fun k sa sb _ hk hr => decStep_rel hk (Nat.succ_pos _) hr)) ?_
  rintro ⟨sa, la⟩ ⟨sb, lb⟩ ⟨r1, r2, r3, r4, r5, _, _, r8⟩
  simp only at r1 r2 r3 r4 r5 r8
  refine ⟨r3, r4, r5, r8.congr_off ?_⟩
  intro i hi
  unfold off
  rw [if_pos hi]

end Decompose

section Padding
variable [Add K] [Sub K] [Mul K] [Neg K] [Zero K] [One K] [BEq K] [ScalarExt K]
open Mat (forM'_simIdx)

set_option linter.unusedSectionVars false in
/-- (S) **`det` never reads padding**: same value or same panic on two banded matrices that
    differ only in padding slots -/
theorem det_padding {a b : Band K} (ha : WFb a) (hb : WFb b) (h : DenseEq a b) :
    det a = det b := by
  apply ExRel.eq
  unfold det
  refine ExRel.bind (decompose_rel ha hb h) ?_
  rintro sa sb ⟨_, _, r3, e1, e2, h1, h2, hag⟩
  rw [← h.1.1, r3]
  refine forM'_simIdx (fun _ (x y : K) => x = y) 0 a.n _ _ _ _ (Nat.zero_le _) rfl ?_
  intro i x y _ hi hxy
  subst hxy
  have hmm : 0 < a.m1 + a.m2 + 1 := by omega
  rw [h1.get hi hmm, h2.get hi hmm, hag i 0 hi hmm (by omega)]
  exact ExRel.refl_eq _

set_option linter.unusedSectionVars false in
/-- (S) **`solve` never reads padding**: same solution or same panic -/
theorem solve_padding {a b : Band K} (ha : WFb a) (hb : WFb b) (h : DenseEq a b)
    (rhs : Array K) : solve a rhs = solve b rhs := by
  obtain ⟨s1, s2, s3⟩ := h.1
  rw [solve_eq, solve_eq, ← s1, ← s2, ← s3]
  split
  · rfl
  apply ExRel.eq
  refine ExRel.bind (decompose_rel ha hb h) ?_
  rintro sa sb ⟨r1, r2, _, r4⟩
  rw [solveWith_congr (by omega) r1 r2 r4]
  exact ExRel.refl_eq _

end Padding

end Band
end Ohsl
