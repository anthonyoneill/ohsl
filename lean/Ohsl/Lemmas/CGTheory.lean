/-
  Ohsl.Lemmas.CGTheory — the classical theory of the conjugate-gradient recurrences, for the
  model's `cgStep` / `solveCG` (Ohsl/Model/Krylov.lean) at the real interpretation: orthogonal
  residuals and conjugate directions while the residuals are nonzero (`Inv`), hence termination
  within `dim V` iterations, strict decrease of the energy of the error and its minimality over the
  Krylov space; first on the state sequence `st`, then on the states of the model's running loop
  (`cgRun`), which is what C09G states for matrices.

  Setting: `V` a real vector space, `dot` a symmetric positive-definite bilinear form on it,
  `A : V →ₗ[ℝ] V` self-adjoint and positive definite for `dot` (structure `SPD`),
  `norm2 v = √(dot v v)`, comparison `Transc.le = (· ≤ ·)`.
  `At`, the transposed product of the operation record, is an arbitrary function: CG never calls it;
  it is an argument of every lemma only because `cgOps A At dot` occurs in the statements.
-/
import Ohsl.Props.C08
import Ohsl.Lemmas.RealTransc
import Mathlib.LinearAlgebra.BilinearForm.Orthogonal
import Mathlib.LinearAlgebra.Dimension.Finite
import Mathlib.Tactic.Ring
import Mathlib.Tactic.Linarith

namespace Ohsl.CGTheory
open Ohsl Ohsl.Krylov Ohsl.Props.C08

section Structural
variable {K V : Type} [Div K] [Zero K] [One K] [BEq K]

/-- the state `solveCG` enters its loop with -/
def init (o : VOps K V) (b x : V) : CGState K V :=
  ⟨x, o.sub b (o.A x), o.zero, 1, o.norm2 (o.sub b (o.A x)) / guardNorm (o.norm2 b)⟩

/-- the state after `k` iterations none of which stopped -/
def seq (o : VOps K V) (b x : V) : Nat → CGState K V
  | 0 => init o b x
  | k + 1 => cgNext o (guardNorm (o.norm2 b)) (k + 1) (seq o b x k)

theorem seq_eq_cgStates (o : VOps K V) (b x : V) :
    ∀ k, seq o b x k = cgStates o (guardNorm (o.norm2 b)) (cgInit o b x (guardNorm (o.norm2 b))) k
  | 0 => rfl
  | k + 1 => congrArg (cgNext o _ (k + 1)) (seq_eq_cgStates o b x k)

variable [Transc K]

/-- **the state of the model's CG loop after `k` iterations**: `none` once `solveCG` has returned
    (initial test or the test of some iteration `≤ k` passed); the budget is not modelled
    (`cgRun_spec` relates it to `solveCG` for `k ≤ maxIter`) -/
def cgRun (o : VOps K V) (b x : V) (tol : K) : Nat → Option (CGState K V)
  | 0 => if Transc.le (init o b x).resid tol then none else some (init o b x)
  | k + 1 =>
    match cgRun o b x tol k with
    | none => none
    | some s =>
      match cgStep o (guardNorm (o.norm2 b)) tol (k + 1) s with
      | .cont s' => some s'
      | .done _ => none

theorem cgRun_zero_some {o : VOps K V} {b x : V} {tol : K} {s : CGState K V}
    (h : cgRun o b x tol 0 = some s) : ¬ Transc.le (init o b x).resid tol = true ∧ s = init o b x := by
  unfold cgRun at h
  split at h
  · cases h
  · exact ⟨‹_›, (Option.some.inj h).symm⟩

theorem cgRun_succ_some {o : VOps K V} {b x : V} {tol : K} {k : Nat} {s' : CGState K V}
    (h : cgRun o b x tol (k + 1) = some s') :
    ∃ s, cgRun o b x tol k = some s ∧ cgStep o (guardNorm (o.norm2 b)) tol (k + 1) s = .cont s' := by
  unfold cgRun at h
  split at h
  · cases h
  · rename_i s hs
    split at h
    · exact ⟨s, hs, by rw [← Option.some.inj h]; assumption⟩
    · cases h

theorem cgRun_spec (o : VOps K V) (b x : V) (maxIter : Nat) (tol : K) :
    ∀ (k : Nat) (s : CGState K V), cgRun o b x tol k = some s → k ≤ maxIter →
      solveCG o b x maxIter tol =
        iterate (cgStep o (guardNorm (o.norm2 b)) tol) (fun s => ⟨false, maxIter, s.resid, s.x⟩)
          (maxIter - k) (k + 1) s
  | 0, s, h, _ => by
    obtain ⟨hc, rfl⟩ := cgRun_zero_some h
    exact (solveCG_eq_run o b x maxIter tol).trans (if_neg hc)
  | k + 1, s, h, hk => by
    obtain ⟨s0, hs0, hs'⟩ := cgRun_succ_some h
    rw [cgRun_spec o b x maxIter tol k s0 hs0 (by omega)]
    have e : maxIter - k = (maxIter - (k + 1)) + 1 := by omega
    rw [e, iterate, hs']

theorem cgRun_eq_seq (o : VOps K V) (b x : V) (tol : K) :
    ∀ (k : Nat) (s : CGState K V), cgRun o b x tol k = some s →
      s = seq o b x k ∧ ∀ j, j ≤ k → Transc.le (seq o b x j).resid tol = false
  | 0, s, h => by
    obtain ⟨hc, rfl⟩ := cgRun_zero_some h
    refine ⟨rfl, fun j hj => ?_⟩
    obtain rfl : j = 0 := by omega
    exact Bool.eq_false_iff.mpr hc
  | k + 1, s, h => by
    obtain ⟨s0, hs0, hs'⟩ := cgRun_succ_some h
    obtain ⟨rfl, hn⟩ := cgRun_eq_seq o b x tol k s0 hs0
    rw [cgStep_eq_next] at hs'
    by_cases hc : Transc.le (cgNext o (guardNorm (o.norm2 b)) (k + 1) (seq o b x k)).resid tol = true
    · rw [if_pos hc] at hs'; cases hs'
    · rw [if_neg hc] at hs'
      refine ⟨(Step.cont.inj hs').symm, fun j hj => ?_⟩
      rcases Nat.lt_or_eq_of_le hj with hlt | rfl
      · exact hn j (by omega)
      · exact Bool.eq_false_iff.mpr hc

end Structural

theorem guardNorm_pos {nb : ℝ} (hnb : 0 ≤ nb) : 0 < guardNorm nb := by
  unfold guardNorm
  split
  · exact one_pos
  · rename_i hne
    have : nb ≠ 0 := by simpa using hne
    exact lt_of_le_of_ne hnb (Ne.symm this)

theorem le_iff (a b : ℝ) : Transc.le a b = true ↔ a ≤ b := by
  simp [Transc.le]

theorem le_false_iff (a b : ℝ) : Transc.le a b = false ↔ b < a := by
  simp [Transc.le]

section Exact
variable {V : Type} [AddCommGroup V] [Module ℝ V]

/-- `dot` is a symmetric positive-definite bilinear form and `A` is self-adjoint and positive
    definite with respect to it -/
structure SPD (A : V →ₗ[ℝ] V) (dot : V → V → ℝ) : Prop where
  add_left : ∀ u v w, dot (u + v) w = dot u w + dot v w
  smul_left : ∀ (c : ℝ) u v, dot (c • u) v = c * dot u v
  comm : ∀ u v, dot u v = dot v u
  pos : ∀ v, v ≠ 0 → 0 < dot v v
  A_symm : ∀ u v, dot (A u) v = dot u (A v)
  A_pos : ∀ v, v ≠ 0 → 0 < dot v (A v)

namespace SPD
variable {A : V →ₗ[ℝ] V} {dot : V → V → ℝ} (h : SPD A dot)
include h

theorem add_right (u v w : V) : dot u (v + w) = dot u v + dot u w := by
  rw [h.comm, h.add_left, h.comm v, h.comm w]

theorem smul_right (c : ℝ) (u v : V) : dot u (c • v) = c * dot u v := by
  rw [h.comm, h.smul_left, h.comm]

/-- the bilinear form as a Mathlib object; the remaining laws of `dot` are read off it -/
noncomputable def bilin : LinearMap.BilinForm ℝ V :=
  LinearMap.mk₂ ℝ dot h.add_left h.smul_left h.add_right h.smul_right

theorem zero_left (v : V) : dot 0 v = 0 := h.bilin.map_zero₂ v

theorem zero_right (v : V) : dot v 0 = 0 := (h.bilin v).map_zero

theorem neg_right (u v : V) : dot u (-v) = - dot u v := (h.bilin u).map_neg v

theorem sub_left (u v w : V) : dot (u - v) w = dot u w - dot v w := h.bilin.map_sub₂ u v w

theorem sub_right (u v w : V) : dot u (v - w) = dot u v - dot u w := (h.bilin u).map_sub v w

theorem self_nonneg (v : V) : 0 ≤ dot v v := by
  by_cases hv : v = 0
  · subst hv; rw [h.zero_left]
  · exact (h.pos v hv).le

theorem A_nonneg (v : V) : 0 ≤ dot v (A v) := by
  by_cases hv : v = 0
  · rw [hv, h.zero_left]
  · exact (h.A_pos v hv).le

theorem self_eq_zero {v : V} : dot v v = 0 ↔ v = 0 := by
  constructor
  · intro h0
    by_contra hv
    exact absurd h0 (h.pos v hv).ne'
  · rintro rfl; exact h.zero_left 0

theorem self_pos {v : V} : 0 < dot v v ↔ v ≠ 0 := by
  constructor
  · intro hp hv; subst hv; rw [h.zero_left] at hp; exact lt_irrefl _ hp
  · exact h.pos v

theorem ne_zero_of_pos {v : V} (hv : 0 < dot v (A v)) : v ≠ 0 := by
  rintro rfl
  rw [h.zero_left] at hv
  exact lt_irrefl _ hv

theorem quad_sub (e w : V) :
    dot (e - w) (A (e - w)) = dot e (A e) - 2 * dot w (A e) + dot w (A w) := by
  rw [A.map_sub, h.sub_left, h.sub_right, h.sub_right, ← h.A_symm e w, h.comm (A e) w]; ring

theorem linearIndependent_of_orth {ι : Type} [LinearOrder ι] (v : ι → V) (hne : ∀ i, v i ≠ 0)
    (horth : ∀ i j, i < j → dot (v i) (v j) = 0) : LinearIndependent ℝ v :=
  LinearMap.BilinForm.linearIndependent_of_iIsOrtho (B := h.bilin)
    (fun i j hij => hij.lt_or_gt.elim (horth i j) fun hji => (h.comm _ _).trans (horth j i hji))
    fun i => (h.pos _ (hne i)).ne'

end SPD

variable (A : V →ₗ[ℝ] V) (At : V → V) (dot : V → V → ℝ)

/-- the model's vector operations in this setting: `norm2 v = √(dot v v)` -/
noncomputable def cgOps : VOps ℝ V := modOps A At dot (fun v => Real.sqrt (dot v v))

variable (b x0 : V)

/-- the state sequence of the model's CG in this setting (`seq` at the operations `cgOps`) -/
noncomputable def st (k : ℕ) : CGState ℝ V := seq (cgOps A At dot) b x0 k

local notation "S" => st A At dot b x0

/-- the step length `α_k = ⟨r_k, r_k⟩ / ⟨p_(k+1), A p_(k+1)⟩` of iteration `k + 1` -/
noncomputable def alpha (k : ℕ) : ℝ := dot (S k).r (S k).r / dot (S (k + 1)).p (A (S (k + 1)).p)

theorem st_zero_x : (S 0).x = x0 := rfl
theorem st_zero_r : (S 0).r = b - A x0 := rfl
theorem st_zero_p : (S 0).p = 0 := rfl
theorem st_zero_rho1 : (S 0).rho1 = 1 := rfl

theorem st_succ_rho1 (k : ℕ) : (S (k + 1)).rho1 = dot (S k).r (S k).r := rfl

theorem st_succ_p (k : ℕ) :
    (S (k + 1)).p = (S k).r + (dot (S k).r (S k).r / (S k).rho1) • (S k).p := by
  -- `cgDir` takes `r` alone in iteration `1`, where `p = 0` anyway
  cases k with
  | zero => rw [st_zero_p, smul_zero, add_zero]; rfl
  | succ k => rfl

theorem st_succ_r (k : ℕ) : (S (k + 1)).r = (S k).r - alpha A At dot b x0 k • A (S (k + 1)).p := rfl

theorem st_succ_x (k : ℕ) : (S (k + 1)).x = (S k).x + alpha A At dot b x0 k • (S (k + 1)).p := rfl

theorem alpha_smul (k : ℕ) : alpha A At dot b x0 k • A (S (k + 1)).p = (S k).r - (S (k + 1)).r := by
  rw [st_succ_r, sub_sub_cancel]

theorem st_r_eq (k : ℕ) :
    (S k).r = (S (k + 1)).p - (dot (S k).r (S k).r / (S k).rho1) • (S k).p :=
  eq_sub_of_add_eq (st_succ_p A At dot b x0 k).symm

theorem alpha_mul (k : ℕ) (hd : dot (S (k + 1)).p (A (S (k + 1)).p) ≠ 0) :
    alpha A At dot b x0 k * dot (S (k + 1)).p (A (S (k + 1)).p) = dot (S k).r (S k).r :=
  div_mul_cancel₀ _ hd

theorem st_resid (k : ℕ) : (S k).resid = Real.sqrt (dot (S k).r (S k).r) / guardNorm (Real.sqrt (dot b b)) := by
  cases k <;> rfl

theorem st_true_residual (k : ℕ) : (S k).r = b - A (S k).x := by
  induction k with
  | zero => rfl
  | succ k ih =>
    rw [st_succ_r, st_succ_x, ih, A.map_add, A.map_smul, sub_add_eq_sub_sub]


/-- the classical CG invariant at index `j`: the direction `p_j` is conjugate to the earlier ones,
    the residual `r_j` is orthogonal to all directions so far, the divisor of `α_(j-1)` is positive -/
structure Inv (j : ℕ) : Prop where
  conj : ∀ i, i < j → dot (S i).p (A (S j).p) = 0
  orth : ∀ i, i ≤ j → dot (S j).r (S i).p = 0
  pos : 1 ≤ j → 0 < dot (S j).p (A (S j).p)

/-- the energy (squared `A`-norm) of the error of `x` with respect to a solution `xs` -/
def energy (xs x : V) : ℝ := dot (xs - x) (A (xs - x))

/-- the span of the search directions `p_1, …, p_k` -/
def dirSpan (k : ℕ) : Submodule ℝ V :=
  Submodule.span ℝ ((fun j => (S j).p) '' {j | 1 ≤ j ∧ j ≤ k})

/-- the Krylov space `span {v, A v, …, A^(k-1) v}` -/
def krylov (v : V) (k : ℕ) : Submodule ℝ V :=
  Submodule.span ℝ ((fun j => (A ^ j) v) '' {j | j < k})

variable {A dot}

theorem inv_zero (h : SPD A dot) : Inv A At dot b x0 0 where
  conj := fun i hi => absurd hi (Nat.not_lt_zero i)
  orth := fun i hi => by rw [Nat.le_zero.mp hi, st_zero_p, h.zero_right]
  pos := fun h1 => absurd h1 (by decide)

/-- so `r_j` is orthogonal to the earlier residuals, `r_i = p_(i+1) − β_i p_i` -/
theorem Inv.r_orth (h : SPD A dot) {j : ℕ} (hj : Inv A At dot b x0 j) (i : ℕ) (hi : i < j) :
    dot (S i).r (S j).r = 0 := by
  rw [st_r_eq, h.sub_left, h.smul_left, h.comm (S (i + 1)).p, hj.orth (i + 1) hi, h.comm (S i).p,
    hj.orth i hi.le, mul_zero, sub_zero]

theorem r_dot_next_dir (h : SPD A dot) (k : ℕ) (hk : Inv A At dot b x0 k) :
    dot (S k).r (S (k + 1)).p = dot (S k).r (S k).r := by
  rw [st_succ_p, h.add_right, h.smul_right, hk.orth k le_rfl, mul_zero, add_zero]

theorem next_dir_pos (h : SPD A dot) (k : ℕ) (hk : Inv A At dot b x0 k) (hr : (S k).r ≠ 0) :
    (S (k + 1)).p ≠ 0 ∧ 0 < dot (S (k + 1)).p (A (S (k + 1)).p) := by
  have hne : (S (k + 1)).p ≠ 0 := fun h0 => (h.pos _ hr).ne (by
    rw [← r_dot_next_dir At b x0 h k hk, h0, h.zero_right])
  exact ⟨hne, h.A_pos _ hne⟩

theorem rho1_pos (h : SPD A dot) (k : ℕ) (hr : ∀ j, j < k → (S j).r ≠ 0) : 0 < (S k).rho1 := by
  cases k with
  | zero => rw [st_zero_rho1]; exact one_pos
  | succ k => rw [st_succ_rho1]; exact h.pos _ (hr k (by omega))

theorem inv_succ (h : SPD A dot) (k : ℕ) (hk : ∀ m, m ≤ k → Inv A At dot b x0 m)
    (hr : ∀ j, j ≤ k → (S j).r ≠ 0) : Inv A At dot b x0 (k + 1) := by
  have hkk := hk k le_rfl
  have hd := (next_dir_pos At b x0 h k hkk (hr k le_rfl)).2
  have hconj : ∀ i, i ≤ k → dot (S i).p (A (S (k + 1)).p) = 0 := by
    intro i hik
    cases i with
    | zero => rw [st_zero_p, h.zero_left]
    | succ m =>
      have hρm := h.pos _ (hr m (Nat.le_of_succ_le hik))
      have hdm := (hk (m + 1) hik).pos (Nat.succ_pos m)
      -- `α_m A p_(m+1) = r_m − r_(m+1)` against `p_(k+1) = r_k + β_k p_k`
      have e1 : alpha A At dot b x0 m * dot (A (S (m + 1)).p) (S k).r
          = - dot (S (m + 1)).r (S k).r := by
        rw [← h.smul_left, alpha_smul, h.sub_left, hkk.r_orth At b x0 h m hik, zero_sub]
      have key : alpha A At dot b x0 m * dot (A (S (m + 1)).p) (S (k + 1)).p = 0 := by
        rw [st_succ_p A At dot b x0 k, h.add_right, h.smul_right, mul_add, e1, h.A_symm]
        rcases Nat.lt_or_eq_of_le hik with hlt | rfl
        · rw [hkk.r_orth At b x0 h (m + 1) hlt, hkk.conj (m + 1) hlt, mul_zero, mul_zero,
            neg_zero, add_zero]
        · rw [mul_left_comm, alpha_mul A At dot b x0 m hdm.ne', st_succ_rho1,
            div_mul_cancel₀ _ hρm.ne', neg_add_cancel]
      rw [← h.A_symm]
      exact (mul_eq_zero.mp key).resolve_left (div_pos hρm hdm).ne'
  refine ⟨fun i hi => hconj i (Nat.le_of_lt_succ hi), fun i hi => ?_, fun _ => hd⟩
  rw [st_succ_r, h.sub_left, h.smul_left]
  rcases Nat.lt_or_eq_of_le hi with hlt | rfl
  · rw [hkk.orth i (Nat.le_of_lt_succ hlt), h.comm, hconj i (Nat.le_of_lt_succ hlt), mul_zero,
      sub_zero]
  · rw [r_dot_next_dir At b x0 h k hkk, h.A_symm, alpha_mul A At dot b x0 k hd.ne', sub_self]

theorem inv_of_nonzero (h : SPD A dot) (k : ℕ) (hr : ∀ j, j < k → (S j).r ≠ 0) :
    Inv A At dot b x0 k := by
  induction k using Nat.strong_induction_on with
  | _ k ih =>
    cases k with
    | zero => exact inv_zero At b x0 h
    | succ k =>
      exact inv_succ At b x0 h k
        (fun m hm => ih m (Nat.lt_succ_of_le hm) fun j hj => hr j (by omega))
        (fun j hj => hr j (Nat.lt_succ_of_le hj))


theorem st_resid_zero (h : SPD A dot) (k : ℕ) (hz : (S k).r = 0) : (S k).resid = 0 := by
  rw [st_resid, hz, h.zero_left]; simp

theorem nonzero_of_test_fails (h : SPD A dot) (tol : ℝ) (htol : 0 ≤ tol) (k : ℕ)
    (hf : Transc.le (S k).resid tol = false) : (S k).r ≠ 0 := by
  intro hz
  rw [st_resid_zero At b x0 h k hz, le_false_iff] at hf
  linarith

/-- otherwise they would be `n + 1` nonzero mutually orthogonal vectors -/
theorem exists_zero_residual (h : SPD A dot) [Module.Finite ℝ V] (n : ℕ)
    (hn : Module.finrank ℝ V ≤ n) : ∃ k, k ≤ n ∧ (S k).r = 0 := by
  by_contra hex
  have hne : ∀ k, k ≤ n → (S k).r ≠ 0 := fun k hk hz => hex ⟨k, hk, hz⟩
  have hli : LinearIndependent ℝ (fun i : Fin (n + 1) => (S i.val).r) :=
    h.linearIndependent_of_orth _ (fun i => hne i.val (Nat.le_of_lt_succ i.isLt)) fun i j hij =>
      (inv_of_nonzero At b x0 h j.val fun m hm => hne m (by omega)).r_orth At b x0 h i.val hij
  have := hli.fintype_card_le_finrank
  simp only [Fintype.card_fin] at this
  omega

theorem solveCG_terminates (h : SPD A dot) [Module.Finite ℝ V] (n : ℕ)
    (hn : Module.finrank ℝ V ≤ n) (maxIter : ℕ) (hmax : n ≤ maxIter) (tol : ℝ) (htol : 0 ≤ tol) :
    (solveCG (cgOps A At dot) b x0 maxIter tol).ok = true ∧
      (solveCG (cgOps A At dot) b x0 maxIter tol).iters ≤ n := by
  obtain ⟨k, hk, hz⟩ := exists_zero_residual At b x0 h n hn
  have := solveCG_success_of_states (cgOps A At dot) b x0 maxIter tol k (by omega)
    (by rw [← seq_eq_cgStates]; show Transc.le (S k).resid tol = true
        rw [st_resid_zero At b x0 h k hz, le_iff]; exact htol)
  exact ⟨this.1, this.2.trans hk⟩

theorem solveCG_exact_of_ok (h : SPD A dot) (maxIter : ℕ) (tol : ℝ) (htol : tol ≤ 0)
    (hok : (solveCG (cgOps A At dot) b x0 maxIter tol).ok = true) :
    A (solveCG (cgOps A At dot) b x0 maxIter tol).x = b := by
  have hs := (le_iff _ _).mp
    (cg_success_sound A At dot (fun v => Real.sqrt (dot v v)) b x0 maxIter tol hok)
  have h1 := (div_le_iff₀ (guardNorm_pos (Real.sqrt_nonneg _))).mp (hs.trans htol)
  rw [zero_mul] at h1
  have h2 := Real.sqrt_eq_zero'.mp (le_antisymm h1 (Real.sqrt_nonneg _))
  exact (sub_eq_zero.mp (h.self_eq_zero.mp (le_antisymm h2 (h.self_nonneg _)))).symm

theorem solveCG_exact (h : SPD A dot) [Module.Finite ℝ V] (n : ℕ)
    (hn : Module.finrank ℝ V ≤ n) (maxIter : ℕ) (hmax : n ≤ maxIter) :
    A (solveCG (cgOps A At dot) b x0 maxIter 0).x = b :=
  solveCG_exact_of_ok At b x0 h maxIter 0 le_rfl
    (solveCG_terminates At b x0 h n hn maxIter hmax 0 le_rfl).1


/-- the energy after a step `w` from `x_k`, by `A (x* − x_k) = r_k` -/
theorem energy_add (h : SPD A dot) (xs : V) (hxs : A xs = b) (k : ℕ) (w : V) :
    energy A dot xs ((S k).x + w) =
      energy A dot xs (S k).x - 2 * dot w (S k).r + dot w (A w) := by
  unfold energy
  rw [sub_add_eq_sub_sub, h.quad_sub, A.map_sub, hxs, ← st_true_residual]

/-- the step `α_k p_(k+1)` lowers the energy by `α_k ⟨r_k, r_k⟩` -/
theorem energy_decrease (h : SPD A dot) (xs : V) (hxs : A xs = b) (k : ℕ)
    (hr : ∀ j, j ≤ k → (S j).r ≠ 0) :
    energy A dot xs (S (k + 1)).x < energy A dot xs (S k).x := by
  have hk := inv_of_nonzero At b x0 h k (fun j hj => hr j hj.le)
  have hρ := h.pos _ (hr k le_rfl)
  have hd := (next_dir_pos At b x0 h k hk (hr k le_rfl)).2
  have hα : 0 < alpha A At dot b x0 k := div_pos hρ hd
  rw [st_succ_x, energy_add At b x0 h xs hxs, A.map_smul, h.smul_left, h.smul_left, h.smul_right,
    h.comm (S (k + 1)).p (S k).r, r_dot_next_dir At b x0 h k hk, alpha_mul A At dot b x0 k hd.ne']
  linarith [mul_pos hα hρ]


theorem dirSpan_mono {j k : ℕ} (hjk : j ≤ k) :
    dirSpan A At dot b x0 j ≤ dirSpan A At dot b x0 k := by
  apply Submodule.span_mono
  apply Set.image_mono
  intro i hi
  exact ⟨hi.1, hi.2.trans hjk⟩

theorem dir_mem_dirSpan {j k : ℕ} (hj : j ≤ k) : (S j).p ∈ dirSpan A At dot b x0 k := by
  rcases Nat.eq_zero_or_pos j with h0 | h0
  · subst h0; rw [st_zero_p]; exact Submodule.zero_mem _
  · exact Submodule.subset_span ⟨j, ⟨h0, hj⟩, rfl⟩

theorem x_mem_dirSpan (k : ℕ) : (S k).x - x0 ∈ dirSpan A At dot b x0 k := by
  induction k with
  | zero => rw [st_zero_x, sub_self]; exact Submodule.zero_mem _
  | succ k ih =>
    rw [st_succ_x, add_sub_right_comm]
    exact Submodule.add_mem _ (dirSpan_mono At b x0 (Nat.le_succ k) ih)
      (Submodule.smul_mem _ _ (dir_mem_dirSpan At b x0 le_rfl))

theorem res_mem_dirSpan {j k : ℕ} (hj : j < k) : (S j).r ∈ dirSpan A At dot b x0 k := by
  rw [st_r_eq]
  exact Submodule.sub_mem _ (dir_mem_dirSpan At b x0 hj)
    (Submodule.smul_mem _ _ (dir_mem_dirSpan At b x0 (by omega)))

theorem dot_dirSpan_res (h : SPD A dot) (k : ℕ) (hk : Inv A At dot b x0 k) (w : V)
    (hw : w ∈ dirSpan A At dot b x0 k) : dot w (S k).r = 0 := by
  induction hw using Submodule.span_induction with
  | mem x hx =>
    obtain ⟨j, hj, rfl⟩ := hx
    rw [h.comm]; exact hk.orth j hj.2
  | zero => exact h.zero_left _
  | add x y _ _ hx hy => rw [h.add_left, hx, hy, add_zero]
  | smul a x _ hx => rw [h.smul_left, hx, mul_zero]

theorem energy_optimal_dir (h : SPD A dot) (xs : V) (hxs : A xs = b) (k : ℕ)
    (hk : Inv A At dot b x0 k) (y : V) (hy : y - x0 ∈ dirSpan A At dot b x0 k) :
    energy A dot xs (S k).x ≤ energy A dot xs y := by
  have hw : y - (S k).x ∈ dirSpan A At dot b x0 k := by
    rw [← sub_sub_sub_cancel_right y (S k).x x0]
    exact Submodule.sub_mem _ hy (x_mem_dirSpan At b x0 k)
  have e := energy_add At b x0 h xs hxs k (y - (S k).x)
  rw [add_sub_cancel, dot_dirSpan_res At b x0 h k hk _ hw] at e
  rw [e]
  linarith [h.A_nonneg (y - (S k).x)]

theorem map_mem_of_span {s : Set V} {N : Submodule ℝ V} (hs : ∀ v ∈ s, A v ∈ N) {w : V}
    (hw : w ∈ Submodule.span ℝ s) : A w ∈ N :=
  (Submodule.map_span_le A s N).2 hs (Submodule.mem_map_of_mem hw)

theorem pow_succ_apply (j : ℕ) (v : V) : (A ^ (j + 1)) v = A ((A ^ j) v) := by
  rw [pow_succ']; rfl

theorem map_krylov (v : V) (j : ℕ) (w : V) (hw : w ∈ krylov A v j) : A w ∈ krylov A v (j + 1) := by
  refine map_mem_of_span ?_ hw
  rintro _ ⟨i, hi, rfl⟩
  exact Submodule.subset_span ⟨i + 1, Nat.succ_lt_succ hi, pow_succ_apply i v⟩

theorem krylov_mono (v : V) {j k : ℕ} (hjk : j ≤ k) : krylov A v j ≤ krylov A v k := by
  apply Submodule.span_mono
  apply Set.image_mono
  intro i hi
  exact lt_of_lt_of_le hi hjk

theorem dir_res_mem_krylov (k : ℕ) :
    (S k).p ∈ krylov A (S 0).r k ∧ (S k).r ∈ krylov A (S 0).r (k + 1) := by
  induction k with
  | zero =>
    refine ⟨by rw [st_zero_p]; exact Submodule.zero_mem _, ?_⟩
    exact Submodule.subset_span ⟨0, Nat.zero_lt_one, rfl⟩
  | succ k ih =>
    have hp : (S (k + 1)).p ∈ krylov A (S 0).r (k + 1) := by
      rw [st_succ_p]
      exact Submodule.add_mem _ ih.2
        (Submodule.smul_mem _ _ (krylov_mono _ (Nat.le_succ k) ih.1))
    refine ⟨hp, ?_⟩
    rw [st_succ_r]
    exact Submodule.sub_mem _ (krylov_mono _ (Nat.le_succ _) ih.2)
      (Submodule.smul_mem _ _ (map_krylov _ _ _ hp))

theorem dirSpan_le_krylov (k : ℕ) : dirSpan A At dot b x0 k ≤ krylov A (S 0).r k := by
  apply Submodule.span_le.mpr
  rintro _ ⟨j, hj, rfl⟩
  exact krylov_mono _ hj.2 (dir_res_mem_krylov At b x0 j).1

theorem map_dirSpan (h : SPD A dot) (k : ℕ) (hr : ∀ j, j < k → (S j).r ≠ 0)
    (w : V) (hw : w ∈ dirSpan A At dot b x0 k) : A w ∈ dirSpan A At dot b x0 (k + 1) := by
  refine map_mem_of_span ?_ hw
  rintro _ ⟨i, ⟨hi1, hik⟩, rfl⟩
  obtain ⟨m, rfl⟩ := Nat.exists_eq_add_one.mpr hi1
  -- `α_m ≠ 0`, and `α_m A p_(m+1) = r_m − r_(m+1)` lies in the span
  have hαm : alpha A At dot b x0 m ≠ 0 := (div_pos (h.pos _ (hr m hik))
    ((inv_of_nonzero At b x0 h (m + 1) fun j hj => hr j (by omega)).pos hi1)).ne'
  refine (Submodule.smul_mem_iff _ hαm).mp ?_
  rw [alpha_smul]
  exact Submodule.sub_mem _ (res_mem_dirSpan At b x0 (Nat.lt_succ_of_lt hik))
    (res_mem_dirSpan At b x0 (Nat.succ_lt_succ hik))

theorem pow_mem_dirSpan (h : SPD A dot) (k : ℕ) (hr : ∀ j, j < k → (S j).r ≠ 0) :
    ∀ m, m < k → (A ^ m) (S 0).r ∈ dirSpan A At dot b x0 (m + 1)
  | 0, _ => by
    -- the first direction is `r_0`
    rw [pow_zero]
    exact dir_mem_dirSpan At b x0 (j := 1) le_rfl
  | m + 1, hm => by
    rw [pow_succ_apply]
    exact map_dirSpan At b x0 h (m + 1) (fun j hj => hr j (by omega)) _
      (pow_mem_dirSpan h k hr m (Nat.lt_of_succ_lt hm))

theorem dirSpan_eq_krylov (h : SPD A dot) (k : ℕ) (hr : ∀ j, j < k → (S j).r ≠ 0) :
    dirSpan A At dot b x0 k = krylov A (S 0).r k := by
  apply le_antisymm (dirSpan_le_krylov At b x0 k)
  apply Submodule.span_le.mpr
  rintro _ ⟨m, hm, rfl⟩
  exact dirSpan_mono At b x0 (by have : m < k := hm; omega) (pow_mem_dirSpan At b x0 h k hr m hm)

theorem energy_optimal (h : SPD A dot) (xs : V) (hxs : A xs = b) (k : ℕ)
    (hr : ∀ j, j < k → (S j).r ≠ 0) :
    (S k).x - x0 ∈ krylov A (b - A x0) k ∧
      ∀ y, y - x0 ∈ krylov A (b - A x0) k → energy A dot xs (S k).x ≤ energy A dot xs y := by
  have e := dirSpan_eq_krylov At b x0 h k hr
  rw [st_zero_r] at e
  rw [← e]
  exact ⟨x_mem_dirSpan At b x0 k, fun y hy =>
    energy_optimal_dir At b x0 h xs hxs k (inv_of_nonzero At b x0 h k hr) y hy⟩


theorem cgRun_inv (h : SPD A dot) (tol : ℝ) (htol : 0 ≤ tol) (k : ℕ) (s : CGState ℝ V)
    (hs : cgRun (cgOps A At dot) b x0 tol k = some s) :
    s = S k ∧ (∀ j, j ≤ k → (S j).r ≠ 0) ∧ Inv A At dot b x0 k := by
  obtain ⟨e, hf⟩ := cgRun_eq_seq (cgOps A At dot) b x0 tol k s hs
  have hne : ∀ j, j ≤ k → (S j).r ≠ 0 := fun j hj =>
    nonzero_of_test_fails At b x0 h tol htol j (hf j hj)
  exact ⟨e, hne, inv_of_nonzero At b x0 h k (fun j hj => hne j (by omega))⟩

theorem cgRun_orthogonality (h : SPD A dot) (tol : ℝ) (htol : 0 ≤ tol) :
    (∀ i j si sj, i < j → cgRun (cgOps A At dot) b x0 tol i = some si → cgRun (cgOps A At dot) b x0 tol j = some sj →
      dot si.r sj.r = 0 ∧ (1 ≤ i → dot si.p (A sj.p) = 0) ∧ dot sj.r si.p = 0) ∧
    (∀ k sk, cgRun (cgOps A At dot) b x0 tol k = some sk →
      sk.r = b - A sk.x ∧ 0 < dot sk.r sk.r ∧ dot sk.r sk.p = 0 ∧
      (1 ≤ k → sk.p ≠ 0 ∧ 0 < dot sk.p (A sk.p))) := by
  constructor
  · intro i j si sj hij hi hj
    obtain ⟨ei, _, _⟩ := cgRun_inv At b x0 h tol htol i si hi
    obtain ⟨ej, _, hinv⟩ := cgRun_inv At b x0 h tol htol j sj hj
    subst ei ej
    exact ⟨hinv.r_orth At b x0 h i hij, fun _ => hinv.conj i hij, hinv.orth i hij.le⟩
  · intro k sk hk
    obtain ⟨ek, hne, hinv⟩ := cgRun_inv At b x0 h tol htol k sk hk
    subst ek
    refine ⟨st_true_residual A At dot b x0 k, h.pos _ (hne k le_rfl), hinv.orth k le_rfl, ?_⟩
    intro hk1
    have hpos := hinv.pos hk1
    exact ⟨h.ne_zero_of_pos hpos, hpos⟩

theorem cgRun_divisors (h : SPD A dot) (tol : ℝ) (htol : 0 ≤ tol) (k : ℕ) (sk : CGState ℝ V)
    (hk : cgRun (cgOps A At dot) b x0 tol k = some sk) :
    0 < sk.rho1 ∧
    (∀ s', cgRun (cgOps A At dot) b x0 tol (k + 1) = some s' → s'.rho1 = dot sk.r sk.r) ∧
    cgDir (cgOps A At dot) (k + 1) sk.r sk.p (dot sk.r sk.r) sk.rho1 ≠ 0 ∧
    0 < dot (cgDir (cgOps A At dot) (k + 1) sk.r sk.p (dot sk.r sk.r) sk.rho1)
          (A (cgDir (cgOps A At dot) (k + 1) sk.r sk.p (dot sk.r sk.r) sk.rho1)) := by
  obtain ⟨ek, hne, hinv⟩ := cgRun_inv At b x0 h tol htol k sk hk
  subst ek
  refine ⟨rho1_pos At b x0 h k (fun j hj => hne j (by omega)), ?_, ?_⟩
  · intro s' hs'
    obtain ⟨e', _, _⟩ := cgRun_inv At b x0 h tol htol (k + 1) s' hs'
    subst e'
    rfl
  · exact next_dir_pos At b x0 h k hinv (hne k le_rfl)

theorem cgRun_stops (h : SPD A dot) [Module.Finite ℝ V] (n : ℕ)
    (hn : Module.finrank ℝ V ≤ n) (tol : ℝ) (htol : 0 ≤ tol) : cgRun (cgOps A At dot) b x0 tol n = none := by
  cases hc : cgRun (cgOps A At dot) b x0 tol n with
  | none => rfl
  | some s =>
    obtain ⟨_, hne, _⟩ := cgRun_inv At b x0 h tol htol n s hc
    obtain ⟨k, hk, hz⟩ := exists_zero_residual At b x0 h n hn
    exact absurd hz (hne k hk)

theorem cgRun_energy_decrease (h : SPD A dot) (tol : ℝ) (htol : 0 ≤ tol) (xs : V) (hxs : A xs = b)
    (k : ℕ) (sk : CGState ℝ V) (hk : cgRun (cgOps A At dot) b x0 tol k = some sk) :
    (∀ s', cgStep (cgOps A At dot) (guardNorm (Real.sqrt (dot b b))) tol (k + 1) sk = .cont s' →
      energy A dot xs s'.x < energy A dot xs sk.x) ∧
    (∀ out, cgStep (cgOps A At dot) (guardNorm (Real.sqrt (dot b b))) tol (k + 1) sk = .done out →
      energy A dot xs out.x < energy A dot xs sk.x) := by
  obtain ⟨ek, hne, hinv⟩ := cgRun_inv At b x0 h tol htol k sk hk
  subst ek
  have hdec := energy_decrease At b x0 h xs hxs k hne
  have hstep : (cgStep (cgOps A At dot) (guardNorm (Real.sqrt (dot b b))) tol (k + 1) (S k)).Sat
      (fun s' => energy A dot xs s'.x < energy A dot xs (S k).x)
      (fun out => energy A dot xs out.x < energy A dot xs (S k).x) := by
    rw [cgStep_eq_next]
    exact .ite (fun _ => hdec) (fun _ => hdec)
  exact ⟨fun _ => hstep.of_cont, fun _ => hstep.of_done⟩

theorem cgRun_optimal (h : SPD A dot) (tol : ℝ) (htol : 0 ≤ tol) (xs : V) (hxs : A xs = b)
    (k : ℕ) (sk : CGState ℝ V) (hk : cgRun (cgOps A At dot) b x0 tol k = some sk) :
    sk.x - x0 ∈ krylov A (b - A x0) k ∧
      ∀ y, y - x0 ∈ krylov A (b - A x0) k → energy A dot xs sk.x ≤ energy A dot xs y := by
  obtain ⟨ek, hne, hinv⟩ := cgRun_inv At b x0 h tol htol k sk hk
  subst ek
  exact energy_optimal At b x0 h xs hxs k (fun j hj => hne j (by omega))

end Exact

end Ohsl.CGTheory
