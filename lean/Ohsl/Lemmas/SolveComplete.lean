/-
  Ohsl.Lemmas.SolveComplete — completeness of the dense direct solvers over an exact field:
  a nonsingular system is never refused.  (That a returned value certifies nonsingularity is part
  of `solveBasic_spec` / `solveLU_spec`, Ohsl/Lemmas/SolveSound.lean.)

  Class (E): `K` a field with `Alg.PivotLaws` (`divM` fails exactly on a zero divisor, the pivot
  searches compare a size in a linear order); linearly ordered fields with `Alg.scalarExt` and the
  model's `Cx ℝ` are instances.
-/
import Ohsl.Lemmas.SolveSound
namespace Ohsl
namespace Mat
variable {K : Type} [Field K]

theorem maxAbsInColumn_max [BEq K] [ScalarExt K] [Alg.PivotLaws K]
    {m : Mat K} {n k : Nat} (hm : WFn m n) (hk : k < n) :
    ∃ p, maxAbsInColumn m k k = .ok p ∧
      (ent m p k = 0 → ∀ i, k ≤ i → i < n → ent m i k = 0) := by
  obtain ⟨⟨idx, mx⟩, hs, _, _, u, _, hdom, hcase⟩ := pivotSearch_gen
    (Alg.PivotLaws.size (K := K)) Alg.PivotLaws.lt_mag Alg.PivotLaws.mag_zero
    Alg.PivotLaws.size_zero_le (σ := Nat × K) Prod.fst Prod.snd
    (fun i a => (i, a)) (fun _ _ => rfl) (fun _ _ => rfl) (fun t => ent m t k) hk
    (fun (idx, mx) i => do
      let x ← m.get i k
      let ax := ScalarExt.mag x
      if ScalarExt.lt mx ax then pure (i, ax) else pure (idx, mx))
    (fun s t _ ht => by
      simp only [hm.get ht hk, bind, Except.bind]
      split <;> rfl)
  refine ⟨idx, ?_, fun hz i hi1 hi2 => ?_⟩
  · simp only [maxAbsInColumn, hm.2.1, bind, Except.bind, pure, Except.pure] at hs ⊢
    rw [hs]
  · -- the dominating `u` is `0` or the entry found, which is zero
    have hu0 : u = 0 := by
      rcases hcase with ⟨h0, _⟩ | ⟨_, hv⟩
      · exact h0
      · rw [hv]; exact hz
    have := hdom i hi1 hi2
    rw [hu0] at this
    exact (Alg.size_le_zero_iff _).1 this

/-- **`gauss_with_pivot` never fails on a nonsingular matrix**: the search maximises the size, so
    a zero entry in the row it returns means a zero pivot column, hence — in echelon shape — a
    zero determinant -/
theorem gauss_total [BEq K] [ScalarExt K] [Alg.PivotLaws K]
    {n : Nat} (hn : 1 ≤ n) {A : Mat K} {a : Nat → Nat → K} (hA : Is A n n a) {b : Array K}
    (hb : b.size = n) (hdet : (toMat n a).det ≠ 0) :
    ∃ s, gaussWithPivot A b = .ok s ∧ GaussInv n a (vf b) (n - 1) s := by
  have hrun := gauss_run hn hA hb ((toMat n a).det = 0) fun k s p hk hinv hp hz => by
    obtain ⟨p', hp', hmax⟩ := maxAbsInColumn_max hinv.wf (Nat.lt_of_succ_lt hk)
    cases hp.symm.trans hp'
    exact hinv.det.1 (det_zero_of_good_zero_col (Nat.lt_of_succ_lt hk) hinv.good (hmax hz))
  cases hg : gaussWithPivot A b with
  | error e => exact absurd (hrun.elim_error hg).2 hdet
  | ok s => exact ⟨s, rfl, hrun.elim_ok hg⟩

/-- **completeness of `solve_basic`**: after the elimination the matrix is upper triangular with
    a non-zero determinant, so no division of the back substitution fails -/
theorem solveBasic_complete [BEq K] [ScalarExt K] [Alg.PivotLaws K]
    {n : Nat} (hn : 1 ≤ n) {A : Mat K} {a : Nat → Nat → K} (hA : Is A n n a) {b : Array K}
    (hb : b.size = n) (hdet : (toMat n a).det ≠ 0) : ∃ x, solveBasic A b = .ok x := by
  obtain ⟨s, hg, hinv⟩ := gauss_total hn hA hb hdet
  obtain ⟨x, hx⟩ := backsolve_total hinv.wf.is hinv.size hn (hinv.diag_iff.2 hdet)
  exact ⟨x, by rw [solveBasic_eq hA hb, hg]; exact hx⟩

/-- **completeness of `solve_lu`**: the diagonal of `U` has no zero -/
theorem solveLU_complete [BEq K] [LawfulBEq K] [ScalarExt K] [Alg.PivotLaws K]
    {n : Nat} (hn : 1 ≤ n) {A : Mat K} {a : Nat → Nat → K} (hA : Is A n n a) {b : Array K}
    (hb : b.size = n) (hdet : (toMat n a).det ≠ 0) : ∃ x, solveLU A b = .ok x := by
  obtain ⟨lu, w, pe, y, hw, hy, heq, _, _, hdiag, _⟩ := solveLU_eq hA hb
  rw [heq]
  exact backsolve_total hw hy hn (hdiag.2 hdet)

theorem solve_correct [BEq K] [LawfulBEq K] [ScalarExt K] [Alg.PivotLaws K]
    {n : Nat} (hn : 1 ≤ n) {A : Mat K} {a : Nat → Nat → K} (hA : Is A n n a) {b : Array K}
    (hb : b.size = n) (hdet : (toMat n a).det ≠ 0) :
    ∃ x, solveBasic A b = .ok x ∧ solveLU A b = .ok x ∧ x.size = n ∧ Sol n a (vf b) (vf x) ∧
      ∀ z, Sol n a (vf b) z → ∀ j, j < n → z j = vf x j := by
  obtain ⟨x, hx⟩ := solveBasic_complete hn hA hb hdet
  obtain ⟨x', hx'⟩ := solveLU_complete hn hA hb hdet
  cases solvers_agree hn hA hb hx hx'
  obtain ⟨hs, hsol, _, huniq⟩ := solveBasic_spec hn hA hb hx
  exact ⟨x, hx, hx', hs, hsol, huniq⟩

theorem solve_eq_of_sol [BEq K] [LawfulBEq K] [ScalarExt K] [Alg.PivotLaws K]
    {n : Nat} (hn : 1 ≤ n) {A : Mat K} {a : Nat → Nat → K} (hA : Is A n n a) {b y : Array K}
    (hb : b.size = n) (hdet : (toMat n a).det ≠ 0) (hy : y.size = n)
    (hsol : Sol n a (vf b) (vf y)) : solveBasic A b = .ok y ∧ solveLU A b = .ok y := by
  obtain ⟨x, h1, h2, hs, -, huniq⟩ := solve_correct hn hA hb hdet
  have : y = x := by
    apply Array.ext (hy.trans hs.symm)
    intro j h _
    have := huniq _ hsol j (hy ▸ h)
    simpa [vf, h, hs ▸ hy ▸ h] using this
  subst this
  exact ⟨h1, h2⟩

end Mat
end Ohsl
