/-
  Ohsl.Lemmas.SparseLookup — the entry a compressed-sparse-column storage holds at a position, read
  off its triplet list.  `Sp.lookup ts i j` is the value of the FIRST triplet of `ts` at `(i, j)`.  On
  `Sp.trips s` it is what `get` returns, for every storage, also one that stores a position twice;
  `from_triplets`, `insert`, `scale`, `transpose` act on it as on a partial function matrix.  The
  storage enters through `trips` only: the rest is `List.find?`.  Class (S): any scalar type.
-/
import Ohsl.Lemmas.SparseWF
namespace Ohsl
namespace Sp
variable {K : Type}

/-- the value of the first triplet of the list at position `(i, j)` -/
def lookup (ts : List (Nat × Nat × K)) (i j : Nat) : Option K :=
  (ts.find? (fun t => t.1 == i && t.2.1 == j)).map (·.2.2)

theorem lookup_cons (t : Nat × Nat × K) (ts : List (Nat × Nat × K)) (i j : Nat) :
    lookup (t :: ts) i j = if t.1 = i ∧ t.2.1 = j then some t.2.2 else lookup ts i j := by
  unfold lookup
  rw [List.find?_cons]
  by_cases h : t.1 = i ∧ t.2.1 = j
  · rw [if_pos h, show (t.1 == i && t.2.1 == j) = true by
      simp only [h.1, h.2, beq_self_eq_true, Bool.and_self]]
    rfl
  · rw [if_neg h, show (t.1 == i && t.2.1 == j) = false from
      Bool.eq_false_iff.mpr fun hb => h (by simpa only [Bool.and_eq_true, beq_iff_eq] using hb)]

/-- inserting by column moves `t` only past triplets of smaller column, none of which is at the
    position of `t` -/
theorem find?_insByCol (t : Nat × Nat × K) (i j : Nat) : ∀ l : List (Nat × Nat × K),
    (insByCol t l).find? (fun t => t.1 == i && t.2.1 == j) =
      (t :: l).find? (fun t => t.1 == i && t.2.1 == j)
  | [] => rfl
  | u :: us => by
    unfold insByCol
    split
    · rfl
    · rename_i hlt
      rw [List.find?_cons, find?_insByCol t i j us]
      simp only [List.find?_cons]
      cases ht : (t.1 == i && t.2.1 == j) <;> cases hu : (u.1 == i && u.2.1 == j) <;> try rfl
      -- both at `(i, j)`: same column, against `hlt`
      simp only [Bool.and_eq_true, beq_iff_eq] at ht hu
      exact absurd (Nat.le_of_eq (ht.2.trans hu.2.symm)) hlt

theorem lookup_sortByCol : ∀ ts : List (Nat × Nat × K), lookup (sortByCol ts) = lookup ts
  | [] => rfl
  | t :: ts => by
    funext i j
    rw [show sortByCol (t :: ts) = insByCol t (sortByCol ts) from rfl,
      show lookup (insByCol t (sortByCol ts)) i j = lookup (t :: sortByCol ts) i j from
        congrArg (Option.map _) (find?_insByCol t i j _),
      lookup_cons, lookup_cons, lookup_sortByCol ts]

theorem lookup_swap (ts : List (Nat × Nat × K)) (i j : Nat) :
    lookup (ts.map swapT) i j = lookup ts j i := by
  rw [lookup, List.find?_map, Option.map_map, lookup]
  have e : ((fun t : Nat × Nat × K => t.1 == i && t.2.1 == j) ∘ swapT) =
      fun t => t.1 == j && t.2.1 == i := by
    funext t; exact Bool.and_comm _ _
  rw [e]
  rfl

theorem lookup_append_new {ts : List (Nat × Nat × K)} {i j : Nat} (v : K)
    (hnew : lookup ts i j = none) (a b : Nat) :
    lookup (ts ++ [(i, j, v)]) a b = if a = i ∧ b = j then some v else lookup ts a b := by
  unfold lookup at *
  rw [List.find?_append]
  by_cases hab : a = i ∧ b = j
  · obtain ⟨rfl, rfl⟩ := hab
    rw [if_pos ⟨rfl, rfl⟩, Option.map_eq_none_iff.mp hnew]
    simp
  · rw [if_neg hab]
    have : ([(i, j, v)].find? fun t => t.1 == a && t.2.1 == b) = none := by
      rw [List.find?_singleton, if_neg]
      intro hc
      simp only [Bool.and_eq_true, beq_iff_eq] at hc
      exact hab ⟨hc.1.symm, hc.2.symm⟩
    rw [this, Option.or_none]

section Storage
variable [Zero K]

theorem firstSlot_vl_eq_lookup (s : Sp K) (i j : Nat) :
    (firstSlot s i j).map s.vl = lookup (trips s) i j := by
  rw [lookup, trips, List.find?_map, Option.map_map, firstSlot, ← find?_range]
  rfl

theorem WF.get_lookup {s : Sp K} (h : WF s) {row col : Nat} (hr : row < s.rows) (hc : col < s.cols) :
    get s row col = .ok (lookup (trips s) row col) :=
  (h.get_spec hr hc).trans (congrArg _ (firstSlot_vl_eq_lookup s row col))

theorem lookup_trips_map {K' : Type} [Zero K'] {s : Sp K} (hv : s.val.size = s.nonzero) (f : K → K')
    (i j : Nat) :
    lookup (trips (⟨s.rows, s.cols, s.nonzero, s.val.map f, s.rowIndex, s.colStart⟩ : Sp K')) i j =
      (lookup (trips s) i j).map f := by
  rw [← firstSlot_vl_eq_lookup, ← firstSlot_vl_eq_lookup]
  show (firstSlot s i j).map _ = _
  cases hfs : firstSlot s i j with
  | none => rfl
  | some k => exact congrArg some (vl_map s f (hv ▸ (firstSlot_eq_some.mp hfs).1))

/-- `insert` at an in-range position sets that position and no other: a stored position is
    overwritten in its FIRST slot, the one `get` reads; otherwise the triplet is appended and the
    stable sort keeps every first triplet first -/
theorem WF.insert_lookup {s : Sp K} (h : WF s) {i j : Nat} (hi : i < s.rows) (hj : j < s.cols)
    (v : K) :
    ∃ s', insert s i j v = .ok s' ∧ WF s' ∧ s'.rows = s.rows ∧ s'.cols = s.cols ∧
      ∀ a b, lookup (trips s') a b = if a = i ∧ b = j then some v else lookup (trips s) a b := by
  cases hf : firstSlot s i j with
  | some k =>
    -- same structure (so the same slot search), one value changes
    obtain ⟨hk, ⟨p1, p2⟩, _⟩ := firstSlot_eq_some.mp hf
    have hk' : k < s.val.size := h.valSize ▸ hk
    refine ⟨_, h.insert_hit hi hj v hf, h.with_val _ (Array.size_setIfInBounds ..), rfl, rfl,
      fun a b => ?_⟩
    rw [← firstSlot_vl_eq_lookup, ← firstSlot_vl_eq_lookup]
    show (firstSlot s a b).map (Sp.vl { s with val := s.val.setIfInBounds k v }) = _
    by_cases hab : a = i ∧ b = j
    · obtain ⟨rfl, rfl⟩ := hab
      rw [hf, if_pos ⟨rfl, rfl⟩, Option.map_some, vl_set s v hk', if_pos rfl]
    · rw [if_neg hab]
      cases hfs : firstSlot s a b with
      | none => rfl
      | some k' =>
        obtain ⟨_, ⟨q1, q2⟩, _⟩ := firstSlot_eq_some.mp hfs
        have hne : ¬ k' = k := fun e => hab ⟨(e ▸ q1).symm.trans p1, (e ▸ q2).symm.trans p2⟩
        rw [Option.map_some, Option.map_some, vl_set s v hk', if_neg hne]
  | none =>
    have hin : ∀ t, t ∈ trips s ++ [(i, j, v)] → t.1 < s.rows ∧ t.2.1 < s.cols := fun t ht =>
      (List.mem_append.mp ht).elim (h.trips_inRange t)
        fun ht => List.mem_singleton.mp ht ▸ ⟨hi, hj⟩
    obtain ⟨s', h1, h2, h3, h4, _, h6⟩ := fromTriplets_ok s.rows s.cols _ hin
    refine ⟨s', (h.insert_miss hi hj v hf).trans h1, h2, h3, h4, fun a b => ?_⟩
    rw [h6, lookup_sortByCol]
    exact lookup_append_new v ((firstSlot_vl_eq_lookup s i j).symm.trans (congrArg _ hf)) a b

theorem WF.transpose_lookup {s : Sp K} (h : WF s) :
    ∃ t, transpose s = .ok t ∧ WF t ∧ t.rows = s.cols ∧ t.cols = s.rows ∧
      ∀ i j, lookup (trips t) i j = lookup (trips s) j i := by
  obtain ⟨t, h1, h2, h3, h4, _, h6⟩ := h.transpose_trips
  exact ⟨t, h1, h2, h3, h4, fun i j => by rw [h6, lookup_sortByCol, lookup_swap]⟩

end Storage

end Sp
end Ohsl
