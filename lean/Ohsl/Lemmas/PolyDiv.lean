/-
  Ohsl.Lemmas.PolyDiv — helper lemmas for property C12 (polynomial long division,
  model: Ohsl/Model/Poly.lean `divStep`, `divLoop`, `polydiv`).

  The facts for any scalar type (`trimA`, the closed form of one division step, the size of the
  remainder drops in every step) are in `Ohsl/Lemmas/PolyArr.lean`.
  Here: `toPoly` (the same definition as `Ohsl.PolyAlg.toPoly`, whose compatibility with
  `add`, `sub`, `mul` is C11P), degrees, `trim` and `isZero` for a lawful `==`, and the remainder of
  one division step over a field.
-/
import Ohsl.Props.C11P
import Mathlib.Algebra.Polynomial.Degree.Defs
import Mathlib.Algebra.Polynomial.FieldDivision
import Mathlib.Tactic.Ring
namespace Ohsl.PolyDiv
open Ohsl Ohsl.Poly

section Exact
open Polynomial

/-- coefficient array (lowest degree first) ↦ `Σ_i C cs[i] * X^i` -/
noncomputable def toPoly {K : Type} [Semiring K] (cs : Array K) : Polynomial K :=
  ∑ i ∈ Finset.range cs.size, C (cs[i]?.getD 0) * X ^ i

section Semi
variable {K : Type} [Semiring K]

theorem coeff_toPoly (cs : Array K) (k : Nat) : (toPoly cs).coeff k = cs[k]?.getD 0 :=
  PolyAlg.coeff_toPoly cs k

theorem toPoly_ext {a b : Array K} (h : ∀ k : Nat, a[k]?.getD 0 = b[k]?.getD 0) :
    toPoly a = toPoly b :=
  PolyAlg.toPoly_ext h

@[simp] theorem toPoly_empty : toPoly (#[] : Array K) = 0 := PolyAlg.toPoly_empty

theorem toPoly_add (p q : Array K) : toPoly (add p q) = toPoly p + toPoly q :=
  Ohsl.Props.C11.add_spec p q

theorem toPoly_mul (p q : Array K) : toPoly (mul p q) = toPoly p * toPoly q :=
  Ohsl.Props.C11.mul_spec p q

theorem toPoly_stepT (k : Nat) (c : K) : toPoly (stepT k c) = C c * X ^ k := by
  ext j
  rw [coeff_toPoly, coeff_C_mul_X_pow, stepT_getD]

theorem toPoly_stepQ0 (v q r : Array K) (c : K) :
    toPoly (stepQ0 v q r c) = toPoly q + C c * X ^ (r.size - v.size) := by
  rw [stepQ0, toPoly_add, toPoly_stepT]

theorem degree_toPoly_lt (cs : Array K) : (toPoly cs).degree < (cs.size : WithBot ℕ) :=
  (degree_lt_iff_coeff_zero _ _).2 (fun m hm => by
    rw [coeff_toPoly, Array.getElem?_eq_none hm]; rfl)

theorem le_degree_toPoly (v : Array K) (hlead : v[v.size - 1]?.getD 0 ≠ 0) :
    ((v.size - 1 : ℕ) : WithBot ℕ) ≤ (toPoly v).degree :=
  le_degree_of_ne_zero (by rwa [coeff_toPoly])

theorem toPoly_ne_zero_of_lead (v : Array K) (hlead : v[v.size - 1]?.getD 0 ≠ 0) : toPoly v ≠ 0 := by
  intro e; apply hlead; rw [← coeff_toPoly, e, coeff_zero]

/-- the exit condition of the division loop in terms of degrees (`degree 0 = ⊥`) -/
theorem degree_lt_of_exit (v r : Array K) (hlead : v[v.size - 1]?.getD 0 ≠ 0)
    (h : toPoly r = 0 ∨ r.size < v.size) : (toPoly r).degree < (toPoly v).degree := by
  rcases h with h | h
  · rw [h, degree_zero]
    exact bot_lt_iff_ne_bot.2 (fun e => toPoly_ne_zero_of_lead v hlead (degree_eq_bot.1 e))
  · calc (toPoly r).degree < (r.size : WithBot ℕ) := degree_toPoly_lt r
      _ ≤ ((v.size - 1 : ℕ) : WithBot ℕ) := by exact_mod_cast (by omega : r.size ≤ v.size - 1)
      _ ≤ _ := le_degree_toPoly v hlead

end Semi

theorem toPoly_sub {K : Type} [Ring K] (p q : Array K) : toPoly (sub p q) = toPoly p - toPoly q :=
  Ohsl.Props.C11.sub_spec p q

theorem div_mod_unique {K : Type} [Field K] (u v q r : Polynomial K) (hv : v ≠ 0)
    (h : u = q * v + r) (hd : r.degree < v.degree) : q = u / v ∧ r = u % v := by
  have hr : u % v = r := by
    rw [h, Polynomial.add_mod, EuclideanDomain.mod_eq_zero.2 (dvd_mul_left v q), zero_add, (mod_eq_self_iff hv).2 hd]
  have := EuclideanDomain.div_add_mod u v
  rw [hr] at this
  have h2 : v * (u / v) = v * q := by
    have : v * (u / v) + r = v * q + r := by rw [this, h]; ring
    exact add_right_cancel this
  exact ⟨(mul_left_cancel₀ hv h2).symm, hr.symm⟩

section Lawful

variable {K : Type} [Ring K] [BEq K] [LawfulBEq K]

theorem toPoly_trimA (p : Array K) : toPoly (trimA p) = toPoly p :=
  toPoly_ext (getD_trimA p)

theorem isZero_iff (p : Array K) : isZero p = true ↔ toPoly p = 0 :=
  (isZero_iff_getD p).trans
    ⟨fun h => by ext k; rw [coeff_toPoly, h k, coeff_zero],
      fun h k => by rw [← coeff_toPoly, h, coeff_zero]⟩

theorem isZero_false_iff (p : Array K) : isZero p = false ↔ toPoly p ≠ 0 := by
  rw [Ne, ← isZero_iff]; cases isZero p <;> simp

end Lawful

section Field
variable {K : Type} [Field K]

/-- the multiplier `r_lead / v_lead` cancels the leading coefficient, which `stepR0` then sets to
the literal zero: the un-trimmed new remainder is `r − c·X^k·v` -/
theorem toPoly_stepR0 (v r : Array K) (hv : 1 ≤ v.size) (hr : v.size ≤ r.size)
    (hlv : v[v.size - 1]'(by omega) ≠ 0) :
    toPoly (stepR0 v r (r[r.size - 1]'(by omega) / v[v.size - 1]'(by omega))) =
      toPoly r - C (r[r.size - 1]'(by omega) / v[v.size - 1]'(by omega)) *
        X ^ (r.size - v.size) * toPoly v := by
  set c := r[r.size - 1]'(by omega) / v[v.size - 1]'(by omega) with hc
  rw [← toPoly_stepT, ← toPoly_mul, ← toPoly_sub]
  apply toPoly_ext
  intro j
  rw [stepR0, Array.getElem?_setIfInBounds]
  by_cases hj : r.size - 1 = j
  · subst hj
    rw [if_pos rfl, if_pos (by rw [stepSub_size v r c hv hr]; omega)]
    rw [← coeff_toPoly, toPoly_sub, toPoly_mul, toPoly_stepT, coeff_sub, mul_assoc, coeff_C_mul,
      coeff_X_pow_mul', if_pos (by omega), coeff_toPoly, coeff_toPoly]
    have e : r.size - 1 - (r.size - v.size) = v.size - 1 := tsub_tsub_tsub_cancel_left hr
    rw [e, Array.getElem?_eq_getElem (by omega), Array.getElem?_eq_getElem (by omega)]
    simp only [Option.getD_some, hc]
    rw [div_mul_cancel₀ _ hlv, sub_self]
  · rw [if_neg hj]

end Field
end Exact
end Ohsl.PolyDiv
