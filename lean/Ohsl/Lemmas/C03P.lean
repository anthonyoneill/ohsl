/-
  Ohsl.Lemmas.C03P — real-analysis and list helpers for `Ohsl/Props/C03P.lean` (rounding of the
  entrywise matrix `p`-norm): sums over the row-major index list of an `r × c` matrix
  (Lemmas/IdxList.lean) as double `Finset` sums; the effect of a perturbed EXPONENT on a real power
  (`S ^ q'` against `S ^ q` for `S` in a range `[R⁻¹, R]`); and the real-variable core of the
  rounding bounds: one rounded power of a perturbed sum.
-/
import Ohsl.Lemmas.Rounding
import Ohsl.Lemmas.IdxList
import Mathlib.Analysis.SpecialFunctions.Pow.Real
import Mathlib.Algebra.BigOperators.Intervals
import Mathlib.Algebra.Order.BigOperators.Group.Finset
import Mathlib.Tactic.Ring
import Mathlib.Tactic.Linarith

namespace Ohsl.C03P

theorem sum_idx (r c : Nat) (g : Nat × Nat → ℝ) :
    ((idx r c).map g).sum = ∑ i ∈ Finset.range r, ∑ j ∈ Finset.range c, g (i, j) := by
  induction r with
  | zero => simp [idx_zero]
  | succ r ih =>
    rw [idx_succ, List.map_append, List.sum_append, ih, Finset.sum_range_succ, List.map_map,
      sum_map_range]
    rfl

theorem rpow_le_of_range {S R t d : ℝ} (hR : 1 ≤ R) (hlo : R⁻¹ ≤ S) (hhi : S ≤ R)
    (ht : |t| ≤ d) : S ^ t ≤ R ^ d := by
  have hRpos : 0 < R := lt_of_lt_of_le zero_lt_one hR
  have hS : 0 < S := lt_of_lt_of_le (inv_pos.mpr hRpos) hlo
  obtain ⟨ht1, ht2⟩ := abs_le.mp ht
  by_cases h0 : 0 ≤ t
  · exact (Real.rpow_le_rpow hS.le hhi h0).trans (Real.rpow_le_rpow_of_exponent_le hR ht2)
  · have h0 := not_le.mp h0
    have hinv : S⁻¹ ≤ R := inv_le_of_inv_le₀ hRpos hlo
    have e : S ^ t = S⁻¹ ^ (-t) := by
      rw [Real.inv_rpow hS.le, ← Real.rpow_neg hS.le, neg_neg]
    rw [e]
    exact (Real.rpow_le_rpow (inv_nonneg.mpr hS.le) hinv (neg_nonneg.mpr h0.le)).trans
      (Real.rpow_le_rpow_of_exponent_le hR (neg_le.mp ht1))

/-- without a range for `S` no such bound exists: `S ^ (q' − q) = exp ((q' − q) log S)` is
unbounded in `S` -/
theorem rpow_exponent_perturb {S R q q' d : ℝ} (hR : 1 ≤ R) (hlo : R⁻¹ ≤ S) (hhi : S ≤ R)
    (hq : |q' - q| ≤ d) :
    R ^ (-d) * S ^ q ≤ S ^ q' ∧ S ^ q' ≤ R ^ d * S ^ q := by
  have hRpos : 0 < R := lt_of_lt_of_le zero_lt_one hR
  have hS : 0 < S := lt_of_lt_of_le (inv_pos.mpr hRpos) hlo
  have hSq : 0 < S ^ q := Real.rpow_pos_of_pos hS q
  have e : S ^ q' = S ^ (q' - q) * S ^ q := by
    rw [← Real.rpow_add hS]; congr 1; ring
  have h1 : S ^ (q' - q) ≤ R ^ d := rpow_le_of_range hR hlo hhi hq
  have h2 : S ^ (-(q' - q)) ≤ R ^ d := rpow_le_of_range hR hlo hhi (by rwa [abs_neg])
  have hRd : 0 < R ^ d := Real.rpow_pos_of_pos hRpos d
  have hpos : 0 < S ^ (q' - q) := Real.rpow_pos_of_pos hS _
  have h3 : R ^ (-d) ≤ S ^ (q' - q) := by
    rw [Real.rpow_neg hRpos.le, Real.rpow_neg hS.le] at *
    exact inv_le_of_inv_le₀ hpos h2
  rw [e]
  exact ⟨mul_le_mul_of_nonneg_right h3 hSq.le, mul_le_mul_of_nonneg_right h1 hSq.le⟩

theorem one_add_rpow_le {g q : ℝ} (hg : 0 ≤ g) (hq1 : q ≤ 1) : (1 + g) ^ q ≤ 1 + g := by
  have := Real.rpow_le_rpow_of_exponent_le (le_add_of_nonneg_right hg) hq1
  rwa [Real.rpow_one] at this

theorem one_sub_le_rpow {g q : ℝ} (hg1 : g ≤ 1) (hg : 0 ≤ g) (hq0 : 0 ≤ q) (hq1 : q ≤ 1) :
    1 - g ≤ (1 - g) ^ q := by
  have := Real.rpow_le_rpow_of_exponent_ge' (sub_nonneg.mpr hg1) (sub_le_self 1 hg) hq0 hq1
  rwa [Real.rpow_one] at this

theorem rpow_rounded_bounds {S s w u g q : ℝ} (hu0 : 0 ≤ u) (hu : u ≤ 1) (hg0 : 0 ≤ g)
    (hg : g ≤ 1) (hq : 0 ≤ q) (hS : 0 ≤ S) (hs : |s - S| ≤ g * S) (hw : |w - s ^ q| ≤ u * |s ^ q|) :
    (1 - u) * (1 - g) ^ q * S ^ q ≤ w ∧ w ≤ (1 + u) * (1 + g) ^ q * S ^ q := by
  obtain ⟨hlo, hhi⟩ := rel_bounds hs
  have hg1 : 0 ≤ 1 - g := sub_nonneg.mpr hg
  have hs0 : 0 ≤ s := (mul_nonneg hg1 hS).trans hlo
  rw [abs_of_nonneg (Real.rpow_nonneg hs0 q)] at hw
  obtain ⟨hw1, hw2⟩ := rel_bounds hw
  have h1 := Real.rpow_le_rpow (mul_nonneg hg1 hS) hlo hq
  have h2 := Real.rpow_le_rpow hs0 hhi hq
  rw [Real.mul_rpow hg1 hS] at h1
  rw [Real.mul_rpow (add_nonneg zero_le_one hg0) hS] at h2
  rw [mul_assoc, mul_assoc]
  exact ⟨(mul_le_mul_of_nonneg_left h1 (sub_nonneg.mpr hu)).trans hw1,
    hw2.trans (mul_le_mul_of_nonneg_left h2 (add_nonneg zero_le_one hu0))⟩

theorem rpow_bounds_perturb_exponent {S R w u g q q0 Q d : ℝ} (hu0 : 0 ≤ u) (hu : u ≤ 1)
    (hg0 : 0 ≤ g) (hg : g ≤ 1) (hq : 0 ≤ q) (hqQ : q ≤ Q) (hR : 1 ≤ R) (hlo : R⁻¹ ≤ S)
    (hhi : S ≤ R) (hd : |q - q0| ≤ d) (hl : (1 - u) * (1 - g) ^ q * S ^ q ≤ w)
    (hh : w ≤ (1 + u) * (1 + g) ^ q * S ^ q) :
    (1 - u) * (1 - g) ^ Q * R ^ (-d) * S ^ q0 ≤ w ∧
      w ≤ (1 + u) * (1 + g) ^ Q * R ^ d * S ^ q0 := by
  obtain ⟨hp1, hp2⟩ := rpow_exponent_perturb hR hlo hhi hd
  have hR0 : 0 ≤ R := zero_le_one.trans hR
  have hS : 0 ≤ S := (inv_nonneg.mpr hR0).trans hlo
  have hg1 : 0 ≤ 1 - g := sub_nonneg.mpr hg
  have ha : (1 + g) ^ q ≤ (1 + g) ^ Q := Real.rpow_le_rpow_of_exponent_le (le_add_of_nonneg_right hg0) hqQ
  have hb : (1 - g) ^ Q ≤ (1 - g) ^ q :=
    Real.rpow_le_rpow_of_exponent_ge' hg1 (sub_le_self 1 hg0) hq hqQ
  constructor
  · refine le_trans ?_ hl
    rw [mul_assoc, mul_assoc, mul_assoc]
    exact mul_le_mul_of_nonneg_left (mul_le_mul hb hp1
      (mul_nonneg (Real.rpow_nonneg hR0 _) (Real.rpow_nonneg hS _)) (Real.rpow_nonneg hg1 _))
      (sub_nonneg.mpr hu)
  · refine hh.trans ?_
    rw [mul_assoc, mul_assoc, mul_assoc]
    exact mul_le_mul_of_nonneg_left (mul_le_mul ha hp2 (Real.rpow_nonneg hS _)
      (Real.rpow_nonneg (add_nonneg zero_le_one hg0) _)) (add_nonneg zero_le_one hu0)

/-- for an exponent `q ∈ [0, 1]` the factors `(1 ± g)^q` are within `1 ± g` -/
theorem abs_sub_le_of_rpow_bounds {v N u g q : ℝ} (hu0 : 0 ≤ u) (hu : u ≤ 1) (hg0 : 0 ≤ g)
    (hg : g ≤ 1) (hq0 : 0 ≤ q) (hq1 : q ≤ 1) (hN : 0 ≤ N)
    (hl : (1 - u) * (1 - g) ^ q * N ≤ v) (hh : v ≤ (1 + u) * (1 + g) ^ q * N) :
    |v - N| ≤ ((1 + u) * g + u) * N := by
  refine (abs_sub_le_of_two_sided hN hl hh).trans
    (mul_le_mul_of_nonneg_right (max_le ?_ ?_) hN)
  · have := mul_le_mul_of_nonneg_left (one_add_rpow_le hg0 hq1) (add_nonneg zero_le_one hu0)
    linarith
  · have := mul_le_mul_of_nonneg_left (one_sub_le_rpow hg hg0 hq0 hq1) (sub_nonneg.mpr hu)
    have := mul_nonneg hu0 hg0
    linarith

end Ohsl.C03P
