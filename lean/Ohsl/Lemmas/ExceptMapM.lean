/-
  Ohsl.Lemmas.ExceptMapM — `List.mapM` / `Array.mapM` in the `Except` monad of the model (`Res`):
  the loop succeeds iff every entry succeeds, and otherwise fails with the error of the first failing
  entry.
-/
import Ohsl.Model.Basic
import Mathlib.Data.List.Forall2
namespace Ohsl
variable {α β γ : Type}

theorem Res.map_eq_ok_iff (g : β → γ) (r : Res β) (c : γ) :
    r.map g = .ok c ↔ ∃ b, r = .ok b ∧ g b = c := by
  cases r with
  | error e => exact ⟨nofun, nofun⟩
  | ok b =>
    exact ⟨fun h => ⟨b, rfl, Except.ok.inj h⟩, fun ⟨_, hb, hc⟩ => Except.ok.inj hb ▸ congrArg _ hc⟩

theorem Res.map_eq_error_iff (g : β → γ) (r : Res β) (e : Err) :
    r.map g = .error e ↔ r = .error e := by
  cases r with
  | error e' => exact ⟨fun h => Except.error.inj h ▸ rfl, fun h => Except.error.inj h ▸ rfl⟩
  | ok b => exact ⟨nofun, nofun⟩

variable (f : α → Res β)

theorem mapM_cons_ok {x : α} {y : β} (h : f x = .ok y) (l : List α) :
    (x :: l).mapM f = (l.mapM f).map (y :: ·) := by
  rw [List.mapM_cons, h]
  cases l.mapM f <;> rfl

theorem mapM_cons_error {x : α} {e : Err} (h : f x = .error e) (l : List α) :
    (x :: l).mapM f = .error e := by
  rw [List.mapM_cons, h]
  rfl

theorem mapM_list_ok_iff (l : List α) (l' : List β) :
    l.mapM f = .ok l' ↔ List.Forall₂ (fun x y => f x = .ok y) l l' := by
  induction l generalizing l' with
  | nil =>
    rw [List.mapM_nil, List.forall₂_nil_left_iff]
    exact ⟨fun h => (Except.ok.inj h).symm, fun h => h ▸ rfl⟩
  | cons x l ih =>
    cases hx : f x with
    | error e =>
      rw [mapM_cons_error f hx]
      exact ⟨nofun, fun | .cons h1 _ => nomatch hx.symm.trans h1⟩
    | ok y =>
      rw [mapM_cons_ok f hx, Res.map_eq_ok_iff]
      constructor
      · rintro ⟨ys, hys, rfl⟩
        exact .cons hx ((ih ys).mp hys)
      · rintro (_ | ⟨h1, h2⟩)
        cases hx.symm.trans h1
        exact ⟨_, (ih _).mpr h2, rfl⟩

theorem mapM_list_error_iff (l : List α) (e : Err) :
    l.mapM f = .error e ↔
      ∃ k, ∃ hk : k < l.length, f l[k] = .error e ∧
        ∀ j (hj : j < k), ∃ y, f (l[j]'(Nat.lt_trans hj hk)) = .ok y := by
  induction l with
  | nil => exact ⟨nofun, fun ⟨_, hk, _⟩ => nomatch hk⟩
  | cons x l ih =>
    cases hx : f x with
    | error e' =>
      rw [mapM_cons_error f hx]
      constructor
      · rintro ⟨⟩
        exact ⟨0, Nat.succ_pos _, hx, nofun⟩
      · rintro ⟨k, hk, hke, hlt⟩
        cases k with
        | zero =>
          cases hx.symm.trans hke
          rfl
        | succ k =>
          obtain ⟨y, hy⟩ := hlt 0 (Nat.succ_pos k)
          cases hx.symm.trans hy
    | ok y =>
      rw [mapM_cons_ok f hx, Res.map_eq_error_iff, ih]
      constructor
      · rintro ⟨k, hk, hke, hlt⟩
        refine ⟨k + 1, Nat.succ_lt_succ hk, hke, fun j hj => ?_⟩
        cases j with
        | zero => exact ⟨y, hx⟩
        | succ j => exact hlt j (Nat.lt_of_succ_lt_succ hj)
      · rintro ⟨k, hk, hke, hlt⟩
        cases k with
        | zero => cases hx.symm.trans hke
        | succ k =>
          exact ⟨k, Nat.lt_of_succ_lt_succ hk, hke, fun j hj => hlt (j + 1) (Nat.succ_lt_succ hj)⟩

theorem mapM_arr_toList (a : Array α) : a.mapM f = (a.toList.mapM f).map List.toArray := by
  rw [Array.mapM_eq_mapM_toList]
  rfl

theorem mapM_arr_ok_iff (a : Array α) (c : Array β) :
    a.mapM f = .ok c ↔
      a.size = c.size ∧ ∀ k (h1 : k < a.size) (h2 : k < c.size), f a[k] = .ok c[k] := by
  rw [mapM_arr_toList, Res.map_eq_ok_iff]
  constructor
  · rintro ⟨l', hl, rfl⟩
    exact List.forall₂_iff_get.mp ((mapM_list_ok_iff f _ _).mp hl)
  · intro h
    exact ⟨c.toList, (mapM_list_ok_iff f _ _).mpr (List.forall₂_iff_get.mpr h), rfl⟩

theorem mapM_arr_error_iff (a : Array α) (e : Err) :
    a.mapM f = .error e ↔
      ∃ k, ∃ hk : k < a.size, f a[k] = .error e ∧
        ∀ j (hj : j < k), ∃ y, f (a[j]'(Nat.lt_trans hj hk)) = .ok y := by
  rw [mapM_arr_toList, Res.map_eq_error_iff]
  exact mapM_list_error_iff f a.toList e

theorem mapM_arr_error_first (a : Array α) (e : Err) (hpos : 0 < a.size) (h0 : f a[0] = .error e) :
    a.mapM f = .error e :=
  (mapM_arr_error_iff f a e).2 ⟨0, hpos, h0, nofun⟩

theorem mapM_ok_arr {α β : Type} (a : Array α) (f : α → Res β) (g : α → β)
    (h : ∀ x ∈ a, f x = .ok (g x)) : a.mapM f = .ok (a.map g) :=
  (mapM_arr_ok_iff f a _).mpr ⟨Array.size_map.symm, fun _ h1 _ =>
    (h _ (Array.getElem_mem h1)).trans (congrArg _ (Array.getElem_map ..).symm)⟩

end Ohsl
