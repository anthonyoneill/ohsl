/-
  Ohsl.Lemmas.Rounding — the FOURTH interpretation of the executable model: "rounded reals" under
  the STANDARD MODEL of floating-point arithmetic.

  The model (`Ohsl/Model/*.lean`) is polymorphic in the scalar through unbundled operation classes.
  Besides `Rat` (exact), `Float` (bit-exact, opaque to proofs) and fields / ℝ / ℂ (theorems) it can
  be instantiated at the type `Fl M` defined here: real numbers whose `+ - * /` are the exact real
  operation followed by a rounding function `M.fl`.

  ASSUMPTIONS of this interpretation (everything below is relative to them):
    * `structure FlModel` : a unit roundoff `u : ℝ` with `0 ≤ u`, and a function `fl : ℝ → ℝ` with
          `∀ x, |fl x - x| ≤ u * |x|`                       (the standard model, relative error ≤ u)
      and NOTHING else (no `u < 1`, no monotonicity, no idempotence `fl (fl x) = fl x`, no symmetry
      `fl (-x) = - fl x`; `fl 0 = 0` is a consequence).  Lemmas that need `n * u < 1` (the classical
      `γ_n = n u / (1 - n u)`) say so in their hypotheses.
    * NOT PROVED HERE, and not provable in Lean because `Float` is opaque: the link
          "IEEE-754 binary64 arithmetic with round-to-nearest, in the absence of overflow and
           underflow, satisfies `FlModel` with `u = 2⁻⁵³`"
      (the textbook standard model, e.g. Higham, *Accuracy and Stability of Numerical Algorithms*,
      (2.4)).  Theorems about `Fl M` transfer to the Rust `f64` code only under this assumption, and
      only for runs without overflow / underflow / NaN.  The part of it that is mathematics is a
      theorem: round-to-nearest-even with 53 significant bits and an unbounded exponent range is an
      `FlModel` with `u = 2⁻⁵³` (`Ohsl/Lemmas/RNE.lean`, `Ohsl/Props/C13N.lean`); what stays assumed
      is that each hardware `+ - × ÷` returns that rounding of the exact result.
    * Literals (`0`, `1`) and negation are exact; `divM` by an exact zero is outside the standard model
      (IEEE gives ±inf / NaN) and is modelled as the panic class `arith`; the RAW `/` instance is
      totalised (`a / 0 = fl 0 = 0`): the Krylov and Newton models use it, so their class-F theorems
      cover breakdown runs that have no f64 counterpart; comparisons and `mag` are exact (no signed
      zero, no NaN: "bit-identical" in doc comments means equal as reals); the carrier of `Fl M` is
      all of ℝ — theorems that need representable inputs state it (`Rep`).

  CONTENTS (all in namespace `Ohsl`), in the order of the file:
    * `FlModel` and its constants.  For forward bounds `gam M n = (1+u)^n - 1`, the accumulated
      relative error of `n` roundings (`≤ γ_n = n u / (1 - n u)` when `n u < 1`).  For backward error
      statements, which need quotients of `(1+δ)`s and `u < 1`: `gq M n = (1-u)^{-n} - 1` and
      `Th k t ↔ (1-u)^k ≤ t ≤ (1-u)^{-k}`, a relative perturbation factor made of at most `k` factors
      `(1+δ)^{±1}` (`Th.abs_sub_one_le : |t - 1| ≤ gq k` is Higham, Lemma 3.1).  Two models:
      `FlModel.exact` (`fl = id`, `u = 0`) and `FlModel.scale u` (`fl x = (1+u) x`, which attains the
      bounds).
    * `Fl M` with its instances.  A rounded quotient of `|x| ≤ |y|` is at most `1 + u`, not `1`
      (`Fl.abs_div_le`); exact zeros stay exact.
    * Folds.  A sum accumulated from `0` has the constant `gam length` (`Fl.foldl_sum_rounding`;
      `n - 1` when the first term is representable; `n` is attained: `Fl.foldl_sum_rounding_sharp`);
      products, two-level summation, sums of terms that are themselves computed with errors of any
      size (`Fl.perturbed_sum_bound`); no error when all partial sums are representable.
    * Relative errors of any size over ℝ (section `RelErr`).
    * The forward-error calculus: `FlModel.Within k x X S` (`|x - X| ≤ gam k · S`, `|X| ≤ S`: `x` is `X`
      up to `k` roundings against the size `S`) and `FlModel.Approx k x X` (`S = |X|`).  The counts add:
      one more rounding `+1`, products and errors in a row `j + k`, a fold of `n` computed terms
      `n + k`.  The property files with forward bounds are written in it; the backward analyses
      (Lemmas/LURounding, GaussRounding, BandRounding) in `Th`.
    * `FlModel.roundBits p` (round to nearest, `p+1` significant bits, unbounded exponent,
      `u = 2^(-p-1)`; it is `flRound round p` of Ohsl/Lemmas/GridRound.lean);
      `FlModel.binary64 = roundBits 52`.
-/
import Ohsl.Model.Basic
import Ohsl.Lemmas.GridRound
import Mathlib.Data.Real.Basic
import Mathlib.Algebra.Order.BigOperators.Group.List
import Mathlib.Algebra.Order.Ring.Abs
import Mathlib.Algebra.BigOperators.Intervals
import Mathlib.Algebra.Order.BigOperators.Group.Finset
import Mathlib.Algebra.BigOperators.Ring.Finset
import Mathlib.Algebra.Order.Archimedean.Real.Basic
import Mathlib.Algebra.Order.Round
import Mathlib.Data.Int.Log
import Mathlib.Tactic.Ring
import Mathlib.Tactic.Linarith
import Mathlib.Tactic.Positivity
import Mathlib.Tactic.FieldSimp
import Mathlib.Tactic.SplitIfs

namespace Ohsl

/-- The standard model of floating-point arithmetic (no overflow, no underflow): a rounding function
with relative error at most the unit roundoff `u`. -/
structure FlModel where
  /-- unit roundoff -/
  u : ℝ
  /-- rounding to the format -/
  fl : ℝ → ℝ
  u_nonneg : 0 ≤ u
  fl_err : ∀ x, |fl x - x| ≤ u * |x|

namespace FlModel
variable (M : FlModel)

theorem fl_zero : M.fl 0 = 0 := by
  have h := M.fl_err 0
  simp only [abs_zero, mul_zero, sub_zero] at h
  exact abs_nonpos_iff.mp h

theorem one_add_u_pos : 0 < 1 + M.u := add_pos_of_pos_of_nonneg one_pos M.u_nonneg
theorem one_le_one_add_u : 1 ≤ 1 + M.u := le_add_of_nonneg_right M.u_nonneg
theorem abs_one_add_le {d : ℝ} (hd : |d| ≤ M.u) : |1 + d| ≤ 1 + M.u :=
  (abs_add_le _ _).trans (by simpa using hd)

theorem abs_fl_le (x : ℝ) : |M.fl x| ≤ (1 + M.u) * |x| :=
  (sub_le_iff_le_add'.mp ((abs_sub_abs_le_abs_sub _ _).trans (M.fl_err x))).trans_eq
    (one_add_mul _ _).symm

/-- the `(1+δ)` form of the standard model -/
theorem exists_delta (x : ℝ) : ∃ δ : ℝ, |δ| ≤ M.u ∧ M.fl x = x * (1 + δ) := by
  by_cases hx : x = 0
  · exact ⟨0, by simpa using M.u_nonneg, by simp [hx, M.fl_zero]⟩
  · refine ⟨(M.fl x - x) / x, ?_, by rw [mul_add, mul_one, mul_div_cancel₀ _ hx, add_sub_cancel]⟩
    rw [abs_div, div_le_iff₀ (abs_pos.mpr hx)]
    exact M.fl_err x

/-- a representable number: `fl` does not move it -/
def Rep (x : ℝ) : Prop := M.fl x = x

theorem rep_zero : M.Rep 0 := M.fl_zero

/-- accumulated relative error of `n` roundings: `(1+u)^n - 1` (`≤ n u / (1 - n u)`, see
`gam_le_gamma`) -/
def gam (n : ℕ) : ℝ := (1 + M.u) ^ n - 1

theorem one_add_gam (n : ℕ) : 1 + M.gam n = (1 + M.u) ^ n := by simp [gam]
@[simp] theorem gam_zero : M.gam 0 = 0 := by simp [gam]
@[simp] theorem gam_one : M.gam 1 = M.u := by simp [gam]
theorem gam_succ (n : ℕ) : M.gam (n + 1) = (1 + M.u) * M.gam n + M.u := by
  simp only [gam, pow_succ]; ring
theorem gam_add (m n : ℕ) : M.gam (m + n) = M.gam n * (1 + M.gam m) + M.gam m := by
  simp only [gam, pow_add]; ring
theorem gam_nonneg (n : ℕ) : 0 ≤ M.gam n := sub_nonneg.mpr (one_le_pow₀ M.one_le_one_add_u)
theorem gam_mono {m n : ℕ} (h : m ≤ n) : M.gam m ≤ M.gam n :=
  sub_le_sub_right (pow_le_pow_right₀ M.one_le_one_add_u h) 1
theorem u_le_gam_succ (n : ℕ) : M.u ≤ M.gam (n + 1) :=
  M.gam_one.symm.trans_le (M.gam_mono (Nat.succ_le_succ (Nat.zero_le n)))

theorem abs_pow_mul_sub_self (k : ℕ) (X : ℝ) : |(1 + M.u) ^ k * X - X| = M.gam k * |X| := by
  rw [← sub_one_mul]
  exact (abs_mul (M.gam k) X).trans (by rw [abs_of_nonneg (M.gam_nonneg k)])

/-- `(1-u)^{-n} - 1`: the bound for `|∏ (1+δᵢ)^{±1} - 1|`, `|δᵢ| ≤ u < 1`, `n` factors (Higham,
Lemma 3.1; it is `≤ γ_n = n u / (1 - n u)`, see `gq_le_gamma`, and `≥ gam n`, see `gam_le_gq`).
Backward error statements need quotients of `(1+δ)`s, which `gam` does not bound. -/
noncomputable def gq (n : ℕ) : ℝ := ((1 - M.u)⁻¹) ^ n - 1

variable {M}

theorem one_sub_u_pos (hu : M.u < 1) : 0 < 1 - M.u := sub_pos.mpr hu
theorem one_sub_u_le_one : 1 - M.u ≤ 1 := sub_le_self 1 M.u_nonneg
theorem one_le_inv_one_sub_u (hu : M.u < 1) : 1 ≤ (1 - M.u)⁻¹ :=
  (one_le_inv₀ (one_sub_u_pos hu)).mpr one_sub_u_le_one
theorem one_add_u_le_inv (hu : M.u < 1) : 1 + M.u ≤ (1 - M.u)⁻¹ := by
  rw [← one_div, le_div_iff₀ (one_sub_u_pos hu)]
  have : (1 + M.u) * (1 - M.u) = 1 - M.u * M.u := by ring
  rw [this]
  exact sub_le_self 1 (mul_self_nonneg _)
theorem u_lt_one_of_mul_lt_one {k : ℕ} (hk : 1 ≤ k) (h : (k : ℝ) * M.u < 1) : M.u < 1 :=
  lt_of_le_of_lt (le_mul_of_one_le_left M.u_nonneg (by exact_mod_cast hk)) h
theorem mul_u_lt_one_of_le {j k : ℕ} (hjk : j ≤ k) (h : (k : ℝ) * M.u < 1) : (j : ℝ) * M.u < 1 :=
  lt_of_le_of_lt (mul_le_mul_of_nonneg_right (by exact_mod_cast hjk) M.u_nonneg) h

theorem gq_zero : M.gq 0 = 0 := by simp [gq]
theorem gq_nonneg (hu : M.u < 1) (n : ℕ) : 0 ≤ M.gq n :=
  sub_nonneg.mpr (one_le_pow₀ (one_le_inv_one_sub_u hu))
theorem gq_mono (hu : M.u < 1) {m n : ℕ} (h : m ≤ n) : M.gq m ≤ M.gq n :=
  sub_le_sub_right (pow_le_pow_right₀ (one_le_inv_one_sub_u hu) h) 1
theorem gam_le_gq (hu : M.u < 1) (n : ℕ) : M.gam n ≤ M.gq n :=
  sub_le_sub_right (pow_le_pow_left₀ M.one_add_u_pos.le (one_add_u_le_inv hu) n) 1
/-- the classical constant: `(1-u)^{-n} - 1 ≤ γ_n = n u / (1 - n u)` when `n u < 1` -/
theorem gq_le_gamma (n : ℕ) (h : n * M.u < 1) : M.gq n ≤ n * M.u / (1 - n * M.u) := by
  rcases Nat.eq_zero_or_pos n with rfl | hn
  · simp [gq]
  have hpos : 0 < 1 - n * M.u := sub_pos.mpr h
  -- Bernoulli: `1 - n u ≤ (1 - u)^n`
  have hb : 1 - n * M.u ≤ (1 - M.u) ^ n := by
    have := one_add_mul_le_pow (a := -M.u)
      (by linarith [u_lt_one_of_mul_lt_one (M := M) hn h]) n
    rwa [mul_neg, ← sub_eq_add_neg, ← sub_eq_add_neg] at this
  have e : n * M.u / (1 - n * M.u) = (1 - n * M.u)⁻¹ - 1 := by
    rw [div_eq_iff hpos.ne', sub_mul, inv_mul_cancel₀ hpos.ne']
    ring
  rw [e, gq, inv_pow]
  exact sub_le_sub_right (inv_anti₀ hpos hb) 1

section
variable (M)

/-- the classical constant: `(1+u)^n - 1 ≤ γ_n = n u / (1 - n u)` when `n u < 1` -/
theorem gam_le_gamma (n : ℕ) (h : n * M.u < 1) : M.gam n ≤ n * M.u / (1 - n * M.u) := by
  rcases Nat.eq_zero_or_pos n with rfl | hn
  · simp
  · exact (gam_le_gq (u_lt_one_of_mul_lt_one hn h) n).trans (gq_le_gamma n h)

end

theorem gq_add (a b : ℕ) : M.gq (a + b) = M.gq a + M.gq b + M.gq a * M.gq b := by
  simp only [gq, pow_add]; ring
theorem gq_add_le (hu : M.u < 1) (a b : ℕ) : M.gq a + M.gq b ≤ M.gq (a + b) := by
  rw [gq_add]
  exact le_add_of_nonneg_right (mul_nonneg (gq_nonneg hu a) (gq_nonneg hu b))

/-- exact arithmetic is a model (`u = 0`) -/
def exact : FlModel := ⟨0, id, le_refl _, fun x => by simp⟩

@[simp] theorem exact_u : FlModel.exact.u = 0 := rfl
@[simp] theorem exact_fl (x : ℝ) : FlModel.exact.fl x = x := rfl
theorem exact_u_lt_one : FlModel.exact.u < 1 := zero_lt_one
@[simp] theorem gam_exact (n : ℕ) : FlModel.exact.gam n = 0 := by simp [gam, exact]
@[simp] theorem gq_exact (n : ℕ) : FlModel.exact.gq n = 0 := by
  simp [gq, FlModel.exact]
theorem exact_rep (x : ℝ) : FlModel.exact.Rep x := rfl
theorem eq_of_abs_sub_le_exact {k : ℕ} {x X S : ℝ} (h : |x - X| ≤ FlModel.exact.gam k * S) :
    x = X := by
  rw [gam_exact, zero_mul] at h
  exact sub_eq_zero.mp (abs_nonpos_iff.mp h)

/-- a model that rounds every non-zero number, always upwards in magnitude, by the full relative
error `u`: `fl x = (1+u) x`.  It attains the bounds below (`Fl.foldl_sum_rounding_sharp`). -/
def scale (u : ℝ) (hu : 0 ≤ u) : FlModel :=
  ⟨u, fun x => (1 + u) * x, hu, fun x => by
    have : (1 + u) * x - x = u * x := by ring
    rw [this, abs_mul, abs_of_nonneg hu]⟩

section
variable (M)

/-- `t` is a relative perturbation factor made of at most `k` factors `(1+δ)^{±1}`, `|δ| ≤ u`:
`(1-u)^k ≤ t ≤ (1-u)^{-k}` -/
def Th (k : ℕ) (t : ℝ) : Prop := (1 - M.u) ^ k ≤ t ∧ t ≤ ((1 - M.u)⁻¹) ^ k

end

namespace Th

theorem one : M.Th 0 1 := by simp [Th]

theorem pos (hu : M.u < 1) {k : ℕ} {t : ℝ} (h : M.Th k t) : 0 < t :=
  lt_of_lt_of_le (pow_pos (one_sub_u_pos hu) k) h.1

theorem mono (hu : M.u < 1) {k m : ℕ} {t : ℝ} (hkm : k ≤ m) (h : M.Th k t) : M.Th m t :=
  ⟨(pow_le_pow_of_le_one (one_sub_u_pos hu).le one_sub_u_le_one hkm).trans h.1,
   h.2.trans (pow_le_pow_right₀ (one_le_inv_one_sub_u hu) hkm)⟩

theorem mul (hu : M.u < 1) {a b : ℕ} {s t : ℝ} (hs : M.Th a s) (ht : M.Th b t) :
    M.Th (a + b) (s * t) := by
  have hp := one_sub_u_pos hu
  refine ⟨?_, ?_⟩
  · rw [pow_add]
    exact mul_le_mul hs.1 ht.1 (pow_pos hp b).le (hs.pos hu).le
  · rw [pow_add]
    exact mul_le_mul hs.2 ht.2 (ht.pos hu).le (pow_nonneg (inv_pos.mpr hp).le a)

theorem inv (hu : M.u < 1) {a : ℕ} {t : ℝ} (ht : M.Th a t) : M.Th a t⁻¹ := by
  have hp := one_sub_u_pos hu
  refine ⟨?_, ?_⟩
  · have := inv_anti₀ (ht.pos hu) ht.2
    rwa [inv_pow, inv_inv] at this
  · have := inv_anti₀ (pow_pos hp a) ht.1
    rwa [← inv_pow] at this

theorem div (hu : M.u < 1) {a b : ℕ} {s t : ℝ} (hs : M.Th a s) (ht : M.Th b t) :
    M.Th (a + b) (s / t) := by
  rw [div_eq_mul_inv]; exact hs.mul hu (ht.inv hu)

theorem of_delta (hu : M.u < 1) {d : ℝ} (h : |d| ≤ M.u) : M.Th 1 (1 + d) := by
  have hd := abs_le.mp h
  rw [Th, pow_one, pow_one]
  exact ⟨by linarith [hd.1], by linarith [hd.2, one_add_u_le_inv hu]⟩

theorem abs_sub_one_le (hu : M.u < 1) {k : ℕ} {t : ℝ} (h : M.Th k t) : |t - 1| ≤ M.gq k := by
  have hp : 0 < (1 - M.u) ^ k := pow_pos (one_sub_u_pos hu) k
  have h1 : (1 - M.u) ^ k ≤ 1 := pow_le_one₀ (one_sub_u_pos hu).le one_sub_u_le_one
  -- `1 - x ≤ x⁻¹ (1 - x) = x⁻¹ - 1` for `0 < x ≤ 1`
  have h2 : 1 - (1 - M.u) ^ k ≤ M.gq k := by
    have := le_mul_of_one_le_left (sub_nonneg.mpr h1) ((one_le_inv₀ hp).mpr h1)
    rwa [mul_sub, mul_one, inv_mul_cancel₀ hp.ne', ← inv_pow] at this
  rw [abs_le]
  exact ⟨by linarith [h.1], sub_le_sub_right h.2 1⟩

theorem abs_sub_le (hu : M.u < 1) {a b : ℕ} {s t : ℝ} (hs : M.Th a s) (ht : M.Th b t) :
    |s - t| ≤ M.gq a + M.gq b := by
  have h := _root_.abs_sub_le s 1 t
  rw [abs_sub_comm 1 t] at h
  exact h.trans (add_le_add (hs.abs_sub_one_le hu) (ht.abs_sub_one_le hu))

theorem abs_mul_sub_le (hu : M.u < 1) {a b : ℕ} {s t : ℝ} (hs : M.Th a s) (ht : M.Th b t)
    (p : ℝ) : |p * s - p * t| ≤ (M.gq a + M.gq b) * |p| := by
  rw [← mul_sub, abs_mul, mul_comm]
  exact mul_le_mul_of_nonneg_right (hs.abs_sub_le hu ht) (abs_nonneg p)

theorem update {k r : ℕ} {a : ℝ} {θ : ℕ → ℝ} (ha : M.Th k a) (hθ : ∀ t, M.Th k (θ t)) (t : ℕ) :
    M.Th k (if t = r then a else θ t) := by
  split_ifs
  · exact ha
  · exact hθ t

end Th

theorem exists_th (hu : M.u < 1) (x : ℝ) : ∃ t, M.Th 1 t ∧ M.fl x = x * t := by
  obtain ⟨d, hd, e⟩ := M.exists_delta x
  exact ⟨1 + d, Th.of_delta hu hd, e⟩

end FlModel

/-- real numbers with rounded arithmetic -/
@[ext] structure Fl (M : FlModel) where
  val : ℝ

namespace Fl
variable {M : FlModel}

instance : Add (Fl M) := ⟨fun a b => ⟨M.fl (a.val + b.val)⟩⟩
instance : Sub (Fl M) := ⟨fun a b => ⟨M.fl (a.val - b.val)⟩⟩
instance : Mul (Fl M) := ⟨fun a b => ⟨M.fl (a.val * b.val)⟩⟩
noncomputable instance : Div (Fl M) := ⟨fun a b => ⟨M.fl (a.val / b.val)⟩⟩
instance : Neg (Fl M) := ⟨fun a => ⟨-a.val⟩⟩
instance : Zero (Fl M) := ⟨⟨0⟩⟩
instance : One (Fl M) := ⟨⟨1⟩⟩
instance : Inhabited (Fl M) := ⟨0⟩
noncomputable instance : DecidableEq (Fl M) := Classical.decEq _

open Classical in
/-- `divM`: rounded quotient; an exact zero divisor is outside the standard model → `arith`.
`lt`, `mag` are exact. -/
noncomputable instance scalarExt : ScalarExt (Fl M) where
  divM a b := if b.val = 0 then .error .arith else .ok (a / b)
  lt a b := decide (a.val < b.val)
  mag a := if a.val < 0 then -a else a

@[simp] theorem add_val (a b : Fl M) : (a + b).val = M.fl (a.val + b.val) := rfl
@[simp] theorem sub_val (a b : Fl M) : (a - b).val = M.fl (a.val - b.val) := rfl
@[simp] theorem mul_val (a b : Fl M) : (a * b).val = M.fl (a.val * b.val) := rfl
@[simp] theorem div_val (a b : Fl M) : (a / b).val = M.fl (a.val / b.val) := rfl
@[simp] theorem neg_val (a : Fl M) : (-a).val = -a.val := rfl
@[simp] theorem zero_val : (0 : Fl M).val = 0 := rfl
@[simp] theorem one_val : (1 : Fl M).val = 1 := rfl

/-- the operations on literal values `⟨a⟩`: for runs on concrete data -/
theorem mk_add (a b : ℝ) : ((⟨a⟩ : Fl M) + ⟨b⟩) = ⟨M.fl (a + b)⟩ := rfl
theorem mk_sub (a b : ℝ) : ((⟨a⟩ : Fl M) - ⟨b⟩) = ⟨M.fl (a - b)⟩ := rfl
theorem mk_mul (a b : ℝ) : ((⟨a⟩ : Fl M) * ⟨b⟩) = ⟨M.fl (a * b)⟩ := rfl
theorem mk_div (a b : ℝ) : ((⟨a⟩ : Fl M) / ⟨b⟩) = ⟨M.fl (a / b)⟩ := rfl
theorem zero_add_mk (a : ℝ) : (0 : Fl M) + ⟨a⟩ = ⟨M.fl (0 + a)⟩ := rfl

theorem divM_of_val_ne {a b : Fl M} (h : b.val ≠ 0) : divM a b = .ok (a / b) := if_neg h
theorem divM_ok {a b q : Fl M} (h : divM a b = .ok q) : b.val ≠ 0 ∧ q = a / b := by
  by_cases hb : b.val = 0
  · cases (if_pos hb).symm.trans h
  · exact ⟨hb, Except.ok.inj ((divM_of_val_ne hb).symm.trans h).symm⟩
theorem lt_iff (a b : Fl M) : ScalarExt.lt a b = true ↔ a.val < b.val := decide_eq_true_iff
theorem beq_zero_iff (a : Fl M) : (a == 0) = true ↔ a.val = 0 := by
  rw [beq_iff_eq, Fl.ext_iff]
  rfl
theorem mag_eq (a : Fl M) : ScalarExt.mag a = if a.val < 0 then -a else a := rfl
theorem mag_val (a : Fl M) : (ScalarExt.mag a).val = |a.val| := by
  simp only [ScalarExt.mag]
  split
  · rename_i h; simp [abs_of_neg h]
  · rename_i h; simp [abs_of_nonneg (not_lt.mp h)]

theorem add_err (a b : Fl M) : |(a + b).val - (a.val + b.val)| ≤ M.u * |a.val + b.val| := M.fl_err _
theorem sub_err (a b : Fl M) : |(a - b).val - (a.val - b.val)| ≤ M.u * |a.val - b.val| := M.fl_err _
theorem mul_err (a b : Fl M) : |(a * b).val - (a.val * b.val)| ≤ M.u * |a.val * b.val| := M.fl_err _
theorem div_err (a b : Fl M) : |(a / b).val - (a.val / b.val)| ≤ M.u * |a.val / b.val| := M.fl_err _

theorem abs_add_val_le (a b : Fl M) : |(a + b).val| ≤ (1 + M.u) * (|a.val| + |b.val|) :=
  (M.abs_fl_le _).trans (mul_le_mul_of_nonneg_left (abs_add_le _ _) M.one_add_u_pos.le)
theorem abs_mul_val_le (a b : Fl M) : |(a * b).val| ≤ (1 + M.u) * |a.val * b.val| := M.abs_fl_le _

/-- a rounded quotient of magnitudes `|x| ≤ |y|` is at most `1 + u` in magnitude (NOT `1`: the
standard model does not exclude rounding a quotient `≤ 1` upwards past `1`) -/
theorem abs_div_le (x y : Fl M) (hxy : |x.val| ≤ |y.val|) :
    |(x / y).val| ≤ 1 + M.u := by
  have h1 := M.abs_fl_le (x.val / y.val)
  have h2 : |x.val / y.val| ≤ 1 := by
    rw [abs_div]
    exact div_le_one_of_le₀ hxy (abs_nonneg _)
  rw [Fl.div_val]
  calc |M.fl (x.val / y.val)| ≤ (1 + M.u) * |x.val / y.val| := h1
    _ ≤ (1 + M.u) * 1 := mul_le_mul_of_nonneg_left h2 M.one_add_u_pos.le
    _ = 1 + M.u := mul_one _

theorem add_err' (a b : Fl M) :
    |(a + b).val - (a.val + b.val)| ≤ M.u * (|a.val| + |b.val|) :=
  (add_err a b).trans (mul_le_mul_of_nonneg_left (abs_add_le _ _) M.u_nonneg)

/-- exact operations on representable results -/
theorem add_val_of_rep (a b : Fl M) (h : M.Rep (a.val + b.val)) : (a + b).val = a.val + b.val := h
theorem mul_val_of_rep (a b : Fl M) (h : M.Rep (a.val * b.val)) : (a * b).val = a.val * b.val := h

/-- exact zeros stay exact: the model's first accumulation step `0 + a` returns a representable `a`
    itself (so `0 + 0 = 0`), `0 * a = 0`, and a sum of zeros accumulated from `0` is `0` -/
theorem zero_add_of_rep (a : Fl M) (h : M.Rep a.val) : (0 : Fl M) + a = a :=
  Fl.ext ((congrArg M.fl (zero_add a.val)).trans h)
theorem fl_zero_add_zero : (0 : Fl M) + 0 = 0 := zero_add_of_rep 0 M.rep_zero
theorem fl_zero_mul (a : Fl M) : (0 : Fl M) * a = 0 :=
  Fl.ext ((congrArg M.fl (zero_mul a.val)).trans M.fl_zero)
theorem foldl_zeros (l : List (Fl M)) (h : ∀ x ∈ l, x = 0) : l.foldl (· + ·) (0 : Fl M) = 0 := by
  induction l with
  | nil => rfl
  | cons x l ih =>
    rw [List.foldl_cons, h x (List.mem_cons_self ..), fl_zero_add_zero]
    exact ih fun y hy => h y (List.mem_cons_of_mem _ hy)

end Fl

/-- **product of `(1+δᵢ)`**: `|∏ (1+δᵢ) - 1| ≤ (1+u)^n - 1` when all `|δᵢ| ≤ u` -/
theorem prod_one_add_delta (M : FlModel) (ds : List ℝ) (h : ∀ d ∈ ds, |d| ≤ M.u) :
    |(ds.map (fun d => 1 + d)).prod - 1| ≤ M.gam ds.length := by
  induction ds with
  | nil => simp
  | cons d ds ih =>
    have hd : |d| ≤ M.u := h d (List.mem_cons_self ..)
    have ih' := ih (fun e he => h e (List.mem_cons_of_mem _ he))
    simp only [List.map_cons, List.prod_cons, List.length_cons]
    set P := (ds.map (fun d => 1 + d)).prod
    have e : (1 + d) * P - 1 = (P - 1) * (1 + d) + d := by ring
    have h1 := M.abs_one_add_le hd
    rw [e, M.gam_succ, mul_comm (1 + M.u)]
    refine (abs_add_le _ _).trans (add_le_add ?_ hd)
    rw [abs_mul]
    exact mul_le_mul ih' h1 (abs_nonneg _) (M.gam_nonneg _)

/-- list sums over index ranges as `Finset` sums -/
theorem sum_map_range' (g : ℕ → ℝ) (s k : ℕ) :
    ((List.range' s k).map g).sum = ∑ i ∈ Finset.Ico s (s + k), g i := by
  induction k with
  | zero => simp
  | succ k ih =>
    rw [List.range'_concat, List.map_append, List.sum_append, ih, ← add_assoc,
      Finset.sum_Ico_succ_top (by omega)]
    simp

theorem sum_map_range (g : ℕ → ℝ) (n : ℕ) :
    ((List.range n).map g).sum = ∑ i ∈ Finset.range n, g i := by
  rw [List.range_eq_range', sum_map_range', Finset.range_eq_Ico, Nat.zero_add]

namespace Mat

/-- `max (0, g 0, …, g (n-1))` -/
def maxRow : Nat → (Nat → ℝ) → ℝ
  | 0, _ => 0
  | n + 1, g => max (maxRow n g) (g n)

theorem maxRow_nonneg (n : Nat) (g : Nat → ℝ) : 0 ≤ maxRow n g := by
  induction n with
  | zero => exact le_refl _
  | succ n ih => exact ih.trans (le_max_left _ _)

theorem le_maxRow {n : Nat} (g : Nat → ℝ) {j : Nat} (hj : j < n) : g j ≤ maxRow n g := by
  induction n with
  | zero => omega
  | succ n ih =>
    rcases Nat.lt_succ_iff_lt_or_eq.mp hj with h | rfl
    · exact (ih h).trans (le_max_left _ _)
    · exact le_max_right _ _

theorem maxRow_le {n : Nat} (g : Nat → ℝ) {b : ℝ} (hb : 0 ≤ b) (h : ∀ j, j < n → g j ≤ b) :
    maxRow n g ≤ b := by
  induction n with
  | zero => exact hb
  | succ n ih => exact max_le (ih (fun j hj => h j (by omega))) (h n (by omega))

end Mat

namespace Fl
variable {M : FlModel}

/-- the exact (real) sum of the values -/
def rsum (l : List (Fl M)) : ℝ := (l.map Fl.val).sum
/-- the sum of the absolute values -/
def asum (l : List (Fl M)) : ℝ := (l.map (fun x => |x.val|)).sum

@[simp] theorem rsum_nil : rsum ([] : List (Fl M)) = 0 := rfl
@[simp] theorem asum_nil : asum ([] : List (Fl M)) = 0 := rfl
@[simp] theorem rsum_cons (x : Fl M) (l : List (Fl M)) : rsum (x :: l) = x.val + rsum l := by
  simp [rsum]
@[simp] theorem asum_cons (x : Fl M) (l : List (Fl M)) : asum (x :: l) = |x.val| + asum l := by
  simp [asum]
@[simp] theorem rsum_append (l l' : List (Fl M)) : rsum (l ++ l') = rsum l + rsum l' := by
  simp [rsum]
@[simp] theorem asum_append (l l' : List (Fl M)) : asum (l ++ l') = asum l + asum l' := by
  simp [asum]
theorem rsum_map {ι : Type} (is : List ι) (f : ι → Fl M) :
    rsum (is.map f) = (is.map (fun i => (f i).val)).sum := by
  simp [rsum, Function.comp_def]
theorem asum_map {ι : Type} (is : List ι) (f : ι → Fl M) :
    asum (is.map f) = (is.map (fun i => |(f i).val|)).sum := by
  simp [asum, Function.comp_def]

theorem asum_nonneg (l : List (Fl M)) : 0 ≤ asum l :=
  List.sum_nonneg fun x hx => by
    obtain ⟨y, -, rfl⟩ := List.mem_map.mp hx
    exact abs_nonneg _

theorem abs_rsum_le (l : List (Fl M)) : |rsum l| ≤ asum l := by
  induction l with
  | nil => simp
  | cons x l ih =>
    simp only [rsum_cons, asum_cons]
    exact (abs_add_le _ _).trans ((add_le_add_iff_left _).mpr ih)

theorem foldl_add_rounding (l : List (Fl M)) (s : Fl M) :
    |(l.foldl (· + ·) s).val - (s.val + rsum l)| ≤ M.gam l.length * (|s.val| + asum l) := by
  induction l generalizing s with
  | nil => simp
  | cons x l ih =>
    simp only [List.foldl_cons, List.length_cons, rsum_cons, asum_cons]
    have hp := M.gam_nonneg l.length
    have hu := M.u_nonneg
    -- the induction hypothesis at the rounded first sum, whose size is `≤ (1+u)(|s| + |x|)`
    have h1 := (ih (s + x)).trans
      (mul_le_mul_of_nonneg_left (add_le_add_left (abs_add_val_le s x) (asum l)) hp)
    have h2 := add_err' s x
    rw [show (l.foldl (· + ·) (s + x)).val - (s.val + (x.val + rsum l))
        = ((l.foldl (· + ·) (s + x)).val - ((s + x).val + rsum l))
          + ((s + x).val - (s.val + x.val)) by ring, M.gam_succ]
    refine (abs_add_le _ _).trans ?_
    linarith [mul_nonneg (mul_nonneg hu hp) (asum_nonneg l), mul_nonneg hu (asum_nonneg l)]

/-- **left-folded sum from `0`** (the model's `result = 0; result += xᵢ`): `n = length` rounded
additions — the first one is `0 + x₀`, which the abstract model rounds like any other (IEEE does
not, see `foldl_sum_rounding_head_exact`), hence `n` and not `n - 1`. -/
theorem foldl_sum_rounding (l : List (Fl M)) :
    |(l.foldl (· + ·) 0).val - rsum l| ≤ M.gam l.length * asum l := by
  simpa using foldl_add_rounding l (0 : Fl M)

theorem foldl_range_rounding (n : Nat) (f : Nat → Fl M) :
    |(((List.range n).map f).foldl (· + ·) 0).val - ∑ i ∈ Finset.range n, (f i).val|
      ≤ M.gam n * ∑ i ∈ Finset.range n, |(f i).val| := by
  have h := foldl_sum_rounding ((List.range n).map f)
  rwa [List.length_map, List.length_range, rsum_map, asum_map, sum_map_range, sum_map_range] at h

/-- **left-folded product** `d ← d · xᵢ` over a list: `n = length` rounded products, collected in one
factor `1 + θ`, `|θ| ≤ gam n` (no smallness assumption on `u`) -/
theorem foldl_mul_rounding {ι : Type} (f : ι → Fl M) (l : List ι) (d : Fl M) :
    ∃ θ : ℝ, |θ| ≤ M.gam l.length ∧
      (l.foldl (fun d i => d * f i) d).val = d.val * (l.map fun i => (f i).val).prod * (1 + θ) := by
  suffices h : ∃ ds : List ℝ, ds.length = l.length ∧ (∀ δ ∈ ds, |δ| ≤ M.u) ∧
      (l.foldl (fun d i => d * f i) d).val
        = d.val * (l.map fun i => (f i).val).prod * (ds.map fun δ => 1 + δ).prod by
    obtain ⟨ds, hlen, hds, hv⟩ := h
    exact ⟨(ds.map fun δ => 1 + δ).prod - 1, hlen ▸ prod_one_add_delta M ds hds, by rw [hv]; ring⟩
  induction l generalizing d with
  | nil => exact ⟨[], rfl, by simp, by simp⟩
  | cons i l ih =>
    obtain ⟨ds, hlen, hds, hv⟩ := ih (d * f i)
    obtain ⟨δ, hδ, e⟩ := M.exists_delta (d.val * (f i).val)
    refine ⟨δ :: ds, by simp [hlen], fun x hx => ?_, ?_⟩
    · rcases List.mem_cons.mp hx with rfl | hx
      · exact hδ
      · exact hds x hx
    · rw [List.foldl_cons, hv, Fl.mul_val, e]
      simp only [List.map_cons, List.prod_cons]
      ring

theorem foldl_range_mul_rounding (n : Nat) (f : Nat → Fl M) (d : Fl M) :
    ∃ θ : ℝ, |θ| ≤ M.gam n ∧ ((List.range n).foldl (fun d i => d * f i) d).val
      = d.val * (∏ i ∈ Finset.range n, (f i).val) * (1 + θ) := by
  obtain ⟨θ, hθ, hv⟩ := foldl_mul_rounding f (List.range n) d
  rw [List.length_range] at hθ
  exact ⟨θ, hθ, hv⟩

/-- the usual `n - 1` when the first term is representable (`fl x₀ = x₀`, e.g. because it is itself
the result of an operation of an idempotent rounding) -/
theorem foldl_sum_rounding_head_exact (x : Fl M) (l : List (Fl M)) (hx : M.Rep x.val) :
    |((x :: l).foldl (· + ·) 0).val - rsum (x :: l)| ≤ M.gam l.length * asum (x :: l) := by
  simpa [zero_add_of_rep x hx] using foldl_add_rounding l x

theorem sum_perturbed {ι : Type} (is : List ι) (f g a : ι → ℝ) (ε : ℝ)
    (h : ∀ i ∈ is, |f i - g i| ≤ ε * a i ∧ |g i| ≤ a i) :
    |(is.map f).sum - (is.map g).sum| ≤ ε * (is.map a).sum
      ∧ (is.map (fun i => |f i|)).sum ≤ (1 + ε) * (is.map a).sum := by
  induction is with
  | nil => simp
  | cons i is ih =>
    obtain ⟨ih1, ih2⟩ := ih (fun j hj => h j (List.mem_cons_of_mem _ hj))
    obtain ⟨h1, h2⟩ := h i (List.mem_cons_self ..)
    simp only [List.map_cons, List.sum_cons]
    constructor
    · rw [add_sub_add_comm]
      exact (abs_add_le _ _).trans ((add_le_add h1 ih1).trans_eq (mul_add _ _ _).symm)
    · have : |f i| ≤ |f i - g i| + |g i| := by simpa using abs_add_le (f i - g i) (g i)
      linarith only [this, h1, h2, ih2]

theorem perturbed_sum_bound' {ι : Type} (is : List ι) (f g a : ι → ℝ) (ε c r : ℝ) (hc : 0 ≤ c)
    (h : ∀ i ∈ is, |f i - g i| ≤ ε * a i ∧ |g i| ≤ a i)
    (hr : |r - (is.map f).sum| ≤ c * (is.map (fun i => |f i|)).sum) :
    |r - (is.map g).sum| ≤ (c * (1 + ε) + ε) * (is.map a).sum := by
  obtain ⟨h1, h2⟩ := sum_perturbed is f g a ε h
  rw [show r - (is.map g).sum = (r - (is.map f).sum) + ((is.map f).sum - (is.map g).sum) by ring]
  refine (abs_add_le _ _).trans ?_
  linarith [mul_le_mul_of_nonneg_left h2 hc]

theorem rsum_flatten (L : List (List (Fl M))) : rsum L.flatten = (L.map rsum).sum := by
  induction L with
  | nil => rfl
  | cons l L ih => rw [List.flatten_cons, rsum_append, ih, List.map_cons, List.sum_cons]

theorem asum_flatten (L : List (List (Fl M))) : asum L.flatten = (L.map asum).sum := by
  induction L with
  | nil => rfl
  | cons l L ih => rw [List.flatten_cons, asum_append, ih, List.map_cons, List.sum_cons]

/-- **blocked (two-level) summation**: every block is summed from `0`, then the block sums are
summed from `0`.  With `m` a bound on the block lengths and `w` the number of blocks the constant is
`(1+u)^(m+w) - 1`. -/
theorem foldl_blocks_rounding (L : List (List (Fl M))) (m : ℕ) (hm : ∀ l ∈ L, l.length ≤ m) :
    |((L.map (fun l : List (Fl M) => l.foldl (· + ·) 0)).foldl (· + ·) 0).val - rsum L.flatten|
      ≤ M.gam (m + L.length) * asum L.flatten := by
  -- the block sums are perturbations of the exact block sums, relative to the blocks' `asum`
  have h0 := foldl_sum_rounding (L.map (fun l : List (Fl M) => l.foldl (· + ·) 0))
  rw [rsum_map, asum_map, List.length_map] at h0
  rw [rsum_flatten, asum_flatten, M.gam_add]
  exact perturbed_sum_bound' L _ rsum asum (M.gam m) _ _ (M.gam_nonneg _)
    (fun l hl => ⟨(foldl_sum_rounding l).trans (mul_le_mul_of_nonneg_right
      (M.gam_mono (hm l hl)) (asum_nonneg l)), abs_rsum_le l⟩) h0

set_option linter.unusedVariables false in
/-- **summation of rounded terms**: if the terms `f i` are computed quantities with relative error
`ε` w.r.t. exact reals `g i`, and `r` is any computed sum of the `f i` with constant `c`, then `r`
is a sum of the `g i` with constant `c (1+ε) + ε`.  (With `ε = u`, `c = gam k`: `gam (k+1)`.) -/
theorem perturbed_sum_bound {ι : Type} (is : List ι) (f : ι → Fl M) (g : ι → ℝ) (ε c r : ℝ)
    (hε : 0 ≤ ε) (hc : 0 ≤ c)
    (hfg : ∀ i ∈ is, |(f i).val - g i| ≤ ε * |g i|)
    (hr : |r - rsum (is.map f)| ≤ c * asum (is.map f)) :
    |r - (is.map g).sum| ≤ (c * (1 + ε) + ε) * (is.map (fun i => |g i|)).sum := by
  rw [rsum_map, asum_map] at hr
  exact perturbed_sum_bound' is _ g _ ε c r hc (fun i hi => ⟨hfg i hi, le_rfl⟩) hr

theorem foldl_add_exact (l : List (Fl M)) (s : Fl M)
    (h : ∀ k, 0 < k → k ≤ l.length → M.Rep (s.val + rsum (l.take k))) :
    (l.foldl (· + ·) s).val = s.val + rsum l := by
  induction l generalizing s with
  | nil => simp
  | cons x l ih =>
    have h1 : (s + x).val = s.val + x.val := by
      have : M.fl (s.val + rsum ((x :: l).take 1)) = _ := h 1 (by omega) (by simp)
      simpa using this
    simp only [List.foldl_cons]
    rw [ih (s + x)]
    · simp only [h1, rsum_cons]; ring
    · intro k hk hkl
      have := h (k + 1) (by omega) (by simpa using hkl)
      simp only [List.take_succ_cons, rsum_cons] at this
      rw [h1, add_assoc]
      exact this

theorem foldl_sum_exact (l : List (Fl M)) (h : ∀ k, M.Rep (rsum (l.take k))) :
    (l.foldl (· + ·) 0).val = rsum l := by
  have := foldl_add_exact l (0 : Fl M) (fun k _ _ => by simpa using h k)
  simpa using this

/-- blocked summation is exact when the prefix sums inside every block and the prefix sums of the
whole sequence are representable -/
theorem foldl_blocks_exact (L : List (List (Fl M)))
    (hin : ∀ l ∈ L, ∀ k, M.Rep (rsum (l.take k)))
    (hout : ∀ N, M.Rep (rsum (L.flatten.take N))) :
    ((L.map (fun l : List (Fl M) => l.foldl (· + ·) 0)).foldl (· + ·) 0).val = rsum L.flatten := by
  have hblock : ∀ L' : List (List (Fl M)), (∀ l ∈ L', l ∈ L) →
      rsum (L'.map (fun l : List (Fl M) => l.foldl (· + ·) 0)) = rsum L'.flatten := by
    intro L' hsub
    induction L' with
    | nil => simp
    | cons l L' ih =>
      have := foldl_sum_exact l (hin l (hsub l (List.mem_cons_self ..)))
      have ih' := ih (fun l' h => hsub l' (List.mem_cons_of_mem _ h))
      simp only [List.map_cons, rsum_cons, List.flatten_cons, rsum_append]
      rw [this, ih']
  rw [foldl_sum_exact, hblock L (fun _ h => h)]
  intro k
  rw [← List.map_take, hblock _ (fun l h => List.mem_of_mem_take h)]
  -- a prefix of the blocks flattens to a prefix of the whole sequence
  have : (L.take k).flatten = L.flatten.take ((L.take k).flatten.length) := by
    conv_rhs => rw [← List.take_append_drop k L, List.flatten_append]
    simp
  rw [this]
  exact hout _

/-- in the model `fl x = (1+u) x` the sum `x + 0 + … + 0` (`n` terms) computed from `0` is
`(1+u)^n x`: the error is exactly `((1+u)^n - 1) |x|`, so `foldl_sum_rounding` (with `n`, not
`n - 1`) cannot be improved without further assumptions on `fl`. -/
theorem foldl_sum_rounding_sharp (u : ℝ) (hu : 0 ≤ u) (x : ℝ) (n : ℕ) :
    let M := FlModel.scale u hu
    let l : List (Fl M) := ⟨x⟩ :: List.replicate n 0
    |(l.foldl (· + ·) 0).val - rsum l| = M.gam l.length * asum l := by
  intro M l
  have hfold : ∀ (k : ℕ) (s : Fl M),
      ((List.replicate k (0 : Fl M)).foldl (· + ·) s).val = (1 + u) ^ k * s.val := by
    intro k
    induction k with
    | zero => intro s; simp
    | succ k ih =>
      intro s
      rw [List.replicate_succ, List.foldl_cons, ih]
      show (1 + u) ^ k * ((1 + u) * (s.val + 0)) = _
      ring
  have hr : ∀ k : ℕ, rsum (List.replicate k (0 : Fl M)) = 0 := fun k => by simp [rsum]
  have ha : ∀ k : ℕ, asum (List.replicate k (0 : Fl M)) = 0 := fun k => by simp [asum]
  have h0 : ((0 : Fl M) + ⟨x⟩).val = (1 + u) * x := by
    show (1 + u) * (0 + x) = _
    ring
  have hR : rsum l = x := by simp [l, hr]
  have hA : asum l = |x| := by simp [l, ha]
  rw [hR, hA]
  simp only [l, List.foldl_cons, List.length_cons, List.length_replicate]
  rw [hfold, h0]
  have hg : M.gam (n + 1) = (1 + u) ^ (n + 1) - 1 := rfl
  have hge := M.gam_nonneg (n + 1)
  rw [hg] at hge ⊢
  have : (1 + u) ^ n * ((1 + u) * x) - x = ((1 + u) ^ (n + 1) - 1) * x := by ring
  rw [this, abs_mul, abs_of_nonneg hge]

end Fl

section RelErr
variable {M : FlModel}

theorem rel_lower {y z e : ℝ} (h : |y - z| ≤ e * z) : z ≤ y + e * z :=
  neg_le_sub_iff_le_add.mp (abs_le.mp h).1

theorem rel_bounds {y z e : ℝ} (h : |y - z| ≤ e * z) : (1 - e) * z ≤ y ∧ y ≤ (1 + e) * z := by
  rw [one_sub_mul, one_add_mul]
  exact ⟨sub_le_iff_le_add.mpr (rel_lower h), sub_le_iff_le_add'.mp (abs_le.mp h).2⟩

theorem abs_sub_le_of_two_sided {v N lo hi : ℝ} (hN : 0 ≤ N) (h1 : lo * N ≤ v)
    (h2 : v ≤ hi * N) : |v - N| ≤ max (hi - 1) (1 - lo) * N := by
  have ha := mul_le_mul_of_nonneg_right (le_max_left (hi - 1) (1 - lo)) hN
  have hb := mul_le_mul_of_nonneg_right (le_max_right (hi - 1) (1 - lo)) hN
  rw [abs_le]
  constructor <;> linarith

/-- relative errors compose; `Y`, `Z` are the sizes `|y|`, `|z|`, or `y`, `z` themselves when these
are non-negative -/
theorem rel_trans {x y z Y Z g e : ℝ} (hg : 0 ≤ g) (h1 : |x - y| ≤ g * Y)
    (hY : Y ≤ (1 + e) * Z) (h2 : |y - z| ≤ e * Z) : |x - z| ≤ (g * (1 + e) + e) * Z :=
  calc |x - z| ≤ |x - y| + |y - z| := abs_sub_le x y z
    _ ≤ g * ((1 + e) * Z) + e * Z := add_le_add (h1.trans (mul_le_mul_of_nonneg_left hY hg)) h2
    _ = (g * (1 + e) + e) * Z := by ring

theorem rel_mul {x X y Y S T g₁ g₂ : ℝ} (hS : |X| ≤ S) (hT : |Y| ≤ T) (h₁ : |x - X| ≤ g₁ * S)
    (h₂ : |y - Y| ≤ g₂ * T) : |x * y - X * Y| ≤ ((1 + g₁) * (1 + g₂) - 1) * (S * T) := by
  have hS0 := (abs_nonneg X).trans hS
  have hgS := (abs_nonneg _).trans h₁
  have e : x * y - X * Y = (x - X) * (y - Y) + (x - X) * Y + X * (y - Y) := by ring
  rw [e]
  refine ((abs_add_le _ _).trans (add_le_add (abs_add_le _ _) le_rfl)).trans ?_
  rw [abs_mul, abs_mul, abs_mul]
  exact (add_le_add (add_le_add (mul_le_mul h₁ h₂ (abs_nonneg _) hgS)
    (mul_le_mul h₁ hT (abs_nonneg _) hgS)) (mul_le_mul hS h₂ (abs_nonneg _) hS0)).trans_eq
    (by ring)

theorem nonneg_of_rel_err {w t u : ℝ} (hu : u ≤ 1) (ht : 0 ≤ t) (h : |w - t| ≤ u * |t|) :
    0 ≤ w := by
  rw [abs_of_nonneg ht] at h
  have := mul_le_mul_of_nonneg_right hu ht
  linarith [(abs_le.mp h).1]

theorem pos_of_rel_err {w t u : ℝ} (hu : u < 1) (ht : 0 < t) (h : |w - t| ≤ u * |t|) :
    0 < w := by
  rw [abs_of_pos ht] at h
  have := mul_lt_mul_of_pos_right hu ht
  linarith [(abs_le.mp h).1]

theorem eq_zero_of_rel_err {w t u : ℝ} (hu : u < 1) (h : |w - t| ≤ u * |t|) (hw : w = 0) :
    t = 0 := by
  by_contra hne
  rw [hw, zero_sub, abs_neg] at h
  have := mul_lt_mul_of_pos_right hu (abs_pos.mpr hne)
  linarith

theorem abs_fl_ge (x : ℝ) : (1 - M.u) * |x| ≤ |M.fl x| := by
  have h := (abs_sub_abs_le_abs_sub x (M.fl x)).trans ((abs_sub_comm _ _).trans_le (M.fl_err x))
  rw [one_sub_mul]
  exact sub_le_comm.mp h

/-- a non-negative number is rounded to a non-negative number when `u ≤ 1`.  (For `u > 1` the
standard model allows `fl x = -x`: Examples of Props/C15F.lean.) -/
theorem fl_nonneg (hu : M.u ≤ 1) {x : ℝ} (hx : 0 ≤ x) : 0 ≤ M.fl x :=
  nonneg_of_rel_err hu hx (M.fl_err x)

theorem Fl.foldl_add_nonneg (hu : M.u ≤ 1) (l : List (Fl M)) (s : Fl M) (hs : 0 ≤ s.val)
    (hl : ∀ x ∈ l, 0 ≤ x.val) : 0 ≤ (l.foldl (· + ·) s).val := by
  induction l generalizing s with
  | nil => exact hs
  | cons x l ih =>
    rw [List.foldl_cons]
    exact ih _ (fl_nonneg hu (add_nonneg hs (hl x List.mem_cons_self)))
      fun y hy => hl y (List.mem_cons_of_mem _ hy)

theorem fl_abs {w Z e : ℝ} (h : |w - Z| ≤ e) : |M.fl w - Z| ≤ M.u * |Z| + (1 + M.u) * e := by
  have h1 : |w| ≤ |Z| + e := by linarith [abs_sub_abs_le_abs_sub w Z]
  have h2 := (M.fl_err w).trans (mul_le_mul_of_nonneg_left h1 M.u_nonneg)
  linarith [abs_sub_le (M.fl w) w Z]

/-- one more rounding: the relative error `g` becomes `g (1+u) + u` (`gam k ↦ gam (k+1)`) -/
theorem fl_rel {w W g : ℝ} (hw : |w - W| ≤ g * |W|) :
    |M.fl w - W| ≤ (g * (1 + M.u) + M.u) * |W| :=
  (fl_abs hw).trans_eq (by ring)

theorem fl_add_rel {A p P g : ℝ} (h : |p - P| ≤ g * |P|) :
    |M.fl (A + p) - (A + P)| ≤ M.u * |A + P| + (1 + M.u) * g * |P| :=
  (fl_abs (e := g * |P|) (by rwa [add_sub_add_left_eq_sub])).trans_eq (by ring)

theorem abs_segment_le (A B : ℝ) {t : ℝ} (h0 : 0 ≤ t) (h1 : t ≤ 1) :
    |A + (B - A) * t| ≤ |A| + |B| ∧ |(B - A) * t| ≤ |A| + |B| := by
  constructor
  · have e : A + (B - A) * t = (1 - t) * A + t * B := by ring
    rw [e]
    refine (abs_add_le _ _).trans (add_le_add ?_ ?_)
    · rw [abs_mul, abs_of_nonneg (sub_nonneg.mpr h1)]
      exact mul_le_of_le_one_left (abs_nonneg A) (sub_le_self 1 h0)
    · rw [abs_mul, abs_of_nonneg h0]
      exact mul_le_of_le_one_left (abs_nonneg B) h1
  · rw [abs_mul, abs_of_nonneg h0]
    exact (mul_le_of_le_one_right (abs_nonneg _) h1).trans
      ((abs_sub B A).trans_eq (add_comm _ _))

end RelErr

/-! Forward errors as rounding counts.  The counts add (`fl`: `+1`; `mul`, `trans`: `j + k`; a fold of
`n` computed terms: `n + k`), so the constants are `gam` of a sum of naturals and no `gam_succ`/`gam_add`
rewriting is needed; the conclusion of the fold rule has the shape of its hypothesis, so sums nest. -/
namespace FlModel
variable {M : FlModel}

/-- `x` is `X` up to `k` roundings, relative to the size `S` (a majorant of `|X|`; for a sum, the
sum of the sizes of its terms) -/
def Within (M : FlModel) (k : ℕ) (x X S : ℝ) : Prop := |x - X| ≤ M.gam k * S ∧ |X| ≤ S

/-- `x` is `X` up to `k` roundings: relative error `gam k` -/
def Approx (M : FlModel) (k : ℕ) (x X : ℝ) : Prop := |x - X| ≤ M.gam k * |X|

namespace Within
variable {j k : ℕ} {x y z X Y S T : ℝ}

theorem size_nonneg (h : M.Within k x X S) : 0 ≤ S := (abs_nonneg X).trans h.2

theorem of_le (h : |X| ≤ S) : M.Within 0 X X S := ⟨by simp, h⟩

theorem abs_le (h : M.Within k x X S) : |x| ≤ (1 + M.gam k) * S := by
  have := abs_sub_abs_le_abs_sub x X
  linarith [h.1, h.2]

theorem mono (hjk : j ≤ k) (h : M.Within j x X S) : M.Within k x X S :=
  ⟨h.1.trans (mul_le_mul_of_nonneg_right (M.gam_mono hjk) h.size_nonneg), h.2⟩

theorem gamma (h : M.Within k x X S) (hu : (k : ℝ) * M.u < 1) :
    |x - X| ≤ (k : ℝ) * M.u / (1 - (k : ℝ) * M.u) * S :=
  h.1.trans (mul_le_mul_of_nonneg_right (M.gam_le_gamma k hu) h.size_nonneg)

theorem fl (h : M.Within k x X S) : M.Within (k + 1) (M.fl x) X S := by
  refine ⟨?_, h.2⟩
  rw [M.gam_succ]
  linarith [fl_abs (M := M) h.1, mul_le_mul_of_nonneg_left h.2 M.u_nonneg]

/-- errors in a row: `x` computed from `y` with `j` roundings, `y` itself `k` roundings from `X` -/
theorem trans (h₁ : M.Within j x y T) (h₂ : M.Within k y X S) (hT : T ≤ (1 + M.gam k) * S) :
    M.Within (j + k) x X S :=
  ⟨(rel_trans (M.gam_nonneg j) h₁.1 hT h₂.1).trans_eq (by rw [Nat.add_comm, M.gam_add]), h₂.2⟩

theorem mul (h₁ : M.Within j x X S) (h₂ : M.Within k y Y T) :
    M.Within (j + k) (x * y) (X * Y) (S * T) :=
  ⟨(rel_mul h₁.2 h₂.2 h₁.1 h₂.1).trans_eq
      (by rw [M.one_add_gam, M.one_add_gam, ← pow_add, ← M.one_add_gam, add_sub_cancel_left]),
    (abs_mul X Y).trans_le (mul_le_mul h₁.2 h₂.2 (abs_nonneg _) h₁.size_nonneg)⟩

theorem mul_const (c : ℝ) (h : M.Within k x X S) : M.Within k (x * c) (X * c) (S * |c|) :=
  h.mul (of_le le_rfl)

theorem const_mul (c : ℝ) (h : M.Within k x X S) : M.Within k (c * x) (c * X) (|c| * S) := by
  have := (of_le (M := M) (le_refl |c|)).mul h
  rwa [Nat.zero_add] at this

theorem neg (h : M.Within k x X S) : M.Within k (-x) (-X) S :=
  ⟨by rw [neg_sub_neg, abs_sub_comm]; exact h.1, by rw [abs_neg]; exact h.2⟩

theorem add (h₁ : M.Within k x X S) (h₂ : M.Within k y Y T) :
    M.Within k (x + y) (X + Y) (S + T) :=
  ⟨by rw [add_sub_add_comm, mul_add]; exact (abs_add_le _ _).trans (add_le_add h₁.1 h₂.1),
    (abs_add_le _ _).trans (add_le_add h₁.2 h₂.2)⟩

theorem sub (h₁ : M.Within k x X S) (h₂ : M.Within k y Y T) :
    M.Within k (x - y) (X - Y) (S + T) := by
  simpa only [sub_eq_add_neg] using h₁.add h₂.neg

/-- a rounded sum of two computed terms with different histories, term by term -/
theorem fl_add_le (h₁ : M.Within j x X S) (h₂ : M.Within k y Y T) :
    |M.fl (x + y) - (X + Y)| ≤ M.gam (j + 1) * S + M.gam (k + 1) * T := by
  have h3 : |x + y - (X + Y)| ≤ M.gam j * S + M.gam k * T := by
    rw [add_sub_add_comm]; exact (abs_add_le _ _).trans (add_le_add h₁.1 h₂.1)
  rw [M.gam_succ, M.gam_succ]
  linarith [fl_abs (M := M) h3, mul_le_mul_of_nonneg_left
    ((abs_add_le X Y).trans (add_le_add h₁.2 h₂.2)) M.u_nonneg]

theorem fl_sub_le (h₁ : M.Within j x X S) (h₂ : M.Within k y Y T) :
    |M.fl (x - y) - (X - Y)| ≤ M.gam (j + 1) * S + M.gam (k + 1) * T := by
  simpa only [sub_eq_add_neg] using h₁.fl_add_le h₂.neg

theorem list_sum {ι : Type} (is : List ι) (f g a : ι → ℝ)
    (h : ∀ i ∈ is, M.Within k (f i) (g i) (a i)) :
    M.Within k (is.map f).sum (is.map g).sum (is.map a).sum := by
  induction is with
  | nil => exact ⟨by simp, by simp⟩
  | cons i is ih =>
    simp only [List.map_cons, List.sum_cons]
    exact (h i List.mem_cons_self).add (ih fun j hj => h j (List.mem_cons_of_mem _ hj))

theorem finset_sum {ι : Type} (s : Finset ι) {f g a : ι → ℝ}
    (h : ∀ i ∈ s, M.Within k (f i) (g i) (a i)) :
    M.Within k (∑ i ∈ s, f i) (∑ i ∈ s, g i) (∑ i ∈ s, a i) :=
  ⟨by rw [← Finset.sum_sub_distrib, Finset.mul_sum]
      exact (Finset.abs_sum_le_sum_abs _ _).trans (Finset.sum_le_sum fun i hi => (h i hi).1),
    (Finset.abs_sum_le_sum_abs _ _).trans (Finset.sum_le_sum fun i hi => (h i hi).2)⟩

/-- whatever is computed from the terms `f i` with constant `gam j` (a fold, a blocked fold,
Horner's rule) is `j + k` roundings from the sum of the exact terms `g i` -/
theorem finset_sum_trans {ι : Type} (s : Finset ι) {f g a : ι → ℝ} {r : ℝ}
    (hr : |r - ∑ i ∈ s, f i| ≤ M.gam j * ∑ i ∈ s, |f i|)
    (h : ∀ i ∈ s, M.Within k (f i) (g i) (a i)) :
    M.Within (j + k) r (∑ i ∈ s, g i) (∑ i ∈ s, a i) :=
  trans ⟨hr, Finset.abs_sum_le_sum_abs _ _⟩ (finset_sum s h)
    (by rw [Finset.mul_sum]; exact Finset.sum_le_sum fun i hi => (h i hi).abs_le)

theorem list_sum_trans {ι : Type} (is : List ι) {f g a : ι → ℝ} {r : ℝ}
    (hr : |r - (is.map f).sum| ≤ M.gam j * (is.map fun i => |f i|).sum)
    (h : ∀ i ∈ is, M.Within k (f i) (g i) (a i)) :
    M.Within (j + k) r (is.map g).sum (is.map a).sum := by
  refine ⟨?_, (list_sum is f g a h).2⟩
  rw [Nat.add_comm, M.gam_add]
  exact Fl.perturbed_sum_bound' is f g a (M.gam k) _ r (M.gam_nonneg _) h hr

/-- **a computed sum of computed terms** (the model's `s = 0; s += tᵢ`): the `length` rounded
additions come on top of the `k` roundings of the terms, relative to the sum of their sizes -/
theorem foldl_sum {ι : Type} (is : List ι) (f : ι → Fl M) (g a : ι → ℝ)
    (h : ∀ i ∈ is, M.Within k (f i).val (g i) (a i)) :
    M.Within (is.length + k) ((is.map f).foldl (· + ·) 0).val (is.map g).sum (is.map a).sum := by
  have h0 := Fl.foldl_sum_rounding (is.map f)
  rw [Fl.rsum_map, Fl.asum_map, List.length_map] at h0
  exact list_sum_trans is h0 h

theorem foldl_range (n : ℕ) (f : ℕ → Fl M) (g a : ℕ → ℝ)
    (h : ∀ i, i < n → M.Within k (f i).val (g i) (a i)) :
    M.Within (n + k) (((List.range n).map f).foldl (· + ·) 0).val
      (∑ i ∈ Finset.range n, g i) (∑ i ∈ Finset.range n, a i) := by
  have := foldl_sum (List.range n) f g a fun i hi => h i (List.mem_range.mp hi)
  rwa [List.length_range, sum_map_range, sum_map_range] at this

end Within

namespace Approx
variable {j k : ℕ} {x y X Y : ℝ}

theorem within (h : M.Approx k x X) : M.Within k x X |X| := ⟨h, le_rfl⟩

theorem refl (X : ℝ) : M.Approx 0 X X := (Within.of_le le_rfl).1

theorem abs_ge (h : M.Approx k x X) : (1 - M.gam k) * |X| ≤ |x| := by
  have h1 := abs_sub_abs_le_abs_sub X x
  rw [abs_sub_comm] at h1
  have h2 : |x - X| ≤ M.gam k * |X| := h
  linarith

theorem fl (h : M.Approx k x X) : M.Approx (k + 1) (M.fl x) X := h.within.fl.1

theorem trans (h₁ : M.Approx j x y) (h₂ : M.Approx k y X) : M.Approx (j + k) x X :=
  (h₁.within.trans h₂.within h₂.within.abs_le).1

theorem mul (h₁ : M.Approx j x X) (h₂ : M.Approx k y Y) : M.Approx (j + k) (x * y) (X * Y) :=
  (h₁.within.mul h₂.within).1.trans_eq (by rw [abs_mul])

theorem mul_const (c : ℝ) (h : M.Approx k x X) : M.Approx k (x * c) (X * c) :=
  (h.within.mul_const c).1.trans_eq (by rw [abs_mul])

theorem const_mul (c : ℝ) (h : M.Approx k x X) : M.Approx k (c * x) (c * X) :=
  (h.within.const_mul c).1.trans_eq (by rw [abs_mul])

theorem div_const (c : ℝ) (h : M.Approx k x X) : M.Approx k (x / c) (X / c) := by
  simpa only [div_eq_mul_inv] using h.mul_const c⁻¹

/-- a factor `e` with `|e - 1| ≤ gam k` (a product of `k` factors `1 + δ`, `|δ| ≤ u`) -/
theorem of_factor {e : ℝ} (he : M.Approx k e 1) (X : ℝ) : M.Approx k (X * e) X := by
  simpa using (refl (M := M) X).mul he

end Approx

theorem approx_fl (x : ℝ) : M.Approx 1 (M.fl x) x := (Approx.refl x).fl

theorem approx_delta {δ : ℝ} (h : |δ| ≤ M.u) : M.Approx 1 (1 + δ) 1 := by
  simpa [Approx] using h

end FlModel

/-- `Within.list_sum_trans` for terms rounded once (`k = 1`, e.g. the products of a dot product)
against their own sizes: a sum computed from them with constant `gam k` has the constant `gam (k+1)` -/
theorem Fl.rounded_terms_sum_bound {M : FlModel} {ι : Type} (is : List ι) (f : ι → Fl M) (g : ι → ℝ)
    (k : ℕ) (r : ℝ) (hfg : ∀ i ∈ is, |(f i).val - g i| ≤ M.u * |g i|)
    (hr : |r - rsum (is.map f)| ≤ M.gam k * asum (is.map f)) :
    |r - (is.map g).sum| ≤ M.gam (k + 1) * (is.map (fun i => |g i|)).sum := by
  rw [rsum_map, asum_map] at hr
  exact (FlModel.Within.list_sum_trans is hr fun i hi =>
    ⟨M.gam_one.symm ▸ hfg i hi, le_rfl⟩).1

/-- Round-to-nearest (ties upwards, Mathlib's `round`) to `p + 1` significant bits with an UNBOUNDED
exponent range: `fl x = round (x / 2^(e-p)) · 2^(e-p)` with `e = ⌊log₂ |x|⌋`.  It satisfies the
standard model with `u = 2^(-p-1)`.  This shows that `FlModel` is satisfied by a real binary
floating-point format (for `p = 52` the significand width and unit roundoff of IEEE binary64); it is
NOT a statement about Lean's `Float` / Rust's `f64` (bounded exponents, ties-to-even; for
ties-to-even see `rne` in Ohsl/Lemmas/RNE.lean). -/
noncomputable def FlModel.roundBits (p : ℕ) : FlModel where
  u := 2 ^ (-(p:ℤ) - 1)
  fl x := round (x / 2 ^ (Int.log 2 |x| - p)) * 2 ^ (Int.log 2 |x| - p)
  u_nonneg := (zpow_pos two_pos _).le
  fl_err x := by
    by_cases hx : x = 0
    · simp [hx]
    · set e := Int.log 2 |x|
      set q : ℝ := 2 ^ (e - p) with hq
      have hqpos : 0 < q := zpow_pos two_pos _
      have h1 := abs_sub_round (x / q)
      have e1 : round (x / q) * q - x = -(x / q - round (x / q)) * q := by field_simp; ring
      rw [e1, abs_mul, abs_neg, abs_of_pos hqpos]
      have h2 : (2:ℝ) ^ e ≤ |x| := by
        exact_mod_cast Int.zpow_log_le_self (b := 2) (by norm_num) (abs_pos.mpr hx)
      have e2 : q = 2 ^ e * 2 ^ (-(p:ℤ)) := by rw [hq, sub_eq_add_neg, zpow_add₀ two_ne_zero]
      have e3 : (2:ℝ) ^ (-(p:ℤ) - 1) = 2 ^ (-(p:ℤ)) / 2 := by rw [zpow_sub₀ two_ne_zero, zpow_one]
      have hp : (0:ℝ) < 2 ^ (-(p:ℤ)) := zpow_pos two_pos _
      rw [e3, e2]
      have h3 : |x / q - round (x / q)| * (2 ^ e * 2 ^ (-(p:ℤ))) ≤ 1 / 2 * (2 ^ e * 2 ^ (-(p:ℤ))) :=
        mul_le_mul_of_nonneg_right h1 (mul_pos (zpow_pos two_pos _) hp).le
      rw [← e2] at h3 ⊢
      have h4 : 2 ^ e * 2 ^ (-(p:ℤ)) ≤ |x| * 2 ^ (-(p:ℤ)) := mul_le_mul_of_nonneg_right h2 hp.le
      rw [e2] at h3 ⊢
      linarith

theorem FlModel.roundBits_fl (p : ℕ) : (FlModel.roundBits p).fl = flRound round p := rfl

/-- integers of at most `p+1` bits (`|k| < 2^(p+1)`) are representable in `roundBits p`, in
particular (`roundBits_rep_natCast`) the naturals below `2^(p+1)` -/
theorem FlModel.roundBits_rep_int (p : ℕ) (k : ℤ) (hk : |k| < 2 ^ (p + 1)) :
    (FlModel.roundBits p).Rep (k : ℝ) := by
  have h := flRound_fixes_grid nearest_round p k 0 hk
  rw [zpow_zero, mul_one] at h
  exact h

theorem FlModel.roundBits_rep_natCast (p : ℕ) {k : ℕ} (h : k < 2 ^ (p + 1)) :
    (FlModel.roundBits p).Rep (k : ℝ) := by
  have := FlModel.roundBits_rep_int p (k : ℤ) (by rw [Int.abs_natCast]; exact_mod_cast h)
  rwa [Int.cast_natCast] at this

/-- binary64's significand width (53 bits), unbounded exponent: `u = 2⁻⁵³` -/
noncomputable def FlModel.binary64 : FlModel := FlModel.roundBits 52

theorem FlModel.binary64_u : FlModel.binary64.u = 2 ^ (-53 : ℤ) := by
  show (2 : ℝ) ^ (-((52 : ℕ) : ℤ) - 1) = 2 ^ (-53 : ℤ)
  norm_num

end Ohsl
