/-
  Ohsl.Lemmas.C02P — the permutation recorded by `Mat.luDecomp` and the exchange counter.

  The definitions are all in terms of the model's OWN functions, nothing is instrumented: the
  prefix `luPrefix A k` of the run, the pivot row `pivotChoice A k` its search returns, the
  exchange counter `exchangeCount`, the recorded permutation `luPermUpTo` / `luPerm`.

  `luPrefix_run` ties them to the run, for every scalar type whose pivot comparison obeys
  `PivotLaw` (LURun.lean; an exact `PivotLaws` field and the rounded reals `Fl M` both do): every
  prefix of the run returns, records the permutation matrix of `luPermUpTo A n k`, counts its
  exchanges, and leaves Doolittle's factorisation (Doolittle.lean) of the rows of `A` so permuted.
-/
import Ohsl.Lemmas.SolveRun
import Ohsl.Lemmas.LURun
import Mathlib.GroupTheory.Perm.Sign
import Mathlib.Data.Matrix.PEquiv
namespace Ohsl
namespace Mat

section Defs
variable {K : Type} [Sub K] [Mul K] [Zero K] [One K] [BEq K] [ScalarExt K]

/-- the state of `lu_decomp_in_place` after its first `k` column steps (the model's own loop,
    stopped early) -/
def luPrefix (A : Mat K) (k : Nat) : Res (LU K) := do
  let p ← eye A.rows
  forM' 0 k { lu := A, perm := p, pivots := 0 } luStep

theorem luPrefix_full (A : Mat K) (h : A.rows = A.cols) : luPrefix A A.rows = luDecomp A := by
  have : ¬ A.rows ≠ A.cols := by simp [h]
  simp only [luPrefix, luDecomp, this, if_false]

theorem luPrefix_succ (A : Mat K) (k : Nat) :
    luPrefix A (k + 1) = (luPrefix A k >>= fun s => luStep s k) := by
  unfold luPrefix
  cases eye (K := K) A.rows with
  | error e => rfl
  | ok p =>
    simp only [bind, Except.bind]
    exact forM'_succ 0 k _ luStep (Nat.zero_le _)

/-- the pivot row chosen by the model's own search at column step `k` of `luDecomp A`: `some p`
    when the step exchanges rows `k`, `p` (if different) and eliminates; `none` when the step is
    skipped (pivot magnitude exactly zero) or not reached -/
def pivotChoice (A : Mat K) (k : Nat) : Option Nat :=
  match luPrefix A k with
  | .ok s =>
    match luPivot s.lu k with
    | .ok (mx, imax) => if mx == 0 then none else some imax
    | .error _ => none
  | .error _ => none

/-- step `k` performs a row exchange: the chosen pivot row differs from `k` -/
def exchangeAt (A : Mat K) (k : Nat) : Bool :=
  match pivotChoice A k with
  | some p => p != k
  | none => false

/-- the number of loop steps `k < n` at which the chosen pivot row differs from `k` -/
def exchangeCount (A : Mat K) (n : Nat) : Nat := (List.range n).countP (exchangeAt A)

theorem exchangeCount_succ (A : Mat K) (k : Nat) :
    exchangeCount A (k + 1) = exchangeCount A k + (if exchangeAt A k then 1 else 0) := by
  unfold exchangeCount
  rw [List.range_succ, List.countP_append, List.countP_singleton]

theorem exchangeCount_le (A : Mat K) (n : Nat) : exchangeCount A n ≤ n := by
  unfold exchangeCount
  have := List.countP_le_length (p := exchangeAt A) (l := List.range n)
  simpa using this

/-- the transposition applied to the recorded permutation at step `k` (identity when the step is
    skipped or the pivot is already in place) -/
def pivotSwap (A : Mat K) (n k : Nat) : Equiv.Perm (Fin n) :=
  match pivotChoice A k with
  | some p => if h : k < n ∧ p < n then Equiv.swap ⟨k, h.1⟩ ⟨p, h.2⟩ else 1
  | none => 1

/-- the permutation recorded after `k` steps: the product of the chosen transpositions -/
def luPermUpTo (A : Mat K) (n : Nat) : Nat → Equiv.Perm (Fin n)
  | 0 => 1
  | k + 1 => luPermUpTo A n k * pivotSwap A n k

/-- the row permutation of the whole factorisation: row `r` of `P·A` is row `luPerm A n r` of `A` -/
def luPerm (A : Mat K) (n : Nat) : Equiv.Perm (Fin n) := luPermUpTo A n n

end Defs

/-- the entries of the permutation matrix of `σ`: `1` at `(r, σ r)`, `0` elsewhere -/
def permEntries {K : Type} [Zero K] [One K] {n : Nat} (σ : Equiv.Perm (Fin n)) : Nat → Nat → K :=
  fun r c => if h : r < n then (if (σ ⟨r, h⟩).val = c then 1 else 0) else 0

theorem permEntries_apply {K : Type} [Zero K] [One K] {n : Nat} (σ : Equiv.Perm (Fin n))
    {r : Nat} (hr : r < n) (c : Nat) :
    permEntries (K := K) σ r c = if (σ ⟨r, hr⟩).val = c then 1 else 0 := by
  simp [permEntries, hr]

theorem permEntries_one {K : Type} [Zero K] [One K] {n : Nat} {r c : Nat} (hr : r < n) :
    permEntries (K := K) (1 : Equiv.Perm (Fin n)) r c = if r = c then 1 else 0 := by
  rw [permEntries_apply _ hr]
  rfl

/-- the rows of `a` permuted by `σ`: row `r` is row `σ r` of `a` -/
def permRows {K : Type} [Zero K] {n : Nat} (σ : Equiv.Perm (Fin n)) (a : Nat → Nat → K) :
    Nat → Nat → K :=
  fun r c => if h : r < n then a (σ ⟨r, h⟩).val c else 0

section Rows
variable {K : Type} [Zero K] {n : Nat}

theorem permRows_apply (σ : Equiv.Perm (Fin n)) (a : Nat → Nat → K) {r : Nat} (hr : r < n)
    (c : Nat) : permRows σ a r c = a (σ ⟨r, hr⟩).val c := dif_pos hr

theorem permEntries_eq_permRows [One K] (σ : Equiv.Perm (Fin n)) :
    permEntries (K := K) σ = permRows σ (fun i j => if i = j then 1 else 0) := rfl

theorem swapFn_permRows (σ : Equiv.Perm (Fin n)) (a : Nat → Nat → K) {i p : Nat} (hi : i < n)
    (hp : p < n) {r : Nat} (hr : r < n) (c : Nat) :
    swapFn (permRows σ a) i p r c = permRows (σ * Equiv.swap ⟨i, hi⟩ ⟨p, hp⟩) a r c := by
  rw [permRows_apply _ _ hr, Equiv.Perm.mul_apply]
  unfold swapFn
  by_cases e1 : r = i
  · subst e1
    rw [if_pos rfl, permRows_apply _ _ hp, Equiv.swap_apply_left]
  · rw [if_neg e1]
    by_cases e2 : r = p
    · subst e2
      rw [if_pos rfl, permRows_apply _ _ hi, Equiv.swap_apply_right]
    · rw [if_neg e2, permRows_apply _ _ hr, Equiv.swap_apply_of_ne_of_ne
        (by simpa [Fin.ext_iff] using e1) (by simpa [Fin.ext_iff] using e2)]

theorem swapFn_permEntries [One K] (σ : Equiv.Perm (Fin n)) {i p : Nat} (hi : i < n)
    (hp : p < n) {r : Nat} (hr : r < n) (c : Nat) :
    swapFn (permEntries (K := K) σ) i p r c
      = permEntries (K := K) (σ * Equiv.swap ⟨i, hi⟩ ⟨p, hp⟩) r c := by
  rw [permEntries_eq_permRows, permEntries_eq_permRows]
  exact swapFn_permRows σ _ hi hp hr c

end Rows

section Run
variable {K : Type} [Sub K] [Mul K] [Zero K] [One K] [BEq K] [ScalarExt K]
  {S : Type} [LinearOrder S] {size : K → S}

theorem luPrefix_run (law : PivotLaw size) {A : Mat K} {n : Nat} {a : Nat → Nat → K}
    (h : Is A n n a) :
    ∀ k, k ≤ n → ∃ (s : LU K) (w : Nat → Nat → K), luPrefix A k = .ok s ∧ Is s.lu n n w ∧
      Is s.perm n n (permEntries (luPermUpTo A n k)) ∧ s.pivots = exchangeCount A k ∧
      Equiv.Perm.sign (luPermUpTo A n k) = (-1) ^ s.pivots ∧
      (∀ j p, j < k → pivotChoice A j = some p → j ≤ p ∧ p < n) ∧
      Doolittle (fun x => size x = size 0) (fun a p => size a ≤ size p ∧ size 0 < size p) n n k
        (fun j => (pivotChoice A j).isSome) (permRows (luPermUpTo A n k) a) w := by
  intro k
  induction k with
  | zero =>
    intro _
    obtain ⟨p0, hp0, hI0⟩ := eye_spec (K := K) n
    refine ⟨{ lu := A, perm := p0, pivots := 0 }, a, ?_, h, ?_, rfl, ?_,
      fun j p hj => absurd hj (Nat.not_lt_zero j), ?_⟩
    · simp only [luPrefix, h.rows, hp0, bind, Except.bind]
      exact forM'_empty 0 0 _ _ (Nat.le_refl _)
    · exact hI0.congr (fun r c hr _ => (permEntries_one hr).symm)
    · rw [luPermUpTo, Equiv.Perm.sign_one, pow_zero]
    · exact Doolittle.init.congr_input (Nat.le_refl n) fun r c hr _ => permRows_apply _ a hr c
  | succ k ih =>
    intro hk
    have hkn : k < n := by omega
    obtain ⟨s, w, hs, hw, hpe, hcnt, hsign, hrange, hD⟩ := ih (by omega)
    obtain ⟨mx, imax, s', hpv, hstep, h1, h2, hcase⟩ := luStep_doolittle law hw hpe hkn hD
    have hchoice : pivotChoice A k = if mx == 0 then none else some imax := by
      simp only [pivotChoice, hs, hpv]
    rw [luPrefix_succ, hs]
    simp only [bind, Except.bind, hstep]
    rcases hcase with ⟨h0, rfl, hD'⟩ | ⟨h0, w', hw', hp', hpiv, hD'⟩
    · -- skipped step: nothing changes, no exchange is counted
      have hc : pivotChoice A k = none := by rw [hchoice, h0]; rfl
      have hex : exchangeAt A k = false := by simp only [exchangeAt, hc]
      have hσ : luPermUpTo A n (k + 1) = luPermUpTo A n k := by
        simp only [luPermUpTo, pivotSwap, hc, mul_one]
      rw [hσ]
      refine ⟨s', w, rfl, hw, hpe, by rw [exchangeCount_succ, hex, hcnt]; simp, hsign,
        fun j p hj hjp => ?_, hD' _ (fun _ _ => rfl) (by rw [hc]; rfl)⟩
      rcases Nat.lt_succ_iff_lt_or_eq.1 hj with hj | rfl
      · exact hrange j p hj hjp
      · rw [hc] at hjp; cases hjp
    · have hc : pivotChoice A k = some imax := by rw [hchoice, h0]; rfl
      have hex : exchangeAt A k = (imax != k) := by simp only [exchangeAt, hc]
      have hσ : luPermUpTo A n (k + 1)
          = luPermUpTo A n k * Equiv.swap ⟨k, hkn⟩ ⟨imax, h2⟩ := by
        have : k < n ∧ imax < n := ⟨hkn, h2⟩
        simp only [luPermUpTo, pivotSwap, hc, this, and_self, dite_true]
      have hcnt' : s'.pivots = exchangeCount A (k + 1) := by
        rw [exchangeCount_succ, hex, hpiv, hcnt]
        by_cases e : imax = k <;> simp [e]
      rw [hσ]
      refine ⟨s', w', rfl, hw', hp'.congr (fun r c hr _ => swapFn_permEntries _ hkn h2 hr c),
        hcnt', ?_, fun j p hj hjp => ?_,
        (hD' _ (fun _ _ => rfl) (by rw [hc]; rfl)).congr_input (Nat.le_refl n)
          fun r c hr _ => (swapFn_permRows _ a hkn h2 hr c).symm⟩
      · rw [Equiv.Perm.sign_mul, hsign, hpiv]
        by_cases e : imax = k
        · subst e
          rw [Equiv.swap_self, Equiv.Perm.sign_refl, mul_one, if_pos rfl, Nat.add_zero]
        · have hne' : (⟨k, hkn⟩ : Fin n) ≠ ⟨imax, h2⟩ := by
            intro h'; exact e (Fin.mk.injEq _ _ _ _ ▸ h').symm
          rw [Equiv.Perm.sign_swap hne', if_neg e, pow_succ]
      · rcases Nat.lt_succ_iff_lt_or_eq.1 hj with hj | rfl
        · exact hrange j p hj hjp
        · rw [hc] at hjp
          cases hjp
          exact ⟨h1, h2⟩

end Run

end Mat
end Ohsl
