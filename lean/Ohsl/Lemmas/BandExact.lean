/-
  Ohsl.Lemmas.BandExact — the banded solver over an exact field (`Alg.DivLaw`).

  One pivot step on the dense twin over a field (`twin_step`; shared with BandDet.lean, as are
  `mult` and `det_loop`), the back substitution, and the invariant `DecInv` of the pivot loop of
  `decompose`, which does not depend on which row the pivot search picks; hence (E) `solve_sound`
  (every returned vector solves the dense system, any `(n, m1, m2)`) and `solve_complete`
  (non-zero computed determinant ⇒ `solve` succeeds).
-/
import Ohsl.Lemmas.BandSpec
import Ohsl.Lemmas.SolveSound
import Ohsl.Lemmas.TriSolve
namespace Ohsl
namespace Band
open Mat (forM' Is forM'_inv aget_ok aset_ok aget_eq_ok swapFn swapFn_self)

section Twin
variable {F : Type} [Field F]

theorem twin_final_row {n m1 mm : Nat} (e : Nat → Nat → F) {i : Nat} (hi : i < n) (hmm : 0 < mm)
    (X : Nat → F) :
    ∑ c ∈ Finset.range n, twinK m1 mm n n e i c * X c =
      e i 0 * X i + ∑ t ∈ Finset.Ico 1 (min (n - i) mm), e i t * X (t + i) :=
  sum_upper_row hi hmm _ (e i) X (fun c => by unfold twinK off; rw [if_pos hi])

theorem det_loop {au : Mat F} {n mm : Nat} {e : Nat → Nat → F} (hau : Is au n mm e) (hmm : 0 < mm)
    (d : F) :
    forM' 0 n d (fun dd i => do
      let x ← au.get i 0
      pure (dd * x)) = .ok (d * ∏ i ∈ Finset.range n, e i 0) := by
  rw [Mat.prodLoop_fold hau (fun _ => 0) (fun i hi => ⟨hi, hmm⟩), Props.C15.foldl_range_mul_eq_prod]

variable [DecidableEq F]

/-- the guarded division of `decElim` over a field: zero for a zero pivot -/
def qF (a p : F) : F := if p = 0 then 0 else a / p

/-- the multiplier of row `i` against pivot row `k` -/
def mult (e : Nat → Nat → F) (k i : Nat) : F := qF (e i 0) (e k 0)

/-- the elimination of one column on the dense twin over a field: every window row has the multiple
    of the pivot row subtracted in ALL columns.  Outside the compact storage both sides vanish; in
    column `k` the multiplier cancels the entry, or (zero pivot) the whole window column is zero
    and the rows are only shifted. -/
theorem twin_elim {m1 mm k l : Nat} (e : Nat → Nat → F) (hk : k < l)
    (hz : e k 0 = 0 → ∀ a, k < a → a < l → e a 0 = 0) (a c : Nat) :
    twinK m1 mm (k + 1) l (elimE mm e (mult e k) k l) a c =
      if k < a ∧ a < l then twinK m1 mm k l e a c - mult e k a * twinK m1 mm k l e k c
      else twinK m1 mm k l e a c := by
  rw [twinK_elim e _ hk]
  by_cases hw : k < a ∧ a < l
  swap
  · rw [if_neg hw, if_neg hw]
  rw [if_pos hw, if_pos hw]
  by_cases hc : k + 1 ≤ c ∧ c < k + mm
  · rw [if_pos hc]
  rw [if_neg hc, twinK_in_window e (show k ≤ a by omega) hw.2, twinK_in_window e (Nat.le_refl k) hk]
  by_cases hck : c = k ∧ 0 < mm
  · obtain ⟨rfl, hmm⟩ := hck
    rw [if_pos (show c ≤ c ∧ c < c + mm by omega), if_pos (show c ≤ c ∧ c < c + mm by omega),
      Nat.sub_self]
    unfold mult qF
    by_cases hp : e c 0 = 0
    · rw [if_pos hp, hz hp a hw.1 hw.2, zero_mul, sub_zero]
    · rw [if_neg hp, div_mul_cancel₀ _ hp, sub_self]
  · rw [if_neg (by omega), if_neg (by omega), mul_zero, sub_zero]

theorem twin_step {n m1 mm k ip : Nat} {e e' : Nat → Nat → F} (hk : k < n) (hip1 : k ≤ ip)
    (hip2 : ip < min (m1 + k + 1) n)
    (he' : ∀ a b, a < n → b < mm → e' a b =
      elimE mm (swapFn e k ip) (mult (swapFn e k ip) k) k (min (m1 + k + 1) n) a b)
    (hz : swapFn e k ip k 0 = 0 →
      ∀ a, k < a → a < min (m1 + k + 1) n → swapFn e k ip a 0 = 0)
    {a : Nat} (ha : a < n) (c : Nat) :
    twinK m1 mm (k + 1) (min (m1 + k + 1) n) e' a c =
      swapFn (twinK m1 mm k (min (m1 + k) n) e) k ip a c
        - (if k < a ∧ a < min (m1 + k + 1) n then mult (swapFn e k ip) k a else 0)
          * swapFn (twinK m1 mm k (min (m1 + k) n) e) k ip k c := by
  have hkl : k < min (m1 + k + 1) n := by omega
  have hw : ∀ a, a < n → ∀ c, swapFn (twinK m1 mm k (min (m1 + k + 1) n) e) k ip a c =
      swapFn (twinK m1 mm k (min (m1 + k) n) e) k ip a c := by
    intro a ha c
    unfold swapFn
    rw [twinK_window _ (show ip < n by omega), twinK_window _ hk, twinK_window _ ha]
  rw [twinK_congr he' ha c, twin_elim _ hkl hz, twinK_swap _ hkl hip1 hip2,
    twinK_swap _ hkl hip1 hip2, hw a ha c, hw k hk c]
  split
  · rfl
  · rw [zero_mul, sub_zero]

end Twin

theorem backDot_eq_sum {F : Type} [Field F] {au : Mat F} {n mm : Nat} {e : Nat → Nat → F}
    (hau : Is au n mm e) (x : Array F) (hx : x.size = n) {i l : Nat} (hi : i < n) (hl1 : 1 ≤ l)
    (hl : l ≤ mm) (hli : i + l ≤ n) (xi : F) :
    backDot au x i l xi = .ok (xi - ∑ k ∈ Finset.Ico 1 l, e i k * x[k + i]?.getD 0) := by
  rw [backDot_eq_sdot hau x hx hi hl1 hl hli, Mat.sdot_eq]

section Back
variable {F : Type} [Field F] [ScalarExt F] [Alg.DivLaw F]

theorem back_spec {au : Mat F} {n mm : Nat} {e : Nat → Nat → F} (hau : Is au n mm e)
    (hmm : 0 < mm) (x0 : Array F) (hx : x0.size = n) {st : Array F × Nat}
    (h : (List.range n).reverse.foldlM (backBody au mm) (x0, 1) = .ok st) :
    st.1.size = n ∧ ∀ a, a < n → e a 0 ≠ 0 ∧
      e a 0 * st.1[a]?.getD 0 + ∑ k ∈ Finset.Ico 1 (min (n - a) mm), e a k * st.1[k + a]?.getD 0
        = x0[a]?.getD 0 := by
  obtain ⟨hsz, hrows⟩ := back_specK hau hmm x0 hx h
  refine ⟨hsz, fun a ha => ?_⟩
  obtain ⟨hp0, hq⟩ := Alg.divM_ok_iff.mp (hrows a ha)
  exact ⟨hp0, by rw [hq, Mat.sdot_eq, mul_div_cancel₀ _ hp0, sub_add_cancel]⟩

theorem back_total {au : Mat F} {n mm : Nat} {e : Nat → Nat → F} (hau : Is au n mm e)
    (hmm : 0 < mm) (x0 : Array F) (hx : x0.size = n) (hp : ∀ i, i < n → e i 0 ≠ 0) :
    ∃ st, (List.range n).reverse.foldlM (backBody au mm) (x0, 1) = .ok st ∧ st.1.size = n := by
  refine Exists.imp (fun st h => ⟨h.1, h.2.1⟩) (foldlM_rev_inv
    (fun j (st : Array F × Nat) => st.1.size = n ∧ st.2 = min (n - j + 1) mm)
    _ n (x0, 1) ⟨hx, backWindow_start n hmm⟩ ?_)
  rintro i ⟨x, l⟩ hi ⟨q1, q2⟩
  simp only at q1 q2 ⊢
  have hix : i < x.size := q1 ▸ hi
  obtain ⟨hl1, hl2, hl3⟩ := backWindow_bounds q2 hi hmm
  exact ⟨_, backBody_ok.mpr ⟨_, _, _, _, _, aget_ok hix,
      backDot_eq_sum hau x q1 hi hl1 hl2 hl3 x[i], hau.get hi hmm,
      Alg.divM_law_ne (hp i hi), aset_ok _ hix, rfl⟩,
    by simpa using q1, backWindow_succ q2 hi⟩

end Back

/-- the zero fix does nothing when a zero pivot means that slot `(k, 0)` is zero already: for a
    non-zero pivot, and for a pivot of maximal magnitude -/
theorem zeroFix_of_max {F : Type} [Zero F] [BEq F] [LawfulBEq F] {e : Nat → Nat → F} {k ip : Nat}
    (h : e ip 0 = 0 → e k 0 = 0) : zeroFix e k ip = e := by
  funext a b
  unfold zeroFix
  by_cases hc : (e ip 0 == 0) = true ∧ a = k ∧ b = 0
  · obtain ⟨h1, rfl, rfl⟩ := hc
    rw [if_pos ⟨h1, rfl, rfl⟩, h (beq_iff_eq.mp h1)]
  · rw [if_neg hc]

section FullLU
variable {F : Type} [Field F] [DecidableEq F] [BEq F] [LawfulBEq F] [ScalarExt F] [Alg.DivLaw F]

theorem dumR_qF (a p : F) : dumR a p = .ok (qF a p) := by
  unfold dumR qF
  by_cases hp : p = 0
  · rw [if_pos (beq_iff_eq.mpr hp), if_pos hp]; rfl
  · rw [if_neg (fun h => hp (beq_iff_eq.mp h)), if_neg hp, Alg.divM_law_ne hp]

/-- invariant of the pivot loop of `decompose` (before step `k`): shapes, the exchange record, and
    either a finished pivot is zero (the back substitution will then fail, so `solve` returns
    nothing), or every solution of the twin system with the replayed right-hand side solves `A` -/
def DecInv (n m1 mm : Nat) (A : Nat → Nat → F) (k : Nat) (st : Dec F × Nat) : Prop :=
  Shape n m1 mm k st ∧
  ((∃ k', k' < k ∧ Mat.entryOf st.1.au k' 0 = 0) ∨
   (∀ y z, Mat.Sol n (twinK m1 mm k (min (m1 + k) n) (Mat.entryOf st.1.au))
      (fwd n m1 (Mat.entryOf st.1.al) (idxf st.1.index) k y) z → Mat.Sol n A y z))

theorem decStep_inv {n m1 mm k : Nat} {A : Nat → Nat → F} {st : Dec F × Nat} (hk : k < n)
    (hmm : 0 < mm) (h : DecInv n m1 mm A k st) :
    ∃ st', decStep n mm st k = .ok st' ∧ DecInv n m1 mm A (k + 1) st' := by
  obtain ⟨hsh, hgb⟩ := h
  -- which row of the window the search picks does not matter here: the relation is `True`
  obtain ⟨st', ip, hstep, hsh', hip1, hip2, _, hix, _, he', hea'⟩ := hsh.step hk hmm
    (fun _ _ => True) (fun _ => trivial) (fun _ _ _ _ _ => trivial)
    (fun _ _ => by split <;> trivial) qF dumR_qF
  have hipn : ip < n := Nat.lt_of_lt_of_le hip2 (Nat.min_le_right _ _)
  refine ⟨st', hstep, hsh', ?_⟩
  -- the first slot of a finished row `a ≤ k` is its first slot after the zero fix and exchange
  have ent0 : ∀ a, a ≤ k → Mat.entryOf st'.1.au a 0 =
      pivoted (Mat.entryOf st.1.au) k ip a 0 := fun a ha => by
    rw [he' a 0 (Nat.lt_of_le_of_lt ha hk) hmm, elimE_of_le _ _ _ (.inl ha)]
  rcases hgb with ⟨k', hk', hz⟩ | hgood
  · left
    exact ⟨k', Nat.lt_succ_of_lt hk', by
      rw [ent0 k' (Nat.le_of_lt hk'), pivoted_of_lt _ hk' hip1]; exact hz⟩
  · by_cases hp : Mat.entryOf st.1.au ip 0 = 0
    · left
      refine ⟨k, Nat.lt_succ_self k, ?_⟩
      rw [ent0 k (Nat.le_refl k), pivoted_pivot]
      split
      · rfl
      · exact hp
    · right
      intro y z hS
      simp only [← Nat.add_assoc] at hS
      apply hgood y z
      rw [pivoted, zeroFix_of_max (fun h0 => absurd h0 hp)] at he' hea'
      have hp1 : swapFn (Mat.entryOf st.1.au) k ip k 0 ≠ 0 := by simpa [swapFn] using hp
      have hki : k < st.1.index.size := by rw [hsh.sz]; exact hk
      -- exchanging two equations, then subtracting multiples of equation `k`, keeps the solutions
      refine Mat.Sol.of_swap (p := k) (k := ip) hk hipn
        (e' := swapFn (twinK m1 mm k (min (m1 + k) n) (Mat.entryOf st.1.au)) k ip)
        (y' := swapV (fwd n m1 (Mat.entryOf st.1.al) (idxf st.1.index) k y) k ip)
        (fun _ _ _ _ => rfl)
        (fun a _ => by
          unfold swapV
          split_ifs with h1 h2 <;> first | rfl | rw [← h1, ← h2]) ?_
      refine Mat.Sol.of_elim hk (fun a => if k < a ∧ a < min (m1 + k + 1) n then
          mult (swapFn (Mat.entryOf st.1.au) k ip) k a else 0)
        (if_neg fun h => Nat.lt_irrefl k h.1)
        (fun a c ha _ => twin_step hk hip1 hip2 he' (fun h => absurd h hp1) ha c)
        (fun a _ => ?_) hS
      rw [fwd_succ hk hea' (by rw [hix, idxf_set hki, if_pos rfl])
        (fun k' hk' => by rw [hix, idxf_set hki, if_neg (Nat.ne_of_lt hk')]) y a]
      split
      · rfl
      · rw [zero_mul, sub_zero]

theorem decompose_inv {b : Band F} (h : WFb b) (hm : b.m1 ≤ b.n) :
    ∃ s l, decompose b = .ok s ∧ DecInv b.n b.m1 (b.m1 + b.m2 + 1) (dense b) b.n (s, l) := by
  refine decompose_inv_rule h hm _ (fun st0 hsh _ htw => ⟨hsh, Or.inr (fun y z hS => ?_)⟩)
    (fun k st hk hinv => decStep_inv hk (by omega) hinv)
  exact hS.of_rows id (fun _ hi => hi) (fun a c ha hc => (htw a c ha hc).symm) (fun _ _ => rfl)

/-- (E) **soundness of the banded solver** (`bandec` + `banbks`, any `(n, m1, m2)`): every
    vector returned by `solve` solves the dense system `Σ_j dense b i j * x[j] = rhs[i]` -/
theorem solve_sound {b : Band F} (h : WFb b) {rhs x : Array F}
    (hs : solve b rhs = .ok x) :
    x.size = b.n ∧ ∀ i, i < b.n →
      ∑ j ∈ Finset.range b.n, dense b i j * x[j]?.getD 0 = rhs[i]?.getD 0 := by
  obtain ⟨hr, s, st0, st, hdec, hf, hb, rfl⟩ := solve_ok hs
  by_cases hm : b.m1 ≤ b.n
  swap
  · rw [decompose_rejects h (by omega)] at hdec; cases hdec
  obtain ⟨s', l, hdec', ⟨hl, hau, hal, hsz, hidx⟩, hgb⟩ := decompose_inv h hm
  rw [hdec] at hdec'
  injection hdec' with e
  subst e
  simp only at hl hau hal hsz hidx hgb
  obtain ⟨st0', hf1, hf2, hf3⟩ := solve_fwd_spec hal hsz hidx hm rhs hr
  rw [hf] at hf1
  injection hf1 with e
  subst e
  obtain ⟨hsize, hrows⟩ := back_spec hau (by omega) st0.1 hf2 hb
  refine ⟨hsize, ?_⟩
  rcases hgb with ⟨k', hk', hz⟩ | hgood
  · exact absurd hz (hrows k' hk').1
  · refine hgood (fun a => rhs[a]?.getD 0) (fun a => st.1[a]?.getD 0) ?_
    intro i hi
    have e1 : min (b.m1 + b.n) b.n = b.n := by omega
    rw [e1, twin_final_row _ hi (by omega), (hrows i hi).2, hf3 i]

/-- (E) **a non-zero computed determinant guarantees that `solve` succeeds** (and then
    `solve_sound` applies) -/
theorem solve_complete {b : Band F} (h : WFb b) {rhs : Array F} (hr : rhs.size = b.n) {δ : F}
    (hd : det b = .ok δ) (hδ : δ ≠ 0) : ∃ x, solve b rhs = .ok x ∧ x.size = b.n := by
  by_cases hm : b.m1 ≤ b.n
  swap
  · rw [det_rejects h (by omega)] at hd; cases hd
  obtain ⟨s, l, hdec, ⟨hl, hau, hal, hsz, hidx⟩, _⟩ := decompose_inv h hm
  simp only at hl hau hal hsz hidx
  have hmm : 0 < b.m1 + b.m2 + 1 := by omega
  have hpiv : ∀ i, i < b.n → Mat.entryOf s.au i 0 ≠ 0 := by
    unfold det at hd
    rw [hdec] at hd
    have := det_loop hau hmm s.d
    simp only [bind, Except.bind, pure, Except.pure] at this hd
    rw [this] at hd
    injection hd with hd
    intro i hi hz
    apply hδ
    rw [← hd, Finset.prod_eq_zero (Finset.mem_range.mpr hi) hz, mul_zero]
  obtain ⟨st0, hf1, hf2, _⟩ := solve_fwd_spec hal hsz hidx hm rhs hr
  obtain ⟨st, hb1, hb2⟩ := back_total hau hmm st0.1 hf2 hpiv
  refine ⟨st.1, ?_, hb2⟩
  rw [solve_eq, if_neg (by omega), hdec]
  exact solveWith_of hf1 hb1

end FullLU

end Band
end Ohsl
