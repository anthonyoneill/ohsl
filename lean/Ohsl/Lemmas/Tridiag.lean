/-
  Ohsl.Lemmas.Tridiag — for property C05 (tridiagonal matrices): the loops of `Tri.solve`, `Tri.det`,
  `Tri.mulVec` with their bodies named; `triEntry a b c`, the dense twin of three diagonals given as
  functions; the Thomas recurrences with the row identity they satisfy; the three-term recurrence of
  the tridiagonal determinant.
-/
import Ohsl.Model.Tridiag
import Ohsl.Lemmas.MatIdx
import Ohsl.Lemmas.ArrayIndex
import Mathlib.Algebra.BigOperators.Group.Finset.Basic
import Mathlib.Algebra.BigOperators.Ring.Finset
import Mathlib.Algebra.Field.Basic
import Mathlib.Tactic.Ring
import Mathlib.Tactic.LinearCombination
import Mathlib.Tactic.SplitIfs
import Mathlib.LinearAlgebra.Matrix.Determinant.Basic
namespace Ohsl

/-- the forward sweep reads `sup` and `sub` through the paddings `sup.push 0` and `#[0] ++ sub`
    (`Tri.sweepBody`); inside the unpadded array such a read is the `getD` view of the entry -/
theorem aget_push_lt {α} [Zero α] {a : Array α} {x : α} {j : Nat} (h : j < a.size) :
    aget (a.push x) j = .ok (a[j]?.getD 0) := by
  rw [aget, Array.getElem?_push_lt h, Array.getElem?_eq_getElem h]; rfl

theorem aget_singleton_append_succ {α} [Zero α] {a : Array α} {x : α} {j : Nat} (h : j < a.size) :
    aget (#[x] ++ a) (j + 1) = .ok (a[j]?.getD 0) := by
  have e : (#[x] ++ a)[j + 1]? = a[j]? := by
    rw [Array.getElem?_append_right (Nat.le_add_left 1 j)]; rfl
  rw [aget, e, Array.getElem?_eq_getElem h]; rfl

namespace Tri

section Solve
variable {K : Type} [Sub K] [Mul K] [Zero K] [BEq K] [ScalarExt K]

def sweepBody (t : Tri K) (r : Array K) (s : Sweep K) (j : Nat) : Res (Sweep K) := do
  let c ← aget (t.sup.push 0) (j - 1)
  let g ← divM c s.beta
  let gamma ← aset s.gamma j g
  let mj ← aget t.main j
  let aj ← aget (#[(0 : K)] ++ t.sub) j
  let beta := mj - aj * g
  if beta == 0 then .error .zeroPivot
  else do
    let rj ← aget r j
    let ujm1 ← aget s.u (j - 1)
    let q ← divM (rj - aj * ujm1) beta
    let u ← aset s.u j q
    pure ⟨beta, gamma, u⟩

def backBody (gamma : Array K) (u : Array K) (j : Nat) : Res (Array K) := do
  let g ← aget gamma (j + 1)
  let uj1 ← aget u (j + 1)
  let uj ← aget u j
  aset u j (uj - g * uj1)

theorem solve_eq (t : Tri K) (r : Array K) :
    solve t r =
      (if t.n ≠ r.size then .error .size
      else do
        let beta ← aget t.main 0
        if beta == 0 then .error .zeroPivot
        else do
          let r0 ← aget r 0
          let q ← divM r0 beta
          let u ← aset (Array.replicate t.n 0) 0 q
          let s ← Mat.forM' 1 t.n ⟨beta, Array.replicate t.n 0, u⟩ (sweepBody t r)
          let n1 ← usub t.n 1
          (List.range n1).reverse.foldlM (backBody s.gamma) s.u) := rfl

end Solve

section Det
variable {K : Type} [Sub K] [Mul K] [One K]

def detBody (t : Tri K) (s : K × K) (j : Nat) : Res (K × K) := do
  let mj ← aget t.main (j - 1)
  let sb ← aget t.sub (j - 2)
  let sp ← aget t.sup (j - 2)
  pure (s.2, mj * s.2 - sb * sp * s.1)

theorem det_eq (t : Tri K) :
    det t =
      (do
        let m0 ← aget t.main 0
        if t.n + 1 < 2 then .error .range
        else do
          let s ← Mat.forM' 2 (t.n + 1) (1, m0 * 1) (detBody t)
          pure s.2) := rfl

end Det

section MulVec
variable {K : Type} [Add K] [Mul K] [Zero K]

def mulBody (t : Tri K) (v : Array K) (res : Array K) (i : Nat) : Res (Array K) := do
  let a ← aget t.sub (i - 1)
  let x ← aget v (i - 1)
  let b ← aget t.main i
  let y ← aget v i
  let c ← aget t.sup i
  let z ← aget v (i + 1)
  aset res i (a * x + b * y + c * z)

theorem mulVec_eq (t : Tri K) (v : Array K) :
    mulVec t v =
      (if t.n ≠ v.size then .error .size
      else if t.n = 1 then do
        let m0 ← aget t.main 0
        let v0 ← aget v 0
        aset (Array.replicate t.n 0) 0 (m0 * v0)
      else do
        let m0 ← aget t.main 0
        let v0 ← aget v 0
        let s0 ← aget t.sup 0
        let v1 ← aget v 1
        let res ← aset (Array.replicate t.n 0) 0 (m0 * v0 + s0 * v1)
        let n1 ← usub t.n 1
        let res ← Mat.forM' 1 n1 res (mulBody t v)
        let a ← aget t.sub (t.n - 2)
        let x ← aget v (t.n - 2)
        let b ← aget t.main (t.n - 1)
        let y ← aget v (t.n - 1)
        aset res (t.n - 1) (a * x + b * y)) := rfl

end MulVec

end Tri

/-- entry (i,j) of the tridiagonal matrix with sub-diagonal `a` (`a j` in row `j+1`, column `j`),
    main diagonal `b`, super-diagonal `c` (`c i` in row `i`, column `i+1`) -/
def triEntry {K : Type} [Zero K] (a b c : Nat → K) (i j : Nat) : K :=
  if i = j then b i else if i = j + 1 then a j else if i + 1 = j then c i else 0

section Entries
variable {K : Type} [Zero K] (a b c : Nat → K)

theorem triEntry_diag (i : Nat) : triEntry a b c i i = b i := if_pos rfl

theorem triEntry_lower (j : Nat) : triEntry a b c (j + 1) j = a j := by
  rw [triEntry, if_neg (by omega), if_pos rfl]

theorem triEntry_upper (i : Nat) : triEntry a b c i (i + 1) = c i := by
  rw [triEntry, if_neg (by omega), if_neg (by omega), if_pos rfl]

theorem triEntry_off {i j : Nat} (h : ¬ (i = j ∨ i = j + 1 ∨ i + 1 = j)) :
    triEntry a b c i j = 0 := by
  rw [triEntry, if_neg fun e => h (.inl e), if_neg fun e => h (.inr (.inl e)),
    if_neg fun e => h (.inr (.inr e))]

theorem triEntry_congr {a b c a' b' c' : Nat → K} (i j : Nat) (hb : i = j → b i = b' i)
    (ha : i = j + 1 → a j = a' j) (hc : i + 1 = j → c i = c' i) :
    triEntry a b c i j = triEntry a' b' c' i j := by
  unfold triEntry
  split_ifs with h1 h2 h3
  exacts [hb h1, ha h2, hc h3, rfl]
end Entries

theorem triEntry_map {K L : Type} [Zero K] [Zero L] (f : K → L) (h0 : f 0 = 0) (a b c : Nat → K)
    (i j : Nat) :
    f (triEntry a b c i j) = triEntry (fun k => f (a k)) (fun k => f (b k)) (fun k => f (c k)) i j := by
  unfold triEntry
  rw [apply_ite f, apply_ite f, apply_ite f, h0]

theorem triEntry_map2 {K K' L : Type} [Zero K] [Zero K'] [Zero L] (f : K → K' → L) (h0 : f 0 0 = 0)
    (a b c : Nat → K) (a' b' c' : Nat → K') (i j : Nat) :
    f (triEntry a b c i j) (triEntry a' b' c' i j) =
      triEntry (fun k => f (a k) (a' k)) (fun k => f (b k) (b' k)) (fun k => f (c k) (c' k)) i j := by
  unfold triEntry
  rw [apply_ite₂ f, apply_ite₂ f, apply_ite₂ f, h0]

section RowSum
variable {K : Type} [Semiring K]
open Finset

theorem triEntry_mul (a b c x : Nat → K) (i j : Nat) :
    triEntry a b c i j * x j =
      (if i = j then b j * x j else 0) + (if i = j + 1 then a j * x j else 0)
        + (if i + 1 = j then c i * x j else 0) := by
  unfold triEntry
  by_cases h1 : i = j
  · subst h1; simp
  · by_cases h2 : i = j + 1
    · subst h2
      have : ¬ j + 1 + 1 = j := by omega
      simp [this]
    · by_cases h3 : i + 1 = j
      · subst h3; simp [h2]
      · simp [h1, h2, h3]

theorem triEntry_row_sum (a b c x : Nat → K) (n i : Nat) (hi : i < n) :
    ∑ j ∈ range n, triEntry a b c i j * x j =
      (if 0 < i then a (i - 1) * x (i - 1) else 0) + b i * x i
        + (if i + 1 < n then c i * x (i + 1) else 0) := by
  simp only [triEntry_mul, sum_add_distrib]
  rw [sum_ite_eq (range n) i (fun j => b j * x j), sum_ite_eq (range n) (i + 1) (fun j => c i * x j)]
  have hsub : (∑ j ∈ range n, if i = j + 1 then a j * x j else 0)
      = if 0 < i then a (i - 1) * x (i - 1) else 0 := by
    cases i with
    | zero => simp
    | succ k =>
      have : ∀ j, (k + 1 = j + 1) = (k = j) := fun j => by apply propext; omega
      simp only [this]
      rw [sum_ite_eq (range n) k (fun j => a j * x j)]
      have hk : k ∈ range n := by simp; omega
      simp [hk]
  rw [hsub]
  have h1 : i ∈ range n := by simpa using hi
  simp only [h1, if_true, mem_range]
  rw [add_comm (b i * x i)]
end RowSum

section Thomas
variable {K : Type} [Field K]

/-- pivots: `β₀ = b₀`, `βⱼ₊₁ = bⱼ₊₁ − aⱼ · (cⱼ / βⱼ)` -/
def thBeta (a b c : Nat → K) : Nat → K
  | 0 => b 0
  | j + 1 => b (j + 1) - a j * (c j / thBeta a b c j)

/-- multipliers: `γⱼ₊₁ = cⱼ / βⱼ` (`γ₀` is never used; the code leaves it 0) -/
def thGamma (a b c : Nat → K) : Nat → K
  | 0 => 0
  | j + 1 => c j / thBeta a b c j

/-- forward-substituted right-hand side -/
def thY (a b c r : Nat → K) : Nat → K
  | 0 => r 0 / thBeta a b c 0
  | j + 1 => (r (j + 1) - a j * thY a b c r j) / thBeta a b c (j + 1)

theorem thBeta_succ (a b c : Nat → K) (j : Nat) :
    thBeta a b c (j + 1) = b (j + 1) - a j * thGamma a b c (j + 1) := rfl

/-- One row of the system the Thomas algorithm solves, from the relations of the elimination that
involve it: pivot `β = b − a γ`, forward sweep `y β = r − a y⁻`, back substitution
`x⁻ = y⁻ − γ x` and `x = y − γ⁺ x⁺`, multiplier `γ⁺ β = c`.  (Props/C05F.lean has the same row with a
rounding factor per operation, `row_identity`.) -/
theorem thomas_row_exact (al g β b r y ym x xm xp gp c : K) (h1 : β = b - al * g)
    (h2 : y * β = r - al * ym) (h3 : al * xm = al * (ym - g * x)) (h4 : x = y - gp * xp)
    (h5 : gp * β = c) : al * xm + b * x + c * xp = r := by
  linear_combination h3 + h2 - x * h1 + β * h4 - xp * h5

theorem thomas_row (a b c r x : Nat → K) (n : Nat)
    (hβ : ∀ j, j < n → thBeta a b c j ≠ 0)
    (hrec : ∀ j, j < n → x j = thY a b c r j - thGamma a b c (j + 1) * x (j + 1))
    (hn : x n = 0) (i : Nat) (hi : i < n) :
    (if 0 < i then a (i - 1) * x (i - 1) else 0) + b i * x i
        + (if i + 1 < n then c i * x (i + 1) else 0) = r i := by
  have hβi := hβ i hi
  have hup : (if i + 1 < n then c i * x (i + 1) else 0) = c i * x (i + 1) := by
    split
    · rfl
    · rw [show i + 1 = n from Nat.le_antisymm hi (Nat.not_lt.1 ‹_›), hn, mul_zero]
  rw [hup]
  cases i with
  | zero =>
    -- nothing stands left of the diagonal: `al = 0`
    rw [if_neg (Nat.lt_irrefl 0), ← mul_zero (0 : K)]
    exact thomas_row_exact 0 0 _ _ _ _ 0 _ 0 _ _ _ (by rw [zero_mul, sub_zero]; rfl)
      (by rw [zero_mul, sub_zero]; exact div_mul_cancel₀ _ hβi) (by rw [zero_mul, zero_mul])
      (hrec 0 hi) (div_mul_cancel₀ _ hβi)
  | succ k =>
    rw [if_pos k.succ_pos, Nat.add_sub_cancel]
    exact thomas_row_exact _ _ _ _ _ _ _ _ _ _ _ _ (thBeta_succ a b c k) (div_mul_cancel₀ _ hβi)
      (congrArg (a k * ·) (hrec k (Nat.lt_of_succ_lt hi))) (hrec (k + 1) hi) (div_mul_cancel₀ _ hβi)
end Thomas

section Det
variable {K : Type} [CommRing K]

def triMatrix (a b c : Nat → K) (n : Nat) : Matrix (Fin n) (Fin n) K :=
  Matrix.of fun i j => triEntry a b c i.val j.val

def triDet (a b c : Nat → K) : Nat → K
  | 0 => 1
  | 1 => b 0
  | k + 2 => b (k + 1) * triDet a b c (k + 1) - a k * c k * triDet a b c k

/-- Laplace expansion along the last row, then along the last column of the off-diagonal minor, for
any matrix whose last row and last column vanish outside their last two entries:
`det M = M_{n+1,n+1} · det M' − M_{n+1,n} · M_{n,n+1} · det M''`, `M'`, `M''` the leading minors of
orders `n + 1` and `n` -/
theorem det_last_two {n : Nat} (M : Matrix (Fin (n + 2)) (Fin (n + 2)) K)
    (hrow : ∀ j : Fin n, M (Fin.last (n + 1)) j.castSucc.castSucc = 0)
    (hcol : ∀ i : Fin n, M i.castSucc.castSucc (Fin.last (n + 1)) = 0) :
    M.det = M (Fin.last (n + 1)) (Fin.last (n + 1)) * (M.submatrix Fin.castSucc Fin.castSucc).det
      - M (Fin.last (n + 1)) (Fin.last n).castSucc * M (Fin.last n).castSucc (Fin.last (n + 1))
        * (M.submatrix (fun i : Fin n => i.castSucc.castSucc)
            (fun j : Fin n => j.castSucc.castSucc)).det := by
  have e0 : (Fin.last n).castSucc.succAbove (Fin.last n) = Fin.last (n + 1) := by
    rw [Fin.succAbove_castSucc_self, Fin.succ_last]
  have e1 : (Fin.last n).castSucc.succAbove ∘ Fin.castSucc = fun j : Fin n => j.castSucc.castSucc :=
    funext fun j => Fin.succAbove_of_castSucc_lt _ _
      (Fin.castSucc_lt_castSucc_iff.2 (Fin.castSucc_lt_last j))
  -- the minor without the last row and the last column but one, along its last column
  have hN : (M.submatrix Fin.castSucc (Fin.last n).castSucc.succAbove).det
      = M (Fin.last n).castSucc (Fin.last (n + 1))
        * (M.submatrix (fun i : Fin n => i.castSucc.castSucc)
            (fun j : Fin n => j.castSucc.castSucc)).det := by
    rw [Matrix.det_succ_column _ (Fin.last n), Fin.sum_univ_castSucc,
      Finset.sum_eq_zero fun i _ => by
        rw [Matrix.submatrix_apply, e0, hcol i, mul_zero, zero_mul],
      zero_add, Matrix.submatrix_apply, e0, Fin.succAbove_last, Matrix.submatrix_submatrix,
      e1, Fin.val_last, Even.neg_one_pow ⟨n, rfl⟩, one_mul]
    rfl
  rw [Matrix.det_succ_row _ (Fin.last (n + 1)), Fin.sum_univ_castSucc, Fin.sum_univ_castSucc,
    Finset.sum_eq_zero fun j _ => by rw [hrow j, mul_zero, zero_mul],
    zero_add, Fin.succAbove_last, hN, Fin.val_last, Fin.val_castSucc, Fin.val_last,
    Even.neg_one_pow ⟨n + 1, rfl⟩, Odd.neg_one_pow ⟨n, by omega⟩]
  ring

/-- … for `triMatrix`: the leading minors are `triMatrix` of the smaller orders -/
theorem triMatrix_det_succ_succ (a b c : Nat → K) (k : Nat) :
    (triMatrix a b c (k + 2)).det =
      b (k + 1) * (triMatrix a b c (k + 1)).det - a k * c k * (triMatrix a b c k).det := by
  have h := det_last_two (triMatrix a b c (k + 2))
    (fun j => triEntry_off a b c (i := k + 1) (j := j.val) (by have := j.isLt; omega))
    (fun i => triEntry_off a b c (i := i.val) (j := k + 1) (by have := i.isLt; omega))
  rw [h]
  show triEntry a b c (k + 1) (k + 1) * (triMatrix a b c (k + 1)).det
    - triEntry a b c (k + 1) k * triEntry a b c k (k + 1) * (triMatrix a b c k).det = _
  rw [triEntry_diag, triEntry_lower, triEntry_upper]

theorem triMatrix_det (a b c : Nat → K) : ∀ n, (triMatrix a b c n).det = triDet a b c n
  | 0 => by simp [triDet]
  | 1 => by simp [triDet, triMatrix, triEntry]
  | k + 2 => by
    rw [triMatrix_det_succ_succ, triMatrix_det a b c (k + 1), triMatrix_det a b c k]
    rfl
end Det

end Ohsl
