/-
  Ohsl.Lemmas.RNE — IEEE 754 round-to-nearest, ties-to-even, as a function on the reals, and the
  proof that it is an instance of the standard model `FlModel` of Ohsl/Lemmas/Rounding.lean.

  WHAT IS DEFINED
    `roundHalfEven : ℝ → ℤ`   nearest integer, ties to the even one;
    `rne p : ℝ → ℝ`           round to nearest, ties to even, to a `(p+1)`-bit significand with an
                              UNBOUNDED exponent range: for `x ≠ 0`, `e = ⌊log₂|x|⌋`,
                              `ulp = 2^(e-p)`, `rne p x = roundHalfEven (x / ulp) · ulp`; `rne p 0 = 0`.
                              For `p = 52` and `2^-1022 ≤ |x| < 2^1024 (1 - 2^-54)` this is the IEEE 754
                              binary64 `roundTiesToEven` of the real number `x` (normal range).
    `FlModel.rne p`           the model with `fl = rne p`, `u = 2^(-p-1)`;
    `FlModel.ieee64`          `= FlModel.rne 52`, `u = 2⁻⁵³` (`ieee64_u`).

  WHAT IS PROVED
    `roundHalfEven` is a `Nearest` rounding (Ohsl/Lemmas/GridRound.lean) and `rne p` is
    `flRound roundHalfEven p`, so the error bound `|rne p x - x| ≤ 2^(-p-1) |x|`, monotonicity,
    idempotence and the fixed points (exactly the `k · 2^j`, `|k| < 2^(p+1)`, which are also the range)
    are those proved there for every tie rule.  Ties really go to the even significand, in both
    directions; the ties-upward model `FlModel.roundBits p` agrees with `rne p` off ties, differs
    from it at `2^(p+1)+1` and is not sign-symmetric.

  WHAT IS NOT COVERED
    The exponent range is unbounded: no overflow to `±∞`, no subnormal numbers / gradual underflow,
    no signed zero, no NaN.  Nothing here is a statement about Lean's `Float` or Rust's `f64`; what
    remains ASSUMED for the transfer of class-F theorems to the `f64` code is only that the hardware
    operation returns `rne 52` of the exact real result when no overflow, underflow or NaN occurs —
    which is the IEEE 754 definition of a correctly rounded operation for `+ - × ÷ √` (it does not
    hold for libm's `powf`, `sin`, …).
-/
import Ohsl.Lemmas.Rounding
import Mathlib.Algebra.Order.Round
import Mathlib.Algebra.Group.Int.Even
import Mathlib.Data.Int.Log
import Mathlib.Tactic.Ring
import Mathlib.Tactic.Linarith
import Mathlib.Tactic.Positivity
import Mathlib.Tactic.NormNum
import Mathlib.Tactic.SplitIfs

namespace Ohsl

/-- round to the nearest integer; at a tie (`m` exactly halfway between two integers) take the even
one -/
noncomputable def roundHalfEven (m : ℝ) : ℤ :=
  let f := ⌊m⌋
  if m - f < 1 / 2 then f else if m - f > 1 / 2 then f + 1 else if Even f then f else f + 1

/-- **specification**: `roundHalfEven m` is strictly nearest, or it is one of the two nearest and
even -/
theorem roundHalfEven_spec (m : ℝ) :
    |(roundHalfEven m : ℝ) - m| < 1 / 2 ∨
      (|(roundHalfEven m : ℝ) - m| = 1 / 2 ∧ Even (roundHalfEven m)) := by
  -- the distances to the two neighbours are the fractional part `f` and `1 - f`
  have e0 : |((⌊m⌋ : ℤ) : ℝ) - m| = m - ⌊m⌋ := by
    rw [abs_sub_comm]; exact abs_of_nonneg (sub_nonneg.mpr (Int.floor_le m))
  have e1 : |((⌊m⌋ + 1 : ℤ) : ℝ) - m| = 1 - (m - ⌊m⌋) := by
    rw [Int.cast_add, Int.cast_one, abs_of_pos (sub_pos.mpr (Int.lt_floor_add_one m))]; ring
  unfold roundHalfEven
  simp only []
  split_ifs with c1 c2 c3
  · exact Or.inl (e0.trans_lt c1)
  · exact Or.inl (e1.trans_lt ((sub_lt_sub_left c2 1).trans_eq (by norm_num)))
  · exact Or.inr ⟨e0.trans (le_antisymm (not_lt.mp c2) (not_lt.mp c1)), c3⟩
  · exact Or.inr ⟨e1.trans (by rw [le_antisymm (not_lt.mp c2) (not_lt.mp c1)]; norm_num),
      Int.even_add_one.mpr c3⟩

theorem roundHalfEven_err (m : ℝ) : |(roundHalfEven m : ℝ) - m| ≤ 1 / 2 := by
  rcases roundHalfEven_spec m with h | ⟨h, _⟩
  · exact h.le
  · exact h.le

/-- two different integers within `1/2` of `m` differ by exactly `1` and are both ties, and two even
integers do not differ by `1` -/
theorem roundHalfEven_unique (m : ℝ) (r : ℤ)
    (h : |(r : ℝ) - m| < 1 / 2 ∨ (|(r : ℝ) - m| = 1 / 2 ∧ Even r)) : roundHalfEven m = r := by
  by_contra hne
  have h1 : (1 : ℝ) ≤ |(roundHalfEven m : ℝ) - m| + |(r : ℝ) - m| := by
    rw [abs_sub_comm (r : ℝ) m]
    refine le_trans ?_ (abs_sub_le _ _ _)
    exact_mod_cast Int.one_le_abs (sub_ne_zero.mpr hne)
  rcases h with h | ⟨h, ⟨a, ha⟩⟩
  · exact h1.not_gt ((add_lt_add_of_le_of_lt (roundHalfEven_err m) h).trans_eq (add_halves 1))
  · rcases roundHalfEven_spec m with g | ⟨g, ⟨b, hb⟩⟩
    · exact h1.not_gt ((add_lt_add_of_lt_of_le g h.le).trans_eq (add_halves 1))
    · have h2 := (abs_sub_le (roundHalfEven m : ℝ) m r).trans_eq
        (by rw [g, abs_sub_comm, h, add_halves])
      have h3 : |roundHalfEven m - r| ≤ 1 := by exact_mod_cast h2
      rw [abs_le] at h3
      omega

@[simp] theorem roundHalfEven_intCast (k : ℤ) : roundHalfEven (k : ℝ) = k :=
  Nearest.intCast roundHalfEven_err k

theorem roundHalfEven_neg (m : ℝ) : roundHalfEven (-m) = -roundHalfEven m := by
  apply roundHalfEven_unique
  have e : (((-roundHalfEven m : ℤ)) : ℝ) - -m = -((roundHalfEven m : ℝ) - m) := by
    push_cast; ring
  rw [e, abs_neg, even_neg]
  exact roundHalfEven_spec m

theorem roundHalfEven_eq_round {m : ℝ} (h : Int.fract m ≠ 1 / 2) : roundHalfEven m = round m := by
  refine roundHalfEven_unique m _ (Or.inl ?_)
  rw [abs_sub_comm, abs_sub_round_eq_min, min_lt_iff]
  rcases lt_or_gt_of_ne h with h | h
  · exact Or.inl h
  · exact Or.inr (by linarith only [h])

/-- **IEEE 754 `roundTiesToEven`** to the binary format with a `(p+1)`-bit significand (`p` stored
fraction bits) and an unbounded exponent range: the significand `x / ulp` (`2^p ≤ |x/ulp| < 2^(p+1)`,
`ulp = 2^(⌊log₂|x|⌋ - p)`) is rounded to the nearest integer, ties to the even one. -/
noncomputable def rne (p : ℕ) (x : ℝ) : ℝ :=
  if x = 0 then 0
  else roundHalfEven (x / 2 ^ (Int.log 2 |x| - p)) * 2 ^ (Int.log 2 |x| - p)

theorem rne_eq (p : ℕ) (x : ℝ) : rne p x = flRound roundHalfEven p x := by
  unfold rne
  split_ifs with h
  · rw [h, flRound_zero roundHalfEven_err]
  · rfl

theorem rne_fun_eq (p : ℕ) : rne p = flRound roundHalfEven p := funext (rne_eq p)

@[simp] theorem rne_zero (p : ℕ) : rne p 0 = 0 := by simp [rne]

theorem rne_err (p : ℕ) (x : ℝ) : |rne p x - x| ≤ 2 ^ (-(p : ℤ) - 1) * |x| := by
  rw [rne_eq]; exact flRound_err roundHalfEven_err p x

theorem rne_neg (p : ℕ) (x : ℝ) : rne p (-x) = -rne p x := by
  rw [rne_eq, rne_eq]; exact flRound_neg roundHalfEven_neg p x

theorem rne_fixes_grid (p : ℕ) (k j : ℤ) (hk : |k| < 2 ^ (p + 1)) :
    rne p ((k : ℝ) * 2 ^ j) = (k : ℝ) * 2 ^ j := by
  rw [rne_eq]; exact flRound_fixes_grid roundHalfEven_err p k j hk

theorem rne_idempotent (p : ℕ) (x : ℝ) : rne p (rne p x) = rne p x := by
  rw [rne_fun_eq]; exact flRound_idempotent roundHalfEven_err p x

theorem rne_zpow (p : ℕ) (e : ℤ) : rne p ((2 : ℝ) ^ e) = 2 ^ e := by
  rw [rne_eq]; exact flRound_zpow roundHalfEven_err p e

theorem rne_int (p : ℕ) (k : ℤ) (hk : |k| ≤ 2 ^ (p + 1)) : rne p (k : ℝ) = k := by
  rw [rne_eq]; exact flRound_int roundHalfEven_err p k hk

/-- the casts `n as f64`, `n ≤ 2⁵³`, are exact -/
theorem rne_natCast (p : ℕ) (n : ℕ) (hn : n ≤ 2 ^ (p + 1)) : rne p (n : ℝ) = n := by
  have := rne_int p (n : ℤ) (by
    rw [abs_of_nonneg (by positivity)]
    exact_mod_cast hn)
  simpa using this

theorem rne_monotone (p : ℕ) : Monotone (rne p) := by
  rw [rne_fun_eq]; exact flRound_monotone roundHalfEven_err p

theorem rne_eq_roundBits_off_ties (p : ℕ) (x : ℝ)
    (h : Int.fract (x / 2 ^ (Int.log 2 |x| - p)) ≠ 1 / 2) :
    rne p x = (FlModel.roundBits p).fl x := by
  rw [rne_eq]
  show (roundHalfEven (x / 2 ^ (Int.log 2 |x| - p)) : ℝ) * _ = (round _ : ℝ) * _
  rw [roundHalfEven_eq_round h]
  rfl

noncomputable def FlModel.rne (p : ℕ) : FlModel where
  u := 2 ^ (-(p : ℤ) - 1)
  fl := Ohsl.rne p
  u_nonneg := (zpow_pos two_pos _).le
  fl_err := rne_err p

@[simp] theorem FlModel.rne_fl (p : ℕ) : (FlModel.rne p).fl = Ohsl.rne p := rfl
theorem FlModel.rne_u (p : ℕ) : (FlModel.rne p).u = 2 ^ (-(p : ℤ) - 1) := rfl

/-- **IEEE 754 binary64 rounding** (`roundTiesToEven`, 53-bit significand) without exponent limits -/
noncomputable def FlModel.ieee64 : FlModel := FlModel.rne 52

theorem FlModel.ieee64_u : FlModel.ieee64.u = 2 ^ (-53 : ℤ) := by
  show (2 : ℝ) ^ (-((52 : ℕ) : ℤ) - 1) = 2 ^ (-53 : ℤ)
  norm_num

theorem FlModel.ieee64_fl : FlModel.ieee64.fl = Ohsl.rne 52 := rfl

theorem FlModel.rne_u_pos (p : ℕ) : 0 < (FlModel.rne p).u := zpow_pos two_pos _

theorem FlModel.rne_u_lt_one (p : ℕ) : (FlModel.rne p).u < 1 :=
  zpow_lt_one_of_neg₀ (by norm_num) (by omega)

theorem FlModel.rne_rep_grid (p : ℕ) (k j : ℤ) (hk : |k| < 2 ^ (p + 1)) :
    (FlModel.rne p).Rep ((k : ℝ) * 2 ^ j) := rne_fixes_grid p k j hk

theorem FlModel.rne_rep_iff (p : ℕ) (x : ℝ) :
    (FlModel.rne p).Rep x ↔ ∃ k j : ℤ, |k| < 2 ^ (p + 1) ∧ x = (k : ℝ) * 2 ^ j := by
  show Ohsl.rne p x = x ↔ _
  rw [rne_eq]; exact flRound_eq_self_iff roundHalfEven_err p x

theorem FlModel.rne_rep_int (p : ℕ) (k : ℤ) (hk : |k| ≤ 2 ^ (p + 1)) :
    (FlModel.rne p).Rep (k : ℝ) := rne_int p k hk

theorem FlModel.rne_rep_nat (p : ℕ) (n : ℕ) (hn : n ≤ 2 ^ (p + 1)) :
    (FlModel.rne p).Rep (n : ℝ) := rne_natCast p n hn

theorem FlModel.rne_rep_zpow (p : ℕ) (e : ℤ) : (FlModel.rne p).Rep ((2 : ℝ) ^ e) := rne_zpow p e

theorem FlModel.rne_rep_fl (p : ℕ) (x : ℝ) : (FlModel.rne p).Rep ((FlModel.rne p).fl x) :=
  rne_idempotent p x

theorem FlModel.rne_rep_neg (p : ℕ) {x : ℝ} (h : (FlModel.rne p).Rep x) :
    (FlModel.rne p).Rep (-x) := by
  show Ohsl.rne p (-x) = -x
  rw [rne_neg]
  exact congrArg Neg.neg h

/-- a tie rounded DOWN: `2^(p+1) + 1` is halfway between `2^(p+1)` (significand `2^p`, even for
`p ≥ 1`) and `2^(p+1) + 2` -/
theorem rne_tie_down (p : ℕ) (hp : 1 ≤ p) : rne p ((2 : ℝ) ^ (p + 1) + 1) = 2 ^ (p + 1) := by
  rw [rne_eq, flRound_next_binade _ p zero_le_one (one_lt_pow₀ one_lt_two p.succ_ne_zero),
    roundHalfEven_unique _ (2 ^ p) (Or.inr ⟨?_, (even_two).pow_of_ne_zero (by omega)⟩)]
  · push_cast; rw [pow_succ]
  · rw [show (((2 : ℤ) ^ p : ℤ) : ℝ) - ((2 : ℝ) ^ (p + 1) + 1) / 2 = -(1 / 2) by
      push_cast; rw [pow_succ]; ring, abs_neg]
    exact abs_of_pos one_half_pos

/-- a tie rounded UP: `2^(p+1) + 3` is halfway between `2^(p+1) + 2` and `2^(p+1) + 4` (significand
`2^p + 2`, even) -/
theorem rne_tie_up (p : ℕ) (hp : 1 ≤ p) : rne p ((2 : ℝ) ^ (p + 1) + 3) = 2 ^ (p + 1) + 4 := by
  have h3 : (3 : ℝ) < 2 ^ (p + 1) :=
    lt_of_lt_of_le (by norm_num) (pow_le_pow_right₀ one_le_two (by omega : 2 ≤ p + 1))
  rw [rne_eq, flRound_next_binade _ p zero_le_three h3, roundHalfEven_unique _ (2 ^ p + 2)
    (Or.inr ⟨?_, ((even_two).pow_of_ne_zero (by omega)).add even_two⟩)]
  · push_cast; rw [pow_succ]; ring
  · rw [show (((2 : ℤ) ^ p + 2 : ℤ) : ℝ) - ((2 : ℝ) ^ (p + 1) + 3) / 2 = 1 / 2 by
      push_cast; rw [pow_succ]; ring]
    exact abs_of_pos one_half_pos

theorem roundBits_tie (p : ℕ) :
    (FlModel.roundBits p).fl ((2 : ℝ) ^ (p + 1) + 1) = 2 ^ (p + 1) + 2 := by
  rw [FlModel.roundBits_fl,
    flRound_next_binade _ p zero_le_one (one_lt_pow₀ one_lt_two p.succ_ne_zero), round_eq,
    show ((2 : ℝ) ^ (p + 1) + 1) / 2 + 1 / 2 = (((2 : ℤ) ^ p + 1 : ℤ) : ℝ) by
      push_cast; rw [pow_succ]; ring, Int.floor_intCast]
  push_cast; rw [pow_succ]; ring

theorem roundBits_neg_tie (p : ℕ) :
    (FlModel.roundBits p).fl (-((2 : ℝ) ^ (p + 1) + 1)) = -(2 : ℝ) ^ (p + 1) := by
  rw [FlModel.roundBits_fl, flRound, ulp_neg,
    ulp_next_binade p zero_le_one (one_lt_pow₀ one_lt_two p.succ_ne_zero), gridRound, round_eq,
    show -((2 : ℝ) ^ (p + 1) + 1) / 2 + 1 / 2 = (((-(2 : ℤ) ^ p : ℤ)) : ℝ) by
      push_cast; rw [pow_succ]; ring, Int.floor_intCast]
  push_cast; rw [pow_succ]; ring

/-- **ties-upward rounding is not sign-symmetric** (while `rne` is, `rne_neg`) -/
theorem roundBits_not_odd (p : ℕ) :
    ∃ x : ℝ, (FlModel.roundBits p).fl (-x) ≠ -(FlModel.roundBits p).fl x := by
  refine ⟨(2 : ℝ) ^ (p + 1) + 1, ?_⟩
  rw [roundBits_tie, roundBits_neg_tie, neg_add, Ne, left_eq_add]
  norm_num

/-- the two roundings really differ (at ties with an even lower neighbour) -/
theorem rne_ne_roundBits (p : ℕ) (hp : 1 ≤ p) :
    ∃ x : ℝ, rne p x ≠ (FlModel.roundBits p).fl x := by
  refine ⟨(2 : ℝ) ^ (p + 1) + 1, ?_⟩
  rw [roundBits_tie, rne_tie_down p hp, Ne, left_eq_add]
  norm_num

example : rne 52 (2 ^ 53 + 1) = 2 ^ 53 ∧ rne 52 (2 ^ 53 + 3) = 2 ^ 53 + 4 ∧
    rne 52 (-(2 ^ 53 + 1)) = -2 ^ 53 :=
  ⟨rne_tie_down 52 (by norm_num), rne_tie_up 52 (by norm_num), by
    rw [rne_neg, rne_tie_down 52 (by norm_num)]⟩

end Ohsl
