/-
  Ohsl.Lemmas.LURounding — backward error analysis of the dense LU solver (`Mat.luDecomp`,
  `Mat.forwardSub`, `Mat.backsolve`, `Mat.solveLU`) in the "rounded reals" interpretation `Fl M`
  (Ohsl/Lemmas/Rounding.lean).  Helper file of Ohsl/Props/C01F.lean (read its header first).

  Relative perturbation factors are tracked with `FlModel.Th` (`Th k t ↔ (1-u)^k ≤ t ≤ (1-u)^{-k}`,
  bound `gq k`; Rounding.lean).  The recurrence `s ← s - f t * g t` satisfies
  `c = ŝ θ₀ + Σ f_t g_t θ_t` EXACTLY (`sdotA_backward`), which gives the two triangular solves; the
  perturbed row relation `LURowF` of the factorisation is read off Doolittle's formulas
  (Doolittle.lean) through the same lemma (`Doolittle.toLURowF`); the two are composed by pure real
  algebra (`lu_compose_row`, `PermOK.lu_compose_th`).

  Another solver.  Describe the working array of its loop by `Doolittle` (`init`, `transfer`, `skip`,
  `elim`, Doolittle.lean; `Null`/`Dom` carry what its pivot search knows), read the perturbed row
  relation off it with `Doolittle.toLURowF`, and compose with the two triangular solves by
  `lu_compose_row` / `PermOK.lu_compose_th`; the growth of the entries is `Doolittle.growth`
  (C01H.lean).  `sdot_backward`, `fwd_rows_fl`, `back_rows_fl` count EVERY index of the range
  (`Th (hi - lo)`, `Th r`, `Th (n - i)`): the dense loops multiply by the stored zeros too.  A solver
  that skips structural zeros takes its counts from `sdotA_backward` (`act` = the terms it computes),
  or from the operations directly (BandRounding.lean, Props/C05F.lean).
-/
import Ohsl.Model.Solve
import Ohsl.Lemmas.SolveRun
import Ohsl.Lemmas.LURun
import Ohsl.Lemmas.C02P
import Ohsl.Lemmas.SolveSound
import Ohsl.Lemmas.LUDet
import Ohsl.Lemmas.Rounding
import Mathlib.Algebra.BigOperators.Group.Finset.Basic
import Mathlib.Algebra.BigOperators.Ring.Finset
import Mathlib.Algebra.BigOperators.Intervals
import Mathlib.Algebra.Order.BigOperators.Group.Finset
import Mathlib.Tactic.Ring
import Mathlib.Tactic.Linarith
import Mathlib.Tactic.FieldSimp
import Mathlib.Tactic.LinearCombination
import Mathlib.Tactic.SplitIfs
import Mathlib.Tactic.Choose
namespace Ohsl

namespace Mat

/-- moving one rounded multiply–subtract step `ŝ' = (ŝ − p τ₁) τ₂` to the other side -/
theorem th_sub_mul {s p τ1 τ2 θ : ℝ} (h : τ2 ≠ 0) :
    (s - p * τ1) * τ2 * (θ / τ2) + p * (τ1 * θ) = s * θ := by
  field_simp
  ring

/-- … and one rounded division `q̂ = (a / b) τ` -/
theorem th_div_mul {a b τ θ : ℝ} (hb : b ≠ 0) (hτ : τ ≠ 0) : a / b * τ * b * (θ / τ) = a * θ := by
  field_simp

section SDotRounding
variable {M : FlModel}

/-- **backward error of the recurrence** (Higham, Lemma 8.4, for the order of evaluation of the
code): with `ŝ = sdotA act f g c k` computed in `Fl M` (one rounding per product and per
subtraction, none for a term that is left out) `c = ŝ·θ₀ + Σ_{t<k, act t} f_t g_t θ_t` EXACTLY, every
`θ` a product of at most as many factors `(1+δ)^{±1}` as there are terms. -/
theorem sdotA_backward (hu : M.u < 1) (act : Nat → Bool) (f g : Nat → Fl M) (c : Fl M) (k : Nat) :
    ∃ (θ0 : ℝ) (θ : Nat → ℝ), M.Th ((List.range k).countP act) θ0 ∧
      (∀ t, M.Th ((List.range k).countP act) (θ t)) ∧
      c.val = (sdotA act f g c k).val * θ0
        + ∑ t ∈ Finset.range k, if act t then (f t).val * (g t).val * θ t else 0 := by
  induction k with
  | zero => exact ⟨1, fun _ => 1, FlModel.Th.one, fun _ => FlModel.Th.one, by simp [sdotA]⟩
  | succ k ih =>
    obtain ⟨θ0, θ, h0, hθ, e⟩ := ih
    rw [List.range_succ, List.countP_append, List.countP_singleton]
    by_cases ha : act k = true
    · obtain ⟨τ1, hτ1, e1⟩ := FlModel.exists_th hu ((f k).val * (g k).val)
      obtain ⟨τ2, hτ2, e2⟩ := FlModel.exists_th hu ((sdotA act f g c k).val - (f k * g k).val)
      rw [if_pos ha]
      refine ⟨θ0 / τ2, fun t => if t = k then τ1 * θ0 else θ t, h0.div hu hτ2,
        FlModel.Th.update (by rw [Nat.add_comm]; exact hτ1.mul hu h0)
          fun t => (hθ t).mono hu (Nat.le_succ _), ?_⟩
      beta_reduce
      rw [Finset.sum_range_succ, sdotA, if_pos ha, if_pos ha,
        Finset.sum_congr rfl fun t ht => by
          rw [if_neg (Nat.ne_of_lt (Finset.mem_range.1 ht))],
        if_pos rfl, Fl.sub_val, e2, Fl.mul_val, e1, e]
      linear_combination -(th_sub_mul (s := (sdotA act f g c k).val)
        (p := (f k).val * (g k).val) (τ1 := τ1) (θ := θ0) (hτ2.pos hu).ne')
    · rw [if_neg ha, Nat.add_zero]
      refine ⟨θ0, θ, h0, hθ, ?_⟩
      rw [Finset.sum_range_succ, sdotA, if_neg ha, if_neg ha, add_zero]
      exact e

theorem sdot_backward (hu : M.u < 1) (f g : Nat → Fl M) (c : Fl M) (lo hi : Nat) :
    ∃ (θ0 : ℝ) (θ : Nat → ℝ), M.Th (hi - lo) θ0 ∧ (∀ t, M.Th (hi - lo) (θ t)) ∧
      c.val = (sdot f g c lo hi).val * θ0
        + ∑ t ∈ Finset.Ico lo hi, (f t).val * (g t).val * θ t := by
  obtain ⟨θ0, θ, h0, hθ, e⟩ := sdotA_backward hu (fun t => decide (lo ≤ t)) f g c hi
  rw [countP_range_le] at h0 hθ
  refine ⟨θ0, θ, h0, hθ, ?_⟩
  rw [sdot_eq_sdotA, e, ← Finset.sum_filter]
  congr 2
  ext t
  simp only [Finset.mem_filter, Finset.mem_range, Finset.mem_Ico, decide_eq_true_eq, and_comm]

theorem Fl.div_backward (hu : M.u < 1) {s p x : Fl M} (h : divM s p = .ok x) {k : Nat} {θ0 : ℝ}
    (h0 : M.Th k θ0) : p.val ≠ 0 ∧ ∃ θd, M.Th (k + 1) θd ∧ s.val * θ0 = p.val * (θd * x.val) := by
  obtain ⟨hne, hq⟩ := Fl.divM_ok h
  obtain ⟨τ, hτ, eτ⟩ := FlModel.exists_th hu (s.val / p.val)
  refine ⟨hne, θ0 / τ, h0.div hu hτ, ?_⟩
  rw [hq, Fl.div_val, eτ]
  linear_combination -th_div_mul (a := s.val) (θ := θ0) hne (hτ.pos hu).ne'

theorem sdot_div_backward (hu : M.u < 1) (f g : Nat → Fl M) (c p x : Fl M) (lo hi : Nat)
    (h : divM (sdot f g c lo hi) p = .ok x) :
    p.val ≠ 0 ∧ ∃ (θd : ℝ) (θ : Nat → ℝ), M.Th (hi - lo + 1) θd ∧ (∀ t, M.Th (hi - lo) (θ t)) ∧
      c.val = p.val * (θd * x.val) + ∑ t ∈ Finset.Ico lo hi, (f t).val * (g t).val * θ t := by
  obtain ⟨θ0, θ, h0, hθ, eq⟩ := sdot_backward hu f g c lo hi
  obtain ⟨hne, θd, hd, e⟩ := Fl.div_backward hu h h0
  exact ⟨hne, θd, θ, hd, hθ, by rw [eq, e]⟩

end SDotRounding

section Triangular
variable {M : FlModel}

def valEnt (m : Mat (Fl M)) : Nat → Nat → ℝ := fun r c => (ent m r c).val

theorem fwd_rows_fl (hu : M.u < 1) (w : Nat → Nat → Fl M) {n : Nat} (y c : Nat → Fl M)
    (hrows : ∀ r, r < n → y r = sdot (w r) y (c r) 0 r) :
    ∃ lam : Nat → Nat → ℝ, (∀ r k, M.Th r (lam r k)) ∧
      ∀ r, r < n →
        ∑ k ∈ Finset.range n, Lfn ((fun a b => (w a b).val)) r k * (lam r k * (y k).val) = (c r).val := by
  have hrow : ∀ r, ∃ lr : Nat → ℝ, (∀ k, M.Th r (lr k)) ∧ (r < n →
      ∑ k ∈ Finset.range n, Lfn ((fun a b => (w a b).val)) r k * (lr k * (y k).val) = (c r).val) := by
    intro r
    obtain ⟨θ0, θ, h0, hθ, e⟩ := sdot_backward hu (w r) y (c r) 0 r
    rw [Nat.sub_zero] at h0 hθ
    refine ⟨fun k => if k = r then θ0 else θ k, h0.update hθ, fun hr => ?_⟩
    · rw [Lsum ((fun a b => (w a b).val)) _ hr, e, ← hrows r hr, ← Finset.range_eq_Ico]
      beta_reduce
      have : ∑ k ∈ Finset.range r, (fun a b => (w a b).val) r k * ((if k = r then θ0 else θ k) * (y k).val)
          = ∑ t ∈ Finset.range r, (w r t).val * (y t).val * θ t := by
        apply Finset.sum_congr rfl
        intro k hk
        have : ¬ k = r := by have := Finset.mem_range.mp hk; omega
        rw [if_neg this]
        ring
      rw [this, if_pos rfl]
      ring
  choose lam hlam using hrow
  exact ⟨lam, fun r k => (hlam r).1 k, fun r hr => (hlam r).2 hr⟩

theorem back_rows_fl (hu : M.u < 1) (w : Nat → Nat → Fl M) {n : Nat} (x y : Nat → Fl M)
    (hrows : ∀ i, i < n → divM (sdot (w i) x (y i) (i + 1) n) (w i i) = .ok (x i)) :
    ∃ μ : Nat → Nat → ℝ, (∀ i c, i < n → M.Th (n - i) (μ i c)) ∧
      ∀ i, i < n → (w i i).val ≠ 0 ∧
        ∑ c ∈ Finset.range n, Ufn n ((fun a b => (w a b).val)) i c * (μ i c * (x c).val) = (y i).val := by
  have hrow : ∀ i, i < n → ∃ μr : Nat → ℝ, (∀ c, M.Th (n - i) (μr c)) ∧ (w i i).val ≠ 0 ∧
      ∑ c ∈ Finset.range n, Ufn n ((fun a b => (w a b).val)) i c * (μr c * (x c).val) = (y i).val := by
    intro i hi
    obtain ⟨hne, θd, θ, hd, hθ, e⟩ := sdot_div_backward hu _ _ _ _ _ _ _ (hrows i hi)
    have hcnt : n - (i + 1) + 1 = n - i := Nat.succ_pred_eq_of_pos (Nat.sub_pos_of_lt hi)
    rw [hcnt] at hd
    refine ⟨fun c => if c = i then θd else θ c,
      hd.update fun c => (hθ c).mono hu (Nat.sub_le_sub_left (Nat.le_succ i) n), hne, ?_⟩
    rw [Usum _ _ hi, e]
    beta_reduce
    rw [if_pos rfl]
    refine congrArg _ (Finset.sum_congr rfl fun t ht => ?_)
    rw [if_neg (Nat.ne_of_gt (Finset.mem_Ico.mp ht).1)]
    ring
  obtain ⟨μ, hμ⟩ := exists_fun_of_lt hrow
  exact ⟨μ, fun i c hi => (hμ i hi).1 c, fun i hi => (hμ i hi).2⟩

/-- Higham, Thm 8.5: `n - i - 1` steps of the recurrence and one division in row `i`.  The
right-hand side is NOT perturbed; the diagonal is. -/
theorem backsolve_backward_ent (hu : M.u < 1) {m : Mat (Fl M)} {n : Nat} {x x' : Array (Fl M)}
    (hm : WFn m n) (hx : x.size = n) (hn : 1 ≤ n) (h : backsolve m x = .ok x') :
    x'.size = n ∧ ∃ μ : Nat → Nat → ℝ, (∀ i c, i < n → M.Th (n - i) (μ i c)) ∧
      ∀ i, i < n → (ent m i i).val ≠ 0 ∧
        ∑ c ∈ Finset.range n, Ufn n (valEnt m) i c * (μ i c * (vf x' c).val) = (vf x i).val := by
  obtain ⟨hsz, hrows⟩ := backsolve_sdot hm hx hn h
  exact ⟨hsz, back_rows_fl hu (ent m) (vf x') (vf x) hrows⟩

/-- no division.  The right-hand side is NOT perturbed; the (unit) diagonal is: it becomes `λ_rr`. -/
theorem forwardSub_backward_ent (hu : M.u < 1) {m : Mat (Fl M)} {n : Nat} {x : Array (Fl M)}
    (hm : WFn m n) (hx : x.size = n) :
    ∃ y, forwardSub m x = .ok y ∧ y.size = n ∧ ∃ lam : Nat → Nat → ℝ,
      (∀ r k, M.Th r (lam r k)) ∧
      ∀ r, r < n →
        ∑ k ∈ Finset.range n, Lfn (valEnt m) r k * (lam r k * (vf y k).val) = (vf x r).val := by
  obtain ⟨y, hy, hsz, hrows⟩ := forwardSub_sdot hm hx
  exact ⟨y, hy, hsz, fwd_rows_fl hu (ent m) (vf y) (vf x) hrows⟩

end Triangular

section LUFl
variable {M : FlModel}

theorem Fl.pivotLaw : PivotLaw (fun a : Fl M => |a.val|) where
  lt_mag a b := by
    by_cases h : |a.val| < |b.val|
    · rw [decide_eq_true h, Fl.lt_iff, Fl.mag_val, Fl.mag_val]; exact h
    · rw [decide_eq_false h]
      exact Bool.eq_false_iff.2 fun hc => h (by rwa [Fl.lt_iff, Fl.mag_val, Fl.mag_val] at hc)
  mag_zero := by rw [Fl.ext_iff, Fl.mag_val, Fl.zero_val, abs_zero]
  size_zero_le a := by rw [Fl.zero_val, abs_zero]; exact abs_nonneg _
  mag_beq_zero a := by rw [Fl.beq_zero_iff, Fl.mag_val, Fl.zero_val, abs_zero]
  div_ok a p h := ⟨_, Fl.divM_of_val_ne fun hp => by
    rw [hp, Fl.zero_val, abs_zero] at h; exact lt_irrefl _ h⟩

theorem Fl.val_eq_zero_of_size {x : Fl M} (h : |x.val| = |(0 : Fl M).val|) : x.val = 0 :=
  abs_eq_zero.1 (h.trans (by rw [Fl.zero_val, abs_zero]))

/-- `LURowF n B w r ρ`: row `r` of the (row-permuted) input, `B`, is reproduced by the first `ρ`
elimination steps stored in `w` up to relative perturbations of the individual terms:
`B c = Σ_{t<ρ, t≤c} w_rt · w_tc · θ_t + (if c < ρ then 0 else w_rc · θ₀)`, every `θ` a product of
at most `ρ` factors `(1+δ)^{±1}`.  (The exact-arithmetic relation `LUrel` of LUDet.lean is the case
`θ = 1`.) -/
def LURowF (n : Nat) (B : Nat → ℝ) (w : Nat → Nat → Fl M) (r ρ : Nat) : Prop :=
  ∀ c, c < n → ∃ (θ0 : ℝ) (θ : Nat → ℝ), M.Th ρ θ0 ∧ (∀ t, M.Th ρ (θ t)) ∧
    B c = (∑ t ∈ Finset.range ρ, if t ≤ c then (w r t).val * (w t c).val * θ t else 0)
      + (if c < ρ then 0 else (w r c).val * θ0)

/-- Doolittle's formulas (Doolittle.lean) in `Fl M` give the row relation: the recurrence of an entry
on or above the diagonal is `sdotA_backward`; below the diagonal one more rounded division follows
(`th_div_mul`); a skipped column holds exact zeros and contributes nothing. -/
theorem Doolittle.toLURowF (hu : M.u < 1) {n N : Nat} {act : Nat → Bool} {B w : Nat → Nat → Fl M}
    {Null : Fl M → Prop} {Dom : Fl M → Fl M → Prop} (hz : ∀ x, Null x → x.val = 0)
    (h : Doolittle Null Dom n N n act B w) {r : Nat} (hr : r < n) :
    LURowF N (fun c => (B r c).val) w r r := by
  intro c hc
  have hmin : min r n = r := Nat.min_eq_left hr.le
  obtain ⟨hU, hL, hS⟩ := h
  have hU := hU r; have hL := hL r; have hS := hS r
  rw [hmin] at hU hL hS
  unfold T at hU hL hS
  -- a skipped column contributes nothing to row `r`
  have hnull : ∀ t, t < r → act t = false → (w r t).val = 0 := fun t ht ha =>
    hz _ (hS t hr ht ha).2
  have hterm : ∀ (k : Nat) (θ : Nat → ℝ), k ≤ r →
      (∑ t ∈ Finset.range k, if act t then (w r t).val * (w t c).val * θ t else 0)
        = ∑ t ∈ Finset.range k, (w r t).val * (w t c).val * θ t := fun k θ hk =>
    Finset.sum_congr rfl fun t ht => by
      by_cases ha : act t = true
      · rw [if_pos ha]
      · rw [if_neg ha, hnull t (Nat.lt_of_lt_of_le (Finset.mem_range.1 ht) hk) (by simpa using ha)]
        ring
  have hcnt : ∀ k, (List.range k).countP act ≤ k := fun k =>
    List.countP_le_length.trans_eq List.length_range
  by_cases hrc : r ≤ c
  · obtain ⟨θ0, θ, h0, hθ, e⟩ := sdotA_backward hu act (w r) (fun t => w t c) (B r c) r
    refine ⟨θ0, θ, h0.mono hu (hcnt r), fun t => (hθ t).mono hu (hcnt r), ?_⟩
    beta_reduce
    rw [e, ← hU c hr hc hrc, hterm r θ (Nat.le_refl r), if_neg (Nat.not_lt.2 hrc), add_comm]
    exact congrArg (· + _) (Finset.sum_congr rfl fun t ht => by
      rw [if_pos (Nat.le_trans (Nat.le_of_lt (Finset.mem_range.1 ht)) hrc)])
  · have hcr : c < r := Nat.lt_of_not_le hrc
    obtain ⟨θ0, θ, h0, hθ, e⟩ := sdotA_backward hu act (w r) (fun t => w t c) (B r c) c
    -- the sum of `LURowF` stops at `t = c`
    have hcut : ∀ X : Nat → ℝ, (∑ t ∈ Finset.range r, if t ≤ c then X t else 0)
        = (∑ t ∈ Finset.range c, X t) + X c := fun X => by
      rw [← Finset.sum_range_succ X c, ← sum_range_ite_lt X (Nat.succ_le_of_lt hcr)]
      exact Finset.sum_congr rfl fun t _ => by simp only [Nat.lt_succ_iff]
    rw [hterm c θ hcr.le] at e
    by_cases ha : act c = true
    · obtain ⟨_, θd, hd, ed⟩ := Fl.div_backward hu (hL c hr hcr ha).1 h0
      refine ⟨1, fun t => if t = c then θd else θ t,
        FlModel.Th.one.mono hu (Nat.zero_le r),
        FlModel.Th.update (hd.mono hu (Nat.le_trans (Nat.succ_le_succ (hcnt c)) hcr))
          fun t => (hθ t).mono hu (Nat.le_trans (hcnt c) hcr.le), ?_⟩
      beta_reduce
      rw [hcut,
        Finset.sum_congr rfl fun t ht => by
          rw [if_neg (Nat.ne_of_lt (Finset.mem_range.1 ht))],
        if_pos hcr, add_zero, if_pos rfl, e, ed]
      ring
    · have ha' : act c = false := by simpa using ha
      obtain ⟨hw, hz'⟩ := hS c hr hcr ha'
      refine ⟨1, θ, FlModel.Th.one.mono hu (Nat.zero_le r),
        fun t => (hθ t).mono hu (Nat.le_trans (hcnt c) hcr.le), ?_⟩
      beta_reduce
      rw [hcut, if_pos hcr, add_zero, e, ← hw, hz _ hz']
      ring

/-- `π`, `σ` are mutually inverse bijections of `{0, …, n-1}` -/
def PermOK (n : Nat) (π σ : Nat → Nat) : Prop :=
  (∀ r, r < n → π r < n ∧ σ (π r) = r) ∧ (∀ j, j < n → σ j < n ∧ π (σ j) = j)

theorem PermOK.id (n : Nat) : PermOK n (fun r => r) (fun r => r) :=
  ⟨fun _ hr => ⟨hr, rfl⟩, fun _ hr => ⟨hr, rfl⟩⟩

theorem PermOK.swap {n i k : Nat} {π σ : Nat → Nat} (h : PermOK n π σ) (hi : i < n) (hk : k < n) :
    PermOK n (fun r => π (swapIdx i k r)) (fun j => swapIdx i k (σ j)) := by
  refine ⟨fun r hr => ⟨(h.1 _ (swapIdx_lt hi hk hr)).1, ?_⟩,
    fun j hj => ⟨swapIdx_lt hi hk (h.2 j hj).1, ?_⟩⟩
  · show swapIdx i k (σ (π (swapIdx i k r))) = r
    rw [(h.1 _ (swapIdx_lt hi hk hr)).2, swapIdx_invol]
  · show π (swapIdx i k (swapIdx i k (σ j))) = j
    rw [swapIdx_invol, (h.2 j hj).2]

theorem PermOK.of_equiv {n : Nat} (τ : Equiv.Perm (Fin n)) :
    PermOK n (fun r => if hr : r < n then (τ ⟨r, hr⟩).val else r)
      (fun j => if hj : j < n then (τ⁻¹ ⟨j, hj⟩).val else j) := by
  refine ⟨fun r hr => ?_, fun j hj => ?_⟩ <;> beta_reduce
  · rw [dif_pos hr, dif_pos (Fin.isLt _)]
    exact ⟨Fin.isLt _, by simp⟩
  · rw [dif_pos hj, dif_pos (Fin.isLt _)]
    exact ⟨Fin.isLt _, by simp⟩

/-- the state of `lu_decomp_in_place` in `Fl M` after `i` column steps (established at `i = n` only,
`luDecomp_fl_inv`): `π` is the recorded row permutation (`s.perm` is its 0/1 matrix), every row of
the permuted input satisfies the perturbed row relation, and the stored multipliers are bounded by
`1 + u` -/
structure LUInvF (n : Nat) (a : Nat → Nat → Fl M) (i : Nat) (s : LU (Fl M)) (π σ : Nat → Nat) :
    Prop where
  lu : WFn s.lu n
  permok : PermOK n π σ
  perm : Is s.perm n n (fun r c => if c = π r then (1 : Fl M) else 0)
  row : ∀ r, r < n → LURowF n (fun c => (a (π r) c).val) (ent s.lu) r (min r i)
  mult : ∀ r c, r < n → c < min r i → |(ent s.lu r c).val| ≤ 1 + M.u

/-- **`lu_decomp_in_place` in `Fl M` computes Doolittle's formulas** (`luPrefix_run` of C02P.lean after
all `n` steps): whenever it returns `s`, with `τ = luPermUpTo A n n` the recorded row permutation, whose
sign is the parity of the exchange count, `s.lu` holds the description of the rows of `A` permuted
by `τ`.  (It always returns: the factorisation never fails on a square matrix.) -/
theorem luDecomp_doolittle_fl {n : Nat} {A : Mat (Fl M)} {s : LU (Fl M)} (hA : WFn A n)
    (h : luDecomp A = .ok s) :
    WFn s.lu n ∧ Is s.perm n n (permEntries (luPermUpTo A n n)) ∧
      Equiv.Perm.sign (luPermUpTo A n n) = (-1) ^ s.pivots ∧
      DoolittleOf (fun a : Fl M => |a.val|) n n n (fun j => (pivotChoice A j).isSome)
        (permRows (luPermUpTo A n n) (ent A)) (ent s.lu) := by
  obtain ⟨s', w, hs, hw, hpe, _, hsign, _, hD⟩ := luPrefix_run Fl.pivotLaw hA.is n (Nat.le_refl n)
  have hfull : luPrefix A n = luDecomp A := by
    rw [← hA.2.1]; exact luPrefix_full A (hA.2.1.trans hA.2.2.symm)
  cases hs.symm.trans (hfull.trans h)
  exact ⟨hw.wfn, hpe, hsign, hD.transfer (ρ := fun r => r) (Nat.le_refl n) (fun r hr => ⟨hr, rfl⟩)
    (fun _ _ => rfl) (fun _ _ _ _ => rfl) (fun r c hr hc => hw.ent_eq hr hc) (fun _ _ => rfl)⟩

theorem luDecomp_fl_inv (hu : M.u < 1) {n : Nat} {A : Mat (Fl M)} {s : LU (Fl M)} (hA : WFn A n)
    (h : luDecomp A = .ok s) :
    ∃ π σ, LUInvF n (ent A) n s π σ ∧ ∃ τ : Equiv.Perm (Fin n),
      (∀ r : Fin n, π r = (τ r).val) ∧ Equiv.Perm.sign τ = (-1) ^ s.pivots := by
  obtain ⟨hw, hpe, hsign, hD⟩ := luDecomp_doolittle_fl hA h
  refine ⟨fun r => if hr : r < n then (luPermUpTo A n n ⟨r, hr⟩).val else r,
    fun j => if hj : j < n then ((luPermUpTo A n n)⁻¹ ⟨j, hj⟩).val else j,
    ⟨hw, PermOK.of_equiv _, hpe.congr fun r c hr _ => ?_, fun r hr => ?_,
      fun r c hr hc => ?_⟩, luPermUpTo A n n, fun r => dif_pos r.isLt, hsign⟩
  · rw [permEntries_apply _ hr, dif_pos hr]
    exact if_congr eq_comm rfl rfl
  · rw [Nat.min_eq_left hr.le]
    exact (hD.congr_input (Nat.le_refl n)
      (B' := fun r c => ent A (if hr : r < n then (luPermUpTo A n n ⟨r, hr⟩).val else r) c)
      fun r c hr _ => by rw [permRows_apply _ _ hr, dif_pos hr]).toLURowF hu
      (fun x hx => Fl.val_eq_zero_of_size hx) hr
  · cases ha : (pivotChoice A c).isSome
    · rw [Fl.val_eq_zero_of_size (hD.skipped r c hr hc ha).2, abs_zero]
      exact M.one_add_u_pos.le
    · obtain ⟨hdiv, hdom, _⟩ := hD.lower r c hr hc ha
      obtain ⟨_, e⟩ := Fl.divM_ok hdiv
      rw [e]
      exact Fl.abs_div_le _ _ hdom

theorem luDecomp_fl (hu : M.u < 1) {n : Nat} {A : Mat (Fl M)} {s : LU (Fl M)} (hA : WFn A n)
    (h : luDecomp A = .ok s) : ∃ π σ, LUInvF n (ent A) n s π σ := by
  obtain ⟨π, σ, hs, _⟩ := luDecomp_fl_inv hu hA h
  exact ⟨π, σ, hs⟩

theorem LURowF_full_fn {N n : Nat} {B : Nat → ℝ} {w : Nat → Nat → Fl M} {r : Nat} (hr : r < n)
    (h : LURowF N B w r r) :
    ∀ c, c < N → ∃ Θ : Nat → ℝ, (∀ k, M.Th r (Θ k)) ∧
      B c = ∑ k ∈ Finset.range n, Lfn (fun a b => (w a b).val) r k *
        ((if c < k then 0 else (w k c).val) * Θ k) := by
  intro c hc
  obtain ⟨θ0, θ, h0, hθ, e⟩ := h c hc
  refine ⟨fun k => if k = r then θ0 else θ k, h0.update hθ, ?_⟩
  · rw [Lsum (fun a b => (w a b).val)
      (fun k => (if c < k then 0 else (w k c).val) * (if k = r then θ0 else θ k)) hr, e]
    have e1 : ∑ k ∈ Finset.range r, (w r k).val *
          ((if c < k then 0 else (w k c).val) * (if k = r then θ0 else θ k))
        = ∑ t ∈ Finset.range r, (if t ≤ c then (w r t).val * (w t c).val * θ t else 0) := by
      apply Finset.sum_congr rfl
      intro k hk
      rw [if_neg (Nat.ne_of_lt (Finset.mem_range.mp hk))]
      by_cases hkc : k ≤ c
      · rw [if_pos hkc, if_neg (Nat.not_lt.2 hkc)]; ring
      · rw [if_neg hkc, if_pos (Nat.lt_of_not_le hkc), zero_mul, mul_zero]
    rw [e1, if_pos rfl]
    by_cases hcr : c < r
    · rw [if_pos hcr, if_pos hcr]; ring
    · rw [if_neg hcr, if_neg hcr]; ring

theorem LURowF.full {n : Nat} {B : Nat → ℝ} {m : Mat (Fl M)} {r : Nat} (hr : r < n)
    (h : LURowF n B (ent m) r r) :
    ∀ c, c < n → ∃ Θ : Nat → ℝ, (∀ k, M.Th r (Θ k)) ∧
      B c = ∑ k ∈ Finset.range n, Lfn (valEnt m) r k * (Ufn n (valEnt m) k c * Θ k) := by
  intro c hc
  obtain ⟨Θ, hΘ, e⟩ := LURowF_full_fn (n := n) hr h c hc
  refine ⟨Θ, hΘ, e.trans (Finset.sum_congr rfl fun k _ => ?_)⟩
  simp only [Ufn, valEnt, hc, true_and]
  rfl

/-! `P·b` in `Fl M`: `P` is a 0/1 matrix with one `1` per row, so `(P b)_r = b_{π r}` in every
floating-point arithmetic in which `1·x`, `0·x`, `0 + x` and `x + 0` are exact (IEEE is one).  The abstract
standard model does not know this: it rounds `fl(1·x)`, `fl(0 + x)`, `fl(x + 0)`, so all that
can be proved from it is `(P b)_r = b_{π r}·τ_r`, `τ_r` a product of at most `n + 1` factors. -/

section PermVec

theorem foldl_range_succ (T : Nat → Fl M) (k : Nat) :
    ((List.range (k + 1)).map T).foldl (· + ·) 0 = ((List.range k).map T).foldl (· + ·) 0 + T k := by
  rw [List.range_succ, List.map_append, List.foldl_append]
  rfl

/-- a sum, accumulated from `0`, of terms all but one of which are exact zeros: the term enters a sum
that is an exact `0` and is then added exact zeros; `R k y` says what is known of the value `y` of
the sum after `k` additions -/
theorem foldl_single (T : Nat → Fl M) (j0 : Nat) (hz : ∀ t, t ≠ j0 → (T t).val = 0)
    (R : Nat → ℝ → Prop) (h0 : ∀ k, R (k + 1) (M.fl (0 + (T j0).val)))
    (hs : ∀ k y, R k y → R (k + 1) (M.fl (y + 0))) (n : Nat) :
    (j0 < n → R n (((List.range n).map T).foldl (· + ·) 0).val) ∧
    (n ≤ j0 → (((List.range n).map T).foldl (· + ·) 0).val = 0) := by
  induction n with
  | zero => exact ⟨fun h => absurd h (Nat.not_lt_zero _), fun _ => rfl⟩
  | succ k ih =>
    rw [foldl_range_succ T k, Fl.add_val]
    refine ⟨fun hj => ?_, fun hj => ?_⟩
    · rcases Nat.lt_succ_iff_lt_or_eq.1 hj with hjk | rfl
      · rw [hz k (Nat.ne_of_gt hjk)]; exact hs k _ (ih.1 hjk)
      · rw [ih.2 (Nat.le_refl _)]; exact h0 j0
    · rw [ih.2 (Nat.le_of_succ_le hj), hz k (Nat.ne_of_lt hj), add_zero, M.fl_zero]

theorem mulVec_perm_fold {p : Mat (Fl M)} {n : Nat} {π : Nat → Nat}
    (hp : Is p n n (fun r c => if c = π r then (1 : Fl M) else 0)) {v : Array (Fl M)}
    (hv : v.size = n) :
    ∃ w, mulVec p v = .ok w ∧ w.size = n ∧ ∀ r, r < n →
      vf w r = ((List.range n).map
        (fun t => (if t = π r then (1 : Fl M) else 0) * vf v t)).foldl (· + ·) 0 ∧
      ∀ t, t ≠ π r → ((if t = π r then (1 : Fl M) else 0) * vf v t).val = 0 := by
  obtain ⟨w, hw, hwn, hf⟩ := mulVec_fold hp.wfn hv
  refine ⟨w, hw, hwn, fun r hr => ⟨?_, fun t ht => ?_⟩⟩
  · rw [hf r hr]
    exact congrArg (List.foldl _ _)
      (List.map_congr_left fun t ht => by rw [hp.ent_eq hr (List.mem_range.1 ht)])
  · rw [if_neg ht, Fl.fl_zero_mul]; rfl

theorem mulVec_perm_fl (hu : M.u < 1) {p : Mat (Fl M)} {n : Nat} {π : Nat → Nat}
    (hp : Is p n n (fun r c => if c = π r then (1 : Fl M) else 0)) (hπ : ∀ r, r < n → π r < n)
    {v : Array (Fl M)} (hv : v.size = n) :
    ∃ w, mulVec p v = .ok w ∧ w.size = n ∧
      ∀ r, r < n → ∃ τ, M.Th (n + 1) τ ∧ (vf w r).val = (vf v (π r)).val * τ := by
  obtain ⟨w, hw, hwn, hf⟩ := mulVec_perm_fold hp hv
  refine ⟨w, hw, hwn, fun r hr => ?_⟩
  obtain ⟨τ, hτ, eτ⟩ := (foldl_single _ (π r) (hf r hr).2
    (fun k y => ∃ τ, M.Th k τ ∧ y = ((if π r = π r then (1 : Fl M) else 0) * vf v (π r)).val * τ)
    (fun k => by
      obtain ⟨τ, hτ, e⟩ := FlModel.exists_th hu
        (0 + ((if π r = π r then (1 : Fl M) else 0) * vf v (π r)).val)
      exact ⟨τ, hτ.mono hu (Nat.succ_le_succ (Nat.zero_le k)), by rw [e, zero_add]⟩)
    (fun k y ⟨τ, hτ, e⟩ => by
      obtain ⟨τ', hτ', e'⟩ := FlModel.exists_th hu (y + 0)
      exact ⟨τ * τ', hτ.mul hu hτ', by rw [e', add_zero, e]; ring⟩) n).1 (hπ r hr)
  obtain ⟨τ1, hτ1, eτ1⟩ := FlModel.exists_th hu ((1 : ℝ) * (vf v (π r)).val)
  refine ⟨τ1 * τ, by rw [Nat.add_comm]; exact hτ1.mul hu hτ, ?_⟩
  rw [(hf r hr).1, eτ, if_pos rfl, Fl.mul_val, Fl.one_val, eτ1]
  ring

/-- **`P·b` for a representable right-hand side** (`fl b_j = b_j`, as for every `f64` input):
the product is the exact permutation of `b` -/
theorem mulVec_perm_rep {p : Mat (Fl M)} {n : Nat} {π : Nat → Nat}
    (hp : Is p n n (fun r c => if c = π r then (1 : Fl M) else 0)) (hπ : ∀ r, r < n → π r < n)
    {v : Array (Fl M)} (hv : v.size = n) (hrep : ∀ j, j < n → M.Rep (vf v j).val) :
    ∃ w, mulVec p v = .ok w ∧ w.size = n ∧ ∀ r, r < n → (vf w r).val = (vf v (π r)).val := by
  obtain ⟨w, hw, hwn, hf⟩ := mulVec_perm_fold hp hv
  refine ⟨w, hw, hwn, fun r hr => ?_⟩
  have h1 : ((if π r = π r then (1 : Fl M) else 0) * vf v (π r)).val = (vf v (π r)).val := by
    rw [if_pos rfl, Fl.mul_val, Fl.one_val, one_mul]
    exact hrep _ (hπ r hr)
  rw [(hf r hr).1]
  exact ((foldl_single _ (π r) (hf r hr).2 (fun _ y => y = (vf v (π r)).val)
    (fun _ => by rw [zero_add, h1]; exact hrep _ (hπ r hr))
    (fun _ y e => by rw [e, add_zero]; exact hrep _ (hπ r hr)) n).1 (hπ r hr))

end PermVec

end LUFl

section Compose

theorem abs_sum_sub_le {n : Nat} (L U Θ T : Nat → ℝ) {g : ℝ}
    (hT : ∀ k, k < n → T k = L k * U k * Θ k) (hΘ : ∀ k, k < n → |Θ k - 1| ≤ g) :
    |∑ k ∈ Finset.range n, L k * U k - ∑ k ∈ Finset.range n, T k|
      ≤ g * ∑ k ∈ Finset.range n, |L k| * |U k| := by
  rw [← Finset.sum_sub_distrib, Finset.mul_sum]
  refine (Finset.abs_sum_le_sum_abs _ _).trans (Finset.sum_le_sum ?_)
  intro k hk
  have hk' := Finset.mem_range.mp hk
  have e : L k * U k - T k = L k * U k * (1 - Θ k) := by rw [hT k hk']; ring
  rw [e, abs_mul, abs_mul, abs_sub_comm, mul_comm g]
  exact mul_le_mul_of_nonneg_left (hΘ k hk') (mul_nonneg (abs_nonneg _) (abs_nonneg _))

theorem PermOK.reindex {n : Nat} {π σ : Nat → Nat} (hperm : PermOK n π σ) {a a' Δ : Nat → Nat → ℝ}
    {x b : Nat → ℝ} (ha : ∀ i j, i < n → j < n → a' i j = a i j)
    (hrow : ∀ r, r < n → ∑ c ∈ Finset.range n, (a' (π r) c + Δ r c) * x c = b (π r)) :
    ∃ ΔA : Nat → Nat → ℝ, (∀ i, i < n → ∑ j ∈ Finset.range n, (a i j + ΔA i j) * x j = b i) ∧
      ∀ r c, r < n → ΔA (π r) c = Δ r c := by
  refine ⟨fun i j => Δ (σ i) j, fun i hi => ?_, fun r c hr => by
    show Δ (σ (π r)) c = Δ r c
    rw [(hperm.1 r hr).2]⟩
  obtain ⟨hσ, hπσ⟩ := hperm.2 i hi
  have := hrow (σ i) hσ
  rw [hπσ] at this
  rw [← this]
  exact Finset.sum_congr rfl (fun j hj => by rw [ha i j hi (Finset.mem_range.mp hj)])

/-- if every entry of `B` is `(L̂Û)_{rc}` up to factors `Θ` with `|Θ − 1| ≤ e₁`, `(L̂ ∘ λ) ŷ = β` and
`(Û ∘ μ) x̂ = ŷ`, then `(B + ΔA) x̂ = β` with `ΔA = L̂Û ∘ (λμ - Θ)`; the constants may depend on the row -/
theorem lu_compose_row {n : Nat} (L U B : Nat → Nat → ℝ) (β y x : Nat → ℝ)
    (Θ : Nat → Nat → Nat → ℝ) (lam mu : Nat → Nat → ℝ) (e1 e2 : Nat → ℝ)
    (hB : ∀ r c, r < n → c < n → B r c = ∑ k ∈ Finset.range n, L r k * (U k c * Θ r c k))
    (hL : ∀ r, r < n → ∑ k ∈ Finset.range n, L r k * (lam r k * y k) = β r)
    (hU : ∀ k, k < n → ∑ c ∈ Finset.range n, U k c * (mu k c * x c) = y k)
    (hΘ : ∀ r c k, r < n → c < n → k < n → |Θ r c k - 1| ≤ e1 r)
    (hlm : ∀ r k c, r < n → k < n → c < n → |lam r k * mu k c - 1| ≤ e2 r) :
    ∃ ΔA : Nat → Nat → ℝ,
      (∀ r, r < n → ∑ c ∈ Finset.range n, (B r c + ΔA r c) * x c = β r) ∧
      ∀ r c, r < n → c < n →
        |ΔA r c| ≤ (e1 r + e2 r) * ∑ k ∈ Finset.range n, |L r k| * |U k c| := by
  refine ⟨fun r c => ∑ k ∈ Finset.range n, L r k * U k c * (lam r k * mu k c - Θ r c k), ?_, ?_⟩
  · intro r hr
    rw [← hL r hr]
    have e : ∀ c ∈ Finset.range n,
        (B r c + ∑ k ∈ Finset.range n, L r k * U k c * (lam r k * mu k c - Θ r c k)) * x c
          = ∑ k ∈ Finset.range n, L r k * (lam r k * (U k c * (mu k c * x c))) := by
      intro c hc
      rw [hB r c hr (Finset.mem_range.mp hc), ← Finset.sum_add_distrib, Finset.sum_mul]
      apply Finset.sum_congr rfl
      intro k _
      ring
    rw [Finset.sum_congr rfl e, Finset.sum_comm]
    apply Finset.sum_congr rfl
    intro k hk
    rw [← hU k (Finset.mem_range.mp hk), Finset.mul_sum, Finset.mul_sum]
  · intro r c hr hc
    beta_reduce
    rw [Finset.mul_sum]
    refine (Finset.abs_sum_le_sum_abs _ _).trans (Finset.sum_le_sum ?_)
    intro k hk
    have hk' := Finset.mem_range.mp hk
    have h3 : |lam r k * mu k c - Θ r c k| ≤ e1 r + e2 r := by
      rw [add_comm]
      exact (abs_sub_le _ 1 _).trans
        (add_le_add (hlm r k c hr hk' hc) (by rw [abs_sub_comm]; exact hΘ r c k hr hc hk'))
    rw [abs_mul, abs_mul, mul_comm (e1 r + e2 r)]
    exact mul_le_mul_of_nonneg_left h3 (mul_nonneg (abs_nonneg _) (abs_nonneg _))

theorem lu_compose {n : Nat} (L U B : Nat → Nat → ℝ) (β y x : Nat → ℝ)
    (lam mu : Nat → Nat → ℝ) (e1 e2 : ℝ)
    (hB : ∀ r c, r < n → c < n → ∃ Θ : Nat → ℝ, (∀ k, k < n → |Θ k - 1| ≤ e1) ∧
      B r c = ∑ k ∈ Finset.range n, L r k * (U k c * Θ k))
    (hL : ∀ r, r < n → ∑ k ∈ Finset.range n, L r k * (lam r k * y k) = β r)
    (hU : ∀ k, k < n → ∑ c ∈ Finset.range n, U k c * (mu k c * x c) = y k)
    (hlm : ∀ r k c, r < n → k < n → c < n → |lam r k * mu k c - 1| ≤ e2) :
    ∃ ΔA : Nat → Nat → ℝ,
      (∀ r, r < n → ∑ c ∈ Finset.range n, (B r c + ΔA r c) * x c = β r) ∧
      ∀ r c, r < n → c < n →
        |ΔA r c| ≤ (e1 + e2) * ∑ k ∈ Finset.range n, |L r k| * |U k c| := by
  obtain ⟨Θ, hΘ⟩ := exists_fun_of_lt fun r hr => exists_fun_of_lt (hB r · hr)
  exact lu_compose_row L U B β y x Θ lam mu (fun _ => e1) (fun _ => e2)
    (fun r c hr hc => (hΘ r hr c hc).2) hL hU (fun r c k hr hc hk => (hΘ r hr c hc).1 k hk) hlm

theorem PermOK.lu_compose {n : Nat} {π σ : Nat → Nat} (hperm : PermOK n π σ) {a a' : Nat → Nat → ℝ}
    (ha : ∀ i j, i < n → j < n → a' i j = a i j) (L U : Nat → Nat → ℝ) (b y x : Nat → ℝ)
    (lam mu : Nat → Nat → ℝ) (e1 e2 : ℝ)
    (hB : ∀ r c, r < n → c < n → ∃ Θ : Nat → ℝ, (∀ k, k < n → |Θ k - 1| ≤ e1) ∧
      a' (π r) c = ∑ k ∈ Finset.range n, L r k * (U k c * Θ k))
    (hL : ∀ r, r < n → ∑ k ∈ Finset.range n, L r k * (lam r k * y k) = b (π r))
    (hU : ∀ k, k < n → ∑ c ∈ Finset.range n, U k c * (mu k c * x c) = y k)
    (hlm : ∀ r k c, r < n → k < n → c < n → |lam r k * mu k c - 1| ≤ e2) :
    ∃ ΔA : Nat → Nat → ℝ,
      (∀ i, i < n → ∑ j ∈ Finset.range n, (a i j + ΔA i j) * x j = b i) ∧
      ∀ r c, r < n → c < n →
        |ΔA (π r) c| ≤ (e1 + e2) * ∑ k ∈ Finset.range n, |L r k| * |U k c| := by
  obtain ⟨ΔA', hrow, hbd⟩ := Mat.lu_compose L U (fun r c => a' (π r) c) (fun r => b (π r)) y x
    lam mu e1 e2 hB hL hU hlm
  obtain ⟨ΔA, hsol, hΔ⟩ := hperm.reindex ha hrow
  exact ⟨ΔA, hsol, fun r c hr hc => by rw [hΔ r c hr]; exact hbd r c hr hc⟩

end Compose

section Assemble
variable {M : FlModel}

theorem LUInvF.factor {n : Nat} {a : Nat → Nat → Fl M} {s : LU (Fl M)}
    {π σ : Nat → Nat} (hs : LUInvF n a n s π σ) :
    ∀ r c, r < n → c < n → ∃ Θ : Nat → ℝ, (∀ k, M.Th r (Θ k)) ∧
      (a (π r) c).val
        = ∑ k ∈ Finset.range n, Lfn (valEnt s.lu) r k * (Ufn n (valEnt s.lu) k c * Θ k) := by
  intro r c hr hc
  have hrow := hs.row r hr
  rw [Nat.min_eq_left hr.le] at hrow
  exact hrow.full hr c hc

/-- **Higham, Thm 9.3, for the in-place factorisation with partial pivoting of the model**:
`|(L̂Û)_{rc} - (PA)_{rc}| ≤ gq (n-1) · (|L̂||Û|)_{rc}` -/
theorem LUInvF.backward (hu : M.u < 1) {n : Nat} {a : Nat → Nat → Fl M} {s : LU (Fl M)}
    {π σ : Nat → Nat} (hs : LUInvF n a n s π σ) :
    ∀ r c, r < n → c < n →
      |∑ k ∈ Finset.range n, Lfn (valEnt s.lu) r k * Ufn n (valEnt s.lu) k c - (a (π r) c).val|
        ≤ M.gq (n - 1) * ∑ k ∈ Finset.range n, |Lfn (valEnt s.lu) r k| * |Ufn n (valEnt s.lu) k c| := by
  intro r c hr hc
  obtain ⟨Θ, hΘ, e⟩ := hs.factor r c hr hc
  rw [e]
  exact abs_sum_sub_le _ _ Θ _ (fun k _ => by ring)
    fun k _ => ((hΘ k).mono hu (Nat.le_sub_one_of_lt hr)).abs_sub_one_le hu

/-- `PermOK.lu_compose` with the factors counted: `Θ` of the factorisation of row `r` made of at most
`r ≤ e` roundings, `λ_rk` of `r` in the forward substitution and `m` in the right-hand side, `μ_kc` of
`n - k` in row `k` of the back substitution, so `λμ` of at most `2n + m - 1` -/
theorem PermOK.lu_compose_th (hu : M.u < 1) {n e m : Nat} {π σ : Nat → Nat} (hperm : PermOK n π σ)
    (he : n ≤ e + 1) {a a' : Nat → Nat → ℝ} (ha : ∀ i j, i < n → j < n → a' i j = a i j)
    (L U : Nat → Nat → ℝ) (b y x : Nat → ℝ) (lam mu : Nat → Nat → ℝ)
    (hB : ∀ r c, r < n → c < n → ∃ Θ : Nat → ℝ, (∀ k, M.Th r (Θ k)) ∧
      a' (π r) c = ∑ k ∈ Finset.range n, L r k * (U k c * Θ k))
    (hL : ∀ r, r < n → ∑ k ∈ Finset.range n, L r k * (lam r k * y k) = b (π r))
    (hU : ∀ k, k < n → ∑ c ∈ Finset.range n, U k c * (mu k c * x c) = y k)
    (hlam : ∀ r k, r < n → M.Th (r + m) (lam r k)) (hmu : ∀ k c, k < n → M.Th (n - k) (mu k c)) :
    ∃ ΔA : Nat → Nat → ℝ,
      (∀ i, i < n → ∑ j ∈ Finset.range n, (a i j + ΔA i j) * x j = b i) ∧
      ∀ r c, r < n → c < n →
        |ΔA (π r) c| ≤ (M.gq e + M.gq (2 * n + m - 1)) * ∑ k ∈ Finset.range n, |L r k| * |U k c| :=
  hperm.lu_compose ha L U b y x lam mu _ _
    (fun r c hr hc => (hB r c hr hc).imp fun Θ h =>
      ⟨fun k _ => ((h.1 k).mono hu (Nat.le_of_lt_succ (Nat.lt_of_lt_of_le hr he))).abs_sub_one_le hu,
        h.2⟩)
    hL hU
    (fun r k c hr hk hc =>
      (((hlam r k hr).mul hu (hmu k c hk)).mono hu (by omega)).abs_sub_one_le hu)

/-- **Higham, Thm 9.4, core**: `solveLU` with the computed `P·b` related to the exact one by factors
of at most `mτ` roundings. -/
theorem solveLU_backward_core (hu : M.u < 1) {n : Nat} (hn : 1 ≤ n) {A : Mat (Fl M)}
    {a : Nat → Nat → Fl M} {b x : Array (Fl M)} (hA : Is A n n a) (hb : b.size = n) (mτ : Nat)
    (hPb : ∀ (p : Mat (Fl M)) (π : Nat → Nat),
      Is p n n (fun r c => if c = π r then (1 : Fl M) else 0) → (∀ r, r < n → π r < n) →
      ∃ w, mulVec p b = .ok w ∧ w.size = n ∧
        ∀ r, r < n → ∃ τ, M.Th mτ τ ∧ (vf w r).val = (vf b (π r)).val * τ)
    (h : solveLU A b = .ok x) :
    ∃ s π σ, luDecomp A = .ok s ∧ LUInvF n (ent A) n s π σ ∧ x.size = n ∧
      ∃ ΔA : Nat → Nat → ℝ,
        (∀ i, i < n →
          ∑ j ∈ Finset.range n, ((a i j).val + ΔA i j) * (vf x j).val = (vf b i).val) ∧
        ∀ r c, r < n → c < n → |ΔA (π r) c| ≤ (M.gq n + M.gq (2 * n + mτ - 1)) *
          ∑ k ∈ Finset.range n, |Lfn (valEnt s.lu) r k| * |Ufn n (valEnt s.lu) k c| := by
  unfold solveLU at h
  have h1 : ¬ A.rows ≠ b.size := by rw [hA.rows, hb]; simp
  have h2 : ¬ A.rows ≠ A.cols := by rw [hA.rows, hA.cols]; simp
  simp only [h1, h2, if_false] at h
  cases hd : luDecomp A with
  | error e => simp [hd, bind, Except.bind] at h
  | ok s =>
    obtain ⟨π, σ, hs⟩ := luDecomp_fl hu hA.wfn hd
    obtain ⟨w, hw, hwn, hwτ⟩ := hPb s.perm π hs.perm (fun r hr => (hs.permok.1 r hr).1)
    obtain ⟨y, hy, hyn, lam, hlam, hL⟩ := forwardSub_backward_ent hu hs.lu hwn
    simp only [hd, hw, hy, bind, Except.bind] at h
    obtain ⟨hxs, mu, hmu, hU⟩ := backsolve_backward_ent hu hs.lu hyn hn h
    refine ⟨s, π, σ, rfl, hs, hxs, ?_⟩
    obtain ⟨τ, hτ⟩ := exists_fun_of_lt hwτ
    exact hs.permok.lu_compose_th hu (Nat.le_succ n) (a := fun i j => (a i j).val)
      (a' := fun i j => (ent A i j).val)
      (fun i j hi hj => congrArg Fl.val (hA.ent_eq hi hj))
      (Lfn (valEnt s.lu)) (Ufn n (valEnt s.lu))
      (fun i => (vf b i).val) (fun k => (vf y k).val) (fun c => (vf x c).val)
      (fun r k => lam r k / τ r) mu hs.factor
      (by
        intro r hr
        have hτpos := (hτ r hr).1.pos hu
        have e : ∑ k ∈ Finset.range n, Lfn (valEnt s.lu) r k * (lam r k / τ r * (vf y k).val)
            = (∑ k ∈ Finset.range n, Lfn (valEnt s.lu) r k * (lam r k * (vf y k).val)) / τ r := by
          rw [div_eq_mul_inv, Finset.sum_mul]
          apply Finset.sum_congr rfl
          intro k _
          ring
        rw [e, hL r hr, (hτ r hr).2]
        exact mul_div_cancel_right₀ _ hτpos.ne')
      (fun k hk => (hU k hk).2)
      (fun r k hr => (hlam r k).div hu (hτ r hr).1) hmu

end Assemble

section NormInf

/-- `‖F‖_∞` of the `n × n` array `F`: the largest absolute row sum -/
def rowNorm (n : Nat) (F : Nat → Nat → ℝ) : ℝ :=
  maxRow n (fun r => ∑ c ∈ Finset.range n, |F r c|)

theorem rowNorm_nonneg (n : Nat) (F : Nat → Nat → ℝ) : 0 ≤ rowNorm n F := maxRow_nonneg _ _

theorem row_le_rowNorm {n : Nat} (F : Nat → Nat → ℝ) {r : Nat} (hr : r < n) :
    ∑ c ∈ Finset.range n, |F r c| ≤ rowNorm n F :=
  le_maxRow (fun r => ∑ c ∈ Finset.range n, |F r c|) hr

theorem rowNorm_le {n : Nat} (F : Nat → Nat → ℝ) {b : ℝ} (hb : 0 ≤ b)
    (h : ∀ r, r < n → ∑ c ∈ Finset.range n, |F r c| ≤ b) : rowNorm n F ≤ b :=
  maxRow_le _ hb h

theorem rowNorm_le_of_perm {n : Nat} {π σ : Nat → Nat} (hperm : PermOK n π σ) {D F : Nat → Nat → ℝ}
    {C : ℝ} (hC : 0 ≤ C) (hF : ∀ r c, 0 ≤ F r c)
    (h : ∀ r c, r < n → c < n → |D (π r) c| ≤ C * F r c) : rowNorm n D ≤ C * rowNorm n F := by
  refine rowNorm_le _ (mul_nonneg hC (rowNorm_nonneg _ _)) ?_
  intro i hi
  obtain ⟨hσ, hπσ⟩ := hperm.2 i hi
  have h1 : ∑ c ∈ Finset.range n, |D i c| ≤ ∑ c ∈ Finset.range n, C * |F (σ i) c| := by
    refine Finset.sum_le_sum (fun c hc => ?_)
    have := h (σ i) c hσ (Finset.mem_range.mp hc)
    rwa [hπσ, ← abs_of_nonneg (hF (σ i) c)] at this
  rw [← Finset.mul_sum] at h1
  exact h1.trans (mul_le_mul_of_nonneg_left (row_le_rowNorm _ hσ) hC)

theorem rowNorm_abs_mul_le {n : Nat} (L U : Nat → Nat → ℝ) {c : ℝ}
    (hL : ∀ r k, r < n → |L r k| ≤ c) :
    rowNorm n (fun r j => ∑ k ∈ Finset.range n, |L r k| * |U k j|) ≤ n * c * rowNorm n U := by
  rcases Nat.eq_zero_or_pos n with rfl | hn
  · simp [rowNorm, maxRow]
  have hc : 0 ≤ c := (abs_nonneg _).trans (hL 0 0 hn)
  refine rowNorm_le _ (mul_nonneg (mul_nonneg (Nat.cast_nonneg n) hc) (rowNorm_nonneg _ _)) ?_
  intro r hr
  have e : ∑ j ∈ Finset.range n, abs (∑ k ∈ Finset.range n, |L r k| * |U k j|)
      = ∑ k ∈ Finset.range n, |L r k| * ∑ j ∈ Finset.range n, |U k j| := by
    rw [Finset.sum_congr rfl (fun j _ => abs_of_nonneg
      (Finset.sum_nonneg (fun k _ => mul_nonneg (abs_nonneg (L r k)) (abs_nonneg (U k j))))),
      Finset.sum_comm]
    exact Finset.sum_congr rfl (fun k _ => (Finset.mul_sum _ _ _).symm)
  rw [e]
  calc ∑ k ∈ Finset.range n, |L r k| * ∑ j ∈ Finset.range n, |U k j|
      ≤ ∑ k ∈ Finset.range n, c * rowNorm n U :=
        Finset.sum_le_sum (fun k hk => mul_le_mul (hL r k hr)
          (row_le_rowNorm _ (Finset.mem_range.mp hk))
          (Finset.sum_nonneg (fun _ _ => abs_nonneg _)) hc)
    _ = n * c * rowNorm n U := by
        rw [Finset.sum_const, Finset.card_range, nsmul_eq_mul, mul_assoc]

theorem abs_Lfn_le {n : Nat} {w : Nat → Nat → ℝ} {c : ℝ} (hc : 1 ≤ c)
    (h : ∀ r k, r < n → k < r → |w r k| ≤ c) (r k : Nat) (hr : r < n) : |Lfn w r k| ≤ c := by
  unfold Lfn
  split_ifs with h1 h2
  · exact h r k hr h1
  · rw [abs_one]; exact hc
  · rw [abs_zero]; exact le_trans zero_le_one hc

end NormInf

end Mat

end Ohsl
