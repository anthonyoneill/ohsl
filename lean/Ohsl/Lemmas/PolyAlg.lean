/-
  Ohsl.Lemmas.PolyAlg — the bridge between the coefficient-array model of polynomials
  (`Ohsl/Model/Poly.lean`) and Mathlib's `Polynomial K`:
  `toPoly cs = Σ_i C cs[i] * X^i`, its coefficient function, injectivity at fixed size, the
  cons/Horner decomposition, and the left fold of products that `Poly.mul` stores in slot `k`
  (`Ohsl/Lemmas/PolyArr.lean`) as the sum over the antidiagonal of `k`.
-/
import Ohsl.Lemmas.PolyArr
import Mathlib.Algebra.Polynomial.Derivative
import Mathlib.Algebra.Polynomial.Coeff
import Mathlib.Algebra.Polynomial.Eval.Defs
import Mathlib.Algebra.BigOperators.NatAntidiagonal
import Mathlib.Algebra.BigOperators.Intervals
import Mathlib.Order.Interval.Finset.Nat
namespace Ohsl.PolyAlg
open Ohsl Ohsl.Poly Polynomial

variable {K : Type} [Semiring K]

/-- the Mathlib polynomial denoted by a coefficient array (lowest degree first) -/
noncomputable def toPoly (cs : Array K) : Polynomial K :=
  ∑ i ∈ Finset.range cs.size, C (cs[i]?.getD 0) * X ^ i

theorem coeff_toPoly (cs : Array K) (k : Nat) : (toPoly cs).coeff k = cs[k]?.getD 0 := by
  unfold toPoly
  rw [Polynomial.finsetSum_coeff]
  simp only [coeff_C_mul_X_pow]
  rw [Finset.sum_ite_eq]
  by_cases h : k < cs.size
  · simp [h]
  · simp [h]

theorem toPoly_ext {a b : Array K} (h : ∀ k : Nat, a[k]?.getD 0 = b[k]?.getD 0) :
    toPoly a = toPoly b := by
  ext k; rw [coeff_toPoly, coeff_toPoly, h]

theorem toPoly_eq_of_size_zero {p : Array K} (h : p.size = 0) : toPoly p = 0 := by
  rw [toPoly, h, Finset.range_zero, Finset.sum_empty]

@[simp] theorem toPoly_empty : toPoly (#[] : Array K) = 0 := toPoly_eq_of_size_zero rfl

theorem toPoly_replicate_zero (n : Nat) : toPoly (Array.replicate n (0 : K)) = 0 := by
  ext k; rw [coeff_toPoly, Array.getElem?_replicate]; split <;> rfl

theorem toPoly_inj {a b : Array K} (hs : a.size = b.size) (h : toPoly a = toPoly b) : a = b := by
  apply Array.ext hs
  intro i h1 h2
  have := congrArg (fun f => f.coeff i) h
  simp only [coeff_toPoly] at this
  simpa [h1, h2] using this

theorem toPoly_cons (c : K) (l : List K) :
    toPoly (c :: l).toArray = C c + toPoly l.toArray * X := by
  ext k
  rw [coeff_add, coeff_toPoly]
  cases k with
  | zero => simp
  | succ k => rw [coeff_mul_X, coeff_toPoly, coeff_C_succ]; simp

theorem horner_list (x : K) (l : List K) (lead : K) :
    l.foldr (fun c acc => acc * x + c) lead = (toPoly (l ++ [lead]).toArray).eval x := by
  induction l with
  | nil =>
    have : toPoly ([lead].toArray) = C lead := by
      ext k; rw [coeff_toPoly]; cases k <;> simp [coeff_C]
    simp [this]
  | cons c l ih =>
    simp only [List.foldr_cons, List.cons_append]
    rw [toPoly_cons, ih, eval_add, eval_mul_X, eval_C, add_comm]

section Conv
open Ohsl.Props.C11

theorem convIdx_toFinset (m n k : Nat) :
    (convIdx m n k).toFinset = (Finset.range (k + 1)).filter (fun i => i < m ∧ k - i < n) := by
  ext i
  simp only [convIdx, List.toFinset_filter, List.toFinset_range, Finset.mem_filter,
    Finset.mem_range, decide_eq_true_eq]
  omega

theorem sum_convIdx {A : Type} [AddCommMonoid A] (m n k : Nat) (g : ℕ → A)
    (hg : ∀ i, g i ≠ 0 → i < m ∧ k - i < n) :
    ((convIdx m n k).map g).sum = ∑ i ∈ Finset.range (k + 1), g i := by
  rw [← List.sum_toFinset g (convIdx_nodup m n k), convIdx_toFinset, Finset.sum_filter_of_ne]
  intro i _ hne
  exact hg i hne

theorem foldl_convTerms (p q : Array K) (k : Nat) :
    (convTerms p q p.size k).foldl (· + ·) 0
      = ∑ ij ∈ Finset.antidiagonal k, (p[ij.1]?.getD 0) * (q[ij.2]?.getD 0) := by
  rw [← List.sum_eq_foldl, convTerms,
    Finset.Nat.sum_antidiagonal_eq_sum_range_succ (fun i j => p[i]?.getD 0 * q[j]?.getD 0) k]
  refine sum_convIdx _ _ _ _ fun i hne => ⟨?_, ?_⟩
  · by_contra h
    rw [getD_of_le (Nat.le_of_not_lt h), zero_mul] at hne; exact hne rfl
  · by_contra h
    rw [getD_of_le (Nat.le_of_not_lt h), mul_zero] at hne; exact hne rfl

end Conv

end Ohsl.PolyAlg
