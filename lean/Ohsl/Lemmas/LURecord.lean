/-
  Ohsl.Lemmas.LURecord — what a whole run of `Mat.luDecomp` records, for every exact element type
  (`Alg.PivotLaws`; all read off `luDecomp_factors` of Ohsl/Lemmas/LUDet.lean):
  `perm` is the permutation matrix of `σ = luPerm A n`, `pivots = exchangeCount A n`,
  `sign σ = (-1)^pivots`, and `A[σ ·, ·] = L·U`.  The theorems of Props/C02P (ordered field) and
  Props/C02Q (`_gen`, `_cx`) are instances of these.
-/
import Ohsl.Lemmas.C02Q
import Mathlib.LinearAlgebra.Matrix.Permutation
namespace Ohsl
namespace Mat
variable {K : Type} [Field K] [BEq K] [LawfulBEq K] [ScalarExt K] [Alg.PivotLaws K]

theorem luDecomp_record {A : Mat K} {n : Nat} {a : Nat → Nat → K} (h : Is A n n a) :
    ∃ s w, luDecomp A = .ok s ∧ Is s.lu n n w ∧ Is s.perm n n (permEntries (luPerm A n)) ∧
      s.pivots = exchangeCount A n ∧ Equiv.Perm.sign (luPerm A n) = (-1) ^ s.pivots := by
  obtain ⟨s, w, h1, h2, h3, _, h5, h6, _⟩ := luDecomp_factors h
  exact ⟨s, w, h1, h2, h3, h5, h6⟩

theorem luDecomp_perm {A : Mat K} {n : Nat} {a : Nat → Nat → K} (h : Is A n n a) :
    ∃ s, luDecomp A = .ok s ∧
      Is s.perm n n (permEntries (luPerm A n)) ∧
      toMat n (permEntries (K := K) (luPerm A n)) = Equiv.Perm.permMatrix K (luPerm A n) ∧
      toMat n (permEntries (K := K) (luPerm A n)) * toMat n a
        = (toMat n a).submatrix (luPerm A n) id := by
  obtain ⟨s, w, hs, _, hpe, _, _⟩ := luDecomp_record h
  exact ⟨s, hs, hpe, toMat_permEntries_gen _, toMat_permEntries_mul _ _⟩

theorem luDecomp_perm_entries {A : Mat K} {n : Nat} {a : Nat → Nat → K} (h : Is A n n a) :
    ∃ (s : LU K) (σ : Equiv.Perm (Fin n)), luDecomp A = .ok s ∧ s.perm.WF ∧ s.perm.rows = n ∧
      s.perm.cols = n ∧
      ∀ (i j : Nat) (hi : i < n) (hj : j < n),
        (s.perm.get i j = .ok 0 ∨ s.perm.get i j = .ok 1) ∧
        (s.perm.get i j = .ok 1 ↔ (⟨j, hj⟩ : Fin n) = σ ⟨i, hi⟩) := by
  obtain ⟨s, w, hs, _, hpe, _, _⟩ := luDecomp_record h
  refine ⟨s, luPerm A n, hs, hpe.wf, hpe.rows, hpe.cols, ?_⟩
  intro i j hi hj
  rw [hpe.get hi hj, permEntries_apply _ hi]
  by_cases e : ((luPerm A n) ⟨i, hi⟩).val = j
  · rw [if_pos e]
    exact ⟨Or.inr rfl, fun _ => Fin.ext e.symm, fun _ => rfl⟩
  · rw [if_neg e]
    exact ⟨Or.inl rfl, fun h => absurd (Except.ok.inj h) zero_ne_one,
      fun h => absurd (by rw [← h]) e⟩

theorem luDecomp_pivots_count {A : Mat K} {n : Nat} {a : Nat → Nat → K} (h : Is A n n a) :
    ∃ s, luDecomp A = .ok s ∧ s.pivots = exchangeCount A n ∧ s.pivots ≤ n := by
  obtain ⟨s, w, hs, _, _, hcnt, _⟩ := luDecomp_record h
  exact ⟨s, hs, hcnt, hcnt ▸ exchangeCount_le A n⟩

theorem luDecomp_pivots_parity {A : Mat K} {n : Nat} {a : Nat → Nat → K} (h : Is A n n a) :
    ∃ s, luDecomp A = .ok s ∧ Equiv.Perm.sign (luPerm A n) = (-1) ^ s.pivots ∧
      (s.pivots % 2 = 0 ↔ Equiv.Perm.sign (luPerm A n) = 1) := by
  obtain ⟨s, w, hs, _, _, _, hsign⟩ := luDecomp_record h
  refine ⟨s, hs, hsign, ?_⟩
  rw [hsign, neg_one_pow_eq_one_iff_even (by decide), Nat.even_iff]

end Mat
end Ohsl
