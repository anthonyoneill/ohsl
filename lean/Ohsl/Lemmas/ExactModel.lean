/-
  Ohsl.Lemmas.ExactModel — the exact model `Fl FlModel.exact` is the field `ℝ`, so the class-(E)
  theory of the direct solvers (SolveComplete, LUDet, BandExact, BandDet) applies to it.  Only the
  structure is here: a file that applies one of those theories imports it itself.

  `Fl.exactField`, `Fl.exactPivotLaws` are definitions, not instances: a second path to `Div`,
  `Inv`, … on `Fl M` would be in scope of every statement about `Fl`; a proof that needs them says
  `let _ := Fl.exactField; let _ := Fl.exactPivotLaws`.  A solver is then evaluated on concrete data
  by checking its answer (`Mat.solve_eq_of_sol` of SolveComplete.lean, `Mat.inverse_eq_of_mul` of
  LUDet.lean, `Band.solve_eq_of_sol` of BandDet.lean).
-/
import Ohsl.Lemmas.Rounding
import Ohsl.Lemmas.Alg
namespace Ohsl

namespace Fl

theorem val_injective {M : FlModel} : Function.Injective (Fl.val : Fl M → ℝ) :=
  fun _ _ h => Fl.ext h

section Field

/- the operations of a field that `Rounding` does not define, read off the values -/
noncomputable local instance : Inv (Fl FlModel.exact) := ⟨fun a => ⟨a.val⁻¹⟩⟩
noncomputable local instance : SMul ℕ (Fl FlModel.exact) := ⟨fun n a => ⟨n • a.val⟩⟩
noncomputable local instance : SMul ℤ (Fl FlModel.exact) := ⟨fun n a => ⟨n • a.val⟩⟩
noncomputable local instance : SMul ℚ≥0 (Fl FlModel.exact) := ⟨fun q a => ⟨q • a.val⟩⟩
noncomputable local instance : SMul ℚ (Fl FlModel.exact) := ⟨fun q a => ⟨q • a.val⟩⟩
noncomputable local instance : Pow (Fl FlModel.exact) ℕ := ⟨fun a n => ⟨a.val ^ n⟩⟩
noncomputable local instance : Pow (Fl FlModel.exact) ℤ := ⟨fun a n => ⟨a.val ^ n⟩⟩
noncomputable local instance : NatCast (Fl FlModel.exact) := ⟨fun n => ⟨n⟩⟩
noncomputable local instance : IntCast (Fl FlModel.exact) := ⟨fun n => ⟨n⟩⟩
noncomputable local instance : NNRatCast (Fl FlModel.exact) := ⟨fun q => ⟨q⟩⟩
noncomputable local instance : RatCast (Fl FlModel.exact) := ⟨fun q => ⟨q⟩⟩

/-- every law holds by `rfl`: `FlModel.exact.fl` is `id` -/
@[reducible] noncomputable def exactField : Field (Fl FlModel.exact) :=
  val_injective.field Fl.val rfl rfl (fun _ _ => rfl) (fun _ _ => rfl) (fun _ => rfl)
    (fun _ _ => rfl) (fun _ => rfl) (fun _ _ => rfl) (fun _ _ => rfl) (fun _ _ => rfl)
    (fun _ _ => rfl) (fun _ _ => rfl) (fun _ _ => rfl) (fun _ _ => rfl) (fun _ => rfl)
    (fun _ => rfl) (fun _ => rfl) (fun _ => rfl)

attribute [local instance] exactField in
@[reducible] noncomputable def exactPivotLaws : Alg.PivotLaws (Fl FlModel.exact) where
  divM_zero a := if_pos rfl
  divM_ne a b h := if_neg fun hb => h (Fl.ext hb)
  S := ℝ
  size a := |a.val|
  lt_mag a b := by
    show decide ((ScalarExt.mag a).val < (ScalarExt.mag b).val) = _
    rw [Fl.mag_val, Fl.mag_val]
  mag_zero := Fl.ext ((Fl.mag_val 0).trans abs_zero)
  size_zero_le a := by
    show |(0 : ℝ)| ≤ _
    rw [abs_zero]
    exact abs_nonneg _
  eq_zero_of_size a h := by
    have h' : |a.val| = |(0 : ℝ)| := h
    rw [abs_zero, abs_eq_zero] at h'
    exact Fl.ext h'

end Field
end Fl

end Ohsl
