/-
  Ohsl.Lemmas.DotSum — every reduction of the vector model is ONE left fold over the index range,
  for any scalar type (class S).  Such a fold has two readings: a finite sum, with the scalars read
  through a map `φ` that respects `+ * 0` (`ScalarHom φ`: `id` on a commutative semiring,
  `toC : Cx ℝ → ℂ`, …), here; and the γ-bounds of the standard model (Lemmas/Rounding, Props/C15F,
  C16F).  Needs `Finset` sums and Lemmas/MatSpec only, so that the sparse, dense and vector files can
  all start from it.
-/
import Ohsl.Model.Vec
import Ohsl.Lemmas.ArrayIndex
import Ohsl.Lemmas.MatSpec
import Mathlib.Algebra.BigOperators.Group.Finset.Basic
import Mathlib.Algebra.BigOperators.Intervals
import Mathlib.Algebra.Ring.Defs
import Mathlib.Order.Defs.LinearOrder
namespace Ohsl.Props.C15
open Ohsl Ohsl.Vec

theorem arr_foldl_eq_fold {α K : Type} [Add K] (g : α → K) (d : α) (a : Array α) (init : K) :
    a.foldl (fun acc x => acc + g x) init
      = ((List.range a.size).map (fun j => g (a.getD j d))).foldl (· + ·) init := by
  rw [← Array.foldl_toList]
  conv_lhs => rw [toList_eq_map_range a d]
  rw [List.foldl_map, List.foldl_map]

/-- the loop `result = 0; result += a[i] * b[i]` as an index fold (no law) -/
theorem zipWith_foldl_eq_fold {K : Type} [Add K] [Mul K] [Zero K] (a b : Array K)
    (h : a.size = b.size) :
    (Array.zipWith (· * ·) a b).foldl (· + ·) 0
      = ((List.range a.size).map (fun j => a.getD j 0 * b.getD j 0)).foldl (· + ·) 0 := by
  rw [← Array.foldl_toList, zipWith_toList_eq _ a b 0 0 h]

theorem norm1_eq_fold {K : Type} [Add K] [Zero K] [ScalarExt K] (a : Array K) :
    Vec.norm1 a
      = ((List.range a.size).map (fun j => ScalarExt.mag (a.getD j 0))).foldl (· + ·) 0 :=
  arr_foldl_eq_fold ScalarExt.mag 0 a 0

theorem norm2_eq_fold {K : Type} [Add K] [Zero K] [One K] [Transc K] (a : Array K) :
    Vec.norm2 a = Transc.sqrt (((List.range a.size).map
      (fun j => Transc.powf (Transc.fabs (a.getD j 0)) ((1 : K) + 1))).foldl (· + ·) 0) :=
  congrArg Transc.sqrt (arr_foldl_eq_fold (fun x => Transc.powf (Transc.fabs x) ((1 : K) + 1)) 0 a 0)

theorem foldl_range_add_eq_sum {M : Type} [AddCommMonoid M] (n : Nat) (g : Nat → M) (init : M) :
    (List.range n).foldl (fun s i => s + g i) init = init + ∑ i ∈ Finset.range n, g i := by
  induction n with
  | zero => simp
  | succ n ih =>
    rw [List.range_succ, List.foldl_append, ih, Finset.sum_range_succ, ← add_assoc]
    rfl

theorem foldl_map_range_eq_sum {M : Type} [AddCommMonoid M] (g : Nat → M) (n : Nat) :
    ((List.range n).map g).foldl (· + ·) 0 = ∑ i ∈ Finset.range n, g i := by
  rw [List.foldl_map, foldl_range_add_eq_sum, zero_add]

theorem foldl_range'_add_eq_sum {M : Type} [AddCommMonoid M] (f : Nat → M) (s len : Nat) (a : M) :
    (List.range' s len).foldl (fun acc j => acc + f j) a = a + ∑ j ∈ Finset.Ico s (s + len), f j := by
  rw [List.range'_eq_map_range, List.foldl_map, foldl_range_add_eq_sum,
    Finset.sum_Ico_eq_sum_range, Nat.add_sub_cancel_left]

theorem foldl_range_mul_eq_prod {M : Type} [CommMonoid M] (n : Nat) (g : Nat → M) (init : M) :
    (List.range n).foldl (fun s i => s * g i) init = init * ∏ i ∈ Finset.range n, g i := by
  induction n with
  | zero => simp
  | succ n ih =>
    rw [List.range_succ, List.foldl_append, ih, Finset.prod_range_succ, ← mul_assoc]
    rfl

theorem foldl_mul_eq_prod {M : Type} [CommMonoid M] {α : Type} (f : α → M) (d : α) (l : List α)
    (init : M) :
    l.foldl (fun acc x => acc * f x) init = init * ∏ i ∈ Finset.range l.length, f (l.getD i d) := by
  induction l generalizing init with
  | nil => exact (mul_one init).symm
  | cons x l ih =>
    rw [List.foldl_cons, ih, List.length_cons, Finset.prod_range_succ', mul_assoc, mul_comm (f x)]
    rfl

theorem arr_foldl_mul_eq_prod {M : Type} [CommMonoid M] {α : Type} (f : α → M) (d : α) (a : Array α)
    (init : M) :
    a.foldl (fun acc x => acc * f x) init = init * ∏ i ∈ Finset.range a.size, f (a.getD i d) := by
  rw [← Array.foldl_toList, foldl_mul_eq_prod f d, Array.length_toList]
  simp only [List.getD_eq_getElem?_getD, Array.getElem?_toList, Array.getD_eq_getD_getElem?]

theorem sum_getD_zipWith {K : Type} [Zero K] {R : Type} [AddCommMonoid R] (f : K → R)
    (op : K → K → K) (a b : Array K) (h : a.size = b.size) :
    ∑ i ∈ Finset.range (Array.zipWith op a b).size, f ((Array.zipWith op a b).getD i 0)
      = ∑ i ∈ Finset.range a.size, f (op (a.getD i 0) (b.getD i 0)) := by
  rw [Array.size_zipWith, ← h, Nat.min_self]
  exact Finset.sum_congr rfl fun i hi =>
    congrArg f (getD_zipWith op a b 0 0 0 h (Finset.mem_range.mp hi))

/-- `φ` carries the model's `+`, `*`, `0` on `K` to those of a commutative semiring `R`
    (`id` on a commutative ring; `toC : Cx ℝ → ℂ`) -/
structure ScalarHom {K R : Type} [Add K] [Mul K] [Zero K] [CommSemiring R] (φ : K → R) : Prop where
  map_add : ∀ x y, φ (x + y) = φ x + φ y
  map_mul : ∀ x y, φ (x * y) = φ x * φ y
  map_zero : φ 0 = 0

theorem scalarHom_id {K : Type} [CommSemiring K] : ScalarHom (id : K → K) :=
  ⟨fun _ _ => rfl, fun _ _ => rfl, rfl⟩

/-- how the statements at `φ = id` are read off the `_hom` theorems -/
theorem ok_of_hom_id {K : Type} {x : Res K} {v : K} (h : ∃ r, x = .ok r ∧ id r = v) : x = .ok v := by
  obtain ⟨r, rfl, rfl⟩ := h
  rfl

section Hom
variable {K R : Type} [Add K] [Mul K] [Zero K] [CommSemiring R] {φ : K → R}

theorem ScalarHom.map_foldl (hφ : ScalarHom φ) {α : Type} (g : α → K) : ∀ (l : List α) (init : K),
    φ ((l.map g).foldl (· + ·) init) = (l.map fun x => φ (g x)).foldl (· + ·) (φ init)
  | [], _ => rfl
  | x :: l, init => by
    rw [List.map_cons, List.foldl_cons, hφ.map_foldl g l, hφ.map_add]
    rfl

theorem ScalarHom.foldl_map_range (hφ : ScalarHom φ) (g : Nat → K) (n : Nat) :
    φ (((List.range n).map g).foldl (· + ·) 0) = ∑ j ∈ Finset.range n, φ (g j) := by
  rw [hφ.map_foldl, hφ.map_zero, foldl_map_range_eq_sum]

theorem ScalarHom.foldl_mul (hφ : ScalarHom φ) (a : Array K) (init : K) :
    φ (a.foldl (· * ·) init) = φ init * ∏ i ∈ Finset.range a.size, φ (a.getD i 0) := by
  have h : ∀ (l : List K) (init : K), φ (l.foldl (· * ·) init)
      = l.foldl (fun acc x => acc * φ x) (φ init) := by
    intro l
    induction l with
    | nil => intro _; rfl
    | cons x l ih => intro init; rw [List.foldl_cons, ih, hφ.map_mul]; rfl
  rw [← Array.foldl_toList, h, Array.foldl_toList]
  exact arr_foldl_mul_eq_prod φ 0 a (φ init)

/-- the loop `result = 0; result += a[i] * b[i]` of every dot product -/
theorem ScalarHom.foldl_zipWith_mul (hφ : ScalarHom φ) (a b : Array K) (h : a.size = b.size) :
    φ ((Array.zipWith (· * ·) a b).foldl (· + ·) 0)
      = ∑ i ∈ Finset.range a.size, φ (a.getD i 0) * φ (b.getD i 0) := by
  rw [zipWith_foldl_eq_fold a b h, hφ.foldl_map_range]
  exact Finset.sum_congr rfl fun i _ => hφ.map_mul _ _

theorem dot_hom [Sub K] [Neg K] [One K] [BEq K] [ScalarExt K] (hφ : ScalarHom φ) (a b : Array K)
    (h : a.size = b.size) :
    ∃ d, dot a b = .ok d ∧
      φ d = ∑ i ∈ Finset.range a.size, φ (a.getD i 0) * φ (b.getD i 0) :=
  ⟨_, if_neg (fun hne => hne h), hφ.foldl_zipWith_mul a b h⟩

end Hom

/-- a left fold that replaces the accumulator by every candidate `f x` of larger value `v` ends at a
candidate (or the start) of largest value -/
theorem foldl_max_spec {K α β : Type} [LinearOrder β] (v : K → β) (f : α → K) (g : K → α → K)
    (hg : ∀ r x, g r x = if v r < v (f x) then f x else r) (l : List α) (init : K) :
    v init ≤ v (l.foldl g init) ∧ (∀ x ∈ l, v (f x) ≤ v (l.foldl g init)) ∧
      (l.foldl g init = init ∨ ∃ x ∈ l, l.foldl g init = f x ∧ v init < v (f x)) := by
  induction l generalizing init with
  | nil => exact ⟨le_refl _, fun _ h => absurd h List.not_mem_nil, Or.inl rfl⟩
  | cons x l ih =>
    rw [List.foldl_cons]
    obtain ⟨h1, h2, h3⟩ := ih (g init x)
    have hc : v init ≤ v (g init x) ∧ v (f x) ≤ v (g init x) ∧
        (g init x = init ∨ (g init x = f x ∧ v init < v (f x))) := by
      rw [hg]
      split
      · rename_i hlt
        exact ⟨hlt.le, le_refl _, Or.inr ⟨rfl, hlt⟩⟩
      · rename_i hlt
        exact ⟨le_refl _, not_lt.mp hlt, Or.inl rfl⟩
    refine ⟨hc.1.trans h1, ?_, ?_⟩
    · intro y hy
      rcases List.mem_cons.mp hy with rfl | hy
      · exact hc.2.1.trans h1
      · exact h2 y hy
    · rcases h3 with h3 | ⟨y, hy, h3, hlt⟩
      · rcases hc.2.2 with h4 | ⟨h4, hlt⟩
        · exact Or.inl (h3.trans h4)
        · exact Or.inr ⟨x, List.mem_cons_self, h3.trans h4, hlt⟩
      · exact Or.inr ⟨y, List.mem_cons_of_mem _ hy, h3, hc.1.trans_lt hlt⟩

end Ohsl.Props.C15

namespace Ohsl.Props.C16
open Ohsl

theorem dot_eq_fold {K : Type} [Add K] [Mul K] [Zero K] (a b : Array K) (h : a.size = b.size) :
    Vec.dot a b
      = .ok (((List.range a.size).map (fun j => a.getD j 0 * b.getD j 0)).foldl (· + ·) 0) := by
  rw [Vec.dot, if_neg (fun hne => hne h), C15.zipWith_foldl_eq_fold a b h]

end Ohsl.Props.C16

namespace Ohsl

theorem foldl_zipWith_eq_sum {K : Type} [CommSemiring K] (a b : Array K) (n : Nat) (ha : a.size = n)
    (hb : b.size = n) :
    (Array.zipWith (· * ·) a b).foldl (· + ·) 0 =
      ∑ i ∈ Finset.range n, a[i]?.getD 0 * b[i]?.getD 0 := by
  have h := (Props.C15.scalarHom_id (K := K)).foldl_zipWith_mul a b (ha.trans hb.symm)
  rw [ha] at h
  simpa only [id, Array.getD_eq_getD_getElem?] using h

end Ohsl

namespace Ohsl.Mat

theorem mulVec_eq_sum {K : Type} [CommSemiring K] [Sub K] [Neg K] [BEq K] [ScalarExt K] {m : Mat K}
    {r c : Nat} {e : Nat → Nat → K} (h : Is m r c e) (v : Array K) (hv : v.size = c) :
    mulVec m v = .ok ((List.range r).map fun i =>
      ∑ j ∈ Finset.range c, e i j * v[j]?.getD 0).toArray := by
  rw [mulVec_spec h v hv]
  congr 2
  apply List.map_congr_left
  intro i _
  refine (foldl_zipWith_eq_sum _ v c (by simp) hv).trans ?_
  exact Finset.sum_congr rfl fun j hj => by simp [Finset.mem_range.mp hj]

end Ohsl.Mat
