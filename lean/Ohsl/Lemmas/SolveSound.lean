/-
  Ohsl.Lemmas.SolveSound — the dense direct solvers `Mat.solveBasic` (Gaussian elimination with
  partial pivoting + back substitution) and `Mat.solveLU` (in-place LU, `P b`, forward and back
  substitution) over an exact field: what a returned value satisfies.

  Class (E): `K` a field whose `divM` fails exactly on a zero divisor (`Alg.DivLaw`); for the LU
  solver the pivot comparison `lt (mag a) (mag b)` compares a size in a linear order
  (`Alg.PivotLaws`).  A linearly ordered field with `Alg.scalarExt` is an instance, and so is the
  model's complex type `Cx ℝ` (`Ohsl/Lemmas/CxField.lean`).

  What the loops compute for any scalar type is in SolveRun.lean (entry functions `ent`, `vf`,
  `WFn`; `elimRow_eq`, `backsolveAt_eq`, …), the triangular solves over an exact field in
  TriSolve.lean (`forwardSub_spec`, `backsolve_spec`, `backsolve_total`, `backsolve_fails`).

  The pivot search of `solve_basic` starts at the diagonal row, so the row it returns is at or
  below the diagonal whatever the comparison does; when the entry found there is zero the first
  division of the elimination fails and no value is returned.
-/
import Ohsl.Model.Solve
import Ohsl.Lemmas.SolveRun
import Ohsl.Lemmas.LUDet
import Ohsl.Lemmas.ArrayIndex
import Ohsl.Lemmas.DotSum
namespace Ohsl

namespace Mat
variable {K : Type}

section Exact
variable [Field K]

theorem elimRow_zero [BEq K] [ScalarExt K] [Alg.DivLaw K]
    {m : Mat K} {x : Array K} {n k i : Nat} (hm : WFn m n) (hx : x.size = n) (hk : k < n)
    (hi : i < n) (hki : k ≠ i) (hz : ent m k k = 0) : elimRow k (m, x) i = .error .arith := by
  have hrun := elimRow_eq hm hx hk hi hki
  rw [hz, Alg.divM_law_zero] at hrun
  exact (hrun.error_iff _).1 rfl

/-- the multiplier of row `a` in the elimination of column `k` -/
def elimMult (w : Nat → Nat → K) (k a : Nat) : K := if k < a then w a k / w k k else 0

theorem elimMult_self (w : Nat → Nat → K) (k : Nat) : elimMult w k k = 0 :=
  if_neg (Nat.lt_irrefl k)

/-- echelon shape after `k` steps: zeros below the diagonal in the first `k` columns -/
def Good (n k : Nat) (e : Nat → Nat → K) : Prop :=
  ∀ i j, i < n → j < k → j < i → e i j = 0

/-- the row loop of one elimination step never fails below a non-zero pivot: every row `a > k`
    loses its multiple `elimMult … k a` of row `k` (the matrix has echelon shape in the columns
    `< k`, so that the columns the loop does not touch are not changed by this either) -/
theorem elimLoop_spec [BEq K] [ScalarExt K] [Alg.DivLaw K]
    {n k : Nat} (hk : k < n) {m : Mat K} {x : Array K} (hm : WFn m n) (hx : x.size = n)
    (hp : ent m k k ≠ 0) (hg : Good n k (ent m)) :
    ∃ m' x', forM' (k + 1) n (m, x) (elimRow k) = .ok (m', x') ∧ WFn m' n ∧ x'.size = n ∧
      (∀ a b, a < n → b < n → ent m' a b = ent m a b - elimMult (ent m) k a * ent m k b) ∧
      (∀ a, a < n → vf x' a = vf x a - elimMult (ent m) k a * vf x k) := by
  obtain ⟨m', x', hs, hw, hsz, he, hv⟩ := elimCol_total hm hx hk
    (fun a => ent m a k / ent m k k) fun a _ _ => Alg.divM_law_ne hp
  refine ⟨m', x', hs, hw, hsz, fun a b ha hb => ?_, fun a ha => ?_⟩
  · rw [he a b ha hb, elimMult]
    by_cases hka : k < a
    · by_cases hkb : k ≤ b
      · rw [if_pos ⟨hka, hkb⟩, if_pos hka]
      · -- a column the loop does not touch: the pivot row is zero there
        rw [if_neg (fun h => hkb h.2), hg k b hk (by omega) (by omega), mul_zero, sub_zero]
    · rw [if_neg (fun h => hka h.1), if_neg hka, zero_mul, sub_zero]
  · rw [hv a ha, elimMult]
    by_cases hka : k < a
    · rw [if_pos hka, if_pos hka]
    · rw [if_neg hka, if_neg hka, zero_mul, sub_zero]

/-- `z` solves the `n × n` system with entry function `e` and right-hand side `y` -/
def Sol (n : Nat) (e : Nat → Nat → K) (y z : Nat → K) : Prop :=
  ∀ i, i < n → ∑ j ∈ Finset.range n, e i j * z j = y i

theorem Sol.of_rows {n : Nat} {e e' : Nat → Nat → K} {y y' z : Nat → K} (σ : Nat → Nat)
    (hσ : ∀ i, i < n → σ i < n) (he : ∀ i j, i < n → j < n → e i j = e' (σ i) j)
    (hy : ∀ i, i < n → y i = y' (σ i)) (h : Sol n e' y' z) : Sol n e y z := by
  intro i hi
  rw [hy i hi, ← h (σ i) (hσ i hi)]
  exact Finset.sum_congr rfl fun j hj => by rw [he i j hi (Finset.mem_range.1 hj)]

theorem Is.sol {A : Mat K} {n : Nat} {a : Nat → Nat → K} (hA : Is A n n a) {y z : Nat → K}
    (h : Sol n (ent A) y z) : Sol n a y z :=
  h.of_rows id (fun _ hi => hi) (fun _ _ hi hj => (hA.ent_eq hi hj).symm) (fun _ _ => rfl)

theorem Sol.of_swapIdx {n p k : Nat} (hp : p < n) (hk : k < n) {e e' : Nat → Nat → K}
    {y y' z : Nat → K} (he : ∀ a b, a < n → b < n → e' a b = e (swapIdx p k a) b)
    (hy : ∀ a, a < n → y' a = y (swapIdx p k a)) (h : Sol n e' y' z) : Sol n e y z :=
  h.of_rows (swapIdx p k) (fun _ hi => swapIdx_lt hp hk hi)
    (fun i j hi hj => by rw [he _ j (swapIdx_lt hp hk hi) hj, swapIdx_invol])
    (fun i hi => by rw [hy _ (swapIdx_lt hp hk hi), swapIdx_invol])

/-- the exchange spelt out as `swapFn` and `Vec.swap` do: for `p = k` either order of the two tests
    gives the same value -/
theorem Sol.of_swap {n p k : Nat} (hp : p < n) (hk : k < n) {e e' : Nat → Nat → K}
    {y y' z : Nat → K}
    (he : ∀ a b, a < n → b < n →
      e' a b = if a = p then e k b else if a = k then e p b else e a b)
    (hy : ∀ a, a < n → y' a = if a = k then y p else if a = p then y k else y a)
    (h : Sol n e' y' z) : Sol n e y z :=
  Sol.of_swapIdx hp hk
    (fun a b ha hb => (he a b ha hb).trans (swapIdx_apply (fun r => e r b) p k a).symm)
    (fun a ha => by
      rw [hy a ha, swapIdx_apply y]
      by_cases hak : a = k
      · by_cases hap : a = p
        · rw [if_pos hak, if_pos hap, ← hap, ← hak]
        · rw [if_pos hak, if_neg hap, if_pos hak]
      · rw [if_neg hak, if_neg hak]) h

theorem Sol.of_elim {n k : Nat} (hk : k < n) (c : Nat → K) (hc : c k = 0)
    {e e' : Nat → Nat → K} {y y' z : Nat → K}
    (he : ∀ a b, a < n → b < n → e' a b = e a b - c a * e k b)
    (hy : ∀ a, a < n → y' a = y a - c a * y k)
    (h : Sol n e' y' z) : Sol n e y z := by
  have hrow : ∀ a, a < n → ∑ j ∈ Finset.range n, e a j * z j
      = y' a + c a * ∑ j ∈ Finset.range n, e k j * z j := fun a ha => by
    rw [← h a ha, Finset.mul_sum, ← Finset.sum_add_distrib]
    exact Finset.sum_congr rfl fun j hj => by rw [he a j ha (Finset.mem_range.1 hj)]; ring
  intro a ha
  have hkrow := hrow k hk
  rw [hc, zero_mul, add_zero, hy k hk, hc, zero_mul, sub_zero] at hkrow
  rw [hrow a ha, hkrow, hy a ha, sub_add_cancel]

theorem sol_iff_mulVec {n : Nat} {e : Nat → Nat → K} {y z : Nat → K} :
    Sol n e y z ↔ (toMat n e).mulVec (fun k => z k.val) = fun r => y r.val :=
  ⟨fun h => funext fun r => (toMat_mulVec e z r).trans (h r.val r.isLt),
    fun h i hi => (toMat_mulVec e z ⟨i, hi⟩).symm.trans (congrFun h ⟨i, hi⟩)⟩

theorem Sol.unique {n : Nat} {e : Nat → Nat → K} {y z z' : Nat → K}
    (hdet : (toMat n e).det ≠ 0) (h : Sol n e y z) (h' : Sol n e y z') :
    ∀ j, j < n → z j = z' j := fun j hj =>
  congrFun (Matrix.mulVec_injective_of_isUnit
    ((Matrix.isUnit_iff_isUnit_det _).2 (isUnit_iff_ne_zero.2 hdet))
    ((sol_iff_mulVec.1 h).trans (sol_iff_mulVec.1 h').symm)) ⟨j, hj⟩

theorem Good.swap {n k p : Nat} {e e' : Nat → Nat → K} (hg : Good n k e) (hk : k < n)
    (hkp : k ≤ p) (hp : p < n)
    (he : ∀ a b, a < n → b < n → e' a b = e (swapIdx p k a) b) : Good n k e' := by
  intro i j hi hj hji
  rw [he i j hi (by omega)]
  refine hg _ j (swapIdx_lt hp hk hi) hj ?_
  -- the rows `< k` stay where they are, the others stay `≥ k`
  by_cases hik : k ≤ i
  · exact Nat.lt_of_lt_of_le hj (swapIdx_ge hkp (Nat.le_refl k) hik)
  · rw [swapIdx_of_lt hkp (Nat.le_refl k) (by omega)]
    exact hji

theorem Good.elim {n k : Nat} {e e' : Nat → Nat → K} (hg : Good n k e) (hk : k < n)
    (hp : e k k ≠ 0)
    (he : ∀ a b, a < n → b < n → e' a b = e a b - elimMult e k a * e k b) :
    Good n (k + 1) e' := by
  intro i j hi hj hji
  rw [he i j hi (by omega)]
  by_cases hjk : j = k
  · subst hjk
    rw [elimMult, if_pos hji, div_mul_cancel₀ _ hp, sub_self]
  · rw [hg i j hi (by omega) hji, hg k j hk (by omega) (by omega), mul_zero, sub_zero]

/-- in echelon shape, a pivot column that vanishes on and below the diagonal forces a zero
    determinant: the matrix is block triangular and its leading `(k+1) × (k+1)` block is upper
    triangular with a zero on the diagonal -/
theorem det_zero_of_good_zero_col {n k : Nat} (hk : k < n) {w : Nat → Nat → K}
    (hg : Good n k w) (hz : ∀ i, k ≤ i → i < n → w i k = 0) : (toMat n w).det = 0 := by
  rw [Matrix.twoBlockTriangular_det (toMat n w) (fun i : Fin n => i.val ≤ k)]
  · have h0 : (Matrix.toSquareBlockProp (toMat n w) fun i : Fin n => i.val ≤ k).det = 0 := by
      rw [Matrix.det_of_isUpperTriangular]
      · refine Finset.prod_eq_zero (Finset.mem_univ ⟨⟨k, hk⟩, le_refl k⟩) ?_
        simp only [Matrix.toSquareBlockProp_def, Matrix.of_apply, toMat]
        exact hz k (le_refl k) hk
      · intro i j hij
        simp only [Matrix.toSquareBlockProp_def, Matrix.of_apply, toMat]
        have h1 : j.1.val < i.1.val := hij
        have h2 : i.1.val ≤ k := i.2
        exact hg _ _ i.1.isLt (by omega) h1
    rw [h0, zero_mul]
  · intro i hi j hj
    show w i.val j.val = 0
    by_cases hjk : j.val = k
    · rw [hjk]; exact hz i.val (by omega) i.isLt
    · exact hg _ _ i.isLt (by omega) (by omega)

/-- What `gauss_with_pivot` keeps, after `k` steps on the system `e z = y`: the state `s` is an
    `n × n` system in echelon shape in the columns `< k`, every solution of it solves the original
    system, and its determinant vanishes exactly when the original one does. -/
structure GaussInv (n : Nat) (e : Nat → Nat → K) (y : Nat → K) (k : Nat)
    (s : Mat K × Array K) : Prop where
  wf : WFn s.1 n
  size : s.2.size = n
  good : Good n k (ent s.1)
  sol : ∀ z, Sol n (ent s.1) (vf s.2) z → Sol n e y z
  det : (toMat n (ent s.1)).det = 0 ↔ (toMat n e).det = 0

theorem GaussInv.upper {n : Nat} {e : Nat → Nat → K} {y : Nat → K} {s : Mat K × Array K}
    (h : GaussInv n e y (n - 1) s) {i j : Nat} (hi : i < n) (hj : j < i) : ent s.1 i j = 0 :=
  h.good i j hi (Nat.lt_of_lt_of_le hj (Nat.le_sub_one_of_lt hi)) hj

theorem GaussInv.sol_upper {n : Nat} {e : Nat → Nat → K} {y : Nat → K} {s : Mat K × Array K}
    (h : GaussInv n e y (n - 1) s) {z : Nat → K}
    (hz : ∀ i, i < n →
      ent s.1 i i * z i + ∑ j ∈ Finset.Ico (i + 1) n, ent s.1 i j * z j = vf s.2 i) :
    Sol n e y z :=
  h.sol z fun i hi => by
    rw [sum_range_upper _ hi fun j hj => by rw [h.upper hi hj, zero_mul]]
    exact hz i hi

theorem GaussInv.diag_iff {n : Nat} {e : Nat → Nat → K} {y : Nat → K} {s : Mat K × Array K}
    (h : GaussInv n e y (n - 1) s) : (∀ i, i < n → ent s.1 i i ≠ 0) ↔ (toMat n e).det ≠ 0 := by
  rw [Ne, ← h.det, det_toMat_upper fun i j hi hj => h.upper hi hj, Finset.prod_eq_zero_iff]
  exact ⟨fun hd ⟨i, hi, h0⟩ => hd i (Finset.mem_range.1 hi) h0,
    fun hd i hi h0 => hd ⟨i, Finset.mem_range.2 hi, h0⟩⟩

/-- exchanging two equations and subtracting multiples of equation `k` keeps the solutions, and the
    determinant changes at most its sign -/
theorem gaussStep_spec [BEq K] [ScalarExt K] [Alg.DivLaw K] {n k : Nat} {e : Nat → Nat → K}
    {y : Nat → K} (hk : k + 1 < n) {m : Mat K} {x : Array K} (h : GaussInv n e y k (m, x)) :
    ∃ p, maxAbsInColumn m k k = .ok p ∧ k ≤ p ∧ p < n ∧
      (ent m p k = 0 → gaussStep (m, x) k = .error .arith) ∧
      (ent m p k ≠ 0 → ∃ s', gaussStep (m, x) k = .ok s' ∧ GaussInv n e y (k + 1) s') := by
  obtain ⟨hm, hx, hg, hsol, hdet⟩ := h
  have hkn : k < n := Nat.lt_of_succ_lt hk
  obtain ⟨p, m1, x1, hp, hpp, hkp, hpn, hw1, hsz1, he1, hv1⟩ := partialPivot_spec hm hx hkn
  have hkk : ent m1 k k = ent m p k := by rw [he1 k k hkn hkn, swapIdx_right]
  have hstep : gaussStep (m, x) k = forM' (k + 1) n (m1, x1) (elimRow k) := by
    simp only [gaussStep, hpp, bind, Except.bind, hw1.2.1]
  refine ⟨p, hp, hkp, hpn, fun hz => ?_, fun hnz => ?_⟩
  · rw [hstep]
    exact forM'_first_error _ _ _ _ _ hk
      (elimRow_zero hw1 hsz1 hkn hk (Nat.ne_of_lt (Nat.lt_succ_self k)) (hkk.trans hz))
  · have hg1 := hg.swap hkn hkp hpn he1
    have hpiv : ent m1 k k ≠ 0 := hkk ▸ hnz
    obtain ⟨m2, x2, hl, hw2, hsz2, he2, hv2⟩ := elimLoop_spec hkn hw1 hsz1 hpiv hg1
    refine ⟨(m2, x2), hstep.trans hl, hw2, hsz2, hg1.elim hkn hpiv he2, fun z hz => ?_, ?_⟩
    · exact hsol z (Sol.of_swapIdx hpn hkn he1 (fun a _ => hv1 a)
        (Sol.of_elim hkn _ (elimMult_self _ k) he2 hv2 hz))
    · rw [← hdet, det_toMat_elim hkn _ (elimMult_self _ k) he2,
        toMat_congr (w' := swapFn (ent m) p k) fun a b ha hb => by
          rw [he1 a b ha hb, swapFn_eq_swapIdx]]
      by_cases hpk : p = k
      · rw [hpk, swapFn_self]
      · rw [det_toMat_swap _ hpn hkn hpk, neg_eq_zero]

/-- `Q` is whatever a zero entry in the row the pivot search returned implies (nothing under
    `DivLaw` alone, `det A = 0` when the search maximises a size). -/
theorem gauss_run [BEq K] [ScalarExt K] [Alg.DivLaw K]
    {n : Nat} (hn : 1 ≤ n) {A : Mat K} {a : Nat → Nat → K} (hA : Is A n n a) {b : Array K}
    (hb : b.size = n) (Q : Prop)
    (hQ : ∀ (k : Nat) (s : Mat K × Array K) (p : Nat), k + 1 < n →
      GaussInv n a (vf b) k s → maxAbsInColumn s.1 k k = .ok p → ent s.1 p k = 0 → Q) :
    Res.Sat (gaussWithPivot A b) (GaussInv n a (vf b) (n - 1)) (fun e => e = .arith ∧ Q) := by
  rw [gaussWithPivot_eq, hA.rows, usub_ok hn]
  refine forM'_sat (GaussInv n a (vf b)) _ 0 (n - 1) (A, b) _ (Nat.zero_le _)
    ⟨hA.wfn, hb, fun i j _ hj => absurd hj (Nat.not_lt_zero j), fun z hz => hA.sol hz,
      by rw [toMat_congr fun r c hr hc => hA.ent_eq hr hc]⟩ ?_
  rintro k ⟨ms, xs⟩ _ hk hinv
  have hk1 : k + 1 < n := Nat.add_lt_of_lt_sub hk
  obtain ⟨p, hp, _, _, hzero, hnz⟩ := gaussStep_spec hk1 hinv
  by_cases hz : ent ms p k = 0
  · exact .of_error (hzero hz) ⟨rfl, hQ k (ms, xs) p hk1 hinv hp hz⟩
  · exact .of_ok (hnz hz)

theorem solveBasic_eq [BEq K] [ScalarExt K] {A : Mat K} {n : Nat} {a : Nat → Nat → K}
    (hA : Is A n n a) {b : Array K} (hb : b.size = n) :
    solveBasic A b = (do
      let (m, x) ← gaussWithPivot A b
      backsolve m x) := by
  have h1 : ¬ A.rows ≠ b.size := by rw [hA.rows, hb]; simp
  have h2 : ¬ A.rows ≠ A.cols := by rw [hA.rows, hA.cols]; simp
  simp only [solveBasic, h1, h2, if_false]

/-- No pivot hypothesis: a vanishing pivot makes a division fail, which is the error branch. -/
theorem solveBasic_spec [BEq K] [ScalarExt K] [Alg.DivLaw K]
    {n : Nat} (hn : 1 ≤ n) {A : Mat K} {a : Nat → Nat → K} (hA : Is A n n a) {b x : Array K}
    (hb : b.size = n) (h : solveBasic A b = .ok x) :
    x.size = n ∧ Sol n a (vf b) (vf x) ∧ (toMat n a).det ≠ 0 ∧
      ∀ z, Sol n a (vf b) z → ∀ j, j < n → z j = vf x j := by
  rw [solveBasic_eq hA hb] at h
  cases hg : gaussWithPivot A b with
  | error e => rw [hg] at h; cases h
  | ok s =>
    rw [hg] at h
    have hinv := (gauss_run hn hA hb True fun _ _ _ _ _ _ _ => trivial).elim_ok hg
    obtain ⟨hxs, hbs⟩ := backsolve_spec hinv.wf.is hinv.size hn h
    have hx : Sol n a (vf b) (vf x) := hinv.sol_upper fun i hi => (hbs i hi).2
    have hne := hinv.diag_iff.1 fun i hi => (hbs i hi).1
    exact ⟨hxs, hx, hne, fun z hz => Sol.unique hne hz hx⟩

/-- **`solve_basic` on a singular matrix** divides by an exact zero (class `arith`), during the
    elimination or — when the reduced matrix has its zero on the diagonal — in the back
    substitution -/
theorem solveBasic_singular [BEq K] [ScalarExt K] [Alg.DivLaw K]
    {n : Nat} (hn : 1 ≤ n) {A : Mat K} {a : Nat → Nat → K} (hA : Is A n n a) {b : Array K}
    (hb : b.size = n) (hdet : (toMat n a).det = 0) : solveBasic A b = .error .arith := by
  rw [solveBasic_eq hA hb]
  have hrun := gauss_run hn hA hb True fun _ _ _ _ _ _ _ => trivial
  cases hg : gaussWithPivot A b with
  | error e => rw [(hrun.elim_error hg).1]; rfl
  | ok s =>
    have hinv := hrun.elim_ok hg
    -- the reduced matrix has a zero on its diagonal
    obtain ⟨i, hi, hi0⟩ : ∃ i, i < n ∧ ent s.1 i i = 0 := by
      by_contra hc
      exact hinv.diag_iff.1 (fun i hi h0 => hc ⟨i, hi, h0⟩) hdet
    exact backsolve_fails hinv.wf.is hinv.size hi hi0

theorem mulVec_sum [BEq K] [ScalarExt K] {m : Mat K} {n : Nat} (hm : WFn m n) {v : Array K}
    (hv : v.size = n) :
    ∃ w, mulVec m v = .ok w ∧ w.size = n ∧
      ∀ r, r < n → vf w r = ∑ t ∈ Finset.range n, ent m r t * vf v t := by
  obtain ⟨w, hw, hn, hf⟩ := mulVec_fold hm hv
  exact ⟨w, hw, hn, fun r hr => (hf r hr).trans (Props.C15.foldl_map_range_eq_sum _ n)⟩

/-- `solve_lu` up to its last step: what remains is the back substitution on `U` -/
theorem solveLU_eq [BEq K] [LawfulBEq K] [ScalarExt K] [Alg.PivotLaws K]
    {n : Nat} {A : Mat K} {a : Nat → Nat → K} (hA : Is A n n a) {b : Array K} (hb : b.size = n) :
    ∃ (lu : Mat K) (w pe : Nat → Nat → K) (y : Array K), Is lu n n w ∧ y.size = n ∧
      solveLU A b = backsolve lu y ∧
      toMat n pe * toMat n a = toMat n (Lfn w) * Umat n n w ∧ IsUnit (toMat n pe) ∧
      ((∀ i, i < n → w i i ≠ 0) ↔ (toMat n a).det ≠ 0) ∧
      (toMat n (Lfn w)).mulVec (fun k => vf y k.val) = (toMat n pe).mulVec (fun k => vf b k.val) := by
  obtain ⟨s, w, pe, hs, hw, hpe, hLU, hdP, hdU⟩ := luDecomp_spec hA
  obtain ⟨pb, hpb, hpbn, hpbv⟩ := mulVec_sum hpe.wfn hb
  obtain ⟨y, hy, hyn, hyv⟩ := forwardSub_spec hw hpbn
  refine ⟨s.lu, w, pe, y, hw, hyn, ?_, hLU, isUnit_of_det_eq_neg_one_pow hdP, diag_ne_zero_iff hdU,
    funext fun r => ?_⟩
  · have h1 : ¬ A.rows ≠ b.size := by rw [hA.rows, hb]; simp
    have h2 : ¬ A.rows ≠ A.cols := by rw [hA.rows, hA.cols]; simp
    simp only [solveLU, h1, h2, if_false, hs, hpb, hy, bind, Except.bind]
  · rw [toMat_mulVec, toMat_mulVec, Lsum w _ r.isLt, hyv r r.isLt, hpbv r r.isLt, sub_add_cancel]
    exact Finset.sum_congr rfl fun t ht => by
      rw [hpe.ent_eq r.isLt (Finset.mem_range.1 ht)]

/-- `U x = y`, `L y = P b`, `P A = L U`, `P` invertible; every division of the back substitution
    succeeded, so the diagonal of `U` has no zero -/
theorem solveLU_spec [BEq K] [LawfulBEq K] [ScalarExt K] [Alg.PivotLaws K]
    {n : Nat} (hn : 1 ≤ n) {A : Mat K} {a : Nat → Nat → K} (hA : Is A n n a) {b x : Array K}
    (hb : b.size = n) (h : solveLU A b = .ok x) :
    x.size = n ∧ Sol n a (vf b) (vf x) ∧ (toMat n a).det ≠ 0 := by
  obtain ⟨lu, w, pe, y, hw, hy, heq, hLU, hP, hdiag, hLy⟩ := solveLU_eq hA hb
  rw [heq] at h
  obtain ⟨hxs, hbs⟩ := backsolve_spec hw hy hn h
  have hUx : (Umat n n w).mulVec (fun k => vf x k.val) = fun k => vf y k.val := funext fun r => by
    rw [Umat_eq, toMat_mulVec, Usum w _ r.isLt, (hbs r r.isLt).2]
  refine ⟨hxs, sol_iff_mulVec.2 (Matrix.mulVec_injective_of_isUnit hP ?_),
    hdiag.1 fun i hi => (hbs i hi).1⟩
  rw [Matrix.mulVec_mulVec, hLU, ← Matrix.mulVec_mulVec, hUx, hLy]

/-- **`solve_lu` on a singular matrix** divides by an exact zero in the back substitution: the
    skipped column left a zero on the diagonal of `U` -/
theorem solveLU_singular [BEq K] [LawfulBEq K] [ScalarExt K] [Alg.PivotLaws K]
    {n : Nat} {A : Mat K} {a : Nat → Nat → K} (hA : Is A n n a) {b : Array K}
    (hb : b.size = n) (hdet : (toMat n a).det = 0) : solveLU A b = .error .arith := by
  obtain ⟨lu, w, pe, y, hw, hy, heq, _, _, hdiag, _⟩ := solveLU_eq hA hb
  rw [heq]
  have hz : ∃ k, k < n ∧ w k k = 0 := by
    by_contra hc
    exact hdiag.1 (fun i hi h0 => hc ⟨i, hi, h0⟩) hdet
  obtain ⟨k, hk, h0⟩ := hz
  exact backsolve_fails hw hy hk h0

/-- the vector `solve_lu` returns solves the system, and the one `solve_basic` returns is the only
    solution -/
theorem solvers_agree [BEq K] [LawfulBEq K] [ScalarExt K] [Alg.PivotLaws K]
    {n : Nat} (hn : 1 ≤ n) {A : Mat K} {a : Nat → Nat → K} (hA : Is A n n a) {b x₁ x₂ : Array K}
    (hb : b.size = n) (h₁ : solveBasic A b = .ok x₁) (h₂ : solveLU A b = .ok x₂) : x₁ = x₂ := by
  obtain ⟨s1, _, _, huniq⟩ := solveBasic_spec hn hA hb h₁
  obtain ⟨s2, e2, _⟩ := solveLU_spec hn hA hb h₂
  refine Array.ext (by rw [s1, s2]) fun j hj1 hj2 => ?_
  have := huniq _ e2 j (by omega)
  simp only [vf, hj1, hj2, Array.getElem?_eq_getElem, Option.getD_some] at this
  exact this.symm

end Exact
end Mat
end Ohsl
