import Mathlib.Tactic.Attr.Register

/-- The equations by which the model is run on literal data: its loops, the checked array and matrix
accessors, the `Except` plumbing, indexing and updating of literal lists, and arithmetic on `Nat`
literals.  `simp only [model_eval, f, …]` (or `norm_num only`, which also decides the comparisons of
numerals) runs `f` on concrete arguments with this small set instead of the default simp set. -/
register_simp_attr model_eval
