/-
  Ohsl.Lemmas.LUDet — the in-place LU factorisation with partial pivoting
  (`Mat.luPivot`, `Mat.luElimRow`, `Mat.luStep`, `Mat.luDecomp`) over an exact field, and its
  relation to `Matrix.det`.

  Class (E): `divM` fails exactly on a zero divisor (`Alg.DivLaw`) and the pivot comparison
  `lt (mag a) (mag b)` compares a size in a linear order (`Alg.PivotLaws`): a linearly ordered
  field with `Alg.scalarExt` (`mag = |·|`, `lt = <`), or the model's `Cx ℝ` (modulus).

  What the loops compute for any scalar type is in SolveRun.lean; the triangular solves over an
  exact field are in TriSolve.lean.
-/
import Ohsl.Model.Solve
import Ohsl.Lemmas.MatSpec2
import Ohsl.Lemmas.SolveRun
import Ohsl.Lemmas.TriSolve
import Ohsl.Lemmas.DotSum
import Ohsl.Lemmas.C02P
import Ohsl.Lemmas.Alg
import Mathlib.Algebra.BigOperators.Group.Finset.Basic
import Mathlib.Algebra.BigOperators.Ring.Finset
import Mathlib.Algebra.BigOperators.Intervals
import Mathlib.Algebra.Order.Ring.Abs
import Mathlib.Data.Fintype.BigOperators
import Mathlib.LinearAlgebra.Matrix.Determinant.Basic
import Mathlib.LinearAlgebra.Matrix.Block
import Mathlib.LinearAlgebra.Matrix.NonsingularInverse
import Mathlib.Tactic.NormNum
import Mathlib.Tactic.Ring
import Mathlib.Tactic.SplitIfs
namespace Ohsl
namespace Mat

section Exact
variable {K : Type}

/-- an entry function as a Mathlib matrix -/
def toMat (n : Nat) (a : Nat → Nat → K) : Matrix (Fin n) (Fin n) K :=
  Matrix.of fun r c => a r.val c.val

theorem toMat_congr {n : Nat} {w w' : Nat → Nat → K}
    (h : ∀ a b, a < n → b < n → w a b = w' a b) : toMat n w = toMat n w' := by
  ext r c
  exact h r.val c.val r.isLt c.isLt

variable [Field K]

theorem toMat_mulVec {n : Nat} (w : Nat → Nat → K) (z : Nat → K) (r : Fin n) :
    (toMat n w).mulVec (fun k => z k.val) r = ∑ k ∈ Finset.range n, w r.val k * z k :=
  Fin.sum_univ_eq_sum_range (fun k => w r.val k * z k) n

theorem det_toMat_swap {n r1 r2 : Nat} (w : Nat → Nat → K) (h1 : r1 < n) (h2 : r2 < n)
    (hne : r1 ≠ r2) : (toMat n (swapFn w r1 r2)).det = - (toMat n w).det := by
  have e : toMat n (swapFn w r1 r2)
      = (toMat n w).submatrix (Equiv.swap (⟨r1, h1⟩ : Fin n) ⟨r2, h2⟩) id := by
    ext ⟨r, hr⟩ ⟨c, hc⟩
    simp only [toMat, Matrix.of_apply, Matrix.submatrix_apply, id, swapFn_eq_swapIdx, swapIdx,
      Equiv.swap_apply_def, Fin.mk.injEq]
    split_ifs <;> rfl
  have hne' : (⟨r1, h1⟩ : Fin n) ≠ ⟨r2, h2⟩ := by
    intro h; exact hne (Fin.mk.injEq _ _ _ _ ▸ h)
  rw [e, Matrix.det_permute, Equiv.Perm.sign_swap hne', Units.val_neg, Units.val_one,
    Int.cast_neg, Int.cast_one, neg_one_mul]

theorem det_toMat_upper {n : Nat} {w : Nat → Nat → K} (hg : ∀ i j, i < n → j < i → w i j = 0) :
    (toMat n w).det = ∏ k ∈ Finset.range n, w k k := by
  rw [Matrix.det_of_isUpperTriangular, ← Fin.prod_univ_eq_prod_range (fun k => w k k) n]
  · rfl
  · intro r c hrc
    exact hg r.val c.val r.isLt hrc

theorem det_toMat_elim {n k : Nat} (hk : k < n) (c : Nat → K) (hc : c k = 0) {w w' : Nat → Nat → K}
    (h : ∀ a b, a < n → b < n → w' a b = w a b - c a * w k b) :
    (toMat n w').det = (toMat n w).det := by
  refine Matrix.det_eq_of_forall_row_eq_smul_add_const (fun r : Fin n => - c r.val) ⟨k, hk⟩
    (by simp [hc]) fun r j => ?_
  show w' r.val j.val = w r.val j.val + - c r.val * w k j.val
  rw [h _ _ r.isLt j.isLt]
  ring

/-- the current matrix with the stored multipliers (the strictly-lower entries of the columns
    `< i`) replaced by zero -/
def Umat (n i : Nat) (w : Nat → Nat → K) : Matrix (Fin n) (Fin n) K :=
  Matrix.of fun r c => if c.val < i ∧ c.val < r.val then 0 else w r.val c.val

/-- Nat-level entries of the masked matrix `Umat` -/
def Ufn (i : Nat) (w : Nat → Nat → K) : Nat → Nat → K := fun r c =>
  if c < i ∧ c < r then 0 else w r c

theorem Umat_eq (n i : Nat) (w : Nat → Nat → K) : Umat n i w = toMat n (Ufn i w) := rfl

theorem det_Umat_full (n : Nat) (w : Nat → Nat → K) :
    (Umat n n w).det = ∏ k ∈ Finset.range n, w k k := by
  rw [Umat_eq, det_toMat_upper (w := Ufn n w) fun i j hi hj => if_pos ⟨by omega, hj⟩]
  exact Finset.prod_congr rfl fun k _ => if_neg (by omega)

/-- the unit lower factor: stored multipliers below the diagonal, 1 on it -/
def Lfn (w : Nat → Nat → K) : Nat → Nat → K := fun r k =>
  if k < r then w r k else if k = r then 1 else 0

theorem sum_range_split (f : Nat → K) {r n : Nat} (hr : r < n) :
    ∑ k ∈ Finset.range n, f k
      = ∑ k ∈ Finset.range r, f k + f r + ∑ k ∈ Finset.Ico (r + 1) n, f k := by
  rw [← Finset.sum_range_add_sum_Ico f (le_of_lt hr), Finset.sum_eq_sum_Ico_succ_bot hr]
  ring

theorem sum_range_ite_lt (F : Nat → K) {r n : Nat} (hr : r ≤ n) :
    ∑ k ∈ Finset.range n, (if k < r then F k else 0) = ∑ k ∈ Finset.range r, F k := by
  rw [← Finset.sum_range_add_sum_Ico _ hr]
  have h1 : ∑ k ∈ Finset.range r, (if k < r then F k else 0) = ∑ k ∈ Finset.range r, F k := by
    apply Finset.sum_congr rfl
    intro k hk
    rw [if_pos (Finset.mem_range.mp hk)]
  have h2 : ∑ k ∈ Finset.Ico r n, (if k < r then F k else 0) = 0 := by
    apply Finset.sum_eq_zero
    intro k hk
    have : ¬ k < r := by have := (Finset.mem_Ico.mp hk).1; omega
    rw [if_neg this]
  rw [h1, h2, add_zero]

theorem Lsum (w : Nat → Nat → K) (y : Nat → K) {r n : Nat} (hr : r < n) :
    ∑ k ∈ Finset.range n, Lfn w r k * y k = y r + ∑ k ∈ Finset.range r, w r k * y k := by
  rw [sum_range_split _ hr]
  have h1 : ∑ k ∈ Finset.range r, Lfn w r k * y k = ∑ k ∈ Finset.range r, w r k * y k := by
    apply Finset.sum_congr rfl
    intro k hk
    have : k < r := Finset.mem_range.mp hk
    simp [Lfn, this]
  have h2 : ∑ k ∈ Finset.Ico (r + 1) n, Lfn w r k * y k = 0 := by
    apply Finset.sum_eq_zero
    intro k hk
    have := (Finset.mem_Ico.mp hk).1
    have a1 : ¬ k < r := by omega
    have a2 : ¬ k = r := by omega
    simp [Lfn, a1, a2]
  have h3 : Lfn w r r = 1 := by simp [Lfn]
  rw [h1, h2, h3]
  ring

theorem sum_range_upper (f : Nat → K) {i n : Nat} (hi : i < n) (hz : ∀ j, j < i → f j = 0) :
    ∑ j ∈ Finset.range n, f j = f i + ∑ j ∈ Finset.Ico (i + 1) n, f j := by
  rw [sum_range_split f hi, Finset.sum_eq_zero fun j hj => hz j (Finset.mem_range.1 hj), zero_add]

theorem Usum (w : Nat → Nat → K) (x : Nat → K) {r n : Nat} (hr : r < n) :
    ∑ k ∈ Finset.range n, Ufn n w r k * x k
      = w r r * x r + ∑ k ∈ Finset.Ico (r + 1) n, w r k * x k := by
  rw [sum_range_upper _ hr fun k hk => by rw [Ufn, if_pos ⟨by omega, hk⟩, zero_mul], Ufn,
    if_neg (by omega)]
  congr 1
  exact Finset.sum_congr rfl fun k hk => by
    rw [Ufn, if_neg (by have := (Finset.mem_Ico.1 hk).1; omega)]

theorem det_Lfn_eq_one (n : Nat) (w : Nat → Nat → K) : (toMat n (Lfn w)).det = 1 := by
  rw [Matrix.det_of_isLowerTriangular _ fun i j (hij : i < j) =>
    (if_neg (by omega : ¬ j.val < i.val)).trans (if_neg (by omega : ¬ j.val = i.val))]
  exact Finset.prod_eq_one fun i _ => (if_neg (Nat.lt_irrefl _)).trans (if_pos rfl)

/-! ### `P·A = L·U`

  `B` stands for the row-permuted input `P·A`.  The run itself is described for every scalar type
  (`luPrefix_run`, C02P.lean); in a field Doolittle's formulas say, entry by entry, that row `r`
  of `B` is row `r` of the masked matrix plus the stored multipliers of row `r` times the finished
  rows (`LUrel`, `Doolittle.toLUrel`), which is the matrix identity `L·U = B` (`LU_eq`). -/

/-- `B = L·U` entry by entry: row `r` of `B` is row `r` of the upper factor plus the stored
    multipliers of row `r` times the rows above it -/
def LUrel (n : Nat) (w B : Nat → Nat → K) : Prop :=
  ∀ r c, r < n → c < n →
    B r c = Ufn n w r c + ∑ k ∈ Finset.range r, w r k * Ufn n w k c

theorem LU_eq {n : Nat} {w B : Nat → Nat → K} (hLU : LUrel n w B) :
    toMat n (Lfn w) * Umat n n w = toMat n B := by
  ext r c
  show ∑ k : Fin n, Lfn w r.val k.val * Ufn n w k.val c.val = B r.val c.val
  rw [Fin.sum_univ_eq_sum_range (fun k => Lfn w r.val k * Ufn n w k c.val) n,
    Lsum w (fun k => Ufn n w k c.val) r.isLt]
  exact (hLU r.val c.val r.isLt c.isLt).symm

/-- Doolittle's formulas (Doolittle.lean) in a field: a stored multiplier is the recurrence divided
    by the pivot, the recurrence is the input entry minus a sum (`sdotA_eq_sub_sum`), a skipped
    column holds zeros below its pivot: entry by entry this is `B = L·U` -/
theorem Doolittle.toLUrel [BEq K] [ScalarExt K] [Alg.DivLaw K] {n : Nat} {act : Nat → Bool}
    {B w : Nat → Nat → K} {Null : K → Prop} {Dom : K → K → Prop} (hz : ∀ a, Null a → a = 0)
    (h : Doolittle Null Dom n n n act B w) : LUrel n w B := by
  intro r c hr hc
  have hmin : min r n = r := Nat.min_eq_left hr.le
  obtain ⟨hU, hL, hS⟩ := h
  have hU := hU r; have hL := hL r; have hS := hS r
  rw [hmin] at hU hL hS
  unfold T at hU hL hS
  -- a skipped column holds a zero multiplier: the sum over the active columns is the whole sum
  have hsum : ∀ k, k ≤ r → (∑ t ∈ Finset.range k, if act t then w r t * w t c else 0)
      = ∑ t ∈ Finset.range k, w r t * w t c := fun k hk => Finset.sum_congr rfl fun t ht => by
    by_cases ha : act t = true
    · rw [if_pos ha]
    · rw [if_neg ha, hz _ (hS t hr (Nat.lt_of_lt_of_le (Finset.mem_range.1 ht) hk)
        (by simpa using ha)).2, zero_mul]
  -- above and on the diagonal of column `c` the upper factor is `w` itself
  have hup : ∀ k, k ≤ c → Ufn n w k c = w k c := fun k hk => if_neg fun h => Nat.not_lt.2 hk h.2
  by_cases hrc : r ≤ c
  · have e := hU c hr hc hrc
    rw [sdotA_eq_sub_sum, hsum r (Nat.le_refl r)] at e
    rw [hup r hrc, Finset.sum_congr rfl fun k hk => by
      rw [hup k (Nat.le_trans (Nat.le_of_lt (Finset.mem_range.1 hk)) hrc)], e]
    ring
  · have hcr : c < r := Nat.lt_of_not_le hrc
    -- below the diagonal the upper factor vanishes: the terms `t < c` and the term `t = c` remain
    rw [show Ufn n w r c = 0 from if_pos ⟨hc, hcr⟩, zero_add,
      ← Finset.sum_range_add_sum_Ico _ (Nat.succ_le_of_lt hcr), Finset.sum_range_succ,
      Finset.sum_eq_zero (s := Finset.Ico (c + 1) r) fun t ht => by
        rw [show Ufn n w t c = 0 from if_pos ⟨hc, (Finset.mem_Ico.1 ht).1⟩, mul_zero],
      add_zero, hup c (Nat.le_refl c), Finset.sum_congr rfl fun k hk => by
        rw [hup k (Nat.le_of_lt (Finset.mem_range.1 hk))], ← hsum c hcr.le]
    by_cases ha : act c = true
    · obtain ⟨hne, hq⟩ := Alg.divM_ok_iff.1 (hL c hr hcr ha).1
      rw [hq, sdotA_eq_sub_sum, div_mul_cancel₀ _ hne]
      ring
    · obtain ⟨hw, hz'⟩ := hS c hr hcr (by simpa using ha)
      rw [hz _ hz', zero_mul, add_zero]
      rw [hz _ hz', sdotA_eq_sub_sum] at hw
      exact sub_eq_zero.1 hw.symm

/-- as a Mathlib matrix, `permEntries σ` is the permutation matrix of `σ` (any field) -/
theorem toMat_permEntries_gen {n : Nat} (σ : Equiv.Perm (Fin n)) :
    toMat n (permEntries (K := K) σ) = σ.toPEquiv.toMatrix := by
  ext r c
  simp only [toMat, Matrix.of_apply, permEntries_apply σ r.isLt, PEquiv.toMatrix_apply,
    Equiv.toPEquiv_apply, Option.mem_def, Option.some.injEq, Fin.ext_iff]

theorem toMat_permEntries_mul {n : Nat} (σ : Equiv.Perm (Fin n)) (M : Matrix (Fin n) (Fin n) K) :
    toMat n (permEntries σ) * M = M.submatrix σ id := by
  rw [toMat_permEntries_gen, PEquiv.toMatrix_toPEquiv_mul]

theorem det_toMat_permEntries {n : Nat} (σ : Equiv.Perm (Fin n)) :
    (toMat n (permEntries (K := K) σ)).det = ((Equiv.Perm.sign σ : ℤ) : K) := by
  have := congrArg Matrix.det (toMat_permEntries_mul σ (1 : Matrix (Fin n) (Fin n) K))
  rwa [mul_one, Matrix.det_permute, Matrix.det_one, mul_one] at this

theorem toMat_permRows {n : Nat} (σ : Equiv.Perm (Fin n)) (a : Nat → Nat → K) :
    toMat n (permRows σ a) = (toMat n a).submatrix σ id := by
  ext r c
  exact permRows_apply σ a r.isLt c.val

theorem _root_.Ohsl.Alg.pivotLaw [BEq K] [LawfulBEq K] [ScalarExt K] [Alg.PivotLaws K] :
    PivotLaw (Alg.PivotLaws.size (K := K)) where
  lt_mag := Alg.PivotLaws.lt_mag
  mag_zero := Alg.PivotLaws.mag_zero
  size_zero_le := Alg.PivotLaws.size_zero_le
  mag_beq_zero a := by rw [beq_iff_eq, Alg.mag_eq_zero_iff, Alg.size_eq_zero_iff]
  div_ok a p hp := ⟨_, Alg.divM_law_ne fun h0 => by rw [h0] at hp; exact lt_irrefl _ hp⟩

/-- `luPrefix_run` at `k = n`, read in a field -/
theorem luDecomp_factors [BEq K] [LawfulBEq K] [ScalarExt K] [Alg.PivotLaws K]
    {A : Mat K} {n : Nat} {a : Nat → Nat → K} (h : Is A n n a) :
    ∃ (s : LU K) (w : Nat → Nat → K), luDecomp A = .ok s ∧ Is s.lu n n w ∧
      Is s.perm n n (permEntries (luPerm A n)) ∧
      (toMat n a).submatrix (luPerm A n) id = toMat n (Lfn w) * Umat n n w ∧
      s.pivots = exchangeCount A n ∧
      Equiv.Perm.sign (luPerm A n) = (-1) ^ s.pivots ∧
      Matrix.det (Umat n n w)
        = ((Equiv.Perm.sign (luPerm A n) : ℤ) : K) * Matrix.det (toMat n a) := by
  obtain ⟨s, w, hs, hw, hpe, hcnt, hsign, _, hD⟩ := luPrefix_run Alg.pivotLaw h n (le_refl _)
  rw [← h.rows, luPrefix_full A (by rw [h.rows, h.cols])] at hs
  have hPA : (toMat n a).submatrix (luPerm A n) id = toMat n (Lfn w) * Umat n n w := by
    rw [LU_eq (hD.toLUrel fun x hx => (Alg.size_eq_zero_iff x).1 hx), toMat_permRows]
    rfl
  refine ⟨s, w, hs, hw, hpe, hPA, hcnt, hsign, ?_⟩
  -- `det U` from `A[σ·,·] = L·U`: `det L = 1`, and permuting rows multiplies `det` by the sign
  have hd := congrArg Matrix.det hPA
  rw [Matrix.det_mul, det_Lfn_eq_one, one_mul, Matrix.det_permute] at hd
  exact hd.symm

theorem luDecomp_spec [BEq K] [LawfulBEq K] [ScalarExt K] [Alg.PivotLaws K]
    {A : Mat K} {n : Nat} {a : Nat → Nat → K} (h : Is A n n a) :
    ∃ (s : LU K) (w pe : Nat → Nat → K), luDecomp A = .ok s ∧ Is s.lu n n w ∧ Is s.perm n n pe ∧
      toMat n pe * toMat n a = toMat n (Lfn w) * Umat n n w ∧
      (toMat n pe).det = (-1) ^ s.pivots ∧
      (Umat n n w).det = (-1) ^ s.pivots * (toMat n a).det := by
  obtain ⟨s, w, hs, hw, hpe, hPA, _, hsign, hdU⟩ := luDecomp_factors h
  have hsK : ((Equiv.Perm.sign (luPerm A n) : ℤ) : K) = (-1) ^ s.pivots := by
    rw [hsign, Units.val_pow_eq_pow_val, Units.val_neg, Units.val_one, Int.cast_pow,
      Int.cast_neg, Int.cast_one]
  exact ⟨s, w, _, hs, hw, hpe, by rw [toMat_permEntries_mul, hPA],
    by rw [det_toMat_permEntries, hsK], hsK ▸ hdU⟩

theorem isUnit_of_det_eq_neg_one_pow {n p : Nat} {M : Matrix (Fin n) (Fin n) K}
    (h : M.det = (-1) ^ p) : IsUnit M := by
  rw [Matrix.isUnit_iff_isUnit_det, h]
  exact isUnit_iff_ne_zero.2 (pow_ne_zero _ (neg_ne_zero.2 one_ne_zero))

theorem diag_ne_zero_iff {n p : Nat} {w : Nat → Nat → K} {d : K}
    (h : (Umat n n w).det = (-1) ^ p * d) : (∀ i, i < n → w i i ≠ 0) ↔ d ≠ 0 := by
  rw [← mul_ne_zero_iff_left (pow_ne_zero p (neg_ne_zero.2 (one_ne_zero (α := K)))), ← h,
    det_Umat_full, Finset.prod_ne_zero_iff]
  exact ⟨fun h i hi => h i (Finset.mem_range.1 hi), fun h i hi => h i (Finset.mem_range.2 hi)⟩

/-- the sign `determinant` applies to the product of the diagonal is `(-1)^pivots` -/
theorem ite_even_neg (p : Nat) (d : K) : (if p % 2 == 0 then d else -d) = (-1) ^ p * d := by
  rcases Nat.even_or_odd p with h | h
  · rw [h.neg_one_pow, one_mul, Nat.even_iff.mp h]; rfl
  · rw [h.neg_one_pow, neg_one_mul, Nat.odd_iff.mp h]; rfl

/-- the product of the diagonal of `U` is `det U = (-1)^pivots · det A`, and the sign is applied
    once more -/
theorem determinant_spec [BEq K] [LawfulBEq K] [ScalarExt K] [Alg.PivotLaws K]
    {A : Mat K} {n : Nat} {a : Nat → Nat → K} (h : Is A n n a) :
    determinant A = .ok (Matrix.det (Matrix.of fun (i j : Fin n) => a i.val j.val)) := by
  obtain ⟨s, w, pe, hs, hw, hpe, _, _, hdet⟩ := luDecomp_spec h
  rw [determinant_eq_fold hs h.rows hw, Props.C15.foldl_range_mul_eq_prod, one_mul, ite_even_neg,
    ← det_Umat_full, hdet, ← mul_assoc, ← mul_pow, neg_mul_neg, one_mul, one_pow, one_mul]
  rfl

/-- the column loop of `inverse`: each column is the two triangular solves of `solve_lu` on the
    corresponding column of the permutation matrix (`ColRel.col`), so for factors with a non-zero
    diagonal it succeeds and solves `L·(U·X) = P` -/
theorem inverseLoop_spec [BEq K] [ScalarExt K] [Alg.DivLaw K]
    {lu p : Mat K} {n : Nat} {w pe : Nat → Nat → K} (hw : Is lu n n w)
    (hp : Is p n n pe) (hd : ∀ k, k < n → w k k ≠ 0) :
    ∃ (B : Mat K) (b : Nat → Nat → K), forM' 0 n p (invCol lu n) = .ok B ∧ Is B n n b ∧
      toMat n (Lfn w) * (Umat n n w * toMat n b) = toMat n pe := by
  have hcol : ∀ c, c < n → ∃ y x : Array K,
      (forwardSub lu (colArr n pe c) >>= backsolve lu) = .ok x ∧ y.size = n ∧ x.size = n ∧
      (∀ r, r < n → vf y r + ∑ k ∈ Finset.range r, w r k * vf y k = vf (colArr n pe c) r) ∧
      (∀ r, r < n → w r r * vf x r + ∑ k ∈ Finset.Ico (r + 1) n, w r k * vf x k = vf y r) :=
    fun c hc => triSolve_spec hw (by omega) hd (colArr_size pe c)
  choose! Y X hX _ _ hY hXr using hcol
  obtain ⟨B, hB, hI⟩ := hp.forM'_cols (v := fun a c => vf (X c) a) fun k s es hk hs he => by
    have hrel := ColRel.of_is hs k
    have hck : colArr n es k = colArr n pe k := by
      unfold colArr
      simp only [he]
    rw [hck] at hrel
    have hsim := hrel.col hw.wfn hk
    rw [hX k hk] at hsim
    obtain ⟨s', h1, _, h2⟩ := hsim.of_ok_right
    exact ⟨s', h1, h2.congr fun a b _ _ => by
      by_cases hb : b = k
      · rw [if_pos hb, if_pos hb, hb]
      · rw [if_neg hb, if_neg hb]⟩
  refine ⟨B, _, hB, hI, ?_⟩
  ext r c
  have hU : ∀ k : Fin n,
      (Umat n n w * toMat n (fun a c => vf (X c) a)) k c = vf (Y c.val) k.val := by
    intro k
    show ∑ k' : Fin n, Ufn n w k.val k'.val * vf (X c.val) k'.val = _
    rw [Fin.sum_univ_eq_sum_range (fun k' => Ufn n w k.val k' * vf (X c.val) k') n,
      Usum w _ k.isLt]
    exact hXr c.val c.isLt k.val k.isLt
  show ∑ k : Fin n, toMat n (Lfn w) r k *
    (Umat n n w * toMat n (fun a c => vf (X c) a)) k c = pe r.val c.val
  simp only [hU]
  show ∑ k : Fin n, Lfn w r.val k.val * vf (Y c.val) k.val = pe r.val c.val
  rw [Fin.sum_univ_eq_sum_range (fun k => Lfn w r.val k * vf (Y c.val) k) n, Lsum w _ r.isLt,
    hY c.val c.isLt r.val r.isLt, vf_colArr pe _ r.isLt]

theorem inverse_spec [BEq K] [LawfulBEq K] [ScalarExt K] [Alg.PivotLaws K]
    {A : Mat K} {n : Nat} {a : Nat → Nat → K} (h : Is A n n a)
    (hdet : (toMat n a).det ≠ 0) :
    ∃ (B : Mat K) (b : Nat → Nat → K), inverse A = .ok B ∧ Is B n n b ∧
      toMat n a * toMat n b = 1 ∧ toMat n b * toMat n a = 1 := by
  obtain ⟨s, w, pe, hs, hw, hpe, hLU, hdP, hdU⟩ := luDecomp_spec h
  obtain ⟨B, b, hB, hb, hsolve⟩ := inverseLoop_spec hw hpe ((diag_ne_zero_iff hdU).2 hdet)
  have hAB : toMat n a * toMat n b = 1 := by
    apply (isUnit_of_det_eq_neg_one_pow hdP).mul_left_cancel
    rw [mul_one, ← Matrix.mul_assoc, hLU, Matrix.mul_assoc]
    exact hsolve
  refine ⟨B, b, ?_, hb, hAB, mul_eq_one_comm.mp hAB⟩
  have hsq : ¬ n ≠ n := by simp
  simp only [inverse_eq, h.rows, h.cols, hsq, if_false, hs, bind, Except.bind]
  exact hB

/-- the skipped column left a zero on the diagonal of `U` -/
theorem inverse_singular [BEq K] [LawfulBEq K] [ScalarExt K] [Alg.PivotLaws K]
    {A : Mat K} {n : Nat} {a : Nat → Nat → K} (h : Is A n n a)
    (hdet : (toMat n a).det = 0) : inverse A = .error .arith := by
  obtain ⟨s, w, pe, hs, hw, hpe, _, _, hdU⟩ := luDecomp_spec h
  have hz : ∃ k, k < n ∧ w k k = 0 := by
    by_contra hc
    exact (diag_ne_zero_iff hdU).1 (fun i hi h0 => hc ⟨i, hi, h0⟩) hdet
  obtain ⟨k, hk, h0⟩ := hz
  have hn : 0 < n := by omega
  -- column 0: the forward substitution succeeds, the back substitution fails as `backsolve` does
  obtain ⟨y, hy, hyn, _⟩ := forwardSub_spec hw (colArr_size (n := n) pe 0)
  have hfail : (forwardSub s.lu (colArr n pe 0) >>= backsolve s.lu) = .error .arith := by
    rw [hy]
    exact backsolve_fails hw hyn hk h0
  have hsim := (ColRel.of_is hpe 0).col hw.wfn hn
  rw [hfail] at hsim
  have hsq : ¬ n ≠ n := by simp
  simp only [inverse_eq, h.rows, h.cols, hsq, if_false, hs, bind, Except.bind]
  exact forM'_first_error _ _ _ _ _ hn hsim.of_error_right

theorem inverse_ok_iff [BEq K] [LawfulBEq K] [ScalarExt K] [Alg.PivotLaws K]
    {A : Mat K} {n : Nat} {a : Nat → Nat → K} (h : Is A n n a) :
    (∃ B, inverse A = .ok B) ↔ Matrix.det (toMat n a) ≠ 0 := by
  constructor
  · rintro ⟨B, hB⟩ hdet
    rw [inverse_singular h hdet] at hB
    cases hB
  · intro hdet
    obtain ⟨B, _, hB, _⟩ := inverse_spec h hdet
    exact ⟨B, hB⟩

theorem inverse_eq_inv [BEq K] [LawfulBEq K] [ScalarExt K] [Alg.PivotLaws K]
    {A : Mat K} {n : Nat} {a : Nat → Nat → K} (h : Is A n n a)
    (hdet : Matrix.det (toMat n a) ≠ 0) :
    ∃ (B : Mat K) (b : Nat → Nat → K), inverse A = .ok B ∧ Is B n n b ∧
      toMat n b = (toMat n a)⁻¹ := by
  obtain ⟨B, b, hB, hb, h1, _⟩ := inverse_spec h hdet
  exact ⟨B, b, hB, hb, (Matrix.inv_eq_right_inv h1).symm⟩

theorem inverse_eq_of_mul [BEq K] [LawfulBEq K] [ScalarExt K] [Alg.PivotLaws K]
    {n : Nat} {A Y : Mat K} {a y : Nat → Nat → K} (hA : Is A n n a)
    (hY : Is Y n n y) (h : toMat n a * toMat n y = 1) : inverse A = .ok Y := by
  have hdet : (toMat n a).det ≠ 0 := fun h0 => by
    have := congrArg Matrix.det h
    rw [Matrix.det_mul, h0, zero_mul, Matrix.det_one] at this
    exact zero_ne_one this
  obtain ⟨B, b, hB, hb, h1, -⟩ := inverse_spec hA hdet
  have e : toMat n b = toMat n y := by
    rw [← Matrix.inv_eq_right_inv h1, ← Matrix.inv_eq_right_inv h]
  rw [hB, hb.unique (hY.congr fun i j hi hj => (congrFun (congrFun e ⟨i, hi⟩) ⟨j, hj⟩).symm)]

end Exact
end Mat
end Ohsl
