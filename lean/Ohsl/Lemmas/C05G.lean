/-
  Ohsl.Lemmas.C05G — helpers for Ohsl/Props/C05G.lean
  * `divM` of the order-free field interpretation `Alg.scalarExtField` (it satisfies `Alg.DivLaw`);
  * simulation of the Thomas solver along a map of scalars `f : K → L` that commutes with the
    operations the solver uses (`- * 0`, the test `== 0` and the fallible `/`): `Tri.solve`
    commutes with `f`, errors included (`solve_map`).  The proof pushes the map through the `bind`s
    on both sides (`map_bind`, `map_bind_out`) until the two programs read the same unmapped data;
    the two loops go by their body lemmas (`forM'_map`, `foldlM_map` of Loop.lean).
-/
import Ohsl.Lemmas.Tridiag
import Ohsl.Lemmas.Alg
namespace Ohsl

namespace AlgF
section
variable {K : Type} [Field K] [DecidableEq K]
attribute [local instance] Alg.scalarExtField

theorem divM_eq (a b : K) : divM a b = if b = 0 then .error .arith else .ok (a / b) := rfl

instance divLaw : Alg.DivLaw K where
  divM_zero _ := if_pos rfl
  divM_ne _ _ h := if_neg h
end
end AlgF

namespace Sim

section Hom
variable {K L : Type}
variable [Add K] [Sub K] [Mul K] [Neg K] [Zero K] [One K] [BEq K] [ScalarExt K]
variable [Add L] [Sub L] [Mul L] [Neg L] [Zero L] [One L] [BEq L] [ScalarExt L]

/-- `f` commutes with every scalar operation the Thomas solver uses -/
structure DivHom (f : K → L) : Prop where
  sub : ∀ a b, f (a - b) = f a - f b
  mul : ∀ a b, f (a * b) = f a * f b
  zero : f 0 = 0
  beq0 : ∀ a, (f a == (0 : L)) = (a == (0 : K))
  div : ∀ a b, divM (f a) (f b) = Except.map f (divM a b)

def mapTri (f : K → L) (t : Tri K) : Tri L := ⟨t.sub.map f, t.main.map f, t.sup.map f, t.n⟩

def mapSweep (f : K → L) (s : Tri.Sweep K) : Tri.Sweep L :=
  ⟨f s.beta, s.gamma.map f, s.u.map f⟩

section
set_option linter.unusedSectionVars false
@[simp] theorem mapTri_n (f : K → L) (t : Tri K) : (mapTri f t).n = t.n := rfl
@[simp] theorem mapTri_main (f : K → L) (t : Tri K) : (mapTri f t).main = t.main.map f := rfl
@[simp] theorem mapTri_sub (f : K → L) (t : Tri K) : (mapTri f t).sub = t.sub.map f := rfl
@[simp] theorem mapTri_sup (f : K → L) (t : Tri K) : (mapTri f t).sup = t.sup.map f := rfl
end

end Hom

section Solve
variable {K L : Type} [Sub K] [Mul K] [Zero K] [BEq K] [ScalarExt K]
  [Sub L] [Mul L] [Zero L] [BEq L] [ScalarExt L] {f : K → L}

theorem replicate_zero (hf : DivHom f) (n : Nat) :
    Array.replicate n (0 : L) = (Array.replicate n (0 : K)).map f := by
  simp [hf.zero]

theorem push_zero (hf : DivHom f) (a : Array K) : (a.map f).push 0 = (a.push 0).map f := by
  simp [hf.zero]

theorem cons_zero (hf : DivHom f) (a : Array K) : #[(0 : L)] ++ a.map f = (#[(0 : K)] ++ a).map f := by
  simp [hf.zero]

theorem sweepBody_map (hf : DivHom f) (t : Tri K) (r : Array K) (s : Tri.Sweep K) (j : Nat) :
    Tri.sweepBody (mapTri f t) (r.map f) (mapSweep f s) j = Except.map (mapSweep f) (Tri.sweepBody t r s j) := by
  simp only [Tri.sweepBody, mapTri_main, mapTri_sub, mapTri_sup, mapSweep, push_zero hf,
    cons_zero hf, aget_map, map_bind, map_bind_out, hf.div, aset_map, ← hf.mul, ← hf.sub, hf.beq0,
    apply_ite (Except.map (mapSweep f)), map_pure, map_error]

theorem backBody_map (hf : DivHom f) (gamma u : Array K) (j : Nat) :
    Tri.backBody (gamma.map f) (u.map f) j = Except.map (Array.map f) (Tri.backBody gamma u j) := by
  simp only [Tri.backBody, aget_map, map_bind, map_bind_out, ← hf.mul, ← hf.sub, aset_map]

theorem solve_map (hf : DivHom f) (t : Tri K) (r : Array K) :
    Tri.solve (mapTri f t) (r.map f) = Except.map (Array.map f) (Tri.solve t r) := by
  have hsweep := fun s => forM'_map (mapSweep f) 1 t.n s (Tri.sweepBody t r) _ (sweepBody_map hf t r)
  have hback := fun (γ u : Array K) (l : List Nat) =>
    foldlM_map (Array.map f) (Tri.backBody γ) (Tri.backBody (γ.map f)) (backBody_map hf γ) l u
  have hmk : ∀ (b : K) (g u : Array K),
      (⟨f b, g.map f, u.map f⟩ : Tri.Sweep L) = mapSweep f ⟨b, g, u⟩ := fun _ _ _ => rfl
  simp only [Tri.solve_eq, mapTri_n, mapTri_main, Array.size_map,
    apply_ite (Except.map (Array.map f)), map_error, aget_map, map_bind, map_bind_out, hf.beq0,
    hf.div, replicate_zero hf, aset_map, hmk, hsweep,
    show ∀ s : Tri.Sweep K, (mapSweep f s).gamma = s.gamma.map f from fun _ => rfl,
    show ∀ s : Tri.Sweep K, (mapSweep f s).u = s.u.map f from fun _ => rfl, hback]

end Solve
end Sim
end Ohsl
