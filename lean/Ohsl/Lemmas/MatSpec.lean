/-
  Ohsl.Lemmas.MatSpec — pointwise descriptions of the dense-matrix model operations
  ("after the loop, entry (i,j) is … and every other entry is unchanged").  `Mat.Is m r c e`
  describes a matrix by shape and entry function; every well-formed matrix is described by its own
  buffer (`entryOf`, `Is.of_wf`) and determined by its description (`Is.unique`).
  `Is.forM'_classes` (with `Is.forM'_rows`, `Is.forM'_cols`) is the loop rule `Mat.forM'_inv`
  specialised to loops whose `k`-th iteration rewrites one class of entries, `Is.forM'_writes` to
  loops that write one entry per iteration (`Is.rowLoop_shift`, `Is.rowLoop`: a segment of one
  row; `…_reads` when the body reads only what the loop has not written).  In this form: `get_col`, `get_row`, `set_col`, matrix · vector and the matrix product, each
  with its rejection case; the other operations are in Lemmas/MatSpec2.  Class (S): no law about the
  scalar operations is used.  Core Lean only.
-/
import Ohsl.Lemmas.MatIdx
namespace Ohsl

theorem list_mapM_ok {α β : Type} (l : List α) (f : α → Res β) (g : α → β)
    (h : ∀ a ∈ l, f a = .ok (g a)) : l.mapM f = .ok (l.map g) := by
  induction l with
  | nil => rfl
  | cons a l ih =>
    have h1 := h a (by simp)
    have h2 := ih (fun b hb => h b (by simp [hb]))
    simp [List.mapM_cons, h1, h2, bind, Except.bind, pure, Except.pure]

theorem range_toArray_mapM_ok {β : Type} (n : Nat) (f : Nat → Res β) (g : Nat → β)
    (h : ∀ i, i < n → f i = .ok (g i)) :
    (List.range n).toArray.mapM f = .ok ((List.range n).map g).toArray := by
  rw [List.mapM_toArray, list_mapM_ok _ f g (fun a ha => h a (by simpa using ha))]
  rfl

namespace Mat
variable {K : Type}

/-- `m'` is a well-formed `r × c` matrix whose in-range entries are given by `e` -/
structure Is (m' : Mat K) (r c : Nat) (e : Nat → Nat → K) : Prop where
  wf : m'.WF
  rows : m'.rows = r
  cols : m'.cols = c
  entry : ∀ i j, i < r → j < c → m'.get i j = .ok (e i j)

theorem Is.of_new (r c : Nat) (x : K) : Is (Mat.new r c x) r c (fun _ _ => x) :=
  ⟨new_wf r c x, rfl, rfl, fun _ _ hi hj => new_get x hi hj⟩

theorem Is.congr {m : Mat K} {r c : Nat} {e e' : Nat → Nat → K} (h : Is m r c e)
    (he : ∀ i j, i < r → j < c → e i j = e' i j) : Is m r c e' :=
  ⟨h.wf, h.rows, h.cols, fun i j hi hj => by rw [h.entry i j hi hj, he i j hi hj]⟩

theorem Is.get {m : Mat K} {r c : Nat} {e : Nat → Nat → K} (h : Is m r c e) {i j : Nat}
    (hi : i < r) (hj : j < c) : m.get i j = .ok (e i j) := h.entry i j hi hj

theorem Is.size {m : Mat K} {r c : Nat} {e : Nat → Nat → K} (h : Is m r c e) :
    m.data.size = r * c := by
  have := h.wf
  rwa [WF, h.rows, h.cols] at this

theorem Is.set {m : Mat K} {r c : Nat} {e : Nat → Nat → K} (h : Is m r c e) {i j : Nat}
    (hi : i < r) (hj : j < c) (v : K) :
    ∃ m', m.set i j v = .ok m' ∧ Is m' r c (fun a b => if a = i ∧ b = j then v else e a b) := by
  obtain ⟨m', h1, hwf, hr, hc, hget, hoth⟩ :=
    set_spec h.wf (by rw [h.rows]; exact hi) (by rw [h.cols]; exact hj) v
  refine ⟨m', h1, ⟨hwf, by rw [hr, h.rows], by rw [hc, h.cols], ?_⟩⟩
  intro a b ha hb
  by_cases hab : a = i ∧ b = j
  · rw [if_pos hab, hab.1, hab.2, hget]
  · rw [if_neg hab, hoth a b (by rw [h.cols]; exact hb) (by omega)]
    exact h.entry a b ha hb

/-- entry function read off the raw buffer of a matrix -/
def entryOf [Zero K] (b : Mat K) : Nat → Nat → K := fun i j => b.data[i * b.cols + j]?.getD 0

theorem Is.of_wf [Zero K] {m : Mat K} (h : m.WF) : Is m m.rows m.cols (entryOf m) := by
  refine ⟨h, rfl, rfl, ?_⟩
  intro i j hi hj
  have hlt : i * m.cols + j < m.data.size := by rw [h]; exact idx_lt hi hj
  simp [Mat.get, aget, entryOf, hlt]

theorem Is.unique {r c : Nat} {e : Nat → Nat → K} {A B : Mat K} (hA : Is A r c e)
    (hB : Is B r c e) : A = B := by
  have wA : A.data.size = r * c := by rw [hA.wf, hA.rows, hA.cols]
  have wB : B.data.size = r * c := by rw [hB.wf, hB.rows, hB.cols]
  have hd : A.data = B.data := by
    apply Array.ext (wA.trans wB.symm)
    intro k hk1 hk2
    -- entry `k` of the buffer is the matrix entry `(k / c, k % c)`
    obtain ⟨h1, h2, h3⟩ := flat_decomp (wA ▸ hk1 : k < r * c)
    have eA := hA.entry _ _ h1 h2
    have eB := hB.entry _ _ h1 h2
    rw [Mat.get, hA.cols, h3, aget_eq_ok, Array.getElem?_eq_getElem hk1] at eA
    rw [Mat.get, hB.cols, h3, aget_eq_ok, Array.getElem?_eq_getElem hk2] at eB
    exact (Option.some.inj eA).trans (Option.some.inj eB).symm
  obtain ⟨dA, rA, cA⟩ := A
  obtain ⟨dB, rB, cB⟩ := B
  have h1 : rA = r := hA.rows
  have h2 : cA = c := hA.cols
  have h3 : rB = r := hB.rows
  have h4 : cB = c := hB.cols
  have hd' : dA = dB := hd
  rw [hd', h1, h2, h3, h4]

/-- Loop rule for matrices.  Split the entries into classes `cls a b`.  If iteration `k` rewrites
    exactly the entries of class `k` to their final value `v a b` (it may rely on these entries
    still holding their initial value, and on the classes below `lo`, which no iteration touches
    and which are final already), the loop over `lo ≤ k < hi` turns `e` into `v`. -/
theorem Is.forM'_classes {m : Mat K} {r c : Nat} {e v : Nat → Nat → K} (h : Is m r c e)
    (cls : Nat → Nat → Nat) {lo hi : Nat} (hle : lo ≤ hi) {f : Mat K → Nat → Res (Mat K)}
    (hlo : ∀ a b, a < r → b < c → cls a b < lo → v a b = e a b)
    (hhi : ∀ a b, a < r → b < c → cls a b < hi)
    (hf : ∀ k s es, lo ≤ k → k < hi → Is s r c es → (∀ a b, cls a b = k → es a b = e a b) →
      (∀ a b, a < r → b < c → cls a b < lo → es a b = e a b) →
      ∃ s', f s k = .ok s' ∧ Is s' r c (fun a b => if cls a b = k then v a b else es a b)) :
    ∃ m', forM' lo hi m f = .ok m' ∧ Is m' r c v := by
  obtain ⟨m', hm', hP⟩ := forM'_inv
    (fun k (s : Mat K) => Is s r c (fun a b => if cls a b < k then v a b else e a b))
    lo hi m f hle (h.congr fun a b ha hb => by
      split
      · exact (hlo a b ha hb ‹_›).symm
      · rfl) (by
      intro k s hk1 hk2 hs
      obtain ⟨s', hs', hI⟩ := hf k s _ hk1 hk2 hs (fun a b hab => if_neg (hab ▸ Nat.lt_irrefl _))
        fun a b ha hb hab => (if_pos (Nat.lt_of_lt_of_le hab hk1)).trans (hlo a b ha hb hab)
      refine ⟨s', hs', hI.congr fun a b _ _ => ?_⟩
      by_cases hab : cls a b = k
      · rw [if_pos hab, if_pos (Nat.lt_succ_of_le (Nat.le_of_eq hab))]
      · rw [if_neg hab]
        by_cases hlt : cls a b < k
        · rw [if_pos hlt, if_pos (Nat.lt_succ_of_lt hlt)]
        · rw [if_neg hlt, if_neg fun h => (Nat.lt_succ_iff_lt_or_eq.mp h).elim hlt hab])
  exact ⟨m', hm', hP.congr fun a b ha hb => if_pos (hhi a b ha hb)⟩

theorem Is.forM'_rows {m : Mat K} {r c : Nat} {e v : Nat → Nat → K} (h : Is m r c e)
    {f : Mat K → Nat → Res (Mat K)}
    (hf : ∀ k s es, k < r → Is s r c es → (∀ b, es k b = e k b) →
      ∃ s', f s k = .ok s' ∧ Is s' r c (fun a b => if a = k then v a b else es a b)) :
    ∃ m', forM' 0 r m f = .ok m' ∧ Is m' r c v :=
  h.forM'_classes (fun a _ => a) (Nat.zero_le _) (fun _ _ _ _ h0 => absurd h0 (Nat.not_lt_zero _))
    (fun _ _ ha _ => ha) (fun k s es _ hk hs he _ => hf k s es hk hs (fun b => he k b rfl))

theorem Is.forM'_cols {m : Mat K} {r c : Nat} {e v : Nat → Nat → K} (h : Is m r c e)
    {f : Mat K → Nat → Res (Mat K)}
    (hf : ∀ k s es, k < c → Is s r c es → (∀ a, es a k = e a k) →
      ∃ s', f s k = .ok s' ∧ Is s' r c (fun a b => if b = k then v a b else es a b)) :
    ∃ m', forM' 0 c m f = .ok m' ∧ Is m' r c v :=
  h.forM'_classes (fun _ b => b) (Nat.zero_le _) (fun _ _ _ _ h0 => absurd h0 (Nat.not_lt_zero _))
    (fun _ _ _ hb => hb) (fun k s es _ hk hs he _ => hf k s es hk hs (fun a => he a k rfl))

/-- Loop rule for loops that write one entry per iteration and never touch it again.  `D t a b`
    says that `(a, b)` is written by an iteration before `t`; `v` is what is written.  The body is
    told what the matrix holds at iteration `t` (so it may read what earlier iterations wrote), and
    has to be shown to be one write. -/
theorem Is.forM'_writes {m : Mat K} {r c : Nat} {e : Nat → Nat → K} (h : Is m r c e)
    (D : Nat → Nat → Nat → Prop) [∀ t a b, Decidable (D t a b)] (v : Nat → Nat → K) {lo hi : Nat}
    (hle : lo ≤ hi) {f : Mat K → Nat → Res (Mat K)}
    (h0 : ∀ a b, a < r → b < c → ¬ D lo a b)
    (hf : ∀ t s, lo ≤ t → t < hi → Is s r c (fun a b => if D t a b then v a b else e a b) →
      ∃ i j, i < r ∧ j < c ∧ f s t = s.set i j (v i j) ∧
        ∀ a b, a < r → b < c → (D (t + 1) a b ↔ D t a b ∨ (a = i ∧ b = j))) :
    ∃ m', forM' lo hi m f = .ok m' ∧ Is m' r c (fun a b => if D hi a b then v a b else e a b) := by
  refine forM'_inv (fun t s => Is s r c (fun a b => if D t a b then v a b else e a b)) lo hi m f hle
    (h.congr fun a b ha hb => (if_neg (h0 a b ha hb)).symm) fun t s h1 h2 hs => ?_
  obtain ⟨i, j, hi', hj, hfs, hD⟩ := hf t s h1 h2 hs
  obtain ⟨s', hs', hI⟩ := hs.set hi' hj (v i j)
  refine ⟨s', hfs ▸ hs', hI.congr fun a b ha hb => ?_⟩
  by_cases hab : a = i ∧ b = j
  · rw [if_pos hab, if_pos ((hD a b ha hb).2 (Or.inr hab)), hab.1, hab.2]
  · rw [if_neg hab]
    exact ite_congr (propext ((hD a b ha hb).trans (or_iff_left hab)).symm) (fun _ => rfl)
      fun _ => rfl

/-- A loop over `t ∈ [lo, hi)` that writes `g t` at `(i, t - l)`: a segment of row `i`, shifted
    left by `l`.  The body is told what the matrix holds at iteration `t` (the columns `b` with
    `lo ≤ b + l < t` of row `i` are written, everything else is as at the start; whatever it reads
    to compute `g t`) and has to be shown to be that write. -/
theorem Is.rowLoop_shift {m : Mat K} {r c : Nat} {e : Nat → Nat → K} (h : Is m r c e)
    {i lo hi l : Nat} (hi' : i < r) (hle : lo ≤ hi) (hl : l ≤ lo) (hhi : hi ≤ c + l) (g : Nat → K)
    (f : Mat K → Nat → Res (Mat K))
    (hf : ∀ t s, lo ≤ t → t < hi →
      Is s r c (fun a b => if a = i ∧ lo ≤ b + l ∧ b + l < t then g (b + l) else e a b) →
      f s t = s.set i (t - l) (g t)) :
    ∃ m', forM' lo hi m f = .ok m' ∧
      Is m' r c (fun a b => if a = i ∧ lo ≤ b + l ∧ b + l < hi then g (b + l) else e a b) :=
  h.forM'_writes (fun t a b => a = i ∧ lo ≤ b + l ∧ b + l < t) (fun _ b => g (b + l)) hle
    (fun a b _ _ h0 => Nat.lt_irrefl _ (Nat.lt_of_le_of_lt h0.2.1 h0.2.2)) fun t s h1 h2 hs => by
      have htl : t - l + l = t := Nat.sub_add_cancel (Nat.le_trans hl h1)
      refine ⟨i, t - l, hi', Nat.sub_lt_left_of_lt_add (Nat.le_trans hl h1)
        (Nat.add_comm c l ▸ Nat.lt_of_lt_of_le h2 hhi), ?_, fun a b _ _ => ?_⟩
      · rw [htl]; exact hf t s h1 h2 hs
      · constructor
        · rintro ⟨ha, hb1, hb2⟩
          rcases Nat.lt_succ_iff_lt_or_eq.mp hb2 with hb | hb
          · exact .inl ⟨ha, hb1, hb⟩
          · exact .inr ⟨ha, Nat.eq_sub_of_add_eq hb⟩
        · rintro (⟨ha, hb1, hb2⟩ | ⟨ha, hb⟩)
          · exact ⟨ha, hb1, Nat.lt_succ_of_lt hb2⟩
          · rw [hb, htl]; exact ⟨ha, h1, Nat.lt_succ_self t⟩

theorem Is.rowLoop {m : Mat K} {r c : Nat} {e : Nat → Nat → K} (h : Is m r c e)
    {i lo hi : Nat} (hi' : i < r) (hle : lo ≤ hi) (hhi : hi ≤ c) (g : Nat → K)
    (f : Mat K → Nat → Res (Mat K))
    (hf : ∀ t s, lo ≤ t → t < hi →
      Is s r c (fun a b => if a = i ∧ lo ≤ b ∧ b < t then g b else e a b) →
      f s t = s.set i t (g t)) :
    ∃ m', forM' lo hi m f = .ok m' ∧
      Is m' r c (fun a b => if a = i ∧ lo ≤ b ∧ b < hi then g b else e a b) :=
  h.rowLoop_shift (l := 0) hi' hle (Nat.zero_le lo) hhi g f hf

/-- `Is.rowLoop_shift` for a body that reads only what the loop has not written: outside the
    columns `b` with `lo ≤ b + l < t` of row `i` a read at iteration `t` returns the entry of `e` -/
theorem Is.rowLoop_shift_reads {m : Mat K} {r c : Nat} {e : Nat → Nat → K} (h : Is m r c e)
    {i lo hi l : Nat} (hi' : i < r) (hle : lo ≤ hi) (hl : l ≤ lo) (hhi : hi ≤ c + l) (g : Nat → K)
    (f : Mat K → Nat → Res (Mat K))
    (hf : ∀ t s, lo ≤ t → t < hi →
      (∀ a b, a < r → b < c → (a = i → b + l < lo ∨ t ≤ b + l) → s.get a b = .ok (e a b)) →
      f s t = s.set i (t - l) (g t)) :
    ∃ m', forM' lo hi m f = .ok m' ∧
      Is m' r c (fun a b => if a = i ∧ lo ≤ b + l ∧ b + l < hi then g (b + l) else e a b) :=
  h.rowLoop_shift hi' hle hl hhi g f fun t s h1 h2 hs => hf t s h1 h2 fun a b ha hb hab => by
    rw [hs.get ha hb, if_neg fun h => (hab h.1).elim (fun h' => Nat.not_le.2 h' h.2.1)
      fun h' => Nat.not_lt.2 h' h.2.2]

theorem Is.rowLoop_reads {m : Mat K} {r c : Nat} {e : Nat → Nat → K} (h : Is m r c e)
    {i lo hi : Nat} (hi' : i < r) (hle : lo ≤ hi) (hhi : hi ≤ c) (g : Nat → K)
    (f : Mat K → Nat → Res (Mat K))
    (hf : ∀ t s, lo ≤ t → t < hi →
      (∀ a b, a < r → b < c → (a = i → b < lo ∨ t ≤ b) → s.get a b = .ok (e a b)) →
      f s t = s.set i t (g t)) :
    ∃ m', forM' lo hi m f = .ok m' ∧
      Is m' r c (fun a b => if a = i ∧ lo ≤ b ∧ b < hi then g b else e a b) :=
  h.rowLoop_shift_reads (l := 0) hi' hle (Nat.zero_le lo) hhi g f hf

theorem getCol_spec {m : Mat K} {r c : Nat} {e : Nat → Nat → K} (h : Is m r c e) {col : Nat}
    (hc : col < c) : getCol m col = .ok ((List.range r).map (fun i => e i col)).toArray := by
  have : ¬ m.cols ≤ col := by rw [h.cols]; omega
  simp only [getCol, this, if_false, h.rows]
  apply range_toArray_mapM_ok
  intro i hi
  have := h.entry i col hi hc
  simpa [Mat.get] using this

theorem getCol_rejects (m : Mat K) {col : Nat} (hc : m.cols ≤ col) : getCol m col = .error .range := by
  simp [getCol, hc]

theorem getRow_spec {m : Mat K} {r c : Nat} {e : Nat → Nat → K} (h : Is m r c e) {row : Nat}
    (hr : row < r) : getRow m row = .ok ((List.range c).map (fun j => e row j)).toArray := by
  have : ¬ m.rows ≤ row := by rw [h.rows]; omega
  simp only [getRow, this, if_false, h.cols]
  apply range_toArray_mapM_ok
  intro j hj
  have := h.entry row j hr hj
  simpa [Mat.get, h.cols] using this

theorem getRow_rejects (m : Mat K) {row : Nat} (hr : m.rows ≤ row) : getRow m row = .error .range := by
  simp [getRow, hr]

theorem setCol_spec {m : Mat K} {r c : Nat} {e : Nat → Nat → K} (h : Is m r c e) {col : Nat}
    (v : Array K) (hv : v.size = r) (hc : col < c) :
    ∃ m', setCol m col v = .ok m' ∧
      Is m' r c (fun i j => if j = col then v[i]?.getD (e i j) else e i j) := by
  have h1 : ¬ v.size ≠ r := fun h => h hv
  have h2 : ¬ c ≤ col := Nat.not_le.mpr hc
  simp only [setCol, h.rows, h.cols, h1, h2, if_false]
  refine h.forM'_rows fun k s es hk hs he => ?_
  have hkv : k < v.size := hv ▸ hk
  obtain ⟨s', hs', hI⟩ := hs.set hk hc v[k]
  refine ⟨s', by simp only [aget_ok hkv, bind, Except.bind]; exact hs', hI.congr fun a b _ _ => ?_⟩
  by_cases ha : a = k
  · subst ha
    by_cases hb : b = col
    · simp only [hb, and_self, if_true, Array.getElem?_eq_getElem hkv, Option.getD_some]
    · simp only [hb, and_false, if_false, if_true, he b]
  · simp only [ha, false_and, if_false]

/-- the range check compares the column with the number of COLUMNS: any `col ≥ cols` is rejected
    before anything is written (the size check comes first, as in the source) -/
theorem setCol_rejects (m : Mat K) (col : Nat) (v : Array K) (h : v.size ≠ m.rows ∨ m.cols ≤ col) :
    ∃ e, setCol m col v = .error e := by
  unfold setCol
  by_cases h1 : v.size ≠ m.rows
  · exact ⟨.size, by simp [h1]⟩
  · have h2 : m.cols ≤ col := h.resolve_left h1
    exact ⟨.range, by simp [h1, h2]⟩

section Product
variable [Add K] [Mul K] [Zero K]

/-- entry (i, j) of the product as the code computes it: Σ_k a_ik · b_kj accumulated from 0 in
    index order -/
def dotRC (ea eb : Nat → Nat → K) (k : Nat) (i j : Nat) : K :=
  (Array.zipWith (· * ·) ((List.range k).map (fun t => ea i t)).toArray
      ((List.range k).map (fun t => eb t j)).toArray).foldl (· + ·) 0

theorem mulVec_rejects (m : Mat K) (v : Array K) (h : v.size ≠ m.cols) : mulVec m v = .error .size := by
  simp [mulVec, h]

theorem mul_rejects (a b : Mat K) (h : a.cols ≠ b.rows) : mul a b = .error .size := by
  simp [mul, h]

end Product

section Generic
variable [Add K] [Sub K] [Mul K] [Neg K] [Zero K] [One K] [BEq K] [ScalarExt K]

set_option linter.unusedSectionVars false in
/-- `multiply` (matrix · vector): defined exactly when `v.size = cols`; component `i` is the
    ordered dot product of row `i` with `v` -/
theorem mulVec_spec {m : Mat K} {r c : Nat} {e : Nat → Nat → K} (h : Is m r c e) (v : Array K)
    (hv : v.size = c) :
    mulVec m v = .ok ((List.range r).map (fun i =>
      (Array.zipWith (· * ·) ((List.range c).map (fun j => e i j)).toArray v).foldl (· + ·) 0)).toArray := by
  have h1 : ¬ v.size ≠ m.cols := by rw [h.cols]; omega
  simp only [mulVec, h1, if_false, h.rows]
  apply range_toArray_mapM_ok
  intro i hi
  simp [getRow_spec h hi, Vec.dot, hv, bind, Except.bind]

/-- matrix product: for EVERY conformable pair of shapes `r×k`, `k×c` (wide, tall, empty included)
    the call succeeds with an `r×c` well-formed result whose entries are the ordered sums -/
theorem mul_spec {a b : Mat K} {r k c : Nat} {ea eb : Nat → Nat → K}
    (ha : Is a r k ea) (hb : Is b k c eb) :
    ∃ p, mul a b = .ok p ∧ Is p r c (dotRC ea eb k) := by
  have h1 : ¬ k ≠ k := by simp
  simp only [mul, ha.cols, hb.rows, h1, if_false, ha.rows, hb.cols]
  refine (Is.of_new r c (0 : K)).forM'_cols fun col s es hcol hs _ => ?_
  have hv := mulVec_spec ha ((List.range k).map (fun t => eb t col)).toArray (by simp)
  obtain ⟨s', hs', hI⟩ := setCol_spec hs (col := col)
    ((List.range r).map (fun i => dotRC ea eb k i col)).toArray (by simp) hcol
  refine ⟨s', ?_, hI.congr fun i j hi _ => ?_⟩
  · simp only [getCol_spec hb hcol, hv, bind, Except.bind]
    exact hs'
  · by_cases hj : j = col
    · simp [hj, hi]
    · simp only [hj, if_false]

end Generic

end Mat
end Ohsl
