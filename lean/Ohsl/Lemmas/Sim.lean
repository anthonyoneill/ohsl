/-
  Ohsl.Lemmas.Sim — refinement of a fallible concrete step against a partial reference step, and its
  lifting to lists of operations.

  `Out Rel Bad c o`: the concrete outcome `c : Except ε σ` refines the reference outcome `o : Option ρ`
  (both succeed in `Rel`-related states, or the reference rejects and `c` fails as `Bad` says; the error
  class is not compared, unlike `ExRel` of Lemmas/Loop).  Two liftings: `foldlM` (a failure aborts the
  history), `foldl_skip` (a failing call is caught and changes nothing).
-/
namespace Ohsl.Sim
variable {σ ρ ο ε : Type}

def Out (Rel : σ → ρ → Prop) (Bad : Except ε σ → Prop) (c : Except ε σ) : Option ρ → Prop
  | some r => ∃ m, c = .ok m ∧ Rel m r
  | none => Bad c

def Fails (Bad : Except ε σ → Prop) : Prop := ∀ c, Bad c → ∃ e, c = .error e

theorem fails_any : Fails (fun c : Except ε σ => ∃ e, c = .error e) := fun _ h => h

theorem fails_eq (e : ε) : Fails (fun c : Except ε σ => c = .error e) := fun _ h => ⟨e, h⟩

variable {Rel : σ → ρ → Prop} {Bad : Except ε σ → Prop}

theorem Out.bind (hB : Fails Bad) {c : Except ε σ} {o : Option ρ} (h : Out Rel Bad c o)
    {f : σ → Except ε σ} {g : ρ → Option ρ} (hfg : ∀ m r, Rel m r → Out Rel Bad (f m) (g r)) :
    Out Rel Bad (c >>= f) (o.bind g) := by
  cases o with
  | none => obtain ⟨e, rfl⟩ := hB c h; exact h
  | some r => obtain ⟨m, rfl, hr⟩ := h; exact hfg m r hr

theorem Out.of_ok (hB : Fails Bad) {c : Except ε σ} {o : Option ρ} (h : Out Rel Bad c o) {m : σ}
    (hc : c = .ok m) : ∃ r, o = some r ∧ Rel m r := by
  cases o with
  | none => obtain ⟨e, he⟩ := hB c h; cases he.symm.trans hc
  | some r => obtain ⟨m', hm, hr⟩ := h; cases hm.symm.trans hc; exact ⟨r, rfl, hr⟩

theorem foldlM (hB : Fails Bad) {run : σ → ο → Except ε σ} {ref : ρ → ο → Option ρ} (ops : List ο)
    (hstep : ∀ op ∈ ops, ∀ m r, Rel m r → Out Rel Bad (run m op) (ref r op)) {m : σ} {r : ρ}
    (h : Rel m r) : Out Rel Bad (ops.foldlM run m) (ops.foldlM ref r) := by
  induction ops generalizing m r with
  | nil => exact ⟨m, rfl, h⟩
  | cons op ops ih =>
    rw [List.foldlM_cons, List.foldlM_cons]
    exact (hstep op List.mem_cons_self m r h).bind hB fun m' r' h' =>
      ih (fun o ho => hstep o (List.mem_cons_of_mem _ ho)) h'

theorem foldl_skip (hB : Fails Bad) {run : σ → ο → Except ε σ} {ref : ρ → ο → Option ρ}
    {skip : σ → ο → σ} (hok : ∀ m op m', run m op = .ok m' → skip m op = m')
    (herr : ∀ m op e, run m op = .error e → skip m op = m)
    (ops : List ο) (hstep : ∀ op ∈ ops, ∀ m r, Rel m r → Out Rel Bad (run m op) (ref r op))
    {m : σ} {r : ρ} (h : Rel m r) :
    Rel (ops.foldl skip m) (ops.foldl (fun r op => (ref r op).getD r) r) := by
  induction ops generalizing m r with
  | nil => exact h
  | cons op ops ih =>
    have hs := hstep op List.mem_cons_self m r h
    have ih' := fun {m r} => ih (m := m) (r := r) fun o ho => hstep o (List.mem_cons_of_mem _ ho)
    rw [List.foldl_cons, List.foldl_cons]
    cases hr : ref r op with
    | none => obtain ⟨e, he⟩ := hB _ (hr ▸ hs); rw [herr m op e he]; exact ih' h
    | some r' =>
      obtain ⟨m', h1, h2⟩ := (hr ▸ hs : Out Rel Bad _ (some r'))
      rw [hok m op m' h1]; exact ih' h2

end Ohsl.Sim
