/-
  Ohsl.Lemmas.CxDiv — what the fallible operations of `Ohsl.Cx` (Ohsl/Model/Cx.lean) compute, for ANY
  scalar type: `Cx.div`, `Cx.divR` are the total quotients `divT`, `divRT` (Ohsl/Model/CxFun.lean)
  guarded by the component type's `divM` — whatever `divM` answers on the (one) denominator decides
  the call; over an exact field the guard is the zero test.
-/
import Ohsl.Model.CxFun
import Ohsl.Lemmas.Alg

namespace Ohsl.Cx
variable {K : Type}

theorem div_of_divM_ok [Add K] [Sub K] [Mul K] [Div K] [ScalarExt K] (z w : Cx K)
    (h : ∀ a : K, divM a (absSqr w) = .ok (a / absSqr w)) :
    Cx.div z w = .ok (divT z w) := by
  unfold Cx.div absSqr at *
  simp only [h]
  rfl

theorem div_of_divM_error [Add K] [Sub K] [Mul K] [ScalarExt K] (z w : Cx K) {e : Err}
    (h : ∀ a : K, divM a (absSqr w) = .error e) :
    Cx.div z w = .error e := by
  unfold Cx.div absSqr at *
  simp only [h]
  rfl

theorem divR_of_divM_ok [Div K] [ScalarExt K] (z : Cx K) (r : K)
    (h : ∀ a : K, divM a r = .ok (a / r)) :
    divR z r = .ok (divRT z r) := by
  unfold divR
  simp only [h]
  rfl

theorem divR_of_divM_error [ScalarExt K] (z : Cx K) (r : K) {e : Err}
    (h : ∀ a : K, divM a r = .error e) :
    divR z r = .error e := by
  unfold divR
  simp only [h]
  rfl

theorem beq_eq_true_iff {K : Type} [BEq K] [LawfulBEq K] (a b : Cx K) : Cx.beq a b = true ↔ a = b := by
  cases a; cases b; simp [Cx.beq]

end Ohsl.Cx

namespace Ohsl.Cx
variable {K : Type} [Field K] [LinearOrder K]
attribute [local instance] Alg.scalarExt

theorem div_eq (z w : Cx K) :
    Cx.div z w = if absSqr w = 0 then .error .arith else .ok (divT z w) := by
  split_ifs with h
  · exact div_of_divM_error z w fun a => by rw [h]; exact Alg.divM_zero a
  · exact div_of_divM_ok z w fun a => Alg.divM_ne h

theorem divR_eq (z : Cx K) (r : K) :
    divR z r = if r = 0 then .error .arith else .ok (divRT z r) := by
  split_ifs with h
  · exact divR_of_divM_error z r fun a => by rw [h]; exact Alg.divM_zero a
  · exact divR_of_divM_ok z r fun a => Alg.divM_ne h

end Ohsl.Cx
