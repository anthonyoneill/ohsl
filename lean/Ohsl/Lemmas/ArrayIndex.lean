/-
  Ohsl.Lemmas.ArrayIndex — entries of arrays read with a default (`Array.getD`, the way the vector
  and dot-product properties address entries), in both spellings `a.getD i d` and `a[i]?.getD d`.
  `Arr.Is a n e` describes an array by its length and an entry function, as `Mat.Is` does a matrix;
  arrays threaded through a loop are read and written through it, and `Is.forM'_writes` is the rule
  for loops that write one position per iteration.
-/
import Ohsl.Lemmas.MatIdx
namespace Ohsl
variable {α β γ : Type}

theorem getD_of_lt (a : Array α) (d : α) {i : Nat} (hi : i < a.size) : a.getD i d = a[i] :=
  (Array.getElem_eq_getD d).symm

theorem getD_setIfInBounds {α : Type _} {u : Array α} {j i : Nat} {v d : α} (hj : j < u.size) :
    (u.setIfInBounds j v)[i]?.getD d = if i = j then v else u[i]?.getD d := by
  rw [Array.getElem?_setIfInBounds]
  by_cases h : i = j
  · subst h
    simp [hj]
  · rw [if_neg (fun e => h e.symm), if_neg h]

theorem getD_map (g : α → β) (a : Array α) (d : α) (d' : β) {i : Nat} (hi : i < a.size) :
    (a.map g).getD i d' = g (a.getD i d) := by
  simp only [Array.getD, Array.size_map, hi, dite_true, Array.getInternal_eq_getElem,
    Array.getElem_map]

theorem getD_zipWith (op : α → β → γ) (a : Array α) (b : Array β) (da : α) (db : β) (d : γ)
    (hs : a.size = b.size) {i : Nat} (hi : i < a.size) :
    (Array.zipWith op a b).getD i d = op (a.getD i da) (b.getD i db) := by
  have hi' : i < b.size := hs ▸ hi
  simp only [Array.getD, Array.size_zipWith, hi, hi', Nat.lt_min, and_self, dite_true,
    Array.getInternal_eq_getElem, Array.getElem_zipWith]

theorem getD_ofFn {n : Nat} (f : Fin n → α) (d : α) {i : Nat} (hi : i < n) :
    (Array.ofFn f).getD i d = f ⟨i, hi⟩ := by
  simp only [Array.getD, Array.size_ofFn, hi, dite_true, Array.getInternal_eq_getElem,
    Array.getElem_ofFn]

/-- the same entries in the spelling `a[i]?.getD d` (that of `getD_setIfInBounds`); the `_total` forms
    need no bound on the index when the operation maps the defaults to the default -/
theorem getD?_map (g : α → β) (a : Array α) (d : α) (d' : β) {i : Nat} (hi : i < a.size) :
    (a.map g)[i]?.getD d' = g (a[i]?.getD d) := by
  rw [Array.getElem?_map, Array.getElem?_eq_getElem hi]
  rfl

theorem getD?_map_total (g : α → β) {d : α} {d' : β} (hd : g d = d') (a : Array α) (i : Nat) :
    (a.map g)[i]?.getD d' = g (a[i]?.getD d) := by
  rcases Nat.lt_or_ge i a.size with hi | hi
  · exact getD?_map g a d d' hi
  · rw [Array.getElem?_map, Array.getElem?_eq_none hi]
    exact hd.symm

theorem getD?_zipWith (op : α → β → γ) (a : Array α) (b : Array β) (da : α) (db : β) (d : γ)
    {i : Nat} (ha : i < a.size) (hb : i < b.size) :
    (Array.zipWith op a b)[i]?.getD d = op (a[i]?.getD da) (b[i]?.getD db) := by
  rw [Array.getElem?_zipWith, Array.getElem?_eq_getElem ha, Array.getElem?_eq_getElem hb]
  rfl

theorem getD?_zipWith_total (op : α → β → γ) {da : α} {db : β} {d : γ} (hd : op da db = d)
    (a : Array α) (b : Array β) (hs : a.size = b.size) (i : Nat) :
    (Array.zipWith op a b)[i]?.getD d = op (a[i]?.getD da) (b[i]?.getD db) := by
  rcases Nat.lt_or_ge i a.size with hi | hi
  · exact getD?_zipWith op a b da db d hi (hs ▸ hi)
  · rw [Array.getElem?_zipWith, Array.getElem?_eq_none hi, Array.getElem?_eq_none (hs ▸ hi)]
    exact hd.symm

theorem getD?_replicate (n : Nat) (x d : α) (i : Nat) :
    (Array.replicate n x)[i]?.getD d = if i < n then x else d := by
  rw [Array.getElem?_replicate]
  split <;> rfl

theorem getD?_ofFn {n : Nat} (f : Fin n → α) (d : α) {i : Nat} (hi : i < n) :
    (Array.ofFn f)[i]?.getD d = f ⟨i, hi⟩ := by
  rw [← Array.getD_eq_getD_getElem?, getD_ofFn f d hi]

theorem getD?_of_le (a : Array α) (d : α) {i : Nat} (h : a.size ≤ i) : a[i]?.getD d = d := by
  rw [Array.getElem?_eq_none h]
  rfl

theorem modify_eq_set (a : Array α) (k : Nat) (g : α → α) (h : k < a.size) :
    a.modify k g = a.setIfInBounds k (g a[k]) := by
  apply Array.ext_getElem?
  intro i
  simp only [Array.getElem?_modify, Array.getElem?_setIfInBounds]
  by_cases e : k = i
  · subst e; simp [h]
  · simp [e]

theorem getD_modify (a : Array α) (k j : Nat) (f : α → α) (d : α) (hj : j < a.size) :
    (a.modify k f).getD j d = if k = j then f (a.getD j d) else a.getD j d := by
  rw [getD_of_lt _ _ (Array.size_modify.symm ▸ hj), getD_of_lt _ _ hj, Array.getElem_modify]

theorem getD?_modify (a : Array α) (k j : Nat) (f : α → α) (d : α) (hj : j < a.size) :
    (a.modify k f)[j]?.getD d = if k = j then f (a[j]?.getD d) else a[j]?.getD d := by
  rw [← Array.getD_eq_getD_getElem?, ← Array.getD_eq_getD_getElem?]
  exact getD_modify a k j f d hj

theorem getD_extract (a : Array α) (d : α) {s e i : Nat} (he : e ≤ a.size) (hi : s + i < e) :
    (a.extract s e).getD i d = a.getD (s + i) d := by
  rw [getD_of_lt _ _ (by rw [Array.size_extract, Nat.min_eq_left he]; omega),
    getD_of_lt _ _ (by omega), Array.getElem_extract]

theorem extract_toList_eq_map_range' (P : Array α) (d : α) (s e : Nat) (he : e ≤ P.size) :
    (P.extract s e).toList = (List.range' s (e - s)).map (fun j => P.getD j d) := by
  apply List.ext_getElem
  · simp only [Array.length_toList, Array.size_extract, List.length_map, List.length_range',
      Nat.min_eq_left he]
  · intro i h1 h2
    rw [List.length_map, List.length_range'] at h2
    simp only [Array.getElem_toList, Array.getElem_extract, List.getElem_map, List.getElem_range',
      Nat.one_mul]
    rw [getD_of_lt]

theorem toList_eq_map_range (P : Array α) (d : α) :
    P.toList = (List.range P.size).map (fun j => P.getD j d) := by
  have := extract_toList_eq_map_range' P d 0 P.size (Nat.le_refl _)
  rwa [Array.extract_size, Nat.sub_zero, ← List.range_eq_range'] at this

theorem zipWith_toList_eq (op : α → β → γ) (a : Array α) (b : Array β) (da : α) (db : β)
    (h : a.size = b.size) :
    (Array.zipWith op a b).toList
      = (List.range a.size).map (fun j => op (a.getD j da) (b.getD j db)) := by
  rw [toList_eq_map_range _ (op da db), Array.size_zipWith, ← h, Nat.min_self]
  exact List.map_congr_left fun j hj => getD_zipWith op a b da db _ h (List.mem_range.mp hj)

theorem eq_map_range (v : Array α) (d : α) :
    v = ((List.range v.size).map (fun i => v[i]?.getD d)).toArray := by
  apply Array.ext'
  rw [toList_eq_map_range v d]
  simp only [Array.getD_eq_getD_getElem?]

theorem getD_map_range (n : Nat) (f : Nat → α) (d : α) (i : Nat) (hi : i < n) :
    ((List.range n).map f).toArray.getD i d = f i := by
  rw [getD_of_lt _ _ (by simpa using hi)]
  simp

theorem length_flatMap_range (f : Nat → List α) (k : Nat) (hf : ∀ i, (f i).length = k) (n : Nat) :
    ((List.range n).flatMap f).length = n * k := by
  induction n with
  | zero => exact (Nat.zero_mul k).symm
  | succ n ih =>
    rw [List.range_succ, List.flatMap_append, List.length_append, ih, List.flatMap_singleton, hf,
      Nat.succ_mul]

theorem getElem?_flatMap_range (f : Nat → List α) (k : Nat) (hf : ∀ i, (f i).length = k)
    (n i j : Nat) (hi : i < n) (hj : j < k) :
    ((List.range n).flatMap f)[i * k + j]? = (f i)[j]? := by
  induction n with
  | zero => exact absurd hi (Nat.not_lt_zero i)
  | succ n ih =>
    rw [List.range_succ, List.flatMap_append]
    rcases Nat.lt_or_ge i n with h | h
    · rw [List.getElem?_append_left (by rw [length_flatMap_range f k hf]; exact Mat.idx_lt h hj)]
      exact ih h
    · have : i = n := Nat.le_antisymm (Nat.le_of_lt_succ hi) h
      subst this
      rw [List.getElem?_append_right (by rw [length_flatMap_range f k hf]; exact Nat.le_add_right _ _),
        length_flatMap_range f k hf]
      simp

/-- cut points `0 = f 0 ≤ f 1 ≤ … ≤ f m` tile `0 … f m - 1`: the blocks `[f j, f (j+1))`, one after the
    other, are `List.range (f m)` (the slots of a compressed-column storage column by column, the
    chunks of a partitioned index range) -/
theorem range_eq_flatMap_cuts (f : Nat → Nat) (h0 : f 0 = 0) :
    ∀ m, (∀ j, j < m → f j ≤ f (j + 1)) →
      List.range (f m) = (List.range m).flatMap fun j => List.range' (f j) (f (j + 1) - f j)
  | 0, _ => by rw [h0]; rfl
  | m + 1, h => by
    rw [List.range_succ, List.flatMap_append, List.flatMap_singleton,
      ← range_eq_flatMap_cuts f h0 m fun j hj => h j (Nat.lt_succ_of_lt hj)]
    have := List.range'_append (s := 0) (m := f m) (n := f (m + 1) - f m) (step := 1)
    rw [Nat.one_mul, Nat.zero_add, Nat.add_sub_cancel' (h m (Nat.lt_succ_self m))] at this
    rw [List.range_eq_range', List.range_eq_range', this]

theorem ext_ofFn {α : Type} {n : Nat} {a : Array α} {f : Fin n → α} (hs : a.size = n)
    (h : ∀ (i : Nat) (hi : i < n), a[i]? = some (f ⟨i, hi⟩)) : a = Array.ofFn f := by
  apply Array.ext_getElem?
  intro i
  rw [Array.getElem?_ofFn]
  by_cases hi : i < n
  · rw [dif_pos hi, h i hi]
  · rw [dif_neg hi, Array.getElem?_eq_none (by omega)]

theorem ext_getD {α : Type} [Zero α] {a b : Array α} {n : Nat} (ha : a.size = n) (hb : b.size = n)
    (h : ∀ i, i < n → a[i]?.getD 0 = b[i]?.getD 0) : a = b := by
  refine Array.ext (ha.trans hb.symm) fun i h1 h2 => ?_
  have := h i (ha ▸ h1)
  rwa [Array.getElem?_eq_getElem h1, Array.getElem?_eq_getElem h2] at this

namespace Arr

structure Is (a : Array α) (n : Nat) (e : Nat → α) : Prop where
  size : a.size = n
  entry : ∀ i, i < n → a[i]? = some (e i)

theorem Is.of_getD (a : Array α) (d : α) : Is a a.size (fun i => a[i]?.getD d) :=
  ⟨rfl, fun i hi => by rw [Array.getElem?_eq_getElem hi]; rfl⟩

theorem Is.congr {a : Array α} {n : Nat} {e e' : Nat → α} (h : Is a n e)
    (he : ∀ i, i < n → e i = e' i) : Is a n e' :=
  ⟨h.size, fun i hi => he i hi ▸ h.entry i hi⟩

theorem Is.aget {a : Array α} {n : Nat} {e : Nat → α} (h : Is a n e) {i : Nat} (hi : i < n) :
    aget a i = .ok (e i) :=
  Mat.aget_eq_ok.mpr (h.entry i hi)

theorem Is.getD {a : Array α} {n : Nat} {e : Nat → α} (h : Is a n e) (d : α) {i : Nat}
    (hi : i < n) : a[i]?.getD d = e i := by
  rw [h.entry i hi]; rfl

theorem Is.getD_total {a : Array α} {n : Nat} {e : Nat → α} (h : Is a n e) {d : α}
    (hd : ∀ i, n ≤ i → e i = d) (i : Nat) : a[i]?.getD d = e i := by
  by_cases hi : i < n
  · exact h.getD d hi
  · rw [Array.getElem?_eq_none (h.size ▸ Nat.le_of_not_lt hi), hd i (Nat.le_of_not_lt hi)]; rfl

theorem Is.aset {a : Array α} {n : Nat} {e : Nat → α} (h : Is a n e) {i : Nat} (hi : i < n)
    (v : α) : ∃ a', aset a i v = .ok a' ∧ Is a' n (fun k => if k = i then v else e k) := by
  have hi' : i < a.size := h.size ▸ hi
  refine ⟨_, Mat.aset_ok v hi', Array.size_setIfInBounds.trans h.size, fun k hk => ?_⟩
  rw [Array.getElem?_setIfInBounds, if_pos hi']
  by_cases hk' : k = i
  · rw [if_pos hk'.symm, if_pos hk']
  · rw [if_neg fun h => hk' h.symm, if_neg hk', h.entry k hk]

/-- a fresh array of zeros is the start of a fill in order (`Is.aset_prefix`): no entry of `g` is
    written yet -/
theorem Is.replicate_zero [Zero α] (n : Nat) (g : Nat → α) :
    Is (Array.replicate n (0 : α)) n (fun j => if j < 0 then g j else 0) :=
  ⟨Array.size_replicate, fun i hi => by rw [Array.getElem?_replicate, if_pos hi]; rfl⟩

/-- filling an array in order: the write at `k` extends the filled prefix.  (`Ohsl.aset`: in the
    statement of a theorem `Is.…` a bare `aset` is `Is.aset`.) -/
theorem Is.aset_prefix {a : Array α} {n k : Nat} {g e : Nat → α}
    (h : Is a n (fun j => if j < k then g j else e j)) (hk : k < n) :
    ∃ a', Ohsl.aset a k (g k) = .ok a' ∧ Is a' n (fun j => if j < k + 1 then g j else e j) := by
  obtain ⟨a', h1, h2⟩ := h.aset hk (g k)
  refine ⟨a', h1, h2.congr fun j _ => ?_⟩
  by_cases hj : j = k
  · rw [if_pos hj, if_pos (hj ▸ Nat.lt_succ_self j), hj]
  · rw [if_neg hj]
    exact ite_congr (propext ⟨Nat.lt_succ_of_lt, fun h => Nat.lt_of_le_of_ne (Nat.le_of_lt_succ h) hj⟩)
      (fun _ => rfl) fun _ => rfl

theorem Is.unique {a b : Array α} {n : Nat} {e : Nat → α} (ha : Is a n e) (hb : Is b n e) :
    a = b :=
  Array.ext (ha.size.trans hb.size.symm) fun i h1 h2 => Option.some.inj <| by
    rw [← Array.getElem?_eq_getElem h1, ← Array.getElem?_eq_getElem h2, ha.entry i (ha.size ▸ h1),
      hb.entry i (ha.size ▸ h1)]

/-- Loop rule for loops that write one position per iteration and never touch it again.  `D t k`
    says that position `k` is written by an iteration before `t`; `v` is what is written.  The
    body is told what the array holds at iteration `t`, and has to be shown to be one write. -/
theorem Is.forM'_writes {a : Array α} {n : Nat} {e : Nat → α} (h : Is a n e)
    (D : Nat → Nat → Prop) [∀ t k, Decidable (D t k)] (v : Nat → α) {lo hi : Nat} (hle : lo ≤ hi)
    {f : Array α → Nat → Res (Array α)} (h0 : ∀ k, k < n → ¬ D lo k)
    (hf : ∀ t s, lo ≤ t → t < hi → Is s n (fun k => if D t k then v k else e k) →
      ∃ i, i < n ∧ f s t = Ohsl.aset s i (v i) ∧ ∀ k, k < n → (D (t + 1) k ↔ D t k ∨ k = i)) :
    ∃ a', Mat.forM' lo hi a f = .ok a' ∧ Is a' n (fun k => if D hi k then v k else e k) := by
  refine Mat.forM'_inv (fun t s => Is s n (fun k => if D t k then v k else e k)) lo hi a f hle
    (h.congr fun k hk => (if_neg (h0 k hk)).symm) fun t s h1 h2 hs => ?_
  obtain ⟨i, hi', hfs, hD⟩ := hf t s h1 h2 hs
  obtain ⟨s', hs', hI⟩ := hs.aset hi' (v i)
  refine ⟨s', hfs ▸ hs', hI.congr fun k hk => ?_⟩
  by_cases hki : k = i
  · rw [if_pos hki, if_pos ((hD k hk).2 (Or.inr hki)), hki]
  · rw [if_neg hki]
    exact ite_congr (propext ((hD k hk).trans (or_iff_left hki)).symm) (fun _ => rfl) fun _ => rfl

end Arr

namespace Vec
variable {K : Type}

theorem guard_size_ok_iff {α : Type} {m n : Nat} {v c : α} :
    (if m ≠ n then .error .size else .ok v : Res α) = .ok c ↔ m = n ∧ c = v := by
  rw [ite_not]
  exact guard_ok_iff v c .size

theorem guard_size_error_iff {α : Type} {m n : Nat} {v : α} {e : Err} :
    (if m ≠ n then .error .size else .ok v : Res α) = .error e ↔ m ≠ n ∧ e = .size := by
  rw [ite_not]
  exact guard_error_iff v .size e

theorem add_eq_ok_iff [Add K] {a b c : Array K} :
    add a b = .ok c ↔ a.size = b.size ∧ c = Array.zipWith (· + ·) a b := guard_size_ok_iff

theorem sub_eq_ok_iff [Sub K] {a b c : Array K} :
    sub a b = .ok c ↔ a.size = b.size ∧ c = Array.zipWith (· - ·) a b := guard_size_ok_iff

theorem sub_eq_error_iff [Sub K] {a b : Array K} {e : Err} :
    sub a b = .error e ↔ a.size ≠ b.size ∧ e = .size := guard_size_error_iff

end Vec

end Ohsl
