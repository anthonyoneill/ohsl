/-
  Ohsl.Lemmas.C01H — growth of the entries under Gaussian elimination with partial pivoting in the
  "rounded reals" interpretation `Fl M`.  Helper file of Ohsl/Props/C01H.lean (read its header first);
  builds on Ohsl/Lemmas/LURounding.lean and Ohsl/Lemmas/GaussRounding.lean.

  One elimination step with a dominating pivot multiplies the size of an entry by at most
  `gro = (1+u)(1+(1+u)²)` (`= 2` for `u = 0`): the multipliers are at most `1 + u` in magnitude.
  `Doolittle.growth` carries this along Doolittle's recurrence; `luDecomp_growth` and
  `gaussWithPivot_growth` read `GrowInv` (`|w_rc| ≤ gro^(min r i) μ` for `c ≥ min r i`) off the final
  description of the run.  Wilkinson's matrix (`wilkR`, `luDecomp_wilkinson`) attains the bound in
  every model in which the powers of two that occur are representable (`PowRep`).
-/
import Ohsl.Lemmas.LURounding
import Ohsl.Lemmas.GaussRounding
import Mathlib.Algebra.Order.BigOperators.Group.Finset
import Mathlib.Tactic.Ring
import Mathlib.Tactic.Linarith
import Mathlib.Tactic.Positivity
import Mathlib.Tactic.NormNum
namespace Ohsl

namespace FlModel
variable (M : FlModel)

/-- the growth factor of one elimination step with partial pivoting in the standard model:
`(1+u)·(1 + (1+u)²)`; it is `2` in exact arithmetic and `2 + 4u + O(u²)` in general -/
noncomputable def gro : ℝ := (1 + M.u) * (1 + (1 + M.u) ^ 2)

theorem one_le_gro : 1 ≤ M.gro :=
  one_le_mul_of_one_le_of_one_le M.one_le_one_add_u (le_add_of_nonneg_right (sq_nonneg _))

theorem gro_pos : 0 < M.gro := lt_of_lt_of_le one_pos M.one_le_gro

theorem two_le_gro : 2 ≤ M.gro := by
  have h2 : (2 : ℝ) ≤ 1 + (1 + M.u) ^ 2 := by
    linarith [one_le_pow₀ (n := 2) M.one_le_one_add_u]
  calc (2 : ℝ) = 1 * 2 := (one_mul 2).symm
    _ ≤ (1 + M.u) * (1 + (1 + M.u) ^ 2) :=
        mul_le_mul M.one_le_one_add_u h2 zero_le_two M.one_add_u_pos.le

theorem gro_exact : FlModel.exact.gro = 2 := by
  simp [gro, FlModel.exact]; norm_num

theorem gro_le : M.gro ≤ 2 * (1 + M.u) ^ 3 := by
  have h2 : 1 + (1 + M.u) ^ 2 ≤ 2 * (1 + M.u) ^ 2 := by
    linarith [one_le_pow₀ (n := 2) M.one_le_one_add_u]
  calc M.gro ≤ (1 + M.u) * (2 * (1 + M.u) ^ 2) :=
        mul_le_mul_of_nonneg_left h2 M.one_add_u_pos.le
    _ = 2 * (1 + M.u) ^ 3 := by ring

end FlModel

namespace Mat

section Growth
variable {M : FlModel}

theorem Fl.abs_elim_le' (a p l : Fl M) :
    |(a - l * p).val| ≤ (1 + M.u) * (|a.val| + (1 + M.u) * (|l.val| * |p.val|)) :=
  (M.abs_fl_le _).trans (mul_le_mul_of_nonneg_left
    ((abs_sub a.val (l * p).val).trans
      (add_le_add le_rfl ((M.abs_fl_le (l.val * p.val)).trans_eq (by rw [abs_mul]))))
    M.one_add_u_pos.le)

theorem Fl.abs_elim_le (a p l : Fl M) (hl : |l.val| ≤ 1 + M.u) :
    |(a - l * p).val| ≤ (1 + M.u) * (|a.val| + (1 + M.u) ^ 2 * |p.val|) := by
  have hp := M.one_add_u_pos
  refine (Fl.abs_elim_le' a p l).trans (mul_le_mul_of_nonneg_left (add_le_add le_rfl ?_) hp.le)
  rw [sq, mul_assoc]
  exact mul_le_mul_of_nonneg_left (mul_le_mul_of_nonneg_right hl (abs_nonneg _)) hp.le

theorem Fl.abs_elim_le_gro (a p l : Fl M) (hl : |l.val| ≤ 1 + M.u) {β : ℝ}
    (ha : |a.val| ≤ β) (hpβ : |p.val| ≤ β) : |(a - l * p).val| ≤ M.gro * β := by
  refine (Fl.abs_elim_le a p l hl).trans ?_
  rw [FlModel.gro, mul_assoc]
  refine mul_le_mul_of_nonneg_left ?_ M.one_add_u_pos.le
  calc |a.val| + (1 + M.u) ^ 2 * |p.val| ≤ β + (1 + M.u) ^ 2 * β :=
        add_le_add ha (mul_le_mul_of_nonneg_left hpβ (sq_nonneg _))
    _ = (1 + (1 + M.u) ^ 2) * β := by ring

theorem luElimLoop_growth {l l' : Mat (Fl M)} {n i : Nat} {β : ℝ} (hl : WFn l n) (hi : i < n)
    (hβ : ∀ r c, i ≤ r → r < n → i ≤ c → c < n → |(ent l r c).val| ≤ β)
    (hmax : ∀ k, i ≤ k → k < n → |(ent l k i).val| ≤ |(ent l i i).val|)
    (hpiv : (ent l i i).val ≠ 0)
    (h : forM' (i + 1) l.rows l (luElimRow i) = .ok l') :
    WFn l' n ∧ (∀ r c, r ≤ i → r < n → c < n → ent l' r c = ent l r c) ∧
      (∀ r c, i < r → r < n → i < c → c < n → |(ent l' r c).val| ≤ M.gro * β) := by
  obtain ⟨l'', hl'', hw', hdiv, he⟩ := luElimCol_total hl hi
    fun r _ _ => ⟨_, Fl.divM_of_val_ne hpiv⟩
  cases hl''.symm.trans h
  refine ⟨hw', fun r c hri hr hc => by rw [he r c hr hc, if_neg (Nat.not_lt.2 hri)],
    fun r c hir hr hic hc => ?_⟩
  obtain ⟨_, hq⟩ := Fl.divM_ok (hdiv r hir hr)
  rw [he r c hr hc, if_pos hir, if_neg (Nat.ne_of_gt hic), if_pos hic]
  exact Fl.abs_elim_le_gro _ _ _ (by rw [hq]; exact Fl.abs_div_le _ _ (hmax r hir.le hr))
    (hβ r c hir.le hr hic.le hc) (hβ i c (Nat.le_refl i) hi hic.le hc)

theorem luStep_run {n i : Nat} {s s' : LU (Fl M)} (hw : WFn s.lu n) (hi : i < n)
    (h : luStep s i = .ok s') :
    s' = s ∨ ∃ (k : Nat) (l : Mat (Fl M)), i ≤ k ∧ k < n ∧
      Is l n n (fun r c => ent s.lu (swapIdx i k r) c) ∧ (ent l i i).val ≠ 0 ∧
      (∀ r, i ≤ r → r < n → |(ent l r i).val| ≤ |(ent l i i).val|) ∧
      forM' (i + 1) l.rows l (luElimRow i) = .ok s'.lu := by
  obtain ⟨maxA, imax, hpv, h1, h2, hcase⟩ := luPivot_total Fl.pivotLaw hw hi
  obtain ⟨hskip, hrun⟩ := luStep_eq hw.is hi hpv h2
  rcases hcase with ⟨h0, _⟩ | ⟨h0, hpos, hdom⟩
  · exact Or.inl (Except.ok.inj ((hskip h0).symm.trans h)).symm
  · obtain ⟨l, hl, hstep⟩ := hrun h0
    rw [hstep] at h
    -- the exchange in the recorded permutation and the column loop both returned
    cases hp : (if imax = i then Except.ok s.perm else swapRows s.perm i imax) with
    | error e => rw [hp] at h; cases h
    | ok p =>
      cases hl' : forM' (i + 1) n l (luElimRow i) with
      | error e => rw [hp, hl'] at h; cases h
      | ok l' =>
        rw [hp, hl'] at h
        cases h
        have hli : ∀ r, r < n → ent l r i = ent s.lu (swapIdx i imax r) i := fun r hr => by
          rw [hl.ent_eq hr hi, swapFn_eq_swapIdx]
        refine Or.inr ⟨imax, l, h1, h2,
          hl.congr fun r c _ _ => swapFn_eq_swapIdx _ i imax r c, ?_, fun r hr1 hr2 => ?_,
          by rw [hl.rows]; exact hl'⟩
        · rw [hli i hi, swapIdx_left]
          exact fun hz => by rw [hz, Fl.zero_val, abs_zero] at hpos; exact lt_irrefl _ hpos
        · rw [hli r hr2, hli i hi, swapIdx_left]
          exact hdom _ (swapIdx_ge (Nat.le_refl i) h1 hr1) (swapIdx_lt hi h2 hr2)

theorem luStep_growth_core {n i : Nat} {s s' : LU (Fl M)} {β : ℝ} (hw : WFn s.lu n) (hi : i < n)
    (hβ : ∀ r c, i ≤ r → r < n → i ≤ c → c < n → |(ent s.lu r c).val| ≤ β)
    (h : luStep s i = .ok s') :
    WFn s'.lu n ∧ (∀ r c, r < i → c < n → ent s'.lu r c = ent s.lu r c) ∧
      (∀ c, i ≤ c → c < n → |(ent s'.lu i c).val| ≤ β) ∧
      (∀ r c, i < r → r < n → i < c → c < n → |(ent s'.lu r c).val| ≤ M.gro * β) := by
  have hβ0 : 0 ≤ β := (abs_nonneg _).trans (hβ i i (Nat.le_refl _) hi (Nat.le_refl _) hi)
  have hgβ : β ≤ M.gro * β := le_mul_of_one_le_left hβ0 M.one_le_gro
  rcases luStep_run hw hi h with rfl | ⟨k, l, hik, hk, hl, hpiv, hdom, hloop⟩
  · exact ⟨hw, fun _ _ _ _ => rfl, fun c h1 h2 => hβ i c (Nat.le_refl _) hi h1 h2,
      fun r c h1 h2 h3 h4 => (hβ r c h1.le h2 h3.le h4).trans hgβ⟩
  · have hβl : ∀ r c, i ≤ r → r < n → i ≤ c → c < n → |(ent l r c).val| ≤ β := by
      intro r c h1 h2 h3 h4
      rw [hl.ent_eq h2 h4]
      exact hβ _ c (swapIdx_ge (Nat.le_refl i) hik h1) (swapIdx_lt hi hk h2) h3 h4
    obtain ⟨g1, g2, g3⟩ := luElimLoop_growth hl.wfn hi hβl hdom hpiv hloop
    refine ⟨g1, ?_, ?_, g3⟩
    · intro r c hr hc
      have hrn := Nat.lt_trans hr hi
      rw [g2 r c hr.le hrn hc, hl.ent_eq hrn hc, swapIdx_of_lt (Nat.le_refl i) hik hr]
    · intro c hc1 hc2
      rw [g2 i c (Nat.le_refl _) hi hc2]
      exact hβl i c (Nat.le_refl _) hi hc1 hc2

theorem gElimLoop_growth {n k : Nat} {β : ℝ} {mx mx' : Mat (Fl M) × Array (Fl M)}
    (hm : WFn mx.1 n) (hx : mx.2.size = n) (hk : k < n)
    (hβ : ∀ r c, k ≤ r → r < n → k ≤ c → c < n → |(ent mx.1 r c).val| ≤ β)
    (hmax : ∀ i, k ≤ i → i < n → |(ent mx.1 i k).val| ≤ |(ent mx.1 k k).val|)
    (h : forM' (k + 1) n mx (elimRow k) = .ok mx') :
    WFn mx'.1 n ∧ mx'.2.size = n ∧
      (∀ r c, r ≤ k → r < n → c < n → ent mx'.1 r c = ent mx.1 r c) ∧
      (∀ r c, k < r → r < n → k < c → c < n → |(ent mx'.1 r c).val| ≤ M.gro * β) := by
  have hT := Sim.forM'_map Prod.fst (k + 1) n (mx, (GTrace.init : GTrace (Fl M))) (elimRowT k)
    (elimRow k) fun s i => (elimRowT_fst k s i).symm
  rw [hT] at h
  cases hs : forM' (k + 1) n (mx, (GTrace.init : GTrace (Fl M))) (elimRowT k) with
  | error e => rw [hs] at h; cases h
  | ok s' =>
    rw [hs] at h
    cases h
    obtain ⟨hw', hsz', _, _, hdiv, he, _, _⟩ := elimColT_struct (s := (mx, GTrace.init)) hm hx hk hs
    refine ⟨hw', hsz', fun r c hrk hr hc => by
      rw [he r c hr hc, if_neg fun hh => Nat.not_lt.2 hrk hh.1], fun r c hkr hr hkc hc => ?_⟩
    obtain ⟨_, hq⟩ := Fl.divM_ok (hdiv r hkr hr)
    rw [he r c hr hc, if_pos ⟨hkr, hkc.le⟩]
    exact Fl.abs_elim_le_gro _ _ _ (by rw [hq]; exact Fl.abs_div_le _ _ (hmax r hkr.le hr))
      (hβ r c hkr.le hr hkc.le hc) (hβ k c (Nat.le_refl k) hk hkc.le hc)

theorem gaussStep_growth_core {n k : Nat} {mx mx' : Mat (Fl M) × Array (Fl M)} {β : ℝ}
    (hw : WFn mx.1 n) (hx : mx.2.size = n) (hk : k < n)
    (hβ : ∀ r c, k ≤ r → r < n → k ≤ c → c < n → |(ent mx.1 r c).val| ≤ β)
    (h : gaussStep mx k = .ok mx') :
    WFn mx'.1 n ∧ mx'.2.size = n ∧ (∀ r c, r < k → c < n → ent mx'.1 r c = ent mx.1 r c) ∧
      (∀ c, k ≤ c → c < n → |(ent mx'.1 k c).val| ≤ β) ∧
      (∀ r c, k < r → r < n → k < c → c < n → |(ent mx'.1 r c).val| ≤ M.gro * β) := by
  unfold gaussStep at h
  cases hpp : partialPivot mx.1 mx.2 k with
  | error e => simp [hpp, bind, Except.bind] at h
  | ok mx1 =>
    simp only [hpp, bind, Except.bind] at h
    cases hp0 : maxAbsInColumn mx.1 k k with
    | error e => simp [partialPivot, hp0, bind, Except.bind] at hpp
    | ok p =>
      obtain ⟨m1, x1⟩ := mx1
      obtain ⟨hpn, hw1, hsz1, hent, _⟩ := partialPivot_struct hw hx hk hp0 hpp
      obtain ⟨_, hkp, hdom, _⟩ := maxAbsInColumn_fl hw hk hp0
      simp only [hw1.2.1] at h
      have hsw : ∀ r, r < n → swapIdx p k r < n := fun r hr => swapIdx_lt hpn hk hr
      have hswge : ∀ r, k ≤ r → k ≤ swapIdx p k r := fun r hr =>
        swapIdx_ge hkp (Nat.le_refl k) hr
      have hswfix : ∀ r, r < k → swapIdx p k r = r := fun r hr =>
        swapIdx_of_lt hkp (Nat.le_refl k) hr
      have hβ1 : ∀ r c, k ≤ r → r < n → k ≤ c → c < n → |(ent m1 r c).val| ≤ β := by
        intro r c h1 h2 h3 h4
        rw [hent r c h2 h4]
        exact hβ _ c (hswge r h1) (hsw r h2) h3 h4
      obtain ⟨g1, g2, g3, g4⟩ := gElimLoop_growth (mx := (m1, x1)) hw1 hsz1 hk hβ1 (by
        intro i hi1 hi2
        show |(ent m1 i k).val| ≤ |(ent m1 k k).val|
        rw [hent i k hi2 hk, hent k k hk hk, swapIdx_right]
        exact hdom _ (hswge i hi1) (hsw i hi2)) h
      refine ⟨g1, g2, ?_, ?_, g4⟩
      · intro r c hr hc
        have hrn := Nat.lt_trans hr hk
        rw [g3 r c hr.le hrn hc]
        show ent m1 r c = ent mx.1 r c
        rw [hent r c hrn hc, hswfix r hr]
      · intro c hc1 hc2
        rw [g3 k c (Nat.le_refl _) hk hc2]
        exact hβ1 k c (Nat.le_refl _) hk hc1 hc2

/-- after `i` elimination steps: row `r` has been updated `min r i` times, and its entries from
column `min r i` on (the part that is not a stored multiplier / residue) are bounded by
`gro^(min r i) · μ` -/
def GrowInv (M : FlModel) (n : Nat) (μ : ℝ) (i : Nat) (l : Mat (Fl M)) : Prop :=
  WFn l n ∧ ∀ r c, r < n → c < n → min r i ≤ c → |(ent l r c).val| ≤ M.gro ^ (min r i) * μ

theorem GrowInv.active {n i : Nat} {μ : ℝ} {l : Mat (Fl M)} (h : GrowInv M n μ i l) :
    ∀ r c, i ≤ r → r < n → i ≤ c → c < n → |(ent l r c).val| ≤ M.gro ^ i * μ := by
  intro r c h1 h2 h3 h4
  have e : min r i = i := by omega
  have := h.2 r c h2 h4 (by omega)
  rwa [e] at this

/-- **growth along the recurrence**: in Doolittle's description (Doolittle.lean) the value of entry
`(r,c)` after `k` eliminations is at most `gro^k μ` when column `c` of the input is bounded by `μ`: a
multiplier is a rounded quotient by a dominating pivot, so at most `1 + u` in magnitude, and the pivot
row entry `w k c` is itself the value of row `k` after `k` eliminations -/
theorem Doolittle.growth {Null : Fl M → Prop} {Dom : Fl M → Fl M → Prop} {n N i : Nat}
    {act : Nat → Bool} {B w : Nat → Nat → Fl M} (hD : Doolittle Null Dom n N i act B w)
    (hdom : ∀ a p, Dom a p → |a.val| ≤ |p.val|) {c : Nat} (hc : c < N) {μ : ℝ}
    (hB : ∀ r, r < n → |(B r c).val| ≤ μ) :
    ∀ k r, r < n → k ≤ min r i → k ≤ c → |(T act w B r c k).val| ≤ M.gro ^ k * μ := by
  intro k
  induction k with
  | zero => intro r hr _ _; rw [pow_zero, one_mul]; exact hB r hr
  | succ k ih =>
    intro r hr hk hkc
    have hkr : k < min r i := hk
    have h1 := ih r hr hkr.le (Nat.le_of_succ_le hkc)
    rw [T_succ, pow_succ, mul_comm (M.gro ^ k), mul_assoc]
    split
    · rename_i ha
      -- the pivot row `k` is final after `k` eliminations
      have hkn : k < n := Nat.lt_trans (Nat.lt_of_lt_of_le hkr (Nat.min_le_left r i)) hr
      have hki : k < i := Nat.lt_of_lt_of_le hkr (Nat.min_le_right r i)
      have hmk : min k i = k := Nat.min_eq_left hki.le
      have h2 : |(w k c).val| ≤ M.gro ^ k * μ := by
        rw [hD.upper k c hkn hc (by rw [hmk]; exact Nat.le_of_succ_le hkc), hmk]
        exact ih k hkn (by rw [hmk]) (Nat.le_of_succ_le hkc)
      obtain ⟨hdiv, hd⟩ := hD.lower r k hr hkr ha
      obtain ⟨_, hq⟩ := Fl.divM_ok hdiv
      exact Fl.abs_elim_le_gro _ _ _ (by rw [hq]; exact Fl.abs_div_le _ _ (hdom _ _ hd)) h1 h2
    · exact h1.trans (le_mul_of_one_le_left ((abs_nonneg _).trans h1) M.one_le_gro)

theorem luDecomp_growth {n : Nat} {μ : ℝ} {A : Mat (Fl M)} {s : LU (Fl M)} (hA : WFn A n)
    (hμ : ∀ r c, r < n → c < n → |(ent A r c).val| ≤ μ) (h : luDecomp A = .ok s) :
    GrowInv M n μ n s.lu := by
  obtain ⟨hw, _, _, hD⟩ := luDecomp_doolittle_fl hA h
  refine ⟨hw, fun r c hr hc hm => ?_⟩
  rw [hD.upper r c hr hc hm]
  exact hD.growth (fun _ _ hd => hd.1) hc
    (fun r' hr' => by rw [permRows_apply _ _ hr']; exact hμ _ c (Fin.isLt _) hc)
    _ r hr (Nat.le_refl _) hm

theorem gaussWithPivot_growth {n : Nat} (hn : 1 ≤ n) {μ : ℝ} {A : Mat (Fl M)} {b : Array (Fl M)}
    {mx : Mat (Fl M) × Array (Fl M)} (hA : WFn A n) (hb : b.size = n)
    (hμ : ∀ r c, r < n → c < n → |(ent A r c).val| ≤ μ) (h : gaussWithPivot A b = .ok mx) :
    GrowInv M n μ (n - 1) mx.1 := by
  obtain ⟨tr, htr⟩ := gaussT_of_gauss h
  obtain ⟨hwf, _, σ, hperm, hD⟩ := gaussT_doolittle hn hA hb htr
  refine ⟨hwf, fun r c hr hc hm => ?_⟩
  have e : ent mx.1 r c = gW n (fun r => min r (n - 1)) tr.mult mx.1 mx.2 r c := by
    simp only [gW, aug, Nat.not_lt.2 hm, hc, if_false, if_true]
  rw [e, hD.upper r c hr (Nat.lt_succ_of_lt hc) hm]
  exact hD.growth (fun _ _ hd => hd) (Nat.lt_succ_of_lt hc)
    (fun r' hr' => by simp only [aug, hc, if_true]; exact hμ _ c (hperm.1 r' hr').1 hc)
    _ r hr (Nat.le_refl _) hm

end Growth

section TotalFl
variable {M : FlModel}

/-- `≤` in `hdom` is enough: the comparison in the search is strict, so ties go to the first
candidate, the diagonal -/
theorem luPivot_diag {m : Mat (Fl M)} {n i : Nat} (hm : WFn m n) (hi : i < n)
    (h0 : (ent m i i).val ≠ 0)
    (hdom : ∀ k, i < k → k < n → |(ent m k i).val| ≤ |(ent m i i).val|) :
    luPivot m i = .ok (ScalarExt.mag (ent m i i), i) := by
  unfold luPivot
  rw [hm.2.1]
  obtain ⟨s', hs', hP⟩ := forM'_inv
    (fun t (s : Fl M × Nat) => (t = i ∧ s = ((0 : Fl M), i)) ∨
      (i < t ∧ s = (ScalarExt.mag (ent m i i), i)))
    i n ((0 : Fl M), i) (fun (mx, imax) k => do
      let x ← m.get k i
      let ax := ScalarExt.mag x
      if ScalarExt.lt mx ax then pure (ax, k) else pure (mx, imax)) (by omega)
    (Or.inl ⟨rfl, rfl⟩) (by
      intro t s ht1 ht2 hs
      rcases hs with ⟨hti, hs⟩ | ⟨hti, hs⟩
      · subst hti; subst hs
        have hl : ScalarExt.lt (0 : Fl M) (ScalarExt.mag (ent m t t)) = true := by
          rw [Fl.lt_iff, Fl.mag_val]; exact abs_pos.mpr h0
        refine ⟨(ScalarExt.mag (ent m t t), t), ?_, Or.inr ⟨by omega, rfl⟩⟩
        simp only [hm.get ht2 ht2, bind, Except.bind, pure, Except.pure, hl, if_true]
      · subst hs
        have hl : ¬ ScalarExt.lt (ScalarExt.mag (ent m i i)) (ScalarExt.mag (ent m t i)) = true := by
          rw [Fl.lt_iff, Fl.mag_val, Fl.mag_val]
          exact not_lt.mpr (hdom t hti ht2)
        refine ⟨(ScalarExt.mag (ent m i i), i), ?_, Or.inr ⟨by omega, rfl⟩⟩
        simp only [hm.get ht2 hi, bind, Except.bind, pure, Except.pure, hl, Bool.false_eq_true, if_false])
  rw [hs']
  rcases hP with ⟨hti, _⟩ | ⟨_, hs⟩
  · omega
  · rw [hs]

theorem luStep_diag_total {s : LU (Fl M)} {n i : Nat} (hw : WFn s.lu n) (hi : i < n)
    (h0 : (ent s.lu i i).val ≠ 0)
    (hdom : ∀ k, i < k → k < n → |(ent s.lu k i).val| ≤ |(ent s.lu i i).val|) :
    ∃ l', luStep s i = .ok { s with lu := l' } ∧ WFn l' n ∧
    ∀ a c, a < n → c < n → ent l' a c =
      if i < a then
        (if c = i then ent s.lu a i / ent s.lu i i
         else if i < c then ent s.lu a c - (ent s.lu a i / ent s.lu i i) * ent s.lu i c
         else ent s.lu a c)
      else ent s.lu a c := by
  obtain ⟨l', hl', hw', hdiv, he⟩ := luElimCol_total hw hi fun r _ _ => ⟨_, Fl.divM_of_val_ne h0⟩
  refine ⟨l', ?_, hw', fun a c ha hc => ?_⟩
  · unfold luStep
    have hz : ¬ ((ScalarExt.mag (ent s.lu i i) : Fl M) == 0) = true := by
      rw [Fl.beq_zero_iff, Fl.mag_val]
      exact fun h => h0 (abs_eq_zero.mp h)
    have hii : ¬ (i ≠ i) := by simp
    simp only [luPivot_diag hw hi h0 hdom, bind, Except.bind, hz, hii, Bool.false_eq_true,
      if_false, pure, Except.pure, hl']
  · rw [he a c ha hc]
    by_cases hia : i < a
    · rw [if_pos hia, if_pos hia, (Fl.divM_ok (hdiv a hia ha)).2]
    · rw [if_neg hia, if_neg hia]

end TotalFl

section Wilkinson

/-- the working array of `lu_decomp_in_place` on Wilkinson's matrix of order `n` after `i` steps
(real values): `−1` below the diagonal (entries of `A`, then multipliers — the same numbers), `1` on
it, `0` above, except for the last column, which holds `2^(min r i)`; `i = 0` is the matrix itself -/
noncomputable def wilkR (n i r c : Nat) : ℝ :=
  if c = n - 1 then 2 ^ (min r i) else if c < r then -1 else if c = r then 1 else 0

noncomputable def wilk {M : FlModel} (n i : Nat) : Nat → Nat → Fl M := fun r c => ⟨wilkR n i r c⟩

/-- the numbers met while Wilkinson's matrix of order `n` is factorised, `±2^k` with `k < n`, are
representable -/
def PowRep (M : FlModel) (n : Nat) : Prop := ∀ k, k < n → M.Rep (2 ^ k) ∧ M.Rep (-(2 ^ k))

theorem powRep_exact (n : Nat) : PowRep FlModel.exact n := fun _ _ => ⟨rfl, rfl⟩

theorem wilkR_rep {M : FlModel} {n : Nat} (hM : PowRep M n) (i : Nat) {r : Nat} (hr : r < n)
    (c : Nat) : M.Rep (wilkR n i r c) ∧ M.Rep (-(wilkR n i r c)) := by
  have h0 := hM 0 (Nat.lt_of_le_of_lt (Nat.zero_le r) hr)
  rw [pow_zero] at h0
  unfold wilkR
  split_ifs
  · exact hM _ (Nat.lt_of_le_of_lt (Nat.min_le_left r i) hr)
  · exact ⟨h0.2, by rw [neg_neg]; exact h0.1⟩
  · exact h0
  · exact ⟨M.rep_zero, by rw [neg_zero]; exact M.rep_zero⟩

theorem wilkR_last (n i r : Nat) : wilkR n i r (n - 1) = 2 ^ (min r i) := if_pos rfl

theorem wilkR_of_ne {n c : Nat} (h : c ≠ n - 1) (i r : Nat) :
    wilkR n i r c = if c < r then -1 else if c = r then 1 else 0 := if_neg h

theorem wilkR_zero (n r c : Nat) :
    wilkR n 0 r c = if c = n - 1 then 1 else if c < r then -1 else if c = r then 1 else 0 := by
  rw [wilkR, Nat.min_zero, pow_zero]

theorem wilkR_step {n i a c : Nat} (hi : i < n) (ha : a < n) :
    wilkR n (i + 1) a c =
      if i < a then
        (if c = i then wilkR n i a i / wilkR n i i i
         else if i < c then wilkR n i a c - (wilkR n i a i / wilkR n i i i) * wilkR n i i c
         else wilkR n i a c)
      else wilkR n i a c := by
  by_cases hia : i < a
  · have hin : i ≠ n - 1 := Nat.ne_of_lt (Nat.lt_of_lt_of_le hia (Nat.le_sub_one_of_lt ha))
    have e1 : wilkR n i i i = 1 := by rw [wilkR_of_ne hin, if_neg (Nat.lt_irrefl i), if_pos rfl]
    have e2 : wilkR n i a i = -1 := by rw [wilkR_of_ne hin, if_pos hia]
    rw [if_pos hia, e1, e2, div_one]
    rcases Nat.lt_trichotomy c i with hci | rfl | hic
    · have hcn : c ≠ n - 1 := fun e => hin (Nat.le_antisymm (e ▸ Nat.le_sub_one_of_lt hi) (e ▸ hci.le))
      rw [if_neg (Nat.ne_of_lt hci), if_neg (Nat.lt_asymm hci), wilkR_of_ne hcn, wilkR_of_ne hcn]
    · rw [if_pos rfl, wilkR_of_ne hin, if_pos hia]
    · rw [if_neg (Nat.ne_of_gt hic), if_pos hic]
      by_cases hcn : c = n - 1
      · rw [hcn, wilkR_last, wilkR_last, wilkR_last, Nat.min_eq_right hia, Nat.min_eq_right hia.le,
          Nat.min_self, pow_succ]
        ring
      · rw [wilkR_of_ne hcn, wilkR_of_ne hcn, wilkR_of_ne hcn, if_neg (Nat.lt_asymm hic),
          if_neg (Nat.ne_of_gt hic)]
        ring
  · rw [if_neg hia]
    have hai : a ≤ i := Nat.not_lt.1 hia
    by_cases hcn : c = n - 1
    · rw [hcn, wilkR_last, wilkR_last, Nat.min_eq_left hai, Nat.min_eq_left (Nat.le_succ_of_le hai)]
    · rw [wilkR_of_ne hcn, wilkR_of_ne hcn]

theorem wilkR_pivot {n i : Nat} (hi : i < n) :
    wilkR n i i i ≠ 0 ∧ ∀ k, i < k → k < n → |wilkR n i k i| ≤ |wilkR n i i i| := by
  by_cases hin : i = n - 1
  · refine ⟨?_, fun k h1 h2 => by omega⟩
    simp only [wilkR, hin, if_true]
    exact pow_ne_zero _ two_ne_zero
  · refine ⟨by simp [wilkR, hin], ?_⟩
    intro k h1 _
    simp [wilkR, hin, h1]

theorem luDecomp_wilkinson {M : FlModel} {n : Nat} (hM : PowRep M n) {A : Mat (Fl M)}
    (hA : Is A n n (wilk n 0)) :
    ∃ s, luDecomp A = .ok s ∧ eye n = .ok s.perm ∧ s.pivots = 0 ∧ Is s.lu n n (wilk n n) := by
  unfold luDecomp
  have h2 : ¬ A.rows ≠ A.cols := by rw [hA.rows, hA.cols]; simp
  obtain ⟨p, hp, hIp⟩ := eye_spec (K := Fl M) n
  simp only [h2, if_false]
  simp only [hA.rows, hp, bind, Except.bind]
  obtain ⟨s, hs, hP0, hP1, hP2⟩ := forM'_inv
    (fun i (s : LU (Fl M)) => s.perm = p ∧ s.pivots = 0 ∧ Is s.lu n n (wilk n i))
    0 n { lu := A, perm := p, pivots := 0 } luStep (Nat.zero_le _) ⟨rfl, rfl, hA⟩ (by
      intro i s _ hi ⟨hpm, hpv, hI⟩
      obtain ⟨hp0, hpd⟩ := wilkR_pivot hi
      obtain ⟨l', hl', hw', he⟩ := luStep_diag_total (s := s) hI.wfn hi
        (by rw [hI.ent_eq hi hi]; exact hp0)
        (by
          intro k h1 h2
          rw [hI.ent_eq h2 hi, hI.ent_eq hi hi]
          exact hpd k h1 h2)
      refine ⟨_, hl', hpm, hpv, hw'.is.congr ?_⟩
      intro a c ha hc
      rw [he a c ha hc]
      apply Fl.ext
      show _ = wilkR n (i + 1) a c
      have hstep := wilkR_step (c := c) hi ha
      by_cases hia : i < a
      · -- below the pivot row: the multiplier is `-1`, every operation returns its exact result
        have hin : i ≠ n - 1 := Nat.ne_of_lt (Nat.lt_of_lt_of_le hia (Nat.le_sub_one_of_lt ha))
        have e1 : wilkR n i i i = 1 := by rw [wilkR_of_ne hin, if_neg (Nat.lt_irrefl i), if_pos rfl]
        have e2 : wilkR n i a i = -1 := by rw [wilkR_of_ne hin, if_pos hia]
        have h1 := (hM 0 (Nat.lt_of_le_of_lt (Nat.zero_le i) hi)).2
        rw [pow_zero] at h1
        have hq : ent s.lu a i / ent s.lu i i = (⟨-1⟩ : Fl M) := by
          rw [hI.ent_eq ha hi, hI.ent_eq hi hi]
          apply Fl.ext
          show M.fl (wilkR n i a i / wilkR n i i i) = -1
          rw [e2, e1, div_one]
          exact h1
        rw [if_pos hia, e2, e1, div_one] at hstep
        rw [if_pos hia, hq]
        by_cases hci : c = i
        · rw [if_pos hci] at hstep ⊢
          exact hstep.symm
        · rw [if_neg hci] at hstep ⊢
          by_cases hic : i < c
          · rw [if_pos hic] at hstep ⊢
            rw [hI.ent_eq ha hc, hI.ent_eq hi hc]
            show M.fl (wilkR n i a c - M.fl (-1 * wilkR n i i c)) = _
            rw [neg_one_mul, show M.fl (-(wilkR n i i c)) = -(wilkR n i i c) from
              (wilkR_rep hM i hi c).2, ← neg_one_mul, ← hstep]
            exact (wilkR_rep hM (i + 1) ha c).1
          · rw [if_neg hic] at hstep ⊢
            rw [hI.ent_eq ha hc]
            exact hstep.symm
      · rw [if_neg hia] at hstep ⊢
        rw [hI.ent_eq ha hc]
        exact hstep.symm)
  exact ⟨s, hs, congrArg Except.ok hP0.symm, hP1, hP2⟩

def matOfFn {K : Type} (n : Nat) (e : Nat → Nat → K) : Mat K :=
  ⟨Array.ofFn (n := n * n) (fun k => e (k.val / n) (k.val % n)), n, n⟩

theorem matOfFn_is {K : Type} (n : Nat) (e : Nat → Nat → K) : Is (matOfFn n e) n n e := by
  refine ⟨by simp [matOfFn, WF], rfl, rfl, ?_⟩
  intro i j hi hj
  have hlt : i * n + j < n * n := idx_lt hi hj
  simp [Mat.get, matOfFn, aget, hlt, idx_div hj, idx_mod hj]

end Wilkinson

section MaxEnt

/-- `max_{r,c<n} |F r c|` (and `0` for `n = 0`) -/
def maxEnt (n : Nat) (F : Nat → Nat → ℝ) : ℝ := maxRow n (fun r => maxRow n (fun c => |F r c|))

theorem maxEnt_nonneg (n : Nat) (F : Nat → Nat → ℝ) : 0 ≤ maxEnt n F := maxRow_nonneg _ _

theorem abs_le_maxEnt {n : Nat} (F : Nat → Nat → ℝ) {r c : Nat} (hr : r < n) (hc : c < n) :
    |F r c| ≤ maxEnt n F :=
  (le_maxRow (fun c => |F r c|) hc).trans (le_maxRow (fun r => maxRow n (fun c => |F r c|)) hr)

theorem maxEnt_le {n : Nat} (F : Nat → Nat → ℝ) {b : ℝ} (hb : 0 ≤ b)
    (h : ∀ r c, r < n → c < n → |F r c| ≤ b) : maxEnt n F ≤ b :=
  maxRow_le _ hb (fun r hr => maxRow_le _ hb (fun c hc => h r c hr hc))

theorem maxEnt_le_rowNorm (n : Nat) (F : Nat → Nat → ℝ) : maxEnt n F ≤ rowNorm n F := by
  refine maxEnt_le F (rowNorm_nonneg n F) ?_
  intro r c hr hc
  refine le_trans ?_ (row_le_rowNorm F hr)
  exact Finset.single_le_sum (f := fun c => |F r c|) (fun _ _ => abs_nonneg _)
    (Finset.mem_range.mpr hc)

theorem rowNorm_le_of_entries {n : Nat} (F : Nat → Nat → ℝ) {b : ℝ} (hb : 0 ≤ b)
    (h : ∀ r c, r < n → c < n → |F r c| ≤ b) : rowNorm n F ≤ n * b := by
  refine rowNorm_le F (by positivity) ?_
  intro r hr
  calc ∑ c ∈ Finset.range n, |F r c| ≤ ∑ c ∈ Finset.range n, b :=
        Finset.sum_le_sum (fun c hc => h r c hr (Finset.mem_range.mp hc))
    _ = n * b := by rw [Finset.sum_const, Finset.card_range, nsmul_eq_mul]

variable {M : FlModel}

theorem Is.abs_ent_le_maxEnt {n : Nat} {A : Mat (Fl M)} {a : Nat → Nat → Fl M} (hA : Is A n n a)
    (r c : Nat) (hr : r < n) (hc : c < n) :
    |(ent A r c).val| ≤ maxEnt n (fun i j => (a i j).val) := by
  rw [hA.ent_eq hr hc]
  exact abs_le_maxEnt (fun i j => (a i j).val) hr hc

theorem GrowInv.upper {n i : Nat} {μ : ℝ} {l : Mat (Fl M)} (h : GrowInv M n μ i l) (hμ : 0 ≤ μ)
    (hi : n - 1 ≤ i) {r c : Nat} (hr : r < n) (hc : c < n) :
    |Ufn n (valEnt l) r c| ≤ M.gro ^ r * μ ∧ |Ufn n (valEnt l) r c| ≤ M.gro ^ (n - 1) * μ := by
  have h1 : |Ufn n (valEnt l) r c| ≤ M.gro ^ r * μ := by
    unfold Ufn
    by_cases hcr : c < r
    · rw [if_pos ⟨hc, hcr⟩, abs_zero]
      exact mul_nonneg (pow_nonneg M.gro_pos.le _) hμ
    · rw [if_neg (fun hh => hcr hh.2)]
      have := h.2 r c hr hc (Nat.le_trans (Nat.min_le_left r i) (Nat.not_lt.1 hcr))
      rwa [Nat.min_eq_left (Nat.le_trans (Nat.le_sub_one_of_lt hr) hi)] at this
  exact ⟨h1, h1.trans (mul_le_mul_of_nonneg_right
    (pow_le_pow_right₀ M.one_le_gro (Nat.le_sub_one_of_lt hr)) hμ)⟩

theorem GrowInv.rowNorm_upper {n i : Nat} {μ : ℝ} {l : Mat (Fl M)} (h : GrowInv M n μ i l)
    (hμ : 0 ≤ μ) (hi : n - 1 ≤ i) :
    rowNorm n (Ufn n (valEnt l)) ≤ n * (M.gro ^ (n - 1) * μ) :=
  rowNorm_le_of_entries _ (mul_nonneg (pow_nonneg M.gro_pos.le _) hμ)
    (fun _ _ hr hc => (h.upper hμ hi hr hc).2)

theorem GrowInv.rowNorm_upper_A {n i : Nat} {F : Nat → Nat → ℝ} {l : Mat (Fl M)}
    (h : GrowInv M n (maxEnt n F) i l) (hi : n - 1 ≤ i) :
    rowNorm n (Ufn n (valEnt l)) ≤ n * (M.gro ^ (n - 1) * maxEnt n F) ∧
    rowNorm n (Ufn n (valEnt l)) ≤ n * (M.gro ^ (n - 1) * rowNorm n F) := by
  have h1 := h.rowNorm_upper (maxEnt_nonneg n F) hi
  exact ⟨h1, h1.trans (mul_le_mul_of_nonneg_left (mul_le_mul_of_nonneg_left
    (maxEnt_le_rowNorm n F) (pow_nonneg M.gro_pos.le _)) (Nat.cast_nonneg n))⟩

theorem growth_coeff_nonneg (M : FlModel) (n : ℕ) :
    0 ≤ (n : ℝ) ^ 2 * (1 + M.u) * M.gro ^ (n - 1) :=
  mul_nonneg (mul_nonneg (sq_nonneg _) M.one_add_u_pos.le) (pow_nonneg M.gro_pos.le _)

theorem normwise_chain {C n u U G μ : ℝ} (hC : 0 ≤ C) (hn : 0 ≤ n) (hu : 0 ≤ 1 + u)
    (hU : U ≤ n * (G * μ)) : C * (n * (1 + u) * U) ≤ C * (n ^ 2 * (1 + u) * G) * μ := by
  have := mul_le_mul_of_nonneg_left (mul_le_mul_of_nonneg_left hU (mul_nonneg hn hu)) hC
  calc C * (n * (1 + u) * U) ≤ C * (n * (1 + u) * (n * (G * μ))) := this
    _ = C * (n ^ 2 * (1 + u) * G) * μ := by ring

end MaxEnt

end Mat
end Ohsl
