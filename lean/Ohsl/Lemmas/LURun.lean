/-
  Ohsl.Lemmas.LURun — the run of `lu_decomp_in_place` for every scalar type that satisfies
  `PivotLaw`: the magnitude comparison of the pivot search compares a `size` in a linear order, a
  magnitude tests `== 0` exactly when its size is least, and a division by a scalar of larger than
  least size succeeds.  `Fl M` (size `|·.val|`) and the ordered / complex fields of the exact
  analysis are such types.  A column step never fails — skipped, or exchange + column loop — and
  advances Doolittle's description (`luStep_doolittle`).
-/
import Ohsl.Lemmas.SolveRun
import Ohsl.Lemmas.Doolittle
namespace Ohsl
namespace Mat

variable {K : Type} [Zero K] [BEq K] [ScalarExt K] {S : Type} [LinearOrder S]

structure PivotLaw (size : K → S) : Prop where
  lt_mag : ∀ a b : K,
    ScalarExt.lt (ScalarExt.mag a) (ScalarExt.mag b) = decide (size a < size b)
  mag_zero : ScalarExt.mag (0 : K) = 0
  size_zero_le : ∀ a : K, size 0 ≤ size a
  mag_beq_zero : ∀ a : K, (ScalarExt.mag a == 0) = true ↔ size a = size 0
  div_ok : ∀ a p : K, size 0 < size p → ∃ q, divM a p = .ok q

variable {size : K → S}

theorem luPivot_total (law : PivotLaw size) {m : Mat K} {n i : Nat} (hm : WFn m n) (hi : i < n) :
    ∃ maxA imax, luPivot m i = .ok (maxA, imax) ∧ i ≤ imax ∧ imax < n ∧
      (((maxA == 0) = true ∧ ∀ r, i ≤ r → r < n → size (ent m r i) = size 0) ∨
       ((maxA == 0) = false ∧ size 0 < size (ent m imax i) ∧
          ∀ r, i ≤ r → r < n → size (ent m r i) ≤ size (ent m imax i))) := by
  obtain ⟨⟨mx, im⟩, hs, h1, h2, u, hu, hdom, hcase⟩ := pivotSearch_gen size law.lt_mag law.mag_zero
    law.size_zero_le (σ := K × Nat) (idx := Prod.snd) (mx := Prod.fst) (mk := fun i a => (a, i))
    (fun _ _ => rfl) (fun _ _ => rfl) (v := fun k => ent m k i) hi
    (fun (mx, imax) k => do
      let x ← m.get k i
      let ax := ScalarExt.mag x
      if ScalarExt.lt mx ax then pure (ax, k) else pure (mx, imax))
    (fun s t _ ht => by
      simp only [hm.get ht hi, bind, Except.bind]
      split <;> rfl)
  simp only at h1 h2 hu hcase
  refine ⟨mx, im, by rw [luPivot, hm.2.1]; exact hs, h1, h2, ?_⟩
  rw [hu]
  rcases hcase with ⟨h0, _⟩ | ⟨hpos, hv⟩
  · refine Or.inl ⟨(law.mag_beq_zero u).2 (by rw [h0]), fun r hr1 hr2 => ?_⟩
    exact le_antisymm (h0 ▸ hdom r hr1 hr2) (law.size_zero_le _)
  · refine Or.inr ⟨?_, hv ▸ hpos, fun r hr1 hr2 => hv ▸ hdom r hr1 hr2⟩
    cases hb : (ScalarExt.mag u == 0)
    · rfl
    · exact absurd ((law.mag_beq_zero u).1 hb) (ne_of_gt hpos)

variable [Sub K] [Mul K]

/-- Doolittle's description with what the pivot search of a `PivotLaw` type knows: a skipped column
has least size, a pivot dominates its column and its size is not least -/
abbrev DoolittleOf (size : K → S) :=
  Doolittle (fun x : K => size x = size 0) (fun a p => size a ≤ size p ∧ size 0 < size p)

omit [BEq K] in
theorem luElimCol_total {l : Mat K} {n i : Nat} (hl : WFn l n) (hi : i < n)
    (hdiv : ∀ r, i < r → r < n → ∃ q, divM (ent l r i) (ent l i i) = .ok q) :
    ∃ l', forM' (i + 1) l.rows l (luElimRow i) = .ok l' ∧ WFn l' n ∧
    (∀ r, i < r → r < n → divM (ent l r i) (ent l i i) = .ok (ent l' r i)) ∧
    ∀ a c, a < n → c < n → ent l' a c =
      if i < a then
        (if c = i then ent l' a i
         else if i < c then ent l a c - ent l' a i * ent l i c else ent l a c)
      else ent l a c := by
  have : Nonempty K := ⟨0⟩
  obtain ⟨q, hq'⟩ := exists_fun_of (D := fun r => i < r ∧ r < n) fun r h => hdiv r h.1 h.2
  have hq := fun r h1 h2 => hq' r ⟨h1, h2⟩
  rw [hl.2.1]
  -- iteration `j` rewrites row `j`, reading the rows `i` and `j` of the start
  obtain ⟨l', hl', hI⟩ := hl.is.forM'_classes (fun a _ => a)
    (v := fun a c => if i < a then
      (if c = i then q a else if i < c then ent l a c - q a * ent l i c else ent l a c)
      else ent l a c)
    (Nat.succ_le_of_lt hi) (fun a c _ _ ha => if_neg (Nat.not_lt.2 (Nat.le_of_lt_succ ha)))
    (fun a _ ha _ => ha) (f := luElimRow i) fun j s es hj1 hj2 hs hrow hfix => by
      have hij : i < j := hj1
      obtain ⟨s1, hs1, hw1, he⟩ := luElimRow_total hs.wfn hi hj2 hij (q := q j) (by
        rw [hs.ent_eq hj2 hi, hs.ent_eq hi hi, hrow j i rfl,
          hfix i i hi hi (Nat.lt_succ_self i)]
        exact hq j hij hj2)
      refine ⟨s1, hs1, hw1.is.congr fun a c ha hc => ?_⟩
      rw [he a c ha hc]
      by_cases haj : a = j
      · subst haj
        rw [if_pos rfl, if_pos rfl, if_pos hij, hs.ent_eq ha hc, hs.ent_eq hi hc, hrow a c rfl,
          hfix i c hi hc (Nat.lt_succ_self i)]
      · rw [if_neg haj, if_neg haj, hs.ent_eq ha hc]
  refine ⟨l', hl', hI.wfn, fun r hir hr => ?_, fun a c ha hc => ?_⟩
  · rw [hI.ent_eq hr hi, if_pos hir, if_pos rfl]; exact hq r hir hr
  · rw [hI.ent_eq ha hc, hI.ent_eq ha hi]
    by_cases hia : i < a
    · simp only [hia, if_true]
    · simp only [hia, if_false]

/-- **One column step for a scalar type with `PivotLaw`.**  It never fails.  If the magnitude found
tests `== 0` the state is returned as it is and the column is skipped; otherwise rows `i` and `imax`
are exchanged in the working array and in the recorded permutation (counted unless `imax = i`) and
the column is eliminated.  Either way Doolittle's description advances, for every `act'` that
extends `act` by the case taken. -/
theorem luStep_doolittle (law : PivotLaw size) {s : LU K} {n i : Nat} {w pe B : Nat → Nat → K}
    {act : Nat → Bool} (hw : Is s.lu n n w) (hpe : Is s.perm n n pe) (hi : i < n)
    (hD : DoolittleOf size n n i act B w) :
    ∃ maxA imax s', luPivot s.lu i = .ok (maxA, imax) ∧ luStep s i = .ok s' ∧ i ≤ imax ∧ imax < n ∧
      (((maxA == 0) = true ∧ s' = s ∧
          ∀ act' : Nat → Bool, (∀ t, t < i → act' t = act t) → act' i = false →
            DoolittleOf size n n (i + 1) act' B w) ∨
       ((maxA == 0) = false ∧ ∃ w', Is s'.lu n n w' ∧ Is s'.perm n n (swapFn pe i imax) ∧
          s'.pivots = s.pivots + (if imax = i then 0 else 1) ∧
          ∀ act' : Nat → Bool, (∀ t, t < i → act' t = act t) → act' i = true →
            DoolittleOf size n n (i + 1) act' (swapFn B i imax) w')) := by
  obtain ⟨maxA, imax, hpv, h1, h2, hcase⟩ := luPivot_total law hw.wfn hi
  obtain ⟨hskip, hrun⟩ := luStep_eq hw hi hpv h2
  rcases hcase with ⟨h0, hz⟩ | ⟨h0, hpos, hdom⟩
  · refine ⟨maxA, imax, s, hpv, hskip h0, h1, h2, Or.inl ⟨h0, rfl, fun act' ha hai => ?_⟩⟩
    refine (hD.transfer (ρ := fun r => r) (Nat.le_refl n) (fun r hr => ⟨hr, rfl⟩) ha
      (fun _ _ _ _ => rfl) (fun _ _ _ _ => rfl) (fun _ _ => rfl)).skip (Nat.le_refl n) hi hai
      fun r hir hr => ?_
    rw [← hw.ent_eq hr hi]
    exact hz r hir.le hr
  · obtain ⟨l, hIl, hstep⟩ := hrun h0
    -- the exchange in the recorded permutation
    obtain ⟨p, hp, hIp⟩ : ∃ p, (if imax = i then Except.ok s.perm else swapRows s.perm i imax)
        = Except.ok p ∧ Is p n n (swapFn pe i imax) := by
      by_cases him : imax = i
      · exact ⟨s.perm, if_pos him, by rw [him, swapFn_self]; exact hpe⟩
      · obtain ⟨p, hp, hIp⟩ := swapRows_spec hpe hi h2
        exact ⟨p, (if_neg him).trans hp, hIp⟩
    rw [hp] at hstep
    have hli : ∀ r, r < n → ent l r i = ent s.lu (swapIdx i imax r) i := fun r hr => by
      rw [hIl.ent_eq hr hi, swapFn_eq_swapIdx, hw.ent_eq (swapIdx_lt hi h2 hr) hi]
    have hpiv : size 0 < size (ent l i i) := by
      rw [hli i hi, swapIdx_left]; exact hpos
    obtain ⟨l', hl', hwl', hq, he⟩ := luElimCol_total hIl.wfn hi
      fun r _ _ => law.div_ok _ _ hpiv
    rw [hIl.rows] at hl'
    refine ⟨maxA, imax, _, hpv, by rw [hstep, hl']; rfl, h1, h2,
      Or.inr ⟨h0, ent l', hwl'.is, hIp, rfl, fun act' ha hai => ?_⟩⟩
    exact (hD.transfer (ρ := swapIdx i imax) (B' := swapFn B i imax) (w' := ent l)
      (Nat.le_refl n) (fun r hr => ⟨swapIdx_lt hi h2 hr, swapIdx_min (Nat.le_refl i) h1 r⟩) ha
      (fun r c _ _ => swapFn_eq_swapIdx B i imax r c)
      (fun r c hr hc => by rw [hIl.ent_eq hr hc, swapFn_eq_swapIdx])
      (fun t ht => swapIdx_of_lt (Nat.le_refl i) h1 ht)).elim (q := fun r => ent l' r i)
      (Nat.le_refl n) hi hai
      (fun r hir hr => ⟨hq r hir hr, by
        rw [hli r hr, hli i hi, swapIdx_left]
        exact hdom _ (swapIdx_ge (Nat.le_refl i) h1 hir.le) (swapIdx_lt hi h2 hr), hpiv⟩) he

end Mat
end Ohsl
