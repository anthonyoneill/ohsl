/-
  Ohsl.Lemmas.NewtonConv — convergence of the bounded early-exit loop `NewtonGen.loop` (the common
  shape of the model's Newton loops) when its step contracts towards a point `r` up to an additive
  error, read through a map `v` into a (semi)normed group.  No analysis, no model term: every
  convergence, limiting-accuracy and acceptance theorem of C18R (real scalar), C17Z (complex
  scalar) and C17L (inexact and rounded real scalar) is this file plus one one-step estimate.
-/
import Ohsl.Lemmas.C17C
import Mathlib.Analysis.Normed.Group.Basic
import Mathlib.Analysis.SpecificLimits.Basic
import Mathlib.Tactic.Ring
import Mathlib.Tactic.Linarith
import Mathlib.Tactic.FieldSimp
namespace Ohsl.NewtonGen
open Newton

theorem geom_decay {e : ℕ → ℝ} {ρ q ε : ℝ} (hq0 : 0 ≤ q) (hq1 : q < 1) (hinv : q * ρ + ε ≤ ρ)
    (h0 : e 0 ≤ ρ) (hstep : ∀ k, e k ≤ ρ → e (k + 1) ≤ q * e k + ε) (k : ℕ) :
    e k ≤ ρ ∧ e k ≤ q ^ k * e 0 + ε * (1 - q ^ k) / (1 - q) := by
  induction k with
  | zero => exact ⟨h0, by simp⟩
  | succ k ih =>
    obtain ⟨i1, i2⟩ := ih
    have hc := hstep k i1
    -- the geometric sum `ε (1 + q + … + q^(k-1)) = ε (1 - q^k)/(1 - q)` obeys the same recursion
    have hg : q * (ε * (1 - q ^ k) / (1 - q)) + ε = ε * (1 - q ^ (k + 1)) / (1 - q) := by
      have : 1 - q ≠ 0 := (sub_pos.mpr hq1).ne'
      rw [eq_div_iff this, add_mul, mul_assoc, div_mul_cancel₀ _ this]
      ring
    refine ⟨(hc.trans (add_le_add (mul_le_mul_of_nonneg_left i1 hq0) le_rfl)).trans hinv, ?_⟩
    rw [← hg, pow_succ', mul_assoc, ← add_assoc, ← mul_add]
    exact hc.trans (add_le_add (mul_le_mul_of_nonneg_left i2 hq0) le_rfl)

theorem geom_le {q ε : ℝ} (hq0 : 0 ≤ q) (hq1 : q < 1) (hε : 0 ≤ ε) (k : ℕ) :
    ε * (1 - q ^ k) / (1 - q) ≤ ε / (1 - q) :=
  div_le_div_of_nonneg_right
    (mul_le_of_le_one_right hε (sub_le_self 1 (pow_nonneg hq0 k))) (sub_pos.mpr hq1).le

/-- error `e` before a step, `e' ≤ q e + ε` after it, step length `s` (triangle inequality both ways) and the
    number `d` that measures it up to `τ` -/
theorem travel {e e' s d q ε τ : ℝ} (hc : e' ≤ q * e + ε) (h1 : e ≤ s + e') (h2 : s ≤ e + e')
    (hd : |d - s| ≤ τ) : (1 - q) * e ≤ d + τ + ε ∧ d ≤ (1 + q) * e + ε + τ := by
  obtain ⟨l, u⟩ := abs_le.mp hd
  constructor <;> linarith

theorem accept {q e e' ε t : ℝ} (hq0 : 0 ≤ q) (hq1 : q ≤ 1) (hc : e' ≤ q * e + ε)
    (ht : (1 - q) * e ≤ t + ε) : (1 - q) * e' ≤ q * t + ε := by
  have h1 := mul_le_mul_of_nonneg_left hc (sub_nonneg.mpr hq1)
  have h2 := mul_le_mul_of_nonneg_left ht hq0
  linarith

theorem within_tol {q e tol : ℝ} (hq : q ≤ 1 / 2) (h : (1 - q) * e ≤ q * tol) (htol : 0 ≤ tol) :
    e ≤ tol := by
  have hq' : q ≤ 1 - q := le_sub_iff_add_le.mpr ((add_le_add hq hq).trans_eq (add_halves 1))
  exact le_of_mul_le_mul_left (h.trans (mul_le_mul_of_nonneg_right hq' htol))
    (by linarith : 0 < 1 - q)

variable {α : Type} {E : Type*} [SeminormedAddCommGroup E]

theorem iter_eq_iterate (step : α → α) (x₀ : α) : ∀ k, iter step x₀ k = step^[k] x₀
  | 0 => rfl
  | k + 1 => by rw [Function.iterate_succ_apply', ← iter_eq_iterate step x₀ k]; rfl

theorem travel_norm (v : α → E) (step : α → α) (r : E) (d : α → ℝ) {q ε τ : ℝ} {x : α}
    (hc : ‖v (step x) - r‖ ≤ q * ‖v x - r‖ + ε) (hd : |d x - ‖v x - v (step x)‖| ≤ τ) :
    (1 - q) * ‖v x - r‖ ≤ d x + τ + ε ∧ d x ≤ (1 + q) * ‖v x - r‖ + ε + τ :=
  travel hc (norm_sub_le_norm_sub_add_norm_sub _ _ _)
    (by have := norm_sub_le_norm_sub_add_norm_sub (v x) r (v (step x)); rwa [norm_sub_rev r] at this)
    hd

section Iterates
variable (v : α → E) (step : α → α) (r : E) {ρ q ε : ℝ} (hq0 : 0 ≤ q) (hq1 : q < 1)
  (hinv : q * ρ + ε ≤ ρ)
  (hc : ∀ x, ‖v x - r‖ ≤ ρ → ‖v (step x) - r‖ ≤ q * ‖v x - r‖ + ε)
include hq0 hq1 hinv hc

theorem iter_contracts {x₀ : α} (hx₀ : ‖v x₀ - r‖ ≤ ρ) (k : ℕ) :
    ‖v (iter step x₀ k) - r‖ ≤ ρ ∧
    ‖v (iter step x₀ k) - r‖ ≤ q ^ k * ‖v x₀ - r‖ + ε * (1 - q ^ k) / (1 - q) :=
  geom_decay (e := fun k => ‖v (iter step x₀ k) - r‖) hq0 hq1 hinv hx₀ (fun _ hk => hc _ hk) k

omit hq0 hq1 hinv hc in
theorem iter_tendsto (hq0 : 0 ≤ q) (hq1 : q < 1) (hinv : q * ρ ≤ ρ)
    (hc : ∀ x, ‖v x - r‖ ≤ ρ → ‖v (step x) - r‖ ≤ q * ‖v x - r‖) {x₀ : α} (hx₀ : ‖v x₀ - r‖ ≤ ρ) :
    Filter.Tendsto (fun k => v (iter step x₀ k)) Filter.atTop (nhds r) := by
  rw [tendsto_iff_dist_tendsto_zero]
  have lim := (tendsto_pow_atTop_nhds_zero_of_lt_one hq0 hq1).mul_const ‖v x₀ - r‖
  rw [zero_mul] at lim
  refine squeeze_zero (fun _ => dist_nonneg) (fun k => ?_) lim
  rw [dist_eq_norm]
  have := (iter_contracts v step r hq0 hq1 (ε := 0) (by rwa [add_zero])
    (fun x hx => by rw [add_zero]; exact hc x hx) hx₀ k).2
  rwa [zero_mul, zero_div, add_zero] at this

variable (d : α → ℝ) {τ : ℝ} (hd : ∀ x, ‖v x - r‖ ≤ ρ → |d x - ‖v x - v (step x)‖| ≤ τ)
include hd

/-- **every run of the loop whose step contracts up to `ε` and whose test is `d x ≤ tol`**: the
    returned point is in the ball and within `‖x₀ - r‖ + ε/(1-q)` of `r`; a success `x` has
    `(1 - q) ‖x - r‖ ≤ q (tol + τ) + ε`; a failure has error `≤ qⁿ ‖x₀ - r‖ + ε/(1-q)`; and success
    is reported when for some `k` within the budget the bound on the step at `x_k` is below `tol`. -/
theorem loop_converges (hε : 0 ≤ ε) (test : α → Bool) (tol : ℝ)
    (htest : ∀ x, ‖v x - r‖ ≤ ρ → (test x = true ↔ d x ≤ tol)) (pts : α → List α)
    (n : ℕ) (x₀ : α) (tr : List α) (hx₀ : ‖v x₀ - r‖ ≤ ρ) :
    ‖v (loop step test pts n x₀ tr).1.x - r‖ ≤ ρ ∧
    ‖v (loop step test pts n x₀ tr).1.x - r‖ ≤ ‖v x₀ - r‖ + ε / (1 - q) ∧
    ((loop step test pts n x₀ tr).1.ok = true →
      (∃ c, ‖v c - r‖ ≤ ρ ∧ d c ≤ tol ∧ (loop step test pts n x₀ tr).1.x = step c) ∧
      (1 - q) * ‖v (loop step test pts n x₀ tr).1.x - r‖ ≤ q * (tol + τ) + ε) ∧
    ((loop step test pts n x₀ tr).1.ok = false →
      ‖v (loop step test pts n x₀ tr).1.x - r‖ ≤ q ^ n * ‖v x₀ - r‖ + ε / (1 - q)) ∧
    (∀ k, k < n → (1 + q) * (q ^ k * ‖v x₀ - r‖ + ε / (1 - q)) + ε + τ ≤ tol →
      (loop step test pts n x₀ tr).1.ok = true) := by
  have it : ∀ k, ‖v (iter step x₀ k) - r‖ ≤ ρ ∧
      ‖v (iter step x₀ k) - r‖ ≤ q ^ k * ‖v x₀ - r‖ + ε / (1 - q) := fun k =>
    have h := iter_contracts v step r hq0 hq1 hinv hc hx₀ k
    ⟨h.1, h.2.trans (add_le_add le_rfl (geom_le hq0 hq1 hε k))⟩
  have hle : ∀ k, ‖v (iter step x₀ k) - r‖ ≤ ‖v x₀ - r‖ + ε / (1 - q) := fun k =>
    (it k).2.trans (add_le_add
      (mul_le_of_le_one_left (norm_nonneg _) (pow_le_one₀ hq0 hq1.le)) le_rfl)
  obtain ⟨c1, c2⟩ := loop_char step test pts n x₀ tr
  have out : ∃ k, (loop step test pts n x₀ tr).1.x = iter step x₀ k := by
    cases hok : (loop step test pts n x₀ tr).1.ok with
    | true => obtain ⟨k, _, e1, _⟩ := c1 hok; exact ⟨_, e1⟩
    | false => exact ⟨_, (c2 hok).1⟩
  obtain ⟨k, ek⟩ := out
  refine ⟨ek ▸ (it k).1, ek ▸ hle k, fun hok => ?_, fun hok => ?_, fun k hk htol => ?_⟩
  · -- the accepted step started at `x_k` with `d x_k ≤ tol`, so `(1 - q) ‖x_k - r‖ ≤ tol + τ + ε`
    obtain ⟨k, _, e1, e2, _⟩ := c1 hok
    have hk := (it k).1
    have hck := hc _ hk
    have t1 := (travel_norm v step r d hck (hd _ hk)).1
    have hdk := (htest _ hk).1 e2
    refine ⟨⟨_, hk, hdk, e1⟩, ?_⟩
    rw [e1]
    exact accept hq0 hq1.le hck (t1.trans (add_le_add (add_le_add hdk le_rfl) le_rfl))
  · rw [(c2 hok).1]
    exact (it n).2
  · by_contra hne
    obtain ⟨_, e3, _⟩ := c2 (Bool.eq_false_iff.mpr hne)
    obtain ⟨i1, i2⟩ := it k
    have t2 := (travel_norm v step r d (hc _ i1) (hd _ i1)).2
    have := (htest _ i1).2 ((t2.trans (add_le_add (add_le_add
      (mul_le_mul_of_nonneg_left i2 (add_nonneg zero_le_one hq0)) le_rfl) le_rfl)).trans htol)
    rw [e3 k hk] at this
    cases this

/-- **acceptance within the budget, above the noise floor**: if `tol` is above
    `(3 + q) ε/(1 - q) + τ` and the budget exceeds a `k₀` with `q^k₀ ρ ≤ ε/(1 - q)`, the iterate `x_k₀`
    is within `2ε/(1 - q)` of `r` and its step passes the test -/
theorem loop_accepts (hε : 0 ≤ ε) (test : α → Bool) (tol : ℝ)
    (htest : ∀ x, ‖v x - r‖ ≤ ρ → (test x = true ↔ d x ≤ tol)) (pts : α → List α)
    (n : ℕ) (x₀ : α) (tr : List α) (hx₀ : ‖v x₀ - r‖ ≤ ρ)
    (htol : (3 + q) * ε / (1 - q) + τ ≤ tol)
    (k₀ : ℕ) (hk₀ : q ^ k₀ * ρ ≤ ε / (1 - q)) (hn : k₀ < n) :
    (loop step test pts n x₀ tr).1.ok = true := by
  refine (loop_converges v step r hq0 hq1 hinv hc d hd hε test tol htest pts n x₀ tr hx₀).2.2.2.2
    k₀ hn (le_trans ?_ htol)
  have h1 := mul_le_mul_of_nonneg_left
    (((mul_le_mul_of_nonneg_left hx₀ (pow_nonneg hq0 k₀)).trans hk₀))
    (add_nonneg zero_le_one hq0)
  -- everything is linear in `ε / (1 - q)`
  have hw : ε = (1 - q) * (ε / (1 - q)) := (mul_div_cancel₀ ε (sub_pos.mpr hq1).ne').symm
  rw [mul_div_assoc]
  linarith only [h1, hw]

end Iterates

/-- **exact arithmetic** (`ε = τ = 0`): the step contracts by `q` on the ball and the tested number
    `d x` IS the length of the step. -/
theorem loop_converges_exact (v : α → E) (step : α → α) (r : E) {ρ q : ℝ} (hq0 : 0 ≤ q) (hq1 : q < 1)
    (hρ : 0 ≤ ρ) (hc : ∀ x, ‖v x - r‖ ≤ ρ → ‖v (step x) - r‖ ≤ q * ‖v x - r‖) (d : α → ℝ)
    (hd : ∀ x, ‖v x - r‖ ≤ ρ → d x = ‖v x - v (step x)‖) (test : α → Bool) (tol : ℝ)
    (htest : ∀ x, ‖v x - r‖ ≤ ρ → (test x = true ↔ d x ≤ tol)) (pts : α → List α)
    (n : ℕ) (x₀ : α) (tr : List α) (hx₀ : ‖v x₀ - r‖ ≤ ρ) :
    ‖v (loop step test pts n x₀ tr).1.x - r‖ ≤ ‖v x₀ - r‖ ∧
    ((loop step test pts n x₀ tr).1.ok = true →
      (1 - q) * ‖v (loop step test pts n x₀ tr).1.x - r‖ ≤ q * tol) ∧
    ((loop step test pts n x₀ tr).1.ok = false →
      ‖v (loop step test pts n x₀ tr).1.x - r‖ ≤ q ^ n * ‖v x₀ - r‖) ∧
    (1 ≤ n → (1 + q) * q ^ (n - 1) * ‖v x₀ - r‖ ≤ tol →
      (loop step test pts n x₀ tr).1.ok = true) := by
  obtain ⟨_, l2, l3, l4, l5⟩ := loop_converges v step r hq0 hq1 (ε := 0)
    (by rw [add_zero]; exact mul_le_of_le_one_left hρ hq1.le)
    (fun x hx => (hc x hx).trans_eq (add_zero _).symm) d (τ := 0)
    (fun x hx => by rw [hd x hx, sub_self, abs_zero]) le_rfl test tol htest pts n x₀ tr hx₀
  simp only [zero_div, add_zero] at l2 l3 l4 l5
  exact ⟨l2, fun h => (l3 h).2, l4, fun hn htol =>
    l5 (n - 1) (Nat.sub_lt hn Nat.one_pos) ((mul_assoc _ _ _).symm.trans_le htol)⟩

end Ohsl.NewtonGen
