/-
  Ohsl.Lemmas.DetRounding — helper file of Ohsl/Props/C02F.lean: rounding-error analysis of
  `Mat.determinant` and `Mat.inverse` in the "rounded reals" interpretation `Fl M`
  (Ohsl/Lemmas/Rounding.lean), on top of the LU analysis of Ohsl/Lemmas/LURounding.lean.

  The determinant: `det P = (-1)^pivots` for the recorded permutation, the diagonal product
  `1·û_00·…·û_{n-1,n-1}` is `n` rounded products, `(1+θ)` with `|θ| ≤ gam n`, and
  `L̂Û = P·C ⇒ det C = det P · ∏ û_kk` is pure real algebra.  The inverse: column `c` of the result
  solves the SAME two recurrences (`Mat.sdot`) as `forwardSub` / `backsolve` applied to column `c` of
  the permutation matrix (`inverse_sdot` of SolveRun.lean, every scalar type), so every column of
  the computed inverse solves a perturbed system with the row-permuted matrix exactly.
-/
import Ohsl.Lemmas.SolveRun
import Ohsl.Lemmas.LURounding
import Ohsl.Lemmas.LUDet
import Mathlib.LinearAlgebra.Matrix.Block
import Mathlib.LinearAlgebra.Matrix.Determinant.Basic
import Mathlib.Algebra.BigOperators.Intervals
import Mathlib.Algebra.Order.BigOperators.Group.Finset
import Mathlib.Algebra.BigOperators.Ring.Finset
import Mathlib.Tactic.Ring
import Mathlib.Tactic.SplitIfs
namespace Ohsl

namespace Mat

section PermParity
variable {M : FlModel}

/-- the real 0/1 entries of the matrix of the row permutation `π` -/
def permEntR (π : Nat → Nat) : Nat → Nat → ℝ := fun r c => if c = π r then 1 else 0

theorem permEntR_mul {n : Nat} (π : Nat → Nat) (hπ : ∀ r, r < n → π r < n) (C : Nat → Nat → ℝ) :
    toMat n (permEntR π) * toMat n C = toMat n (fun r c => C (π r) c) := by
  ext r c
  show ∑ k : Fin n, permEntR π r.val k.val * C k.val c.val = C (π r.val) c.val
  rw [Fin.sum_univ_eq_sum_range (fun k => permEntR π r.val k * C k c.val) n]
  simp only [permEntR, ite_mul, one_mul, zero_mul]
  rw [Finset.sum_ite_eq']
  simp [hπ r.val r.isLt]

theorem luDecomp_fl_par (hu : M.u < 1) {n : Nat} {A : Mat (Fl M)} {s : LU (Fl M)} (hA : WFn A n)
    (h : luDecomp A = .ok s) :
    ∃ π σ, LUInvF n (ent A) n s π σ ∧ (toMat n (permEntR π)).det = (-1 : ℝ) ^ s.pivots := by
  obtain ⟨π, σ, hs, τ, hπ, hsign⟩ := luDecomp_fl_inv hu hA h
  refine ⟨π, σ, hs, ?_⟩
  have : toMat n (permEntR π) = (1 : Matrix (Fin n) (Fin n) ℝ).submatrix τ id := by
    ext r c
    simp only [toMat, permEntR, Matrix.of_apply, Matrix.submatrix_apply, id, Matrix.one_apply,
      hπ r, Fin.ext_iff]
    exact if_congr eq_comm rfl rfl
  rw [this, Matrix.det_permute, Matrix.det_one, mul_one, hsign]
  simp

end PermParity

section Det
variable {M : FlModel}

theorem det_LU_perm {n : Nat} (w C : Nat → Nat → ℝ) (π : Nat → Nat)
    (hπ : ∀ r, r < n → π r < n) (p : Nat)
    (hP : (toMat n (permEntR π)).det = (-1 : ℝ) ^ p)
    (hLU : ∀ r c, r < n → c < n →
      ∑ k ∈ Finset.range n, Lfn w r k * Ufn n w k c = C (π r) c) :
    (toMat n C).det = (-1 : ℝ) ^ p * ∏ k ∈ Finset.range n, w k k := by
  have e : toMat n (Lfn w) * Umat n n w = toMat n (permEntR π) * toMat n C := by
    rw [permEntR_mul π hπ C]
    ext r c
    show ∑ k : Fin n, Lfn w r.val k.val * Ufn n w k.val c.val = C (π r.val) c.val
    rw [Fin.sum_univ_eq_sum_range (fun k => Lfn w r.val k * Ufn n w k c.val) n]
    exact hLU r.val c.val r.isLt c.isLt
  have hd := congrArg Matrix.det e
  rw [Matrix.det_mul, Matrix.det_mul, det_Lfn_eq_one, det_Umat_full, hP, one_mul] at hd
  have hsq : ((-1 : ℝ) ^ p) * ((-1 : ℝ) ^ p) = 1 := by
    rw [← mul_pow]; simp
  have : (toMat n C).det = (-1 : ℝ) ^ p * ((-1 : ℝ) ^ p * (toMat n C).det) := by
    rw [← mul_assoc, hsq, one_mul]
  rw [this, ← hd]

/-- `d = (-1)^pivots · ∏ û_kk · (1+θ)`, `|θ| ≤ gam n` (the sign flip is exact) -/
theorem determinant_fl (hu : M.u < 1) {n : Nat} {A : Mat (Fl M)} (hA : WFn A n) {d : Fl M}
    (h : determinant A = .ok d) :
    ∃ (s : LU (Fl M)) (π σ : Nat → Nat), luDecomp A = .ok s ∧ LUInvF n (ent A) n s π σ ∧
      (toMat n (permEntR π)).det = (-1 : ℝ) ^ s.pivots ∧
      ∃ θ : ℝ, |θ| ≤ M.gam n ∧
        d.val = (-1 : ℝ) ^ s.pivots * (∏ k ∈ Finset.range n, (ent s.lu k k).val) * (1 + θ) := by
  obtain ⟨s, hd⟩ := determinant_ok_luDecomp h
  obtain ⟨π, σ, hs, hpar⟩ := luDecomp_fl_par hu hA hd
  rw [determinant_eq_fold hd hA.2.1 hs.lu.is] at h
  -- the diagonal product: `n` rounded products from `1` (the first one is `fl(1·û_00)`, which the
  -- abstract model rounds like any other)
  obtain ⟨θ, hθ, hv⟩ := Fl.foldl_range_mul_rounding n (fun i => ent s.lu i i) 1
  rw [Fl.one_val, one_mul] at hv
  refine ⟨s, π, σ, hd, hs, hpar, θ, hθ, ?_⟩
  injection h with h
  subst h
  rw [apply_ite Fl.val, Fl.neg_val, ite_even_neg, hv, mul_assoc]

end Det

section InvFl
variable {M : FlModel}

/-- the right-hand side `P e_j` of the row-permuted system is a column of the stored 0/1 matrix: it
is copied, not computed, hence exact -/
theorem inverse_fl_core (hu : M.u < 1) {n : Nat} {A X : Mat (Fl M)} {a : Nat → Nat → Fl M}
    (hA : Is A n n a) (h : inverse A = .ok X) :
    ∃ s π σ, luDecomp A = .ok s ∧ LUInvF n (ent A) n s π σ ∧ WFn X n ∧
      (∀ k, k < n → (ent s.lu k k).val ≠ 0) ∧
      ∀ j, j < n → ∃ ΔA : Nat → Nat → ℝ,
        (∀ i, i < n → ∑ c ∈ Finset.range n,
          ((a i c).val + ΔA i c) * (ent X c j).val = if j = i then 1 else 0) ∧
        ∀ r c, r < n → c < n → |ΔA (π r) c| ≤ (M.gq (n - 1) + M.gq (2 * n - 1)) *
          ∑ k ∈ Finset.range n, |Lfn (valEnt s.lu) r k| * |Ufn n (valEnt s.lu) k c| := by
  obtain ⟨s, hd, hcols⟩ := inverse_sdot hA.wfn h
  obtain ⟨π, σ, hs⟩ := luDecomp_fl hu hA.wfn hd
  obtain ⟨b, hb, hcol⟩ := hcols _ hs.lu hs.perm
  refine ⟨s, π, σ, hd, hs, hb.wfn, ?_, ?_⟩
  · intro k hk
    obtain ⟨y, hy1, hy2⟩ := hcol 0 (Nat.zero_lt_of_lt hk)
    exact (Fl.divM_ok (hy2 k hk)).1
  · intro j hj
    obtain ⟨y, hy1, hy2⟩ := hcol j hj
    obtain ⟨lam, hlam, hL⟩ := fwd_rows_fl hu (ent s.lu) y
      (fun r => if j = π r then (1 : Fl M) else 0) hy1
    obtain ⟨mu, hmu, hU⟩ := back_rows_fl hu (ent s.lu) (fun k => b k j) y hy2
    have hβ : ∀ r, (if j = π r then (1 : Fl M) else 0).val = if j = π r then (1 : ℝ) else 0 :=
      fun r => apply_ite Fl.val _ _ _
    obtain ⟨ΔA, h1, h2⟩ := hs.permok.lu_compose_th hu (e := n - 1) (m := 0) (by omega)
      (a := fun i c => (a i c).val)
      (a' := fun i c => (ent A i c).val) (fun i c hi hc => congrArg Fl.val (hA.ent_eq hi hc))
      (Lfn (valEnt s.lu)) (Ufn n (valEnt s.lu))
      (fun i => if j = i then (1 : ℝ) else 0) (fun k => (y k).val) (fun c => (b c j).val)
      lam mu hs.factor
      (fun r hr => (hL r hr).trans (hβ r))
      (fun k hk => (hU k hk).2) (fun r k _ => hlam r k) hmu
    refine ⟨ΔA, fun r hr => ?_, h2⟩
    rw [← h1 r hr]
    apply Finset.sum_congr rfl
    intro c hc
    rw [hb.ent_eq (Finset.mem_range.mp hc) hj]

end InvFl

end Mat
end Ohsl
