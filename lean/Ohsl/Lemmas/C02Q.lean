/-
  Ohsl.Lemmas.C02Q — what `Mat.luDecomp` records, for EVERY exact element type: `K` any field with
  any `ScalarExt K` / lawful `BEq K` satisfying `Alg.PivotLaws K` (Ohsl/Lemmas/Alg.lean); a linearly
  ordered field with `Alg.scalarExt` and the model's `Cx ℝ` are instances.  No proof uses an order
  on `K`: the run is `luPrefix_run` (Ohsl/Lemmas/C02P.lean, any scalar type with a `PivotLaw`) at
  the law `Alg.pivotLaw` of such a field (Ohsl/Lemmas/LUDet.lean).

  The definitions (`luPrefix`, `pivotChoice`, `exchangeAt`, `exchangeCount`, `pivotSwap`,
  `luPermUpTo`, `luPerm`, `permEntries`) are those of Ohsl/Lemmas/C02P.lean (structural, any `K`).
  What follows for the whole run `luDecomp A` is in Ohsl/Lemmas/LURecord.lean.
-/
import Ohsl.Lemmas.C02P
import Ohsl.Lemmas.LUDet
namespace Ohsl
namespace Mat

section Gen
variable {K : Type} [Field K] [BEq K] [LawfulBEq K] [ScalarExt K] [DecidableEq K]
  [Alg.PivotLaws K]

set_option linter.unusedSectionVars false in
/-- **Invariant of `lu_decomp_in_place`, any exact element type**: after `k ≤ n` column steps on a
    well-formed square matrix the run has not failed, the recorded matrix is the permutation
    matrix of `luPermUpTo A n k` (the product of the transpositions chosen by the model's own
    pivot search), the counter equals the number of exchanges performed so far, and the sign of
    the permutation is `(-1)^pivots`. -/
theorem luPrefix_spec_gen {A : Mat K} {n : Nat} {a : Nat → Nat → K} (h : Is A n n a) :
    ∀ k, k ≤ n → ∃ s w, luPrefix A k = .ok s ∧ Is s.lu n n w ∧
      Is s.perm n n (permEntries (luPermUpTo A n k)) ∧ s.pivots = exchangeCount A k ∧
      Equiv.Perm.sign (luPermUpTo A n k) = (-1) ^ s.pivots := by
  intro k hk
  obtain ⟨s, w, h1, h2, h3, h4, h5, _⟩ := luPrefix_run Alg.pivotLaw h k hk
  exact ⟨s, w, h1, h2, h3, h4, h5⟩

set_option linter.unusedSectionVars false in
/-- the pivot row chosen at a step `k < n` lies in `[k, n)` -/
theorem pivotChoice_range_gen {A : Mat K} {n : Nat} {a : Nat → Nat → K} (h : Is A n n a)
    {k p : Nat} (hk : k < n) (hp : pivotChoice A k = some p) : k ≤ p ∧ p < n := by
  obtain ⟨_, _, _, _, _, _, _, hrange, _⟩ := luPrefix_run Alg.pivotLaw h (k + 1) hk
  exact hrange k p (Nat.lt_succ_self k) hp

end Gen

end Mat
end Ohsl
