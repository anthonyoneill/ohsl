/-
  Ohsl.Lemmas.C17X — facts about vectors, matrices and the inf-norm used by the theorems on the
  system Newton iteration (Ohsl/Props/C17A.lean … C17X.lean), for every element type.
  The inf-norm `Vec.normInfBy` (of which `Vec.normInf`, with `fabs`, and `Vec.normInfC`, with the
  complex modulus, are instances) is defined exactly on non-empty vectors.  The tolerance test of
  `Newton<Vector<Cmplx>>` compares the largest MODULUS of the residual with `tol`, in ℝ.
-/
import Ohsl.Lemmas.CxField
import Ohsl.Lemmas.ArrayIndex
import Ohsl.Lemmas.MatIdx
import Ohsl.Lemmas.Alg
namespace Ohsl.C17X
open Ohsl Ohsl.Mat

theorem Is_unique_any {K : Type} {r c : Nat} {e : Nat → Nat → K} {A B : Mat K}
    (hA : Mat.Is A r c e) (hB : Mat.Is B r c e) : A = B :=
  hA.unique hB

theorem vecSub_ok_iff {K : Type} [Sub K] (x dx : Array K) :
    (∃ x', Vec.sub x dx = .ok x') ↔ x.size = dx.size :=
  ⟨fun ⟨_, h⟩ => (Vec.sub_eq_ok_iff.1 h).1, fun h => ⟨_, Vec.sub_eq_ok_iff.2 ⟨h, rfl⟩⟩⟩

theorem vecSub_get {K : Type} [Sub K] [Zero K] {x dx x' : Array K} (h : Vec.sub x dx = .ok x')
    {j : Nat} (hj : j < x.size) : x'[j]?.getD 0 = x[j]?.getD 0 - dx[j]?.getD 0 := by
  obtain ⟨hs, rfl⟩ := Vec.sub_eq_ok_iff.1 h
  rw [Array.getElem?_eq_getElem (by rw [Array.size_zipWith, ← hs, Nat.min_self]; exact hj),
    Array.getElem?_eq_getElem hj, Array.getElem?_eq_getElem (hs ▸ hj), Array.getElem_zipWith]
  rfl

theorem vecSub_zero_field {K : Type} [Field K] {n : Nat} {x : Array K} (hx : x.size = n) :
    Vec.sub x (Array.replicate n (0 : K)) = .ok x := by
  refine Vec.sub_eq_ok_iff.2 ⟨by rw [Array.size_replicate, hx], Array.ext ?_ fun i h1 h2 => ?_⟩
  · rw [Array.size_zipWith, Array.size_replicate, hx, Nat.min_self]
  · rw [Array.getElem_zipWith, Array.getElem_replicate, sub_zero]

theorem solveBasic_ok_sizes_any {K : Type} [Sub K] [Mul K] [Zero K] [ScalarExt K]
    {J : Mat K} {b dx : Array K} (h : Mat.solveBasic J b = .ok dx) :
    J.rows = b.size ∧ J.rows = J.cols := by
  unfold Mat.solveBasic at h
  split at h
  · cases h
  · split at h
    · cases h
    · rename_i h1 h2
      exact ⟨not_not.mp h1, not_not.mp h2⟩

section Norm
variable {α R : Type} [BEq R] [ScalarExt R] (g : α → R)

theorem normInfBy_error_iff (v : Array α) :
    (∃ e, Vec.normInfBy g v = .error e) ↔ v.size = 0 := by
  unfold Vec.normInfBy
  constructor
  · rintro ⟨e, h⟩
    by_contra hne
    rw [Array.getElem?_eq_getElem (Nat.pos_of_ne_zero hne)] at h
    cases h
  · intro h
    rw [Array.getElem?_eq_none (Nat.le_of_eq h)]
    exact ⟨_, rfl⟩

theorem normInfBy_total {v : Array α} (h : 1 ≤ v.size) : ∃ r, Vec.normInfBy g v = .ok r := by
  cases hv : Vec.normInfBy g v with
  | ok r => exact ⟨r, rfl⟩
  | error e => exact absurd ((normInfBy_error_iff g v).1 ⟨e, hv⟩) (Nat.ne_of_gt h)

/-- `norm_inf` of a non-empty constant vector is the magnitude of its entry, when that magnitude is
    not below itself and equals itself (the NaN test `|x| != |x|` of repair D14 does not fire) -/
theorem normInfBy_replicate {n : Nat} (hn : 1 ≤ n) (z : α)
    (hlt : ScalarExt.lt (g z) (g z) = false) (heq : (g z == g z) = true) :
    Vec.normInfBy g (Array.replicate n z) = .ok (g z) := by
  have keep : ∀ l : List α, (∀ x ∈ l, x = z) → l.foldl
      (fun r x => if ScalarExt.lt r (g x) || !(g x == g x) then g x else r) (g z) = g z := by
    intro l
    induction l with
    | nil => intro _; rfl
    | cons a l ih =>
      intro hl
      rw [List.foldl_cons, hl a List.mem_cons_self, hlt, heq]
      exact ih fun x hx => hl x (List.mem_cons_of_mem a hx)
  rw [Vec.normInfBy, Array.getElem?_replicate, if_pos (show 0 < n from hn)]
  dsimp only
  rw [← Array.foldl_toList]
  exact congrArg Except.ok (keep _ fun x hx => by simp at hx; exact hx.2)

end Norm

section Ordered
variable {K : Type} [Field K] [LinearOrder K] [Transc K]
attribute [local instance] Ohsl.Alg.scalarExt

/-- the two facts about the stopping test that the norm-generic theorems need, for the model's
    `Vec.normInf` and `fun r => Transc.le r tol` over a linearly ordered field -/
theorem concrete_norm (hle : ∀ x y : K, Transc.le x y = decide (x ≤ y))
    (habs0 : Transc.fabs (0 : K) = 0) (tol : K) (htol : 0 ≤ tol) (n : Nat) (hn : 1 ≤ n) :
    (∀ v : Array K, v.size = n → ∃ r, Vec.normInf v = .ok r) ∧
    (∀ r, Vec.normInf (Array.replicate n (0 : K)) = .ok r → Transc.le r tol = true) := by
  refine ⟨fun v hv => normInfBy_total _ (hv ▸ hn), fun r hr => ?_⟩
  rw [Vec.normInf, normInfBy_replicate _ hn 0 (by rw [habs0]; exact decide_eq_false (lt_irrefl 0))
    (beq_self_eq_true _)] at hr
  cases hr
  rw [habs0, hle]
  exact decide_eq_true htol

end Ordered

theorem concrete_normC (tol : ℝ) (htol : 0 ≤ tol) (n : Nat) (hn : 1 ≤ n) :
    (∀ v : Array (Cx ℝ), v.size = n → ∃ r, Vec.normInfC v = .ok r) ∧
    (∀ r, Vec.normInfC (Array.replicate n (0 : Cx ℝ)) = .ok r → Transc.le r tol = true) := by
  refine ⟨fun v hv => normInfBy_total _ (hv ▸ hn), fun r hr => ?_⟩
  rw [Vec.normInfC, normInfBy_replicate _ hn 0
    (by rw [CxField.abs_zero]; exact decide_eq_false (lt_irrefl (0 : ℝ))) (beq_self_eq_true _)] at hr
  cases hr
  rw [CxField.abs_zero]
  exact decide_eq_true htol

end Ohsl.C17X
