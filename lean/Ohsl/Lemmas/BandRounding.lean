/-
  Ohsl.Lemmas.BandRounding — backward error analysis of the banded solver (`Band.decompose` =
  `bandec`, `Band.solve` = `banbks`) in the "rounded reals" interpretation `Fl M`
  (Ohsl/Lemmas/Rounding.lean).  Helper file of Ohsl/Props/C04F.lean (read its header first).

  `TRel`: the relation `β = Σ_{t<ρ} l_t v_t θ_t + v_r θ₀` with perturbation factors, and its three
  moves `TRel.upd` (a rounded multiply–subtract), `TRel.kill` (the eliminated entry), `TRel.skip`;
  `TRel.elimStep`, one elimination step on one entry, serves the matrix (`MInv.step`) and the
  right-hand side (`fwd_invF`) alike.  `pik`, `sig`, `Lt`, `age`: the row permutation, the unit lower
  factor in `P·B = L̂·Û` form and the number of elimination steps a row went through, all replayed
  from `(al, index)`.
-/
import Ohsl.Lemmas.BandSpec
import Ohsl.Lemmas.LURounding
import Mathlib.Algebra.BigOperators.Group.Finset.Basic
import Mathlib.Algebra.BigOperators.Ring.Finset
import Mathlib.Algebra.BigOperators.Intervals
import Mathlib.Algebra.Order.BigOperators.Group.Finset
import Mathlib.Tactic.Ring
import Mathlib.Tactic.FieldSimp
namespace Ohsl
namespace Band
open Mat (forM' Is forM'_inv aget_ok aset_ok aget_eq_ok swapIdx swapIdx_min swapIdx_of_ne swapFn PermOK)

section DecF
variable {M : FlModel}

open Classical in
/-- the guarded division of `decElim` in `Fl M`: the literal zero for a zero pivot, the ROUNDED
quotient otherwise -/
noncomputable def qFl (a p : Fl M) : Fl M := if p.val = 0 then 0 else a / p

theorem dumR_qFl (a p : Fl M) : dumR a p = .ok (qFl a p) := by
  unfold dumR qFl
  by_cases hp : p.val = 0
  · have : (p == 0) = true := (Fl.beq_zero_iff _).mpr hp
    rw [if_pos this, if_pos hp]; rfl
  · have : ¬ (p == 0) = true := fun hc => hp ((Fl.beq_zero_iff _).mp hc)
    rw [if_neg this, if_neg hp, Fl.divM_of_val_ne hp]

/-- the multiplier of row `i` against pivot row `k` as the code computes it in `Fl M` -/
noncomputable def mulF (e : Nat → Nat → Fl M) (k i : Nat) : Fl M := qFl (e i 0) (e k 0)

theorem zeroFix_of_maxF {e : Nat → Nat → Fl M} {k ip : Nat}
    (h : |(e k 0).val| ≤ |(e ip 0).val|) : zeroFix e k ip = e := by
  funext a b
  unfold zeroFix
  by_cases hc : (e ip 0 == 0) = true ∧ a = k ∧ b = 0
  · obtain ⟨hz, rfl, rfl⟩ := hc
    rw [if_pos ⟨hz, rfl, rfl⟩]
    rw [(Fl.beq_zero_iff _).mp hz, abs_zero] at h
    exact (Fl.ext (abs_nonpos_iff.mp h)).symm
  · rw [if_neg hc]

end DecF

section SwapIdx
variable {M : FlModel}

theorem swapIdx_lt_of {k ip r : Nat} (hr : r < k) : swapIdx k ip r = r ∨ ip < k := by
  unfold swapIdx
  split_ifs <;> omega

end SwapIdx

section TRelS
variable {M : FlModel}

/-- `β = Σ_{t<ρ} l_t v_t θ_t + v_r θ₀`, `θ₀` a product of at most `a` factors `(1+δ)^{±1}`, every
`θ_t` of at most `b`.  (`β`: an entry of the row-permuted input / right-hand side; `l_t`: the
multipliers of the row; `v_t`: the finished entries of the column; `v_r`: the current entry.) -/
def TRel (M : FlModel) (ρ : Nat) (β : ℝ) (Lr v : Nat → ℝ) (vr : ℝ) (a b : Nat) : Prop :=
  ∃ (θ0 : ℝ) (θ : Nat → ℝ), M.Th a θ0 ∧ (∀ t, M.Th b (θ t)) ∧
    β = (∑ t ∈ Finset.range ρ, Lr t * v t * θ t) + vr * θ0

theorem TRel.init (hu : M.u < 1) {β vr : ℝ} (Lr v : Nat → ℝ) (a b : Nat) (h : β = vr) :
    TRel M 0 β Lr v vr a b :=
  ⟨1, fun _ => 1, FlModel.Th.one.mono hu (Nat.zero_le _),
    fun _ => FlModel.Th.one.mono hu (Nat.zero_le _), by simp [h]⟩

theorem TRel.congr {ρ : Nat} {β vr vr' : ℝ} {Lr v Lr' v' : Nat → ℝ} {a b : Nat}
    (h : TRel M ρ β Lr v vr a b) (hL : ∀ t, t < ρ → Lr' t * v' t = Lr t * v t) (hv : vr' = vr) :
    TRel M ρ β Lr' v' vr' a b := by
  obtain ⟨θ0, θ, h0, hθ, e⟩ := h
  refine ⟨θ0, θ, h0, hθ, ?_⟩
  rw [e, hv]
  congr 1
  apply Finset.sum_congr rfl
  intro t ht
  rw [hL t (Finset.mem_range.mp ht)]

theorem TRel.mono (hu : M.u < 1) {ρ : Nat} {β vr : ℝ} {Lr v : Nat → ℝ} {a b a' b' : Nat}
    (h : TRel M ρ β Lr v vr a b) (ha : a ≤ a') (hb : b ≤ b') : TRel M ρ β Lr v vr a' b' := by
  obtain ⟨θ0, θ, h0, hθ, e⟩ := h
  exact ⟨θ0, θ, h0.mono hu ha, fun t => (hθ t).mono hu hb, e⟩

theorem TRel.vr_zero (hu : M.u < 1) {ρ : Nat} {β : ℝ} {Lr v : Nat → ℝ} {a b : Nat}
    (h : TRel M ρ β Lr v 0 a b) (a' : Nat) : TRel M ρ β Lr v 0 a' b := by
  obtain ⟨θ0, θ, h0, hθ, e⟩ := h
  exact ⟨1, θ, FlModel.Th.one.mono hu (Nat.zero_le _), hθ, by rw [e]; ring⟩

/-- a step that does not touch the row (its multiplier, or the pivot entry, is an exact zero) -/
theorem TRel.skip {ρ : Nat} {β vr : ℝ} {Lr v : Nat → ℝ} {a b : Nat}
    (h : TRel M ρ β Lr v vr a b) (hz : Lr ρ * v ρ = 0) : TRel M (ρ + 1) β Lr v vr a b := by
  obtain ⟨θ0, θ, h0, hθ, e⟩ := h
  refine ⟨θ0, θ, h0, hθ, ?_⟩
  rw [Finset.sum_range_succ, hz, e]; ring

theorem sum_update_range (f θ : Nat → ℝ) (ρ : Nat) (a : ℝ) :
    ∑ t ∈ Finset.range ρ, f t * (if t = ρ then a else θ t) = ∑ t ∈ Finset.range ρ, f t * θ t :=
  Finset.sum_congr rfl fun t ht => by rw [if_neg (Nat.ne_of_lt (Finset.mem_range.mp ht))]

/-- one rounded multiply–subtract `x = fl(y − fl(q·p))` on the current entry -/
theorem TRel.upd (hu : M.u < 1) {ρ : Nat} {β vr : ℝ} {Lr v : Nat → ℝ} {a b : Nat}
    (h : TRel M ρ β Lr v vr a b) (hab : a + 1 ≤ b) {x y p q : Fl M} (hx : x = y - q * p)
    (hy : vr = y.val) (hq : Lr ρ = q.val) (hp : v ρ = p.val) :
    TRel M (ρ + 1) β Lr v x.val (a + 1) b := by
  obtain ⟨θ0, θ, h0, hθ, e⟩ := h
  obtain ⟨τ1, hτ1, e1⟩ := FlModel.exists_th hu (q.val * p.val)
  obtain ⟨τ2, hτ2, e2⟩ := FlModel.exists_th hu (y.val - (q * p).val)
  have hxv : x.val = (y.val - q.val * p.val * τ1) * τ2 := by
    rw [hx, Fl.sub_val, e2, Fl.mul_val, e1]
  refine ⟨θ0 / τ2, fun t => if t = ρ then τ1 * θ0 else θ t, h0.div hu hτ2,
    FlModel.Th.update ((hτ1.mul hu h0).mono hu (Nat.add_comm 1 a ▸ hab)) hθ, ?_⟩
  beta_reduce
  rw [Finset.sum_range_succ, if_pos rfl, sum_update_range, e, hy, hq, hp, hxv]
  linear_combination -Mat.th_sub_mul (s := y.val) (p := q.val * p.val) (τ1 := τ1) (θ := θ0)
    (hτ2.pos hu).ne'

/-- the eliminated entry: `q = fl(y / p)`, the current entry becomes (and is no longer stored as)
zero -/
theorem TRel.kill (hu : M.u < 1) {ρ : Nat} {β vr : ℝ} {Lr v : Nat → ℝ} {a b : Nat}
    (h : TRel M ρ β Lr v vr a b) (hab : a + 1 ≤ b) {y p q : Fl M} (hp0 : p.val ≠ 0)
    (hqe : q = y / p) (hy : vr = y.val) (hq : Lr ρ = q.val) (hp : v ρ = p.val) (a' : Nat) :
    TRel M (ρ + 1) β Lr v 0 a' b := by
  obtain ⟨θ0, θ, h0, hθ, e⟩ := h
  obtain ⟨τ, hτ, eτ⟩ := FlModel.exists_th hu (y.val / p.val)
  have hqv : q.val = y.val / p.val * τ := by rw [hqe, Fl.div_val, eτ]
  refine ⟨1, fun t => if t = ρ then θ0 / τ else θ t, FlModel.Th.one.mono hu (Nat.zero_le _),
    FlModel.Th.update ((h0.div hu hτ).mono hu hab) hθ, ?_⟩
  beta_reduce
  rw [Finset.sum_range_succ, if_pos rfl, sum_update_range, e, hy, hq, hp, hqv]
  linear_combination -Mat.th_div_mul (a := y.val) (θ := θ0) hp0 (hτ.pos hu).ne'

theorem sum_lower {n r : Nat} (f : Nat → ℝ) (hr : r < n) (hz : ∀ t, r < t → t < n → f t = 0) :
    ∑ t ∈ Finset.range n, f t = (∑ t ∈ Finset.range r, f t) + f r := by
  rw [Mat.sum_range_split f hr, add_eq_left]
  exact Finset.sum_eq_zero fun t ht => hz t (Finset.mem_Ico.1 ht).1 (Finset.mem_Ico.1 ht).2

theorem TRel.full (hu : M.u < 1) {n r : Nat} {β vr : ℝ} {Lr v : Nat → ℝ} {a b : Nat}
    (h : TRel M r β Lr v vr a b) (hr : r < n) (hL : ∀ t, r ≤ t → Lr t = 0) (hv : v r = vr)
    (hab : vr ≠ 0 → a ≤ b) :
    ∃ Θ : Nat → ℝ, (∀ t, M.Th b (Θ t)) ∧
      β = ∑ t ∈ Finset.range n, (if t = r then 1 else Lr t) * (v t * Θ t) := by
  obtain ⟨θ0, θ, h0, hθ, e⟩ := h
  by_cases hvr : vr = 0
  · refine ⟨fun t => if t = r then 1 else θ t, ?_, ?_⟩
    · intro t
      beta_reduce
      by_cases ht : t = r
      · rw [if_pos ht]; exact FlModel.Th.one.mono hu (Nat.zero_le _)
      · rw [if_neg ht]; exact hθ t
    · rw [sum_lower _ hr, e, hvr, if_pos rfl, hv, hvr]
      · simp only [zero_mul, mul_zero, add_zero]
        apply Finset.sum_congr rfl
        intro t ht
        have : ¬ t = r := by have := Finset.mem_range.mp ht; omega
        rw [if_neg this, if_neg this]; ring
      · intro t ht1 ht2
        have : ¬ t = r := by omega
        rw [if_neg this, hL t (by omega)]; ring
  · refine ⟨fun t => if t = r then θ0 else θ t, ?_, ?_⟩
    · intro t
      beta_reduce
      by_cases ht : t = r
      · rw [if_pos ht]; exact h0.mono hu (hab hvr)
      · rw [if_neg ht]; exact hθ t
    · rw [sum_lower _ hr, e]
      · beta_reduce
        rw [if_pos rfl, if_pos rfl, hv]
        congr 1
        · apply Finset.sum_congr rfl
          intro t ht
          have : ¬ t = r := by have := Finset.mem_range.mp ht; omega
          rw [if_neg this, if_neg this]; ring
        · ring
      · intro t ht1 ht2
        have : ¬ t = r := by omega
        rw [if_neg this, hL t (by omega)]; ring

end TRelS

section Replay

/-- the row permutation after `k` steps: position `r` holds the original row `pik idx k r` -/
def pik (idx : Nat → Nat) : Nat → Nat → Nat
  | 0, r => r
  | k + 1, r => pik idx k (swapIdx k (idx k - 1) r)

/-- its inverse: the original row `j` sits at position `sig idx k j` -/
def sig (idx : Nat → Nat) : Nat → Nat → Nat
  | 0, j => j
  | k + 1, j => swapIdx k (idx k - 1) (sig idx k j)

/-- the strictly lower part of the factor `L̂` of `P·B = L̂·Û` after `k` steps: entry `(r, t)` is the
multiplier that step `t` applied to the row which now sits at position `r` (the stored multipliers
of `al`, carried along with the later row exchanges — `bandec` itself does not permute them) -/
def Lt (n m1 : Nat) (ea : Nat → Nat → ℝ) (idx : Nat → Nat) : Nat → Nat → Nat → ℝ
  | 0, _, _ => 0
  | k + 1, r, t =>
    if t = k then (if k < r ∧ r < min (m1 + k + 1) n then ea k (r - k - 1) else 0)
    else Lt n m1 ea idx k (swapIdx k (idx k - 1) r) t

/-- the number of elimination steps the row now at position `r` went through -/
def age (n m1 : Nat) (idx : Nat → Nat) : Nat → Nat → Nat
  | 0, _ => 0
  | k + 1, r =>
    age n m1 idx k (swapIdx k (idx k - 1) r) + (if k < r ∧ r < min (m1 + k + 1) n then 1 else 0)

theorem pik_congr {idx idx' : Nat → Nat} :
    ∀ k, (∀ k', k' < k → idx' k' = idx k') → ∀ r, pik idx' k r = pik idx k r
  | 0, _, _ => rfl
  | k + 1, h, r => by
    simp only [pik]
    rw [h k (by omega), pik_congr k (fun k' hk' => h k' (by omega))]

theorem Lt_congr {n m1 : Nat} {ea ea' : Nat → Nat → ℝ} {idx idx' : Nat → Nat} :
    ∀ k, (∀ k', k' < k → (∀ b, b < m1 → ea' k' b = ea k' b) ∧ idx' k' = idx k') →
      ∀ r t, Lt n m1 ea' idx' k r t = Lt n m1 ea idx k r t
  | 0, _, _, _ => rfl
  | k + 1, h, r, t => by
    simp only [Lt]
    rw [(h k (by omega)).2, Lt_congr k (fun k' hk' => h k' (by omega))]
    by_cases hc : k < r ∧ r < min (m1 + k + 1) n
    · rw [if_pos hc, if_pos hc, (h k (by omega)).1 (r - k - 1) (by omega)]
    · rw [if_neg hc, if_neg hc]

theorem age_congr {n m1 : Nat} {idx idx' : Nat → Nat} :
    ∀ k, (∀ k', k' < k → idx' k' = idx k') → ∀ r, age n m1 idx' k r = age n m1 idx k r
  | 0, _, _ => rfl
  | k + 1, h, r => by
    simp only [age]
    rw [h k (by omega), age_congr k (fun k' hk' => h k' (by omega))]

theorem pik_succ {idx idx' : Nat → Nat} {k ip : Nat} (hidx : idx' k = ip + 1)
    (hidxo : ∀ k', k' < k → idx' k' = idx k') (r : Nat) :
    pik idx' (k + 1) r = pik idx k (swapIdx k ip r) := by
  simp only [pik]
  rw [hidx, Nat.add_sub_cancel, pik_congr k hidxo]

theorem Lt_succ {n m1 k ip : Nat} {ea ea' : Nat → Nat → ℝ} {idx idx' : Nat → Nat} {μ : Nat → ℝ}
    (hk : k < n)
    (hea : ∀ a b, a < n → b < m1 → ea' a b = elimA μ ea k (min (m1 + k + 1) n) a b)
    (hidx : idx' k = ip + 1) (hidxo : ∀ k', k' < k → idx' k' = idx k') (r t : Nat) :
    Lt n m1 ea' idx' (k + 1) r t =
      if t = k then (if k < r ∧ r < min (m1 + k + 1) n then μ r else 0)
      else Lt n m1 ea idx k (swapIdx k ip r) t := by
  simp only [Lt]
  rw [hidx, Nat.add_sub_cancel]
  by_cases htk : t = k
  · rw [if_pos htk, if_pos htk]
    by_cases hc : k < r ∧ r < min (m1 + k + 1) n
    · rw [if_pos hc, if_pos hc, hea k (r - k - 1) hk (by omega), elimA_window _ _ hc.1 hc.2]
    · rw [if_neg hc, if_neg hc]
  · rw [if_neg htk, if_neg htk]
    apply Lt_congr
    intro k' hk'
    refine ⟨fun b hb => ?_, hidxo k' hk'⟩
    rw [hea k' b (by omega) hb, elimA_of_ne _ _ _ (Nat.ne_of_lt hk')]

theorem permOK_pik {n : Nat} {idx : Nat → Nat} :
    ∀ k, k ≤ n → (∀ k', k' < k → idx k' - 1 < n) → PermOK n (pik idx k) (sig idx k)
  | 0, _, _ => PermOK.id n
  | k + 1, hk, h => by
    have ih := permOK_pik k (by omega) (fun k' hk' => h k' (by omega))
    exact ih.swap (show k < n by omega) (h k (by omega))

theorem Lt_zero_of_ge {n m1 : Nat} {ea : Nat → Nat → ℝ} {idx : Nat → Nat} :
    ∀ k r t, k ≤ t → Lt n m1 ea idx k r t = 0
  | 0, _, _, _ => rfl
  | k + 1, r, t, h => by
    simp only [Lt]
    rw [if_neg (by omega)]
    exact Lt_zero_of_ge k _ t (by omega)

theorem Lt_zero_of_row {n m1 : Nat} {ea : Nat → Nat → ℝ} {idx : Nat → Nat} :
    ∀ k, (∀ k', k' < k → k' ≤ idx k' - 1) → ∀ r t, r ≤ t → Lt n m1 ea idx k r t = 0
  | 0, _, _, _, _ => rfl
  | k + 1, h, r, t, hrt => by
    simp only [Lt]
    by_cases htk : t = k
    · rw [if_pos htk, if_neg (by omega)]
    · rw [if_neg htk]
      by_cases hkt : k ≤ t
      · exact Lt_zero_of_ge k _ t hkt
      · apply Lt_zero_of_row k (fun k' hk' => h k' (by omega))
        have := h k (by omega)
        unfold swapIdx
        split_ifs <;> omega

theorem age_le {n m1 : Nat} {idx : Nat → Nat} :
    ∀ k, (∀ k', k' < k → k' ≤ idx k' - 1) → ∀ r, age n m1 idx k r ≤ min r k
  | 0, _, _ => by simp [age]
  | k + 1, h, r => by
    simp only [age]
    have ih := age_le (n := n) (m1 := m1) k (fun k' hk' => h k' (Nat.lt_succ_of_lt hk'))
      (swapIdx k (idx k - 1) r)
    rw [swapIdx_min (Nat.le_refl _) (h k (Nat.lt_succ_self k))] at ih
    by_cases hc : k < r ∧ r < min (m1 + k + 1) n
    · rw [if_pos hc, Nat.min_eq_right hc.1]
      rw [Nat.min_eq_right (Nat.le_of_lt hc.1)] at ih
      exact Nat.succ_le_succ ih
    · rw [if_neg hc]
      exact ih.trans (min_le_min (Nat.le_refl r) (Nat.le_succ k))

theorem age_le_m1 {n m1 : Nat} {idx : Nat → Nat} :
    ∀ k, (∀ k', k' < k → idx k' - 1 = k') → ∀ r, age n m1 idx k r ≤ min k r - (r - m1)
  | 0, _, _ => Nat.zero_le _
  | k + 1, h, r => by
    have ih := age_le_m1 (n := n) (m1 := m1) k (fun k' hk' => h k' (Nat.lt_succ_of_lt hk')) r
    simp only [age]
    rw [h k (Nat.lt_succ_self k), Mat.swapIdx_self]
    by_cases hc : k < r ∧ r < min (m1 + k + 1) n
    · -- a window row: `r - m1 ≤ k`, so the bound goes up by one with `k`
      rw [if_pos hc, Nat.min_eq_left hc.1]
      rw [Nat.min_eq_left (Nat.le_of_lt hc.1)] at ih
      have hrm : r - m1 ≤ k := by have := Nat.lt_of_lt_of_le hc.2 (Nat.min_le_left _ _); omega
      omega
    · rw [if_neg hc, Nat.add_zero]
      exact ih.trans (Nat.sub_le_sub_right (min_le_min (Nat.le_succ k) (Nat.le_refl r)) _)

theorem pik_window {n m1 : Nat} {idx : Nat → Nat} :
    ∀ k, (∀ k', k' < k → k' ≤ idx k' - 1 ∧ idx k' - 1 < min (m1 + k' + 1) n) →
      (∀ r, min (m1 + k) n ≤ r → pik idx k r = r) ∧
      (∀ r, r < min (m1 + k) n → pik idx k r < min (m1 + k) n)
  | 0, _ => ⟨fun _ _ => rfl, fun _ hr => hr⟩
  | k + 1, h => by
    obtain ⟨ih1, ih2⟩ := pik_window (n := n) (m1 := m1) k
      (fun k' hk' => h k' (Nat.lt_succ_of_lt hk'))
    obtain ⟨hip1, hip2⟩ := h k (Nat.lt_succ_self k)
    have hkw : k < min (m1 + k + 1) n := Nat.lt_of_le_of_lt hip1 hip2
    constructor
    · intro r hr
      simp only [pik]
      rw [swapIdx_of_ne (Nat.ne_of_gt (Nat.lt_of_lt_of_le hkw hr))
        (Nat.ne_of_gt (Nat.lt_of_lt_of_le hip2 hr))]
      exact ih1 r (Nat.le_trans (window_mono n m1 k) hr)
    · intro r hr
      simp only [pik]
      have hs : swapIdx k (idx k - 1) r < min (m1 + (k + 1)) n := Mat.swapIdx_lt hkw hip2 hr
      by_cases hlt : swapIdx k (idx k - 1) r < min (m1 + k) n
      · exact (ih2 _ hlt).trans_le (window_mono n m1 k)
      · rw [ih1 _ (Nat.le_of_not_lt hlt)]; exact hs

/-- a row that started as row `i` and sits at position `r` was eliminated at most
`min r k + m1 - i` times: it entered the window at step `i - m1` -/
theorem age_le_disp {n m1 : Nat} {idx : Nat → Nat} :
    ∀ k, (∀ k', k' < k → k' ≤ idx k' - 1 ∧ idx k' - 1 < min (m1 + k' + 1) n) →
      ∀ r, age n m1 idx k r ≤ min r k + m1 - pik idx k r
  | 0, _, _ => Nat.zero_le _
  | k + 1, h, r => by
    have ih := age_le_disp (n := n) (m1 := m1) k (fun k' hk' => h k' (Nat.lt_succ_of_lt hk'))
      (swapIdx k (idx k - 1) r)
    rw [swapIdx_min (Nat.le_refl _) (h k (Nat.lt_succ_self k)).1] at ih
    have hw := (pik_window (n := n) (m1 := m1) (idx := idx) (k + 1) h).2 r
    simp only [age]
    simp only [pik] at hw ⊢
    by_cases hc : k < r ∧ r < min (m1 + k + 1) n
    · -- a window row started inside the window: `pik … < m1 + k + 1`, so one more step fits
      have hp := Nat.lt_of_lt_of_le (hw hc.2) (Nat.min_le_left _ _)
      rw [if_pos hc, Nat.min_eq_right hc.1]
      rw [Nat.min_eq_right (Nat.le_of_lt hc.1)] at ih
      omega
    · rw [if_neg hc, Nat.add_zero]
      exact ih.trans (Nat.sub_le_sub_right (Nat.add_le_add_right
        (min_le_min (Nat.le_refl r) (Nat.le_succ k)) _) _)

theorem pik_id {idx : Nat → Nat} :
    ∀ k, (∀ k', k' < k → idx k' - 1 = k') → ∀ r, pik idx k r = r
  | 0, _, _ => rfl
  | k + 1, h, r => by
    simp only [pik]
    rw [h k (by omega), Mat.swapIdx_self]
    exact pik_id k (fun k' hk' => h k' (by omega)) r

end Replay

section DecInvS
variable {M : FlModel}

/-- number of rounded updates an entry of column `c` can have received in a row that went through
`ρ` elimination steps: the entry enters the compact storage (as the literal zero) at step
`c - (mm-1)` -/
def NN (mm ρ c : Nat) : Nat := min ρ (ρ + (mm - 1) - c)

theorem NN_mono {mm ρ ρ' : Nat} (c : Nat) (h : ρ ≤ ρ') : NN mm ρ c ≤ NN mm ρ' c :=
  min_le_min h (Nat.sub_le_sub_right (Nat.add_le_add_right h _) _)

theorem NN_upd {mm k c : Nat} (hc : k + 1 ≤ c ∧ c < k + mm) :
    NN mm k c + 1 ≤ NN mm (k + 1) c ∧ NN mm k c + 1 ≤ mm := by
  unfold NN; omega

theorem NN_elim {mm ρ k : Nat} (hρ : ρ ≤ k) (hmm : 0 < mm) : NN mm ρ k + 1 ≤ mm := by
  unfold NN; omega

/-- the matrix part of the invariant (before step `k`): every entry of the row-permuted input is
reproduced by the multipliers of the row, the finished rows and the current row of the dense twin
of the working storage, up to perturbation factors whose number depends on the bandwidth only -/
def MInv (M : FlModel) (n m1 mm : Nat) (B : Nat → Nat → ℝ) (k : Nat) (e ea : Nat → Nat → Fl M)
    (idx : Nat → Nat) : Prop :=
  ∀ r c, r < n → c < n →
    TRel M (min r k) (B (pik idx k r) c) (Lt n m1 (fun a b => (ea a b).val) idx k r)
      (fun t => (twinK m1 mm k (min (m1 + k) n) e t c).val)
      (twinK m1 mm k (min (m1 + k) n) e r c).val (NN mm (min r k) c) mm

/-- **one elimination step on one entry**: `W`, `W'` are a column of the dense twin (or the
right-hand side) before and after step `k` (after the exchange), `L`, `L'` row `r` of the
multipliers, `μ` the multipliers of the step; `upd`: the entry lies inside the compact storage after
the step (it receives a rounded update), `elim`: it is the eliminated entry of column `k`; `a, b`
and `a', b'` count the perturbation factors before and after.  Finished rows are left alone; a window
row receives a rounded update, or loses its entry (exactly, or because the whole window column is
zero), or is untouched outside the storage; rows that have not entered the window only get a zero
multiplier. -/
theorem TRel.elimStep (hu : M.u < 1) {n k l' r : Nat} {β : ℝ} {L L' : Nat → ℝ}
    {W W' μ : Nat → Fl M} {upd elim : Prop} [Decidable upd] {a b a' b' : Nat} (hk : k < n)
    (hr : r < n) (hkl : k < l')
    (hL : ∀ t, L' t = if t = k then (if k < r ∧ r < l' then (μ r).val else 0) else L t)
    (hW : ∀ i, i < n → W' i = if k < i ∧ i < l' then
      (if upd then W i - μ i * W k else 0) else W i)
    (hout : ¬ upd → ¬ elim → ∀ i, k ≤ i → i < l' → W i = 0)
    (hμ : elim → k < r → r < l' →
      ((W k).val = 0 → (W r).val = 0) ∧ ((W k).val ≠ 0 → μ r = W r / W k))
    (ha : a ≤ a') (hb : b ≤ b') (hupd : upd → k < r → r < l' → a + 1 ≤ a' ∧ a + 1 ≤ b')
    (hel : elim → a + 1 ≤ b')
    (P : TRel M (min r k) β L (fun t => (W t).val) (W r).val a b) :
    TRel M (min r (k + 1)) β L' (fun t => (W' t).val) (W' r).val a' b' := by
  have hWs : ∀ t, t ≤ k → W' t = W t := fun t ht => by
    rw [hW t (Nat.lt_of_le_of_lt ht hk), if_neg fun c => Nat.not_lt.2 ht c.1]
  have hLs : ∀ t, t < k → L' t = L t := fun t ht => by rw [hL, if_neg (Nat.ne_of_lt ht)]
  have P1 : TRel M (min r k) β L' (fun t => (W' t).val) (W r).val a b' :=
    (P.congr (fun t ht => by
      have htk := Nat.lt_of_lt_of_le ht (Nat.min_le_right r k)
      rw [hLs t htk, hWs t (Nat.le_of_lt htk)]) rfl).mono hu
      (Nat.le_refl a) hb
  by_cases hrk : r ≤ k
  · rw [show min r (k + 1) = min r k from
      (Nat.min_eq_left (Nat.le_succ_of_le hrk)).trans (Nat.min_eq_left hrk).symm, hWs r hrk]
    exact P1.mono hu ha (Nat.le_refl b')
  have hkr : k < r := Nat.lt_of_not_le hrk
  rw [Nat.min_eq_right (Nat.le_of_lt hkr)] at P1
  rw [Nat.min_eq_right hkr]
  have hpk : (W' k).val = (W k).val := congrArg Fl.val (hWs k (Nat.le_refl k))
  have skip : L' k * (W' k).val = 0 → W' r = W r →
      TRel M (k + 1) β L' (fun t => (W' t).val) (W' r).val a' b' := fun hz hv => by
    rw [hv]
    exact (P1.skip hz).mono hu ha (Nat.le_refl b')
  by_cases hw : k < r ∧ r < l'
  swap
  · exact skip (by rw [hL, if_pos rfl, if_neg hw, zero_mul]) (by rw [hW r hr, if_neg hw])
  have hLk : L' k = (μ r).val := by rw [hL, if_pos rfl, if_pos hw]
  by_cases hc1 : upd
  · have hvr : W' r = W r - μ r * W k := by rw [hW r hr, if_pos hw, if_pos hc1]
    obtain ⟨h1, h2⟩ := hupd hc1 hw.1 hw.2
    exact (P1.upd hu h2 hvr rfl hLk hpk).mono hu h1 (Nat.le_refl b')
  have hvr0 : W' r = 0 := by rw [hW r hr, if_pos hw, if_neg hc1]
  by_cases hck : elim
  · obtain ⟨hz, hnz⟩ := hμ hck hw.1 hw.2
    by_cases hp0 : (W k).val = 0
    · exact skip (by rw [hpk, hp0, mul_zero]) (by rw [hvr0]; exact (Fl.ext (hz hp0)).symm)
    · rw [hvr0]
      exact P1.kill hu (hel hck) hp0 (hnz hp0) rfl hLk hpk _
  · have h1 := hout hc1 hck k (Nat.le_refl k) hkl
    have h2 := hout hc1 hck r (Nat.le_of_lt hw.1) hw.2
    exact skip (by rw [hpk, h1, Fl.zero_val, mul_zero]) (by rw [hvr0, h2])

theorem MInv.step (hu : M.u < 1) {n m1 mm k ip : Nat} {B : Nat → Nat → ℝ}
    {e ea e' ea' : Nat → Nat → Fl M} {idx idx' : Nat → Nat}
    (hk : k < n) (hmm : 0 < mm) (hip1 : k ≤ ip) (hip2 : ip < min (m1 + k + 1) n)
    (hmax : ∀ j, k ≤ j → j < min (m1 + k + 1) n → |(e j 0).val| ≤ |(e ip 0).val|)
    (he' : ∀ a b, a < n → b < mm →
      e' a b = elimE mm (swapFn e k ip) (mulF (swapFn e k ip) k) k (min (m1 + k + 1) n) a b)
    (hea' : ∀ a b, a < n → b < m1 →
      ea' a b = elimA (mulF (swapFn e k ip) k) ea k (min (m1 + k + 1) n) a b)
    (hidx' : idx' k = ip + 1) (hidxo : ∀ k', k' < k → idx' k' = idx k')
    (h : MInv M n m1 mm B k e ea idx)
    (hmult : ∀ r t, |Lt n m1 (fun a b => (ea a b).val) idx k r t| ≤ 1 + M.u) :
    MInv M n m1 mm B (k + 1) e' ea' idx' ∧
      ∀ r t, |Lt n m1 (fun a b => (ea' a b).val) idx' (k + 1) r t| ≤ 1 + M.u := by
  have hkl : k < min (m1 + k + 1) n := (window_bounds m1 hk).1
  have hipn : ip < n := Nat.lt_of_lt_of_le hip2 (Nat.min_le_right _ _)
  have hs_lt : ∀ r, r < n → swapIdx k ip r < n := fun r hr => Mat.swapIdx_lt hk hipn hr
  have hs_small : ∀ t, t < k → swapIdx k ip t = t :=
    fun t ht => swapIdx_of_ne (Nat.ne_of_lt ht) (Nat.ne_of_lt (Nat.lt_of_lt_of_le ht hip1))
  have F2 : ∀ r t, Lt n m1 (fun a b => (ea' a b).val) idx' (k + 1) r t =
      if t = k then (if k < r ∧ r < min (m1 + k + 1) n then (mulF (swapFn e k ip) k r).val else 0)
      else Lt n m1 (fun a b => (ea a b).val) idx k (swapIdx k ip r) t :=
    Lt_succ (μ := fun i => (mulF (swapFn e k ip) k i).val) hk (fun a b ha hb => by
      show (ea' a b).val = _
      rw [hea' a b ha hb]
      unfold elimA
      split <;> rfl) hidx' hidxo
  have F3 : ∀ a c, a < n → twinK m1 mm (k + 1) (min (m1 + (k + 1)) n) e' a c =
      if k < a ∧ a < min (m1 + k + 1) n then
        (if k + 1 ≤ c ∧ c < k + mm then
          twinK m1 mm k (min (m1 + k + 1) n) (swapFn e k ip) a c
            - mulF (swapFn e k ip) k a * twinK m1 mm k (min (m1 + k + 1) n) (swapFn e k ip) k c
          else 0)
      else twinK m1 mm k (min (m1 + k + 1) n) (swapFn e k ip) a c := by
    intro a c ha
    have e1 : m1 + (k + 1) = m1 + k + 1 := by omega
    rw [e1, twinK_congr he' ha c, twinK_elim (swapFn e k ip) _ hkl]
  have F4 : ∀ a c, a < n → twinK m1 mm k (min (m1 + k + 1) n) (swapFn e k ip) a c =
      twinK m1 mm k (min (m1 + k) n) e (swapIdx k ip a) c := by
    intro a c ha
    rw [twinK_swap e hkl hip1 hip2, Mat.swapFn_eq_swapIdx, ← twinK_window e (hs_lt a ha) c]
  have W2w : ∀ a, k ≤ a → a < min (m1 + k + 1) n → ∀ c,
      twinK m1 mm k (min (m1 + k + 1) n) (swapFn e k ip) a c =
        if k ≤ c ∧ c < k + mm then swapFn e k ip a (c - k) else 0 :=
    fun a h1 h2 c => twinK_in_window (swapFn e k ip) h1 h2 c
  have hmax2 : ∀ r, k ≤ r → r < min (m1 + k + 1) n →
      |(swapFn e k ip r 0).val| ≤ |(swapFn e k ip k 0).val| := by
    intro r h1 h2
    rw [Mat.swapFn_eq_swapIdx, Mat.swapFn_eq_swapIdx, Mat.swapIdx_left]
    exact hmax _ (Mat.swapIdx_ge (Nat.le_refl k) hip1 h1) (Mat.swapIdx_lt hkl hip2 h2)
  have hmulF : ∀ r, k ≤ r → r < min (m1 + k + 1) n →
      |(mulF (swapFn e k ip) k r).val| ≤ 1 + M.u := by
    intro r h1 h2
    unfold mulF qFl
    split
    · rw [Fl.zero_val, abs_zero]; exact add_nonneg zero_le_one M.u_nonneg
    · exact Fl.abs_div_le _ _ (hmax2 r h1 h2)
  have PInv : ∀ r c, r < n → c < n →
      TRel M (min r k) (B (pik idx k (swapIdx k ip r)) c)
        (Lt n m1 (fun a b => (ea a b).val) idx k (swapIdx k ip r))
        (fun t => (twinK m1 mm k (min (m1 + k + 1) n) (swapFn e k ip) t c).val)
        (twinK m1 mm k (min (m1 + k + 1) n) (swapFn e k ip) r c).val (NN mm (min r k) c) mm := by
    intro r c hr hc
    have := h (swapIdx k ip r) c (hs_lt r hr) hc
    rw [swapIdx_min (Nat.le_refl _) hip1] at this
    refine this.congr ?_ ?_
    · intro t ht
      have htk : t < k := Nat.lt_of_lt_of_le ht (Nat.min_le_right r k)
      rw [F4 t c (Nat.lt_trans htk hk), hs_small t htk]
    · rw [F4 r c hr]
  refine ⟨fun r c hr hc => ?_, ?_⟩
  · rw [pik_succ hidx' hidxo]
    refine TRel.elimStep hu hk hr hkl (upd := k + 1 ≤ c ∧ c < k + mm) (elim := c = k) (F2 r)
      (fun a ha => F3 a c ha)
      (fun hc1 hck a h1 h2 => by
        rw [W2w a h1 h2 c, if_neg fun h => hc1 ⟨Nat.lt_of_le_of_ne h.1 (Ne.symm hck), h.2⟩])
      (fun hck h1 h2 => ?_)
      (NN_mono c (min_le_min (Nat.le_refl r) (Nat.le_succ k))) (Nat.le_refl mm)
      (fun hc1 h1 _ => by
        rw [Nat.min_eq_right (Nat.le_of_lt h1), Nat.min_eq_right h1]; exact NN_upd hc1)
      (fun hck => by rw [hck]; exact NN_elim (Nat.min_le_right r k) hmm) (PInv r c hr hc)
    subst hck
    have hcc : c ≤ c ∧ c < c + mm := ⟨Nat.le_refl c, Nat.lt_add_of_pos_right hmm⟩
    rw [W2w r (Nat.le_of_lt h1) h2 c, W2w c (Nat.le_refl c) hkl c, if_pos hcc, if_pos hcc,
      Nat.sub_self]
    refine ⟨fun hp0 => ?_, fun hp0 => by unfold mulF qFl; rw [if_neg hp0]⟩
    have := hmax2 r (Nat.le_of_lt h1) h2
    rw [hp0, abs_zero] at this
    exact abs_nonpos_iff.mp this
  · intro r t
    rw [F2]
    split_ifs with h1 h2
    · exact hmulF r (Nat.le_of_lt h2.1) h2.2
    · rw [abs_zero]; exact add_nonneg zero_le_one M.u_nonneg
    · exact hmult _ t

/-- invariant of the pivot loop of `decompose` in `Fl M` (before step `k`): shapes, the exchange
record, the matrix relation `MInv` and the multiplier bound -/
def DecInvF (M : FlModel) (n m1 mm : Nat) (B : Nat → Nat → ℝ) (k : Nat)
    (st : Dec (Fl M) × Nat) : Prop :=
  st.2 = min (m1 + k) n ∧ Is st.1.au n mm (Mat.entryOf st.1.au) ∧
  Is st.1.al n m1 (Mat.entryOf st.1.al) ∧ st.1.index.size = n ∧
  (∀ k', k' < k → k' < idxf st.1.index k' ∧ idxf st.1.index k' ≤ min (m1 + k' + 1) n) ∧
  MInv M n m1 mm B k (Mat.entryOf st.1.au) (Mat.entryOf st.1.al) (idxf st.1.index) ∧
  (∀ r t, |Lt n m1 (fun a b => (Mat.entryOf st.1.al a b).val) (idxf st.1.index) k r t|
    ≤ 1 + M.u)

theorem DecInvF.idx {n m1 mm k : Nat} {B : Nat → Nat → ℝ} {st : Dec (Fl M) × Nat}
    (h : DecInvF M n m1 mm B k st) :
    ∀ k', k' < k → k' < idxf st.1.index k' ∧ idxf st.1.index k' ≤ min (m1 + k' + 1) n :=
  h.2.2.2.2.1

theorem DecInvF.mult {n m1 mm k : Nat} {B : Nat → Nat → ℝ} {st : Dec (Fl M) × Nat}
    (h : DecInvF M n m1 mm B k st) :
    ∀ r t, |Lt n m1 (fun a b => (Mat.entryOf st.1.al a b).val) (idxf st.1.index) k r t| ≤ 1 + M.u :=
  h.2.2.2.2.2.2

theorem decStep_invF (hu : M.u < 1) {n m1 mm k : Nat} {B : Nat → Nat → ℝ}
    {st : Dec (Fl M) × Nat} (hk : k < n) (hmm : 0 < mm) (h : DecInvF M n m1 mm B k st) :
    ∃ st', decStep n mm st k = .ok st' ∧ DecInvF M n m1 mm B (k + 1) st' := by
  obtain ⟨hl, hau, hal, hsz, hidx, hM, hmult⟩ := h
  -- the pivot search is exact in `Fl M` and picks a row of maximal magnitude
  obtain ⟨st', ip, hstep, hsh', hip1, hip2, hmax, hix, _, he', hea'⟩ :=
    (Shape.mk hl hau hal hsz hidx).step hk hmm (fun a b : Fl M => |a.val| ≤ |b.val|)
    (fun _ => le_refl _) (fun _ _ _ => le_trans) (fun d x => by
      by_cases hlt : |d.val| < |x.val|
      · rw [if_pos (by rw [Fl.lt_iff, Fl.mag_val, Fl.mag_val]; exact hlt)]
        exact le_of_lt hlt
      · rw [if_neg (by rw [Fl.lt_iff, Fl.mag_val, Fl.mag_val]; exact hlt)]
        exact not_lt.mp hlt) qFl dumR_qFl
  rw [pivoted, zeroFix_of_maxF (hmax k (Nat.le_refl _) (by omega))] at he' hea'
  have hki : k < st.1.index.size := by rw [hsz]; exact hk
  obtain ⟨hM', hmult'⟩ := MInv.step (idx' := idxf st'.1.index) hu hk hmm hip1 hip2 hmax he' hea'
    (by rw [hix, idxf_set hki, if_pos rfl])
    (fun k' hk' => by rw [hix, idxf_set hki, if_neg (by omega)]) hM hmult
  exact ⟨st', hstep, hsh'.l, hsh'.au, hsh'.al, hsh'.sz, hsh'.idx, hM', hmult'⟩

theorem decompose_invF (hu : M.u < 1) {b : Band (Fl M)} (h : WFb b) (hm : b.m1 ≤ b.n) :
    ∃ s l, decompose b = .ok s ∧
      DecInvF M b.n b.m1 (b.m1 + b.m2 + 1) (fun i j => (dense b i j).val) b.n (s, l) := by
  refine decompose_inv_rule h hm _ (fun st0 hsh _ htw =>
      ⟨hsh.l, hsh.au, hsh.al, hsh.sz, hsh.idx, fun r c hr hc => ?_, fun r t => ?_⟩)
    (fun k st hk hinv => decStep_invF hu hk (by omega) hinv)
  · rw [show min r 0 = 0 by omega]
    apply TRel.init hu
    simp only [pik]
    rw [htw r c hr hc]
  · simp only [Lt, abs_zero]
    exact add_nonneg zero_le_one M.u_nonneg

end DecInvS

section FwdS
variable {M : FlModel}

/-- the vector part: after `k` forward steps every component of the permuted right-hand side is
reproduced by the multipliers of its row and the current vector, with as many perturbation factors
as the row went through elimination steps (`age`) -/
def VInv (M : FlModel) (n m1 : Nat) (β : Nat → ℝ) (ea : Nat → Nat → Fl M) (idx : Nat → Nat)
    (k : Nat) (y : Nat → Fl M) : Prop :=
  ∀ r, r < n →
    TRel M (min r k) (β (pik idx k r)) (Lt n m1 (fun a b => (ea a b).val) idx k r)
      (fun t => (y t).val) (y r).val (age n m1 idx k r) (age n m1 idx k r)

theorem fwd_invF (hu : M.u < 1) {n m1 : Nat} (ea : Nat → Nat → Fl M) (idx : Nat → Nat)
    (rhs : Nat → Fl M) (hidx : ∀ k, k < n → k ≤ idx k - 1 ∧ idx k - 1 < n) :
    ∀ k, k ≤ n → VInv M n m1 (fun i => (rhs i).val) ea idx k (fwd n m1 ea idx k rhs)
  | 0, _ => by
    intro r hr
    rw [Nat.min_zero]
    exact TRel.init hu _ _ _ _ rfl
  | k + 1, hk => by
    have hkn : k < n := hk
    have ih := fwd_invF (m1 := m1) hu ea idx rhs hidx k (Nat.le_of_lt hkn)
    obtain ⟨hip1, hipn⟩ := hidx k hkn
    intro r hr
    have P := ih (swapIdx k (idx k - 1) r) (Mat.swapIdx_lt hkn hipn hr)
    rw [swapIdx_min (Nat.le_refl _) hip1] at P
    simp only [pik, age]
    -- a component of the vector is an entry that is always updated and never eliminated
    refine TRel.elimStep hu hkn hr (l' := min (m1 + k + 1) n) (window_bounds m1 hkn).1 (upd := True)
      (elim := False) (μ := fun a => ea k (a - k - 1))
      (L := Lt n m1 (fun a b => (ea a b).val) idx k (swapIdx k (idx k - 1) r))
      (W := fun a => fwd n m1 ea idx k rhs (swapIdx k (idx k - 1) a))
      (fun t => by simp only [Lt])
      (fun a _ => by simp only [fwd, fwdStep, swapV_apply, if_true])
      (fun h => absurd trivial h) (fun h => h.elim) (Nat.le_add_right _ _) (Nat.le_add_right _ _)
      (fun _ h1 h2 => by rw [if_pos ⟨h1, h2⟩]; omega) (fun h => h.elim) ?_
    refine P.congr (fun t ht => ?_) rfl
    have htk : t < k := Nat.lt_of_lt_of_le ht (Nat.min_le_right r k)
    rw [show swapIdx k (idx k - 1) t = t from
      swapIdx_of_ne (Nat.ne_of_lt htk) (Nat.ne_of_lt (Nat.lt_of_lt_of_le htk hip1))]

end FwdS

section BackS
variable {M : FlModel}

/-- the computed upper factor `Û` (real values): compact row `i` of the final `au` placed at its
diagonal — upper triangular with bandwidth `mm - 1 = m1 + m2` -/
def UhatF (mm : Nat) (e : Nat → Nat → Fl M) (i c : Nat) : ℝ :=
  if i ≤ c ∧ c < i + mm then (e i (c - i)).val else 0

theorem twinK_final {n m1 mm : Nat} (e : Nat → Nat → Fl M) {i : Nat} (hi : i < n) (c : Nat) :
    (twinK m1 mm n (min (m1 + n) n) e i c).val = UhatF mm e i c := by
  have o : off m1 n (min (m1 + n) n) i = i := by unfold off; rw [if_pos hi]
  unfold twinK UhatF
  rw [o]
  split <;> rfl

theorem Uhat_row {n mm : Nat} (e : Nat → Nat → Fl M) {i : Nat} (hi : i < n) (hmm : 0 < mm)
    (X : Nat → ℝ) :
    ∑ c ∈ Finset.range n, UhatF mm e i c * X c =
      (e i 0).val * X i + ∑ t ∈ Finset.Ico 1 (min (n - i) mm), (e i t).val * X (t + i) :=
  sum_upper_row hi hmm _ (fun t => (e i t).val) X (fun _ => rfl)

/-- **back substitution on the compact upper factor, backward error**: whenever the second loop of
`solve` returns `x̂`, all pivots are non-zero and `Σ_c û_ic μ_ic x̂_c = ŷ_i` EXACTLY, every `μ_ic` a
product of at most `min (n-i) mm ≤ mm` factors `(1+δ)^{±1}` (the right-hand side is not perturbed) -/
theorem back_backwardF (hu : M.u < 1) {au : Mat (Fl M)} {n mm : Nat} {e : Nat → Nat → Fl M}
    (hau : Is au n mm e) (hmm : 0 < mm) (x0 : Array (Fl M)) (hx : x0.size = n)
    {st : Array (Fl M) × Nat}
    (h : (List.range n).reverse.foldlM (backBody au mm) (x0, 1) = .ok st) :
    st.1.size = n ∧ ∃ mu : Nat → Nat → ℝ, (∀ i c, i < n → M.Th mm (mu i c)) ∧
      ∀ i, i < n → (e i 0).val ≠ 0 ∧
        ∑ c ∈ Finset.range n, UhatF mm e i c * (mu i c * (st.1[c]?.getD 0).val)
          = (x0[i]?.getD 0).val := by
  obtain ⟨hsz, hrows⟩ := back_specK hau hmm x0 hx h
  refine ⟨hsz, ?_⟩
  obtain ⟨μ, hμ⟩ := Mat.exists_fun_of_lt (P := fun i (μ : Nat → ℝ) => (∀ t, M.Th mm (μ t)) ∧
      (e i 0).val ≠ 0 ∧
      (x0[i]?.getD 0).val = (e i 0).val * (μ 0 * (st.1[i]?.getD 0).val)
        + ∑ t ∈ Finset.Ico 1 (min (n - i) mm), (e i t).val * (μ t * (st.1[t + i]?.getD 0).val))
    fun i hi => by
      obtain ⟨hne, θd, θ, hd, hθ, eq⟩ := Mat.sdot_div_backward hu _ _ _ _ _ 1 (min (n - i) mm)
        (hrows i hi)
      have hcnt : min (n - i) mm - 1 + 1 ≤ mm := by omega
      refine ⟨fun t => if t = 0 then θd else θ t,
        (hd.mono hu hcnt).update fun t => (hθ t).mono hu (Nat.le_of_succ_le hcnt), hne, ?_⟩
      rw [eq]
      beta_reduce
      rw [if_pos rfl]
      refine congrArg _ (Finset.sum_congr rfl fun t ht => ?_)
      rw [if_neg (Nat.ne_of_gt (Finset.mem_Ico.mp ht).1)]
      ring
  refine ⟨fun i c => μ i (c - i), fun i c hi => (hμ i hi).1 (c - i), fun i hi => ⟨(hμ i hi).2.1, ?_⟩⟩
  rw [Uhat_row e hi hmm (fun c => μ i (c - i) * (st.1[c]?.getD 0).val), (hμ i hi).2.2, Nat.sub_self]
  refine congrArg _ (Finset.sum_congr rfl fun t _ => ?_)
  rw [Nat.add_sub_cancel]

end BackS

section Assemble
variable {M : FlModel}

/-- the computed unit lower factor `L̂` of `P·B = L̂·Û` (real values) of a returned state -/
def LhatF (n m1 : Nat) (s : Dec (Fl M)) (r t : Nat) : ℝ :=
  if t = r then 1
  else Lt n m1 (fun a b => (Mat.entryOf s.al a b).val) (idxf s.index) n r t

/-- the computed upper factor `Û` of a returned state -/
def UhatS (mm : Nat) (s : Dec (Fl M)) : Nat → Nat → ℝ := UhatF mm (Mat.entryOf s.au)

/-- `(|L̂||Û|)_{rc}` -/
def absLUF (n m1 mm : Nat) (s : Dec (Fl M)) (r c : Nat) : ℝ :=
  ∑ t ∈ Finset.range n, |LhatF n m1 s r t| * |UhatS mm s t c|

/-- the row permutation of a returned state: position `r` of `L̂Û` is row `permF n s r` of `B` -/
def permF (n : Nat) (s : Dec (Fl M)) : Nat → Nat := pik (idxf s.index) n
def permInvF (n : Nat) (s : Dec (Fl M)) : Nat → Nat := sig (idxf s.index) n

/-- the number of elimination steps the row that ends at position `r` went through
(`≤ r`; `≤ m1` without row exchanges) -/
def stayF (n m1 : Nat) (s : Dec (Fl M)) (r : Nat) : Nat := age n m1 (idxf s.index) n r

theorem absLUF_nonneg (n m1 mm : Nat) (s : Dec (Fl M)) (r c : Nat) : 0 ≤ absLUF n m1 mm s r c :=
  Finset.sum_nonneg (fun _ _ => mul_nonneg (abs_nonneg _) (abs_nonneg _))

theorem DecInvF.rowrel (hu : M.u < 1) {n m1 mm : Nat} {B : Nat → Nat → ℝ} {s : Dec (Fl M)}
    {l : Nat} (hmm : 0 < mm) (h : DecInvF M n m1 mm B n (s, l)) :
    ∀ r c, r < n → c < n → ∃ Θ : Nat → ℝ, (∀ t, M.Th mm (Θ t)) ∧
      B (permF n s r) c = ∑ t ∈ Finset.range n, LhatF n m1 s r t * (UhatS mm s t c * Θ t) := by
  obtain ⟨_, _, _, _, hidx, hM, _⟩ := h
  simp only at hidx hM
  intro r c hr hc
  have P := hM r c hr hc
  rw [Nat.min_eq_left (Nat.le_of_lt hr)] at P
  obtain ⟨Θ, hΘ, e⟩ := P.full hu hr
    (fun t ht => Lt_zero_of_row n (fun k' hk' => (idx_pred_bounds (hidx k' hk')).1) r t ht) rfl
    (by
      intro hne
      rw [twinK_final _ hr] at hne
      have hcr : r ≤ c := by
        by_contra hcon
        apply hne
        unfold UhatF
        rw [if_neg (by omega)]
      unfold NN; omega)
  refine ⟨Θ, hΘ, ?_⟩
  show B (pik (idxf s.index) n r) c = _
  rw [e]
  apply Finset.sum_congr rfl
  intro t ht
  rw [twinK_final _ (Finset.mem_range.mp ht)]
  rfl

theorem DecInvF.backward (hu : M.u < 1) {n m1 mm : Nat} {B : Nat → Nat → ℝ} {s : Dec (Fl M)}
    {l : Nat} (hmm : 0 < mm) (h : DecInvF M n m1 mm B n (s, l)) :
    ∀ r c, r < n → c < n →
      |∑ t ∈ Finset.range n, LhatF n m1 s r t * UhatS mm s t c - B (permF n s r) c|
        ≤ M.gq mm * absLUF n m1 mm s r c := by
  intro r c hr hc
  obtain ⟨Θ, hΘ, e⟩ := h.rowrel hu hmm r c hr hc
  rw [e, ← Finset.sum_sub_distrib]
  unfold absLUF
  rw [Finset.mul_sum]
  refine (Finset.abs_sum_le_sum_abs _ _).trans (Finset.sum_le_sum ?_)
  intro t _
  have h1 := (hΘ t).abs_sub_one_le hu
  have e2 : LhatF n m1 s r t * UhatS mm s t c - LhatF n m1 s r t * (UhatS mm s t c * Θ t)
      = LhatF n m1 s r t * UhatS mm s t c * (1 - Θ t) := by ring
  rw [e2, abs_mul, abs_mul, abs_sub_comm]
  exact (mul_comm _ _).trans_le
    (mul_le_mul_of_nonneg_right h1 (mul_nonneg (abs_nonneg _) (abs_nonneg _)))

/-- **`Band.solve` in `Fl M`, backward error, core statement** (see `Ohsl/Props/C04F.lean`):
`ΔB'` is the perturbation of the row-permuted dense twin. -/
theorem solve_backward_coreF (hu : M.u < 1) {b : Band (Fl M)} (h : WFb b) {rhs x : Array (Fl M)}
    (hs : solve b rhs = .ok x) :
    ∃ s l, decompose b = .ok s ∧ b.m1 ≤ b.n ∧ rhs.size = b.n ∧ x.size = b.n ∧
      DecInvF M b.n b.m1 (b.m1 + b.m2 + 1) (fun i j => (dense b i j).val) b.n (s, l) ∧
      (∀ i, i < b.n → (Mat.entryOf s.au i 0).val ≠ 0) ∧
      ∃ ΔB : Nat → Nat → ℝ,
        (∀ r, r < b.n → ∑ c ∈ Finset.range b.n,
          ((dense b (permF b.n s r) c).val + ΔB r c) * (x[c]?.getD 0).val
            = (rhs[permF b.n s r]?.getD 0).val) ∧
        ∀ r c, r < b.n → c < b.n → |ΔB r c| ≤
          (M.gq (b.m1 + b.m2 + 1) + M.gq (stayF b.n b.m1 s r + (b.m1 + b.m2 + 1)))
            * absLUF b.n b.m1 (b.m1 + b.m2 + 1) s r c := by
  obtain ⟨hr, s, st0, st, hdec, hf, hb, rfl⟩ := solve_ok hs
  by_cases hm : b.m1 ≤ b.n
  swap
  · rw [decompose_rejects h (Nat.lt_of_not_le hm)] at hdec; cases hdec
  obtain ⟨s', l, hdec', hinv⟩ := decompose_invF hu h hm
  rw [hdec] at hdec'
  injection hdec' with e
  subst e
  have hinv' := hinv
  obtain ⟨hl, hau, hal, hsz, hidx, hM, hmult⟩ := hinv'
  simp only at hl hau hal hsz hidx hM hmult
  have hmm : 0 < b.m1 + b.m2 + 1 := Nat.succ_pos _
  obtain ⟨st0', hf1, hf2, hf3⟩ := solve_fwd_spec hal hsz hidx hm rhs hr
  rw [hf] at hf1
  injection hf1 with e
  subst e
  obtain ⟨hsize, mu, hmu, hrows⟩ := back_backwardF hu hau hmm st0.1 hf2 hb
  refine ⟨s, l, hdec, hm, hr, hsize, hinv, fun i hi => (hrows i hi).1, ?_⟩
  have hidx2 : ∀ k, k < b.n → k ≤ idxf s.index k - 1 ∧ idxf s.index k - 1 < b.n :=
    fun k hk => ⟨(idx_pred_bounds (hidx k hk)).1, (idx_pred_bounds (hidx k hk)).2.2⟩
  have hV := fwd_invF (m1 := b.m1) hu (Mat.entryOf s.al) (idxf s.index)
    (fun a => rhs[a]?.getD 0) hidx2 b.n (Nat.le_refl _)
  obtain ⟨lam, hlam⟩ := Mat.exists_fun_of_lt (P := fun r (lam : Nat → ℝ) =>
      (∀ t, M.Th (stayF b.n b.m1 s r) (lam t)) ∧
      (rhs[permF b.n s r]?.getD 0).val = ∑ t ∈ Finset.range b.n,
        LhatF b.n b.m1 s r t * (lam t * (st0.1[t]?.getD 0).val)) fun r hrn => by
    have P := hV r hrn
    rw [Nat.min_eq_left (Nat.le_of_lt hrn)] at P
    obtain ⟨Θ, hΘ, e⟩ := P.full hu hrn
      (fun t ht => Lt_zero_of_row b.n (fun k' hk' => (hidx2 k' hk').1) r t ht) rfl
      (fun _ => Nat.le_refl _)
    refine ⟨Θ, hΘ, ?_⟩
    show (rhs[pik (idxf s.index) b.n r]?.getD 0).val = _
    beta_reduce at e
    rw [e]
    refine Finset.sum_congr rfl fun t _ => ?_
    rw [hf3 t]
    unfold LhatF
    ring
  obtain ⟨Θ, hΘ⟩ := Mat.exists_fun_of_lt (P := fun r (Θ : Nat → Nat → ℝ) => ∀ c, c < b.n →
      (∀ t, M.Th (b.m1 + b.m2 + 1) (Θ c t)) ∧
      (dense b (permF b.n s r) c).val = ∑ t ∈ Finset.range b.n,
        LhatF b.n b.m1 s r t * (UhatS (b.m1 + b.m2 + 1) s t c * Θ c t)) fun r hr =>
    Mat.exists_fun_of_lt fun c hc => hinv.rowrel hu hmm r c hr hc
  exact Mat.lu_compose_row (LhatF b.n b.m1 s) (UhatS (b.m1 + b.m2 + 1) s)
    (fun r c => (dense b (permF b.n s r) c).val) (fun r => (rhs[permF b.n s r]?.getD 0).val)
    (fun k => (st0.1[k]?.getD 0).val) (fun c => (st.1[c]?.getD 0).val) Θ lam mu
    (fun _ => M.gq (b.m1 + b.m2 + 1))
    (fun r => M.gq (stayF b.n b.m1 s r + (b.m1 + b.m2 + 1)))
    (fun r c hr hc => (hΘ r hr c hc).2)
    (fun r hr => ((hlam r hr).2).symm)
    (fun k hk => (hrows k hk).2)
    (fun r c k hr hc _ => ((hΘ r hr c hc).1 k).abs_sub_one_le hu)
    (fun r k c hr hk _ => (((hlam r hr).1 k).mul hu (hmu k c hk)).abs_sub_one_le hu)

end Assemble

end Band
end Ohsl
