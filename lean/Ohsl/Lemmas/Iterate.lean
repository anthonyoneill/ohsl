/-
  Ohsl.Lemmas.Iterate — the invariant rule for `iterate` (a `for i in start..=…` loop with early
  `return`); the state sequence of a loop with its stopping tests ignored (`loopStates`); and the
  driver all four solvers share, `krylovRun`: initial test, then the loop from index 1 within the
  budget.  Core Lean only.
-/
import Ohsl.Model.Krylov
namespace Ohsl

/-- what one pass through a loop body establishes: `C` of the state it continues with, `D` of the
    result it returns -/
def Step.Sat {σ ρ : Type} (C : σ → Prop) (D : ρ → Prop) : Step σ ρ → Prop
  | .cont s => C s
  | .done r => D r

namespace Step.Sat
variable {σ ρ : Type} {C C' : σ → Prop} {D D' : ρ → Prop}

theorem ite {c : Prop} [Decidable c] {a b : Step σ ρ} (ha : c → Sat C D a) (hb : ¬ c → Sat C D b) :
    Sat C D (if c then a else b) := by
  split
  · exact ha ‹_›
  · exact hb ‹_›

theorem mono {st : Step σ ρ} (h : Sat C D st) (hC : ∀ s, C s → C' s) (hD : ∀ r, D r → D' r) :
    Sat C' D' st := by
  cases st with
  | cont s => exact hC s h
  | done r => exact hD r h

theorem of_cont {st : Step σ ρ} (h : Sat C D st) {s : σ} (e : st = .cont s) : C s := by
  subst e
  exact h

theorem of_done {st : Step σ ρ} (h : Sat C D st) {r : ρ} (e : st = .done r) : D r := by
  subst e
  exact h

end Step.Sat

theorem iterate_rule {σ ρ : Type} (Inv : Nat → σ → Prop) (Post : ρ → Prop)
    (f : Nat → σ → Step σ ρ) (fin : σ → ρ) :
    ∀ (rem i : Nat),
      (∀ j s, i ≤ j → j < i + rem → Inv j s → (f j s).Sat (Inv (j + 1)) Post) →
      (∀ s, Inv (i + rem) s → Post (fin s)) → ∀ s, Inv i s → Post (iterate f fin rem i s)
  | 0, _, _, hfin, s, h => hfin s h
  | rem + 1, i, hstep, hfin, s, h => by
    have h1 := hstep i s (Nat.le_refl i) (by omega) h
    unfold iterate
    cases hf : f i s with
    | done r => rw [hf] at h1; exact h1
    | cont s' =>
      rw [hf] at h1
      refine iterate_rule Inv Post f fin rem (i + 1) (fun j s hj hj' => hstep j s (by omega) (by omega))
        (fun s hs => hfin s ?_) s' h1
      rwa [Nat.add_right_comm] at hs

namespace Props.C08

/-- the un-tested state sequence of a loop with update `next`: state `j` is the state after `j`
iterations (iteration indices start at `1`) -/
def loopStates {σ : Type} (next : Nat → σ → σ) (s0 : σ) : Nat → σ
  | 0 => s0
  | j + 1 => next (j + 1) (loopStates next s0 j)

theorem loopStates_hom {σ τ : Type} (g : σ → τ) (next₁ : Nat → σ → σ) (next₂ : Nat → τ → τ)
    (h : ∀ i s, next₂ i (g s) = g (next₁ i s)) (s0 : σ) :
    ∀ j, loopStates next₂ (g s0) j = g (loopStates next₁ s0 j)
  | 0 => rfl
  | j + 1 => (congrArg (next₂ (j + 1)) (loopStates_hom g next₁ next₂ h s0 j)).trans (h _ _)

end Props.C08

section Driver
open Props.C08
variable {K V σ : Type} [Transc K]

/-- The shape `solve_cg`, `solve_bicg`, `solve_bicgstab`, `solve_qmr` share: if the initial error
    measure `e0` passes the test, `Ok(0)` with `x` untouched; else the loop from index `1` with budget
    `maxIter`, whose fall-through reports failure with the last error measure and iterate.
    `solveCG o b x maxIter tol` unfolds to this applied to `cgStep`, and likewise the other three
    (`solveCG_eq_run`, …). -/
def krylovRun (step : Nat → σ → Step σ (KOut K V)) (res : σ → K) (xof : σ → V)
    (x : V) (e0 tol : K) (maxIter : Nat) (s0 : σ) : KOut K V :=
  if Transc.le e0 tol then ⟨true, 0, e0, x⟩
  else iterate step (fun s => ⟨false, maxIter, res s, xof s⟩) maxIter 1 s0

variable {step : Nat → σ → Step σ (KOut K V)} {res : σ → K} {xof : σ → V} {x : V} {e0 tol : K}
  {maxIter : Nat} {s0 : σ}

theorem krylovRun_rule (Inv : Nat → σ → Prop) (Post : KOut K V → Prop)
    (h0 : Transc.le e0 tol = true → Post ⟨true, 0, e0, x⟩) (hs0 : Inv 1 s0)
    (hstep : ∀ j s, 1 ≤ j → j < 1 + maxIter → Inv j s → (step j s).Sat (Inv (j + 1)) Post)
    (hfin : ∀ s, Inv (1 + maxIter) s → Post ⟨false, maxIter, res s, xof s⟩) :
    Post (krylovRun step res xof x e0 tol maxIter s0) := by
  unfold krylovRun
  split
  · exact h0 ‹_›
  · exact iterate_rule Inv Post step _ maxIter 1 hstep hfin s0 hs0

theorem krylovRun_of_test (h : Transc.le e0 tol = true) :
    krylovRun step res xof x e0 tol maxIter s0 = ⟨true, 0, e0, x⟩ := if_pos h

theorem krylovRun_zero (hx : xof s0 = x) : (krylovRun step res xof x e0 tol 0 s0).x = x := by
  unfold krylovRun
  split
  · rfl
  · exact hx

theorem krylovRun_iters_le
    (hdone : ∀ i s, (step i s).Sat (fun _ => True) (fun r => r.iters = i)) :
    (krylovRun step res xof x e0 tol maxIter s0).iters ≤ maxIter :=
  krylovRun_rule (fun _ _ => True) (fun r => r.iters ≤ maxIter) (fun _ => Nat.zero_le _) trivial
    (fun j s _ hj _ => (hdone j s).mono (fun _ _ => trivial) (fun r hr => by omega))
    (fun _ _ => Nat.le_refl _)

/-- `Q` is the tested predicate, the one thing in which the four solvers differ -/
theorem krylovRun_success (Inv : σ → Prop) (Q : V → Prop)
    (h0 : Transc.le e0 tol = true → Q x) (hs0 : Inv s0)
    (hstep : ∀ i s, Inv s → (step i s).Sat Inv (fun out => out.ok = true → Q out.x)) :
    (krylovRun step res xof x e0 tol maxIter s0).ok = true →
      Q (krylovRun step res xof x e0 tol maxIter s0).x :=
  krylovRun_rule (fun _ => Inv) (fun out => out.ok = true → Q out.x) (fun h _ => h0 h) hs0
    (fun j s _ _ hs => hstep j s hs) (fun _ _ hf => Bool.noConfusion hf)

/-- for a body that computes `next` and tests its `res`; `k = 0` is the initial test, state `0`
    being the start state -/
theorem krylovRun_trace (next : Nat → σ → σ)
    (hf : ∀ i s, step i s = if Transc.le (res (next i s)) tol
      then .done ⟨true, i, res (next i s), xof (next i s)⟩ else .cont (next i s))
    (hx : xof s0 = x) (he : res s0 = e0) :
    (krylovRun step res xof x e0 tol maxIter s0).ok = true →
      (krylovRun step res xof x e0 tol maxIter s0).iters ≤ maxIter ∧
      (krylovRun step res xof x e0 tol maxIter s0).x
        = xof (loopStates next s0 (krylovRun step res xof x e0 tol maxIter s0).iters) ∧
      Transc.le (res (loopStates next s0 (krylovRun step res xof x e0 tol maxIter s0).iters)) tol
        = true :=
  krylovRun_rule (fun j s => ∃ m, j = m + 1 ∧ s = loopStates next s0 m)
    (fun out => out.ok = true → out.iters ≤ maxIter ∧ out.x = xof (loopStates next s0 out.iters) ∧
      Transc.le (res (loopStates next s0 out.iters)) tol = true)
    (fun h _ => ⟨Nat.zero_le _, hx.symm, by rw [← he] at h; exact h⟩) ⟨0, rfl, rfl⟩
    (fun j s _ hj h => by
      obtain ⟨m, rfl, rfl⟩ := h
      have hm : m + 1 ≤ maxIter := by omega
      rw [hf]
      exact .ite (fun hle _ => ⟨hm, rfl, hle⟩) (fun _ => ⟨m + 1, rfl, rfl⟩))
    (fun _ _ hok => Bool.noConfusion hok)

/-- with `krylovRun_trace`: success is reported exactly when some state `0, …, maxIter` passes, and
    `iters` is the first such index -/
theorem krylovRun_of_pass (next : Nat → σ → σ)
    (hf : ∀ i s, step i s = if Transc.le (res (next i s)) tol
      then .done ⟨true, i, res (next i s), xof (next i s)⟩ else .cont (next i s))
    (he : res s0 = e0) (k : Nat) (hk : k ≤ maxIter)
    (hpass : Transc.le (res (loopStates next s0 k)) tol = true) :
    (krylovRun step res xof x e0 tol maxIter s0).ok = true ∧
      (krylovRun step res xof x e0 tol maxIter s0).iters ≤ k := by
  by_cases hc : Transc.le e0 tol = true
  · rw [krylovRun_of_test hc]
    exact ⟨rfl, Nat.zero_le _⟩
  · refine krylovRun_rule (fun j s => ∃ m, j = m + 1 ∧ s = loopStates next s0 m ∧ m < k)
      (fun out => out.ok = true ∧ out.iters ≤ k) (fun h => absurd h hc)
      ⟨0, rfl, rfl, Nat.pos_of_ne_zero fun e => hc (by subst e; rw [← he]; exact hpass)⟩
      (fun j s _ _ h => ?_) (fun s h => ?_)
    · obtain ⟨m, rfl, rfl, hm⟩ := h
      rw [hf]
      exact .ite (fun _ => ⟨rfl, hm⟩) fun hn =>
        ⟨m + 1, rfl, rfl, Nat.lt_of_le_of_ne hm fun e => hn (by subst e; exact hpass)⟩
    · obtain ⟨m, e, _, hm⟩ := h
      omega

end Driver

end Ohsl
