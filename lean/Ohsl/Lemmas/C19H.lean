/-
  Ohsl.Lemmas.C19H — the tokeniser of `Fmt.read` and the placement of tokens in the mesh
  (model: Ohsl/Model/Fmt.lean).  Class (S): arbitrary characters / strings / token lists; nothing
  here depends on what `Fmt.fixed` prints or on what `Fmt.parse` returns.

  `Fmt.readToks` is `Fmt.read` on the token list.  The file that `Mesh1D::output` writes is row-major:
  token `i * (nvars+1)` is node `i`, the `nvars` tokens after it are its variables.
-/
import Ohsl.Model.Fmt
import Ohsl.Lemmas.MatIdx
import Ohsl.Lemmas.ArrayIndex
import Ohsl.Lemmas.FoldInv
namespace Ohsl

namespace Mesh1
variable {T X : Type}

/-- every stored row has `nvars` entries (what `Mesh1D::new` establishes and every method keeps) -/
def RowsOk (m : Mesh1 T X) : Prop := ∀ i (h : i < m.vars.size), m.vars[i].size = m.nvars

def Shaped (m : Mesh1 T X) (n : Nat) : Prop :=
  m.nodes.size = n ∧ m.vars.size = n ∧ m.RowsOk

end Mesh1

namespace Tok

/-- the separators of the tokeniser in `Fmt.read` -/
def isSep (c : Char) : Bool := c == ' ' || c == '\n' || c == '\t'

noncomputable def tokL (p : Char → Bool) (cs : List Char) : List (List Char) :=
  (cs.splitOnP p).filter (· ≠ [])

/-- the token list that `Fmt.read` forms from the text -/
def tokens (text : String) : List String :=
  ((text.split (fun c => c == ' ' || c == '\n' || c == '\t')).toList.map (·.toString)).filter (· ≠ "")

theorem tokens_eq (text : String) : tokens text = (tokL isSep text.toList).map String.ofList := by
  have h : (text.split (fun c => c == ' ' || c == '\n' || c == '\t')).toList.map (·.toString)
      = (text.toList.splitOnP isSep).map String.ofList := by
    rw [← String.toList_split_bool]; rfl
  unfold tokens tokL
  rw [h, List.filter_map]
  congr 1
  apply List.filter_congr
  intro cs _
  by_cases hc : cs = []
  · subst hc; simp
  · have := mt String.ofList_eq_empty_iff.1 hc
    simp [hc, this]

theorem tokL_nil (p : Char → Bool) : tokL p [] = [] := by
  simp [tokL, List.splitOnP_nil]

theorem tokL_sep_cons {p : Char → Bool} {c : Char} (hc : p c = true) (rest : List Char) :
    tokL p (c :: rest) = tokL p rest := by
  have := List.splitOnP_append_cons_of_forall_mem (p := p) (xs := []) (by simp) c hc rest
  simp only [List.nil_append] at this
  simp [tokL, this]

theorem tokL_word_sep {p : Char → Bool} {w : List Char} {c : Char}
    (hw : ∀ x ∈ w, p x = false) (hne : w ≠ []) (hc : p c = true) (rest : List Char) :
    tokL p (w ++ c :: rest) = w :: tokL p rest := by
  simp [tokL, List.splitOnP_append_cons_of_forall_mem hw c hc rest, hne]

theorem tokL_word {p : Char → Bool} {w : List Char} (hw : ∀ x ∈ w, p x = false) (hne : w ≠ []) :
    tokL p w = [w] := by
  simp [tokL, List.splitOnP_eq_singleton hw, hne]

/-- what the tokeniser returns as one token: non-empty, no separator in it -/
def Word (p : Char → Bool) (w : List Char) : Prop := w ≠ [] ∧ ∀ x ∈ w, p x = false

theorem tokL_words {p : Char → Bool} {sep : Char} (hs : p sep = true) (ws : List (List Char))
    (hws : ∀ w ∈ ws, Word p w) (rest : List Char) :
    tokL p (ws.flatMap (fun w => w ++ [sep]) ++ rest) = ws ++ tokL p rest := by
  induction ws with
  | nil => simp
  | cons w ws ih =>
    have hw := hws w List.mem_cons_self
    have := ih (fun w' h' => hws w' (List.mem_cons_of_mem _ h'))
    simp only [List.flatMap_cons, List.append_assoc, List.cons_append]
    rw [tokL_word_sep hw.2 hw.1 hs, List.nil_append, this]

/-- the layout `Mesh1D::output` writes: each word followed by `sep`, each line closed by `eol` -/
theorem tokL_lines {p : Char → Bool} {sep eol : Char} (hs : p sep = true) (he : p eol = true)
    (lines : List (List (List Char))) (hl : ∀ l ∈ lines, ∀ w ∈ l, Word p w) :
    tokL p (lines.flatMap (fun l => l.flatMap (fun w => w ++ [sep]) ++ [eol])) = lines.flatten := by
  induction lines with
  | nil => simp [tokL_nil]
  | cons l ls ih =>
    have := ih (fun l' h' => hl l' (List.mem_cons_of_mem _ h'))
    simp only [List.flatMap_cons, List.append_assoc, List.singleton_append, List.flatten_cons]
    rw [tokL_words hs l (hl l List.mem_cons_self), tokL_sep_cons he, this]

theorem tokens_lines (text : String) (lines : List (List String))
    (hl : ∀ l ∈ lines, ∀ w ∈ l, Word isSep w.toList)
    (ht : text.toList = lines.flatMap (fun l => l.flatMap (fun w => w.toList ++ [' ']) ++ ['\n'])) :
    tokens text = lines.flatten := by
  have h := tokL_lines (p := isSep) (sep := ' ') (eol := '\n') (by decide) (by decide)
    (lines.map (fun l => l.map String.toList)) (by
      intro l hl' w hw
      obtain ⟨l0, hl0, rfl⟩ := List.mem_map.1 hl'
      obtain ⟨w0, hw0, rfl⟩ := List.mem_map.1 hw
      exact hl l0 hl0 w0 hw0)
  have e : (lines.map (fun l => l.map String.toList)).flatMap
      (fun l => l.flatMap (fun w => w ++ [' ']) ++ ['\n']) = text.toList := by
    rw [ht, List.flatMap_map]
    congr 1
    funext l
    rw [List.flatMap_map]
  rw [tokens_eq, ← e, h]
  simp [List.map_flatten, List.map_map, Function.comp_def]

theorem foldl_append2_toList {ι : Type} (f g : ι → String) (l : List ι) (init : String) :
    (l.foldl (fun acc i => acc ++ f i ++ g i) init).toList
      = init.toList ++ l.flatMap (fun i => (f i).toList ++ (g i).toList) := by
  induction l generalizing init with
  | nil => simp
  | cons a l ih => simp [ih, String.toList_append]

theorem zip_eq_map_range {α β : Type} (l1 : List α) (l2 : List β) (n : Nat) (h1 : l1.length = n)
    (h2 : l2.length = n) (d1 : α) (d2 : β) :
    l1.zip l2 = (List.range n).map (fun i => (l1[i]?.getD d1, l2[i]?.getD d2)) := by
  apply List.ext_getElem
  · simp [h1, h2]
  · intro i hi hi'
    simp only [List.length_zip, h1, h2, Nat.min_self] at hi
    simp [List.getElem?_eq_getElem (h1 ▸ hi), List.getElem?_eq_getElem (h2 ▸ hi)]

theorem filter_eq_zero_range (k : Nat) (hk : 0 < k) :
    (List.range k).filter (fun x => x % k == 0) = [0] := by
  obtain ⟨k, rfl⟩ : ∃ k', k = k' + 1 := ⟨k - 1, (Nat.succ_pred_eq_of_pos hk).symm⟩
  rw [List.range_succ_eq_map, List.filter_cons]
  simp only [Nat.zero_mod, beq_self_eq_true, if_true, List.cons.injEq, true_and]
  rw [List.filter_eq_nil_iff]
  intro x hx
  obtain ⟨y, hy, rfl⟩ := List.mem_map.1 hx
  have hy' : y < k := List.mem_range.1 hy
  rw [Nat.mod_eq_of_lt (Nat.succ_lt_succ hy')]
  simp

theorem filter_mod_range (k n : Nat) (hk : 0 < k) :
    (List.range (n * k)).filter (fun x => x % k == 0) = (List.range n).map (· * k) := by
  induction n with
  | zero => simp
  | succ n ih =>
    rw [Nat.succ_mul, List.range_add, List.filter_append, ih, List.range_succ, List.map_append,
      List.filter_map]
    congr 1
    have : ((fun x => x % k == 0) ∘ fun x => n * k + x) = fun x => x % k == 0 := by
      funext x
      simp only [Function.comp]
      rw [Nat.mul_comm n k, Nat.mul_add_mod]
    rw [this, filter_eq_zero_range k hk]
    simp

def get2 {α : Type} (vs : Array (Array α)) (a b : Nat) : Option α := vs[a]?.bind (·[b]?)

@[reducible] def RowsHave {α : Type} (vs : Array (Array α)) (w : Nat) : Prop :=
  ∀ (a : Nat) (row : Array α), vs[a]? = some row → row.size = w

theorem RowsHave.modify {α : Type} {vs : Array (Array α)} {w : Nat} (h : RowsHave vs w)
    (a b : Nat) (v : α) : RowsHave (vs.modify a (fun r => r.setIfInBounds b v)) w := by
  intro a' row hr
  rw [Array.getElem?_modify] at hr
  split at hr
  · cases hv : vs[a']? with
    | none => simp [hv] at hr
    | some r0 =>
      simp only [hv, Option.map_some, Option.some.injEq] at hr
      subst hr
      rw [Array.size_setIfInBounds]
      exact h a' r0 hv
  · exact h a' row hr

theorem get2_eq_getElem {α : Type} (vs : Array (Array α)) (a b : Nat) (v : α)
    (h : get2 vs a b = some v) : ∃ (ha : a < vs.size) (hb : b < vs[a].size), vs[a][b] = v := by
  unfold get2 at h
  cases hv : vs[a]? with
  | none => simp [hv] at h
  | some row =>
    obtain ⟨ha, hrow⟩ := Array.getElem?_eq_some_iff.1 hv
    simp only [hv, Option.bind_some] at h
    obtain ⟨hb, hval⟩ := Array.getElem?_eq_some_iff.1 h
    subst hrow
    exact ⟨ha, hb, hval⟩

end Tok

namespace Fmt
open Tok

/-- `Fmt.read` with the tokenisation factored out: what `Mesh1D::read` does with the token list -/
def readToks (m : Mesh1 Float Float) (toks : List String) : Mesh1 Float Float :=
  let k := m.nvars + 1
  let nodes := ((List.range toks.length).filter (· % k == 0)).map (fun i => parse (toks[i]?.getD "0"))
  let nn := nodes.length
  let vars0 : Array (Array Float) :=
    if nn ≤ m.vars.size then m.vars.extract 0 nn else m.vars ++ Array.replicate (nn - m.vars.size) (Array.replicate m.nvars 0.0)
  let vars := (List.range toks.length).foldl (fun (vs : Array (Array Float)) i =>
    if i % k == 0 then vs
    else
      let node := i / k
      let var := i % k - 1
      vs.modify node (fun row => row.setIfInBounds var (parse (toks[i]?.getD "0")))) vars0
  { m with nodes := nodes.toArray, vars := vars }

theorem read_eq_readToks (m : Mesh1 Float Float) (text : String) :
    read m text = readToks m (tokens text) := rfl

theorem readToks_nvars (m : Mesh1 Float Float) (toks : List String) :
    (readToks m toks).nvars = m.nvars := rfl

theorem readToks_nodes (m : Mesh1 Float Float) (toks : List String) (n : Nat)
    (hlen : toks.length = n * (m.nvars + 1)) :
    (readToks m toks).nodes
      = ((List.range n).map (fun i => parse (toks[i * (m.nvars + 1)]?.getD "0"))).toArray := by
  unfold readToks
  simp only [hlen, filter_mod_range (m.nvars + 1) n (Nat.succ_pos _), List.map_map]
  rfl

/-- the resized variable array `self.vars.resize(nodes.size(), vec![0.0; nvars])` -/
def resized (m : Mesh1 Float Float) (nn : Nat) : Array (Array Float) :=
  if nn ≤ m.vars.size then m.vars.extract 0 nn
  else m.vars ++ Array.replicate (nn - m.vars.size) (Array.replicate m.nvars 0.0)

theorem resized_size (m : Mesh1 Float Float) (nn : Nat) : (resized m nn).size = nn := by
  unfold resized
  split
  · rw [Array.size_extract, Nat.sub_zero, Nat.min_eq_left ‹_›]
  · rw [Array.size_append, Array.size_replicate, Nat.add_sub_cancel' (Nat.le_of_not_le ‹_›)]

theorem resized_rows (m : Mesh1 Float Float) (hm : m.RowsOk) (nn : Nat) :
    RowsHave (resized m nn) m.nvars := by
  intro a row hr
  unfold resized at hr
  split at hr
  · rw [Array.getElem?_extract] at hr
    split at hr
    · obtain ⟨ha, rfl⟩ := Array.getElem?_eq_some_iff.1 hr
      exact hm _ ha
    · cases hr
  · rw [Array.getElem?_append] at hr
    split at hr
    · obtain ⟨ha, rfl⟩ := Array.getElem?_eq_some_iff.1 hr
      exact hm _ ha
    · rw [Array.getElem?_replicate] at hr
      split at hr
      · cases hr; simp
      · cases hr

/-- one step of the placement loop of `Mesh1D::read` -/
def place (k : Nat) (toks : List String) (vs : Array (Array Float)) (i : Nat) : Array (Array Float) :=
  if i % k == 0 then vs
  else vs.modify (i / k) (fun row => row.setIfInBounds (i % k - 1) (parse (toks[i]?.getD "0")))

theorem get2_place_ne {k i a b : Nat} (toks : List String) (vs : Array (Array Float))
    (h : ¬ (i / k = a ∧ i % k - 1 = b)) : get2 (place k toks vs i) a b = get2 vs a b := by
  unfold place
  split
  · rfl
  simp only [get2, Array.getElem?_modify]
  by_cases ha : i / k = a
  · have hb : ¬ i % k - 1 = b := fun hb => h ⟨ha, hb⟩
    cases hv : vs[a]? with
    | none => simp
    | some row => simp [ha, hb]
  · simp [ha]

theorem get2_place_self {k i : Nat} (toks : List String) {vs : Array (Array Float)}
    {row : Array Float} (hi : i % k ≠ 0) (hr : vs[i / k]? = some row) (hb : i % k - 1 < row.size) :
    get2 (place k toks vs i) (i / k) (i % k - 1) = some (parse (toks[i]?.getD "0")) := by
  unfold place
  rw [if_neg fun e => hi (beq_iff_eq.mp e)]
  simp [get2, Array.getElem?_modify, hr, hb]

theorem foldl_place_size (k : Nat) (toks : List String) (l : List Nat) (vs : Array (Array Float)) :
    (l.foldl (place k toks) vs).size = vs.size := by
  refine foldl_preserves Array.size _ (fun vs i => ?_) l vs
  unfold place
  split
  · rfl
  · exact Array.size_modify

theorem foldl_place_rows (k : Nat) (toks : List String) (l : List Nat) {vs : Array (Array Float)}
    {w : Nat} (h : RowsHave vs w) : RowsHave (l.foldl (place k toks) vs) w := by
  induction l generalizing vs with
  | nil => exact h
  | cons i l ih =>
    refine ih ?_
    unfold place
    split
    · exact h
    · exact h.modify _ _ _

/-- tokens `j < t`, `j` not a node token, are placed at different slots (`j = k * (j / k) + j % k`) -/
theorem slot_ne {k j t : Nat} (hlt : j < t) (hj0 : j % k ≠ 0) :
    ¬ (t / k = j / k ∧ t % k - 1 = j % k - 1) := by
  rintro ⟨e1, e2⟩
  have h1 := Nat.div_add_mod j k
  have h2 := Nat.div_add_mod t k
  rw [e1] at h2
  omega

/-- the loop invariant: after the first `t` tokens, every variable token `j < t` sits at row `j / k`,
column `j % k - 1` -/
theorem place_inv (w n : Nat) (toks : List String) (vars0 : Array (Array Float))
    (hs : vars0.size = n) (hr : RowsHave vars0 w) (t : Nat) (ht : t ≤ n * (w + 1)) :
    ∀ j, j < t → j % (w + 1) ≠ 0 →
      get2 ((List.range t).foldl (place (w + 1) toks) vars0) (j / (w + 1)) (j % (w + 1) - 1)
        = some (parse (toks[j]?.getD "0")) := by
  induction t with
  | zero => exact fun j hj => absurd hj (Nat.not_lt_zero _)
  | succ t ih =>
    intro j hj hj0
    rw [List.range_succ, List.foldl_append, List.foldl_cons, List.foldl_nil]
    rcases Nat.lt_or_ge j t with hlt | hge
    · rw [get2_place_ne toks _ (slot_ne hlt hj0), ih (Nat.le_of_succ_le ht) j hlt hj0]
    · obtain rfl : j = t := Nat.le_antisymm (Nat.le_of_lt_succ hj) hge
      have hlt : j / (w + 1) < ((List.range j).foldl (place (w + 1) toks) vars0).size := by
        rw [foldl_place_size, hs]
        exact Nat.div_lt_of_lt_mul (by rw [Nat.mul_comm]; exact ht)
      have hrow := Array.getElem?_eq_getElem hlt
      have hsz := foldl_place_rows (w + 1) toks _ hr _ _ hrow
      refine get2_place_self toks hj0 hrow ?_
      rw [hsz]
      exact Nat.sub_one_lt_of_le (Nat.pos_of_ne_zero hj0)
        (Nat.le_of_lt_succ (Nat.mod_lt j (Nat.succ_pos w)))

theorem readToks_vars_eq (m : Mesh1 Float Float) (toks : List String) (n : Nat)
    (hlen : toks.length = n * (m.nvars + 1)) :
    (readToks m toks).vars
      = (List.range (n * (m.nvars + 1))).foldl (place (m.nvars + 1) toks) (resized m n) := by
  unfold readToks
  simp only [hlen, filter_mod_range (m.nvars + 1) n (Nat.succ_pos _), List.length_map,
    List.length_range]
  rfl

theorem readToks_vars_size (m : Mesh1 Float Float) (toks : List String) (n : Nat)
    (hlen : toks.length = n * (m.nvars + 1)) : (readToks m toks).vars.size = n := by
  rw [readToks_vars_eq m toks n hlen, foldl_place_size, resized_size]

theorem readToks_rows (m : Mesh1 Float Float) (hm : m.RowsOk) (toks : List String) (n : Nat)
    (hlen : toks.length = n * (m.nvars + 1)) : (readToks m toks).RowsOk := by
  intro i hi
  have h := foldl_place_rows (m.nvars + 1) toks (List.range (n * (m.nvars + 1)))
    (resized_rows m hm n)
  rw [← readToks_vars_eq m toks n hlen] at h
  exact h i _ (Array.getElem?_eq_getElem hi)

theorem readToks_vars (m : Mesh1 Float Float) (hm : m.RowsOk) (toks : List String) (n : Nat)
    (hlen : toks.length = n * (m.nvars + 1)) (i j : Nat) (hi : i < n) (hj : j < m.nvars) :
    get2 (readToks m toks).vars i j
      = some (parse (toks[i * (m.nvars + 1) + (j + 1)]?.getD "0")) := by
  have hj1 : j + 1 < m.nvars + 1 := Nat.succ_lt_succ hj
  have h := place_inv m.nvars n toks (resized m n) (resized_size m n) (resized_rows m hm n) _
    (Nat.le_refl _) (i * (m.nvars + 1) + (j + 1)) (Mat.idx_lt hi hj1) (by
      rw [Mat.idx_mod hj1]; exact Nat.succ_ne_zero j)
  rw [← readToks_vars_eq m toks n hlen, Mat.idx_div hj1, Mat.idx_mod hj1] at h
  exact h

end Fmt
end Ohsl
