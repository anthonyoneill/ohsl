/-
  Ohsl.Lemmas.CFun — the principal square root and the inverse trigonometric and hyperbolic functions
  on Mathlib's ℂ, written as the complex model computes them (Ohsl/Model/CxFun.lean: `csqrt`, `casin`,
  `cacos`, `catan`, `casinh`, `cacosh`, `catanh`).  Mathlib has the real `arcsin`, `arsinh`, … but no
  complex ones.  No model term occurs here: Props/C14I.lean proves `toC (casin z) = CFun.asin (toC z)`
  and its siblings, and the identities, ranges and real-axis values of the model's functions are the
  lemmas below read through them.
-/
import Mathlib.Analysis.SpecialFunctions.Complex.Log
import Mathlib.Analysis.SpecialFunctions.Pow.Complex
import Mathlib.Analysis.SpecialFunctions.Trigonometric.Arctan
import Mathlib.Analysis.SpecialFunctions.Sqrt
import Mathlib.Analysis.SpecialFunctions.Arsinh
import Mathlib.Analysis.SpecialFunctions.Artanh
import Mathlib.Analysis.SpecialFunctions.Arcosh
import Mathlib.Tactic.FieldSimp
import Mathlib.Tactic.Positivity
import Mathlib.Tactic.Ring
import Mathlib.Tactic.Linarith
import Mathlib.Tactic.LinearCombination
namespace Ohsl.CFun
open Real

/-- principal square root: `√|w| · exp (i arg w / 2)` -/
noncomputable def sqrt (w : ℂ) : ℂ :=
  ((Real.sqrt ‖w‖ : ℝ) : ℂ) * Complex.exp (((1 / 2 * Complex.arg w : ℝ) : ℂ) * Complex.I)

theorem sqrt_mul_self (w : ℂ) : sqrt w * sqrt w = w := by
  rw [sqrt, mul_mul_mul_comm, ← Complex.ofReal_mul, Real.mul_self_sqrt (norm_nonneg _),
    ← Complex.exp_add, ← add_mul, ← Complex.ofReal_add,
    show (1 / 2 * Complex.arg w + 1 / 2 * Complex.arg w : ℝ) = Complex.arg w by ring]
  exact Complex.norm_mul_exp_arg_mul_I w

theorem sqrt_re (w : ℂ) : (sqrt w).re = Real.sqrt ‖w‖ * Real.cos (1 / 2 * Complex.arg w) := by
  rw [sqrt, Complex.re_ofReal_mul, Complex.exp_ofReal_mul_I_re]

theorem sqrt_im (w : ℂ) : (sqrt w).im = Real.sqrt ‖w‖ * Real.sin (1 / 2 * Complex.arg w) := by
  rw [sqrt, Complex.im_ofReal_mul, Complex.exp_ofReal_mul_I_im]

theorem half_arg_range (w : ℂ) :
    -(π / 2) < 1 / 2 * Complex.arg w ∧ 1 / 2 * Complex.arg w ≤ π / 2 := by
  rw [one_div_mul_eq_div, ← neg_div]
  exact ⟨div_lt_div_of_pos_right (Complex.neg_pi_lt_arg w) two_pos,
    div_le_div_of_nonneg_right (Complex.arg_le_pi w) two_pos.le⟩

theorem sqrt_re_nonneg (w : ℂ) : 0 ≤ (sqrt w).re := by
  have h := half_arg_range w
  rw [sqrt_re]
  exact mul_nonneg (Real.sqrt_nonneg _) (Real.cos_nonneg_of_neg_pi_div_two_le_of_le h.1.le h.2)

theorem sqrt_im_nonneg_of_re_eq_zero (w : ℂ) (h : (sqrt w).re = 0) : 0 ≤ (sqrt w).im := by
  have hr := half_arg_range w
  rw [sqrt_re] at h
  rw [sqrt_im]
  rcases mul_eq_zero.mp h with h0 | h0
  · rw [h0, zero_mul]
  · -- `cos` is positive inside `(-π/2, π/2)`, so the half argument is `π/2`
    have : 1 / 2 * Complex.arg w = π / 2 :=
      hr.2.eq_of_not_lt fun hlt => (Real.cos_pos_of_mem_Ioo ⟨hr.1, hlt⟩).ne' h0
    rw [this, Real.sin_pi_div_two, mul_one]
    exact Real.sqrt_nonneg _

theorem sqrt_eq_cpow (w : ℂ) : sqrt w = w ^ (1 / 2 : ℂ) := by
  by_cases hz : w = 0
  · rw [sqrt, hz]; simp
  · have hr : 0 < ‖w‖ := norm_pos_iff.mpr hz
    rw [sqrt, Complex.cpow_def_of_ne_zero hz, Complex.log]
    have : ((Real.log ‖w‖ : ℝ) + (Complex.arg w : ℂ) * Complex.I) * (1 / 2 : ℂ) =
        ((Real.log ‖w‖ / 2 : ℝ) : ℂ) + ((1 / 2 * Complex.arg w : ℝ) : ℂ) * Complex.I := by
      push_cast; ring
    rw [this, Complex.exp_add, ← Complex.ofReal_exp, Real.exp_half, Real.exp_log hr]

theorem sqrt_ofReal {r : ℝ} (hr : 0 ≤ r) : sqrt (r : ℂ) = ((Real.sqrt r : ℝ) : ℂ) := by
  rw [sqrt, Complex.arg_ofReal_of_nonneg hr, Complex.norm_real, Real.norm_eq_abs, abs_of_nonneg hr]
  simp

theorem sqrt_ofReal_neg {r : ℝ} (hr : r < 0) :
    sqrt (r : ℂ) = ((Real.sqrt (-r) : ℝ) : ℂ) * Complex.I := by
  rw [sqrt, Complex.arg_ofReal_of_neg hr, Complex.norm_real, Real.norm_eq_abs, abs_of_neg hr]
  have : (((1 / 2 * π : ℝ) : ℂ)) * Complex.I = (π : ℂ) / 2 * Complex.I := by push_cast; ring
  rw [this, Complex.exp_pi_div_two_mul_I]

theorem sin_neg_I_mul_log (w : ℂ) (hw : w ≠ 0) :
    Complex.sin (-Complex.I * Complex.log w) = (w⁻¹ - w) * Complex.I / 2 := by
  rw [show -Complex.I * Complex.log w = -Complex.log w * Complex.I by ring, Complex.sin_mul_I,
    Complex.sinh_neg, Complex.sinh, Complex.exp_neg, Complex.exp_log hw]
  ring

/-- if `s² = 1 - z²` and `Re s ≥ 0` then `|Im z| ≤ Re s`: with `s = a + ib`, `z = x + iy` the
equation says `a² - b² = 1 - x² + y²` and `ab = -xy`; were `a² < y²`, the first would give
`b² < x²`, hence `a²b² < x²y²`, against the second -/
theorem sqrt_re_ge_abs_im {s z : ℂ} (hs : s * s = 1 - z * z) (h0 : 0 ≤ s.re) : |z.im| ≤ s.re := by
  have hre := congrArg Complex.re hs
  have him := congrArg Complex.im hs
  simp only [Complex.mul_re, Complex.mul_im, Complex.sub_re, Complex.sub_im, Complex.one_re,
    Complex.one_im] at hre him
  generalize s.re = a, s.im = b, z.re = x, z.im = y at *
  refine abs_le_of_sq_le_sq (le_of_not_gt fun hlt => ?_) h0
  have h1 : b ^ 2 < x ^ 2 := by linarith only [hre, hlt]
  have h2 : a ^ 2 * b ^ 2 = y ^ 2 * x ^ 2 := by linear_combination (a * b - x * y) / 2 * him
  exact (mul_lt_mul'' hlt h1 (sq_nonneg a) (sq_nonneg b)).ne h2

noncomputable def asin (w : ℂ) : ℂ := -Complex.I * Complex.log (sqrt (1 - w * w) + Complex.I * w)

noncomputable def acos (w : ℂ) : ℂ :=
  Complex.I * Complex.log (sqrt (1 - w * w) + Complex.I * w) + ((π / 2 : ℝ) : ℂ)

theorem asin_arg_mul (w : ℂ) :
    (sqrt (1 - w * w) + Complex.I * w) * (sqrt (1 - w * w) - Complex.I * w) = 1 := by
  linear_combination sqrt_mul_self (1 - w * w) - w ^ 2 * Complex.I_sq

theorem sin_asin (w : ℂ) : Complex.sin (asin w) = w := by
  have hw := asin_arg_mul w
  rw [asin, sin_neg_I_mul_log _ (left_ne_zero_of_mul_eq_one hw), inv_eq_of_mul_eq_one_right hw]
  linear_combination (-w) * Complex.I_sq

theorem asin_add_acos (w : ℂ) : asin w + acos w = (π : ℂ) / 2 := by
  rw [asin, acos]; push_cast; ring

theorem cos_acos (w : ℂ) : Complex.cos (acos w) = w := by
  rw [eq_sub_of_add_eq' (asin_add_acos w), Complex.cos_pi_div_two_sub, sin_asin]

/-- the argument of the logarithm lies in the closed right half plane -/
theorem asin_re_range (w : ℂ) : -(π / 2) ≤ (asin w).re ∧ (asin w).re ≤ π / 2 := by
  have hre : (asin w).re = Complex.arg (sqrt (1 - w * w) + Complex.I * w) := by
    simp [asin, Complex.log_im]
  rw [hre]
  refine abs_le.mp (Complex.abs_arg_le_pi_div_two_iff.mpr ?_)
  have h := sqrt_re_ge_abs_im (sqrt_mul_self (1 - w * w)) (sqrt_re_nonneg _)
  have h' := le_abs_self w.im
  simp only [Complex.add_re, Complex.mul_re, Complex.I_re, Complex.I_im, zero_mul, one_mul, zero_sub]
  linarith

theorem acos_re_range (w : ℂ) : 0 ≤ (acos w).re ∧ (acos w).re ≤ π := by
  have h := congrArg Complex.re (asin_add_acos w)
  have e : ((π : ℂ) / 2).re = π / 2 := by simp
  rw [Complex.add_re, e] at h
  have ha := asin_re_range w
  rw [eq_sub_of_add_eq' h]
  exact ⟨sub_nonneg.mpr ha.2,
    (sub_le_sub_left ha.1 _).trans_eq (by rw [sub_neg_eq_add, add_halves])⟩

theorem asin_ofReal (x : ℝ) (h1 : -1 ≤ x) (h2 : x ≤ 1) : asin (x : ℂ) = (Real.arcsin x : ℂ) := by
  have hnn : 0 ≤ 1 - x ^ 2 := by
    rw [sub_nonneg, sq_le_one_iff_abs_le_one, abs_le]; exact ⟨h1, h2⟩
  rw [asin, show (1 : ℂ) - x * x = ((1 - x ^ 2 : ℝ) : ℂ) by push_cast; ring, sqrt_ofReal hnn,
    ← Real.cos_arcsin]
  have hx : (x : ℂ) = ((Real.sin (Real.arcsin x) : ℝ) : ℂ) := by rw [Real.sin_arcsin h1 h2]
  have he : ((Real.cos (Real.arcsin x) : ℝ) : ℂ) + Complex.I * (x : ℂ) =
      Complex.exp ((Real.arcsin x : ℂ) * Complex.I) := by
    rw [Complex.exp_mul_I, ← Complex.ofReal_cos, ← Complex.ofReal_sin, ← hx]; ring
  have hlo : -π < ((Real.arcsin x : ℂ) * Complex.I).im := by
    rw [Complex.mul_I_im, Complex.ofReal_re]
    exact (neg_lt_neg (half_lt_self Real.pi_pos)).trans_le (Real.neg_pi_div_two_le_arcsin x)
  have hhi : ((Real.arcsin x : ℂ) * Complex.I).im ≤ π := by
    rw [Complex.mul_I_im, Complex.ofReal_re]
    exact (Real.arcsin_le_pi_div_two x).trans (half_le_self Real.pi_pos.le)
  rw [he, Complex.log_exp hlo hhi]
  linear_combination (-(Real.arcsin x : ℂ)) * Complex.I_sq

theorem acos_ofReal (x : ℝ) (h1 : -1 ≤ x) (h2 : x ≤ 1) : acos (x : ℂ) = (Real.arccos x : ℂ) := by
  rw [eq_sub_of_add_eq' (asin_add_acos (x : ℂ)), asin_ofReal x h1 h2,
    Real.arccos_eq_pi_div_two_sub_arcsin]
  push_cast; ring

noncomputable def asinh (w : ℂ) : ℂ := Complex.log (sqrt (w * w + 1) + w)

noncomputable def acosh (w : ℂ) : ℂ := Complex.log (sqrt (w - 1) * sqrt (w + 1) + w)

theorem sinh_asinh (w : ℂ) : Complex.sinh (asinh w) = w := by
  have hw : (sqrt (w * w + 1) + w) * (sqrt (w * w + 1) - w) = 1 := by
    linear_combination sqrt_mul_self (w * w + 1)
  rw [asinh, Complex.sinh, Complex.exp_neg, Complex.exp_log (left_ne_zero_of_mul_eq_one hw),
    inv_eq_of_mul_eq_one_right hw]
  ring

theorem cosh_acosh (w : ℂ) : Complex.cosh (acosh w) = w := by
  have hw : (sqrt (w - 1) * sqrt (w + 1) + w) * (w - sqrt (w - 1) * sqrt (w + 1)) = 1 := by
    linear_combination (-(sqrt (w + 1) * sqrt (w + 1))) * sqrt_mul_self (w - 1)
      - (w - 1) * sqrt_mul_self (w + 1)
  rw [acosh, Complex.cosh, Complex.exp_neg, Complex.exp_log (left_ne_zero_of_mul_eq_one hw),
    inv_eq_of_mul_eq_one_right hw]
  ring

/-- `√(w² + 1)² = 1 - (iw)²`, so the argument of the logarithm lies in the closed right half plane -/
theorem asinh_im_range (w : ℂ) : -(π / 2) ≤ (asinh w).im ∧ (asinh w).im ≤ π / 2 := by
  have hs : sqrt (w * w + 1) * sqrt (w * w + 1) = 1 - (Complex.I * w) * (Complex.I * w) := by
    rw [sqrt_mul_self]
    linear_combination w ^ 2 * Complex.I_sq
  have h := sqrt_re_ge_abs_im hs (sqrt_re_nonneg _)
  have h' := neg_abs_le (Complex.I * w).im
  have hre : 0 ≤ (sqrt (w * w + 1) + w).re := by
    simp only [Complex.mul_im, Complex.I_re, Complex.I_im, zero_mul, one_mul, zero_add] at h h'
    simp only [Complex.add_re]
    linarith
  rw [asinh, Complex.log_im]
  exact abs_le.mp (Complex.abs_arg_le_pi_div_two_iff.mpr hre)

theorem asinh_ofReal (x : ℝ) : asinh (x : ℂ) = (Real.arsinh x : ℂ) := by
  have hpos : 0 < x + Real.sqrt (1 + x ^ 2) := Real.exp_arsinh x ▸ Real.exp_pos _
  rw [asinh, show (x : ℂ) * x + 1 = ((1 + x ^ 2 : ℝ) : ℂ) by push_cast; ring,
    sqrt_ofReal (by positivity), Real.arsinh, Complex.ofReal_log hpos.le]
  push_cast; rw [add_comm]

theorem acosh_ofReal (x : ℝ) (h1 : 1 ≤ x) : acosh (x : ℂ) = (Real.arcosh x : ℂ) := by
  have hs : Real.sqrt (x - 1) * Real.sqrt (x + 1) = Real.sqrt (x ^ 2 - 1) := by
    rw [← Real.sqrt_mul (sub_nonneg.mpr h1)]; congr 1; ring
  have hx : 0 ≤ x := zero_le_one.trans h1
  have hpos : 0 ≤ x + Real.sqrt (x ^ 2 - 1) := add_nonneg hx (Real.sqrt_nonneg _)
  rw [acosh, show (x : ℂ) - 1 = ((x - 1 : ℝ) : ℂ) by push_cast; ring,
    show (x : ℂ) + 1 = ((x + 1 : ℝ) : ℂ) by push_cast; ring, sqrt_ofReal (sub_nonneg.mpr h1),
    sqrt_ofReal (add_nonneg hx zero_le_one), Real.arcosh, Complex.ofReal_log hpos, ← hs]
  push_cast; rw [add_comm]

noncomputable def atanh (w : ℂ) : ℂ := (Complex.log (w + 1) - Complex.log (1 - w)) / 2

noncomputable def atan (w : ℂ) : ℂ := -(atanh (Complex.I * w)) * Complex.I

/-- with `E`, `F` the exponentials of plus and minus `atanh w`, `E F = 1` and `E² (1 - w) = w + 1` give
`E - F = w (E + F)` -/
theorem tanh_atanh {w : ℂ} (h1 : w ≠ 1) (h2 : w ≠ -1) : Complex.tanh (atanh w) = w := by
  have ha : 1 - w ≠ 0 := sub_ne_zero.mpr h1.symm
  have hb : w + 1 ≠ 0 := fun h => h2 (eq_neg_of_add_eq_zero_left h)
  rw [atanh]
  set L := Complex.log (w + 1) - Complex.log (1 - w) with hL
  set E := Complex.exp (L / 2) with hE
  set F := Complex.exp (-(L / 2)) with hF
  have hEF : E * F = 1 := by rw [hE, hF, ← Complex.exp_add, add_neg_cancel, Complex.exp_zero]
  have hEE : E * E * (1 - w) = w + 1 := by
    rw [hE, ← Complex.exp_add, add_halves, hL, Complex.exp_sub, Complex.exp_log ha,
      Complex.exp_log hb, div_mul_cancel₀ _ ha]
  have key : E - F = w * (E + F) := by linear_combination F * hEE - (E * (1 - w)) * hEF
  have hsum : E + F ≠ 0 := by
    intro h0
    rw [h0, mul_zero] at key
    apply Complex.exp_ne_zero (L / 2)
    linear_combination (1 / 2 : ℂ) * h0 + (1 / 2 : ℂ) * key
  rw [Complex.tanh_eq_sinh_div_cosh, Complex.sinh, Complex.cosh, ← hE, ← hF, key]
  field_simp

theorem tan_atan {w : ℂ} (h1 : w ≠ Complex.I) (h2 : w ≠ -Complex.I) : Complex.tan (atan w) = w := by
  have ha : Complex.I * w ≠ 1 := fun h => h2 (by
    linear_combination (-Complex.I) * h + w * Complex.I_sq)
  have hb : Complex.I * w ≠ -1 := fun h => h1 (by
    linear_combination (-Complex.I) * h + w * Complex.I_sq)
  rw [atan, Complex.tan_mul_I, Complex.tanh_neg, tanh_atanh ha hb]
  linear_combination (-w) * Complex.I_sq

theorem atanh_ofReal (x : ℝ) (h1 : -1 < x) (h2 : x < 1) : atanh (x : ℂ) = (Real.artanh x : ℂ) := by
  have ha : (0 : ℝ) < 1 + x := neg_lt_iff_pos_add'.mp h1
  have hb : (0 : ℝ) < 1 - x := sub_pos.mpr h2
  have e1 : ((x : ℂ) + 1) = ((1 + x : ℝ) : ℂ) := by push_cast; ring
  have e2 : (1 - (x : ℂ)) = ((1 - x : ℝ) : ℂ) := by push_cast; ring
  rw [atanh, e1, e2, ← Complex.ofReal_log ha.le, ← Complex.ofReal_log hb.le,
    Real.artanh_eq_half_log ⟨h1.le, h2.le⟩, Real.log_div ha.ne' hb.ne']
  push_cast; ring

theorem arg_of_re_pos {w : ℂ} (h : 0 < w.re) : Complex.arg w = Real.arctan (w.im / w.re) := by
  have h1 : |Complex.arg w| < π / 2 := Complex.abs_arg_lt_pi_div_two_iff.mpr (Or.inl h)
  rw [← Complex.tan_arg w, Real.arctan_tan (abs_lt.mp h1).1 (abs_lt.mp h1).2]

theorem atan_ofReal (x : ℝ) : atan (x : ℂ) = (Real.arctan x : ℂ) := by
  have e1 : (Complex.I * (x : ℂ) + 1) = ⟨1, x⟩ := by apply Complex.ext <;> simp
  have e2 : (1 - Complex.I * (x : ℂ)) = ⟨1, -x⟩ := by apply Complex.ext <;> simp
  have a1 : Complex.arg ⟨1, x⟩ = Real.arctan x := by
    have := arg_of_re_pos (w := ⟨1, x⟩) one_pos; rwa [div_one] at this
  have a2 : Complex.arg ⟨1, -x⟩ = -Real.arctan x := by
    have := arg_of_re_pos (w := ⟨1, -x⟩) one_pos; rwa [div_one, Real.arctan_neg] at this
  have n : ‖(⟨1, -x⟩ : ℂ)‖ = ‖(⟨1, x⟩ : ℂ)‖ := by
    simp [Complex.norm_def, Complex.normSq_apply]
  rw [atan, atanh, e1, e2]
  apply Complex.ext
  · simp [Complex.log_im, a1, a2]
  · simp [Complex.log_re, n]

end Ohsl.CFun
