/-
  Ohsl.Lemmas.MatIdx — the checked primitives `aget`, `aset`, `usub` when their check passes and
  when it fails, the guards `if … then .error … else …` in front of a call, and row-major storage:
  `i*c + j` is in range, gives back `i` and `j` and so is injective on `i < r, j < c`; `get` after
  `set`; well-formedness is preserved.  Core Lean only.
-/
import Ohsl.Lemmas.Loop
namespace Ohsl
namespace Mat

theorem aget_ok {α} {a : Array α} {i : Nat} (h : i < a.size) : aget a i = .ok a[i] := by
  simp [aget, h]

theorem aget_err {α} {a : Array α} {i : Nat} (h : a.size ≤ i) : aget a i = .error .range := by
  have : a[i]? = none := by simp [h]
  simp [aget, this]

theorem aget_eq_ok {α} {a : Array α} {i : Nat} {v : α} : aget a i = .ok v ↔ a[i]? = some v := by
  unfold aget
  cases h : a[i]? <;> simp

theorem aset_ok {α} {a : Array α} {i : Nat} (v : α) (h : i < a.size) :
    aset a i v = .ok (a.setIfInBounds i v) := by simp [aset, h]

theorem aset_err {α} {a : Array α} {i : Nat} (v : α) (h : a.size ≤ i) :
    aset a i v = .error .range := by
  have : ¬ i < a.size := by omega
  simp [aset, this]

end Mat

theorem aget_error {α : Type} {a : Array α} {i : Nat} {e : Err} (h : aget a i = .error e) :
    e = .range := by
  unfold aget at h
  split at h <;> cases h
  rfl

theorem aget_getD {α} {a : Array α} {i : Nat} (h : i < a.size) (d : α) :
    aget a i = .ok (a[i]?.getD d) := by
  rw [Mat.aget_ok h, Array.getElem?_eq_getElem h, Option.getD_some]

theorem usub_ok {a b : Nat} (h : b ≤ a) : usub a b = .ok (a - b) := if_pos h

theorem guard_ok_iff {α : Type} {p : Prop} [Decidable p] (v c : α) (e : Err) :
    (if p then .ok v else .error e : Res α) = .ok c ↔ p ∧ c = v := by
  split
  · exact ⟨fun h => ⟨‹p›, (Except.ok.inj h).symm⟩, fun h => h.2 ▸ rfl⟩
  · exact ⟨nofun, fun h => absurd h.1 ‹¬p›⟩

theorem guard_error_iff {α : Type} {p : Prop} [Decidable p] (v : α) (e e' : Err) :
    (if p then .ok v else .error e : Res α) = .error e' ↔ ¬ p ∧ e' = e := by
  split
  · exact ⟨nofun, fun h => absurd ‹p› h.1⟩
  · exact ⟨fun h => ⟨‹¬p›, (Except.error.inj h).symm⟩, fun h => h.2 ▸ rfl⟩

theorem ok_of_guard {α : Type} {p : Prop} [Decidable p] {e : Err} {x : Res α} {v : α}
    (h : (if p then .error e else x) = .ok v) : x = .ok v := by
  by_cases hp : p
  · rw [if_pos hp] at h; cases h
  · rwa [if_neg hp] at h

theorem ite_ok_cases {α : Type} {p : Prop} [Decidable p] {x y : Res α} {v : α}
    (h : (if p then x else y) = .ok v) : x = .ok v ∨ y = .ok v := by
  by_cases hp : p
  · rw [if_pos hp] at h; exact Or.inl h
  · rw [if_neg hp] at h; exact Or.inr h

theorem guard_or {α : Type} {p : Prop} [Decidable p] {e : Err} {x : Res α} (h : x = .error e) :
    (if p then .error e else x) = .error e := by
  rw [h, ite_self]

theorem not_lt_and_of {a b : Nat} {P : Prop} [Decidable P] (h : ¬ (a < b ∧ P)) : b ≤ a ∨ ¬ P :=
  (Decidable.not_and_iff_not_or_not.1 h).imp_left Nat.le_of_not_lt

theorem not_lt_and {a b c d : Nat} (h : ¬ (a < b ∧ c < d)) : b ≤ a ∨ d ≤ c :=
  (not_lt_and_of h).imp_right Nat.le_of_not_lt

theorem not_lt_and_and {a b c d : Nat} {P : Prop} [Decidable P] (h : ¬ (a < b ∧ c < d ∧ P)) :
    b ≤ a ∨ d ≤ c ∨ ¬ P :=
  (not_lt_and_of h).imp_right not_lt_and_of

namespace Mat
variable {K : Type}

theorem idx_lt {r c i j : Nat} (hi : i < r) (hj : j < c) : i * c + j < r * c := by
  calc i * c + j < i * c + c := Nat.add_lt_add_left hj _
    _ = (i + 1) * c := (Nat.succ_mul _ _).symm
    _ ≤ r * c := Nat.mul_le_mul_right _ hi

theorem idx_div {c i j : Nat} (hj : j < c) : (i * c + j) / c = i := by
  rw [Nat.mul_comm, Nat.mul_add_div (Nat.zero_lt_of_lt hj), Nat.div_eq_of_lt hj, Nat.add_zero]

theorem idx_mod {c i j : Nat} (hj : j < c) : (i * c + j) % c = j := by
  rw [Nat.mul_comm, Nat.mul_add_mod, Nat.mod_eq_of_lt hj]

theorem flat_decomp {r c f : Nat} (hf : f < r * c) : f / c < r ∧ f % c < c ∧ f / c * c + f % c = f := by
  have hc : 0 < c := by
    rcases Nat.eq_zero_or_pos c with h | h
    · subst h; simp at hf
    · exact h
  refine ⟨?_, Nat.mod_lt _ hc, Nat.div_add_mod' f c⟩
  apply Nat.div_lt_of_lt_mul
  rw [Nat.mul_comm]; exact hf

theorem idx_inj {c i j i' j' : Nat} (hj : j < c) (hj' : j' < c) (h : i * c + j = i' * c + j') :
    i = i' ∧ j = j' :=
  ⟨(idx_div hj).symm.trans ((congrArg (· / c) h).trans (idx_div hj')),
    (idx_mod hj).symm.trans ((congrArg (· % c) h).trans (idx_mod hj'))⟩

theorem get_ok {m : Mat K} (h : m.WF) {i j : Nat} (hi : i < m.rows) (hj : j < m.cols) :
    ∃ v, m.get i j = .ok v ∧ m.data[i * m.cols + j]? = some v := by
  have hlt : i * m.cols + j < m.data.size := by rw [h]; exact idx_lt hi hj
  exact ⟨m.data[i * m.cols + j], aget_ok hlt, by simp [hlt]⟩

theorem set_spec {m : Mat K} (h : m.WF) {i j : Nat} (hi : i < m.rows) (hj : j < m.cols) (v : K) :
    ∃ m', m.set i j v = .ok m' ∧ m'.WF ∧ m'.rows = m.rows ∧ m'.cols = m.cols ∧
      m'.get i j = .ok v ∧
      ∀ i' j', j' < m.cols → (i' ≠ i ∨ j' ≠ j) → m'.get i' j' = m.get i' j' := by
  have hlt : i * m.cols + j < m.data.size := by rw [h]; exact idx_lt hi hj
  refine ⟨{ m with data := m.data.setIfInBounds (i * m.cols + j) v }, ?_, ?_, rfl, rfl, ?_, ?_⟩
  · simp only [Mat.set, aset_ok v hlt, bind, Except.bind, pure, Except.pure]
  · show (m.data.setIfInBounds _ v).size = m.rows * m.cols
    rw [Array.size_setIfInBounds]
    exact h
  · simp only [Mat.get, aget, Array.getElem?_setIfInBounds_self_of_lt hlt]
  · intro i' j' hj' hne
    have : i * m.cols + j ≠ i' * m.cols + j' := fun e =>
      have := idx_inj hj hj' e
      hne.elim (fun h1 => h1 this.1.symm) (fun h2 => h2 this.2.symm)
    simp only [Mat.get, aget, Array.getElem?_setIfInBounds_ne this]

theorem set_err {m : Mat K} {i j : Nat} (v : K) (h : m.data.size ≤ i * m.cols + j) :
    m.set i j v = .error .range := by
  simp [Mat.set, aset_err v h, bind, Except.bind]

theorem new_wf (r c : Nat) (x : K) : (Mat.new r c x).WF := by simp [Mat.new, WF]

theorem new_get {r c i j : Nat} (x : K) (hi : i < r) (hj : j < c) :
    (Mat.new r c x).get i j = .ok x := by
  have := idx_lt hi hj
  simp [Mat.new, Mat.get, aget, this]

end Mat

end Ohsl
