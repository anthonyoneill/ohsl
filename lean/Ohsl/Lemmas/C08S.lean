/-
  Ohsl.Lemmas.C08S — the outcome (success / error class) of the two sparse products depends on the
  index structure of the storage alone: `Sp.indexCheck` is their loops run on NO values at all, and
  for an argument of the right length each product has the outcome of `Sp.storageCheck s` (outcomes
  are compared by `ExRel`, Lemmas/Loop.lean).  Core Lean only; class (S): any scalar type, arbitrary
  operations.
-/
import Ohsl.Model.Sparse
import Ohsl.Lemmas.MatIdx
namespace Ohsl

namespace Sp

section Check
variable {K : Type}

/-- The loops of `multiply` / `transpose_multiply` with every VALUE removed: what is left are the
    reads of `col_start[j]`, `col_start[j+1]` for every column `j < cols`, of `row_index[k]` for every
    slot `k` of the column, the bound `k < len(val)` of the read `val[k]`, and the row bound
    `row_index[k] < rows` (in `multiply` the index into the result of length `rows`, in
    `transpose_multiply` the index into the argument of length `rows`).  A function of
    `rows, cols, col_start, row_index, len(val)` only. -/
def indexCheck (rows cols : Nat) (colStart rowIndex : Array Nat) (nval : Nat) : Res Unit :=
  Mat.forM' 0 cols () (fun _ j => do
    let lo ← aget colStart j
    let hi ← aget colStart (j + 1)
    Mat.forM' lo hi () (fun _ k => do
      let ri ← aget rowIndex k
      if nval ≤ k then .error .range
      else if rows ≤ ri then .error .range
      else pure ()))

/-- `indexCheck` of the fields of `s`: does a product of `s` with a vector of the right length
    panic?  (`.ok ()`: no; `.error e`: yes, with class `e`.)  The values in `val` are not looked at. -/
def storageCheck (s : Sp K) : Res Unit :=
  indexCheck s.rows s.cols s.colStart s.rowIndex s.val.size

theorem indexCheck_error (rows cols : Nat) (colStart rowIndex : Array Nat) (nval : Nat) (e : Err)
    (h : indexCheck rows cols colStart rowIndex nval = .error e) : e = .range := by
  refine Mat.forM'_error (fun e => e = .range) _ _ _ _ (fun u j e h => ?_) e h
  cases h1 : aget colStart j with
  | error e1 =>
    rw [h1] at h; cases h; exact aget_error h1
  | ok lo =>
    rw [h1] at h
    cases h2 : aget colStart (j + 1) with
    | error e2 =>
      rw [h2] at h; cases h; exact aget_error h2
    | ok hi =>
      rw [h2] at h
      refine Mat.forM'_error (fun e => e = .range) _ _ _ _ (fun u k e h => ?_) e h
      cases h3 : aget rowIndex k with
      | error e3 =>
        rw [h3] at h; cases h; exact aget_error h3
      | ok ri =>
        rw [h3] at h
        simp only [bind, Except.bind] at h
        split at h
        · cases h; rfl
        · split at h
          · cases h; rfl
          · cases h

theorem storageCheck_error (s : Sp K) (e : Err) (h : storageCheck s = .error e) : e = .range :=
  indexCheck_error _ _ _ _ _ e h

end Check

variable {K : Type} [Add K] [Mul K] [Zero K]

theorem multiply_sim (s : Sp K) (x : Array K) (hx : x.size = s.cols) :
    ExRel (fun (r : Array K) (_ : Unit) => r.size = s.rows) (multiply s x) (storageCheck s) := by
  unfold multiply storageCheck indexCheck
  rw [if_neg (fun h => h hx.symm)]
  refine Mat.forM'_sim (fun (r : Array K) (_ : Unit) => r.size = s.rows) 0 s.cols _ ()
    _ _ (by simp) ?_
  intro j res u _ hj hres
  rw [Mat.aget_ok (show j < x.size from hx ▸ hj)]
  show ExRel _ (aget s.colStart j >>= _) (aget s.colStart j >>= _)
  refine ExRel.bind_same _ (fun lo _ => ?_)
  refine ExRel.bind_same _ (fun hi _ => ?_)
  refine Mat.forM'_sim (fun (r : Array K) (_ : Unit) => r.size = s.rows) lo hi res ()
    _ _ hres ?_
  intro k res u _ _ hres
  refine ExRel.bind_same _ (fun ri _ => ?_)
  by_cases hk : s.val.size ≤ k
  · rw [Mat.aget_err hk, if_pos hk]; rfl
  · rw [Mat.aget_ok (Nat.lt_of_not_le hk), if_neg hk]
    by_cases hr : s.rows ≤ ri
    · rw [if_pos hr, ← hres] at *
      show ExRel _ (aget res ri >>= _) _
      rw [Mat.aget_err hr]; rfl
    · rw [if_neg hr]
      have hlt : ri < res.size := hres ▸ Nat.lt_of_not_le hr
      show ExRel _ (aget res ri >>= _) _
      rw [Mat.aget_ok hlt]
      show ExRel _ (aset res ri _) _
      rw [Mat.aset_ok _ hlt]
      exact (Array.size_setIfInBounds ..).trans hres

theorem transposeMultiply_sim (s : Sp K) (y : Array K) (hy : y.size = s.rows) :
    ExRel (fun (r : Array K) (_ : Unit) => r.size = s.cols) (transposeMultiply s y)
      (storageCheck s) := by
  unfold transposeMultiply storageCheck indexCheck
  rw [if_neg (fun h => h hy.symm)]
  refine Mat.forM'_sim (fun (r : Array K) (_ : Unit) => r.size = s.cols) 0 s.cols _ ()
    _ _ (by simp) ?_
  intro i res u _ hi hres
  refine ExRel.bind_same _ (fun lo _ => ?_)
  refine ExRel.bind_same _ (fun hi' _ => ?_)
  refine Mat.forM'_sim (fun (r : Array K) (_ : Unit) => r.size = s.cols) lo hi' res ()
    _ _ hres ?_
  intro k res u _ _ hres
  have hlt : i < res.size := hres ▸ hi
  by_cases hk : s.val.size ≤ k
  · rw [Mat.aget_err hk]
    cases h3 : aget s.rowIndex k with
    | error e3 =>
      cases aget_error h3
      rfl
    | ok ri => simp only [bind, Except.bind, if_pos hk]; rfl
  · rw [Mat.aget_ok (Nat.lt_of_not_le hk)]
    show ExRel _ (aget s.rowIndex k >>= _) (aget s.rowIndex k >>= _)
    refine ExRel.bind_same _ (fun ri _ => ?_)
    rw [if_neg hk]
    by_cases hr : s.rows ≤ ri
    · rw [if_pos hr]
      rw [Mat.aget_err (hy ▸ hr)]; rfl
    · rw [if_neg hr, Mat.aget_ok (hy ▸ Nat.lt_of_not_le hr)]
      show ExRel _ (aget res i >>= _) _
      rw [Mat.aget_ok hlt]
      show ExRel _ (aset res i _) _
      rw [Mat.aset_ok _ hlt]
      exact (Array.size_setIfInBounds ..).trans hres

end Sp
end Ohsl
