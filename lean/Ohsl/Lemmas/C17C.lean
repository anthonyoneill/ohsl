/-
  Ohsl.Lemmas.C17C — the common shape of the two scalar Newton loops of the model
  (`Newton.solveScalar`, `Newton.solveCx`): a bounded loop with early exit over a step function, a
  stopping test and a list of evaluation points per iteration; every run is described by the
  iterate sequence `x_{k+1} = step x_k`.  Core Lean only.
-/
import Ohsl.Model.Newton
import Ohsl.Lemmas.ArrayIndex
namespace Ohsl

namespace NewtonGen
open Newton
variable {α : Type}

/-- bounded loop with early exit: `for _ in 0..n { if test cur { return Ok(step cur) }; cur = step cur }` -/
def loop (step : α → α) (test : α → Bool) (pts : α → List α) :
    Nat → α → List α → Out α × List α
  | 0, cur, tr => (⟨false, cur⟩, tr)
  | n + 1, cur, tr =>
    if test cur then (⟨true, step cur⟩, tr ++ pts cur)
    else loop step test pts n (step cur) (tr ++ pts cur)

def iter (step : α → α) (x0 : α) : Nat → α
  | 0 => x0
  | k + 1 => step (iter step x0 k)

theorem iter_shift (step : α → α) (x0 : α) : ∀ k, iter step x0 (k + 1) = iter step (step x0) k
  | 0 => rfl
  | k + 1 => congrArg step (iter_shift step x0 k)

theorem loop_succ_true (step : α → α) {test : α → Bool} (pts : α → List α) (n : Nat) {x : α}
    (tr : List α) (h : test x = true) :
    loop step test pts (n + 1) x tr = (⟨true, step x⟩, tr ++ pts x) := by
  rw [loop, if_pos h]

theorem loop_succ_false (step : α → α) {test : α → Bool} (pts : α → List α) (n : Nat) {x : α}
    (tr : List α) (h : test x = false) :
    loop step test pts (n + 1) x tr = loop step test pts n (step x) (tr ++ pts x) := by
  rw [loop, if_neg (by rw [h]; exact Bool.false_ne_true)]

theorem trace_shift (step : α → α) (pts : α → List α) (x0 : α) (tr : List α) (k : Nat) :
    tr ++ pts x0 ++ (List.range k).flatMap (fun j => pts (iter step (step x0) j))
      = tr ++ (List.range (k + 1)).flatMap (fun j => pts (iter step x0 j)) := by
  rw [List.range_succ_eq_map, List.flatMap_cons, List.flatMap_map, List.append_assoc]
  simp only [iter_shift]
  rfl

theorem test_shift (step : α → α) {test : α → Bool} {x0 : α} {k : Nat} (h0 : test x0 = false)
    (h : ∀ j, j < k → test (iter step (step x0) j) = false) :
    ∀ j, j < k + 1 → test (iter step x0 j) = false
  | 0, _ => h0
  | j + 1, hj => by rw [iter_shift]; exact h j (Nat.lt_of_succ_lt_succ hj)

theorem loop_char (step : α → α) (test : α → Bool) (pts : α → List α) :
    ∀ (n : Nat) (x0 : α) (tr : List α),
      ((loop step test pts n x0 tr).1.ok = true → ∃ k, k < n ∧
        (loop step test pts n x0 tr).1.x = iter step x0 (k + 1) ∧
        test (iter step x0 k) = true ∧
        (∀ j, j < k → test (iter step x0 j) = false) ∧
        (loop step test pts n x0 tr).2
          = tr ++ (List.range (k + 1)).flatMap (fun j => pts (iter step x0 j))) ∧
      ((loop step test pts n x0 tr).1.ok = false →
        (loop step test pts n x0 tr).1.x = iter step x0 n ∧
        (∀ j, j < n → test (iter step x0 j) = false) ∧
        (loop step test pts n x0 tr).2
          = tr ++ (List.range n).flatMap (fun j => pts (iter step x0 j)))
  | 0, x0, tr =>
    ⟨fun h => Bool.noConfusion h,
      fun _ => ⟨rfl, fun j hj => absurd hj (Nat.not_lt_zero j), (List.append_nil tr).symm⟩⟩
  | n + 1, x0, tr => by
    cases ht : test x0 with
    | true =>
      rw [loop_succ_true step pts n tr ht]
      exact ⟨fun _ => ⟨0, Nat.succ_pos n, rfl, ht, fun j hj => absurd hj (Nat.not_lt_zero j),
        (List.append_nil _).symm.trans (trace_shift step pts x0 tr 0)⟩, fun h => Bool.noConfusion h⟩
    | false =>
      rw [loop_succ_false step pts n tr ht]
      obtain ⟨ih1, ih2⟩ := loop_char step test pts n (step x0) (tr ++ pts x0)
      refine ⟨fun hok => ?_, fun hok => ?_⟩
      · obtain ⟨k, hk, e1, e2, e3, e4⟩ := ih1 hok
        exact ⟨k + 1, Nat.succ_lt_succ hk, by rw [e1, ← iter_shift], by rw [iter_shift]; exact e2,
          test_shift step ht e3, by rw [e4, trace_shift]⟩
      · obtain ⟨e1, e3, e4⟩ := ih2 hok
        exact ⟨by rw [e1, ← iter_shift], test_shift step ht e3, by rw [e4, trace_shift]⟩

theorem loop_bounded (step : α → α) (test : α → Bool) (pts : α → List α) (c : Nat)
    (hc : ∀ x, (pts x).length = c) (n : Nat) (x0 : α) (tr : List α) :
    ∃ k, k ≤ n ∧
      (loop step test pts n x0 tr).2
        = tr ++ (List.range k).flatMap (fun j => pts (iter step x0 j)) ∧
      (loop step test pts n x0 tr).2.length = tr.length + c * k ∧
      (loop step test pts n x0 tr).1.x = iter step x0 k ∧
      ((loop step test pts n x0 tr).1.ok = false → k = n) ∧
      ((loop step test pts n x0 tr).1.ok = true → 1 ≤ k) := by
  have hlen := length_flatMap_range (fun j => pts (iter step x0 j)) c (fun _ => hc _)
  cases hok : (loop step test pts n x0 tr).1.ok with
  | true =>
    obtain ⟨k, hk, e1, _, _, e4⟩ := (loop_char step test pts n x0 tr).1 hok
    exact ⟨k + 1, hk, e4, by rw [e4, List.length_append, hlen, Nat.mul_comm], e1, fun h => Bool.noConfusion h,
      fun _ => Nat.succ_pos k⟩
  | false =>
    obtain ⟨e1, _, e4⟩ := (loop_char step test pts n x0 tr).2 hok
    exact ⟨n, Nat.le_refl _, e4, by rw [e4, List.length_append, hlen, Nat.mul_comm], e1, fun _ => rfl,
      fun h => Bool.noConfusion h⟩

theorem loop_one (step : α → α) (test : α → Bool) (pts : α → List α) (cur : α) (tr : List α) :
    (loop step test pts 1 cur tr).1.x = step cur := by
  rw [loop]
  split <;> rfl

end NewtonGen

end Ohsl
