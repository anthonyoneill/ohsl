/-
  Ohsl.Lemmas.TriSolve — the two triangular solves `Mat.forwardSub` (unit lower) and `Mat.backsolve`
  (upper) over an exact field whose `divM` fails exactly on a zero divisor (`Alg.DivLaw`).

  What the loops compute is known for every scalar type (SolveRun.lean: the recurrence `Mat.sdot`,
  one division per row of the back substitution).  In a ring the recurrence is the starting value
  minus a sum (`sdot_eq`), and under `DivLaw` a division returns `q` exactly when the divisor is
  non-zero and `q` is the quotient (`Alg.divM_ok_iff`); everything here follows from these two facts.
-/
import Ohsl.Lemmas.SolveRun
import Ohsl.Lemmas.Alg
import Mathlib.Algebra.BigOperators.Group.Finset.Basic
import Mathlib.Algebra.BigOperators.Intervals
namespace Ohsl
namespace Mat

theorem sdotA_eq_sub_sum {R : Type} [CommRing R] (act : Nat → Bool) (f g : Nat → R) (c : R)
    (k : Nat) :
    sdotA act f g c k = c - ∑ t ∈ Finset.range k, if act t then f t * g t else 0 := by
  induction k with
  | zero => simp [sdotA]
  | succ k ih =>
    rw [Finset.sum_range_succ, sdotA, ih]
    split_ifs <;> ring

theorem sdot_eq {K : Type} [CommRing K] (f g : Nat → K) (c : K) (lo hi : Nat) :
    sdot f g c lo hi = c - ∑ t ∈ Finset.Ico lo hi, f t * g t := by
  rw [sdot_eq_sdotA, sdotA_eq_sub_sum, ← Finset.sum_filter, Finset.range_eq_Ico]
  congr 2
  ext t
  simp only [Finset.mem_filter, Finset.mem_Ico, decide_eq_true_eq]
  omega

theorem sdot_eq_range {K : Type} [CommRing K] (f g : Nat → K) (c : K) (hi : Nat) :
    sdot f g c 0 hi = c - ∑ t ∈ Finset.range hi, f t * g t := by
  rw [sdot_eq, Finset.range_eq_Ico]

section Exact
variable {K : Type} [Field K] [ScalarExt K]

omit [ScalarExt K] in
theorem Is.sum_ent {m : Mat K} {n : Nat} {e : Nat → Nat → K} (hm : Is m n n e) {r : Nat}
    (hr : r < n) (f : Nat → K) {s : Finset Nat} (hs : ∀ t ∈ s, t < n) :
    ∑ t ∈ s, ent m r t * f t = ∑ t ∈ s, e r t * f t :=
  Finset.sum_congr rfl fun t ht => by rw [hm.ent_eq hr (hs t ht)]

omit [ScalarExt K] in
theorem forwardSub_spec {m : Mat K} {n : Nat} {e : Nat → Nat → K} (hm : Is m n n e)
    {x : Array K} (hx : x.size = n) :
    ∃ y, forwardSub m x = .ok y ∧ y.size = n ∧
      ∀ r, r < n → vf y r = vf x r - ∑ t ∈ Finset.range r, e r t * vf y t := by
  obtain ⟨y, hy, hn, hv⟩ := forwardSub_sdot hm.wfn hx
  refine ⟨y, hy, hn, fun r hr => ?_⟩
  rw [hv r hr, sdot_eq_range, hm.sum_ent hr _ fun t ht =>
    Nat.lt_trans (Finset.mem_range.1 ht) hr]

/-- row `i` of the back substitution is finished: the pivot is non-zero and the row equation of
    the upper triangle holds -/
def BS (e : Nat → Nat → K) (n : Nat) (x s : Array K) (i : Nat) : Prop :=
  e i i ≠ 0 ∧ e i i * vf s i + ∑ j ∈ Finset.Ico (i + 1) n, e i j * vf s j = vf x i

variable [Alg.DivLaw K]

theorem BSg.bs {m : Mat K} {n : Nat} {e : Nat → Nat → K} (hm : Is m n n e) {x s : Array K}
    {i : Nat} (hi : i < n) (h : BSg m n x s i) : BS e n x s i := by
  obtain ⟨hd, hq⟩ := Alg.divM_ok_iff.1 h
  rw [hm.ent_eq hi hi] at hd hq
  refine ⟨hd, ?_⟩
  rw [hq, sdot_eq, mul_div_cancel₀ _ hd, hm.sum_ent hi _ fun t ht => (Finset.mem_Ico.1 ht).2,
    sub_add_cancel]

theorem backsolve_spec {m : Mat K} {n : Nat} {e : Nat → Nat → K} {x x' : Array K}
    (hm : Is m n n e) (hx : x.size = n) (hn : 1 ≤ n) (h : backsolve m x = .ok x') :
    x'.size = n ∧ ∀ i, i < n → BS e n x x' i :=
  let ⟨h1, h2⟩ := backsolve_sdot hm.wfn hx hn h
  ⟨h1, fun i hi => (h2 i hi).bs hm hi⟩

theorem backsolve_total {m : Mat K} {n : Nat} {e : Nat → Nat → K} {x : Array K}
    (hm : Is m n n e) (hx : x.size = n) (hn : 1 ≤ n) (hd : ∀ i, i < n → e i i ≠ 0) :
    ∃ x', backsolve m x = .ok x' :=
  backsolve_total_of hm.wfn hx hn fun i hi _ =>
    ⟨_, Alg.divM_law_ne (by rw [hm.ent_eq hi hi]; exact hd i hi)⟩

theorem backsolve_fails {m : Mat K} {n : Nat} {e : Nat → Nat → K} {x : Array K}
    (hI : Is m n n e) (hx : x.size = n) {k : Nat} (hk : k < n) (hz' : e k k = 0) :
    backsolve m x = .error .arith := by
  have hm := hI.wfn
  have hz : ent m k k = 0 := (hI.ent_eq hk hk).trans hz'
  rw [backsolve_rows hm.2.1 (Nat.one_le_of_lt hk)]
  -- the invariant also says that row `k` is still to come
  have := foldlM_rev_sat (fun j (s : Array K) => s.size = n ∧ k < j) (· = .arith) (backsolveAt m n)
    n x ⟨hx, hk⟩ fun j s hj ⟨hs, hkj⟩ => by
      have hrun := backsolveAt_eq hm hj s hs
      by_cases hp : ent m j j = 0
      · rw [hp, Alg.divM_law_zero] at hrun
        exact .of_error ((hrun.error_iff _).1 rfl) rfl
      · rw [Alg.divM_law_ne hp] at hrun
        obtain ⟨s', hs', hsz, _⟩ := hrun.of_ok_left
        refine .of_ok ⟨s', hs', hsz, Nat.lt_of_le_of_ne (Nat.le_of_lt_succ hkj) ?_⟩
        rintro rfl
        exact hp hz
  cases hr : (List.range n).reverse.foldlM (backsolveAt m n) x with
  | ok s' => exact absurd (this.elim_ok hr).2 (Nat.not_lt_zero k)
  | error e => rw [this.elim_error hr]

theorem triSolve_spec {lu : Mat K} {n : Nat} {w : Nat → Nat → K} (hw : Is lu n n w) (hn : 1 ≤ n)
    (hd : ∀ k, k < n → w k k ≠ 0) {c : Array K} (hc : c.size = n) :
    ∃ y x : Array K, (forwardSub lu c >>= backsolve lu) = .ok x ∧ y.size = n ∧ x.size = n ∧
      (∀ r, r < n → vf y r + ∑ k ∈ Finset.range r, w r k * vf y k = vf c r) ∧
      (∀ r, r < n → w r r * vf x r + ∑ k ∈ Finset.Ico (r + 1) n, w r k * vf x k = vf y r) := by
  obtain ⟨y, hy, hyn, hyr⟩ := forwardSub_spec hw hc
  obtain ⟨x, hx⟩ := backsolve_total hw hyn hn hd
  obtain ⟨hxn, hbs⟩ := backsolve_spec hw hyn hn hx
  exact ⟨y, x, by rw [hy]; exact hx, hyn, hxn,
    fun r hr => by rw [hyr r hr]; exact sub_add_cancel _ _, fun r hr => (hbs r hr).2⟩

end Exact
end Mat
end Ohsl
