/-
  Ohsl.Lemmas.BandSpec — pointwise specifications of the banded-matrix model
  (`Ohsl/Model/Banded.lean`) against its *dense twin*: `dense b i j` is the compact slot
  `(i, m1 + j - i)` for in-band, in-matrix `(i,j)`, zero elsewhere; `WFb b`: the compact storage is
  a well-formed `n × (m1+m2+1)` matrix.

  `decElim` / `decStep` for any scalar type (sections `Elim`, `Search`, `Pivot`, `Step`, by the
  scalar operations used): each loop refines (`ExRel`) an abstract loop over the data it reads: the
  elimination loop computes only the multipliers (`multLoop`, `elimLoop_sim`), the whole step the
  row of the search and the multipliers (`absStep`, `decStep_sim`); `pivoted e k ip`: the entries
  after the zero fix and the exchange.
  `twinK`: the dense twin of the compact working matrix (`off`: the first matrix column of a compact
  row); `Shape`, the storage clauses of every invariant of the pivot loop, and `Shape.step`, the
  reading of `decStep_sim` for a scalar type whose guarded division is total (the lock-step of two
  runs in BandPadding.lean is the other reading); `decompose_inv_rule`: how `decompose` establishes
  and keeps such an invariant.
  Section `Fwd`: the replay `fwd` of the recorded exchanges and multipliers; the inner loop of the
  back substitution is the recurrence `Mat.sdot` (`back_specK`).
  The exact-field results are in Ohsl/Lemmas/BandExact.lean, independence of the padding in
  Ohsl/Lemmas/BandPadding.lean.
-/
import Ohsl.Model.Banded
import Ohsl.Lemmas.MatSpec2
import Ohsl.Lemmas.SolveRun
import Ohsl.Lemmas.Alg
import Ohsl.Lemmas.ArrayIndex
import Ohsl.Lemmas.DotSum
import Mathlib.Algebra.BigOperators.Group.Finset.Basic
import Mathlib.Algebra.BigOperators.Ring.Finset
import Mathlib.Algebra.BigOperators.Intervals
import Mathlib.Tactic.Ring
import Mathlib.Tactic.LinearCombination
namespace Ohsl

namespace Mat
variable {K : Type}

theorem Is.entryOf_eq [Zero K] {m : Mat K} {r c : Nat} {e : Nat → Nat → K} (h : Is m r c e)
    {i j : Nat} (hi : i < r) (hj : j < c) : entryOf m i j = e i j := by
  have := h.entry i j hi hj
  rw [Mat.get, aget_eq_ok, h.cols] at this
  simp [entryOf, h.cols, this]

theorem Is.canon [Zero K] {m : Mat K} {r c : Nat} {e : Nat → Nat → K} (h : Is m r c e) :
    Is m r c (entryOf m) := by
  refine ⟨h.wf, h.rows, h.cols, ?_⟩
  intro i j hi hj
  rw [h.entry i j hi hj, h.entryOf_eq hi hj]

end Mat

namespace Band
variable {K : Type}
open Mat (forM' Is forM'_inv aget_ok aset_ok aget_eq_ok swapFn swapFn_self)

def inBand (b : Band K) (i j : Nat) : Prop := j ≤ i + b.m2 ∧ i ≤ j + b.m1

instance (b : Band K) (i j : Nat) : Decidable (inBand b i j) := by
  unfold inBand; infer_instance

/-- the compact storage is a well-formed `n × (m1+m2+1)` matrix -/
def WFb (b : Band K) : Prop := ∃ c, Is b.compact b.n (b.m1 + b.m2 + 1) c

def SameShape (a b : Band K) : Prop := a.n = b.n ∧ a.m1 = b.m1 ∧ a.m2 = b.m2

theorem sameShape_true {a b : Band K} (h : SameShape a b) : sameShape a b = true := by
  obtain ⟨h1, h2, h3⟩ := h
  simp [sameShape, h1, h2, h3]

section Z
variable [Zero K]

/-- the dense twin: compact slot `(i, m1 + j - i)` inside the band and the matrix, zero outside -/
def dense (b : Band K) (i j : Nat) : K :=
  if j ≤ i + b.m2 ∧ i ≤ j + b.m1 ∧ i < b.n ∧ j < b.n then
    Mat.entryOf b.compact i (b.m1 + j - i)
  else 0

theorem WFb.is {b : Band K} (h : WFb b) :
    Is b.compact b.n (b.m1 + b.m2 + 1) (Mat.entryOf b.compact) := by
  obtain ⟨c, hc⟩ := h
  exact hc.canon

theorem dense_of_is {b : Band K} {c : Nat → Nat → K} (h : Is b.compact b.n (b.m1 + b.m2 + 1) c)
    {i j : Nat} (hb : inBand b i j) (hi : i < b.n) (hj : j < b.n) :
    dense b i j = c i (b.m1 + j - i) := by
  obtain ⟨h1, h2⟩ := hb
  have hc : j ≤ i + b.m2 ∧ i ≤ j + b.m1 ∧ i < b.n ∧ j < b.n := ⟨h1, h2, hi, hj⟩
  rw [dense, if_pos hc]
  exact h.entryOf_eq hi (by omega)

theorem dense_out {b : Band K} {i j : Nat} (h : ¬ (inBand b i j ∧ i < b.n ∧ j < b.n)) :
    dense b i j = 0 := by
  rw [dense, if_neg]
  unfold inBand at h
  intro hc
  exact h ⟨⟨hc.1, hc.2.1⟩, hc.2.2.1, hc.2.2.2⟩

set_option linter.unusedSectionVars false in
theorem WFb.mk' {n m1 m2 : Nat} {m : Mat K} {c : Nat → Nat → K} (h : Is m n (m1 + m2 + 1) c) :
    WFb (⟨n, m1, m2, m⟩ : Band K) := ⟨c, h⟩

/-- reading an in-band, in-matrix entry returns the dense-twin entry -/
theorem get_spec {b : Band K} (h : WFb b) {i j : Nat} (hb : inBand b i j) (hi : i < b.n)
    (hj : j < b.n) : Band.get b i j = .ok (dense b i j) := by
  have hg : ¬ (j > i + b.m2 ∨ i > j + b.m1) := by unfold inBand at hb; omega
  rw [Band.get, if_neg hg, dense_of_is h.is hb hi hj]
  exact h.is.get hi (by unfold inBand at hb; omega)

/-- writing an in-band, in-matrix entry: succeeds, keeps `(n, m1, m2)` and well-formedness, the
    entry is read back, and **every other entry of the dense twin is unchanged** -/
theorem set_spec {b : Band K} (h : WFb b) {i j : Nat} (hb : inBand b i j) (hi : i < b.n)
    (hj : j < b.n) (v : K) :
    ∃ b', Band.set b i j v = .ok b' ∧ WFb b' ∧ SameShape b' b ∧ dense b' i j = v ∧
      ∀ i' j', (i' ≠ i ∨ j' ≠ j) → dense b' i' j' = dense b i' j' := by
  have hg : ¬ (j > i + b.m2 ∨ i > j + b.m1) := by unfold inBand at hb; omega
  have hcol : b.m1 + j - i < b.m1 + b.m2 + 1 := by unfold inBand at hb; omega
  obtain ⟨m', hm', hI⟩ := h.is.set hi hcol v
  refine ⟨{ b with compact := m' }, ?_, ⟨_, hI⟩, ⟨rfl, rfl, rfl⟩, ?_, ?_⟩
  · rw [Band.set, if_neg hg, hm']; rfl
  · have := dense_of_is (b := { b with compact := m' }) hI hb hi hj
    rw [this]; simp
  · intro i' j' hne
    by_cases hc : inBand b i' j' ∧ i' < b.n ∧ j' < b.n
    · obtain ⟨hb', hi', hj'⟩ := hc
      rw [dense_of_is (b := { b with compact := m' }) hI hb' hi' hj', dense_of_is h.is hb' hi' hj']
      have : ¬ (i' = i ∧ b.m1 + j' - i' = b.m1 + j - i) := by
        unfold inBand at hb hb'; omega
      simp only [this, if_false]
    · rw [dense_out (b := { b with compact := m' }) hc, dense_out hc]

theorem lift_map {a b : Band K} (ha : WFb a) (hb : WFb b) (hs : SameShape a b) {m' : Mat K}
    (g : K → K → K)
    (hI : Is m' a.n (a.m1 + a.m2 + 1)
      (fun i j => g (Mat.entryOf a.compact i j) (Mat.entryOf b.compact i j))) :
    WFb ({ a with compact := m' } : Band K) ∧ SameShape ({ a with compact := m' } : Band K) a ∧
    ∀ i j, inBand a i j → i < a.n → j < a.n →
      dense ({ a with compact := m' } : Band K) i j = g (dense a i j) (dense b i j) := by
  refine ⟨⟨_, hI⟩, ⟨rfl, rfl, rfl⟩, ?_⟩
  intro i j hib hi hj
  obtain ⟨h1, h2, h3⟩ := hs
  have hib' : inBand b i j := by unfold inBand at *; omega
  rw [dense_of_is (b := { a with compact := m' }) hI hib hi hj, dense_of_is ha.is hib hi hj,
    dense_of_is hb.is hib' (by omega) (by omega), h2]

theorem lift_unary {a : Band K} (ha : WFb a) {m' : Mat K} (g : K → K)
    (hI : Is m' a.n (a.m1 + a.m2 + 1) (fun i j => g (Mat.entryOf a.compact i j))) :
    WFb ({ a with compact := m' } : Band K) ∧ SameShape ({ a with compact := m' } : Band K) a ∧
    ∀ i j, inBand a i j → i < a.n → j < a.n →
      dense ({ a with compact := m' } : Band K) i j = g (dense a i j) :=
  lift_map ha ha ⟨rfl, rfl, rfl⟩ (fun x _ => g x) hI

theorem WFb.is_as {a b : Band K} (hb : WFb b) (hs : SameShape a b) :
    Is b.compact a.n (a.m1 + a.m2 + 1) (Mat.entryOf b.compact) := by
  obtain ⟨h1, h2, h3⟩ := hs
  rw [h1, h2, h3]; exact hb.is

end Z

theorem get_out_of_band (b : Band K) {i j : Nat} (h : ¬ inBand b i j) :
    Band.get b i j = .error .range := by
  have hg : (j > i + b.m2 ∨ i > j + b.m1) := by unfold inBand at h; omega
  rw [Band.get, if_pos hg]

theorem set_out_of_band (b : Band K) {i j : Nat} (v : K) (h : ¬ inBand b i j) :
    Band.set b i j v = .error .range := by
  have hg : (j > i + b.m2 ∨ i > j + b.m1) := by unfold inBand at h; omega
  rw [Band.set, if_pos hg]

section Arith
variable [Add K] [Sub K] [Mul K] [Neg K] [Zero K] [One K] [BEq K] [ScalarExt K]

/-- `&a + &b`: entrywise on the band, shape preserved -/
theorem add_spec {a b : Band K} (ha : WFb a) (hb : WFb b) (hs : SameShape a b) :
    ∃ c, Band.add a b = .ok c ∧ WFb c ∧ SameShape c a ∧
      ∀ i j, inBand a i j → i < a.n → j < a.n → dense c i j = dense a i j + dense b i j := by
  obtain ⟨m', hm', hI⟩ := Mat.add_spec ha.is (hb.is_as hs)
  refine ⟨{ a with compact := m' }, ?_, lift_map ha hb hs (· + ·) hI⟩
  simp only [Band.add, sameShape_true hs, hm']; rfl

/-- `&a - &b` -/
theorem sub_spec {a b : Band K} (ha : WFb a) (hb : WFb b) (hs : SameShape a b) :
    ∃ c, Band.sub' a b = .ok c ∧ WFb c ∧ SameShape c a ∧
      ∀ i j, inBand a i j → i < a.n → j < a.n → dense c i j = dense a i j - dense b i j := by
  obtain ⟨m', hm', hI⟩ := Mat.sub_spec ha.is (hb.is_as hs)
  refine ⟨{ a with compact := m' }, ?_, lift_map ha hb hs (· - ·) hI⟩
  simp only [Band.sub', sameShape_true hs, hm']; rfl

/-- `-a` -/
theorem neg_spec {a : Band K} (ha : WFb a) :
    ∃ c, Band.neg a = .ok c ∧ WFb c ∧ SameShape c a ∧
      ∀ i j, inBand a i j → i < a.n → j < a.n → dense c i j = - dense a i j := by
  obtain ⟨m', hm', hI⟩ := Mat.neg_spec ha.is
  refine ⟨{ a with compact := m' }, ?_, lift_unary ha (fun x => -x) hI⟩
  simp only [Band.neg, hm']; rfl

/-- `a * s` -/
theorem smul_spec {a : Band K} (ha : WFb a) (s : K) :
    ∃ c, Band.smul a s = .ok c ∧ WFb c ∧ SameShape c a ∧
      ∀ i j, inBand a i j → i < a.n → j < a.n → dense c i j = dense a i j * s := by
  obtain ⟨m', hm', hI⟩ := Mat.smul_spec ha.is s
  refine ⟨{ a with compact := m' }, ?_, lift_unary ha (fun x => x * s) hI⟩
  simp only [Band.smul, hm']; rfl

set_option linter.unusedSectionVars false in
/-- `fill_band(band, x)` for `-m1 ≤ band ≤ m2`: sets exactly the entries with `j - i = band` -/
theorem fillBand_spec {b : Band K} (h : WFb b) (band : Int) (x : K)
    (h1 : -(b.m1 : Int) ≤ band) (h2 : band ≤ (b.m2 : Int)) :
    ∃ b', Band.fillBand b band x = .ok b' ∧ WFb b' ∧ SameShape b' b ∧
      ∀ i j, inBand b i j → i < b.n → j < b.n →
        dense b' i j = if (j : Int) - (i : Int) = band then x else dense b i j := by
  have hg : ¬ (band < -(b.m1 : Int) ∨ band > (b.m2 : Int)) := by omega
  have hcol : ((b.m1 : Int) + band).toNat < b.m1 + b.m2 + 1 := by omega
  obtain ⟨m', hm', hI⟩ := Mat.fillCol_spec h.is hcol x
  refine ⟨{ b with compact := m' }, ?_, ⟨_, hI⟩, ⟨rfl, rfl, rfl⟩, ?_⟩
  · rw [Band.fillBand, if_neg hg, hm']; rfl
  · intro i j hb hi hj
    rw [dense_of_is (b := { b with compact := m' }) hI hb hi hj, dense_of_is h.is hb hi hj]
    have : (b.m1 + j - i = ((b.m1 : Int) + band).toNat) ↔ ((j : Int) - (i : Int) = band) := by
      unfold inBand at hb; omega
    simp only [this]

end Arith

section ScalarArith
variable [Zero K]

theorem addS_spec [Add K] {a : Band K} (ha : WFb a) (s : K) :
    ∃ c, Band.addS a s = .ok c ∧ WFb c ∧ SameShape c a ∧
      ∀ i j, inBand a i j → i < a.n → j < a.n → dense c i j = dense a i j + s := by
  obtain ⟨m', hm', hI⟩ := Mat.addS_spec ha.is s
  refine ⟨{ a with compact := m' }, ?_, lift_unary ha (fun x => x + s) hI⟩
  simp only [Band.addS, hm']; rfl

theorem subS_spec [Sub K] {a : Band K} (ha : WFb a) (s : K) :
    ∃ c, Band.subS a s = .ok c ∧ WFb c ∧ SameShape c a ∧
      ∀ i j, inBand a i j → i < a.n → j < a.n → dense c i j = dense a i j - s := by
  obtain ⟨m', hm', hI⟩ := Mat.subS_spec ha.is s
  refine ⟨{ a with compact := m' }, ?_, lift_unary ha (fun x => x - s) hI⟩
  simp only [Band.subS, hm']; rfl

/-- `a / s`, provided the scalar division succeeds on every compact slot (the loop also divides
    the padding slots; `q` is the value of the division) -/
theorem sdiv_spec [ScalarExt K] {a : Band K} (ha : WFb a) (s : K) (q : K → K)
    (hq : ∀ i j, i < a.n → j < a.m1 + a.m2 + 1 →
      ScalarExt.divM (Mat.entryOf a.compact i j) s = .ok (q (Mat.entryOf a.compact i j))) :
    ∃ c, Band.sdiv a s = .ok c ∧ WFb c ∧ SameShape c a ∧
      ∀ i j, inBand a i j → i < a.n → j < a.n → dense c i j = q (dense a i j) := by
  obtain ⟨m', hm', hI⟩ := Mat.sdiv_spec ha.is s q hq
  refine ⟨{ a with compact := m' }, ?_, lift_unary ha q hI⟩
  simp only [Band.sdiv, hm']; rfl

end ScalarArith

/-- the `Int` bounds of row `i` of the product as natural numbers: the loop runs over the compact
    columns `lo ≤ j < lo + (min n (i + m2 + 1) - (i - m1))`, `lo = m1 - i` -/
theorem mulVec_bounds (n m1 m2 i : Nat) (hi : i < n) :
    (max 0 (-((i : Int) - (m1 : Int)))).toNat + i = (i - m1) + m1 ∧
    (min ((m1 : Int) + (m2 : Int) + 1) ((n : Int) - ((i : Int) - (m1 : Int)))).toNat =
      (max 0 (-((i : Int) - (m1 : Int)))).toNat + (min n (i + m2 + 1) - (i - m1)) := by
  omega

/-- number of in-band, in-matrix columns of row `i` -/
def rowLen (b : Band K) (i : Nat) : Nat := min b.n (i + b.m2 + 1) - (i - b.m1)

theorem row_cols (b : Band K) (i j : Nat) :
    (i - b.m1 ≤ j ∧ j < i - b.m1 + rowLen b i) ↔ (inBand b i j ∧ j < b.n) := by
  unfold rowLen inBand; omega

/-- the compact column `LO + s` of row `i` (`LO = m1 - i` or `0`) holds the matrix column
    `(i - m1) + s`: the index the code computes in `Int`, and the slot of `dense` -/
theorem rowSlot {m1 i LO : Nat} (hLO : LO + i = (i - m1) + m1) (s : Nat) :
    (((LO + s : Nat) : Int) + ((i : Int) - (m1 : Int))).toNat = i - m1 + s ∧
      m1 + (i - m1 + s) - i = LO + s := by
  omega

section MulVec
variable [Add K] [Mul K] [Zero K]

/-- ordered row sum of the dense twin restricted to the band: columns
    `i - m1 ≤ j < min n (i + m2 + 1)` in increasing order, accumulated from `acc` -/
def rowFold (b : Band K) (v : Array K) (i : Nat) (acc : K) (len : Nat) : K :=
  (List.range' (i - b.m1) len).foldl (fun acc j => acc + dense b i j * v[j]?.getD 0) acc

theorem row_loop {b : Band K} (h : WFb b) (v res : Array K) (hv : v.size = b.n)
    (hres : res.size = b.n) {i : Nat} (hi : i < b.n) (LO HI : Nat)
    (hLO : LO + i = (i - b.m1) + b.m1) (hHI : HI = LO + rowLen b i) (r0 : K)
    (hr0 : res[i]? = some r0) :
    ∃ res', forM' LO HI res (fun res j => do
        let a ← b.compact.get i j
        let x ← aget v ((j : Int) + ((i : Int) - (b.m1 : Int))).toNat
        let r ← aget res i
        aset res i (r + a * x)) = .ok res' ∧ res'.size = b.n ∧
      (∀ a, a ≠ i → res'[a]? = res[a]?) ∧
      res'[i]? = some (rowFold b v i r0 (rowLen b i)) := by
  have hcol : ∀ s, s < rowLen b i → inBand b i ((i - b.m1) + s) ∧ (i - b.m1) + s < b.n :=
    fun s hs => (row_cols b i _).mp ⟨Nat.le_add_right _ _, Nat.add_lt_add_left hs _⟩
  subst hHI
  refine Exists.imp (fun res' hh => ⟨hh.1, hh.2.1, hh.2.2.1, by
    have h4 := hh.2.2.2
    rwa [Nat.add_sub_cancel_left] at h4⟩) (forM'_inv
    (fun t (r : Array K) => r.size = b.n ∧ (∀ a, a ≠ i → r[a]? = res[a]?) ∧
      r[i]? = some (rowFold b v i r0 (t - LO))) LO (LO + rowLen b i) res _ (Nat.le_add_right _ _)
    ⟨hres, fun _ _ => rfl, by rw [Nat.sub_self]; exact hr0⟩ ?_)
  intro t r ht1 ht2 ⟨hsz, hfr, hri⟩
  obtain ⟨s, rfl⟩ : ∃ s, t = LO + s := ⟨t - LO, (Nat.add_sub_cancel' ht1).symm⟩
  obtain ⟨hib, hjn⟩ := hcol s (Nat.lt_of_add_lt_add_left ht2)
  have hti : i < r.size := hsz ▸ hi
  have hj' : i - b.m1 + s < v.size := hv ▸ hjn
  obtain ⟨hjv, hslot⟩ := rowSlot hLO s
  have hget : b.compact.get i (LO + s) = .ok (dense b i (i - b.m1 + s)) := by
    rw [dense_of_is h.is hib hi hjn, hslot]
    exact h.is.get hi (by rw [← hslot]; unfold inBand at hib; omega)
  have hrv : r[i] = rowFold b v i r0 s := by
    have : r[i]? = some r[i] := by simp [hti]
    rw [this, Nat.add_sub_cancel_left] at hri; exact Option.some.inj hri
  refine ⟨r.setIfInBounds i (r[i] + dense b i (i - b.m1 + s) * v[i - b.m1 + s]), ?_,
    by simpa using hsz, ?_, ?_⟩
  · simp only [hget, hjv, aget_ok hj', aget_ok hti, aset_ok _ hti, bind, Except.bind]
  · intro a ha
    rw [Array.getElem?_setIfInBounds, if_neg (fun e => ha e.symm)]
    exact hfr a ha
  · rw [Array.getElem?_setIfInBounds, if_pos rfl, if_pos hti,
      show LO + s + 1 - LO = s + 1 by rw [Nat.add_assoc, Nat.add_sub_cancel_left], hrv]
    simp only [rowFold, List.range'_concat, Nat.one_mul, List.foldl_append, List.foldl_cons,
      List.foldl_nil]
    simp [hj']

theorem mulVec_ordered {b : Band K} (h : WFb b) (v : Array K) (hv : v.size = b.n) :
    ∃ w, Band.mulVec b v = .ok w ∧ w.size = b.n ∧
      ∀ i, i < b.n → w[i]? = some (rowFold b v i 0 (rowLen b i)) := by
  have hg : ¬ b.n ≠ v.size := by omega
  rw [Band.mulVec, if_neg hg]
  obtain ⟨w, h1, h2, h3, _⟩ := forM'_inv
    (fun t (r : Array K) => r.size = b.n ∧
      (∀ i, i < t → r[i]? = some (rowFold b v i 0 (rowLen b i))) ∧
      (∀ i, t ≤ i → i < b.n → r[i]? = some 0))
    0 b.n (Array.replicate b.n (0 : K)) _
    (Nat.zero_le _)
    ⟨by simp, fun _ hi => by omega, fun i _ hi => by simp [hi]⟩ (by
      intro t r _ ht ⟨hsz, hdone, htodo⟩
      obtain ⟨hb1, hb2⟩ := mulVec_bounds b.n b.m1 b.m2 t ht
      obtain ⟨r', g1, g2, g3, g4⟩ := row_loop h v r hv hsz ht _ _ hb1 hb2 0
        (htodo t (Nat.le_refl _) ht)
      refine ⟨r', g1, g2, ?_, ?_⟩
      · intro i hi
        by_cases hit : i = t
        · subst hit; exact g4
        · rw [g3 i hit]; exact hdone i (by omega)
      · intro i hi1 hi2
        rw [g3 i (by omega)]; exact htodo i (by omega) hi2)
  exact ⟨w, h1, h2, fun i hi => h3 i hi⟩

/-- (S) **padding slots are never read**: two banded matrices of the same shape whose dense
    twins agree on all in-band, in-matrix slots give the same product -/
theorem mulVec_padding {a b : Band K} (ha : WFb a) (hb : WFb b) (hs : SameShape a b)
    (hag : ∀ i j, inBand a i j → i < a.n → j < a.n → dense a i j = dense b i j) (v : Array K) :
    Band.mulVec a v = Band.mulVec b v := by
  obtain ⟨s1, s2, s3⟩ := hs
  by_cases hv : v.size = a.n
  · obtain ⟨w, hw, hwn, hwe⟩ := mulVec_ordered ha v hv
    obtain ⟨w', hw', hwn', hwe'⟩ := mulVec_ordered hb v (by omega)
    rw [hw, hw']
    congr 1
    apply Array.ext_getElem?
    intro i
    by_cases hi : i < a.n
    · rw [hwe i hi, hwe' i (by omega)]
      congr 1
      have hl : rowLen a i = rowLen b i := by unfold rowLen; rw [s1, s2, s3]
      rw [← hl]
      unfold rowFold
      rw [← s2]
      apply List.foldl_ext
      intro acc j hj
      rw [List.mem_range'_1] at hj
      obtain ⟨hib, hjn⟩ := (row_cols a i j).mp hj
      rw [hag i j hib hi hjn]
    · have e1 : w[i]? = none := by simp; omega
      have e2 : w'[i]? = none := by simp; omega
      rw [e1, e2]
  · have h1 : a.n ≠ v.size := fun e => hv e.symm
    have h2 : b.n ≠ v.size := by omega
    rw [Band.mulVec, if_pos h1, Band.mulVec, if_pos h2]

end MulVec

section MulVecE
variable [CommSemiring K]

theorem sum_upper_row {n mm i : Nat} (hi : i < n) (hmm : 0 < mm) (f g X : Nat → K)
    (hf : ∀ c, f c = if i ≤ c ∧ c < i + mm then g (c - i) else 0) :
    ∑ c ∈ Finset.range n, f c * X c =
      g 0 * X i + ∑ t ∈ Finset.Ico 1 (min (n - i) mm), g t * X (t + i) := by
  have hL : 0 < min (n - i) mm := by omega
  have e1 : ∑ c ∈ Finset.range n, f c * X c =
      ∑ c ∈ Finset.Ico i (i + min (n - i) mm), f c * X c := by
    symm
    apply Finset.sum_subset
    · intro j hj
      rw [Finset.mem_Ico] at hj
      rw [Finset.mem_range]; omega
    · intro j hj hnj
      rw [Finset.mem_range] at hj
      rw [Finset.mem_Ico] at hnj
      rw [hf, if_neg (by omega), zero_mul]
  have e2 : ∀ t, t < min (n - i) mm → f (i + t) = g t := by
    intro t ht
    rw [hf, if_pos (by omega), Nat.add_sub_cancel_left]
  rw [e1, Finset.sum_Ico_eq_sum_range, Nat.add_sub_cancel_left, Finset.range_eq_Ico,
    Finset.sum_eq_sum_Ico_succ_bot hL, Nat.add_zero, show f i = g 0 from e2 0 hL]
  congr 1
  apply Finset.sum_congr rfl
  intro t ht
  rw [e2 t (Finset.mem_Ico.mp ht).2, Nat.add_comm i t]

theorem rowFold_eq_sum (b : Band K) (v : Array K) (i : Nat) :
    rowFold b v i 0 (rowLen b i) = ∑ j ∈ Finset.range b.n, dense b i j * v[j]?.getD 0 := by
  rw [rowFold, Props.C15.foldl_range'_add_eq_sum (fun j => dense b i j * v[j]?.getD 0), zero_add]
  apply Finset.sum_subset
  · intro j hj
    exact Finset.mem_range.mpr ((row_cols b i j).mp (Finset.mem_Ico.mp hj)).2
  · intro j _ hnj
    rw [dense_out (fun h => hnj (Finset.mem_Ico.mpr ((row_cols b i j).mpr ⟨h.1, h.2.2⟩))), zero_mul]

/-- (E) **the band-limited loop equals the dense product**: for a well-formed banded matrix and a
    vector of length `n`, `mulVec` succeeds, the result has length `n`, and
    `w[i] = Σ_{j<n} dense b i j * v[j]` — for every `(n, m1, m2)`. -/
theorem mulVec_spec {b : Band K} (h : WFb b) (v : Array K) (hv : v.size = b.n) :
    ∃ w, Band.mulVec b v = .ok w ∧ w.size = b.n ∧
      ∀ i, i < b.n → w[i]?.getD 0 = ∑ j ∈ Finset.range b.n, dense b i j * v[j]?.getD 0 := by
  obtain ⟨w, hw, hwn, hwe⟩ := mulVec_ordered h v hv
  refine ⟨w, hw, hwn, ?_⟩
  intro i hi
  rw [hwe i hi, Option.getD_some, rowFold_eq_sum b v i]

end MulVecE

theorem shift_copy {au : Mat K} {n mm : Nat} {e : Nat → Nat → K} (h : Is au n mm e)
    {i l : Nat} (hi : i < n) (hl : l ≤ mm) :
    ∃ au', forM' l mm au (fun au j => do
        let x ← au.get i j
        let c ← usub j l
        au.set i c x) = .ok au' ∧
      Is au' n mm (fun a b => if a = i ∧ b + l < mm then e a (b + l) else e a b) := by
  refine Exists.imp (fun au' h => ⟨h.1, h.2.congr fun a b _ _ => ?_⟩)
    (h.rowLoop_shift_reads (l := l) hi hl (Nat.le_refl l) (Nat.le_add_right mm l) (fun t => e i t) _
      fun t s ht1 ht2 hs => ?_)
  · -- column `t` of row `i` has not been overwritten: only columns below `t - l` have
    simp only [hs i t hi ht2 fun _ => .inr (Nat.le_add_right t l), usub_ok ht1, bind, Except.bind]
  · by_cases ha : a = i
    · subst ha
      exact ite_congr (propext ⟨fun h => ⟨rfl, h.2.2⟩, fun h => ⟨rfl, Nat.le_add_left l b, h.2⟩⟩)
        (fun _ => rfl) fun _ => rfl
    · rw [if_neg fun h => ha h.1, if_neg fun h => ha h.1]

section Shift
variable [Zero K]

/-- the compact matrix after the first phase of `decompose`: row `i < m1` is shifted left by
    `m1 - i` and zero-filled on the right; the other rows are unchanged -/
def shifted (m1 m2 : Nat) (c : Nat → Nat → K) (i j : Nat) : K :=
  if i < m1 then (if j + (m1 - i) < m1 + m2 + 1 then c i (j + (m1 - i)) else 0) else c i j

theorem shift_fill {au : Mat K} {n mm : Nat} {e : Nat → Nat → K} (h : Is au n mm e)
    {i lo : Nat} (hi : i < n) (hl : lo ≤ mm) :
    ∃ au', forM' lo mm au (fun au j => au.set i j 0) = .ok au' ∧
      Is au' n mm (fun a b => if a = i ∧ lo ≤ b then 0 else e a b) := by
  refine Exists.imp (fun au' h => ⟨h.1, h.2.congr fun a b _ hb => ?_⟩)
    (h.rowLoop hi hl (Nat.le_refl mm) (fun _ => 0) (fun au j => au.set i j 0)
      fun t s _ _ _ => rfl)
  exact ite_congr (propext ⟨fun h => ⟨h.1, h.2.1⟩, fun h => ⟨h.1, h.2, hb⟩⟩) (fun _ => rfl)
    fun _ => rfl

theorem shiftRow_spec {au : Mat K} {n mm : Nat} {e : Nat → Nat → K} (h : Is au n mm e)
    {i sh : Nat} (hi : i < n) (h1 : 1 ≤ sh) (h2 : sh ≤ mm) :
    ∃ au', (do
        let au ← forM' sh mm au (fun au j => do
          let x ← au.get i j
          let c ← usub j sh
          au.set i c x)
        let l ← usub sh 1
        let lo ← usub (mm - l) 1
        let au ← forM' lo mm au (fun au j => au.set i j 0)
        pure (au, l)) = .ok (au', sh - 1) ∧
      Is au' n mm (fun a b => if a = i then (if b + sh < mm then e a (b + sh) else 0) else e a b) := by
  obtain ⟨a1, g1, I1⟩ := shift_copy h hi h2
  have u2 : usub (mm - (sh - 1)) 1 = .ok (mm - sh) := by
    rw [usub_ok (by omega)]; congr 1; omega
  obtain ⟨a2, g2, I2⟩ := shift_fill I1 (lo := mm - sh) hi (Nat.sub_le mm sh)
  refine ⟨a2, ?_, I2.congr fun a b _ hb => ?_⟩
  · simp only [bind, Except.bind, pure, Except.pure] at g1 g2 ⊢
    simp only [g1, usub_ok h1, u2, g2]
  · by_cases hai : a = i
    · by_cases hbl : b + sh < mm
      · rw [if_neg (fun hc => absurd hc.2 (by omega)), if_pos ⟨hai, hbl⟩, if_pos hai, if_pos hbl]
      · rw [if_pos ⟨hai, by omega⟩, if_pos hai, if_neg hbl]
    · rw [if_neg (fun hc => hai hc.1), if_neg (fun hc => hai hc.1), if_neg hai]

/-- body of the first phase of `decompose` -/
def shiftBody (m1 m2 : Nat) (s : Mat K × Nat) (i : Nat) : Res (Mat K × Nat) := do
  let au ← forM' (m1 - i) (m1 + m2 + 1) s.1 (fun au j => do
    let x ← au.get i j
    let c ← usub j s.2
    au.set i c x)
  let l ← usub s.2 1
  let lo ← usub (m1 + m2 + 1 - l) 1
  let au ← forM' lo (m1 + m2 + 1) au (fun au j => au.set i j 0)
  pure (au, l)

theorem shiftRows_eq (m1 m2 : Nat) (au : Mat K) :
    shiftRows m1 m2 au = (do
      let st ← forM' 0 m1 (au, m1) (shiftBody m1 m2)
      pure st.1) := rfl

theorem shiftBody_step {n m1 m2 i : Nat} {c : Nat → Nat → K} {st : Mat K × Nat} (hi : i < m1)
    (hin : i < n)
    (hP : st.2 = m1 - i ∧
      Is st.1 n (m1 + m2 + 1) (fun a b => if a < i then shifted m1 m2 c a b else c a b)) :
    ∃ st', shiftBody m1 m2 st i = .ok st' ∧ st'.2 = m1 - (i + 1) ∧
      Is st'.1 n (m1 + m2 + 1) (fun a b => if a < i + 1 then shifted m1 m2 c a b else c a b) := by
  obtain ⟨au, l⟩ := st
  obtain ⟨hl, hI⟩ := hP
  simp only at hl hI
  subst hl
  obtain ⟨au', g, I⟩ := shiftRow_spec hI hin (Nat.sub_pos_of_lt hi)
    (Nat.le_trans (Nat.sub_le m1 i) (Nat.le_trans (Nat.le_add_right m1 m2) (Nat.le_succ _)))
  refine ⟨(au', m1 - i - 1), g, rfl, I.congr fun a b _ _ => ?_⟩
  by_cases hai : a = i
  · subst hai
    rw [if_pos rfl, if_neg (Nat.lt_irrefl a), if_pos (Nat.lt_succ_self a)]
    unfold shifted
    rw [if_pos hi]
  · rw [if_neg hai]
    exact if_congr (Nat.lt_succ_iff_lt_or_eq.trans (or_iff_left hai)).symm rfl rfl

theorem shiftRows_spec {au : Mat K} {n m1 m2 : Nat} {c : Nat → Nat → K}
    (h : Is au n (m1 + m2 + 1) c) (hm : m1 ≤ n) :
    ∃ au', shiftRows m1 m2 au = .ok au' ∧ Is au' n (m1 + m2 + 1) (shifted m1 m2 c) := by
  rw [shiftRows_eq]
  refine bind_ok_of (fun s => s.2 = m1 - m1 ∧
    Is s.1 n (m1 + m2 + 1) (fun a b => if a < m1 then shifted m1 m2 c a b else c a b)) ?_ ?_
  · exact forM'_inv (fun i (s : Mat K × Nat) => s.2 = m1 - i ∧
      Is s.1 n (m1 + m2 + 1) (fun a b => if a < i then shifted m1 m2 c a b else c a b))
      0 m1 _ _ (Nat.zero_le _) ⟨rfl, h.congr (fun a b _ _ => by simp)⟩
      (fun i s _ hi hs => shiftBody_step hi (by omega) hs)
  · intro s hs
    refine ⟨s.1, rfl, hs.2.congr fun a b _ _ => ?_⟩
    by_cases h : a < m1
    · rw [if_pos h]
    · rw [if_neg h]
      unfold shifted
      rw [if_neg h]

/-- (S) with more sub-diagonals than rows the first phase of `decompose` addresses row `n`: a
    range panic -/
theorem shiftRows_rejects {au : Mat K} {n m1 m2 : Nat} {c : Nat → Nat → K}
    (h : Is au n (m1 + m2 + 1) c) (hm : n < m1) : shiftRows m1 m2 au = .error .range := by
  rw [shiftRows_eq]
  apply bind_error
  apply Mat.forM'_error_at (fun i (s : Mat K × Nat) => s.2 = m1 - i ∧
      Is s.1 n (m1 + m2 + 1) (fun a b => if a < i then shifted m1 m2 c a b else c a b))
      0 n m1 _ _ _ (Nat.zero_le _) hm ⟨rfl, h.congr (fun a b _ _ => by simp)⟩
      (fun i s _ hi hs => shiftBody_step (by omega) hi hs)
  intro st ⟨hl, hI⟩
  unfold shiftBody
  apply bind_error
  apply Mat.forM'_first_error _ _ _ _ _ (by omega)
  apply bind_error
  rw [Mat.get]
  apply Mat.aget_err
  have := hI.wf
  rw [Mat.WF, hI.rows, hI.cols] at this
  rw [this, hI.cols]
  omega

theorem shiftRows_m1_zero (m2 : Nat) (au : Mat K) : shiftRows 0 m2 au = .ok au := rfl

theorem shifted_dense {b : Band K} (h : WFb b) {i t : Nat} (hi : i < b.n)
    (ht : t + (b.m1 - i) < b.m1 + b.m2 + 1) (hn : (i - b.m1) + t < b.n) :
    shifted b.m1 b.m2 (Mat.entryOf b.compact) i t = dense b i ((i - b.m1) + t) := by
  have hib : inBand b i ((i - b.m1) + t) := by unfold inBand; omega
  rw [dense_of_is h.is hib hi hn]
  unfold shifted
  by_cases him : i < b.m1
  · rw [if_pos him, if_pos ht]; congr 1; omega
  · rw [if_neg him]; congr 1; omega

end Shift

/-- the window counter `l` of `decompose` and of the forward substitution: it holds
    `min (m1 + k) n` before step `k` and is advanced to `min (m1 + k + 1) n` -/
theorem window_succ {n m1 k l : Nat} (hl : l = min (m1 + k) n) :
    (if l < n then l + 1 else l) = min (m1 + k + 1) n := by
  subst hl
  split <;> omega

theorem window_bounds {n : Nat} (m1 : Nat) {k : Nat} (hk : k < n) :
    k + 1 ≤ min (m1 + k + 1) n ∧ min (m1 + k + 1) n ≤ n ∧ min (m1 + k + 1) n ≤ m1 + k + 1 :=
  ⟨Nat.le_min.2 ⟨Nat.succ_le_succ (Nat.le_add_left k m1), hk⟩, Nat.min_le_right _ _,
    Nat.min_le_left _ _⟩

theorem window_mono (n m1 k : Nat) : min (m1 + k) n ≤ min (m1 + k + 1) n :=
  min_le_min (Nat.le_succ _) (Nat.le_refl n)

/-- the band counter `l` of the back substitution: it holds `min (n - (j + 1) + 1) mm` before row
    `j` and is advanced to `min (n - j + 1) mm` -/
theorem backWindow_succ {n mm j l : Nat} (hl : l = min (n - (j + 1) + 1) mm) (hj : j < n) :
    (if l < mm then l + 1 else l) = min (n - j + 1) mm := by
  subst hl
  split <;> omega

/-- … before row `j` it is the number of slots of row `j` that lie inside the matrix -/
theorem backWindow_at {n mm j l : Nat} (hl : l = min (n - (j + 1) + 1) mm) (hj : j < n) :
    min (n - j) mm = l := by
  rw [hl]
  congr 1
  omega

theorem backWindow_bounds {n mm j l : Nat} (hl : l = min (n - (j + 1) + 1) mm) (hj : j < n)
    (hmm : 0 < mm) : 1 ≤ l ∧ l ≤ mm ∧ j + l ≤ n := by
  subst hl
  omega

theorem backWindow_start (n : Nat) {mm : Nat} (hmm : 0 < mm) : 1 = min (n - n + 1) mm := by
  rw [Nat.sub_self, Nat.min_eq_left hmm]

/-- stored multipliers after step `k` -/
def elimA (μ : Nat → K) (ea : Nat → Nat → K) (k l a b : Nat) : K :=
  if a = k ∧ b + k + 1 < l then μ (b + k + 1) else ea a b

theorem elimA_succ (ea : Nat → Nat → K) {μ μ' : Nat → K} {k t : Nat} (hkt : k < t)
    (ho : ∀ a, a ≠ t → μ' a = μ a) (a b : Nat) :
    elimA μ' ea k (t + 1) a b =
      if a = k ∧ b = t - k - 1 then μ' t else elimA μ ea k t a b := by
  unfold elimA
  by_cases hab : a = k ∧ b = t - k - 1
  · rw [if_pos hab, if_pos ⟨hab.1, by omega⟩, show b + k + 1 = t by omega]
  · rw [if_neg hab]
    by_cases hw : a = k ∧ b + k + 1 < t
    · rw [if_pos hw, if_pos ⟨hw.1, by omega⟩, ho _ (by omega)]
    · rw [if_neg hw, if_neg (by omega)]

theorem elimA_window (μ : Nat → K) (ea : Nat → Nat → K) {k l r : Nat} (h1 : k < r) (h2 : r < l) :
    elimA μ ea k l k (r - k - 1) = μ r := by
  unfold elimA
  rw [if_pos ⟨rfl, by omega⟩, show r - k - 1 + k + 1 = r by omega]

theorem elimA_of_ne (μ : Nat → K) (ea : Nat → Nat → K) {k a : Nat} (l : Nat) (h : a ≠ k)
    (b : Nat) : elimA μ ea k l a b = ea a b := by
  unfold elimA
  rw [if_neg (fun hc => h hc.1)]

/-- the exchange loop of `decompose` is `swap_rows` -/
theorem swapLoop_spec {au : Mat K} {n mm : Nat} {e : Nat → Nat → K} (hau : Is au n mm e)
    {k ip : Nat} (hk : k < n) (hip : ip < n) :
    ∃ au', forM' 0 mm au (fun au j => Mat.swapElem au k j ip j) = .ok au' ∧
      Is au' n mm (fun a b => if a = k then e ip b else if a = ip then e k b else e a b) := by
  have := Mat.swapRows_spec hau hk hip
  have hg : ¬ (n ≤ k ∨ n ≤ ip) := by omega
  simp only [Mat.swapRows, hau.rows, hau.cols, hg, if_false] at this
  exact this

theorem swap_stage [Neg K] {au : Mat K} {n mm : Nat} {e : Nat → Nat → K} (hau : Is au n mm e)
    {k ip : Nat} (hk : k < n) (hip : ip < n) (d : K) :
    ∃ au1, (if ip ≠ k then (do
        let au ← forM' 0 mm au (fun au j => Mat.swapElem au k j ip j)
        pure (au, -d)) else pure (au, d)) = .ok (au1, if ip ≠ k then -d else d) ∧
      Is au1 n mm (swapFn e k ip) := by
  by_cases hik : ip = k
  · refine ⟨au, by simp [hik, pure, Except.pure], ?_⟩
    rw [hik, swapFn_self]
    exact hau
  · obtain ⟨au1, g1, I1⟩ := swapLoop_spec hau hk hip
    exact ⟨au1, by simp [hik, g1, bind, Except.bind, pure, Except.pure], I1⟩

section Elim
variable [Sub K] [Mul K]

theorem elim_inner {au : Mat K} {n mm : Nat} {e : Nat → Nat → K} (hau : Is au n mm e) {k i : Nat}
    (hk : k < n) (hi : i < n) (hki : k ≠ i) (hmm : 1 ≤ mm) (dum : K) :
    ∃ au', forM' 1 mm au (fun au j => do
        let x ← au.get i j
        let y ← au.get k j
        au.set i (j - 1) (x - dum * y)) = .ok au' ∧
      Is au' n mm (fun a b => if a = i ∧ b + 1 < mm then e i (b + 1) - dum * e k (b + 1) else e a b) := by
  refine Exists.imp (fun au' h => ⟨h.1, h.2.congr fun a b _ _ => ?_⟩)
    (hau.rowLoop_shift_reads (l := 1) hi hmm (Nat.le_refl 1) (Nat.le_succ mm)
      (fun t => e i t - dum * e k t) _ fun t s ht1 ht2 hs => ?_)
  · -- slot `t` of row `i` is overwritten one iteration later, row `k` never
    simp only [hs i t hi ht2 fun _ => .inr (Nat.le_succ t), hs k t hk ht2 fun h => (hki h).elim,
      bind, Except.bind]
  · exact ite_congr (propext ⟨fun h => ⟨h.1, h.2.2⟩, fun h => ⟨h.1, Nat.le_add_left 1 b, h.2⟩⟩)
      (fun _ => rfl) fun _ => rfl

variable [Zero K]

/-- the tail of `decElim` once the multiplier is known -/
def elimTail (mm k i : Nat) (au al : Mat K) (dum : K) : Res (Mat K × Mat K) := do
  let al ← al.set k (i - k - 1) dum
  let au ← forM' 1 mm au (fun au j => do
    let x ← au.get i j
    let y ← au.get k j
    au.set i (j - 1) (x - dum * y))
  let au ← au.set i (mm - 1) 0
  pure (au, al)

theorem elimTail_spec {au al : Mat K} {n mm m1 : Nat} {e ea : Nat → Nat → K}
    (hau : Is au n mm e) (hal : Is al n m1 ea) {k i : Nat} (hk : k < n) (hi : i < n) (hki : k < i)
    (him : i - k - 1 < m1) (hmm : 0 < mm) (dum : K) :
    ∃ au' al', elimTail mm k i au al dum = .ok (au', al') ∧
      al.set k (i - k - 1) dum = .ok al' ∧
      Is au' n mm (fun a b => if a = i then
        (if b + 1 < mm then e i (b + 1) - dum * e k (b + 1) else 0) else e a b) ∧
      Is al' n m1 (fun a b => if a = k ∧ b = i - k - 1 then dum else ea a b) := by
  obtain ⟨al', ha', hIa⟩ := hal.set hk him dum
  obtain ⟨a1, h1, hI1⟩ := elim_inner hau hk hi (by omega) hmm dum
  obtain ⟨a2, h2, hI2⟩ := hI1.set hi (show mm - 1 < mm by omega) (0 : K)
  refine ⟨a2, al', ?_, ha', hI2.congr (fun a b _ _ => ?_), hIa⟩
  · unfold elimTail
    simp only [bind, Except.bind, pure, Except.pure] at h1 ⊢
    simp only [ha', h1, h2]
  · by_cases ha : a = i
    · subst ha
      by_cases hb : b + 1 < mm
      · rw [if_neg (by omega), if_pos ⟨rfl, hb⟩, if_pos rfl, if_pos hb]
      · rw [if_pos ⟨rfl, by omega⟩, if_pos rfl, if_neg hb]
    · rw [if_neg (fun h => ha h.1), if_neg (fun h => ha h.1), if_neg ha]

/-- compact entries after eliminating rows `k < a < l` against pivot row `k` with the multipliers
    `μ`: each such row is shifted one slot to the left -/
def elimE (mm : Nat) (e : Nat → Nat → K) (μ : Nat → K) (k l a b : Nat) : K :=
  if k < a ∧ a < l then (if b + 1 < mm then e a (b + 1) - μ a * e k (b + 1) else 0) else e a b

theorem elimE_of_le (mm : Nat) (e : Nat → Nat → K) (μ : Nat → K) {k t a : Nat}
    (h : a ≤ k ∨ t ≤ a) (b : Nat) : elimE mm e μ k t a b = e a b := by
  unfold elimE
  rw [if_neg (by omega)]

theorem elimE_succ (mm : Nat) (e : Nat → Nat → K) {μ μ' : Nat → K} {k t : Nat} (hkt : k < t)
    (ho : ∀ a, a ≠ t → μ' a = μ a) (a b : Nat) :
    elimE mm e μ' k (t + 1) a b =
      if a = t then (if b + 1 < mm then e t (b + 1) - μ' t * e k (b + 1) else 0)
      else elimE mm e μ k t a b := by
  unfold elimE
  by_cases hat : a = t
  · subst hat
    rw [if_pos rfl, if_pos ⟨hkt, Nat.lt_succ_self a⟩]
  · rw [if_neg hat, ho a hat]
    exact if_congr (by omega) rfl rfl

end Elim

section Search
variable [ScalarExt K]

/-- body of the pivot search -/
def pivBody (au : Mat K) (st : K × Nat) (j : Nat) : Res (K × Nat) := do
  let x ← au.get j 0
  if ScalarExt.lt (ScalarExt.mag st.1) (ScalarExt.mag x) then pure (x, j) else pure (st.1, st.2)

/-- the pivot search returns a row `ip` of the window `[k, l)` together with its first slot, and
    that slot dominates the first slot of every row of the window, for any reflexive and transitive
    relation `R` that the magnitude comparison decides -/
theorem pivotLoop_spec {au : Mat K} {n mm : Nat} {e : Nat → Nat → K} (hau : Is au n mm e)
    {k l : Nat} (hkl : k + 1 ≤ l) (hln : l ≤ n) (hmm : 0 < mm) (R : K → K → Prop)
    (hrefl : ∀ a, R a a) (htrans : ∀ a b c, R a b → R b c → R a c)
    (hcmp : ∀ d x,
      if ScalarExt.lt (ScalarExt.mag d) (ScalarExt.mag x) = true then R d x else R x d) :
    ∃ ip, k ≤ ip ∧ ip < l ∧ (∀ j, k ≤ j → j < l → R (e j 0) (e ip 0)) ∧
      forM' (k + 1) l (e k 0, k) (pivBody au) = .ok (e ip 0, ip) := by
  suffices key : ∃ st, forM' (k + 1) l (e k 0, k) (pivBody au) = .ok st ∧ st.1 = e st.2 0 ∧
      k ≤ st.2 ∧ st.2 < l ∧ ∀ j, k ≤ j → j < l → R (e j 0) st.1 by
    obtain ⟨⟨d, ip⟩, h1, h2, h3, h4, h5⟩ := key
    simp only at h2 h3 h4 h5
    subst h2
    exact ⟨ip, h3, h4, h5, h1⟩
  refine forM'_inv (fun t (st : K × Nat) => st.1 = e st.2 0 ∧ k ≤ st.2 ∧ st.2 < t ∧
      ∀ j, k ≤ j → j < t → R (e j 0) st.1) (k + 1) l (e k 0, k) _ hkl
    ⟨rfl, Nat.le_refl _, Nat.lt_succ_self _, fun j hj1 hj2 => ?_⟩ ?_
  · have : j = k := by omega
    subst this; exact hrefl _
  intro t st ht1 ht2 ⟨h1, h2, h3, h4⟩
  obtain ⟨d, ip⟩ := st
  simp only at h1 h2 h3 h4
  have hc := hcmp d (e t 0)
  unfold pivBody
  simp only [hau.get (show t < n by omega) hmm, bind, Except.bind, pure, Except.pure]
  split
  · rename_i hlt
    rw [if_pos hlt] at hc
    refine ⟨_, rfl, rfl, by simp only; omega, by simp only; omega, fun j hj1 hj2 => ?_⟩
    by_cases hjt : j = t
    · subst hjt; exact hrefl _
    · exact htrans _ _ _ (h4 j hj1 (by omega)) hc
  · rename_i hlt
    rw [if_neg hlt] at hc
    refine ⟨_, rfl, h1, h2, by simp only; omega, fun j hj1 hj2 => ?_⟩
    by_cases hjt : j = t
    · subst hjt; exact hc
    · exact h4 j hj1 (by omega)

/-- the pivot search over column 0 of the entry function -/
def pivLoop (e : Nat → Nat → K) (k l : Nat) : Res (K × Nat) :=
  forM' (k + 1) l (e k 0, k) (fun st j =>
    if ScalarExt.lt (ScalarExt.mag st.1) (ScalarExt.mag (e j 0)) then pure (e j 0, j)
    else pure (st.1, st.2))

theorem pivLoop_eq {au : Mat K} {n mm : Nat} {e : Nat → Nat → K} (hau : Is au n mm e) {k l : Nat}
    (hln : l ≤ n) (hmm : 0 < mm) :
    forM' (k + 1) l (e k 0, k) (pivBody au) = pivLoop e k l := by
  unfold pivLoop
  refine Mat.forM'_congr _ _ _ _ _ (fun j st _ hj => ?_)
  unfold pivBody
  rw [hau.get (show j < n by omega) hmm]
  rfl

end Search

section Pivot
variable [Zero K] [BEq K]

/-- a pivot that tests equal to zero is overwritten by the literal zero -/
def zeroFix (e : Nat → Nat → K) (k ip a b : Nat) : K :=
  if (e ip 0 == 0) = true ∧ a = k ∧ b = 0 then 0 else e a b

/-- the entries after the zero fix and the exchange of the rows `k`, `ip`: what the elimination of
    step `k` starts from -/
def pivoted (e : Nat → Nat → K) (k ip : Nat) : Nat → Nat → K := swapFn (zeroFix e k ip) k ip

theorem pivoted_of_lt (e : Nat → Nat → K) {k ip a : Nat} (ha : a < k) (hip : k ≤ ip)
    (b : Nat) : pivoted e k ip a b = e a b := by
  unfold pivoted Mat.swapFn zeroFix
  rw [if_neg (Nat.ne_of_lt ha), if_neg (Nat.ne_of_lt (Nat.lt_of_lt_of_le ha hip)),
    if_neg fun h => Nat.ne_of_lt ha h.2.1]

theorem pivoted_pivot (e : Nat → Nat → K) (k ip : Nat) :
    pivoted e k ip k 0 = if (e ip 0 == 0) = true ∧ ip = k then 0 else e ip 0 := by
  unfold pivoted Mat.swapFn zeroFix
  rw [if_pos rfl]
  exact if_congr ⟨fun h => ⟨h.1, h.2.1⟩, fun h => ⟨h.1, h.2, rfl⟩⟩ rfl rfl

theorem zeroFix_stage {au : Mat K} {n mm : Nat} {e : Nat → Nat → K} (hau : Is au n mm e)
    {k ip : Nat} (hk : k < n) (hmm : 0 < mm) :
    ∃ au0, (if (e ip 0 == 0) = true then au.set k 0 0 else pure au) = .ok au0 ∧
      Is au0 n mm (zeroFix e k ip) := by
  by_cases hz : (e ip 0 == 0) = true
  · obtain ⟨v, hv, hI⟩ := hau.set hk hmm (0 : K)
    refine ⟨v, by rw [if_pos hz, hv], hI.congr (fun a b _ _ => ?_)⟩
    unfold zeroFix
    by_cases hab : a = k ∧ b = 0
    · rw [if_pos hab, if_pos ⟨hz, hab⟩]
    · rw [if_neg hab, if_neg (fun h => hab h.2)]
  · refine ⟨au, by rw [if_neg hz]; rfl, hau.congr (fun a b _ _ => ?_)⟩
    unfold zeroFix
    rw [if_neg (fun h => hz h.1)]

/-- `decompose` overwrites a pivot that tests equal to zero by the literal zero -/
def fixZero (x : K) : K := if x == 0 then 0 else x

theorem zeroFix_self (c : Nat → Nat → K) (k a b : Nat) :
    zeroFix c k k a b = if a = k ∧ b = 0 then fixZero (c k 0) else c a b := by
  unfold zeroFix fixZero
  by_cases hab : a = k ∧ b = 0
  · obtain ⟨rfl, rfl⟩ := hab
    by_cases hz : (c a 0 == 0) = true
    · rw [if_pos ⟨hz, rfl, rfl⟩, if_pos ⟨rfl, rfl⟩, if_pos hz]
    · rw [if_neg (fun h => hz h.1), if_pos ⟨rfl, rfl⟩, if_neg hz]
  · rw [if_neg (fun h => hab h.2), if_neg hab]

theorem fixZero_eq [LawfulBEq K] (x : K) : fixZero x = x := by
  unfold fixZero
  split
  · rename_i h; exact (beq_iff_eq.mp h).symm
  · rfl

variable [ScalarExt K]

/-- multiplier as the code computes it: zero for a zero pivot, else the checked division -/
def dumR (a p : K) : Res K := if p == 0 then pure 0 else divM a p

/-- the abstract elimination loop: all it computes are the multipliers, from column 0 of the
    storage as it is BEFORE the loop -/
def multLoop (e : Nat → Nat → K) (k l : Nat) (μ0 : Nat → K) : Res (Nat → K) :=
  forM' (k + 1) l μ0 (fun μ i => do
    let d ← dumR (e i 0) (e k 0)
    pure (fun a => if a = i then d else μ a))

theorem multLoop_ok {e : Nat → Nat → K} {k l : Nat} (hkl : k + 1 ≤ l) {μ : Nat → K}
    (hμ : ∀ i, k < i → i < l → dumR (e i 0) (e k 0) = .ok (μ i)) : multLoop e k l μ = .ok μ := by
  unfold multLoop
  obtain ⟨μ', h1, h2⟩ := forM'_inv (fun _ (ν : Nat → K) => ν = μ) (k + 1) l μ (fun μ i => do
      let d ← dumR (e i 0) (e k 0)
      pure (fun a => if a = i then d else μ a)) hkl rfl (fun t ν ht1 ht2 hν => ⟨μ, by
        subst hν
        simp only [hμ t (by omega) ht2, bind, Except.bind, pure, Except.pure]
        congr 1
        funext a
        split
        · rename_i h; rw [h]
        · rfl, rfl⟩)
  rw [h1, h2]

theorem multLoop_congr {e e' : Nat → Nat → K} {k l : Nat} (μ0 : Nat → K)
    (h : ∀ i, k ≤ i → i < l → e i 0 = e' i 0) : multLoop e k l μ0 = multLoop e' k l μ0 := by
  unfold multLoop
  by_cases hkl : k < l
  · refine Mat.forM'_congr _ _ _ _ _ (fun i μ hi1 hi2 => ?_)
    rw [h i (by omega) hi2, h k (Nat.le_refl k) hkl]
  · rw [Mat.forM'_empty _ _ _ _ (by omega), Mat.forM'_empty _ _ _ _ (by omega)]

/-- the abstract pivot step: the row found and the multipliers -/
def absStep (e : Nat → Nat → K) (k l : Nat) (μ0 : Nat → K) : Res (Nat × (Nat → K)) := do
  let pr ← pivLoop e k l
  let μ ← multLoop (pivoted e k pr.2) k l μ0
  pure (pr.2, μ)

theorem absStep_ok {e : Nat → Nat → K} {k l ip : Nat} {μ : Nat → K} (hkl : k + 1 ≤ l)
    (hpiv : pivLoop e k l = .ok (e ip 0, ip))
    (hμ : ∀ i, k < i → i < l →
      dumR (pivoted e k ip i 0) (pivoted e k ip k 0) = .ok (μ i)) :
    absStep e k l μ = .ok (ip, μ) := by
  unfold absStep
  rw [hpiv]
  show (multLoop _ k _ _ >>= _) = _
  rw [multLoop_ok hkl hμ]
  rfl

end Pivot

section Step
variable [Sub K] [Mul K] [Zero K] [BEq K] [ScalarExt K]

theorem decElim_eq (mm k i : Nat) (au al : Mat K) :
    decElim mm k (au, al) i = (do
      let a ← au.get i 0
      let p ← au.get k 0
      let dum ← dumR a p
      elimTail mm k i au al dum) := by
  unfold decElim dumR
  refine bind_congr fun a => bind_congr fun p => ?_
  split <;> rfl

theorem decElim_of {mm k i : Nat} {au al : Mat K} {a p dum : K} {r : Mat K × Mat K}
    (ha : au.get i 0 = .ok a) (hp : au.get k 0 = .ok p) (hd : dumR a p = .ok dum)
    (ht : elimTail mm k i au al dum = .ok r) : decElim mm k (au, al) i = .ok r := by
  rw [decElim_eq, ha, hp]
  simp only [bind, Except.bind, hd, ht]

/-- **the elimination loop of one pivot step refines `multLoop`**: same panic, or the storages
    described by `elimE`, `elimA` with the multipliers the abstract loop returns -/
theorem elimLoop_sim {au al : Mat K} {n mm m1 : Nat} {e ea : Nat → Nat → K}
    (hau : Is au n mm e) (hal : Is al n m1 ea) {k l : Nat} (hk : k < n) (hkl : k + 1 ≤ l)
    (hln : l ≤ n) (hlm : l ≤ k + m1 + 1) (hmm : 0 < mm) (μ0 : Nat → K) :
    ExRel (fun st μ => Is st.1 n mm (elimE mm e μ k l) ∧ Is st.2 n m1 (elimA μ ea k l))
      (forM' (k + 1) l (au, al) (decElim mm k)) (multLoop e k l μ0) := by
  refine Mat.forM'_simIdx (fun t (st : Mat K × Mat K) (μ : Nat → K) =>
      Is st.1 n mm (elimE mm e μ k t) ∧ Is st.2 n m1 (elimA μ ea k t)) (k + 1) l _ _ _ _ hkl
    ⟨hau.congr (fun a b _ _ => (elimE_of_le mm e μ0 (Nat.lt_or_ge k a).symm b).symm),
     hal.congr (fun a b _ _ => by unfold elimA; rw [if_neg (by omega)])⟩ ?_
  rintro t ⟨au1, al1⟩ μ ht1 ht2 ⟨h1, h2⟩
  simp only at h1 h2
  have htn : t < n := Nat.lt_of_lt_of_le ht2 hln
  have r1 : ∀ b, elimE mm e μ k t t b = e t b := elimE_of_le mm e μ (.inr (Nat.le_refl t))
  have r2 : ∀ b, elimE mm e μ k t k b = e k b := elimE_of_le mm e μ (.inl (Nat.le_refl k))
  rw [decElim_eq, h1.get htn hmm, h1.get hk hmm, r1, r2]
  show ExRel _ (dumR (e t 0) (e k 0) >>= _) (dumR (e t 0) (e k 0) >>= _)
  refine ExRel.bind (ExRel.refl_eq _) ?_
  rintro d _ rfl
  obtain ⟨au', al', hs, _, hI1, hI2⟩ := elimTail_spec h1 h2 hk htn ht1 (by omega) hmm d
  rw [hs]
  -- the abstract loop records `d` as the multiplier of row `t`
  have ho : ∀ a, a ≠ t → (fun a => if a = t then d else μ a) a = μ a := fun a h => if_neg h
  refine ⟨hI1.congr fun a b _ _ => ?_, hI2.congr fun a b _ _ => ?_⟩
  · rw [elimE_succ mm e ht1 ho, r1, r2]
    exact if_congr Iff.rfl (by rw [if_pos rfl]) rfl
  · rw [elimA_succ ea ht1 ho]
    exact if_congr Iff.rfl (if_pos rfl).symm rfl

variable [Neg K]

/-- `decStep` with the pivot-search body named and the tuples read by projections.  Not `rfl`: the
    model repeats the continuation in both branches of its two `if`s, so the two sides differ by
    `(if c then a else b) >>= f = if c then a >>= f else b >>= f`, case by case. -/
theorem decStep_eq (n mm : Nat) (s : Dec K) (l k : Nat) :
    decStep n mm (s, l) k = (do
      let dum0 ← s.au.get k 0
      let pr ← forM' (k + 1) (if l < n then l + 1 else l) (dum0, k) (pivBody s.au)
      let index ← aset s.index k (pr.2 + 1)
      let au ← (if pr.1 == 0 then s.au.set k 0 0 else pure s.au)
      let aud ← (if pr.2 ≠ k then (do
          let au ← forM' 0 mm au (fun au j => Mat.swapElem au k j pr.2 j)
          pure (au, -s.d)) else pure (au, s.d))
      let r ← forM' (k + 1) (if l < n then l + 1 else l) (aud.1, s.al) (decElim mm k)
      pure (⟨r.1, r.2, index, aud.2⟩, if l < n then l + 1 else l)) := by
  have hpiv : (fun (x : K × Nat) (j : Nat) => (match x with
      | (dum, i) => do
        let x ← s.au.get j 0
        if ScalarExt.lt (ScalarExt.mag dum) (ScalarExt.mag x) then pure (x, j) else pure (dum, i)
      : Res (K × Nat))) = pivBody s.au := by
    funext x j
    obtain ⟨d, i⟩ := x
    rfl
  unfold decStep
  simp only [hpiv]
  refine bind_congr fun dum0 => bind_congr fun pr => bind_congr fun index => ?_
  by_cases hz : (pr.1 == 0) = true
  · rw [if_pos hz, if_pos hz]
    refine bind_congr fun au => ?_
    by_cases hik : pr.2 ≠ k
    · rw [if_pos hik, if_pos hik, bind_assoc]
    · rw [if_neg hik, if_neg hik]
  · rw [if_neg hz, if_neg hz]
    refine bind_congr fun au => ?_
    by_cases hik : pr.2 ≠ k
    · rw [if_pos hik, if_pos hik, bind_assoc]
    · rw [if_neg hik, if_neg hik]

theorem decStep_of {n mm l l' k ip : Nat} {s : Dec K} {d0 p dd : K} {idx : Array Nat}
    {au0 au1 au2 al2 : Mat K} (hl : l' = if l < n then l + 1 else l)
    (hg : s.au.get k 0 = .ok d0)
    (hp : forM' (k + 1) l' (d0, k) (pivBody s.au) = .ok (p, ip))
    (hi : aset s.index k (ip + 1) = .ok idx)
    (hz : (if p == 0 then s.au.set k 0 0 else pure s.au) = .ok au0)
    (hx : (if ip ≠ k then (do
        let au ← forM' 0 mm au0 (fun au j => Mat.swapElem au k j ip j)
        pure (au, -s.d)) else pure (au0, s.d)) = .ok (au1, dd))
    (he : forM' (k + 1) l' (au1, s.al) (decElim mm k) = .ok (au2, al2)) :
    decStep n mm (s, l) k = .ok (⟨au2, al2, idx, dd⟩, l') := by
  subst hl
  rw [decStep_eq, hg]
  simp only [bind, Except.bind, pure, Except.pure] at hp hi hz hx he ⊢
  simp only [hp, hi, hz, hx, he]

theorem decStep_sim {s : Dec K} {n mm m1 l k : Nat} {e ea : Nat → Nat → K}
    (hau : Is s.au n mm e) (hal : Is s.al n m1 ea) (hidx : s.index.size = n) (hk : k < n)
    (hmm : 0 < mm) (hl : l = min (m1 + k) n) (μ0 : Nat → K) :
    ExRel (fun st' r => k ≤ r.1 ∧ r.1 < min (m1 + k + 1) n ∧ st'.2 = min (m1 + k + 1) n ∧
        st'.1.index = s.index.setIfInBounds k (r.1 + 1) ∧
        st'.1.d = (if r.1 ≠ k then -s.d else s.d) ∧
        Is st'.1.au n mm (elimE mm (pivoted e k r.1) r.2 k (min (m1 + k + 1) n)) ∧
        Is st'.1.al n m1 (elimA r.2 ea k (min (m1 + k + 1) n)))
      (decStep n mm (s, l) k) (absStep e k (min (m1 + k + 1) n) μ0) := by
  obtain ⟨hw1, hw2, hw3⟩ := window_bounds m1 hk
  obtain ⟨ip, hip1, hip2, _, hpiv⟩ := pivotLoop_spec hau (k := k) (l := min (m1 + k + 1) n)
    hw1 hw2 hmm (fun _ _ => True) (fun _ => trivial) (fun _ _ _ _ _ => trivial)
    (fun _ _ => by split <;> trivial)
  obtain ⟨au0, h0, hI0⟩ := zeroFix_stage hau (ip := ip) hk hmm
  obtain ⟨au1, h1, hI1⟩ := swap_stage hI0 hk (Nat.lt_of_lt_of_le hip2 hw2) s.d
  have hsim := elimLoop_sim (e := pivoted e k ip) hI1 hal hk hw1 hw2 (Nat.add_comm m1 k ▸ hw3) hmm
    μ0
  rw [decStep_eq, window_succ hl, hau.get hk hmm]
  unfold absStep
  rw [← pivLoop_eq hau (Nat.min_le_right _ _) hmm]
  simp only [bind, Except.bind, pure, Except.pure] at hpiv h0 h1 ⊢
  simp only [hpiv, aset_ok _ (hidx ▸ hk : k < s.index.size), h0, h1]
  revert hsim
  cases forM' (k + 1) (min (m1 + k + 1) n) (au1, s.al) (decElim mm k) <;>
    cases multLoop (pivoted e k ip) k (min (m1 + k + 1) n) μ0 <;> intro hsim
  · exact hsim
  · exact hsim.elim
  · exact hsim.elim
  · exact ⟨hip1, hip2, rfl, rfl, rfl, hsim.1, hsim.2⟩

/-- one pivot step of `decompose` for `m1 = 0`: the window of `decStep_sim` is empty, so the search
    returns `k`, nothing is exchanged, divided or stored, and the zero fix is all that happens -/
theorem decStep_upper {n mm : Nat} {c ea : Nat → Nat → K} (s : Dec K) {k : Nat} (hk : k < n)
    (hmm : 0 < mm) (hau : Is s.au n mm c) (hal : Is s.al n 0 ea) (hidx : s.index.size = n) :
    ∃ au', decStep n mm (s, k) k = .ok (⟨au', s.al, s.index.setIfInBounds k (k + 1), s.d⟩, k + 1) ∧
      Is au' n mm (fun a b => if a = k ∧ b = 0 then fixZero (c k 0) else c a b) := by
  have hw : min (0 + k + 1) n = k + 1 := by omega
  have hsim := decStep_sim (m1 := 0) hau hal hidx hk hmm (l := k) (by omega) (fun _ => 0)
  rw [hw, absStep_ok (Nat.le_refl _) (Mat.forM'_empty _ _ _ _ (Nat.le_refl _))
    (fun i h1 h2 => absurd h2 (Nat.not_lt.2 h1))] at hsim
  cases hx : decStep n mm (s, k) k with
  | error err => rw [hx] at hsim; exact hsim.elim
  | ok st' =>
    rw [hx] at hsim
    obtain ⟨⟨au', al', index, d⟩, l'⟩ := st'
    obtain ⟨_, _, g3, g4, g5, g6, g7⟩ := hsim
    simp only at g3 g4 g5 g6 g7
    rw [if_neg (fun h => h rfl)] at g5
    rw [Mat.Is.unique g7 (hal.congr fun a b _ hb => absurd hb (Nat.not_lt_zero b)), g3, g4, g5]
    refine ⟨au', rfl, g6.congr fun a b _ _ => ?_⟩
    rw [pivoted, swapFn_self, elimE_of_le _ _ _ (Nat.lt_or_ge k a).symm, zeroFix_self]

end Step

/-- first matrix column of compact row `i` before step `k`: finished rows start at their diagonal,
    the rows of the window `[k, l)` are aligned to column `k`, untouched rows start at `i - m1` -/
def off (m1 k l i : Nat) : Nat := if i < k then i else if i < l then k else i - m1

theorem off_in {m1 k l a : Nat} (h1 : k ≤ a) (h2 : a < l) : off m1 k l a = k := by
  unfold off; rw [if_neg (by omega), if_pos h2]

theorem off_start (m1 i : Nat) : off m1 0 m1 i = i - m1 := by
  unfold off
  rw [if_neg (Nat.not_lt_zero i)]
  split
  · omega
  · rfl

theorem off_succ {m1 k l : Nat} (hk : k < l) (a : Nat) :
    off m1 (k + 1) l a = if k < a ∧ a < l then k + 1 else off m1 k l a := by
  unfold off
  rcases Nat.lt_trichotomy a k with h | h | h
  · rw [if_pos (Nat.lt_succ_of_lt h), if_neg fun c => Nat.lt_asymm h c.1, if_pos h]
  · subst h
    rw [if_pos (Nat.lt_succ_self a), if_neg fun c => Nat.lt_irrefl a c.1,
      if_neg (Nat.lt_irrefl a), if_pos hk]
  · rw [if_neg (Nat.not_lt.2 (Nat.succ_le_of_lt h))]
    by_cases hl : a < l
    · rw [if_pos hl, if_pos ⟨h, hl⟩]
    · rw [if_neg hl, if_neg fun c => hl c.2, if_neg (Nat.lt_asymm h), if_neg hl]

/-- the window grows by the row `m1 + k`, whose first column is `k` already -/
theorem off_widen {n m1 k a : Nat} (ha : a < n) :
    off m1 k (min (m1 + k) n) a = off m1 k (min (m1 + k + 1) n) a := by
  unfold off
  by_cases h : a < k
  · rw [if_pos h, if_pos h]
  rw [if_neg h, if_neg h]
  by_cases h1 : a < min (m1 + k) n
  · rw [if_pos h1, if_pos (Nat.lt_of_lt_of_le h1 (window_mono n m1 k))]
  rw [if_neg h1]
  by_cases h2 : a < min (m1 + k + 1) n
  · rw [if_pos h2, show a = m1 + k by omega, Nat.add_sub_cancel_left]
  · rw [if_neg h2]

/-- canonical index function of the exchange record -/
def idxf (index : Array Nat) (k : Nat) : Nat := index[k]?.getD 0

theorem idxf_set {index : Array Nat} {k : Nat} (hk : k < index.size) (v k' : Nat) :
    idxf (index.setIfInBounds k v) k' = if k' = k then v else idxf index k' := by
  unfold idxf
  rw [Array.getElem?_setIfInBounds]
  by_cases h : k' = k
  · rw [if_pos h.symm, if_pos hk, if_pos h]; rfl
  · rw [if_neg (fun e => h e.symm), if_neg h]

def swapV (y : Nat → K) (k ip a : Nat) : K :=
  if a = k then y ip else if a = ip then y k else y a

theorem swapV_apply (f : Nat → K) (k ip a : Nat) : swapV f k ip a = f (Mat.swapIdx k ip a) := by
  unfold swapV Mat.swapIdx
  split_ifs <;> rfl

section Twin
variable [Zero K]

/-- dense twin of the compact working matrix before step `k` -/
def twinK (m1 mm k l : Nat) (e : Nat → Nat → K) (i c : Nat) : K :=
  if off m1 k l i ≤ c ∧ c < off m1 k l i + mm then e i (c - off m1 k l i) else 0

theorem twinK_window {n m1 mm k : Nat} (e : Nat → Nat → K) {a : Nat} (ha : a < n) (c : Nat) :
    twinK m1 mm k (min (m1 + k) n) e a c = twinK m1 mm k (min (m1 + k + 1) n) e a c := by
  unfold twinK; rw [off_widen ha]

theorem twinK_in_window {m1 mm k l : Nat} (e : Nat → Nat → K) {a : Nat} (h1 : k ≤ a)
    (h2 : a < l) (c : Nat) :
    twinK m1 mm k l e a c = if k ≤ c ∧ c < k + mm then e a (c - k) else 0 := by
  unfold twinK; rw [off_in h1 h2]

theorem twinK_swap {m1 mm k l ip : Nat} (e : Nat → Nat → K) (hk : k < l) (h1 : k ≤ ip)
    (h2 : ip < l) (a c : Nat) :
    twinK m1 mm k l (swapFn e k ip) a c = swapFn (twinK m1 mm k l e) k ip a c := by
  have o1 : off m1 k l k = k := off_in (Nat.le_refl k) hk
  have o2 : off m1 k l ip = k := off_in h1 h2
  unfold swapFn
  by_cases hak : a = k
  · subst hak
    simp only [twinK, if_true, o1, o2]
  · by_cases hai : a = ip
    · subst hai
      simp only [twinK, hak, if_false, if_true, o1, o2]
    · simp only [twinK, hak, hai, if_false]

theorem twinK_congr {n m1 mm k l : Nat} {e e' : Nat → Nat → K}
    (h : ∀ a b, a < n → b < mm → e' a b = e a b) {a : Nat} (ha : a < n) (c : Nat) :
    twinK m1 mm k l e' a c = twinK m1 mm k l e a c := by
  unfold twinK
  by_cases hc : off m1 k l a ≤ c ∧ c < off m1 k l a + mm
  · rw [if_pos hc, if_pos hc, h a _ ha (by omega)]
  · rw [if_neg hc, if_neg hc]

/-- the dense twin after the elimination of the window rows against pivot row `k`: inside the
    compact storage the update `w_ac − μ_a w_kc`, the eliminated column `k` drops out of the
    storage, the fresh last slot is the literal zero -/
theorem twinK_elim [Sub K] [Mul K] {m1 mm k l : Nat} (e : Nat → Nat → K) (μ : Nat → K)
    (hk : k < l) (a c : Nat) :
    twinK m1 mm (k + 1) l (elimE mm e μ k l) a c =
      if k < a ∧ a < l then
        (if k + 1 ≤ c ∧ c < k + mm then
          twinK m1 mm k l e a c - μ a * twinK m1 mm k l e k c else 0)
      else twinK m1 mm k l e a c := by
  by_cases hw : k < a ∧ a < l
  · rw [if_pos hw, twinK_in_window _ (show k + 1 ≤ a by omega) hw.2,
      twinK_in_window e (show k ≤ a by omega) hw.2, twinK_in_window e (Nat.le_refl k) hk]
    unfold elimE
    rw [if_pos hw]
    by_cases h1 : k + 1 ≤ c ∧ c < k + mm
    · rw [if_pos h1, if_pos (show k + 1 ≤ c ∧ c < k + 1 + mm by omega),
        if_pos (show c - (k + 1) + 1 < mm by omega),
        if_pos (show k ≤ c ∧ c < k + mm by omega), if_pos (show k ≤ c ∧ c < k + mm by omega),
        show c - (k + 1) + 1 = c - k by omega]
    · rw [if_neg h1]
      by_cases h2 : k + 1 ≤ c ∧ c < k + 1 + mm
      · rw [if_pos h2, if_neg (by omega)]
      · rw [if_neg h2]
  · rw [if_neg hw]
    unfold twinK elimE
    rw [off_succ hk, if_neg hw, if_neg hw]

theorem twinK_zero {b : Band K} (h : WFb b) {a c : Nat} (ha : a < b.n) (hc : c < b.n) :
    twinK b.m1 (b.m1 + b.m2 + 1) 0 b.m1 (shifted b.m1 b.m2 (Mat.entryOf b.compact)) a c =
      dense b a c := by
  unfold twinK
  rw [off_start]
  by_cases hw : a - b.m1 ≤ c ∧ c < a - b.m1 + (b.m1 + b.m2 + 1)
  · rw [if_pos hw]
    by_cases ht : (c - (a - b.m1)) + (b.m1 - a) < b.m1 + b.m2 + 1
    · rw [shifted_dense h ha ht (by omega)]
      congr 1; omega
    · rw [dense_out (by unfold inBand; omega)]
      unfold shifted
      rw [if_pos (by omega), if_neg ht]
  · rw [if_neg hw, dense_out (by unfold inBand; omega)]

theorem twinK_start {b : Band K} (h : WFb b) (hm : b.m1 ≤ b.n) {au0 : Mat K}
    (hI0 : Is au0 b.n (b.m1 + b.m2 + 1) (shifted b.m1 b.m2 (Mat.entryOf b.compact))) {a c : Nat}
    (ha : a < b.n) (hc : c < b.n) :
    twinK b.m1 (b.m1 + b.m2 + 1) 0 (min (b.m1 + 0) b.n) (Mat.entryOf au0) a c = dense b a c := by
  simp only [Nat.add_zero, Nat.min_eq_left hm]
  rw [twinK_congr (fun a b ha hb => hI0.entryOf_eq ha hb) ha c, twinK_zero h ha hc]

end Twin

section PivotLoop
variable [Sub K] [Mul K] [Neg K] [Zero K] [BEq K] [ScalarExt K]

/-- what every invariant of the pivot loop of `decompose` says about the storage (before step
    `k`): the window counter, the shapes, and the exchange record written so far -/
structure Shape (n m1 mm k : Nat) (st : Dec K × Nat) : Prop where
  l : st.2 = min (m1 + k) n
  au : Is st.1.au n mm (Mat.entryOf st.1.au)
  al : Is st.1.al n m1 (Mat.entryOf st.1.al)
  sz : st.1.index.size = n
  idx : ∀ k', k' < k → k' < idxf st.1.index k' ∧ idxf st.1.index k' ≤ min (m1 + k' + 1) n

/-- the exchange record holds `ip + 1`; what `Shape.idx` says of it, read for `ip` -/
theorem idx_pred_bounds {n m1 k ik : Nat} (h : k < ik ∧ ik ≤ min (m1 + k + 1) n) :
    k ≤ ik - 1 ∧ ik - 1 < min (m1 + k + 1) n ∧ ik - 1 < n := by
  omega

/-- **one pivot step on a state of the right shape**, for a scalar type whose guarded division
    `dumR` is the total function `q`, and any reflexive transitive relation `R` the magnitude
    comparison decides: the step succeeds, keeps the shape, the row `ip` found dominates column 0
    of the window, and the entries after the step are those the abstract step describes (`decStep_sim`) -/
theorem Shape.step {n m1 mm k : Nat} {st : Dec K × Nat} (h : Shape n m1 mm k st) (hk : k < n)
    (hmm : 0 < mm) (R : K → K → Prop) (hrefl : ∀ a, R a a)
    (htrans : ∀ a b c, R a b → R b c → R a c)
    (hcmp : ∀ d x,
      if ScalarExt.lt (ScalarExt.mag d) (ScalarExt.mag x) = true then R d x else R x d)
    (q : K → K → K) (hq : ∀ a p, dumR a p = .ok (q a p)) :
    ∃ st' ip, decStep n mm st k = .ok st' ∧ Shape n m1 mm (k + 1) st' ∧
      k ≤ ip ∧ ip < min (m1 + k + 1) n ∧
      (∀ j, k ≤ j → j < min (m1 + k + 1) n →
        R (Mat.entryOf st.1.au j 0) (Mat.entryOf st.1.au ip 0)) ∧
      st'.1.index = st.1.index.setIfInBounds k (ip + 1) ∧
      st'.1.d = (if ip ≠ k then -st.1.d else st.1.d) ∧
      (∀ a b, a < n → b < mm → Mat.entryOf st'.1.au a b =
        elimE mm (pivoted (Mat.entryOf st.1.au) k ip)
          (fun i => q (pivoted (Mat.entryOf st.1.au) k ip i 0)
            (pivoted (Mat.entryOf st.1.au) k ip k 0)) k (min (m1 + k + 1) n) a b) ∧
      (∀ a b, a < n → b < m1 → Mat.entryOf st'.1.al a b =
        elimA (fun i => q (pivoted (Mat.entryOf st.1.au) k ip i 0)
            (pivoted (Mat.entryOf st.1.au) k ip k 0))
          (Mat.entryOf st.1.al) k (min (m1 + k + 1) n) a b) := by
  obtain ⟨s, l⟩ := st
  obtain ⟨hl, hau, hal, hsz, hidx⟩ := h
  simp only at hl hau hal hsz hidx
  obtain ⟨hw1, hw2, _⟩ := window_bounds m1 hk
  obtain ⟨ip, hip1, hip2, hdom, hpiv⟩ := pivotLoop_spec hau (k := k) (l := min (m1 + k + 1) n)
    hw1 hw2 hmm R hrefl htrans hcmp
  have hsim := decStep_sim hau hal hsz hk hmm hl
    (fun i => q (pivoted (Mat.entryOf s.au) k ip i 0) (pivoted (Mat.entryOf s.au) k ip k 0))
  -- the divisions succeed, so the abstract step returns the multipliers it is started with
  rw [absStep_ok hw1 ((pivLoop_eq hau hw2 hmm).symm.trans hpiv) (fun i _ _ => hq _ _)] at hsim
  cases hx : decStep n mm (s, l) k with
  | error err => rw [hx] at hsim; exact hsim.elim
  | ok st' =>
    rw [hx] at hsim
    obtain ⟨_, _, g3, g4, g5, g6, g7⟩ := hsim
    refine ⟨st', ip, rfl, ⟨g3, g6.canon, g7.canon, by rw [g4]; simpa using hsz, ?_⟩, hip1, hip2,
      hdom, g4, g5, fun a b ha hb => g6.entryOf_eq ha hb, fun a b ha hb => g7.entryOf_eq ha hb⟩
    intro k' hk'
    rw [g4, idxf_set (hsz ▸ hk)]
    by_cases hkk : k' = k
    · rw [if_pos hkk, hkk]
      exact ⟨Nat.lt_succ_of_le hip1, Nat.succ_le_of_lt hip2⟩
    · rw [if_neg hkk]
      exact hidx k' (Nat.lt_of_le_of_ne (Nat.le_of_lt_succ hk') hkk)

variable [One K]

/-- `decompose` with `m1 ≤ n` establishes every invariant of the pivot loop that holds of a state
    of the right shape with sign 1 whose dense twin is that of `b`, and is kept by `decStep` -/
theorem decompose_inv_rule {b : Band K} (h : WFb b) (hm : b.m1 ≤ b.n)
    (P : Nat → Dec K × Nat → Prop)
    (h0 : ∀ st0 : Dec K × Nat, Shape b.n b.m1 (b.m1 + b.m2 + 1) 0 st0 → st0.1.d = 1 →
      (∀ a c, a < b.n → c < b.n →
        twinK b.m1 (b.m1 + b.m2 + 1) 0 (min (b.m1 + 0) b.n) (Mat.entryOf st0.1.au) a c
          = dense b a c) → P 0 st0)
    (hstep : ∀ k st, k < b.n → P k st →
      ∃ st', decStep b.n (b.m1 + b.m2 + 1) st k = .ok st' ∧ P (k + 1) st') :
    ∃ s l, decompose b = .ok s ∧ P b.n (s, l) := by
  obtain ⟨au0, g0, hI0⟩ := shiftRows_spec h.is hm
  unfold decompose
  simp only [g0, bind, Except.bind]
  obtain ⟨⟨s, l⟩, hst, hinv⟩ := forM'_inv P 0 b.n _ (decStep b.n (b.m1 + b.m2 + 1))
    (Nat.zero_le _)
    (h0 (⟨au0, Mat.new b.n b.m1 0, Array.replicate b.n 0, 1⟩, b.m1)
      ⟨by simp only; omega, hI0.canon, (Mat.Is.of_new b.n b.m1 (0 : K)).canon, by simp,
        fun k' hk' => by omega⟩ rfl (fun a c ha hc => twinK_start h hm hI0 ha hc))
    (fun k st _ hk hP => hstep k st hk hP)
  exact ⟨s, l, by rw [hst]; rfl, hinv⟩

end PivotLoop

section VecSwap
variable [Zero K]

theorem vswap_spec {x : Array K} {k j : Nat} (hk : k < x.size) (hj : j < x.size) :
    ∃ x', Vec.swap x k j = .ok x' ∧ x'.size = x.size ∧
      ∀ a, x'[a]?.getD 0 = swapV (fun a => x[a]?.getD 0) k j a := by
  have hk' : k < (x.setIfInBounds k (x[j]?.getD 0)).size := by simpa using hk
  have hj' : j < (x.setIfInBounds k (x[j]?.getD 0)).size := by simpa using hj
  refine ⟨(x.setIfInBounds k (x[j]?.getD 0)).setIfInBounds j (x[k]?.getD 0), ?_, by simp, ?_⟩
  · simp only [Vec.swap, aget_getD hk 0, aget_getD hj 0, aset_ok _ hk, aset_ok _ hj', bind,
      Except.bind]
  · intro a
    rw [getD_setIfInBounds hj', getD_setIfInBounds hk]
    unfold swapV
    by_cases h1 : a = j
    · subst h1
      by_cases h2 : a = k
      · subst h2; simp
      · simp [h2]
    · simp [h1]

/-- the exchange of the forward substitution is skipped when `j = k`, where it would do nothing -/
theorem swapIf_spec {x : Array K} {k j : Nat} (hk : k < x.size) (hj : j < x.size) :
    ∃ x', (if j ≠ k then Vec.swap x k j else pure x) = .ok x' ∧ x'.size = x.size ∧
      ∀ a, x'[a]?.getD 0 = swapV (fun a => x[a]?.getD 0) k j a := by
  by_cases hjk : j = k
  · subst hjk
    refine ⟨x, if_neg (fun h => h rfl), rfl, fun a => ?_⟩
    unfold swapV
    split
    · rename_i h; rw [h]
    · rfl
  · rw [if_pos hjk]
    exact vswap_spec hk hj

end VecSwap

section Fwd
variable [Sub K] [Mul K]

/-- one forward step on a vector: exchange `k ↔ ip`, then subtract the stored multiples -/
def fwdStep (ea : Nat → Nat → K) (k l ip : Nat) (y : Nat → K) : Nat → K := fun a =>
  if k < a ∧ a < l then swapV y k ip a - ea k (a - k - 1) * swapV y k ip k else swapV y k ip a

/-- the first `k` forward steps -/
def fwd (n m1 : Nat) (ea : Nat → Nat → K) (idx : Nat → Nat) : Nat → (Nat → K) → (Nat → K)
  | 0, y => y
  | k + 1, y => fwdStep ea k (min (m1 + k + 1) n) (idx k - 1) (fwd n m1 ea idx k y)

theorem fwd_congr {n m1 : Nat} {ea ea' : Nat → Nat → K} {idx idx' : Nat → Nat} :
    ∀ (k : Nat), (∀ k', k' < k → (∀ b, b < m1 → ea' k' b = ea k' b) ∧ idx' k' = idx k') →
      ∀ y, fwd n m1 ea' idx' k y = fwd n m1 ea idx k y
  | 0, _, _ => rfl
  | k + 1, h, y => by
    simp only [fwd]
    rw [fwd_congr k (fun k' hk' => h k' (by omega)) y, (h k (by omega)).2]
    funext a
    unfold fwdStep
    by_cases hc : k < a ∧ a < min (m1 + k + 1) n
    · rw [if_pos hc, if_pos hc, (h k (by omega)).1 (a - k - 1) (by omega)]
    · rw [if_neg hc, if_neg hc]

theorem fwd_succ {n m1 k ip : Nat} {ea ea' : Nat → Nat → K} {idx idx' : Nat → Nat} {μ : Nat → K}
    (hk : k < n)
    (hea : ∀ a b, a < n → b < m1 → ea' a b = elimA μ ea k (min (m1 + k + 1) n) a b)
    (hidx : idx' k = ip + 1) (hidxo : ∀ k', k' < k → idx' k' = idx k') (y : Nat → K) (a : Nat) :
    fwd n m1 ea' idx' (k + 1) y a =
      if k < a ∧ a < min (m1 + k + 1) n then
        swapV (fwd n m1 ea idx k y) k ip a - μ a * swapV (fwd n m1 ea idx k y) k ip k
      else swapV (fwd n m1 ea idx k y) k ip a := by
  have hfr : fwd n m1 ea' idx' k y = fwd n m1 ea idx k y := by
    apply fwd_congr
    intro k' hk'
    refine ⟨fun b hb => ?_, hidxo k' hk'⟩
    rw [hea k' b (by omega) hb, elimA_of_ne _ _ _ (Nat.ne_of_lt hk')]
  simp only [fwd]
  rw [hfr, hidx, Nat.add_sub_cancel]
  unfold fwdStep
  by_cases hc : k < a ∧ a < min (m1 + k + 1) n
  · rw [if_pos hc, if_pos hc, hea k (a - k - 1) hk (by omega), elimA_window _ _ hc.1 hc.2]
  · rw [if_neg hc, if_neg hc]

/-- body of the forward-substitution loop of `solve` -/
def fwdBody (al : Mat K) (index : Array Nat) (n : Nat) (xl : Array K × Nat) (k : Nat) :
    Res (Array K × Nat) := do
  let ik ← aget index k
  let j ← usub ik 1
  let x ← if j ≠ k then Vec.swap xl.1 k j else pure xl.1
  let l := if xl.2 < n then xl.2 + 1 else xl.2
  let x ← forM' (k + 1) l x (fun x j => do
    let xk ← aget x k
    let a ← al.get k (j - k - 1)
    let xj ← aget x j
    aset x j (xj - a * xk))
  pure (x, l)

theorem fwdBody_of {al : Mat K} {index : Array Nat} {n k l l' ik : Nat} {x x1 x2 : Array K}
    (h1 : aget index k = .ok ik) (h2 : 1 ≤ ik)
    (h3 : (if ik - 1 ≠ k then Vec.swap x k (ik - 1) else pure x) = .ok x1)
    (hl : (if l < n then l + 1 else l) = l')
    (h4 : forM' (k + 1) l' x1 (fun x j => do
        let xk ← aget x k
        let a ← al.get k (j - k - 1)
        let xj ← aget x j
        aset x j (xj - a * xk)) = .ok x2) :
    fwdBody al index n (x, l) k = .ok (x2, l') := by
  subst hl
  unfold fwdBody
  simp only [bind, Except.bind, pure, Except.pure] at h3 h4 ⊢
  simp only [h1, usub_ok h2]
  by_cases hik : ik - 1 ≠ k
  · rw [if_pos hik] at h3 ⊢
    simp only [h3, h4]
  · rw [if_neg hik] at h3 ⊢
    injection h3 with h3
    subst h3
    simp only [h4]

theorem fwd_inner [Zero K] {al : Mat K} {n m1 : Nat} {ea : Nat → Nat → K} (hal : Is al n m1 ea)
    (x : Array K) (hx : x.size = n) {k l : Nat} (hk : k < n) (hkl : k + 1 ≤ l) (hln : l ≤ n)
    (hlm : l ≤ m1 + k + 1) :
    ∃ x', forM' (k + 1) l x (fun x j => do
        let xk ← aget x k
        let a ← al.get k (j - k - 1)
        let xj ← aget x j
        aset x j (xj - a * xk)) = .ok x' ∧ x'.size = n ∧
      ∀ a, x'[a]?.getD 0 = if k < a ∧ a < l then
        x[a]?.getD 0 - ea k (a - k - 1) * x[k]?.getD 0 else x[a]?.getD 0 := by
  refine Exists.imp (fun x' h => ⟨h.1, h.2.size, h.2.getD_total fun a ha => ?_⟩)
    ((hx ▸ Arr.Is.of_getD x 0).forM'_writes (fun t a => k < a ∧ a < t)
      (fun a => x[a]?.getD 0 - ea k (a - k - 1) * x[k]?.getD 0) hkl (fun a _ => by omega)
      fun t s ht1 ht2 hs => ⟨t, by omega, ?_, fun a _ => by
        rw [Nat.lt_succ_iff_lt_or_eq, and_or_left]
        exact or_congr Iff.rfl (and_iff_right_of_imp fun h => by rw [h]; exact ht1)⟩)
  · -- positions `k` and `t` still hold their initial values
    have gk := hs.aget hk
    have gt := hs.aget (show t < n by omega)
    rw [if_neg (by omega)] at gk gt
    simp only [gk, gt, hal.get hk (show t - k - 1 < m1 by omega), bind, Except.bind]
  · rw [if_neg (by omega), Array.getElem?_eq_none (hx ▸ ha)]
    rfl

theorem solve_fwd_spec [Zero K] {n m1 : Nat} {al : Mat K} {index : Array Nat} {ea : Nat → Nat → K}
    (hal : Is al n m1 ea) (hsz : index.size = n)
    (hidx : ∀ k, k < n → k < idxf index k ∧ idxf index k ≤ min (m1 + k + 1) n) (hm : m1 ≤ n)
    (rhs : Array K) (hr : rhs.size = n) :
    ∃ st, forM' 0 n (rhs, m1) (fwdBody al index n) = .ok st ∧ st.1.size = n ∧
      ∀ a, st.1[a]?.getD 0 = fwd n m1 ea (idxf index) n (fun a => rhs[a]?.getD 0) a := by
  refine Exists.imp (fun st h => ⟨h.1, h.2.2⟩) (forM'_inv
    (fun k (st : Array K × Nat) => st.2 = min (m1 + k) n ∧ st.1.size = n ∧
      ∀ a, st.1[a]?.getD 0 = fwd n m1 ea (idxf index) k (fun a => rhs[a]?.getD 0) a)
    0 n (rhs, m1) _ (Nat.zero_le _) ⟨by simp only; omega, hr, fun a => rfl⟩ ?_)
  rintro k ⟨x, l⟩ _ hk ⟨h1, h2, h3⟩
  simp only at h1 h2 h3
  obtain ⟨hi1, hi2⟩ := hidx k hk
  obtain ⟨hw1, hw2, hw3⟩ := window_bounds m1 hk
  have hki : k < index.size := hsz ▸ hk
  have g1 : aget index k = .ok (idxf index k) := by
    rw [aget_ok hki]; simp [idxf, hki]
  have hpos : 1 ≤ idxf index k := Nat.lt_of_le_of_lt (Nat.zero_le k) hi1
  obtain ⟨x1, hx1, hs1, hv1⟩ := swapIf_spec (x := x) (k := k) (j := idxf index k - 1)
    (h2 ▸ hk) (h2 ▸ Nat.lt_of_lt_of_le (Nat.sub_lt_of_pos_le Nat.one_pos hpos)
      (Nat.le_trans hi2 hw2))
  obtain ⟨x2, hx2, hs2, hv2⟩ := fwd_inner hal x1 (hs1.trans h2) hk hw1 hw2 hw3
  refine ⟨(x2, min (m1 + k + 1) n),
    fwdBody_of g1 hpos hx1 (window_succ h1) hx2, rfl, hs2, fun a => ?_⟩
  simp only [fwd]
  rw [hv2 a, hv1 a, hv1 k, funext h3]
  rfl

/-- the inner loop of the back substitution for row `i` over the vector `x` -/
def backDot (au : Mat K) (x : Array K) (i l : Nat) (xi : K) : Res K :=
  forM' 1 l xi (fun dum k => do
    let a ← au.get i k
    let xk ← aget x (k + i)
    pure (dum - a * xk))

theorem backDot_set (au : Mat K) {x : Array K} {i a : Nat} (hia : i ≤ a) (q : K) (l : Nat) (xi : K) :
    backDot au (x.setIfInBounds i q) a l xi = backDot au x a l xi := by
  unfold backDot
  refine Mat.forM'_congr _ _ _ _ _ (fun k dum hk _ => ?_)
  have : aget (x.setIfInBounds i q) (k + a) = aget x (k + a) := by
    unfold aget
    rw [Array.getElem?_setIfInBounds, if_neg (by omega)]
  rw [this]

theorem backDot_eq_sdot [Zero K] {au : Mat K} {n mm : Nat} {e : Nat → Nat → K}
    (hau : Is au n mm e) (x : Array K) (hx : x.size = n) {i l : Nat} (hi : i < n) (hl1 : 1 ≤ l)
    (hl : l ≤ mm) (hli : i + l ≤ n) (xi : K) :
    backDot au x i l xi
      = .ok (Mat.sdot (fun k => e i k) (fun k => x[k + i]?.getD 0) xi 1 l) := by
  obtain ⟨r, h1, h2⟩ := forM'_inv
    (fun t (d : K) => d = Mat.sdot (fun k => e i k) (fun k => x[k + i]?.getD 0) xi 1 t)
    1 l xi (fun dum k => do
        let a ← au.get i k
        let xk ← aget x (k + i)
        pure (dum - a * xk)) hl1 (by rw [Mat.sdot_empty _ _ _ (Nat.le_refl _)]) (by
      intro t d ht1 ht2 hd
      have hlt : t + i < x.size := by omega
      refine ⟨d - e i t * x[t + i]?.getD 0, ?_, ?_⟩
      · simp only [hau.get hi (show t < mm by omega), aget_getD hlt 0, bind, Except.bind, pure,
          Except.pure]
      · rw [Mat.sdot_succ _ _ _ ht1, hd])
  unfold backDot
  rw [h1, h2]

variable [ScalarExt K]

/-- body of the back-substitution loop of `solve` (upper factor `au` of width `mm`) -/
def backBody (au : Mat K) (mm : Nat) (xl : Array K × Nat) (i : Nat) : Res (Array K × Nat) := do
  let xi ← aget xl.1 i
  let dum ← forM' 1 xl.2 xi (fun dum k => do
    let a ← au.get i k
    let xk ← aget xl.1 (k + i)
    pure (dum - a * xk))
  let p ← au.get i 0
  let q ← divM dum p
  let x ← aset xl.1 i q
  pure (x, if xl.2 < mm then xl.2 + 1 else xl.2)

/-- the two substitutions of `solve`, for a given decomposition -/
def solveWith (n m1 mm : Nat) (s : Dec K) (rhs : Array K) : Res (Array K) := do
  let st ← forM' 0 n (rhs, m1) (fwdBody s.al s.index n)
  let st' ← (List.range n).reverse.foldlM (backBody s.au mm) (st.1, 1)
  pure st'.1

theorem solveWith_of {n m1 mm : Nat} {s : Dec K} {rhs : Array K} {st0 st : Array K × Nat}
    (h1 : forM' 0 n (rhs, m1) (fwdBody s.al s.index n) = .ok st0)
    (h2 : (List.range n).reverse.foldlM (backBody s.au mm) (st0.1, 1) = .ok st) :
    solveWith n m1 mm s rhs = .ok st.1 := by
  simp only [solveWith, bind, Except.bind, h1, h2]
  rfl

theorem backBody_ok {au : Mat K} {mm i l : Nat} {x : Array K} {st : Array K × Nat} :
    backBody au mm (x, l) i = .ok st ↔ ∃ xi d p q x', aget x i = .ok xi ∧
      backDot au x i l xi = .ok d ∧ au.get i 0 = .ok p ∧ divM d p = .ok q ∧
      aset x i q = .ok x' ∧ st = (x', if l < mm then l + 1 else l) := by
  constructor
  · intro h
    unfold backBody at h
    obtain ⟨xi, h1, h⟩ := bind_eq_ok h
    obtain ⟨d, h2, h⟩ := bind_eq_ok h
    obtain ⟨p, h3, h⟩ := bind_eq_ok h
    obtain ⟨q, h4, h⟩ := bind_eq_ok h
    obtain ⟨x', h5, h⟩ := bind_eq_ok h
    injection h with h
    exact ⟨xi, d, p, q, x', h1, h2, h3, h4, h5, h.symm⟩
  · rintro ⟨xi, d, p, q, x', h1, h2, h3, h4, h5, rfl⟩
    unfold backBody
    unfold backDot at h2
    simp only [bind, Except.bind, pure, Except.pure] at h2 ⊢
    simp only [h1, h2, h3, h4, h5]

variable [Zero K]

theorem back_loop_spec {au : Mat K} {n mm : Nat} {e : Nat → Nat → K} (hau : Is au n mm e)
    (hmm : 0 < mm) (x0 : Array K) (hx : x0.size = n) {st : Array K × Nat}
    (h : (List.range n).reverse.foldlM (backBody au mm) (x0, 1) = .ok st) :
    st.1.size = n ∧ ∀ a, a < n → ∃ d,
      backDot au st.1 a (min (n - a) mm) (x0[a]?.getD 0) = .ok d ∧
        divM d (e a 0) = .ok (st.1[a]?.getD 0) := by
  have hQ := foldlM_rev_ok_inv
    (fun j (st : Array K × Nat) => st.1.size = n ∧ st.2 = min (n - j + 1) mm ∧
      (∀ a, a < j → st.1[a]?.getD 0 = x0[a]?.getD 0) ∧
      ∀ a, j ≤ a → a < n → ∃ d,
        backDot au st.1 a (min (n - a) mm) (x0[a]?.getD 0) = .ok d ∧
          divM d (e a 0) = .ok (st.1[a]?.getD 0))
    _ n (x0, 1) st ⟨hx, backWindow_start n hmm, fun _ _ => rfl,
      fun a h1 h2 => absurd h2 (Nat.not_lt.2 h1)⟩ (by
      rintro i ⟨x, l⟩ s1 hi ⟨q1, q2, q3, q4⟩ hf
      simp only at q1 q2 q3 q4
      have hix : i < x.size := q1 ▸ hi
      obtain ⟨xi, dum, p, q, x', h1, hd, hp, hq, hx', rfl⟩ := backBody_ok.mp hf
      rw [aget_getD hix 0] at h1
      injection h1 with h1
      subst h1
      rw [hau.get hi hmm] at hp
      injection hp with hp
      subst hp
      rw [aset_ok _ hix] at hx'
      injection hx' with hx'
      subst hx'
      refine ⟨by simpa using q1, backWindow_succ q2 hi, ?_, ?_⟩
      · intro a ha
        rw [getD_setIfInBounds hix, if_neg (Nat.ne_of_lt ha)]
        exact q3 a (Nat.lt_succ_of_lt ha)
      · intro a ha1 ha2
        simp only
        rw [backDot_set au ha1, getD_setIfInBounds hix]
        by_cases hai : a = i
        · subst hai
          rw [if_pos rfl, ← q3 a (Nat.lt_succ_self a), backWindow_at q2 hi]
          exact ⟨dum, hd, hq⟩
        · rw [if_neg hai]
          exact q4 a (Nat.lt_of_le_of_ne ha1 (Ne.symm hai)) ha2) h
  obtain ⟨q1, _, _, q4⟩ := hQ
  exact ⟨q1, fun a ha => q4 a (Nat.zero_le _) ha⟩

theorem back_specK {au : Mat K} {n mm : Nat} {e : Nat → Nat → K} (hau : Is au n mm e)
    (hmm : 0 < mm) (x0 : Array K) (hx : x0.size = n) {st : Array K × Nat}
    (h : (List.range n).reverse.foldlM (backBody au mm) (x0, 1) = .ok st) :
    st.1.size = n ∧ ∀ a, a < n →
      divM (Mat.sdot (fun k => e a k) (fun k => st.1[k + a]?.getD 0) (x0[a]?.getD 0) 1
        (min (n - a) mm)) (e a 0) = .ok (st.1[a]?.getD 0) := by
  obtain ⟨hsz, hrows⟩ := back_loop_spec hau hmm x0 hx h
  refine ⟨hsz, fun a ha => ?_⟩
  obtain ⟨d, hd1, hd2⟩ := hrows a ha
  rw [backDot_eq_sdot hau st.1 hsz ha (by omega) (by omega) (by omega)] at hd1
  injection hd1 with hd1
  rw [hd1]
  exact hd2

variable [Neg K] [One K] [BEq K]

theorem solve_eq (b : Band K) (rhs : Array K) :
    solve b rhs = (if b.n ≠ rhs.size then .error .size else
      decompose b >>= fun s => solveWith b.n b.m1 (b.m1 + b.m2 + 1) s rhs) := rfl

theorem solve_ok {b : Band K} {rhs x : Array K} (hs : solve b rhs = .ok x) :
    rhs.size = b.n ∧ ∃ s st0 st, decompose b = .ok s ∧
      forM' 0 b.n (rhs, b.m1) (fwdBody s.al s.index b.n) = .ok st0 ∧
      (List.range b.n).reverse.foldlM (backBody s.au (b.m1 + b.m2 + 1)) (st0.1, 1) = .ok st ∧
      x = st.1 := by
  rw [solve_eq] at hs
  split at hs
  · cases hs
  rename_i hn
  obtain ⟨s, h1, hs⟩ := bind_eq_ok hs
  unfold solveWith at hs
  obtain ⟨st0, h2, hs⟩ := bind_eq_ok hs
  obtain ⟨st, h3, hs⟩ := bind_eq_ok hs
  injection hs with hs
  exact ⟨by omega, s, st0, st, h1, h2, h3, hs.symm⟩

end Fwd

section Upper
variable [Sub K] [Mul K] [Neg K] [Zero K] [One K] [BEq K] [ScalarExt K]

theorem decompose_upper {b : Band K} (h : WFb b) (hm : b.m1 = 0) :
    ∃ s, decompose b = .ok s ∧
      Is s.au b.n (b.m1 + b.m2 + 1) (fun i j => if j = 0 then fixZero (Mat.entryOf b.compact i 0)
        else Mat.entryOf b.compact i j) ∧
      s.al = Mat.new b.n 0 (0 : K) ∧ s.index.size = b.n ∧ (∀ i, i < b.n → s.index[i]? = some (i + 1)) ∧
      s.d = 1 := by
  have hI := h.is
  obtain ⟨n, m1, m2, cm⟩ := b
  simp only at hm hI ⊢
  subst hm
  unfold decompose
  simp only [shiftRows_m1_zero, bind, Except.bind]
  obtain ⟨sl, hsl, hl, hau, hal, hsz, hix, hd⟩ := forM'_inv
    (fun k (s : Dec K × Nat) => s.2 = k ∧
      Is s.1.au n (0 + m2 + 1) (fun a b => if a < k ∧ b = 0 then fixZero (cm.entryOf a 0)
        else cm.entryOf a b) ∧
      s.1.al = Mat.new n 0 (0 : K) ∧ s.1.index.size = n ∧
      (∀ i, i < k → s.1.index[i]? = some (i + 1)) ∧ s.1.d = 1)
    0 n ((⟨cm, Mat.new n 0 0, Array.replicate n 0, 1⟩ : Dec K), 0) (decStep n (0 + m2 + 1))
    (Nat.zero_le _)
    ⟨rfl, hI.congr (fun a b _ _ => by simp), rfl, by simp, fun i hi => by omega, rfl⟩ (by
      intro k s _ hk ⟨hl, hau, hal, hsz, hix, hd⟩
      obtain ⟨s, l⟩ := s
      simp only at hl hau hal hsz hix hd
      subst hl
      obtain ⟨au', hstep, hI'⟩ := decStep_upper s hk (by omega) hau
        (hal ▸ Mat.Is.of_new n 0 (0 : K)) hsz
      refine ⟨_, hstep, rfl, hI'.congr fun a b _ _ => ?_, hal, by simpa using hsz, ?_, hd⟩
      · -- row `l` is the one whose pivot slot is fixed in this step
        by_cases hal' : a = l
        · subst hal'
          by_cases hb : b = 0
          · subst hb
            rw [if_pos ⟨rfl, rfl⟩, if_neg fun c => Nat.lt_irrefl a c.1,
              if_pos ⟨Nat.lt_succ_self a, rfl⟩]
          · rw [if_neg fun c => hb c.2, if_neg fun c => hb c.2, if_neg fun c => hb c.2]
        · rw [if_neg fun c => hal' c.1]
          exact if_congr (and_congr_left fun _ =>
            (Nat.lt_succ_iff_lt_or_eq.trans (or_iff_left hal')).symm) rfl rfl
      intro i hi
      simp only [Array.getElem?_setIfInBounds]
      by_cases hik : l = i
      · subst hik; simp [hsz, hk]
      · rw [if_neg hik]; exact hix i (by omega))
  refine ⟨sl.1, by rw [hsl]; rfl, hau.congr (fun a b ha _ => by simp [ha]), hal, hsz, hix, hd⟩

theorem det_upper_ordered {b : Band K} (h : WFb b) (hm : b.m1 = 0) :
    det b = .ok ((List.range' 0 b.n).foldl (fun dd i => dd * fixZero (dense b i i)) 1) := by
  obtain ⟨s, hs, hau, _, _, _, hd⟩ := decompose_upper h hm
  unfold det
  simp only [hs, bind, Except.bind, hd]
  obtain ⟨r, hr, hP⟩ := forM'_inv
    (fun k (dd : K) => dd = (List.range' 0 k).foldl (fun dd i => dd * fixZero (dense b i i)) 1)
    0 b.n (1 : K) (fun dd i => do
      let x ← s.au.get i 0
      pure (dd * x)) (Nat.zero_le _) (by simp) (by
      intro k dd _ hk hdd
      have g := hau.get hk (show 0 < b.m1 + b.m2 + 1 by omega)
      have hib : inBand b k k := by unfold inBand; omega
      have hde : dense b k k = Mat.entryOf b.compact k 0 := by
        rw [dense_of_is h.is hib hk hk]; congr 1; omega
      refine ⟨dd * fixZero (dense b k k), ?_, ?_⟩
      · simp only [g, if_true, hde, bind, Except.bind, pure, Except.pure]
      · rw [List.range'_concat, Nat.one_mul, List.foldl_append, ← hdd]; simp)
  rw [← hP]; exact hr

/-- (S) more sub-diagonals than rows: `decompose` (hence `det` and `solve`) panics -/
theorem decompose_rejects {b : Band K} (h : WFb b) (hm : b.n < b.m1) :
    decompose b = .error .range := by
  unfold decompose
  exact bind_error (shiftRows_rejects h.is hm)

theorem det_rejects {b : Band K} (h : WFb b) (hm : b.n < b.m1) : det b = .error .range := by
  unfold det
  exact bind_error (decompose_rejects h hm)

theorem solve_rejects_m1 {b : Band K} (h : WFb b) (hm : b.n < b.m1) (rhs : Array K)
    (hr : rhs.size = b.n) : solve b rhs = .error .range := by
  unfold solve
  rw [if_neg (by omega)]
  exact bind_error (decompose_rejects h hm)

end Upper

section UpperDet
variable [CommRing K] [BEq K] [LawfulBEq K] [ScalarExt K]

theorem det_upper {b : Band K} (h : WFb b) (hm : b.m1 = 0) :
    det b = .ok (∏ i ∈ Finset.range b.n, dense b i i) := by
  rw [det_upper_ordered h hm]
  congr 1
  have : (fun (dd : K) i => dd * fixZero (dense b i i)) = (fun dd i => dd * dense b i i) := by
    funext dd i; rw [fixZero_eq]
  rw [this, ← List.range_eq_range', Props.C15.foldl_range_mul_eq_prod, one_mul]

end UpperDet

end Band
end Ohsl
