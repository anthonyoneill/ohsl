/-
  Ohsl.Lemmas.ArrFn — arrays of size `n` read as functions `Fin n → K` (`arrFn`), for any scalar
  type: what `zipWith`, `map`, `replicate` become; the model's sparse products and dot product read
  on functions (`mvOf`, `mvTOf`, `dotOf`); the operation record of the solver model with pointwise
  operations on functions (`pwOps`).  Core Lean only.
-/
import Ohsl.Model.Krylov
import Ohsl.Model.Sparse


namespace Ohsl.Props.C08
open Ohsl

section
variable {K : Type} [Zero K]

/-- the function a (size-`n`) array denotes; any scalar type with a zero (C08C's `toFn` is the same
    definition, stated for fields only) -/
def arrFn (n : Nat) (a : Array K) : Fin n → K := fun i => a[i.1]?.getD 0

theorem ofFn_arrFn {n : Nat} (a : Array K) (h : a.size = n) : Array.ofFn (arrFn n a) = a := by
  apply Array.ext_getElem?
  intro i
  rw [Array.getElem?_ofFn]
  by_cases hi : i < n
  · have : i < a.size := by omega
    simp [hi, arrFn, this]
  · have : a.size ≤ i := by omega
    simp [hi, this]

theorem arrFn_zipWith {n : Nat} (f : K → K → K) {a b : Array K} (ha : a.size = n) (hb : b.size = n) :
    arrFn n (Array.zipWith f a b) = fun i => f (arrFn n a i) (arrFn n b i) := by
  funext i
  have h1 : i.1 < a.size := ha ▸ i.2
  have h2 : i.1 < b.size := hb ▸ i.2
  simp [arrFn, Array.getElem?_zipWith, h1, h2]

theorem arrFn_map {n : Nat} (f : K → K) {a : Array K} (ha : a.size = n) :
    arrFn n (a.map f) = fun i => f (arrFn n a i) := by
  funext i
  have h1 : i.1 < a.size := ha ▸ i.2
  simp [arrFn, h1]

theorem arrFn_replicate (n : Nat) : arrFn n (Array.replicate n (0 : K)) = fun _ => 0 := by
  funext i
  simp [arrFn, i.2]

end

variable {K : Type} [Add K] [Sub K] [Mul K] [Div K] [Zero K]

set_option linter.unusedSectionVars false in
theorem arrFn_ofFn {n : Nat} (f : Fin n → K) : arrFn n (Array.ofFn f) = f := by
  funext i
  simp [arrFn, i.2]

/-- the model's sparse product as a map of functions: `v ↦ arrFn n (multiply s (ofFn v))` -/
def mvOf (s : Sp K) (n : Nat) (v : Fin n → K) : Fin n → K :=
  arrFn n (match Sp.multiply s (Array.ofFn v) with | .ok r => r | .error _ => #[])

/-- the model's transposed sparse product as a map of functions -/
def mvTOf (s : Sp K) (n : Nat) (v : Fin n → K) : Fin n → K :=
  arrFn n (match Sp.transposeMultiply s (Array.ofFn v) with | .ok r => r | .error _ => #[])

/-- the model's dot product (`arrOps.dot`: left fold from `0` of the componentwise products) as a
    map of functions -/
def dotOf (n : Nat) (v w : Fin n → K) : K :=
  (Array.zipWith (· * ·) (Array.ofFn v) (Array.ofFn w)).foldl (· + ·) 0

/-- the operation record over functions `Fin n → K` with the pointwise operations in the forms of the
    source (`v i * k`, `k * v i`, `v i / k`) and given products, dot product and norm -/
def pwOps {n : Nat} (mv mvT : (Fin n → K) → (Fin n → K)) (dot : (Fin n → K) → (Fin n → K) → K)
    (norm2 : (Fin n → K) → K) : VOps K (Fin n → K) where
  add v w := fun i => v i + w i
  sub v w := fun i => v i - w i
  smul v k := fun i => v i * k
  lsmul k v := fun i => k * v i
  sdiv v k := fun i => v i / k
  dot := dot
  norm2 := norm2
  zero := fun _ => 0
  A := mv
  At := mvT

end Ohsl.Props.C08
