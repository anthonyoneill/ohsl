/-
  Ohsl.Lemmas.CxField — the model's complex numbers over ℝ, `Cx ℝ`, satisfy the laws the class-(E)
  development of the dense direct solvers rests on (`Alg.DivLaw`, `Alg.PivotLaws`), WITH THE MODEL'S
  OWN INSTANCES: `+ - * neg 0 1` are `Cx.add`, …, `==` is `Cx.beq`, and the scalar extension is
  `Cx.instScalarExt` (`divM = Cx.div`, `lt` = the lexicographic `Cx.lt`, `mag z = |z| + 0i`).
-/
import Ohsl.Props.C13R
import Ohsl.Props.C14
import Ohsl.Lemmas.LUDet
import Mathlib.Algebra.Field.Basic
import Mathlib.Analysis.Complex.Norm
import Mathlib.LinearAlgebra.Matrix.Determinant.Basic
namespace Ohsl.CxField
open Ohsl Ohsl.Cx Ohsl.RealI Ohsl.Props.C13 Ohsl.Props.C14

/-- the inverse of `toC` -/
def ofC (c : ℂ) : Cx ℝ := ⟨c.re, c.im⟩

@[simp] theorem toC_ofC (c : ℂ) : toC (ofC c) = c := rfl
@[simp] theorem ofC_toC (z : Cx ℝ) : ofC (toC z) = z := rfl

/-- **`Cx ℝ` as a field.**  `0 1 + * - neg` are the model's instances (`Cx.instZero`, …), reused
    as they are; the remaining operations of the `Field` structure are transported from ℂ. -/
@[instance_reducible] noncomputable def field : Field (Cx ℝ) :=
  letI : Inv (Cx ℝ) := ⟨fun z => ofC (toC z)⁻¹⟩
  letI : Div (Cx ℝ) := ⟨fun a b => ofC (toC a / toC b)⟩
  letI : SMul ℕ (Cx ℝ) := ⟨fun n z => ofC (n • toC z)⟩
  letI : SMul ℤ (Cx ℝ) := ⟨fun n z => ofC (n • toC z)⟩
  letI : SMul ℚ≥0 (Cx ℝ) := ⟨fun q z => ofC (q • toC z)⟩
  letI : SMul ℚ (Cx ℝ) := ⟨fun q z => ofC (q • toC z)⟩
  letI : Pow (Cx ℝ) ℕ := ⟨fun z n => ofC (toC z ^ n)⟩
  letI : Pow (Cx ℝ) ℤ := ⟨fun z n => ofC (toC z ^ n)⟩
  letI : NatCast (Cx ℝ) := ⟨fun n => ofC n⟩
  letI : IntCast (Cx ℝ) := ⟨fun n => ofC n⟩
  letI : NNRatCast (Cx ℝ) := ⟨fun q => ofC q⟩
  letI : RatCast (Cx ℝ) := ⟨fun q => ofC q⟩
  Function.Injective.field toC toC_injective toC_zero toC_one toC_add toC_mul toC_neg toC_sub
    (fun _ => rfl) (fun _ _ => rfl) (fun _ _ => rfl) (fun _ _ => rfl) (fun _ _ => rfl)
    (fun _ _ => rfl) (fun _ _ => rfl) (fun _ _ => rfl) (fun _ => rfl) (fun _ => rfl)
    (fun _ => rfl) (fun _ => rfl)

/-- the ring operations of `field` are the model's operations, by definition -/
theorem field_ops (a b : Cx ℝ) :
    field.add a b = Cx.add a b ∧ field.mul a b = Cx.mul a b ∧ field.neg a = Cx.neg a ∧
    field.sub a b = Cx.sub a b ∧ field.zero = Cx.zero ∧ field.one = Cx.one :=
  ⟨rfl, rfl, rfl, rfl, rfl, rfl⟩

theorem toC_div_field (a b : Cx ℝ) : toC (field.div a b) = toC a / toC b := rfl

instance lawfulBEq : LawfulBEq (Cx ℝ) where
  rfl := (Cx.beq_eq_true_iff _ _).mpr rfl
  eq_of_beq h := (Cx.beq_eq_true_iff _ _).mp h

section Laws
attribute [local instance] field

instance divLaw : Alg.DivLaw (Cx ℝ) where
  divM_zero a := (toC_div_error a 0).2 toC_zero
  divM_ne a b hb := by
    show Cx.div a b = .ok (a / b)
    rw [div_eq_toC, if_neg (mt toC_eq_zero.mp hb)]
    exact congrArg _ (toC_injective (divT_eq a b))

theorem abs_zero : Cx.abs (0 : Cx ℝ) = 0 := by
  rw [abs_eq, toC_zero, norm_zero]

theorem lt_mag (a b : Cx ℝ) :
    ScalarExt.lt (ScalarExt.mag a) (ScalarExt.mag b) = decide (‖toC a‖ < ‖toC b‖) := by
  show Cx.lt ⟨Cx.abs a, 0⟩ ⟨Cx.abs b, 0⟩ = _
  rw [← abs_eq, ← abs_eq]
  unfold Cx.lt
  by_cases h : Cx.abs a = Cx.abs b
  · simp [h]
  · have : (Cx.abs a != Cx.abs b) = true := by simpa using h
    simp only [this, if_true]
    rfl

/-- **partial pivoting on complex scalars compares moduli** -/
noncomputable instance pivotLaws : Alg.PivotLaws (Cx ℝ) where
  S := ℝ
  size z := ‖toC z‖
  lt_mag := lt_mag
  mag_zero := by
    show (⟨Cx.abs (0 : Cx ℝ), 0⟩ : Cx ℝ) = 0
    rw [abs_zero]; rfl
  size_zero_le a := by rw [toC_zero, norm_zero]; exact norm_nonneg _
  eq_zero_of_size a h := by
    rw [toC_zero, norm_zero, norm_eq_zero] at h
    exact toC_eq_zero.mp h

/-- `toC` as a ring homomorphism out of `field` -/
noncomputable def toCHom : Cx ℝ →+* ℂ where
  toFun := toC
  map_one' := toC_one
  map_mul' := toC_mul
  map_zero' := toC_zero
  map_add' := toC_add

/-- `toC` of a finite sum taken in `field` (through the additive part of `toCHom`: with the ring
    homomorphism itself the search for the hom class is slow) -/
theorem toC_sum_field (n : Nat) (g : Nat → Cx ℝ) :
    toC (@Finset.sum _ _ field.toAddCommMonoid (Finset.range n) g)
      = ∑ j ∈ Finset.range n, toC (g j) :=
  map_sum toCHom.toAddMonoidHom _ _

noncomputable def toCMat (n : Nat) (e : Nat → Nat → Cx ℝ) : Matrix (Fin n) (Fin n) ℂ :=
  Matrix.of fun i j => toC (e i.val j.val)

theorem toCMat_eq (n : Nat) (e : Nat → Nat → Cx ℝ) :
    toCMat n e = toCHom.mapMatrix (Mat.toMat n e) := rfl

theorem det_toC (n : Nat) (e : Nat → Nat → Cx ℝ) :
    (toCMat n e).det = toC (Mat.toMat n e).det := by
  rw [toCMat_eq, ← RingHom.map_det]
  rfl

theorem det_ne_zero_iff (n : Nat) (e : Nat → Nat → Cx ℝ) :
    (Mat.toMat n e).det ≠ 0 ↔ (toCMat n e).det ≠ 0 := by
  rw [det_toC]
  exact not_congr toC_eq_zero.symm

theorem toCMat_mul (n : Nat) (e f : Nat → Nat → Cx ℝ) :
    toCHom.mapMatrix (Mat.toMat n e * Mat.toMat n f) = toCMat n e * toCMat n f := by
  rw [map_mul]; rfl

end Laws
end Ohsl.CxField
