/-
  Ohsl.Lemmas.KrylovHom — homomorphisms of operation records.  `VHom o₁ o₂ φ`: `φ` maps every
  operation of `o₁` to that of `o₂` and preserves dot products and norms.  The four solvers commute
  with every such homomorphism (`cg_hom`, `bicg_hom`, `stab_hom`, `qmr_hom`; loop rule
  `iterate_hom`, for the shared driver `krylovRun_hom`), and so does `runOn`, the four of them as
  one function of the method (`runOn_hom`).  Any scalar type, no algebraic law used: each lemma
  names the operations of `K` its solver uses.  Core Lean only.
-/
import Ohsl.Lemmas.Iterate
import Ohsl.Model.KrylovSp

namespace Ohsl.Props.C08
open Ohsl Ohsl.Krylov Ohsl.Sp

section Structural
variable {K V W : Type}

/-- `φ : V → W` maps every operation of `o₁` to the operation of `o₂`; scalars are preserved -/
structure VHom (o₁ : VOps K V) (o₂ : VOps K W) (φ : V → W) : Prop where
  add : ∀ a b, φ (o₁.add a b) = o₂.add (φ a) (φ b)
  sub : ∀ a b, φ (o₁.sub a b) = o₂.sub (φ a) (φ b)
  smul : ∀ a k, φ (o₁.smul a k) = o₂.smul (φ a) k
  lsmul : ∀ k a, φ (o₁.lsmul k a) = o₂.lsmul k (φ a)
  sdiv : ∀ a k, φ (o₁.sdiv a k) = o₂.sdiv (φ a) k
  dot : ∀ a b, o₁.dot a b = o₂.dot (φ a) (φ b)
  norm2 : ∀ a, o₁.norm2 a = o₂.norm2 (φ a)
  zero : φ o₁.zero = o₂.zero
  A : ∀ a, φ (o₁.A a) = o₂.A (φ a)
  At : ∀ a, φ (o₁.At a) = o₂.At (φ a)

theorem VHom.refl (o : VOps K V) : VHom o o id :=
  ⟨fun _ _ => rfl, fun _ _ => rfl, fun _ _ => rfl, fun _ _ => rfl, fun _ _ => rfl, fun _ _ => rfl,
    fun _ => rfl, rfl, fun _ => rfl, fun _ => rfl⟩

/-- image of a solver result: flags and scalars unchanged, `x` mapped -/
def mapOut (φ : V → W) (r : KOut K V) : KOut K W := ⟨r.ok, r.iters, r.err, φ r.x⟩

def mapStep {σ₁ σ₂ ρ₁ ρ₂ : Type} (g : σ₁ → σ₂) (h : ρ₁ → ρ₂) : Step σ₁ ρ₁ → Step σ₂ ρ₂
  | .cont s => .cont (g s)
  | .done r => .done (h r)

def mapCG (φ : V → W) (s : CGState K V) : CGState K W := ⟨φ s.x, φ s.r, φ s.p, s.rho1, s.resid⟩

def mapBiCG (φ : V → W) (s : BiCGState K V) : BiCGState K W :=
  ⟨φ s.x, φ s.r, φ s.rr, φ s.z, φ s.p, φ s.pp, s.rho2, s.err⟩

def mapStab (φ : V → W) (s : StabState K V) : StabState K W :=
  ⟨φ s.x, φ s.r, φ s.p, φ s.v, s.rho2, s.alpha, s.omega, s.resid⟩

def mapQMR (φ : V → W) (s : QMRState K V) : QMRState K W :=
  ⟨φ s.x, φ s.r, φ s.vT, φ s.y, φ s.wT, φ s.z, φ s.p, φ s.q, φ s.d, φ s.s,
    s.rho, s.xi, s.gamma, s.eta, s.theta, s.ep, s.resid⟩

theorem iterate_hom {σ₁ σ₂ ρ₁ ρ₂ : Type} (g : σ₁ → σ₂) (h : ρ₁ → ρ₂)
    (f₁ : Nat → σ₁ → Step σ₁ ρ₁) (f₂ : Nat → σ₂ → Step σ₂ ρ₂) (fin₁ : σ₁ → ρ₁) (fin₂ : σ₂ → ρ₂)
    (hstep : ∀ i s, f₂ i (g s) = mapStep g h (f₁ i s))
    (hfin : ∀ s, fin₂ (g s) = h (fin₁ s)) :
    ∀ (rem i : Nat) (s : σ₁), iterate f₂ fin₂ rem i (g s) = h (iterate f₁ fin₁ rem i s)
  | 0, i, s => by simp only [iterate, hfin]
  | rem + 1, i, s => by
    simp only [iterate, hstep]
    cases f₁ i s with
    | done r => rfl
    | cont s' => exact iterate_hom g h f₁ f₂ fin₁ fin₂ hstep hfin rem (i + 1) s'

theorem krylovRun_hom [Transc K] {σ₁ σ₂ : Type} (g : σ₁ → σ₂) (φ : V → W)
    {step₁ : Nat → σ₁ → Step σ₁ (KOut K V)} {step₂ : Nat → σ₂ → Step σ₂ (KOut K W)}
    {res₁ : σ₁ → K} {res₂ : σ₂ → K} {xof₁ : σ₁ → V} {xof₂ : σ₂ → W}
    (hstep : ∀ i s, step₂ i (g s) = mapStep g (mapOut φ) (step₁ i s))
    (hres : ∀ s, res₂ (g s) = res₁ s) (hx : ∀ s, xof₂ (g s) = φ (xof₁ s))
    (x : V) (e0 tol : K) (maxIter : Nat) (s0 : σ₁) :
    krylovRun step₂ res₂ xof₂ (φ x) e0 tol maxIter (g s0)
      = mapOut φ (krylovRun step₁ res₁ xof₁ x e0 tol maxIter s0) := by
  unfold krylovRun
  split
  · rfl
  · exact iterate_hom g (mapOut φ) _ _ _ _ hstep (fun s => by rw [hres, hx]; rfl) maxIter 1 s0

private theorem mapStep_ite {σ₁ σ₂ ρ₁ ρ₂ : Type} (g : σ₁ → σ₂) (h : ρ₁ → ρ₂) (c : Prop) [Decidable c]
    (a b : Step σ₁ ρ₁) : mapStep g h (if c then a else b) = if c then mapStep g h a else mapStep g h b := by
  split <;> rfl

private theorem mapStep_done {σ₁ σ₂ ρ₁ ρ₂ : Type} (g : σ₁ → σ₂) (h : ρ₁ → ρ₂) (r : ρ₁) :
    mapStep g h (.done r : Step σ₁ ρ₁) = .done (h r) := rfl

private theorem mapStep_cont {σ₁ σ₂ ρ₁ ρ₂ : Type} (g : σ₁ → σ₂) (h : ρ₁ → ρ₂) (s : σ₁) :
    mapStep g h (.cont s : Step σ₁ ρ₁) = .cont (g s) := rfl

variable {o₁ : VOps K V} {o₂ : VOps K W} {φ : V → W}

theorem cgDir_hom [Div K] (H : VHom o₁ o₂ φ) (i : Nat) (z p : V) (rho rho1 : K) :
    φ (cgDir o₁ i z p rho rho1) = cgDir o₂ i (φ z) (φ p) rho rho1 := by
  unfold cgDir
  split
  · rfl
  · rw [H.add, H.smul]

theorem cgStep_hom [Div K] [Transc K] (H : VHom o₁ o₂ φ) (normb tol : K) (i : Nat)
    (s : CGState K V) :
    cgStep o₂ normb tol i (mapCG φ s) = mapStep (mapCG φ) (mapOut φ) (cgStep o₁ normb tol i s) := by
  unfold cgStep
  simp only [mapCG, mapOut, mapStep_ite, mapStep_done, mapStep_cont, H.dot, H.norm2, H.add, H.sub,
    H.smul, H.A, cgDir_hom H]
  rfl

theorem cg_hom [Div K] [Zero K] [One K] [BEq K] [Transc K] (H : VHom o₁ o₂ φ) (b x : V)
    (maxIter : Nat) (tol : K) :
    solveCG o₂ (φ b) (φ x) maxIter tol = mapOut φ (solveCG o₁ b x maxIter tol) := by
  unfold solveCG
  simp only [← H.norm2, ← H.sub, ← H.A, ← H.zero]
  exact krylovRun_hom (mapCG φ) φ (cgStep_hom H _ tol) (fun _ => rfl) (fun _ => rfl) x _ tol maxIter
    ⟨_, _, _, _, _⟩

theorem bicgDir_hom [Div K] (H : VHom o₁ o₂ φ) (i : Nat) (z p : V) (rho1 rho2 : K) :
    φ (bicgDir o₁ i z p rho1 rho2) = bicgDir o₂ i (φ z) (φ p) rho1 rho2 := by
  unfold bicgDir
  split
  · rfl
  · rw [H.add, H.smul]

theorem bicgErr_hom [Div K] (H : VHom o₁ o₂ φ) (itol : Nat) (r z : V) (bnrm : K) :
    bicgErr o₁ itol r z bnrm = bicgErr o₂ itol (φ r) (φ z) bnrm := by
  unfold bicgErr
  simp only [H.norm2]

theorem bicgStep_hom [Div K] [Transc K] (H : VHom o₁ o₂ φ) (bnrm tol : K) (itol i : Nat)
    (s : BiCGState K V) :
    bicgStep o₂ bnrm tol itol i (mapBiCG φ s) =
      mapStep (mapBiCG φ) (mapOut φ) (bicgStep o₁ bnrm tol itol i s) := by
  unfold bicgStep
  simp only [mapBiCG, mapOut, mapStep_ite, mapStep_done, mapStep_cont, H.dot, H.add, H.sub,
    H.smul, H.A, H.At, bicgDir_hom H, bicgErr_hom H]
  rfl

theorem bicg_hom [Div K] [Zero K] [One K] [BEq K] [Transc K] (H : VHom o₁ o₂ φ) (b x : V)
    (maxIter : Nat) (tol : K) (itol : Nat) :
    solveBiCG o₂ (φ b) (φ x) maxIter tol itol = mapOut φ (solveBiCG o₁ b x maxIter tol itol) := by
  unfold solveBiCG
  simp only [← H.norm2, ← H.sub, ← H.A, ← H.zero, ← bicgErr_hom H]
  exact krylovRun_hom (mapBiCG φ) φ (bicgStep_hom H _ tol itol) (fun _ => rfl) (fun _ => rfl) x _ tol
    maxIter ⟨_, _, _, _, _, _, _, _⟩

theorem stabDir_hom [Mul K] [Div K] (H : VHom o₁ o₂ φ) (i : Nat) (s : StabState K V) (rho1 : K) :
    φ (stabDir o₁ i s rho1) = stabDir o₂ i (mapStab φ s) rho1 := by
  unfold stabDir
  split
  · rfl
  · simp only [mapStab, H.add, H.lsmul, H.sub]

theorem stabStep_hom [Mul K] [Div K] [Zero K] [BEq K] [Transc K] (H : VHom o₁ o₂ φ) (rtilde : V)
    (normb tol : K) (i : Nat) (s : StabState K V) :
    stabStep o₂ (φ rtilde) normb tol i (mapStab φ s) =
      mapStep (mapStab φ) (mapOut φ) (stabStep o₁ rtilde normb tol i s) := by
  unfold stabStep
  simp only [mapStab, mapOut, mapStep_ite, mapStep_done, mapStep_cont, H.dot, H.norm2, H.add, H.sub,
    H.smul, H.lsmul, H.A, stabDir_hom H]
  rfl

theorem stab_hom [Mul K] [Div K] [Zero K] [One K] [BEq K] [Transc K] (H : VHom o₁ o₂ φ) (b x : V)
    (maxIter : Nat) (tol : K) :
    solveBiCGSTAB o₂ (φ b) (φ x) maxIter tol = mapOut φ (solveBiCGSTAB o₁ b x maxIter tol) := by
  unfold solveBiCGSTAB
  simp only [← H.norm2, ← H.sub, ← H.A, ← H.zero]
  exact krylovRun_hom (mapStab φ) φ (stabStep_hom H _ _ tol) (fun _ => rfl) (fun _ => rfl) x _ tol
    maxIter ⟨_, _, _, _, _, _, _, _⟩

theorem qmrDir_hom (H : VHom o₁ o₂ φ) (i : Nat) (y p : V) (c : K) :
    φ (qmrDir o₁ i y p c) = qmrDir o₂ i (φ y) (φ p) c := by
  unfold qmrDir
  split
  · rw [H.sub, H.lsmul]
  · rfl

theorem qmrUpd_hom (H : VHom o₁ o₂ φ) (i : Nat) (eta : K) (p : V) (c : K) (d : V) :
    φ (qmrUpd o₁ i eta p c d) = qmrUpd o₂ i eta (φ p) c (φ d) := by
  unfold qmrUpd
  split
  · rw [H.add, H.lsmul, H.lsmul]
  · rw [H.lsmul]

variable [Add K] [Mul K] [Neg K] [Div K] [Zero K] [One K] [BEq K] [Transc K]

theorem qmrStep_hom (H : VHom o₁ o₂ φ) (normb tol : K) (i : Nat) (s : QMRState K V) :
    qmrStep o₂ normb tol i (mapQMR φ s) =
      mapStep (mapQMR φ) (mapOut φ) (qmrStep o₁ normb tol i s) := by
  unfold qmrStep
  simp only [mapQMR, mapOut, mapStep_ite, mapStep_done, mapStep_cont, H.dot, H.norm2, H.add, H.sub,
    H.sdiv, H.lsmul, H.A, H.At, qmrDir_hom H, qmrUpd_hom H]
  rfl

theorem qmr_hom (H : VHom o₁ o₂ φ) (b x : V) (maxIter : Nat) (tol : K) :
    solveQMR o₂ (φ b) (φ x) maxIter tol = mapOut φ (solveQMR o₁ b x maxIter tol) := by
  unfold solveQMR
  simp only [← H.norm2, ← H.sub, ← H.A, ← H.zero]
  exact krylovRun_hom (mapQMR φ) φ (qmrStep_hom H _ tol) (fun _ => rfl) (fun _ => rfl) x _ tol maxIter
    ⟨_, _, _, _, _, _, _, _, _, _, _, _, _, _, _, _, _⟩

/-- the iteration of method `m` over an arbitrary vector type -/
def runOn {V : Type} (o : VOps K V) (m : Method) (b x0 : V) (maxIter : Nat) (tol : K) : KOut K V :=
  match m with
  | .cg => solveCG o b x0 maxIter tol
  | .bicg itol => solveBiCG o b x0 maxIter tol itol
  | .bicgstab => solveBiCGSTAB o b x0 maxIter tol
  | .qmr => solveQMR o b x0 maxIter tol

theorem runOn_hom (H : VHom o₁ o₂ φ) (m : Method) (b x : V) (maxIter : Nat) (tol : K) :
    runOn o₂ m (φ b) (φ x) maxIter tol = mapOut φ (runOn o₁ m b x maxIter tol) := by
  cases m with
  | cg => exact cg_hom H b x maxIter tol
  | bicg itol => exact bicg_hom H b x maxIter tol itol
  | bicgstab => exact stab_hom H b x maxIter tol
  | qmr => exact qmr_hom H b x maxIter tol

end Structural

end Ohsl.Props.C08
