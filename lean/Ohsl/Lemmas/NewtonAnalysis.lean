/-
  Ohsl.Lemmas.NewtonAnalysis — the analysis behind every Newton variant, once (no model term).
  First-order Taylor remainder for a map with a Lipschitz derivative (real normed spaces, and the
  scalar form over `𝕜 = ℝ` or `ℂ`), the error of difference quotients, and one Newton step with an
  inexact derivative in a normed field.
-/
import Mathlib.Analysis.Calculus.MeanValue
import Mathlib.Analysis.Calculus.Deriv.Pow
import Mathlib.Analysis.Calculus.FDeriv.RestrictScalars
import Mathlib.Analysis.Normed.Module.Convex
namespace Ohsl.NewtonAnalysis
open Set

theorem taylor1_lipschitz {E : Type*} [NormedAddCommGroup E] [NormedSpace ℝ E]
    (F : E → E) (F' : E → E →L[ℝ] E) (B : Set E)
    (hB : Convex ℝ B) (x y : E) (γ : ℝ) (hx : x ∈ B) (hy : y ∈ B)
    (hF : ∀ z ∈ B, HasFDerivWithinAt F (F' z) B z)
    (hL : ∀ z ∈ B, ‖F' z - F' x‖ ≤ γ * ‖z - x‖) :
    ‖F y - F x - F' x (y - x)‖ ≤ γ / 2 * ‖y - x‖ ^ 2 := by
  -- `g t = F (x + t d) - F x - t F' x d` has `‖g' t‖ ≤ γ ‖d‖² t` on `[0, 1)`: compare with `γ ‖d‖² t²/2`
  obtain ⟨d, hd⟩ : ∃ d, d = y - x := ⟨_, rfl⟩
  have hline : ∀ t ∈ Icc (0 : ℝ) 1, x + t • d ∈ B := fun t ht =>
    hd ▸ hB.add_smul_sub_mem hx hy ht
  have hg : ∀ t ∈ Icc (0 : ℝ) 1,
      HasDerivWithinAt (fun t : ℝ => F (x + t • d) - F x - t • F' x d)
        ((F' (x + t • d) - F' x) d) (Icc (0 : ℝ) 1) t := by
    intro t ht
    have hlin : HasDerivWithinAt (fun t : ℝ => x + t • d) d (Icc (0 : ℝ) 1) t :=
      (((hasDerivAt_id' t).smul_const d).const_add x).hasDerivWithinAt.congr_deriv (one_smul _ _)
    have h1 := HasFDerivWithinAt.comp_hasDerivWithinAt (f := fun t : ℝ => x + t • d) t
      (hF _ (hline t ht)) hlin hline
    exact ((h1.sub_const (F x)).sub
      ((hasDerivAt_id' t).smul_const (F' x d)).hasDerivWithinAt).congr_deriv
        (by rw [one_smul, sub_apply])
  have hb : ∀ t ∈ Ico (0 : ℝ) 1, ‖(F' (x + t • d) - F' x) d‖ ≤ γ * ‖d‖ ^ 2 * t := fun t ht =>
    calc ‖(F' (x + t • d) - F' x) d‖ ≤ ‖F' (x + t • d) - F' x‖ * ‖d‖ :=
          ContinuousLinearMap.le_opNorm _ _
      _ ≤ (γ * ‖x + t • d - x‖) * ‖d‖ :=
          mul_le_mul_of_nonneg_right (hL _ (hline t ⟨ht.1, ht.2.le⟩)) (norm_nonneg _)
      _ = γ * ‖d‖ ^ 2 * t := by
          rw [add_sub_cancel_left, norm_smul, Real.norm_eq_abs, abs_of_nonneg ht.1]; ring
  have hB' : ∀ t : ℝ, HasDerivAt (fun t => γ * ‖d‖ ^ 2 * t ^ 2 / 2) (γ * ‖d‖ ^ 2 * t) t := fun t =>
    (((hasDerivAt_pow 2 t).const_mul (γ * ‖d‖ ^ 2)).div_const 2).congr_deriv (by push_cast; ring)
  have key := image_norm_le_of_norm_deriv_right_le_deriv_boundary
    (fun t ht => (hg t ht).continuousWithinAt)
    (fun t ht => (hg t ⟨ht.1, ht.2.le⟩).mono_of_mem_nhdsWithin
      (Filter.mem_of_superset (Icc_mem_nhdsGE ht.2) (Icc_subset_Icc_left ht.1)))
    (by simp) hB' hb (x := 1) ⟨zero_le_one, le_refl _⟩
  rw [one_smul, one_smul, hd, add_sub_cancel] at key
  exact key.trans_eq (by ring)

theorem norm_shift_le {E : Type*} [SeminormedAddCommGroup E] {x r : E} {ρ : ℝ} (hx : ‖x - r‖ ≤ ρ)
    (δ : E) : ‖x + δ - r‖ ≤ ρ + ‖δ‖ ∧ ‖x - δ - r‖ ≤ ρ + ‖δ‖ := by
  rw [add_sub_right_comm, sub_right_comm]
  exact ⟨(norm_add_le _ _).trans (add_le_add hx le_rfl),
    (norm_sub_le _ _).trans (add_le_add hx le_rfl)⟩

section Field
variable {𝕜 : Type*} [RCLike 𝕜]

theorem taylor1_field (F F' : 𝕜 → 𝕜) (s : Set 𝕜) (hs : Convex ℝ s) (x y : 𝕜) (M : ℝ)
    (hx : x ∈ s) (hy : y ∈ s) (h1 : ∀ z ∈ s, HasDerivAt F (F' z) z)
    (hL : ∀ z ∈ s, ‖F' z - F' x‖ ≤ M * ‖z - x‖) :
    ‖F y - F x - F' x * (y - x)‖ ≤ M / 2 * ‖y - x‖ ^ 2 := by
  -- `D a` is multiplication by `a`, read as a real-linear map
  let D : 𝕜 → 𝕜 →L[ℝ] 𝕜 := fun a => ((1 : 𝕜 →L[𝕜] 𝕜).smulRight a).restrictScalars ℝ
  have := taylor1_lipschitz F (fun z => D (F' z)) s hs x y M hx hy
    (fun z hz => ((h1 z hz).hasFDerivAt.restrictScalars ℝ).hasFDerivWithinAt)
    (fun z hz => ContinuousLinearMap.opNorm_le_bound _ ((norm_nonneg _).trans (hL z hz))
      (fun v => by
        show ‖v * F' z - v * F' x‖ ≤ _
        rw [← mul_sub, norm_mul, mul_comm]
        exact mul_le_mul_of_nonneg_right (hL z hz) (norm_nonneg _)))
  rwa [show D (F' x) (y - x) = F' x * (y - x) from mul_comm _ _] at this

theorem diffquot_error_field (F F' : 𝕜 → 𝕜) (s : Set 𝕜) (hs : Convex ℝ s) (x δ : 𝕜) (M : ℝ)
    (hδ : δ ≠ 0) (hx : x ∈ s) (hxδ : x + δ ∈ s) (h1 : ∀ z ∈ s, HasDerivAt F (F' z) z)
    (hL : ∀ z ∈ s, ‖F' z - F' x‖ ≤ M * ‖z - x‖) :
    ‖(F (x + δ) - F x) / δ - F' x‖ ≤ M * ‖δ‖ / 2 := by
  have h := taylor1_field F F' s hs x (x + δ) M hx hxδ h1 hL
  rw [add_sub_cancel_left] at h
  have hq : (F (x + δ) - F x) / δ - F' x = (F (x + δ) - F x - F' x * δ) / δ := by
    rw [sub_div _ (F' x * δ), mul_div_cancel_right₀ _ hδ]
  rw [hq, norm_div, div_le_iff₀ (norm_pos_iff.mpr hδ)]
  exact h.trans_eq (by ring)

/-- **central difference quotient**: the mean of the forward quotients with steps `δ` and `-δ` -/
theorem centraldiff_error_field (F F' : 𝕜 → 𝕜) (s : Set 𝕜) (hs : Convex ℝ s) (x δ : 𝕜) (M : ℝ)
    (hδ : δ ≠ 0) (hx : x ∈ s) (hxp : x + δ ∈ s) (hxm : x - δ ∈ s)
    (h1 : ∀ z ∈ s, HasDerivAt F (F' z) z) (hL : ∀ z ∈ s, ‖F' z - F' x‖ ≤ M * ‖z - x‖) :
    ‖(F (x + δ) - F (x - δ)) / (2 * δ) - F' x‖ ≤ M * ‖δ‖ / 2 := by
  have hp := diffquot_error_field F F' s hs x δ M hδ hx hxp h1 hL
  have hn := diffquot_error_field F F' s hs x (-δ) M (neg_ne_zero.mpr hδ) hx
    (by rwa [← sub_eq_add_neg]) h1 hL
  rw [norm_neg, ← sub_eq_add_neg] at hn
  have avg : (F (x + δ) - F (x - δ)) / (2 * δ) - F' x
      = (((F (x + δ) - F x) / δ - F' x) + ((F (x - δ) - F x) / -δ - F' x)) / 2 := by
    ring
  rw [avg, norm_div, RCLike.norm_ofNat, div_le_iff₀ two_pos]
  exact (norm_add_le _ _).trans ((add_le_add hp hn).trans_eq (mul_two _).symm)

end Field

/-- the algebra of a Newton step with an inexact derivative `d`, `‖d - y'‖ ≤ ε < m ≤ ‖y'‖`, in any
    normed field; `y`, `y'` stand for `F x`, `F' x` and `hT` is the Taylor remainder at a root `r`:
    the error after the step is (derivative error · error before + remainder) / `d` -/
theorem newton_step_field {𝕜 : Type*} [NormedField 𝕜] {x r d y y' : 𝕜} {ε m T : ℝ}
    (hT : ‖0 - y - y' * (r - x)‖ ≤ T) (hm : m ≤ ‖y'‖) (hd : ‖d - y'‖ ≤ ε) (hε : ε < m) :
    d ≠ 0 ∧ ‖x - y / d - r‖ ≤ (T + ε * ‖x - r‖) / (m - ε) := by
  have hpos : 0 < m - ε := sub_pos.mpr hε
  have hdl : m - ε ≤ ‖d‖ := by
    have := norm_sub_norm_le y' d
    rw [norm_sub_rev] at this
    exact (sub_le_sub hm hd).trans (sub_le_comm.mp this)
  have hd0 : d ≠ 0 := norm_pos_iff.mp (lt_of_lt_of_le hpos hdl)
  have hN : x - y / d - r = ((d - y') * (x - r) + (0 - y - y' * (r - x))) / d := by
    rw [eq_div_iff hd0, sub_mul, sub_mul, div_mul_cancel₀ _ hd0]
    ring
  have hnum : ‖(d - y') * (x - r) + (0 - y - y' * (r - x))‖ ≤ T + ε * ‖x - r‖ :=
    (norm_add_le _ _).trans ((add_comm _ _).trans_le
      (add_le_add hT ((norm_mul _ _).trans_le (mul_le_mul_of_nonneg_right hd (norm_nonneg _)))))
  rw [hN, norm_div]
  exact ⟨hd0, div_le_div₀ ((norm_nonneg _).trans hnum) hnum hpos hdl⟩

/-- … with a derivative estimate as good as a difference quotient, `ε = M |δ| / 2`, and the Taylor
    remainder `M/2 ‖r - x‖²`: the bound is `C (e² + |δ| e)`, `e = ‖x - r‖`, `C = M / (2m - M|δ|)` -/
theorem newton_step_quotient {𝕜 : Type*} [NormedField 𝕜] {x r d y y' : 𝕜} {δ m M : ℝ}
    (hT : ‖0 - y - y' * (r - x)‖ ≤ M / 2 * ‖r - x‖ ^ 2) (hm : m ≤ ‖y'‖)
    (hd : ‖d - y'‖ ≤ M * |δ| / 2) (hsmall : M * |δ| / 2 < m) :
    d ≠ 0 ∧ ‖x - y / d - r‖ ≤ M / (2 * m - M * |δ|) * (‖x - r‖ ^ 2 + |δ| * ‖x - r‖) := by
  obtain ⟨g1, g2⟩ := newton_step_field hT hm hd hsmall
  refine ⟨g1, g2.trans_eq ?_⟩
  rw [norm_sub_rev r x, div_mul_eq_mul_div M (2 * m - M * |δ|),
    div_eq_div_iff (sub_pos.mpr hsmall).ne' (by linarith)]
  ring

end Ohsl.NewtonAnalysis
