/-
  Ohsl.Lemmas.BandDet — the determinant of the banded-matrix model (`Band.det`, i.e. the compact LU
  `bandec` with row exchanges by magnitude followed by the product of the pivots and the sign) equals
  `Matrix.det` of the dense twin.

  Class (E): `F` a field whose scalar interpretation satisfies `Alg.PivotLaws` (guarded field
  division, magnitude comparison = comparison of a size in a linear order); linearly ordered
  fields with `Ohsl.Alg.scalarExt` and the model's `Cx ℝ` are instances.

  Invariant of the pivot loop (`DetInv`): `d * det (twin of the working storage) = det (dense b)`.
  The pivot search picks a row of maximal size, so a zero pivot means that the whole window column
  is zero and `twin_step` of BandExact applies: an exchange (sign of `d` and of `Matrix.det`
  flipped) followed by row additions (`Mat.det_toMat_swap`, `Mat.det_toMat_elim` of LUDet).
-/
import Ohsl.Lemmas.BandExact
import Ohsl.Lemmas.LUDet
import Mathlib.LinearAlgebra.Matrix.Determinant.Basic
import Mathlib.LinearAlgebra.Matrix.Block
namespace Ohsl
namespace Band
open Mat (Is toMat toMat_congr swapFn swapFn_self)

theorem det_twin_final {F : Type} [Field F] {n m1 mm : Nat} (e : Nat → Nat → F) (hmm : 0 < mm) :
    (toMat n (twinK m1 mm n n e)).det = ∏ i ∈ Finset.range n, e i 0 := by
  rw [Mat.det_toMat_upper (fun i j hi hj => by unfold twinK off; rw [if_pos hi, if_neg (by omega)])]
  refine Finset.prod_congr rfl (fun i hi => ?_)
  unfold twinK off
  rw [if_pos (Finset.mem_range.mp hi), if_pos (by omega), Nat.sub_self]

section BandDet
variable {F : Type} [Field F] [DecidableEq F] [BEq F] [LawfulBEq F] [ScalarExt F]
  [Alg.PivotLaws F]

/-- invariant of the pivot loop of `decompose` (before step `k`): the sign times the determinant of
    the dense twin of the compact working matrix is the determinant of the input -/
def DetInv (n m1 mm : Nat) (A : Nat → Nat → F) (k : Nat) (st : Dec F × Nat) : Prop :=
  Shape n m1 mm k st ∧
  st.1.d * (toMat n (twinK m1 mm k (min (m1 + k) n) (Mat.entryOf st.1.au))).det = (toMat n A).det

theorem decStep_detInv {n m1 mm k : Nat} {A : Nat → Nat → F} {st : Dec F × Nat} (hk : k < n)
    (hmm : 0 < mm) (h : DetInv n m1 mm A k st) :
    ∃ st', decStep n mm st k = .ok st' ∧ DetInv n m1 mm A (k + 1) st' := by
  obtain ⟨hsh, hdet⟩ := h
  have hkl : k < min (m1 + k + 1) n := by omega
  -- the pivot search picks a row of maximal size: a zero pivot means a zero window column
  obtain ⟨st', ip, hstep, hsh', hip1, hip2, hsize, _, hd, he', _⟩ := hsh.step hk hmm
    (fun a b => Alg.PivotLaws.size a ≤ Alg.PivotLaws.size b)
    (fun _ => le_refl _) (fun _ _ _ => le_trans) (fun d x => by
      by_cases hlt : Alg.PivotLaws.size d < Alg.PivotLaws.size x
      · rw [if_pos (by rw [Alg.PivotLaws.lt_mag]; exact decide_eq_true hlt)]
        exact le_of_lt hlt
      · rw [if_neg (by rw [Alg.PivotLaws.lt_mag]; exact fun hc => hlt (of_decide_eq_true hc))]
        exact not_lt.mp hlt) qF dumR_qF
  have hmax : Mat.entryOf st.1.au ip 0 = 0 →
      ∀ j, k ≤ j → j < min (m1 + k + 1) n → Mat.entryOf st.1.au j 0 = 0 := by
    intro hz j hj1 hj2
    have := hsize j hj1 hj2
    rw [hz] at this
    exact (Alg.size_le_zero_iff _).1 this
  rw [pivoted, zeroFix_of_max (fun hz => hmax hz k (Nat.le_refl _) hkl)] at he'
  refine ⟨st', hstep, hsh', ?_⟩
  -- the maximality of the pivot in the shape needed by `twin_step`
  have hz : swapFn (Mat.entryOf st.1.au) k ip k 0 = 0 →
      ∀ a, k < a → a < min (m1 + k + 1) n → swapFn (Mat.entryOf st.1.au) k ip a 0 = 0 := by
    intro h0 a ha1 ha2
    have hp : Mat.entryOf st.1.au ip 0 = 0 := by simpa [swapFn] using h0
    unfold swapFn
    rw [if_neg (by omega)]
    split
    · exact hmax hp k (Nat.le_refl _) hkl
    · exact hmax hp a (by omega) ha2
  -- the step on the twin: row additions (no change of the determinant) after the exchange
  have key : (toMat n (twinK m1 mm (k + 1) (min (m1 + k + 1) n) (Mat.entryOf st'.1.au))).det
      = (toMat n (swapFn (twinK m1 mm k (min (m1 + k) n) (Mat.entryOf st.1.au)) k ip)).det :=
    Mat.det_toMat_elim hk (fun a => if k < a ∧ a < min (m1 + k + 1) n then
        mult (swapFn (Mat.entryOf st.1.au) k ip) k a else 0) (if_neg (by omega))
      (fun a c ha _ => twin_step hk hip1 hip2 he' hz ha c)
  show st'.1.d
      * (toMat n (twinK m1 mm (k + 1) (min (m1 + k + 1) n) (Mat.entryOf st'.1.au))).det
        = (toMat n A).det
  rw [key, hd, ← hdet]
  by_cases hik : ip = k
  · subst hik
    rw [swapFn_self, if_neg (by simp)]
  · rw [Mat.det_toMat_swap _ hk (show ip < n by omega) (Ne.symm hik), if_pos hik]
    ring

theorem decompose_detInv {b : Band F} (h : WFb b) (hm : b.m1 ≤ b.n) :
    ∃ s l, decompose b = .ok s ∧ DetInv b.n b.m1 (b.m1 + b.m2 + 1) (dense b) b.n (s, l) := by
  refine decompose_inv_rule h hm _ (fun st0 hsh hd htw => ⟨hsh, ?_⟩)
    (fun k st hk hinv => decStep_detInv hk (by omega) hinv)
  rw [hd, one_mul]
  congr 1
  exact toMat_congr htw

/-- (E) **the determinant of a banded matrix is the determinant of its dense twin** (any
    `(n, m1, m2)` with `m1 ≤ n`; singular matrices included: a zero pivot is the literal `0`) -/
theorem det_eq_det {b : Band F} (h : WFb b) (hm : b.m1 ≤ b.n) :
    det b = .ok (toMat b.n (dense b)).det := by
  obtain ⟨s, l, hdec, ⟨hl, hau, hal, hsz, _⟩, hdet⟩ := decompose_detInv h hm
  simp only at hl hau hal hsz hdet
  have hmm : 0 < b.m1 + b.m2 + 1 := by omega
  have hloop := det_loop hau hmm s.d
  unfold det
  simp only [bind, Except.bind, pure, Except.pure] at hloop ⊢
  rw [hdec]
  simp only
  rw [hloop]
  congr 1
  have e1 : min (b.m1 + b.n) b.n = b.n := by omega
  rw [e1, det_twin_final _ hmm] at hdet
  exact hdet

/-- (E) **`solve` returns whatever vector solves a nonsingular banded system**: with `det_eq_det`
    a non-zero determinant of the dense twin makes `solve` succeed (`solve_complete`), its result
    solves the system (`solve_sound`), and the solution is unique -/
theorem solve_eq_of_sol {b : Band F} (h : WFb b) (hm : b.m1 ≤ b.n) {rhs y : Array F}
    (hr : rhs.size = b.n) (hy : y.size = b.n) (hdet : (toMat b.n (dense b)).det ≠ 0)
    (hsol : ∀ i, i < b.n →
      ∑ j ∈ Finset.range b.n, dense b i j * y[j]?.getD 0 = rhs[i]?.getD 0) :
    solve b rhs = .ok y := by
  obtain ⟨x, hx, hxs⟩ := solve_complete h hr (det_eq_det h hm) hdet
  have hu := Mat.Sol.unique (y := fun i => rhs[i]?.getD 0) hdet hsol (solve_sound h hx).2
  rw [hx, Array.ext (hy.trans hxs.symm) fun j h1 h2 => by simpa [h1, h2] using hu j (hy ▸ h1)]

end BandDet
end Band
end Ohsl
