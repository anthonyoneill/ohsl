/-
  Ohsl.Lemmas.Eval — the simp set `model_eval` for running the matrix model on literal data
  (the worked examples of the rounding-error files): only the plumbing, none of the algorithms
  and no scalar operation; these are named at each call.  With it the two exchanges that a run
  meets when the pivot is already in place, `Mat.swapRows_self` and `Vec.swap_self`.
-/
import Ohsl.Model.Solve
import Ohsl.Lemmas.Loop
import Ohsl.Lemmas.EvalAttr

namespace Ohsl

theorem Vec.dot_toArray {K : Type} [Add K] [Sub K] [Mul K] [Neg K] [Zero K] [One K] [BEq K]
    [ScalarExt K] (a b : List K) (h : a.length = b.length) :
    Vec.dot a.toArray b.toArray = .ok ((List.zipWith (· * ·) a b).foldl (· + ·) 0) := by
  unfold Vec.dot
  rw [← Array.foldl_toList]
  simp [h]

theorem setIfInBounds_getElem_self {α : Type} (x : Array α) (k : Nat) (hk : k < x.size) :
    x.setIfInBounds k x[k] = x := by
  apply Array.ext
  · simp
  · intro i h1 h2
    rw [Array.getElem_setIfInBounds]
    split
    · subst_vars; rfl
    · rfl

/-- exchanging a row with itself (what `partial_pivot` does when the pivot is already on the
diagonal) changes nothing -/
theorem Mat.swapRows_self {K : Type} [Add K] [Sub K] [Mul K] [Neg K] [Zero K] [One K] [BEq K]
    [ScalarExt K] (m : Mat K) (k : Nat) (hk : k < m.rows) (h : (k + 1) * m.cols ≤ m.data.size) :
    Mat.swapRows m k k = .ok m := by
  have hn : ¬ (m.rows ≤ k ∨ m.rows ≤ k) := by omega
  simp only [Mat.swapRows, hn, if_false]
  refine Mat.forM'_eq_of_inv (fun _ => m) 0 m.cols m _ (Nat.zero_le _) rfl fun j _ hj => ?_
  have hlt : k * m.cols + j < m.data.size := by
    have : (k + 1) * m.cols = k * m.cols + m.cols := Nat.succ_mul k m.cols
    omega
  simp [Mat.swapElem, Mat.get, Mat.set, aget, aset, hlt, bind, Except.bind, pure, Except.pure,
    setIfInBounds_getElem_self]

theorem Vec.swap_self {K : Type} (x : Array K) (k : Nat) (hk : k < x.size) :
    Vec.swap x k k = .ok x := by
  simp [Vec.swap, aget, aset, hk, bind, Except.bind, setIfInBounds_getElem_self]

attribute [model_eval]
  Mat.get Mat.set Mat.new Mat.getRow Mat.forM' aget aset usub Vec.dot_toArray
  bind Except.bind pure Except.pure Functor.map Except.map List.foldlM List.range'
  List.range_succ List.range_zero List.nil_append List.cons_append
  List.mapM_toArray List.mapM_cons List.mapM_nil
  List.zipWith_cons_cons List.zipWith_nil_left List.foldl_cons List.foldl_nil
  List.getElem?_toArray List.getElem?_cons_succ List.getElem?_cons_zero
  List.size_toArray List.length_cons List.length_nil
  Array.setIfInBounds List.set_toArray List.set_cons_succ List.set_cons_zero
  if_true if_false dite_true dite_false
  or_self or_false false_or not_true_eq_false not_false_eq_true ne_eq decide_eq_true_eq
  Nat.reduceMul Nat.reduceAdd Nat.reduceSub Nat.reduceLT Nat.reduceLeDiff Nat.reduceEqDiff

end Ohsl
