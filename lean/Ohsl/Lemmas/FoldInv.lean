/-
  A quantity that every step of a left fold leaves unchanged is unchanged by the fold (sizes of
  arrays threaded through a loop, alone or as a component of the loop state); a fold over
  `0, …, n-1` keeps an invariant indexed by the number of steps done (`foldl_range_inv`).  Core only.
-/
namespace Ohsl

theorem foldl_preserves {σ β δ : Type} (g : σ → δ) (f : σ → β → σ) (hf : ∀ s b, g (f s b) = g s) :
    ∀ (l : List β) (s : σ), g (l.foldl f s) = g s
  | [], _ => rfl
  | b :: l, s => (foldl_preserves g f hf l (f s b)).trans (hf s b)

theorem foldl_range_inv {σ : Type} (P : Nat → σ → Prop) (f : σ → Nat → σ) (s : σ) (n : Nat)
    (h0 : P 0 s) (hs : ∀ k t, k < n → P k t → P (k + 1) (f t k)) :
    P n ((List.range n).foldl f s) := by
  induction n with
  | zero => exact h0
  | succ n ih =>
    rw [List.range_succ, List.foldl_append]
    exact hs n _ (Nat.lt_succ_self n) (ih fun k t hk => hs k t (Nat.lt_succ_of_lt hk))

end Ohsl
