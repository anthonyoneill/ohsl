/-
  Ohsl.Lemmas.GridRound — rounding to nearest, for ANY tie rule, once.

  `Nearest r`        `r : ℝ → ℤ` sends every real to an integer within `1/2` (Mathlib's `round`,
                     `roundHalfEven`, …).  Such an `r` fixes the integers and is monotone whatever it
                     does at ties.
  `gridRound r q`    rounding by `r` on the uniform grid `q ℤ`.
  `flRound r p`      rounding by `r` to `p + 1` significant bits, unbounded exponent: `gridRound` on
                     the grid `ulp p x = 2^(⌊log₂|x|⌋ - p)` of the binade of `x`.
  Proved for every `Nearest r`: half-ulp and relative error `2^(-p-1)`, monotone, the fixed points
  are exactly the `k · 2^j` with `|k| < 2^(p+1)` and they are the range, idempotent.
-/
import Mathlib.Data.Real.Basic
import Mathlib.Algebra.Order.Ring.Abs
import Mathlib.Algebra.Order.Archimedean.Real.Basic
import Mathlib.Algebra.Order.Round
import Mathlib.Data.Int.Log
import Mathlib.Tactic.Ring
import Mathlib.Tactic.Linarith
import Mathlib.Tactic.Positivity
import Mathlib.Tactic.NormNum

namespace Ohsl

def Nearest (r : ℝ → ℤ) : Prop := ∀ m : ℝ, |(r m : ℝ) - m| ≤ 1 / 2

theorem nearest_round : Nearest round := fun m => by
  rw [abs_sub_comm]; exact abs_sub_round m

namespace Nearest
variable {r : ℝ → ℤ} (hr : Nearest r)
include hr

theorem intCast (k : ℤ) : r k = k := by
  have h : |r (k : ℝ) - k| < 1 := by
    exact_mod_cast (hr k).trans_lt (by norm_num : (1 / 2 : ℝ) < 1)
  exact sub_eq_zero.mp (Int.abs_lt_one_iff.mp h)

theorem mono : Monotone r := fun x y h => by
  rcases h.eq_or_lt with rfl | h
  · exact le_rfl
  refine Int.lt_add_one_iff.mp ((Int.cast_lt (R := ℝ)).mp ?_)
  have hx : (r x : ℝ) ≤ x + 1 / 2 := sub_le_iff_le_add'.mp (abs_le.mp (hr x)).2
  have hy : y ≤ r y + 1 / 2 := neg_le_sub_iff_le_add.mp (abs_le.mp (hr y)).1
  rw [Int.cast_add, Int.cast_one, ← add_halves (1 : ℝ), ← add_assoc]
  exact hx.trans_lt ((add_lt_add_left h _).trans_le (add_le_add_left hy _))

theorem abs_le_of_abs_le {m : ℝ} {N : ℤ} (h : |m| ≤ N) : |r m| ≤ N := by
  rw [abs_le] at h ⊢
  have h1 := hr.mono h.1
  have h2 := hr.mono h.2
  rw [← Int.cast_neg, hr.intCast] at h1
  rw [hr.intCast] at h2
  exact ⟨h1, h2⟩

end Nearest

noncomputable def gridRound (r : ℝ → ℤ) (q x : ℝ) : ℝ := r (x / q) * q

section Grid
variable {r : ℝ → ℤ} (hr : Nearest r) {q : ℝ}
include hr

theorem gridRound_err (hq : 0 < q) (x : ℝ) : |gridRound r q x - x| ≤ q / 2 := by
  rw [gridRound, show (r (x / q) : ℝ) * q - x = ((r (x / q) : ℝ) - x / q) * q by
    rw [sub_mul, div_mul_cancel₀ _ hq.ne'], abs_mul, abs_of_pos hq]
  exact (mul_le_mul_of_nonneg_right (hr _) hq.le).trans_eq (one_div_mul_eq_div _ _)

theorem gridRound_mono (hq : 0 < q) : Monotone (gridRound r q) := fun _ _ h =>
  mul_le_mul_of_nonneg_right (Int.cast_le.mpr (hr.mono (div_le_div_of_nonneg_right h hq.le))) hq.le

theorem gridRound_int (hq : q ≠ 0) (k : ℤ) : gridRound r q (k * q) = k * q := by
  rw [gridRound, mul_div_cancel_right₀ _ hq, hr.intCast]

theorem gridRound_zero (q : ℝ) : gridRound r q 0 = 0 := by
  rw [gridRound, zero_div, ← Int.cast_zero, hr.intCast, Int.cast_zero, zero_mul]

theorem gridRound_le_gridRound {q' b x y : ℝ} (hq : 0 < q) (hq' : 0 < q')
    (hb : gridRound r q b = b) (hb' : gridRound r q' b = b) (hxb : x ≤ b) (hby : b ≤ y) :
    gridRound r q x ≤ gridRound r q' y :=
  calc gridRound r q x ≤ gridRound r q b := gridRound_mono hr hq hxb
    _ = gridRound r q' b := hb.trans hb'.symm
    _ ≤ gridRound r q' y := gridRound_mono hr hq' hby

end Grid

theorem two_zpow_pos (e : ℤ) : (0 : ℝ) < 2 ^ e := zpow_pos two_pos e

theorem abs_one_lt_two_pow (p : ℕ) : |(1 : ℤ)| < 2 ^ (p + 1) := by
  rw [abs_one]; exact one_lt_pow₀ one_lt_two p.succ_ne_zero

theorem abs_neg_one_lt_two_pow (p : ℕ) : |(-1 : ℤ)| < 2 ^ (p + 1) := by
  rw [abs_neg]; exact abs_one_lt_two_pow p

theorem binade_bounds {x : ℝ} (hx : x ≠ 0) :
    (2 : ℝ) ^ Int.log 2 |x| ≤ |x| ∧ |x| < (2 : ℝ) ^ (Int.log 2 |x| + 1) := by
  rw [← Nat.cast_ofNat (R := ℝ) (n := 2)]
  exact ⟨Int.zpow_log_le_self one_lt_two (abs_pos.mpr hx), Int.lt_zpow_succ_log_self one_lt_two |x|⟩

theorem two_zpow_eq_mul (e : ℤ) (d : ℕ) : (2 : ℝ) ^ e = (((2 : ℤ) ^ d : ℤ) : ℝ) * 2 ^ (e - d) := by
  rw [Int.cast_pow, Int.cast_ofNat, ← zpow_natCast, ← zpow_add₀ two_ne_zero]
  congr 1; ring

/-- a number `k · 2^j` with a significand of at most `p+1` bits is an integer multiple of the
spacing `2^(e-p)` of its binade (`e = ⌊log₂ |k 2^j|⌋ ≤ p + j`) -/
theorem significand_int (p : ℕ) {k : ℤ} (j : ℤ) (hk : |k| < 2 ^ (p + 1)) (h0 : k ≠ 0) :
    ∃ n : ℤ, (k : ℝ) * 2 ^ j = n * 2 ^ (Int.log 2 |(k : ℝ) * 2 ^ j| - p) := by
  have h2j := two_zpow_pos j
  have hlog : Int.log 2 |(k : ℝ) * 2 ^ j| < p + 1 + j :=
    (Int.lt_zpow_iff_log_lt (b := 2) (by norm_num)
      (abs_pos.mpr (mul_ne_zero (Int.cast_ne_zero.mpr h0) h2j.ne'))).mp (by
        rw [abs_mul, abs_of_pos h2j, Nat.cast_ofNat, zpow_add₀ two_ne_zero]
        exact mul_lt_mul_of_pos_right (by exact_mod_cast hk) h2j)
  generalize Int.log 2 |(k : ℝ) * 2 ^ j| = e at hlog
  -- `2^j` is a multiple of the spacing `2^(e-p)`, because `e - p ≤ j`
  obtain ⟨d, hd⟩ : ∃ d : ℕ, j - d = e - p := ⟨(j - (e - p)).toNat, by omega⟩
  exact ⟨k * 2 ^ d, by rw [two_zpow_eq_mul j d, hd, Int.cast_mul, mul_assoc]⟩

noncomputable def ulp (p : ℕ) (x : ℝ) : ℝ := 2 ^ (Int.log 2 |x| - p)

theorem ulp_pos (p : ℕ) (x : ℝ) : 0 < ulp p x := two_zpow_pos _

theorem ulp_neg (p : ℕ) (x : ℝ) : ulp p (-x) = ulp p x := by rw [ulp, ulp, abs_neg]

theorem ulp_of_bounds (p : ℕ) {x : ℝ} {e : ℤ} (h1 : (2 : ℝ) ^ e ≤ x) (h2 : x < (2 : ℝ) ^ (e + 1)) :
    ulp p x = 2 ^ (e - p) := by
  have hx : 0 < x := lt_of_lt_of_le (two_zpow_pos _) h1
  have a : e ≤ Int.log 2 x :=
    (Int.zpow_le_iff_le_log (b := 2) (by norm_num) hx).mp (by exact_mod_cast h1)
  have b : Int.log 2 x < e + 1 :=
    (Int.lt_zpow_iff_log_lt (b := 2) (by norm_num) hx).mp (by exact_mod_cast h2)
  rw [ulp, abs_of_pos hx, show Int.log 2 x = e by omega]

theorem two_zpow_succ_log (p : ℕ) (x : ℝ) :
    (2 : ℝ) ^ (Int.log 2 |x| + 1) = (((2 : ℤ) ^ (p + 1) : ℤ) : ℝ) * ulp p x := by
  rw [two_zpow_eq_mul (Int.log 2 |x| + 1) (p + 1), ulp]
  congr 2
  push_cast; ring

noncomputable def flRound (r : ℝ → ℤ) (p : ℕ) (x : ℝ) : ℝ := gridRound r (ulp p x) x

section Fl
variable {r : ℝ → ℤ} (hr : Nearest r) (p : ℕ)
include hr

theorem flRound_zero : flRound r p 0 = 0 := gridRound_zero hr _

theorem flRound_err_ulp (x : ℝ) : |flRound r p x - x| ≤ ulp p x / 2 :=
  gridRound_err hr (ulp_pos p x) x

/-- **the standard model**: relative error at most `2^(-p-1)` -/
theorem flRound_err (x : ℝ) : |flRound r p x - x| ≤ 2 ^ (-(p : ℤ) - 1) * |x| := by
  by_cases hx : x = 0
  · rw [hx, flRound_zero hr]; simp
  · refine (flRound_err_ulp hr p x).trans ?_
    rw [ulp, show (2 : ℝ) ^ (Int.log 2 |x| - p) / 2 = 2 ^ (-(p : ℤ) - 1) * 2 ^ Int.log 2 |x| by
      rw [div_eq_mul_inv, ← zpow_sub_one₀ two_ne_zero, ← zpow_add₀ two_ne_zero]; congr 1; ring]
    exact mul_le_mul_of_nonneg_left (binade_bounds hx).1 (two_zpow_pos _).le

theorem gridRound_two_zpow {m e : ℤ} (h : m ≤ e) :
    gridRound r (2 ^ (m - p)) (2 ^ e) = 2 ^ e ∧ gridRound r (2 ^ (m - p)) (-2 ^ e) = -2 ^ e := by
  obtain ⟨d, rfl⟩ := Int.le.dest ((Int.sub_le_self m (Int.natCast_nonneg p)).trans h)
  have hq := (two_zpow_pos (m - p)).ne'
  have g := two_zpow_eq_mul (m - p + d) d
  rw [add_sub_cancel_right] at g
  rw [g, ← neg_mul, ← Int.cast_neg]
  exact ⟨gridRound_int hr hq _, gridRound_int hr hq _⟩

/-- **monotone.**  Inside a binade the grid is uniform.  Otherwise a point common to the grids of
the binades of `x ≤ y` lies between them: `0` if one of them is `0`; else, with `e` the larger of
the two exponents, `2^e` if it belongs to `y` (then `0 < y`), `-2^e` if it belongs to `x`. -/
theorem flRound_monotone : Monotone (flRound r p) := by
  intro x y hxy
  have hq := two_zpow_pos
  have z := gridRound_zero hr
  unfold flRound ulp
  rcases eq_or_ne x 0 with rfl | hx
  · exact gridRound_le_gridRound hr (hq _) (hq _) (z _) (z _) le_rfl hxy
  rcases eq_or_ne y 0 with rfl | hy
  · exact gridRound_le_gridRound hr (hq _) (hq _) (z _) (z _) hxy le_rfl
  obtain ⟨hx1, hx2⟩ := binade_bounds hx
  obtain ⟨hy1, hy2⟩ := binade_bounds hy
  rcases lt_trichotomy (Int.log 2 |x|) (Int.log 2 |y|) with h | h | h
  · have hxb : |x| < 2 ^ Int.log 2 |y| := hx2.trans_le (zpow_le_zpow_right₀ one_le_two h)
    have hby : (2 : ℝ) ^ Int.log 2 |y| ≤ y := (le_abs.mp hy1).resolve_right fun h' =>
      (h'.trans ((neg_le_neg hxy).trans (neg_le_abs x))).not_gt hxb
    exact gridRound_le_gridRound hr (hq _) (hq _) (gridRound_two_zpow hr p h.le).1
      (gridRound_two_zpow hr p le_rfl).1 ((le_abs_self x).trans hxb.le) hby
  · rw [h]
    exact gridRound_mono hr (hq _) hxy
  · have hyb : |y| < 2 ^ Int.log 2 |x| := hy2.trans_le (zpow_le_zpow_right₀ one_le_two h)
    have hxb : x ≤ -2 ^ Int.log 2 |x| := le_neg.mpr ((le_abs.mp hx1).resolve_left fun h' =>
      ((h'.trans hxy).trans (le_abs_self y)).not_gt hyb)
    exact gridRound_le_gridRound hr (hq _) (hq _) (gridRound_two_zpow hr p le_rfl).2
      (gridRound_two_zpow hr p h.le).2 hxb (neg_le.mp ((neg_le_abs y).trans hyb.le))

theorem flRound_fixes_grid (k j : ℤ) (hk : |k| < 2 ^ (p + 1)) :
    flRound r p ((k : ℝ) * 2 ^ j) = (k : ℝ) * 2 ^ j := by
  by_cases h0 : k = 0
  · rw [h0, Int.cast_zero, zero_mul, flRound_zero hr]
  obtain ⟨n, hn⟩ := significand_int p j hk h0
  rw [flRound, ulp]
  nth_rewrite 2 3 [hn]
  exact gridRound_int hr (two_zpow_pos _).ne' n

theorem flRound_mem_grid (x : ℝ) :
    ∃ k j : ℤ, |k| < 2 ^ (p + 1) ∧ flRound r p x = (k : ℝ) * 2 ^ j := by
  by_cases hx : x = 0
  · exact ⟨0, 0, by simp, by rw [hx, flRound_zero hr]; simp⟩
  have hq := ulp_pos p x
  have g := two_zpow_succ_log p x
  -- the rounded significand is at most `2^(p+1)` in absolute value
  have hs : |r (x / ulp p x)| ≤ 2 ^ (p + 1) := hr.abs_le_of_abs_le (by
    rw [abs_div, abs_of_pos hq, div_le_iff₀ hq, ← g]; exact (binade_bounds hx).2.le)
  rcases hs.lt_or_eq with h | h
  · exact ⟨_, Int.log 2 |x| - p, h, rfl⟩
  · rcases (abs_eq (by positivity)).mp h with h | h
    · exact ⟨1, Int.log 2 |x| + 1, abs_one_lt_two_pow p, by rw [flRound, gridRound, h, ← g, Int.cast_one, one_mul]⟩
    · exact ⟨-1, Int.log 2 |x| + 1, abs_neg_one_lt_two_pow p, by
        rw [flRound, gridRound, h, Int.cast_neg, neg_mul, ← g, Int.cast_neg, Int.cast_one, neg_one_mul]⟩

theorem flRound_idempotent (x : ℝ) : flRound r p (flRound r p x) = flRound r p x := by
  obtain ⟨k, j, hk, h⟩ := flRound_mem_grid hr p x
  rw [h]; exact flRound_fixes_grid hr p k j hk

theorem flRound_eq_self_iff (x : ℝ) :
    flRound r p x = x ↔ ∃ k j : ℤ, |k| < 2 ^ (p + 1) ∧ x = (k : ℝ) * 2 ^ j :=
  ⟨fun h => by rw [← h]; exact flRound_mem_grid hr p x,
    fun ⟨k, j, hk, e⟩ => by rw [e]; exact flRound_fixes_grid hr p k j hk⟩

theorem flRound_zpow (e : ℤ) : flRound r p ((2 : ℝ) ^ e) = 2 ^ e := by
  have h := flRound_fixes_grid hr p 1 e (abs_one_lt_two_pow p)
  simpa using h

theorem flRound_int (k : ℤ) (hk : |k| ≤ 2 ^ (p + 1)) : flRound r p (k : ℝ) = k := by
  rcases hk.lt_or_eq with h | h
  · simpa using flRound_fixes_grid hr p k 0 h
  · have e : (2 : ℝ) ^ (p + 1) = 2 ^ ((p + 1 : ℕ) : ℤ) := (zpow_natCast _ _).symm
    have h1 := flRound_zpow hr p ((p + 1 : ℕ) : ℤ)
    have h2 := flRound_fixes_grid hr p (-1) ((p + 1 : ℕ) : ℤ) (abs_neg_one_lt_two_pow p)
    rw [← e] at h1 h2
    rcases abs_eq (by positivity : (0 : ℤ) ≤ 2 ^ (p + 1)) |>.mp h with h | h
    · rw [h]; push_cast; exact h1
    · rw [h]; push_cast; simpa using h2

end Fl

theorem ulp_next_binade (p : ℕ) {t : ℝ} (h0 : 0 ≤ t) (h1 : t < 2 ^ (p + 1)) :
    ulp p ((2 : ℝ) ^ (p + 1) + t) = 2 := by
  rw [ulp_of_bounds p (e := (p : ℤ) + 1), add_sub_cancel_left, zpow_one]
  · exact_mod_cast le_add_of_nonneg_right (a := (2 : ℝ) ^ (p + 1)) h0
  · have : (2 : ℝ) ^ (p + 1) + t < 2 ^ (p + 1 + 1) := by
      rw [pow_succ _ (p + 1), mul_two]; exact (add_lt_add_iff_left _).mpr h1
    exact_mod_cast this

theorem flRound_next_binade (r : ℝ → ℤ) (p : ℕ) {t : ℝ} (h0 : 0 ≤ t) (h1 : t < 2 ^ (p + 1)) :
    flRound r p (2 ^ (p + 1) + t) = r ((2 ^ (p + 1) + t) / 2) * 2 := by
  rw [flRound, ulp_next_binade p h0 h1, gridRound]

theorem flRound_neg {r : ℝ → ℤ} (hodd : ∀ m, r (-m) = -r m) (p : ℕ) (x : ℝ) :
    flRound r p (-x) = -flRound r p x := by
  rw [flRound, flRound, ulp_neg, gridRound, gridRound, neg_div, hodd]
  push_cast; ring

end Ohsl
