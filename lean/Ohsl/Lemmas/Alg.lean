/-
  Ohsl.Lemmas.Alg — the algebraic interpretation of the scalar classes (DESIGN §2.1):
  over a linearly ordered field, `divM` is division guarded by an exact zero test,
  `lt` is `<` and `mag` is `|·|` written as the code writes it.
-/
import Ohsl.Model.Basic
import Mathlib.Algebra.Order.Field.Basic
import Mathlib.Tactic.Ring
import Mathlib.Tactic.FieldSimp
import Mathlib.Tactic.Linarith

namespace Ohsl.Alg

/-- Exact interpretation: `/` panics on an exact zero divisor, as the rational type of the
    harness does; otherwise it is field division. -/
@[reducible] def scalarExt (K : Type) [Field K] [LinearOrder K] : ScalarExt K where
  divM a b := if b = 0 then .error .arith else .ok (a / b)
  lt a b := decide (a < b)
  mag a := if a < 0 then -a else a

/-- Interpretation for fields without an order (ℂ-like): only `divM` is meaningful. -/
@[reducible] def scalarExtField (K : Type) [Field K] [DecidableEq K] : ScalarExt K where
  divM a b := if b = 0 then .error .arith else .ok (a / b)
  lt _ _ := false
  mag a := a

section
variable {K : Type} [Field K] [LinearOrder K]
attribute [local instance] scalarExt

@[simp] theorem divM_eq (a b : K) : divM a b = if b = 0 then .error .arith else .ok (a / b) := rfl
theorem divM_ne {a b : K} (h : b ≠ 0) : divM a b = .ok (a / b) := by simp [h]
theorem divM_zero (a : K) : divM a (0 : K) = .error .arith := by simp
@[simp] theorem lt_eq (a b : K) : ScalarExt.lt a b = decide (a < b) := rfl
@[simp] theorem mag_eq (a : K) : ScalarExt.mag a = if a < 0 then -a else a := rfl
theorem mag_eq_abs [IsStrictOrderedRing K] (a : K) : ScalarExt.mag a = |a| := by
  simp only [mag_eq]
  split
  · rename_i h; exact (abs_of_neg h).symm
  · rename_i h; exact (abs_of_nonneg (not_lt.mp h)).symm
end

/-! The proofs about the dense direct solvers never look at the order of `K` itself: they use that
`divM` is the field division guarded by an exact zero test (`DivLaw`), and — for partial pivoting —
that the comparison `lt (mag a) (mag b)` the code performs is the comparison of a "size" taken in
some linear order whose least value is attained exactly at `0` (`PivotLaws`).  A linearly ordered
field with `Alg.scalarExt` is one instance (size `|·|`); the model's complex numbers `Cx ℝ` with
`Cx.instScalarExt` are another (size = modulus), see `Ohsl/Lemmas/CxField.lean`. -/

class DivLaw (K : Type) [Field K] [ScalarExt K] : Prop where
  divM_zero : ∀ a : K, ScalarExt.divM a 0 = .error .arith
  divM_ne : ∀ a b : K, b ≠ 0 → ScalarExt.divM a b = .ok (a / b)

/-- the magnitude comparison used by partial pivoting is the comparison of a `size` in a linear
    order `S`; the search starts from `0 = mag 0`, whose size is least and is attained only at `0` -/
class PivotLaws (K : Type) [Field K] [ScalarExt K] extends DivLaw K where
  S : Type
  [ord : LinearOrder S]
  size : K → S
  lt_mag : ∀ a b : K,
    ScalarExt.lt (ScalarExt.mag a) (ScalarExt.mag b) = decide (size a < size b)
  mag_zero : ScalarExt.mag (0 : K) = 0
  size_zero_le : ∀ a : K, size 0 ≤ size a
  eq_zero_of_size : ∀ a : K, size a = size 0 → a = 0

attribute [instance_reducible, instance] PivotLaws.ord

section Laws
variable {K : Type} [Field K] [ScalarExt K]

theorem divM_law_ne [DivLaw K] {a b : K} (h : b ≠ 0) : divM a b = .ok (a / b) :=
  DivLaw.divM_ne a b h

theorem divM_law_zero [DivLaw K] (a : K) : divM a (0 : K) = .error .arith :=
  DivLaw.divM_zero a

theorem divM_ok_iff [DivLaw K] {a b q : K} : divM a b = .ok q ↔ b ≠ 0 ∧ q = a / b := by
  by_cases hb : b = 0
  · rw [hb, divM_law_zero]
    exact ⟨fun h => (nomatch h), fun h => absurd rfl h.1⟩
  · rw [divM_law_ne hb]
    exact ⟨fun h => ⟨hb, (Except.ok.inj h).symm⟩, fun h => by rw [h.2]⟩

variable [PivotLaws K]

theorem lt_zero_mag (b : K) :
    ScalarExt.lt (0 : K) (ScalarExt.mag b) = decide (PivotLaws.size (0 : K) < PivotLaws.size b) := by
  have := PivotLaws.lt_mag (0 : K) b
  rwa [PivotLaws.mag_zero] at this

theorem size_eq_zero_iff (a : K) : PivotLaws.size a = PivotLaws.size (0 : K) ↔ a = 0 :=
  ⟨PivotLaws.eq_zero_of_size a, fun h => by rw [h]⟩

theorem size_le_zero_iff (a : K) : PivotLaws.size a ≤ PivotLaws.size (0 : K) ↔ a = 0 :=
  ⟨fun h => PivotLaws.eq_zero_of_size a (le_antisymm h (PivotLaws.size_zero_le a)),
   fun h => by rw [h]⟩

theorem mag_eq_zero_iff (a : K) : ScalarExt.mag a = 0 ↔ a = 0 := by
  constructor
  · intro h
    have h1 := PivotLaws.lt_mag a a
    have h2 := PivotLaws.lt_mag (0 : K) a
    have e : ScalarExt.mag (0 : K) = ScalarExt.mag a := by rw [PivotLaws.mag_zero, h]
    rw [e, h1] at h2
    have h3 : ¬ PivotLaws.size (0 : K) < PivotLaws.size a := by
      intro hlt
      have : decide (PivotLaws.size a < PivotLaws.size a) = true := by
        rw [h2]; exact decide_eq_true hlt
      exact lt_irrefl _ (of_decide_eq_true this)
    exact (size_le_zero_iff a).1 (not_lt.1 h3)
  · intro h; rw [h]; exact PivotLaws.mag_zero

end Laws

section
variable {K : Type} [Field K] [LinearOrder K]
attribute [local instance] scalarExt

instance divLaw : DivLaw K where
  divM_zero a := by simp
  divM_ne a b h := by simp [h]

instance pivotLaws [IsStrictOrderedRing K] : PivotLaws K where
  S := K
  size a := |a|
  lt_mag a b := by rw [mag_eq_abs, mag_eq_abs]; rfl
  mag_zero := by simp
  size_zero_le a := by simp
  eq_zero_of_size a h := by simpa using h
end

end Ohsl.Alg
