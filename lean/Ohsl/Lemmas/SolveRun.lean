/-
  Ohsl.Lemmas.SolveRun — what the loops of Ohsl/Model/Solve.lean compute, for EVERY scalar type: no
  algebraic law is used, the results are described by the operations of `K` themselves, the
  accumulation loops by the recurrence `Mat.sdot` (`s ← s - f t * g t`).  The exact analysis
  (SolveSound.lean, LUDet.lean) and the rounded one (LURounding.lean, GaussRounding.lean,
  DetRounding.lean) both start from here.

  Every statement reads a matrix or a vector through the entry functions `ent`, `vf`; an exchange
  renames rows by the transposition `swapIdx` of MatSpec2.lean; `inverse` works on a column of its
  matrix as `forwardSub` / `backsolve` work on a vector (`ColRel`: one simulation, so that every
  column of the result solves the two recurrences).

  A row that divides ends as its division does: `ExRel (fun q r => …) (divM … …) call`
  (`elimRow_eq`, `backsolveAt_eq`), the same error or a result described through the quotient;
  success, the value and the failure are read off it (`ExRel.of_ok_left`, `of_ok_right`,
  `error_iff`).  Elsewhere the suffix says which reading a statement is: `…_total` the call returns
  as soon as its divisions do, and what; `…_struct` whenever it returns, what it returned;
  `…_sdot` the result as the recurrence `sdot`.
-/
import Ohsl.Model.Solve
import Ohsl.Lemmas.MatSpec2
import Ohsl.Lemmas.Loop
import Ohsl.Lemmas.ArrayIndex
import Mathlib.Order.Nat
import Mathlib.Tactic.SplitIfs
namespace Ohsl

namespace Mat

section Entries
variable {K : Type}

def ent [Zero K] (m : Mat K) (i j : Nat) : K := (m.data[i * m.cols + j]?).getD 0
def vf [Zero K] (x : Array K) (j : Nat) : K := (x[j]?).getD 0

def WFn (m : Mat K) (n : Nat) : Prop := m.WF ∧ m.rows = n ∧ m.cols = n

theorem Is.wfn {m : Mat K} {n : Nat} {e : Nat → Nat → K} (h : Is m n n e) : WFn m n :=
  ⟨h.wf, h.rows, h.cols⟩

def colArr (n : Nat) (e : Nat → Nat → K) (j : Nat) : Array K :=
  ((List.range n).map fun a => e a j).toArray

theorem colArr_size {n : Nat} (e : Nat → Nat → K) (j : Nat) : (colArr n e j).size = n := by
  simp [colArr]

section Basic
variable [Zero K]

theorem Is.ent_eq {m : Mat K} {r c : Nat} {e : Nat → Nat → K} (h : Is m r c e) {i j : Nat}
    (hi : i < r) (hj : j < c) : ent m i j = e i j := by
  have := h.entry i j hi hj
  rw [Mat.get, aget_eq_ok] at this
  simp [ent, this]

theorem WFn.is {m : Mat K} {n : Nat} (h : WFn m n) : Is m n n (ent m) := by
  have := Is.of_wf h.1
  rwa [h.2.1, h.2.2] at this

theorem WFn.get {m : Mat K} {n : Nat} (h : WFn m n) {i j : Nat} (hi : i < n) (hj : j < n) :
    m.get i j = .ok (ent m i j) := h.is.entry i j hi hj

theorem aget_vf {x : Array K} {j : Nat} (h : j < x.size) : aget x j = .ok (vf x j) :=
  aget_getD h 0

theorem vf_set {x : Array K} {i : Nat} (v : K) (h : i < x.size) (a : Nat) :
    vf (x.setIfInBounds i v) a = if a = i then v else vf x a :=
  getD_setIfInBounds h

theorem vf_colArr {n : Nat} (e : Nat → Nat → K) (j : Nat) {a : Nat} (ha : a < n) :
    vf (colArr n e j) a = e a j := by
  simp [vf, colArr, ha]

end Basic

end Entries

section SDot
variable {K : Type} [Sub K] [Mul K]

/-- the recurrence `s ← s - f t * g t` for `t = lo, …, hi-1`, started at `c` (the inner loops of
`forwardSub`, `backsolve`, and — entry by entry — of `luDecomp`) -/
def sdot (f g : Nat → K) (c : K) (lo hi : Nat) : K :=
  (List.range' lo (hi - lo)).foldl (fun acc t => acc - f t * g t) c

theorem sdot_empty (f g : Nat → K) (c : K) {lo hi : Nat} (h : hi ≤ lo) : sdot f g c lo hi = c := by
  have : hi - lo = 0 := by omega
  simp [sdot, this]

theorem sdot_succ (f g : Nat → K) (c : K) {lo hi : Nat} (h : lo ≤ hi) :
    sdot f g c lo (hi + 1) = sdot f g c lo hi - f hi * g hi := by
  unfold sdot
  have e : hi + 1 - lo = (hi - lo) + 1 := by omega
  have e2 : lo + (hi - lo) = hi := by omega
  rw [e, List.range'_concat, List.foldl_append]
  simp [e2]

/-- the same recurrence over the `t < k` with `act t` (`act t`: column `t` was eliminated, not
skipped) -/
def sdotA (act : Nat → Bool) (f g : Nat → K) (c : K) : Nat → K
  | 0 => c
  | k + 1 => if act k then sdotA act f g c k - f k * g k else sdotA act f g c k

theorem sdotA_congr {act act' : Nat → Bool} {f g f' g' : Nat → K} (c : K) (k : Nat)
    (h : ∀ t, t < k → act t = act' t ∧ f t = f' t ∧ g t = g' t) :
    sdotA act f g c k = sdotA act' f' g' c k := by
  induction k with
  | zero => rfl
  | succ k ih =>
    obtain ⟨h1, h2, h3⟩ := h k (Nat.lt_succ_self k)
    simp only [sdotA, ih fun t ht => h t (Nat.lt_succ_of_lt ht), h1, h2, h3]

theorem sdot_eq_sdotA (f g : Nat → K) (c : K) (lo hi : Nat) :
    sdot f g c lo hi = sdotA (fun t => decide (lo ≤ t)) f g c hi := by
  induction hi with
  | zero => rw [sdot_empty _ _ _ (Nat.zero_le _)]; rfl
  | succ k ih =>
    by_cases hk : lo ≤ k
    · rw [sdot_succ _ _ _ hk, ih, sdotA, if_pos (decide_eq_true hk)]
    · rw [sdot_empty _ _ _ (by omega), sdotA, if_neg (by simpa using hk), ← ih,
        sdot_empty _ _ _ (by omega)]

theorem sdot_congr {f g f' g' : Nat → K} (c : K) (lo hi : Nat)
    (h : ∀ t, lo ≤ t → t < hi → f t = f' t ∧ g t = g' t) :
    sdot f g c lo hi = sdot f' g' c lo hi := by
  rw [sdot_eq_sdotA, sdot_eq_sdotA]
  -- below `lo` nothing is subtracted: compare with `f'`, `g'` switched off there as well
  induction hi with
  | zero => rfl
  | succ k ih =>
    rw [sdotA, sdotA, ih fun t h1 h2 => h t h1 (by omega)]
    by_cases hk : lo ≤ k
    · rw [(h k hk (Nat.lt_succ_self k)).1, (h k hk (Nat.lt_succ_self k)).2]
    · rw [if_neg (by simpa using hk), if_neg (by simpa using hk)]

theorem countP_range_le (lo hi : Nat) :
    (List.range hi).countP (fun t => decide (lo ≤ t)) = hi - lo := by
  induction hi with
  | zero => simp
  | succ k ih =>
    rw [List.range_succ, List.countP_append, ih, List.countP_singleton]
    by_cases hk : lo ≤ k
    · rw [if_pos (decide_eq_true hk), Nat.succ_sub hk]
    · rw [if_neg (by simpa using hk), Nat.add_zero,
        Nat.sub_eq_zero_of_le (Nat.le_of_lt (Nat.not_le.1 hk)),
        Nat.sub_eq_zero_of_le (Nat.not_le.1 hk)]

end SDot

/-- The pivot search loop of both solvers, for either order of the pair `(index, magnitude)` it
    carries (`idx`, `mx` read the pair, `mk` builds it), for every scalar type whose comparison
    `lt (mag a) (mag b)` compares a `size` in a linear order with least value `size 0`. -/
theorem pivotSearch_gen {K : Type} [Zero K] [ScalarExt K] {S : Type} [LinearOrder S] (size : K → S)
    (hlt : ∀ a b : K, ScalarExt.lt (ScalarExt.mag a) (ScalarExt.mag b) = decide (size a < size b))
    (hmag0 : ScalarExt.mag (0 : K) = 0) (hsize0 : ∀ a : K, size 0 ≤ size a)
    {σ : Type} (idx : σ → Nat) (mx : σ → K) (mk : Nat → K → σ)
    (hidx : ∀ i a, idx (mk i a) = i) (hmx : ∀ i a, mx (mk i a) = a)
    (v : Nat → K) {lo hi : Nat} (hlo : lo < hi) (f : σ → Nat → Res σ)
    (hf : ∀ s t, lo ≤ t → t < hi → f s t = .ok
      (if ScalarExt.lt (mx s) (ScalarExt.mag (v t)) then mk t (ScalarExt.mag (v t)) else s)) :
    ∃ s, forM' lo hi (mk lo 0) f = .ok s ∧ lo ≤ idx s ∧ idx s < hi ∧
      ∃ u : K, mx s = ScalarExt.mag u ∧ (∀ t, lo ≤ t → t < hi → size (v t) ≤ size u) ∧
        ((u = 0 ∧ idx s = lo) ∨ (size 0 < size u ∧ u = v (idx s))) := by
  refine forM'_inv
    (fun t (s : σ) => lo ≤ idx s ∧ idx s < hi ∧ ∃ u : K, mx s = ScalarExt.mag u ∧
      (∀ t', lo ≤ t' → t' < t → size (v t') ≤ size u) ∧
      ((u = 0 ∧ idx s = lo) ∨ (size 0 < size u ∧ u = v (idx s))))
    lo hi (mk lo 0) f (le_of_lt hlo)
    ⟨by rw [hidx], by rw [hidx]; exact hlo, 0, by rw [hmx, hmag0], fun t' h1 h2 => by omega,
      Or.inl ⟨rfl, hidx lo 0⟩⟩ ?_
  rintro t s ht1 ht2 ⟨h1, h2, u, hu, h4, h5⟩
  refine ⟨_, hf s t ht1 ht2, ?_⟩
  rw [hu, hlt]
  by_cases hc : size u < size (v t)
  · rw [decide_eq_true hc, if_pos rfl, hidx, hmx]
    refine ⟨ht1, ht2, v t, rfl, fun t' ht' ht'' => ?_, Or.inr ⟨lt_of_le_of_lt (hsize0 u) hc, rfl⟩⟩
    by_cases e : t' = t
    · subst e; exact le_refl _
    · exact le_of_lt (lt_of_le_of_lt (h4 t' ht' (by omega)) hc)
  · rw [decide_eq_false hc, if_neg Bool.false_ne_true]
    refine ⟨h1, h2, u, hu, fun t' ht' ht'' => ?_, h5⟩
    by_cases e : t' = t
    · subst e; exact not_lt.mp hc
    · exact h4 t' ht' (by omega)

section Structural
variable {K : Type} [Zero K]

theorem vswap_spec {x : Array K} {p k : Nat} (hp : p < x.size) (hk : k < x.size) :
    ∃ x', Vec.swap x p k = .ok x' ∧ x'.size = x.size ∧ ∀ a, vf x' a = vf x (swapIdx p k a) := by
  have hk' : k < (x.setIfInBounds p (vf x k)).size := by simpa using hk
  refine ⟨(x.setIfInBounds p (vf x k)).setIfInBounds k (vf x p), ?_, by simp, ?_⟩
  · simp only [Vec.swap, aget_vf hp, aget_vf hk, bind, Except.bind, aset_ok _ hp]
    exact aset_ok _ hk'
  · intro a
    rw [vf_set _ hk', vf_set _ hp, swapIdx_apply (vf x)]
    -- position `k` is written last: for `p = k` both orders give `vf x p`
    by_cases hak : a = k
    · by_cases hap : a = p
      · rw [if_pos hak, if_pos hap, ← hap, ← hak]
      · rw [if_pos hak, if_neg hap, if_pos hak]
    · rw [if_neg hak, if_neg hak]

variable [ScalarExt K]

theorem maxAbsInColumn_range {m : Mat K} {n k : Nat} (hm : WFn m n) (hk : k < n) :
    ∃ p, maxAbsInColumn m k k = .ok p ∧ k ≤ p ∧ p < n := by
  unfold maxAbsInColumn
  rw [hm.2.1]
  obtain ⟨⟨idx, mx⟩, hs, h1, h2⟩ := forM'_inv (fun _ (s : Nat × K) => k ≤ s.1 ∧ s.1 < n)
    k n ((k : Nat), (0 : K))
    (fun (idx, mx) i => do
      let x ← m.get i k
      let ax := ScalarExt.mag x
      if ScalarExt.lt mx ax then pure (i, ax) else pure (idx, mx))
    (by omega) ⟨Nat.le_refl _, hk⟩ (by
      rintro t ⟨idx, mx⟩ ht1 ht2 ⟨h1, h2⟩
      simp only [hm.get ht2 hk, bind, Except.bind]
      split
      · exact ⟨_, rfl, ht1, ht2⟩
      · exact ⟨_, rfl, h1, h2⟩)
  simp only [bind, Except.bind, pure, Except.pure] at hs ⊢
  exact ⟨idx, by rw [hs], h1, h2⟩

theorem maxAbsInColumn_ge {m : Mat K} {col start p : Nat}
    (h : maxAbsInColumn m col start = .ok p) : start ≤ p := by
  unfold maxAbsInColumn at h
  simp only [bind, Except.bind] at h
  split at h
  · simp at h
  · rename_i s hs
    simp only [pure, Except.pure] at h
    by_cases hle : start ≤ m.rows
    · have := forM'_ok_inv (fun (i : Nat) (s : Nat × K) => start ≤ s.1) start m.rows
        ((start : Nat), (0 : K)) s _ hle (Nat.le_refl _) (by
          intro i s s1 hi1 hi2 hP hf
          obtain ⟨idx, mx⟩ := s
          cases hg : m.get i col with
          | error e => rw [hg] at hf; simp at hf
          | ok v =>
            rw [hg] at hf
            simp only [pure, Except.pure] at hf
            split at hf
            · injection hf with hf; subst hf; exact hi1
            · injection hf with hf; subst hf; exact hP) hs
      injection h with h
      subst h
      obtain ⟨a, b⟩ := s
      exact this
    · rw [forM'_empty _ _ _ _ (by omega)] at hs
      injection hs with hs
      subst hs
      injection h with h
      exact h.le

theorem partialPivot_spec {m : Mat K} {x : Array K} {n k : Nat} (hm : WFn m n) (hx : x.size = n)
    (hk : k < n) :
    ∃ p m' x', maxAbsInColumn m k k = .ok p ∧ partialPivot m x k = .ok (m', x') ∧ k ≤ p ∧ p < n ∧
      WFn m' n ∧ x'.size = n ∧
      (∀ a b, a < n → b < n → ent m' a b = ent m (swapIdx p k a) b) ∧
      (∀ a, vf x' a = vf x (swapIdx p k a)) := by
  obtain ⟨p, hp, hkp, hpn⟩ := maxAbsInColumn_range hm hk
  obtain ⟨m1, hm1, hI⟩ := swapRows_spec hm.is hpn hk
  obtain ⟨x1, hx1, hs1, hv1⟩ := vswap_spec (x := x) (p := p) (k := k) (by omega) (by omega)
  refine ⟨p, m1, x1, hp, ?_, hkp, hpn, hI.wfn, by omega, fun a b ha hb => ?_, hv1⟩
  · simp only [partialPivot, hp, hm1, hx1, bind, Except.bind, pure, Except.pure]
  · rw [hI.ent_eq ha hb]
    exact (swapIdx_apply (fun r => ent m r b) p k a).symm

theorem partialPivot_struct {m : Mat K} {x : Array K} {n k p : Nat} (hm : WFn m n) (hx : x.size = n)
    (hk : k < n) (hp : maxAbsInColumn m k k = .ok p) {m' : Mat K} {x' : Array K}
    (h : partialPivot m x k = .ok (m', x')) :
    p < n ∧ WFn m' n ∧ x'.size = n ∧
      (∀ a b, a < n → b < n → ent m' a b = ent m (swapIdx p k a) b) ∧
      (∀ a, vf x' a = vf x (swapIdx p k a)) := by
  obtain ⟨p', m1, x1, hp', hpp, _, hpn, hrest⟩ := partialPivot_spec hm hx hk
  cases hp.symm.trans hp'
  cases hpp.symm.trans h
  exact ⟨hpn, hrest⟩

variable [Sub K] [Mul K]

/-- column `k` INCLUDED: entry `(i,k)` becomes `m_ik - q·m_kk`, not `0` -/
theorem elimRow_eq {m : Mat K} {x : Array K} {n k i : Nat} (hm : WFn m n) (hx : x.size = n)
    (hk : k < n) (hi : i < n) (hki : k ≠ i) :
    ExRel (fun q (r : Mat K × Array K) => WFn r.1 n ∧ r.2.size = n ∧
        (∀ a b, a < n → b < n → ent r.1 a b =
          if a = i ∧ k ≤ b then ent m i b - q * ent m k b else ent m a b) ∧
        (∀ a, vf r.2 a = if a = i then vf x i - q * vf x k else vf x a))
      (divM (ent m i k) (ent m k k)) (elimRow k (m, x) i) := by
  have hxk : k < x.size := by omega
  have hxi : i < x.size := by omega
  simp only [elimRow, hm.get hi hk, hm.get hk hk, bind, Except.bind]
  cases divM (ent m i k) (ent m k k) with
  | error e => rfl
  | ok q =>
    obtain ⟨m1, hm1, hI⟩ := hm.is.rowLoop_reads hi (Nat.le_of_lt hk) (Nat.le_refl n)
      (fun b => ent m i b - q * ent m k b)
      (fun s j => do
        let kj ← s.get k j
        let ij ← s.get i j
        s.set i j (ij - q * kj))
      (fun t s _ ht2 hread => by
        rw [hread k t hk ht2 fun h => absurd h hki, hread i t hi ht2 fun _ => Or.inr (Nat.le_refl t)]
        rfl)
    simp only [bind, Except.bind] at hm1
    simp only [hm.2.1, hm1, aget_vf hxk, aget_vf hxi, aset_ok _ hxi, pure, Except.pure]
    refine ⟨hI.wfn, by simpa using hx, fun a b ha hb => ?_, fun a => vf_set _ hxi a⟩
    rw [hI.ent_eq ha hb]
    simp only [hb, and_true]

theorem elimRow_struct {m : Mat K} {x : Array K} {n k i : Nat} (hm : WFn m n) (hx : x.size = n)
    (hk : k < n) (hi : i < n) (hki : k ≠ i) {m' : Mat K} {x' : Array K}
    (h : elimRow k (m, x) i = .ok (m', x')) :
    ∃ q, divM (ent m i k) (ent m k k) = .ok q ∧ WFn m' n ∧ x'.size = n ∧
    (∀ a b, a < n → b < n → ent m' a b =
        if a = i ∧ k ≤ b then ent m i b - q * ent m k b else ent m a b) ∧
    (∀ a, vf x' a = if a = i then vf x i - q * vf x k else vf x a) :=
  (h ▸ elimRow_eq hm hx hk hi hki).of_ok_right

theorem elimCol_total {m : Mat K} {x : Array K} {n k : Nat} (hm : WFn m n) (hx : x.size = n)
    (hk : k < n) (q : Nat → K)
    (hq : ∀ a, k < a → a < n → divM (ent m a k) (ent m k k) = .ok (q a)) :
    ∃ m' x', forM' (k + 1) n (m, x) (elimRow k) = .ok (m', x') ∧ WFn m' n ∧ x'.size = n ∧
      (∀ a b, a < n → b < n → ent m' a b =
        if k < a ∧ k ≤ b then ent m a b - q a * ent m k b else ent m a b) ∧
      (∀ a, a < n → vf x' a = if k < a then vf x a - q a * vf x k else vf x a) := by
  -- the rows `k < a < t` are done, the others are still those of `m`, `x`
  obtain ⟨⟨m', x'⟩, hs, hw, hsz, hold, hnew⟩ := forM'_inv
    (fun t (s : Mat K × Array K) => WFn s.1 n ∧ s.2.size = n ∧
      (∀ a, a < n → ¬ (k < a ∧ a < t) →
        (∀ b, b < n → ent s.1 a b = ent m a b) ∧ vf s.2 a = vf x a) ∧
      (∀ a, k < a → a < t →
        (∀ b, b < n → ent s.1 a b =
          if k ≤ b then ent m a b - q a * ent m k b else ent m a b) ∧
        vf s.2 a = vf x a - q a * vf x k))
    (k + 1) n (m, x) (elimRow k) (Nat.succ_le_of_lt hk)
    ⟨hm, hx, fun _ _ _ => ⟨fun _ _ => rfl, rfl⟩,
      fun a h1 h2 => absurd h2 (Nat.not_lt.2 (Nat.succ_le_of_lt h1))⟩ (by
      rintro i ⟨ms, xs⟩ hi1 hi2 ⟨hw, hsz, hold, hnew⟩
      have hki : k < i := hi1
      obtain ⟨hrow, hxi⟩ := hold i hi2 fun h => Nat.lt_irrefl i h.2
      obtain ⟨hpiv, hxk⟩ := hold k hk fun h => Nat.lt_irrefl k h.1
      have hrun := elimRow_eq hw hsz hk hi2 (Nat.ne_of_lt hki)
      rw [hrow k hk, hpiv k hk, hq i hki hi2] at hrun
      obtain ⟨⟨m1, x1⟩, hf, hw1, hsz1, he1, hv1⟩ := hrun.of_ok_left
      refine ⟨(m1, x1), hf, hw1, hsz1, fun a ha hna => ?_, fun a hka hat => ?_⟩
      · -- a row other than `i`: as before
        have hai : a ≠ i := fun e => hna ⟨e ▸ hki, e ▸ Nat.lt_succ_self i⟩
        obtain ⟨h1, h2⟩ := hold a ha fun h => hna ⟨h.1, Nat.lt_succ_of_lt h.2⟩
        exact ⟨fun b hb => by rw [he1 a b ha hb, if_neg fun h => hai h.1]; exact h1 b hb,
          by rw [hv1 a, if_neg hai]; exact h2⟩
      · rcases Nat.eq_or_lt_of_le (Nat.le_of_lt_succ hat) with rfl | hlt
        · refine ⟨fun b hb => ?_, by rw [hv1 a, if_pos rfl, hxi, hxk]⟩
          rw [he1 a b hi2 hb, hrow b hb, hpiv b hb]
          simp only [true_and]
        · have hai : a ≠ i := Nat.ne_of_lt hlt
          obtain ⟨h1, h2⟩ := hnew a hka hlt
          exact ⟨fun b hb => by
              rw [he1 a b (Nat.lt_trans hlt hi2) hb, if_neg fun h => hai h.1]; exact h1 b hb,
            by rw [hv1 a, if_neg hai]; exact h2⟩)
  refine ⟨m', x', hs, hw, hsz, fun a b ha hb => ?_, fun a ha => ?_⟩
  · by_cases hka : k < a
    · rw [(hnew a hka ha).1 b hb]
      simp only [hka, true_and]
    · rw [(hold a ha fun h => hka h.1).1 b hb, if_neg fun h => hka h.1]
  · by_cases hka : k < a
    · rw [(hnew a hka ha).2, if_pos hka]
    · rw [(hold a ha fun h => hka h.1).2, if_neg hka]

/-- `x[i] -= m[i,k] * x[k]`: the accumulation step of both triangular solves -/
def vecAccStep (m : Mat K) (i : Nat) (x : Array K) (k : Nat) : Res (Array K) := do
  let xk ← aget x k
  let xi ← aget x i
  let ik ← m.get i k
  aset x i (xi - ik * xk)

omit [ScalarExt K] in
theorem accLoop_sdot {m : Mat K} {n k lo hi : Nat} (hm : WFn m n) (hk : k < n) (s : Array K)
    (hs : s.size = n) (hlo : lo ≤ hi) (hhi : hi ≤ n) (hne : ∀ t, lo ≤ t → t < hi → t ≠ k) :
    ∃ s2, forM' lo hi s (vecAccStep m k) = .ok s2 ∧ s2.size = n ∧
      ∀ a, vf s2 a = if a = k then sdot (ent m k) (vf s) (vf s k) lo hi else vf s a := by
  -- position `k` holds the recurrence so far, the others are those of `s`
  obtain ⟨s2, h2, hsz, hk2, hoff⟩ := forM'_inv
    (fun t (u : Array K) => u.size = n ∧ vf u k = sdot (ent m k) (vf s) (vf s k) lo t ∧
      ∀ a, a ≠ k → vf u a = vf s a)
    lo hi s (vecAccStep m k) hlo
    ⟨hs, (sdot_empty _ _ _ (Nat.le_refl lo)).symm, fun _ _ => rfl⟩ (by
      intro t u ht1 ht2 ⟨hu, hk', hoff⟩
      have htn : t < n := Nat.lt_of_lt_of_le ht2 hhi
      have hku : k < u.size := hu ▸ hk
      refine ⟨u.setIfInBounds k (vf u k - ent m k t * vf u t), ?_, by simpa using hu, ?_,
        fun a ha => by rw [vf_set _ hku, if_neg ha]; exact hoff a ha⟩
      · simp only [vecAccStep, aget_vf (hu ▸ htn), aget_vf hku, hm.get hk htn, bind, Except.bind]
        exact aset_ok _ hku
      · rw [vf_set _ hku, if_pos rfl, hk', hoff t (hne t ht1 ht2), sdot_succ _ _ _ ht1])
  refine ⟨s2, h2, hsz, fun a => ?_⟩
  by_cases ha : a = k
  · rw [if_pos ha, ha, hk2]
  · rw [if_neg ha, hoff a ha]

theorem mulVec_fold [Add K] [Neg K] [One K] [BEq K] {m : Mat K} {n : Nat} (hm : WFn m n)
    {v : Array K} (hv : v.size = n) :
    ∃ w, mulVec m v = .ok w ∧ w.size = n ∧ ∀ r, r < n →
      vf w r = ((List.range n).map (fun t => ent m r t * vf v t)).foldl (· + ·) 0 := by
  refine ⟨_, mulVec_spec hm.is v hv, by simp, fun r hr => ?_⟩
  have e : v = ((List.range n).map (vf v)).toArray := hv ▸ eq_map_range v 0
  rw [vf, List.getElem?_toArray, List.getElem?_map, List.getElem?_range hr, Option.map_some,
    Option.getD_some]
  conv_lhs => rw [e]
  simp [List.zipWith_map]

omit [ScalarExt K] in
theorem forwardSub_sdot {m : Mat K} {n : Nat} (hm : WFn m n) {x : Array K} (hx : x.size = n) :
    ∃ y, forwardSub m x = .ok y ∧ y.size = n ∧
      ∀ r, r < n → vf y r = sdot (ent m r) (vf y) (vf x r) 0 r := by
  unfold forwardSub
  rw [hm.2.1]
  obtain ⟨y, hy, hP⟩ := forM'_inv
    (fun i (u : Array K) => u.size = n ∧
      (∀ r, r < i → r < n → vf u r = sdot (ent m r) (vf u) (vf x r) 0 r) ∧
      (∀ r, i ≤ r → vf u r = vf x r))
    0 n x (fun x i => forM' 0 i x (vecAccStep m i)) (Nat.zero_le _)
    ⟨hx, fun r h => absurd h (Nat.not_lt_zero r), fun _ _ => rfl⟩ (by
      intro i u _ hi ⟨hu, hdone, hrest⟩
      obtain ⟨w, hw, hw1, hw2⟩ := accLoop_sdot hm hi u hu (Nat.zero_le i) hi.le
        (fun t _ ht => Nat.ne_of_lt ht)
      have hoff : ∀ a, a ≠ i → vf w a = vf u a := fun a ha => by rw [hw2 a, if_neg ha]
      -- a row `q ≤ i` reads the components `< q`, which this step has not changed
      have hcg : ∀ q, q ≤ i → ∀ c : K,
          sdot (ent m q) (vf w) c 0 q = sdot (ent m q) (vf u) c 0 q := fun q hq c =>
        sdot_congr _ _ _ fun t _ ht => ⟨rfl, hoff t (Nat.ne_of_lt (Nat.lt_of_lt_of_le ht hq))⟩
      refine ⟨w, hw, hw1, fun r hr1 hr2 => ?_, fun r hr => ?_⟩
      · rcases Nat.eq_or_lt_of_le (Nat.le_of_lt_succ hr1) with rfl | hlt
        · rw [hw2 r, if_pos rfl, hcg r (Nat.le_refl r), hrest r (Nat.le_refl r)]
        · rw [hoff r (Nat.ne_of_lt hlt), hcg r (Nat.le_of_lt hlt)]
          exact hdone r hlt hr2
      · rw [hoff r (Nat.ne_of_gt hr)]
        exact hrest r (Nat.le_of_succ_le hr))
  exact ⟨y, hy, hP.1, fun r hr => hP.2.1 r hr hr⟩

/-- the body of the loop of `backsolve`: row `n - nn` -/
def backsolveRow (m : Mat K) (n : Nat) (x : Array K) (nn : Nat) :
    Res (Array K) := do
  let k ← usub n nn
  let x ← forM' (n - nn + 1) n x (fun x j => do
    let xj ← aget x j
    let xk ← aget x k
    let kj ← m.get k j
    aset x k (xk - kj * xj))
  let xk ← aget x k
  let kk ← m.get k k
  let q ← divM xk kk
  aset x k q

omit [Zero K] in
/-- `backsolve` is one descending loop over the rows: its first division (row `n - 1`) is the
    step `nn = 1`, whose accumulation loop is empty -/
theorem backsolve_loop {m : Mat K} {n : Nat} (hm : m.rows = n) (hn : 1 ≤ n)
    (x : Array K) : backsolve m x = forM' 1 (n + 1) x (backsolveRow m n) := by
  have hu : usub n 1 = pure (n - 1) := by
    show usub n 1 = .ok (n - 1)
    simp [usub, hn]
  have he : ∀ f, forM' (n - 1 + 1) n x f = pure x := fun f => forM'_empty _ _ _ _ (by omega)
  unfold backsolve
  rw [hm, forM'_first 1 (n + 1) _ _ (by omega)]
  simp only [backsolveRow, hu, he, pure_bind, bind_assoc]
  rfl

/-- row `i` of the back substitution is finished: the division succeeded and
`x'_i = (x_i - u_{i,i+1} x'_{i+1} - … - u_{i,n-1} x'_{n-1}) / u_ii`, in this order -/
def BSg (m : Mat K) (n : Nat) (x s : Array K) (i : Nat) : Prop :=
  divM (sdot (ent m i) (vf s) (vf x i) (i + 1) n) (ent m i i) = .ok (vf s i)

theorem BSg.congr {m : Mat K} {n : Nat} {x s s' : Array K} {i : Nat}
    (hc : ∀ j, i ≤ j → vf s' j = vf s j) (h : BSg m n x s i) : BSg m n x s' i := by
  unfold BSg at h ⊢
  rw [hc i (Nat.le_refl _), ← h]
  congr 1
  apply sdot_congr
  intro t ht _
  exact ⟨rfl, hc t (by omega)⟩

/-- row `k` of the back substitution -/
def backsolveAt (m : Mat K) (n : Nat) (x : Array K) (k : Nat) : Res (Array K) := do
  let x ← forM' (k + 1) n x (vecAccStep m k)
  let xk ← aget x k
  let kk ← m.get k k
  let q ← divM xk kk
  aset x k q

omit [Zero K] in
/-- `backsolve` row by row, from the last row up: the `n - nn` of the code is met here only -/
theorem backsolve_rows {m : Mat K} {n : Nat} (hm : m.rows = n) (hn : 1 ≤ n) (x : Array K) :
    backsolve m x = (List.range n).reverse.foldlM (backsolveAt m n) x := by
  rw [backsolve_loop hm hn, forM'_congr 1 (n + 1) x (backsolveRow m n)
    (fun s nn => backsolveAt m n s (n - nn)) fun nn s _ h2 => by
      have hu : usub n nn = pure (n - nn) := usub_ok (Nat.le_of_lt_succ h2)
      unfold backsolveRow backsolveAt
      rw [hu, pure_bind]
      rfl,
    range_reverse, List.foldlM_map, forM', Nat.add_sub_cancel]

theorem backsolveAt_eq {m : Mat K} {n k : Nat} (hm : WFn m n) (hk : k < n) (s : Array K)
    (hs : s.size = n) :
    ExRel (fun q (s' : Array K) => s'.size = n ∧ ∀ a, vf s' a = if a = k then q else vf s a)
      (divM (sdot (ent m k) (vf s) (vf s k) (k + 1) n) (ent m k k)) (backsolveAt m n s k) := by
  obtain ⟨s2, hs2, hsz, hv⟩ := accLoop_sdot hm hk s hs (Nat.succ_le_of_lt hk) (Nat.le_refl n)
    (fun t ht _ => Nat.ne_of_gt ht)
  have hk2 : k < s2.size := hsz ▸ hk
  simp only [backsolveAt, hs2, bind, Except.bind, aget_vf hk2, hm.get hk hk, hv k, if_true]
  cases divM (sdot (ent m k) (vf s) (vf s k) (k + 1) n) (ent m k k) with
  | error e => rfl
  | ok q =>
    show ExRel _ (.ok q) (aset s2 k q)
    rw [aset_ok _ hk2]
    refine ⟨by simpa using hsz, fun a => ?_⟩
    rw [vf_set _ hk2, hv a]
    by_cases ha : a = k
    · rw [if_pos ha, if_pos ha]
    · rw [if_neg ha, if_neg ha, if_neg ha]

theorem backsolve_total_of {m : Mat K} {n : Nat} {x : Array K} (hm : WFn m n) (hx : x.size = n)
    (hn : 1 ≤ n) (hd : ∀ i, i < n → ∀ a : K, ∃ q, divM a (ent m i i) = .ok q) :
    ∃ x', backsolve m x = .ok x' := by
  rw [backsolve_rows hm.2.1 hn]
  obtain ⟨x', hx', _⟩ := foldlM_rev_inv (fun _ (s : Array K) => s.size = n) (backsolveAt m n) n x
    hx fun k s hk hs => by
      obtain ⟨q, hq⟩ := hd k hk (sdot (ent m k) (vf s) (vf s k) (k + 1) n)
      obtain ⟨s', hs', hsz, _⟩ := (hq ▸ backsolveAt_eq hm hk s hs).of_ok_left
      exact ⟨s', hs', hsz⟩
  exact ⟨x', hx'⟩

theorem backsolve_sdot {m : Mat K} {n : Nat} {x x' : Array K} (hm : WFn m n) (hx : x.size = n)
    (hn : 1 ≤ n) (h : backsolve m x = .ok x') :
    x'.size = n ∧ ∀ i, i < n → BSg m n x x' i := by
  rw [backsolve_rows hm.2.1 hn] at h
  -- the rows `≥ k` are solved, the rows `< k` are still those of `x`
  obtain ⟨hsz, _, hdone⟩ := foldlM_rev_ok_inv
    (fun k (s : Array K) => s.size = n ∧ (∀ i, i < k → vf s i = vf x i) ∧
      (∀ i, k ≤ i → i < n → BSg m n x s i))
    (backsolveAt m n) n x x' ⟨hx, fun _ _ => rfl, fun i h1 h2 => absurd h2 (Nat.not_lt.2 h1)⟩
    (fun k s s1 hk ⟨hs, hun, hdone⟩ hf => by
      obtain ⟨q, hq, hsz, hv⟩ := (hf ▸ backsolveAt_eq hm hk s hs).of_ok_right
      have hoff : ∀ a, a ≠ k → vf s1 a = vf s a := fun a ha => by rw [hv a, if_neg ha]
      refine ⟨hsz, fun i hi => ?_, fun i hi1 hi2 => ?_⟩
      · rw [hoff i (Nat.ne_of_lt hi)]
        exact hun i (Nat.lt_succ_of_lt hi)
      · rcases Nat.eq_or_lt_of_le hi1 with rfl | hlt
        · -- the row just solved reads the rows below it, which it has not changed
          unfold BSg
          rw [hv k, if_pos rfl, ← hq, hun k (Nat.lt_succ_self k)]
          congr 1
          exact sdot_congr _ _ _ fun t ht _ => ⟨rfl, hoff t (Nat.ne_of_gt ht)⟩
        · exact (hdone i hlt hi2).congr fun j hj =>
            hoff j (Nat.ne_of_gt (Nat.lt_of_lt_of_le hlt hj)))
    h
  exact ⟨hsz, fun i hi => hdone i (Nat.zero_le i) hi⟩

theorem luElimRow_total {m : Mat K} {n i j : Nat} (hm : WFn m n) (hi : i < n) (hj : j < n)
    (hij : i < j) {q : K} (hq : divM (ent m j i) (ent m i i) = .ok q) :
    ∃ m', luElimRow i m j = .ok m' ∧ WFn m' n ∧
    ∀ a c, a < n → c < n → ent m' a c =
      if a = j then
        (if c = i then q else if i < c then ent m j c - q * ent m i c else ent m j c)
      else ent m a c := by
  obtain ⟨m1, hm1, hI1⟩ := hm.is.set hj hi q
  obtain ⟨m', hm', hP⟩ := hI1.rowLoop_reads hj (Nat.succ_le_of_lt hi) (Nat.le_refl n)
    (fun b => ent m j b - q * ent m i b)
    (fun m k => do
      let ji ← m.get j i
      let ik ← m.get i k
      let jk ← m.get j k
      m.set j k (jk - ji * ik))
    (fun k s hk1 hk2 hread => by
      have hki : k ≠ i := Nat.ne_of_gt hk1
      rw [hread j i hj hi fun _ => Or.inl (Nat.lt_succ_self i), if_pos ⟨rfl, rfl⟩,
        hread i k hi hk2 fun h => absurd h (Nat.ne_of_lt hij), if_neg fun h => Nat.ne_of_lt hij h.1,
        hread j k hj hk2 fun _ => Or.inr (Nat.le_refl k), if_neg fun h => hki h.2]
      rfl)
  refine ⟨m', ?_, hP.wfn, fun a c ha hc => ?_⟩
  · simp only [bind, Except.bind] at hm'
    simp only [luElimRow, hm.get hi hi, hm.get hj hi, hq, hm1, bind, Except.bind, hI1.rows, hm']
  · rw [hP.ent_eq ha hc]
    by_cases haj : a = j
    · by_cases hci : c = i
      · have : ¬ (i + 1 ≤ i) := by omega
        simp only [haj, hci, this, true_and, false_and, if_false, and_self, if_true]
      · have : (i + 1 ≤ c ∧ c < n) ↔ i < c := by omega
        simp only [haj, hci, this, true_and, and_false, if_false, if_true]
    · simp only [haj, false_and, if_false]

/-- Nothing is assumed about `s.perm`: its exchange is left as it stands in the code. -/
theorem luStep_eq [BEq K] {s : LU K} {n : Nat} {w : Nat → Nat → K} (hw : Is s.lu n n w) {i : Nat}
    (hi : i < n) {mx : K} {imax : Nat} (hpv : luPivot s.lu i = .ok (mx, imax)) (h2 : imax < n) :
    ((mx == 0) = true → luStep s i = .ok s) ∧
    ((mx == 0) = false → ∃ l, Is l n n (swapFn w i imax) ∧
      luStep s i = ((if imax = i then .ok s.perm else swapRows s.perm i imax) >>= fun p =>
        (forM' (i + 1) n l (luElimRow i)).map fun l' =>
          { lu := l', perm := p, pivots := s.pivots + (if imax = i then 0 else 1) })) := by
  unfold luStep
  simp only [hpv, bind, Except.bind]
  refine ⟨fun h0 => by rw [if_pos h0]; rfl, fun h0 => ?_⟩
  rw [if_neg (by rw [h0]; exact Bool.false_ne_true)]
  by_cases himax : imax = i
  · subst himax
    refine ⟨s.lu, by rw [swapFn_self]; exact hw, ?_⟩
    simp only [ne_eq, not_true_eq_false, if_false, if_true, pure, Except.pure, hw.rows,
      Nat.add_zero]
    cases forM' (imax + 1) n s.lu (luElimRow imax) <;> rfl
  · obtain ⟨l', hl', hIl⟩ := swapRows_spec hw hi h2
    refine ⟨l', hIl, ?_⟩
    simp only [ne_eq, himax, not_false_eq_true, if_true, if_false, hl', pure, Except.pure]
    cases swapRows s.perm i imax with
    | error e => rfl
    | ok p =>
      simp only [hIl.rows]
      cases forM' (i + 1) n l' (luElimRow i) <;> rfl

end Structural

section GaussStep
variable {K : Type} [Sub K] [Mul K] [Zero K] [ScalarExt K]

/-- one step of `gauss_with_pivot` (the body of its outer loop) -/
def gaussStep (mx : Mat K × Array K) (k : Nat) : Res (Mat K × Array K) := do
  let mx1 ← partialPivot mx.1 mx.2 k
  forM' (k + 1) mx1.1.rows mx1 (elimRow k)

theorem gaussWithPivot_eq (m : Mat K) (x : Array K) :
    gaussWithPivot m x = (do
      let n1 ← usub m.rows 1
      forM' 0 n1 (m, x) gaussStep) := by
  unfold gaussWithPivot
  cases usub m.rows 1 with
  | error e => rfl
  | ok n1 =>
    simp only [bind, Except.bind]
    congr 1

end GaussStep

section Columns
variable {K : Type} [Zero K]

/-- column `j` of `inv` is the vector `x`; the other columns are those of `v`.  `inverse` works on
column `j` of its matrix exactly as `forwardSub` / `backsolve` work on a vector (the same reads in
the same order): the relation is kept by every step, with the same outcome on both sides. -/
def ColRel (n j : Nat) (v : Nat → Nat → K) (inv : Mat K) (x : Array K) : Prop :=
  x.size = n ∧ Is inv n n (fun a b => if b = j then vf x a else v a b)

theorem ColRel.of_is {n : Nat} {v : Nat → Nat → K} {inv : Mat K} (h : Is inv n n v) (j : Nat) :
    ColRel n j v inv (colArr n v j) :=
  ⟨colArr_size v j, h.congr fun a b ha _ => by
    by_cases hb : b = j
    · rw [if_pos hb, vf_colArr v j ha, hb]
    · rw [if_neg hb]⟩

variable {n i j k : Nat} {v : Nat → Nat → K} {lu inv : Mat K} {x : Array K}

theorem ColRel.get (h : ColRel n j v inv x) (hi : i < n) (hj : j < n) :
    inv.get i j = .ok (vf x i) := by
  rw [h.2.get hi hj, if_pos rfl]

theorem ColRel.set (h : ColRel n j v inv x) (hi : i < n) (hj : j < n) (q : K) :
    ExRel (ColRel n j v) (inv.set i j q) (aset x i q) := by
  obtain ⟨hx, hI⟩ := h
  obtain ⟨inv', h1, h2⟩ := hI.set hi hj q
  have hix : i < x.size := by omega
  rw [h1, aset_ok _ hix]
  refine ⟨by simpa using hx, h2.congr fun a b _ _ => ?_⟩
  by_cases hb : b = j
  · simp only [hb, and_true, if_true, vf_set _ hix]
  · simp only [hb, and_false, if_false]

variable [Sub K] [Mul K]

/-- `inv[i,j] -= lu[i,k] * inv[k,j]`: the accumulation step of both substitutions of `inverse` -/
def invAccStep (lu : Mat K) (i j : Nat) (inv : Mat K) (k : Nat) : Res (Mat K) := do
  let kj ← inv.get k j
  let ij ← inv.get i j
  let ik ← lu.get i k
  inv.set i j (ij - ik * kj)

theorem ColRel.acc (h : ColRel n j v inv x) (hw : WFn lu n) (hi : i < n) (hj : j < n)
    (hk : k < n) :
    ExRel (ColRel n j v) (invAccStep lu i j inv k) (vecAccStep lu i x k) := by
  unfold invAccStep vecAccStep
  rw [h.get hk hj, h.get hi hj, aget_vf (show k < x.size by rw [h.1]; exact hk),
    aget_vf (show i < x.size by rw [h.1]; exact hi), hw.get hi hk]
  exact h.set hi hj _

theorem ColRel.fwd (h : ColRel n j v inv x) (hw : WFn lu n) (hj : j < n) :
    ExRel (ColRel n j v) (forM' 0 n inv (fun inv i => forM' 0 i inv (invAccStep lu i j)))
      (forwardSub lu x) := by
  unfold forwardSub
  rw [hw.2.1]
  exact forM'_sim _ 0 n inv x _ _ h fun i s t _ hi hst =>
    forM'_sim _ 0 i s t _ (vecAccStep lu i) hst fun k s t _ hk hst =>
      hst.acc hw hi hj (by omega)

variable [ScalarExt K]

/-- one row of the back substitution of `inverse` on column `j` -/
def invBackRow (lu : Mat K) (n j : Nat) (inv : Mat K) (i : Nat) : Res (Mat K) := do
  let inv ← forM' (i + 1) n inv (invAccStep lu i j)
  let ij ← inv.get i j
  let ii ← lu.get i i
  let q ← divM ij ii
  inv.set i j q

/-- one column of `inverse`: forward, then back substitution in place on column `j` -/
def invCol (lu : Mat K) (n : Nat) (inv : Mat K) (j : Nat) : Res (Mat K) := do
  let inv ← forM' 0 n inv (fun inv i => forM' 0 i inv (invAccStep lu i j))
  (List.range n).reverse.foldlM (invBackRow lu n j) inv

theorem inverse_eq [One K] [BEq K] (m : Mat K) :
    inverse m = (if m.rows ≠ m.cols then .error .size else do
      let s ← luDecomp m
      forM' 0 m.rows s.perm (invCol s.lu m.rows)) := rfl

theorem ColRel.backRow (h : ColRel n j v inv x) (hw : WFn lu n) (hj : j < n) (hi : i < n) :
    ExRel (ColRel n j v) (invBackRow lu n j inv i) (backsolveAt lu n x i) := by
  unfold invBackRow backsolveAt
  refine ExRel.bind (forM'_sim _ _ _ _ _ _ (vecAccStep lu i) h
    fun k s t _ hk2 hst => hst.acc hw hi hj hk2) fun s1 t1 h1 => ?_
  rw [h1.get hi hj, aget_vf (show i < t1.size by rw [h1.1]; exact hi), hw.get hi hi]
  show ExRel _ (divM _ _ >>= fun q => s1.set _ j q) (divM _ _ >>= fun q => aset t1 _ q)
  exact ExRel.bind_same _ fun q _ => h1.set hi hj q

theorem ColRel.back (h : ColRel n j v inv x) (hw : WFn lu n) (hj : j < n) :
    ExRel (ColRel n j v) ((List.range n).reverse.foldlM (invBackRow lu n j) inv)
      (backsolve lu x) := by
  rw [backsolve_rows hw.2.1 (Nat.one_le_of_lt hj)]
  exact foldlM_sim _ _ _ _ inv x h fun i hi s t hst =>
    hst.backRow hw hj (List.mem_range.1 (List.mem_reverse.1 hi))

theorem ColRel.col (h : ColRel n j v inv x) (hw : WFn lu n) (hj : j < n) :
    ExRel (ColRel n j v) (invCol lu n inv j) (forwardSub lu x >>= backsolve lu) :=
  ExRel.bind (h.fwd hw hj) fun _ _ h1 => h1.back hw hj

theorem inverseLoop_sdot {lu p B : Mat K} {n : Nat} {pe : Nat → Nat → K} (hw : WFn lu n)
    (hp : Is p n n pe)
    (h : forM' 0 n p (invCol lu n) = .ok B) :
    ∃ b : Nat → Nat → K, Is B n n b ∧
      ∀ c, c < n → ∃ y : Nat → K,
        (∀ r, r < n → y r = sdot (ent lu r) y (pe r c) 0 r) ∧
        (∀ i, i < n →
          divM (sdot (ent lu i) (fun k => b k c) (y i) (i + 1) n) (ent lu i i) = .ok (b i c)) := by
  obtain ⟨b, hb, _, hcols⟩ := forM'_ok_inv
    (fun j (s : Mat K) => ∃ b : Nat → Nat → K, Is s n n b ∧
      (∀ r c, j ≤ c → b r c = pe r c) ∧
      ∀ c, c < j → ∃ y : Nat → K,
        (∀ r, r < n → y r = sdot (ent lu r) y (pe r c) 0 r) ∧
        (∀ i, i < n →
          divM (sdot (ent lu i) (fun k => b k c) (y i) (i + 1) n) (ent lu i i) = .ok (b i c)))
    0 n p B _ (Nat.zero_le _)
    ⟨pe, hp, fun _ _ _ => rfl, fun c hc => by omega⟩
    (by
      rintro j s s1 _ hj ⟨b, hb, hrest, hcols⟩ hf
      -- column `j` is solved as a vector
      have hsim := (ColRel.of_is hb j).col hw hj
      rw [hf] at hsim
      obtain ⟨z, hz, _, hI⟩ := hsim.of_ok_left
      obtain ⟨y, hy, hyz⟩ := bind_eq_ok hz
      obtain ⟨y', hy', hyn, hyrec⟩ := forwardSub_sdot hw (colArr_size (n := n) b j)
      cases hy.symm.trans hy'
      obtain ⟨_, hzrec⟩ := backsolve_sdot hw hyn (by omega) hyz
      refine ⟨fun a c => if c = j then vf z a else b a c, hI, fun r c hc => ?_, fun c hc => ?_⟩
      · have hcj : ¬ c = j := by omega
        simp only [hcj, if_false]
        exact hrest r c (by omega)
      · by_cases hcj : c = j
        · subst hcj
          refine ⟨vf y, fun r hr => ?_, fun i hi => ?_⟩
          · rw [hyrec r hr, vf_colArr b c hr, hrest r c (le_refl _)]
          · simp only [if_true]
            exact hzrec i hi
        · obtain ⟨y', hy1, hy2⟩ := hcols c (by omega)
          refine ⟨y', hy1, fun i hi => ?_⟩
          simp only [hcj, if_false]
          exact hy2 i hi) h
  exact ⟨b, hb, hcols⟩

theorem inverse_sdot [One K] [BEq K] {A X : Mat K} {n : Nat} (hA : WFn A n) (h : inverse A = .ok X) :
    ∃ s : LU K, luDecomp A = .ok s ∧
      ∀ pe : Nat → Nat → K, WFn s.lu n → Is s.perm n n pe →
        ∃ b : Nat → Nat → K, Is X n n b ∧
          ∀ c, c < n → ∃ y : Nat → K,
            (∀ r, r < n → y r = sdot (ent s.lu r) y (pe r c) 0 r) ∧
            (∀ i, i < n → divM (sdot (ent s.lu i) (fun k => b k c) (y i) (i + 1) n)
              (ent s.lu i i) = .ok (b i c)) := by
  rw [inverse_eq] at h
  have h2 : ¬ A.rows ≠ A.cols := by rw [hA.2.1, hA.2.2]; simp
  simp only [h2, if_false] at h
  obtain ⟨s, hd, h⟩ := bind_eq_ok h
  refine ⟨s, hd, fun pe hw hp => ?_⟩
  rw [hA.2.1] at h
  exact inverseLoop_sdot hw hp h

end Columns

section Det
variable {K : Type} [Mul K]

/-- the loop `d *= l[i][g i]`, `i < n`, is the left fold of the products (the diagonal product of
    `determinant`, `g = id`; the pivot product of `Band.det`, `g = 0`) -/
theorem prodLoop_fold {l : Mat K} {r c n : Nat} {e : Nat → Nat → K} (h : Is l r c e) (g : Nat → Nat)
    (hg : ∀ i, i < n → i < r ∧ g i < c) (d : K) :
    forM' 0 n d (fun d i => do
      let x ← l.get i (g i)
      pure (d * x)) = .ok ((List.range n).foldl (fun d i => d * e i (g i)) d) :=
  forM'_eq_foldl n _ _ d fun s i hi => by
    simp only [h.get (hg i hi).1 (hg i hi).2, bind, Except.bind, pure, Except.pure]

variable [Sub K] [Neg K] [Zero K] [One K] [BEq K] [ScalarExt K]

theorem determinant_eq_fold {A : Mat K} {s : LU K} {n : Nat} {w : Nat → Nat → K}
    (hs : luDecomp A = .ok s) (hr : A.rows = n) (hw : Is s.lu n n w) :
    determinant A = .ok (if s.pivots % 2 == 0 then (List.range n).foldl (fun d i => d * w i i) 1
      else -(List.range n).foldl (fun d i => d * w i i) 1) := by
  have hf := prodLoop_fold hw (fun i => i) (fun i hi => ⟨hi, hi⟩) (1 : K) (n := n)
  unfold determinant
  rw [hs, hr]
  exact (congrArg (· >>= fun d => pure (if s.pivots % 2 == 0 then d else -d)) hf).trans rfl

theorem determinant_ok_luDecomp {A : Mat K} {d : K} (h : determinant A = .ok d) :
    ∃ s, luDecomp A = .ok s := by
  unfold determinant at h
  obtain ⟨s, hd, _⟩ := bind_eq_ok h
  exact ⟨s, hd⟩

end Det

end Mat
end Ohsl
