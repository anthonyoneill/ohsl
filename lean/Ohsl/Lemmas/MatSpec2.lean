/-
  Ohsl.Lemmas.MatSpec2 — pointwise specifications (class (S): any scalar type, arbitrary
  operations, no algebraic law) of the remaining dense-matrix model operations: elementwise
  arithmetic, row editing, fills, identity, resize, delete_row, transpose (both code paths); and
  `run_refines`: on every history of such operations the model refines a reference semantics on
  `(rows, cols, entries)`.  Core Lean only.
-/
import Ohsl.Lemmas.MatSpec
namespace Ohsl
namespace Mat
variable {K : Type}

/-- Generic "entry by entry" nested loop: if step `(i,j)` overwrites exactly entry `(i,j)` with
    `v i j` (it may rely on that entry still having its initial value), the double loop over
    `r × c` produces the matrix `v`. -/
theorem build_spec {r c : Nat} {e0 v : Nat → Nat → K} {s0 : Mat K} (h0 : Is s0 r c e0)
    {F : Mat K → Nat → Res (Mat K)} {f : Mat K → Nat → Nat → Res (Mat K)}
    (hF : ∀ i s es, i < r → Is s r c es → F s i = forM' 0 c s (fun s j => f s i j))
    (hf : ∀ i j s es, i < r → j < c → Is s r c es → es i j = e0 i j →
      ∃ s', f s i j = .ok s' ∧ Is s' r c (fun a b => if a = i ∧ b = j then v i j else es a b)) :
    ∃ s', forM' 0 r s0 F = .ok s' ∧ Is s' r c v := by
  refine h0.forM'_rows fun i s es hi hs hrow => ?_
  rw [hF i s es hi hs]
  refine hs.forM'_cols fun j t et hj ht hcol => ?_
  obtain ⟨t', ht', hI⟩ := hf i j t et hi hj ht ((hcol i).trans (hrow j))
  refine ⟨t', ht', hI.congr fun a b _ _ => ?_⟩
  by_cases hb : b = j
  · subst hb
    by_cases ha : a = i
    · simp only [ha, and_self, if_true]
    · simp only [ha, false_and, if_false, if_true, hcol a]
  · simp only [hb, and_false, if_false]

/-- the transposition of `i` and `k` -/
def swapIdx (i k r : Nat) : Nat := if r = i then k else if r = k then i else r

theorem swapIdx_apply {α : Type} (f : Nat → α) (i k r : Nat) :
    f (swapIdx i k r) = if r = i then f k else if r = k then f i else f r := by
  unfold swapIdx
  split
  · rfl
  · split <;> rfl

theorem swapIdx_left (i k : Nat) : swapIdx i k i = k := if_pos rfl

theorem swapIdx_right (i k : Nat) : swapIdx i k k = i := by
  unfold swapIdx
  split
  · exact ‹k = i›
  · exact if_pos rfl

theorem swapIdx_self (i r : Nat) : swapIdx i i r = r := by
  unfold swapIdx
  split
  · exact Eq.symm ‹r = i›
  · rfl

theorem swapIdx_invol (i k r : Nat) : swapIdx i k (swapIdx i k r) = r := by
  rw [swapIdx_apply (swapIdx i k), swapIdx_right, swapIdx_left]
  split
  · exact Eq.symm ‹r = i›
  · split
    · exact Eq.symm ‹r = k›
    · unfold swapIdx
      rw [if_neg ‹¬ r = i›, if_neg ‹¬ r = k›]

theorem swapIdx_lt {n i k r : Nat} (hi : i < n) (hk : k < n) (hr : r < n) : swapIdx i k r < n := by
  rw [swapIdx_apply (· < n)]
  split
  · exact hk
  · split
    · exact hi
    · exact hr

theorem swapIdx_ge {lo i k r : Nat} (hi : lo ≤ i) (hk : lo ≤ k) (hr : lo ≤ r) :
    lo ≤ swapIdx i k r := by
  rw [swapIdx_apply (lo ≤ ·)]
  split
  · exact hk
  · split
    · exact hi
    · exact hr

theorem swapIdx_of_lt {lo i k r : Nat} (hi : lo ≤ i) (hk : lo ≤ k) (hr : r < lo) :
    swapIdx i k r = r := by
  unfold swapIdx
  rw [if_neg fun h : r = i => Nat.lt_irrefl _ (Nat.lt_of_lt_of_le (h ▸ hr) hi),
    if_neg fun h : r = k => Nat.lt_irrefl _ (Nat.lt_of_lt_of_le (h ▸ hr) hk)]

theorem swapIdx_of_ne {k ip r : Nat} (h1 : r ≠ k) (h2 : r ≠ ip) : swapIdx k ip r = r := by
  unfold swapIdx; rw [if_neg h1, if_neg h2]

theorem swapIdx_min {lo i k : Nat} (hi : lo ≤ i) (hk : lo ≤ k) (r : Nat) :
    min (swapIdx i k r) lo = min r lo := by
  rcases Nat.lt_or_ge r lo with hr | hr
  · rw [swapIdx_of_lt hi hk hr]
  · rw [Nat.min_eq_right (swapIdx_ge hi hk hr), Nat.min_eq_right hr]

/-- entries after exchanging rows `r1` and `r2` -/
def swapFn (w : Nat → Nat → K) (r1 r2 : Nat) : Nat → Nat → K := fun a b =>
  if a = r1 then w r2 b else if a = r2 then w r1 b else w a b

theorem swapFn_eq_swapIdx {α : Type} (w : Nat → Nat → α) (i k r c : Nat) :
    swapFn w i k r c = w (swapIdx i k r) c :=
  (swapIdx_apply (fun a => w a c) i k r).symm

theorem swapFn_self (w : Nat → Nat → K) (r : Nat) : swapFn w r r = w := by
  funext a b
  rw [swapFn_eq_swapIdx, swapIdx_self]

theorem swapElem_spec {m : Mat K} {r c : Nat} {e : Nat → Nat → K} (h : Is m r c e)
    {i1 j1 i2 j2 : Nat} (hi1 : i1 < r) (hj1 : j1 < c) (hi2 : i2 < r) (hj2 : j2 < c) :
    ∃ m', swapElem m i1 j1 i2 j2 = .ok m' ∧
      Is m' r c (fun a b => if a = i1 ∧ b = j1 then e i2 j2
                            else if a = i2 ∧ b = j2 then e i1 j1 else e a b) := by
  obtain ⟨s1, hs1, hI1⟩ := h.set hi2 hj2 (e i1 j1)
  obtain ⟨s2, hs2, hI2⟩ := hI1.set hi1 hj1 (e i2 j2)
  refine ⟨s2, ?_, hI2⟩
  simp only [swapElem, h.get hi1 hj1, h.get hi2 hj2, hs1, bind, Except.bind]
  exact hs2

theorem swapRows_spec {m : Mat K} {r c : Nat} {e : Nat → Nat → K} (h : Is m r c e) {r1 r2 : Nat}
    (h1 : r1 < r) (h2 : r2 < r) :
    ∃ m', swapRows m r1 r2 = .ok m' ∧ Is m' r c (swapFn e r1 r2) := by
  have hg : ¬ (r ≤ r1 ∨ r ≤ r2) := not_or.mpr ⟨Nat.not_le.mpr h1, Nat.not_le.mpr h2⟩
  simp only [swapRows, h.rows, h.cols, hg, if_false]
  refine h.forM'_cols fun k s es hk hs he => ?_
  obtain ⟨s', hs', hI⟩ := swapElem_spec hs h1 hk h2 hk
  refine ⟨s', hs', hI.congr fun a b _ _ => ?_⟩
  by_cases hb : b = k
  · subst hb
    simp only [and_true, if_true, he]
    rfl
  · simp only [hb, and_false, if_false]

theorem swapRows_rejects (m : Mat K) (r1 r2 : Nat) (h : m.rows ≤ r1 ∨ m.rows ≤ r2) :
    swapRows m r1 r2 = .error .range := by
  simp [swapRows, h]

theorem setRow_spec {m : Mat K} {r c : Nat} {e : Nat → Nat → K} (h : Is m r c e) {row : Nat}
    (v : Array K) (hv : v.size = c) (hr : row < r) :
    ∃ m', setRow m row v = .ok m' ∧
      Is m' r c (fun i j => if i = row then v[j]?.getD (e i j) else e i j) := by
  have h1 : ¬ v.size ≠ c := fun h => h hv
  have h2 : ¬ r ≤ row := Nat.not_le.mpr hr
  simp only [setRow, h.rows, h.cols, h1, h2, if_false]
  refine h.forM'_cols fun k s es hk hs he => ?_
  have hkv : k < v.size := hv ▸ hk
  obtain ⟨s', hs', hI⟩ := hs.set hr hk v[k]
  refine ⟨s', by simpa [aget_ok hkv, Mat.set, bind, Except.bind] using hs',
    hI.congr fun a b _ _ => ?_⟩
  by_cases hb : b = k
  · subst hb
    by_cases ha : a = row
    · simp only [ha, and_self, if_true, Array.getElem?_eq_getElem hkv, Option.getD_some]
    · simp only [ha, false_and, if_false, if_true, he a]
  · simp only [hb, and_false, if_false]

theorem setRow_rejects (m : Mat K) (row : Nat) (v : Array K) (h : v.size ≠ m.cols ∨ m.rows ≤ row) :
    ∃ e, setRow m row v = .error e := by
  unfold setRow
  by_cases h1 : v.size ≠ m.cols
  · exact ⟨.size, by simp [h1]⟩
  · have h2 : m.rows ≤ row := h.resolve_left h1
    exact ⟨.range, by simp [h1, h2]⟩

theorem fill_spec {m : Mat K} {r c : Nat} {e : Nat → Nat → K} (h : Is m r c e) (x : K) :
    ∃ m', fill m x = .ok m' ∧ Is m' r c (fun _ _ => x) := by
  simp only [fill, h.rows]
  exact build_spec h (f := fun m i j => m.set i j x) (fun i s es _ hs => by simp only [hs.cols])
    fun i j s es hi hj hs _ => hs.set hi hj x

/-- the loop of `fill_diag` and of `eye`: the first `n` diagonal entries are set -/
theorem diag_spec {m : Mat K} {r c : Nat} {e : Nat → Nat → K} (h : Is m r c e) {n : Nat}
    (hr : n ≤ r) (hc : n ≤ c) (x : K) :
    ∃ m', forM' 0 n m (fun m i => m.set i i x) = .ok m' ∧
      Is m' r c (fun i j => if i = j ∧ i < n then x else e i j) :=
  h.forM'_writes (fun t a b => a = b ∧ a < t) (fun _ _ => x) (Nat.zero_le n)
    (fun a _ _ _ h0 => Nat.not_lt_zero a h0.2) fun t _ _ ht _ =>
      ⟨t, t, Nat.lt_of_lt_of_le ht hr, Nat.lt_of_lt_of_le ht hc, rfl, fun _ _ _ _ =>
        ⟨fun ⟨hab, h⟩ => (Nat.lt_succ_iff_lt_or_eq.mp h).imp (fun h => ⟨hab, h⟩) fun h => ⟨h, hab ▸ h⟩,
          fun h => h.elim (fun h => ⟨h.1, Nat.lt_succ_of_lt h.2⟩)
            fun h => ⟨h.1.trans h.2.symm, h.1 ▸ Nat.lt_succ_self t⟩⟩⟩

theorem fillDiag_spec {m : Mat K} {r c : Nat} {e : Nat → Nat → K} (h : Is m r c e) (x : K) :
    ∃ m', fillDiag m x = .ok m' ∧ Is m' r c (fun i j => if i = j then x else e i j) := by
  have hn : (if c < r then c else r) = min r c := by
    by_cases hcr : c < r
    · rw [if_pos hcr, Nat.min_eq_right (Nat.le_of_lt hcr)]
    · rw [if_neg hcr, Nat.min_eq_left (Nat.le_of_not_lt hcr)]
  simp only [fillDiag, h.rows, h.cols, hn]
  obtain ⟨m', h1, h2⟩ := diag_spec h (Nat.min_le_left r c) (Nat.min_le_right r c) x
  exact ⟨m', h1, h2.congr fun a b ha hb =>
    ite_congr (propext ⟨fun h => h.1, fun h => ⟨h, Nat.lt_min.mpr ⟨ha, h ▸ hb⟩⟩⟩) (fun _ => rfl)
      fun _ => rfl⟩

theorem fillRow_spec {m : Mat K} {r c : Nat} {e : Nat → Nat → K} (h : Is m r c e) {row : Nat}
    (hr : row < r) (x : K) :
    ∃ m', fillRow m row x = .ok m' ∧ Is m' r c (fun i j => if i = row then x else e i j) := by
  have hg : ¬ r ≤ row := Nat.not_le.mpr hr
  simp only [fillRow, h.rows, h.cols, hg, if_false]
  refine h.forM'_cols fun k s es hk hs he => ?_
  obtain ⟨s', hs', hI⟩ := hs.set hr hk x
  refine ⟨s', hs', hI.congr fun a b _ _ => ?_⟩
  by_cases hb : b = k
  · subst hb
    simp only [and_true, if_true, he]
  · simp only [hb, and_false, if_false]

theorem fillRow_rejects (m : Mat K) (row : Nat) (x : K) (h : m.rows ≤ row) :
    fillRow m row x = .error .range := by
  simp [fillRow, h]

theorem fillCol_spec {m : Mat K} {r c : Nat} {e : Nat → Nat → K} (h : Is m r c e) {col : Nat}
    (hc : col < c) (x : K) :
    ∃ m', fillCol m col x = .ok m' ∧ Is m' r c (fun i j => if j = col then x else e i j) := by
  have hg : ¬ c ≤ col := Nat.not_le.mpr hc
  simp only [fillCol, h.rows, h.cols, hg, if_false]
  refine h.forM'_rows fun k s es hk hs he => ?_
  obtain ⟨s', hs', hI⟩ := hs.set hk hc x
  refine ⟨s', hs', hI.congr fun a b _ _ => ?_⟩
  by_cases ha : a = k
  · subst ha
    simp only [true_and, if_true, he]
  · simp only [ha, false_and, if_false]

theorem fillCol_rejects (m : Mat K) (col : Nat) (x : K) (h : m.cols ≤ col) :
    fillCol m col x = .error .range := by
  simp [fillCol, h]

theorem getElem?_extract_append_extract {α : Type} (d : Array α) {p q : Nat} (hp : p ≤ q)
    (hq : q ≤ d.size) (t : Nat) :
    (d.extract 0 p ++ d.extract q d.size)[t]? = if t < p then d[t]? else d[t + (q - p)]? := by
  have hpd : min p d.size = p := Nat.min_eq_left (Nat.le_trans hp hq)
  rw [Array.getElem?_append, Array.getElem?_extract, Array.getElem?_extract, Array.size_extract,
    hpd, Nat.min_self, Nat.sub_zero, Nat.zero_add]
  by_cases ht : t < p
  · rw [if_pos ht, if_pos ht, if_pos ht]
  · rw [if_neg ht, if_neg ht, ← Nat.add_sub_assoc (Nat.le_of_not_lt ht), Nat.add_comm q t,
      Nat.add_sub_assoc hp]
    by_cases h2 : t - p < d.size - q
    · rw [if_pos h2]
    · rw [if_neg h2, Array.getElem?_eq_none (by omega)]

theorem size_extract_append_extract {α : Type} (d : Array α) {p q : Nat} (hp : p ≤ q)
    (hq : q ≤ d.size) : (d.extract 0 p ++ d.extract q d.size).size = d.size - (q - p) := by
  rw [Array.size_append, Array.size_extract, Array.size_extract, Nat.min_self,
    Nat.min_eq_left (Nat.le_trans hp hq), Nat.sub_zero]
  omega

theorem deleteRow_spec {m : Mat K} {r c : Nat} {e : Nat → Nat → K} (h : Is m r c e) {row : Nat}
    (hr : row < r) :
    ∃ m', deleteRow m row = .ok m' ∧
      Is m' (r - 1) c (fun i j => if i < row then e i j else e (i + 1) j) := by
  have hsz := h.size
  have e1 : (row + 1) * c = row * c + c := Nat.succ_mul _ _
  have e2 : (row + 1) * c ≤ m.data.size := hsz ▸ Nat.mul_le_mul_right _ hr
  have e3 : row * c ≤ (row + 1) * c := e1 ▸ Nat.le_add_right _ _
  have hg1 : ¬ r ≤ row := Nat.not_le.mpr hr
  have hg2 : ¬ (row + 1) * c > m.data.size := Nat.not_lt.mpr e2
  simp only [deleteRow, h.rows, h.cols, hg1, hg2, if_false]
  refine ⟨_, rfl, ?_, rfl, rfl, fun i j hi hj => ?_⟩
  · show (m.data.extract 0 (row * c) ++ m.data.extract ((row + 1) * c) m.data.size).size
      = (r - 1) * c
    rw [size_extract_append_extract _ e3 e2, e1, Nat.add_sub_cancel_left, hsz, Nat.sub_mul,
      Nat.one_mul]
  · have hsrc : ∀ a, a < r → m.data[a * c + j]? = some (e a j) := fun a ha => by
      have := h.get ha hj
      rw [Mat.get, h.cols] at this
      exact aget_eq_ok.mp this
    rw [Mat.get]
    apply aget_eq_ok.mpr
    show (m.data.extract 0 (row * c) ++ m.data.extract ((row + 1) * c) m.data.size)[i * c + j]? = _
    rw [getElem?_extract_append_extract _ e3 e2, e1, Nat.add_sub_cancel_left]
    by_cases hlt : i < row
    · rw [if_pos hlt, if_pos (idx_lt hlt hj)]
      exact hsrc i (Nat.lt_of_lt_of_le hi (Nat.sub_le r 1))
    · have hle : row * c ≤ i * c + j :=
        Nat.le_trans (Nat.mul_le_mul_right c (Nat.le_of_not_lt hlt)) (Nat.le_add_right _ _)
      rw [if_neg hlt, if_neg (Nat.not_lt.mpr hle), Nat.add_right_comm, ← Nat.succ_mul]
      exact hsrc (i + 1) (Nat.add_lt_of_lt_sub hi)

theorem deleteRow_rejects (m : Mat K) (row : Nat) (h : m.rows ≤ row) :
    deleteRow m row = .error .range := by
  simp [deleteRow, h]

/-- the square path of `transpose_in_place`: pairwise swaps above/below the diagonal -/
theorem transposeSquare_spec {m : Mat K} {n : Nat} {e : Nat → Nat → K} (h : Is m n n e) :
    ∃ m', forM' 0 n m (fun m i =>
        forM' (i + 1) m.cols m (fun m j => do
          let temp ← m.get i j
          let other ← m.get j i
          let m ← m.set j i temp
          m.set i j other)) = .ok m' ∧ Is m' n n (fun i j => e j i) := by
  -- outer iteration `i` settles the entries with `min a b = i` (row and column `i` from the
  -- diagonal on), inner iteration `j` those of them with `max a b = j`: `(i, j)` and `(j, i)`
  refine h.forM'_classes (fun a b => min a b) (Nat.zero_le _)
    (fun _ _ _ _ h0 => absurd h0 (Nat.not_lt_zero _))
    (fun a b ha _ => Nat.lt_of_le_of_lt (Nat.min_le_left a b) ha) fun i s es _ hi hs he _ => ?_
  rw [hs.cols]
  refine hs.forM'_classes (fun a b => max a b) hi (fun a b _ _ hlt => ?_)
    (fun a b ha hb => Nat.max_lt.mpr ⟨ha, hb⟩) fun j t et hij hj ht het _ => ?_
  · by_cases hm : min a b = i
    · have hab : a = i ∧ b = i :=
        ⟨Nat.le_antisymm (Nat.le_of_lt_succ (Nat.lt_of_le_of_lt (Nat.le_max_left a b) hlt))
          (hm ▸ Nat.min_le_left a b),
        Nat.le_antisymm (Nat.le_of_lt_succ (Nat.lt_of_le_of_lt (Nat.le_max_right a b) hlt))
          (hm ▸ Nat.min_le_right a b)⟩
      rw [if_pos hm, hab.1, hab.2, he i i (Nat.min_self i)]
    · rw [if_neg hm]
  · have hmin : min i j = i := Nat.min_eq_left (Nat.le_of_succ_le hij)
    have hmax : max i j = j := Nat.max_eq_right (Nat.le_of_succ_le hij)
    have g1 : t.get i j = .ok (e i j) := by rw [ht.get hi hj, het i j hmax, he i j hmin]
    have g2 : t.get j i = .ok (e j i) := by
      rw [ht.get hj hi, het j i (Nat.max_comm i j ▸ hmax), he j i (Nat.min_comm i j ▸ hmin)]
    obtain ⟨t1, ht1, hI1⟩ := ht.set hj hi (e i j)
    obtain ⟨t2, ht2, hI2⟩ := hI1.set hi hj (e j i)
    refine ⟨t2, by simp only [g1, g2, ht1, bind, Except.bind]; exact ht2,
      hI2.congr fun a b _ _ => ?_⟩
    by_cases h1 : a = i ∧ b = j
    · rw [if_pos h1, h1.1, h1.2, if_pos hmax, if_pos hmin]
    · rw [if_neg h1]
      by_cases h2 : a = j ∧ b = i
      · rw [if_pos h2, h2.1, h2.2, if_pos (Nat.max_comm i j ▸ hmax),
          if_pos (Nat.min_comm i j ▸ hmin)]
      · rw [if_neg h2]
        by_cases hm : max a b = j
        · -- `max a b = j` and `min a b = i` would make `(a, b)` one of the two swapped entries
          have hmin : ¬ min a b = i := fun hmin => (Nat.le_total a b).elim
            (fun hle => h1 ⟨(Nat.min_eq_left hle).symm.trans hmin,
              (Nat.max_eq_right hle).symm.trans hm⟩)
            (fun hle => h2 ⟨(Nat.max_eq_left hle).symm.trans hm,
              (Nat.min_eq_right hle).symm.trans hmin⟩)
          rw [if_pos hm, if_neg hmin, het a b hm]
        · rw [if_neg hm]

/-- the non-square path of `transpose_in_place`: the buffer is rebuilt in column-major order -/
theorem transposeRebuild_spec {m : Mat K} {r c : Nat} {e : Nat → Nat → K} (h : Is m r c e) :
    ∃ d, forM' 0 c (#[] : Array K) (fun acc j =>
        forM' 0 r acc (fun acc i => do
          let x ← m.get i j
          pure (acc.push x))) = .ok d ∧ Is (⟨d, c, r⟩ : Mat K) c r (fun i j => e j i) := by
  -- after `n` pushes the buffer holds the first `n` entries of the transpose in row-major order
  let Inv (n : Nat) (acc : Array K) : Prop :=
    acc.size = n ∧ ∀ b a, a < r → b * r + a < n → acc[b * r + a]? = some (e a b)
  obtain ⟨d, hd, hsz, hQ⟩ := forM'_inv2 (fun j => Inv (j * r)) (fun j i => Inv (j * r + i))
    c r (fun _ => 0) (#[] : Array K) _ (fun acc j i => do
      let x ← m.get i j
      pure (acc.push x))
    (fun _ _ _ _ => rfl) (fun _ _ => Nat.zero_le _) ⟨by simp, fun b a _ hlt => by omega⟩
    (fun j s _ hQ => hQ) (fun j s _ hP => by rwa [Nat.succ_mul]) (by
      intro j i s hj _ hi ⟨hs, hP⟩
      refine ⟨s.push (e i j), by simp only [h.get hi hj, bind, Except.bind, pure, Except.pure],
        by rw [Array.size_push, hs, Nat.add_assoc], fun b a ha hlt => ?_⟩
      rw [Array.getElem?_push, hs]
      by_cases heq : b * r + a = j * r + i
      · obtain ⟨rfl, rfl⟩ := idx_inj ha hi heq
        rw [if_pos rfl]
      · rw [if_neg heq]
        exact hP b a ha (Nat.lt_of_le_of_ne (Nat.le_of_lt_succ hlt) heq))
  refine ⟨d, hd, ⟨by simp [WF, hsz], rfl, rfl, fun i j hi hj => ?_⟩⟩
  rw [Mat.get]
  exact aget_eq_ok.mpr (hQ i j hj (idx_lt hi hj))

theorem transposeInPlace_spec {m : Mat K} {r c : Nat} {e : Nat → Nat → K} (h : Is m r c e) :
    ∃ m', transposeInPlace m = .ok m' ∧ Is m' c r (fun i j => e j i) := by
  unfold transposeInPlace
  by_cases hsq : m.rows = m.cols
  · rw [if_pos hsq]
    have hrc : r = c := by rw [← h.rows, ← h.cols]; exact hsq
    subst hrc
    rw [h.rows]
    exact transposeSquare_spec h
  · rw [if_neg hsq]
    obtain ⟨d, hd, hI⟩ := transposeRebuild_spec h
    refine ⟨⟨d, c, r⟩, ?_, hI⟩
    rw [h.rows, h.cols, hd]
    rfl

section Entrywise
variable [Zero K]

theorem map2_spec (g : K → K → K) {a b : Mat K} {r c : Nat} {ea eb : Nat → Nat → K}
    (ha : Is a r c ea) (hb : Is b r c eb) :
    ∃ m', map2 g a b = .ok m' ∧ Is m' r c (fun i j => g (ea i j) (eb i j)) := by
  simp only [map2, ha.rows, ha.cols]
  refine build_spec (Is.of_new r c (0 : K)) (fun _ _ _ _ _ => rfl) fun i j s es hi hj hs _ => ?_
  obtain ⟨s', hs', hI⟩ := hs.set hi hj (g (ea i j) (eb i j))
  exact ⟨s', by simp only [ha.get hi hj, hb.get hi hj, bind, Except.bind]; exact hs', hI⟩

theorem mapM1_spec (f : K → Res K) (g : K → K) {a : Mat K} {r c : Nat} {e : Nat → Nat → K}
    (ha : Is a r c e) (hf : ∀ i j, i < r → j < c → f (e i j) = .ok (g (e i j))) :
    ∃ m', mapM1 f a = .ok m' ∧ Is m' r c (fun i j => g (e i j)) := by
  simp only [mapM1, ha.rows, ha.cols]
  refine build_spec (Is.of_new r c (0 : K)) (fun _ _ _ _ _ => rfl) fun i j s es hi hj hs _ => ?_
  obtain ⟨s', hs', hI⟩ := hs.set hi hj (g (e i j))
  exact ⟨s', by simp only [ha.get hi hj, hf i j hi hj, bind, Except.bind]; exact hs', hI⟩

theorem mapM1_rejects (f : K → Res K) {a : Mat K} {r c : Nat} {e : Nat → Nat → K}
    (ha : Is a r c e) (hr : 0 < r) (hc : 0 < c) (err : Err) (hf : f (e 0 0) = .error err) :
    mapM1 f a = .error err := by
  simp only [mapM1, ha.rows, ha.cols]
  apply forM'_first_error _ _ _ _ _ hr
  apply forM'_first_error _ _ _ _ _ hc
  simp only [ha.get hr hc, hf, bind, Except.bind]

theorem mapM1_fails (f : K → Res K) {a : Mat K} {r c : Nat} {e : Nat → Nat → K} (ha : Is a r c e)
    {i0 j0 : Nat} (hi : i0 < r) (hj : j0 < c) (hf : ∃ err, f (e i0 j0) = .error err) :
    ∃ err, mapM1 f a = .error err := by
  simp only [mapM1, ha.rows, ha.cols]
  apply forM'_fails 0 r i0 _ _ (Nat.zero_le _) hi
  intro acc
  apply forM'_fails 0 c j0 _ _ (Nat.zero_le _) hj
  intro acc'
  obtain ⟨err, herr⟩ := hf
  exact ⟨err, by simp only [ha.get hi hj, herr, bind, Except.bind]⟩

theorem resize_spec {m : Mat K} {r c : Nat} {e : Nat → Nat → K} (h : Is m r c e) (nr nc : Nat) :
    ∃ m', resize m nr nc = .ok m' ∧
      Is m' nr nc (fun i j => if i < r ∧ j < c then e i j else 0) := by
  simp only [resize]
  refine build_spec (Is.of_new nr nc (0 : K)) (fun _ _ _ _ _ => rfl) fun i j s es hi hj hs h0 => ?_
  by_cases hc : i < m.rows ∧ j < m.cols
  · rw [if_pos hc]
    rw [h.rows, h.cols] at hc
    obtain ⟨s', hs', hI⟩ := hs.set hi hj (e i j)
    exact ⟨s', by simp only [h.get hc.1 hc.2, bind, Except.bind]; exact hs', by rwa [if_pos hc]⟩
  · rw [if_neg hc]
    rw [h.rows, h.cols] at hc
    refine ⟨s, rfl, hs.congr fun a b _ _ => ?_⟩
    by_cases hab : a = i ∧ b = j
    · rw [if_pos hab, if_neg hc, hab.1, hab.2, h0]
    · rw [if_neg hab]

section
variable [Add K]

theorem add_rejects (a b : Mat K) (h : a.rows ≠ b.rows ∨ a.cols ≠ b.cols) :
    add a b = .error .size := by
  rcases h with h | h
  · simp only [add, if_pos h]
  · simp only [add, if_pos h, ite_self]

theorem addS_spec {a : Mat K} {r c : Nat} {e : Nat → Nat → K} (ha : Is a r c e) (s : K) :
    ∃ m', addS a s = .ok m' ∧ Is m' r c (fun i j => e i j + s) :=
  mapM1_spec (fun x => pure (x + s)) (fun x => x + s) ha (fun _ _ _ _ => rfl)

end

section
variable [Sub K]

theorem sub_rejects (a b : Mat K) (h : a.rows ≠ b.rows ∨ a.cols ≠ b.cols) :
    sub a b = .error .size := by
  rcases h with h | h
  · simp only [sub, if_pos h]
  · simp only [sub, if_pos h, ite_self]

theorem subS_spec {a : Mat K} {r c : Nat} {e : Nat → Nat → K} (ha : Is a r c e) (s : K) :
    ∃ m', subS a s = .ok m' ∧ Is m' r c (fun i j => e i j - s) :=
  mapM1_spec (fun x => pure (x - s)) (fun x => x - s) ha (fun _ _ _ _ => rfl)

end

section
variable [One K]

theorem eye_spec (n : Nat) :
    ∃ m', (eye n : Res (Mat K)) = .ok m' ∧ Is m' n n (fun i j => if i = j then 1 else 0) := by
  obtain ⟨m', h1, h2⟩ := diag_spec (Is.of_new n n (0 : K)) (Nat.le_refl n) (Nat.le_refl n) 1
  exact ⟨m', h1, h2.congr fun a b ha _ =>
    ite_congr (propext ⟨fun h => h.1, fun h => ⟨h, ha⟩⟩) (fun _ => rfl) fun _ => rfl⟩

end

section
variable [ScalarExt K]

theorem sdiv_spec {a : Mat K} {r c : Nat} {e : Nat → Nat → K} (ha : Is a r c e) (s : K)
    (q : K → K) (hq : ∀ i j, i < r → j < c → ScalarExt.divM (e i j) s = .ok (q (e i j))) :
    ∃ m', sdiv a s = .ok m' ∧ Is m' r c (fun i j => q (e i j)) :=
  mapM1_spec (fun x => ScalarExt.divM x s) q ha hq

end

end Entrywise

section Generic
variable [Add K] [Sub K] [Mul K] [Neg K] [Zero K] [One K] [BEq K] [ScalarExt K]
set_option linter.unusedSectionVars false

theorem add_spec {a b : Mat K} {r c : Nat} {ea eb : Nat → Nat → K}
    (ha : Is a r c ea) (hb : Is b r c eb) :
    ∃ m', add a b = .ok m' ∧ Is m' r c (fun i j => ea i j + eb i j) := by
  simp only [add, ha.rows, hb.rows, ha.cols, hb.cols, ne_eq, not_true_eq_false, if_false]
  exact map2_spec (· + ·) ha hb

theorem sub_spec {a b : Mat K} {r c : Nat} {ea eb : Nat → Nat → K}
    (ha : Is a r c ea) (hb : Is b r c eb) :
    ∃ m', sub a b = .ok m' ∧ Is m' r c (fun i j => ea i j - eb i j) := by
  simp only [sub, ha.rows, hb.rows, ha.cols, hb.cols, ne_eq, not_true_eq_false, if_false]
  exact map2_spec (· - ·) ha hb

theorem neg_spec {a : Mat K} {r c : Nat} {e : Nat → Nat → K} (ha : Is a r c e) :
    ∃ m', neg a = .ok m' ∧ Is m' r c (fun i j => - e i j) :=
  mapM1_spec (fun x => pure (-x)) (fun x => -x) ha (fun _ _ _ _ => rfl)

theorem smul_spec {a : Mat K} {r c : Nat} {e : Nat → Nat → K} (ha : Is a r c e) (s : K) :
    ∃ m', smul a s = .ok m' ∧ Is m' r c (fun i j => e i j * s) :=
  mapM1_spec (fun x => pure (x * s)) (fun x => x * s) ha (fun _ _ _ _ => rfl)

/-- `fill_band(offset, x)`: exactly the entries `(row, row + offset)` that are in range are set -/
theorem fillBand_spec {m : Mat K} {r c : Nat} {e : Nat → Nat → K} (h : Is m r c e) (offset : Int)
    (x : K) :
    ∃ m', fillBand m offset x = .ok m' ∧
      Is m' r c (fun i j => if (j : Int) = (i : Int) + offset then x else e i j) := by
  simp only [fillBand, h.rows]
  refine h.forM'_rows fun k s es hk hs he => ?_
  by_cases hc : 0 ≤ (k : Int) + offset ∧ ((k : Int) + offset).toNat < s.cols
  · rw [if_pos hc]
    rw [hs.cols] at hc
    obtain ⟨s', hs', hI⟩ := hs.set hk hc.2 x
    refine ⟨s', hs', hI.congr fun a b _ _ => ?_⟩
    by_cases ha : a = k
    · subst ha
      have hb : b = ((a : Int) + offset).toNat ↔ (b : Int) = (a : Int) + offset :=
        ⟨fun h => h ▸ Int.toNat_of_nonneg hc.1,
          fun h => Int.ofNat_inj.mp (h.trans (Int.toNat_of_nonneg hc.1).symm)⟩
      simp only [true_and, if_true, hb, he]
    · simp only [ha, false_and, if_false]
  · rw [if_neg hc]
    rw [hs.cols] at hc
    refine ⟨s, rfl, hs.congr fun a b _ hb => ?_⟩
    by_cases ha : a = k
    · subst ha
      have hne : ¬ (b : Int) = (a : Int) + offset := fun h =>
        hc ⟨h ▸ Int.natCast_nonneg b, by rw [← h, Int.toNat_natCast]; exact hb⟩
      rw [if_pos rfl, if_neg hne, he]
    · rw [if_neg ha]

theorem fillTridiag_spec {m : Mat K} {r c : Nat} {e : Nat → Nat → K} (h : Is m r c e)
    (lower diag upper : K) :
    ∃ m', fillTridiag m lower diag upper = .ok m' ∧
      Is m' r c (fun i j => if j = i + 1 then upper else if i = j then diag
                            else if j + 1 = i then lower else e i j) := by
  obtain ⟨m1, h1, hI1⟩ := fillBand_spec h (-1) lower
  obtain ⟨m2, h2, hI2⟩ := fillDiag_spec hI1 diag
  obtain ⟨m3, h3, hI3⟩ := fillBand_spec hI2 1 upper
  refine ⟨m3, by simp only [fillTridiag, h1, h2, bind, Except.bind]; exact h3,
    hI3.congr fun a b _ _ => ?_⟩
  have e1 : (b : Int) = (a : Int) + 1 ↔ b = a + 1 := by omega
  have e2 : (b : Int) = (a : Int) + -1 ↔ b + 1 = a := by omega
  simp only [e1, e2]

theorem transpose_spec {m : Mat K} {r c : Nat} {e : Nat → Nat → K} (h : Is m r c e) :
    ∃ m', transpose m = .ok m' ∧ Is m' c r (fun i j => e j i) :=
  transposeInPlace_spec h

end Generic

/-- reference state: a shape and an entry function (no buffer, no index arithmetic) -/
structure Ref (K : Type) where
  rows : Nat
  cols : Nat
  entry : Nat → Nat → K

/-- the model state `m` is described by the reference state `s` -/
def Rel (m : Mat K) (s : Ref K) : Prop := Is m s.rows s.cols s.entry

/-- a model result refines a reference result: success with a related state, or both reject -/
def Refines (R : Res (Mat K)) (o : Option (Ref K)) : Prop :=
  match o with
  | some s' => ∃ m', R = .ok m' ∧ Rel m' s'
  | none => ∃ err, R = .error err

theorem Refines.ite {R : Res (Mat K)} {g : Prop} [Decidable g] {s1 : Ref K}
    (hpos : g → ∃ m', R = .ok m' ∧ Rel m' s1) (hneg : ¬ g → ∃ err, R = .error err) :
    Refines R (if g then some s1 else none) := by
  by_cases hg : g
  · rw [if_pos hg]; exact hpos hg
  · rw [if_neg hg]; exact hneg hg

theorem Refines.bind {R : Res (Mat K)} {o : Option (Ref K)} {f : Mat K → Res (Mat K)}
    {g : Ref K → Option (Ref K)} (h : Refines R o)
    (hfg : ∀ m s, Rel m s → Refines (f m) (g s)) : Refines (R >>= f) (o.bind g) := by
  cases o with
  | none => obtain ⟨err, rfl⟩ := h; exact ⟨err, rfl⟩
  | some s => obtain ⟨m, rfl, hrel⟩ := h; exact hfg m s hrel

theorem Refines.wf {R : Res (Mat K)} {o : Option (Ref K)} (h : Refines R o) {m' : Mat K}
    (hR : R = .ok m') : m'.WF := by
  cases o with
  | none => obtain ⟨err, he⟩ := h; rw [he] at hR; cases hR
  | some s => obtain ⟨m, hm, hrel⟩ := h; rw [hm] at hR; cases hR; exact hrel.wf

theorem Refines.unfold {R : Res (Mat K)} {o : Option (Ref K)} (h : Refines R o) :
    (∀ s', o = some s' → ∃ m', R = .ok m' ∧ Is m' s'.rows s'.cols s'.entry) ∧
    (o = none → ∃ err, R = .error err) := by
  cases o with
  | none => exact ⟨fun _ hs => (nomatch hs), fun _ => h⟩
  | some s => exact ⟨fun s' hs => Option.some.inj hs ▸ h, fun hs => nomatch hs⟩

section Ops
variable [Add K] [Sub K] [Mul K] [Neg K] [Zero K]

/-- a representative set of editing / arithmetic operations (operands included) -/
inductive MatOp (K : Type) where
  | setRow (row : Nat) (v : Array K)
  | setCol (col : Nat) (v : Array K)
  | swapRows (r1 r2 : Nat)
  | deleteRow (row : Nat)
  | fill (x : K)
  | fillDiag (x : K)
  | fillRow (row : Nat) (x : K)
  | fillCol (col : Nat) (x : K)
  | fillBand (offset : Int) (x : K)
  | fillTridiag (lower diag upper : K)
  | transpose
  | resize (nr nc : Nat)
  | neg
  | smul (s : K)
  | addS (s : K)
  | subS (s : K)
  | add (b : Mat K)
  | sub (b : Mat K)
  | mul (b : Mat K)

/-- what the model does for one operation -/
def MatOp.apply : MatOp K → Mat K → Res (Mat K)
  | .setRow row v, m => Mat.setRow m row v
  | .setCol col v, m => Mat.setCol m col v
  | .swapRows r1 r2, m => Mat.swapRows m r1 r2
  | .deleteRow row, m => Mat.deleteRow m row
  | .fill x, m => Mat.fill m x
  | .fillDiag x, m => Mat.fillDiag m x
  | .fillRow row x, m => Mat.fillRow m row x
  | .fillCol col x, m => Mat.fillCol m col x
  | .fillBand o x, m => Mat.fillBand m o x
  | .fillTridiag l d u, m => Mat.fillTridiag m l d u
  | .transpose, m => Mat.transpose m
  | .resize nr nc, m => Mat.resize m nr nc
  | .neg, m => Mat.neg m
  | .smul s, m => Mat.smul m s
  | .addS s, m => Mat.addS m s
  | .subS s, m => Mat.subS m s
  | .add b, m => Mat.add m b
  | .sub b, m => Mat.sub m b
  | .mul b, m => Mat.mul m b

/-- the model's state after a history of operations (the first panic aborts) -/
def run : List (MatOp K) → Mat K → Res (Mat K)
  | [], m => .ok m
  | op :: ops, m => do
    let m' ← op.apply m
    run ops m'

theorem run_eq_foldlM (ops : List (MatOp K)) (m : Mat K) :
    run ops m = ops.foldlM (fun m op => op.apply m) m := by
  induction ops generalizing m with
  | nil => rfl
  | cons op ops ih =>
    simp only [run, List.foldlM_cons, bind, Except.bind]
    cases op.apply m with
    | error e => rfl
    | ok m' => exact ih m'

/-- reference semantics of one operation; `none` = the call is rejected (panics) -/
def MatOp.ref : MatOp K → Ref K → Option (Ref K)
  | .setRow row v, s =>
    if v.size = s.cols ∧ row < s.rows then
      some ⟨s.rows, s.cols, fun i j => if i = row then v[j]?.getD (s.entry i j) else s.entry i j⟩
    else none
  | .setCol col v, s =>
    if v.size = s.rows ∧ col < s.cols then
      some ⟨s.rows, s.cols, fun i j => if j = col then v[i]?.getD (s.entry i j) else s.entry i j⟩
    else none
  | .swapRows r1 r2, s =>
    if r1 < s.rows ∧ r2 < s.rows then
      some ⟨s.rows, s.cols, fun i j =>
        if i = r1 then s.entry r2 j else if i = r2 then s.entry r1 j else s.entry i j⟩
    else none
  | .deleteRow row, s =>
    if row < s.rows then
      some ⟨s.rows - 1, s.cols, fun i j => if i < row then s.entry i j else s.entry (i + 1) j⟩
    else none
  | .fill x, s => some ⟨s.rows, s.cols, fun _ _ => x⟩
  | .fillDiag x, s => some ⟨s.rows, s.cols, fun i j => if i = j then x else s.entry i j⟩
  | .fillRow row x, s =>
    if row < s.rows then some ⟨s.rows, s.cols, fun i j => if i = row then x else s.entry i j⟩
    else none
  | .fillCol col x, s =>
    if col < s.cols then some ⟨s.rows, s.cols, fun i j => if j = col then x else s.entry i j⟩
    else none
  | .fillBand o x, s =>
    some ⟨s.rows, s.cols, fun i j => if (j : Int) = (i : Int) + o then x else s.entry i j⟩
  | .fillTridiag l d u, s =>
    some ⟨s.rows, s.cols, fun i j => if j = i + 1 then u else if i = j then d
                                     else if j + 1 = i then l else s.entry i j⟩
  | .transpose, s => some ⟨s.cols, s.rows, fun i j => s.entry j i⟩
  | .resize nr nc, s =>
    some ⟨nr, nc, fun i j => if i < s.rows ∧ j < s.cols then s.entry i j else 0⟩
  | .neg, s => some ⟨s.rows, s.cols, fun i j => - s.entry i j⟩
  | .smul k, s => some ⟨s.rows, s.cols, fun i j => s.entry i j * k⟩
  | .addS k, s => some ⟨s.rows, s.cols, fun i j => s.entry i j + k⟩
  | .subS k, s => some ⟨s.rows, s.cols, fun i j => s.entry i j - k⟩
  | .add b, s =>
    if s.rows = b.rows ∧ s.cols = b.cols then
      some ⟨s.rows, s.cols, fun i j => s.entry i j + entryOf b i j⟩
    else none
  | .sub b, s =>
    if s.rows = b.rows ∧ s.cols = b.cols then
      some ⟨s.rows, s.cols, fun i j => s.entry i j - entryOf b i j⟩
    else none
  | .mul b, s =>
    if s.cols = b.rows then some ⟨s.rows, b.cols, dotRC s.entry (entryOf b) s.cols⟩
    else none

/-- reference state after a history -/
def refRun : List (MatOp K) → Ref K → Option (Ref K)
  | [], s => some s
  | op :: ops, s => (op.ref s).bind (refRun ops)

/-- operand matrices of binary operations are well-formed -/
def MatOp.Valid : MatOp K → Prop
  | .add b => b.WF
  | .sub b => b.WF
  | .mul b => b.WF
  | _ => True

end Ops

section Generic
variable [Add K] [Sub K] [Mul K] [Neg K] [Zero K] [One K] [BEq K] [ScalarExt K]

/-- one operation: the model refines the reference semantics -/
theorem step_refines (op : MatOp K) (hv : op.Valid) {m : Mat K} {s : Ref K} (h : Rel m s) :
    Refines (op.apply m) (op.ref s) := by
  have hr := h.rows
  have hc := h.cols
  cases op with
  | setRow row v =>
    exact Refines.ite (fun hg => setRow_spec h v hg.1 hg.2)
      (fun hg => setRow_rejects m row v (by
        rw [hr, hc]; exact (Decidable.not_and_iff_not_or_not.mp hg).imp id Nat.le_of_not_lt))
  | setCol col v =>
    exact Refines.ite (fun hg => setCol_spec h v hg.1 hg.2)
      (fun hg => setCol_rejects m col v (by
        rw [hr, hc]; exact (Decidable.not_and_iff_not_or_not.mp hg).imp id Nat.le_of_not_lt))
  | swapRows r1 r2 =>
    exact Refines.ite (fun hg => swapRows_spec h hg.1 hg.2)
      (fun hg => ⟨_, swapRows_rejects m r1 r2 (by
        rw [hr]; exact not_lt_and hg)⟩)
  | deleteRow row =>
    exact Refines.ite (fun hg => deleteRow_spec h hg)
      (fun hg => ⟨_, deleteRow_rejects m row (hr ▸ Nat.le_of_not_lt hg)⟩)
  | fill x => exact fill_spec h x
  | fillDiag x => exact fillDiag_spec h x
  | fillRow row x =>
    exact Refines.ite (fun hg => fillRow_spec h hg x)
      (fun hg => ⟨_, fillRow_rejects m row x (hr ▸ Nat.le_of_not_lt hg)⟩)
  | fillCol col x =>
    exact Refines.ite (fun hg => fillCol_spec h hg x)
      (fun hg => ⟨_, fillCol_rejects m col x (hc ▸ Nat.le_of_not_lt hg)⟩)
  | fillBand o x => exact fillBand_spec h o x
  | fillTridiag l d u => exact fillTridiag_spec h l d u
  | transpose => exact transpose_spec h
  | resize nr nc => exact resize_spec h nr nc
  | neg => exact neg_spec h
  | smul k => exact smul_spec h k
  | addS k => exact addS_spec h k
  | subS k => exact subS_spec h k
  | add b =>
    refine Refines.ite (fun hg => ?_) (fun hg => ⟨_, add_rejects m b (by
      rw [hr, hc]; exact (Decidable.not_and_iff_not_or_not.mp hg))⟩)
    have hb : Is b s.rows s.cols (entryOf b) := by rw [hg.1, hg.2]; exact Is.of_wf hv
    exact add_spec h hb
  | sub b =>
    refine Refines.ite (fun hg => ?_) (fun hg => ⟨_, sub_rejects m b (by
      rw [hr, hc]; exact (Decidable.not_and_iff_not_or_not.mp hg))⟩)
    have hb : Is b s.rows s.cols (entryOf b) := by rw [hg.1, hg.2]; exact Is.of_wf hv
    exact sub_spec h hb
  | mul b =>
    refine Refines.ite (fun hg => ?_) (fun hg => ⟨_, mul_rejects m b (by rw [hc]; exact hg)⟩)
    have hb : Is b s.cols b.cols (entryOf b) := by rw [hg]; exact Is.of_wf hv
    exact mul_spec h hb

/-- **Histories.** For an arbitrary list of operations (with well-formed operands), started in a
    model state described by the reference state `s`: if the reference run succeeds the model run
    succeeds and its final state is described by the reference result (shape, well-formedness and
    every entry); if the reference run rejects, the model run panics. -/
theorem run_refines (ops : List (MatOp K)) (hv : ∀ op ∈ ops, op.Valid) {m : Mat K} {s : Ref K}
    (h : Rel m s) : Refines (run ops m) (refRun ops s) := by
  induction ops generalizing m s with
  | nil => exact ⟨m, rfl, h⟩
  | cons op ops ih =>
    exact (step_refines op (hv op List.mem_cons_self) h).bind fun m1 s1 h1 =>
      ih (fun o ho => hv o (List.mem_cons_of_mem _ ho)) h1

theorem run_wf (ops : List (MatOp K)) (hv : ∀ op ∈ ops, op.Valid) {m m' : Mat K} (h : m.WF)
    (hrun : run ops m = .ok m') : m'.WF :=
  (run_refines ops hv (s := ⟨m.rows, m.cols, entryOf m⟩) (Is.of_wf h)).wf hrun

end Generic

end Mat
end Ohsl
