/-
  Ohsl.Lemmas.GaussRounding — backward error analysis of `Mat.solveBasic` (Gaussian elimination with
  partial pivoting applied to the matrix and the right-hand side simultaneously, then back
  substitution) in the "rounded reals" interpretation `Fl M`.  Helper file of Ohsl/Props/C01G.lean
  (read its header first); builds on Ohsl/Lemmas/LURounding.lean.

  The analysis follows an INSTRUMENTED run of `gauss_with_pivot` (`gaussT`): the same computation (it
  calls the model's `maxAbsInColumn`, `partialPivot`, `elimRow`) which additionally RECORDS the
  multipliers `elem` (row-permuted along with the later exchanges) and the row permutation;
  forgetting the trace gives `gaussWithPivot` (`gaussT_fst`, any scalar type).  The elimination
  computes Doolittle's formulas (Doolittle.lean) for the AUGMENTED matrix `[A | b]` (`n + 1`
  columns), with the recorded multipliers in the place of the entries below the diagonal (which
  `solve_basic` overwrites with rounded residues `≈ 0`); the row relation `LURowF` of
  LURounding.lean is read off them (`Doolittle.toLURowF`).
-/
import Ohsl.Lemmas.SolveRun
import Ohsl.Lemmas.LURounding
import Mathlib.Tactic.SplitIfs
import Mathlib.Tactic.Ring
import Mathlib.Tactic.Choose
namespace Ohsl
namespace Mat

section Trace
variable {K : Type} [Sub K] [Mul K] [Zero K] [ScalarExt K]

/-- what the instrumented elimination records: the multipliers (`mult r c`, `c < r`: the multiplier
that eliminated column `c` of what is now row `r`), the row permutation (`perm r` is the row of the
input that is now row `r`) and `reg`: every pivot search so far returned a row on or below the
diagonal (always `true`, `gaussT_regular`, because the pivot search starts from `max_index =
start_row`; a search started from `max_index = 0` can return row `0` above the diagonal) -/
structure GTrace (K : Type) where
  mult : Nat → Nat → K
  perm : Nat → Nat
  reg : Bool

def GTrace.init : GTrace K := ⟨fun _ _ => 0, fun r => r, true⟩

/-- `partial_pivot`, recording the exchange -/
def partialPivotT (s : (Mat K × Array K) × GTrace K) (k : Nat) :
    Res ((Mat K × Array K) × GTrace K) := do
  let p ← maxAbsInColumn s.1.1 k k
  let mx ← partialPivot s.1.1 s.1.2 k
  pure (mx, { mult := fun r c => s.2.mult (swapIdx p k r) c
              perm := fun r => s.2.perm (swapIdx p k r)
              reg := s.2.reg && decide (k ≤ p) })

/-- one row elimination, recording the multiplier `elem` at position `(i, k)` -/
def elimRowT (k : Nat) (s : (Mat K × Array K) × GTrace K) (i : Nat) :
    Res ((Mat K × Array K) × GTrace K) := do
  let ik ← s.1.1.get i k
  let kk ← s.1.1.get k k
  let elem ← divM ik kk
  let mx ← elimRow k s.1 i
  pure (mx, { s.2 with mult := fun r c => if r = i ∧ c = k then elem else s.2.mult r c })

def gaussStepT (s : (Mat K × Array K) × GTrace K) (k : Nat) :
    Res ((Mat K × Array K) × GTrace K) := do
  let s1 ← partialPivotT s k
  forM' (k + 1) s1.1.1.rows s1 (elimRowT k)

def gaussT (m : Mat K) (x : Array K) : Res ((Mat K × Array K) × GTrace K) := do
  let n1 ← usub m.rows 1
  forM' 0 n1 ((m, x), GTrace.init) gaussStepT

end Trace

section Projection
variable {K : Type}

theorem elimRowT_fst [Sub K] [Mul K] [ScalarExt K] (k : Nat) (s : (Mat K × Array K) × GTrace K)
    (i : Nat) :
    Except.map Prod.fst (elimRowT k s i) = elimRow k s.1 i := by
  obtain ⟨⟨m, x⟩, tr⟩ := s
  unfold elimRowT
  simp only
  cases h1 : m.get i k with
  | error e => simp [elimRow, h1, bind, Except.bind, Except.map]
  | ok ik =>
    cases h2 : m.get k k with
    | error e => simp [elimRow, h1, h2, bind, Except.bind, Except.map]
    | ok kk =>
      cases h3 : divM ik kk with
      | error e => simp [elimRow, h1, h2, h3, bind, Except.bind, Except.map]
      | ok q =>
        cases elimRow k (m, x) i with
        | error e => simp [h3, bind, Except.bind, Except.map]
        | ok mx => simp [h3, bind, Except.bind, Except.map, pure, Except.pure]

theorem partialPivotT_fst [Zero K] [ScalarExt K] (s : (Mat K × Array K) × GTrace K) (k : Nat) :
    Except.map Prod.fst (partialPivotT s k) = partialPivot s.1.1 s.1.2 k := by
  unfold partialPivotT
  cases h1 : maxAbsInColumn s.1.1 k k with
  | error e => simp [partialPivot, h1, bind, Except.bind, Except.map]
  | ok p =>
    cases h2 : partialPivot s.1.1 s.1.2 k with
    | error e => simp [bind, Except.bind, Except.map]
    | ok mx => simp [bind, Except.bind, Except.map, pure, Except.pure]

variable [Sub K] [Mul K] [Zero K] [ScalarExt K]

theorem gaussStepT_fst (s : (Mat K × Array K) × GTrace K) (k : Nat) :
    Except.map Prod.fst (gaussStepT s k) = gaussStep s.1 k := by
  unfold gaussStepT gaussStep
  have h1 := partialPivotT_fst s k
  cases hp : partialPivotT s k with
  | error e =>
    rw [hp] at h1
    simp only [Except.map] at h1
    rw [← h1]
    rfl
  | ok s1 =>
    rw [hp] at h1
    simp only [Except.map] at h1
    rw [← h1]
    simp only [bind, Except.bind]
    exact (Sim.forM'_map Prod.fst _ _ s1 (elimRowT k) (elimRow k)
      fun s i => (elimRowT_fst k s i).symm).symm

theorem gaussT_fst (m : Mat K) (x : Array K) :
    Except.map Prod.fst (gaussT m x) = gaussWithPivot m x := by
  rw [gaussWithPivot_eq]
  unfold gaussT
  cases usub m.rows 1 with
  | error e => rfl
  | ok n1 =>
    simp only [bind, Except.bind]
    exact (Sim.forM'_map Prod.fst 0 n1 ((m, x), GTrace.init) gaussStepT gaussStep
      fun s i => (gaussStepT_fst s i).symm).symm

theorem gaussT_of_gauss {m : Mat K} {x : Array K} {mx : Mat K × Array K}
    (h : gaussWithPivot m x = .ok mx) : ∃ tr, gaussT m x = .ok (mx, tr) := by
  have := gaussT_fst m x
  rw [h] at this
  cases hg : gaussT m x with
  | error e => rw [hg] at this; simp [Except.map] at this
  | ok s =>
    rw [hg] at this
    simp only [Except.map] at this
    injection this with this
    exact ⟨s.2, by rw [← this]⟩

end Projection

section Structural
variable {K : Type}

/-- (S) **`backsolve` never reads below the diagonal**: two matrices with the same number of rows
whose reads `get i j` agree for `i ≤ j` give the same result (value or failure), for every
right-hand side.  In particular the rounded residues that `solve_basic` leaves below the diagonal
(instead of exact zeros) do not influence the solution. -/
theorem backsolve_congr_upper [Sub K] [Mul K] [ScalarExt K] {m m' : Mat K} (hr : m'.rows = m.rows)
    (hg : ∀ i j, i ≤ j → j < m.rows → m'.get i j = m.get i j) (x : Array K) :
    backsolve m' x = backsolve m x := by
  by_cases hn : 1 ≤ m.rows
  · rw [backsolve_loop hr hn, backsolve_loop rfl hn]
    apply forM'_congr
    intro nn z h1 h2
    have hkl : m.rows - nn < m.rows := Nat.sub_lt hn h1
    simp only [backsolveRow, usub_ok (Nat.le_of_lt_succ h2), bind, Except.bind]
    generalize m.rows - nn = k at hkl ⊢
    have hin : forM' (k + 1) m.rows z (fun x j => do
          let xj ← aget x j
          let xk ← aget x k
          let kj ← m'.get k j
          aset x k (xk - kj * xj))
        = forM' (k + 1) m.rows z (fun x j => do
          let xj ← aget x j
          let xk ← aget x k
          let kj ← m.get k j
          aset x k (xk - kj * xj)) :=
      forM'_congr _ _ _ _ _ fun j w hj1 hj2 => by
        simp only [hg k j (Nat.le_of_succ_le hj1) hj2]
    simp only [bind, Except.bind] at hin
    rw [hin, hg k k (Nat.le_refl _) hkl]
  · simp only [backsolve, hr, usub, if_neg hn, bind, Except.bind]

variable [Sub K] [Mul K] [Zero K] [ScalarExt K]

theorem elimRowT_ok {n k i : Nat} {s s1 : (Mat K × Array K) × GTrace K} (hm : WFn s.1.1 n)
    (hk : k < n) (hi : i < n) (h : elimRowT k s i = .ok s1) :
    ∃ q, divM (ent s.1.1 i k) (ent s.1.1 k k) = .ok q ∧ elimRow k s.1 i = .ok s1.1 ∧
      s1.2.mult = (fun r c => if r = i ∧ c = k then q else s.2.mult r c) ∧
      s1.2.perm = s.2.perm ∧ s1.2.reg = s.2.reg := by
  unfold elimRowT at h
  simp only [hm.get hi hk, hm.get hk hk, bind, Except.bind] at h
  cases hq : divM (ent s.1.1 i k) (ent s.1.1 k k) with
  | error e => rw [hq] at h; simp at h
  | ok q =>
    rw [hq] at h
    simp only at h
    cases he : elimRow k s.1 i with
    | error e => rw [he] at h; simp at h
    | ok mx =>
      rw [he] at h
      simp only [pure, Except.pure] at h
      injection h with h
      subst h
      exact ⟨q, rfl, rfl, rfl, rfl, rfl⟩

theorem elimColT_struct {n k : Nat} {s s' : (Mat K × Array K) × GTrace K} (hm : WFn s.1.1 n)
    (hx : s.1.2.size = n) (hk : k < n) (h : forM' (k + 1) n s (elimRowT k) = .ok s') :
    WFn s'.1.1 n ∧ s'.1.2.size = n ∧ s'.2.perm = s.2.perm ∧ s'.2.reg = s.2.reg ∧
    (∀ r, k < r → r < n → divM (ent s.1.1 r k) (ent s.1.1 k k) = .ok (s'.2.mult r k)) ∧
    (∀ a b, a < n → b < n → ent s'.1.1 a b =
      if k < a ∧ k ≤ b then ent s.1.1 a b - s'.2.mult a k * ent s.1.1 k b else ent s.1.1 a b) ∧
    (∀ a, a < n → vf s'.1.2 a =
      if k < a then vf s.1.2 a - s'.2.mult a k * vf s.1.2 k else vf s.1.2 a) ∧
    (∀ r c, ¬ ((k < r ∧ r < n) ∧ c = k) → s'.2.mult r c = s.2.mult r c) := by
  -- the rows `(k, t)` are eliminated, the others are those of the start
  have key := forM'_ok_inv
    (fun t (u : (Mat K × Array K) × GTrace K) => WFn u.1.1 n ∧ u.1.2.size = n ∧
      u.2.perm = s.2.perm ∧ u.2.reg = s.2.reg ∧
      (∀ a, k < a → a < t → divM (ent s.1.1 a k) (ent s.1.1 k k) = .ok (u.2.mult a k) ∧
        (∀ b, b < n → ent u.1.1 a b =
          if k ≤ b then ent s.1.1 a b - u.2.mult a k * ent s.1.1 k b else ent s.1.1 a b) ∧
        vf u.1.2 a = vf s.1.2 a - u.2.mult a k * vf s.1.2 k) ∧
      (∀ a, a < n → (a ≤ k ∨ t ≤ a) → (∀ b, b < n → ent u.1.1 a b = ent s.1.1 a b) ∧
        vf u.1.2 a = vf s.1.2 a) ∧
      (∀ r c, ¬ ((k < r ∧ r < t) ∧ c = k) → u.2.mult r c = s.2.mult r c))
    (k + 1) n s s' (elimRowT k) (Nat.succ_le_of_lt hk)
    ⟨hm, hx, rfl, rfl, fun a h1 h2 => absurd h2 (Nat.not_lt.2 h1),
      fun _ _ _ => ⟨fun _ _ => rfl, rfl⟩, fun _ _ _ => rfl⟩ ?_ h
  · obtain ⟨k1, k2, k3, k4, hdone, hrest, k8⟩ := key
    refine ⟨k1, k2, k3, k4, fun r h1 h2 => (hdone r h1 h2).1, fun a b ha hb => ?_, fun a ha => ?_,
      k8⟩
    · by_cases hka : k < a
      · rw [(hdone a hka ha).2.1 b hb]
        exact if_congr (and_iff_right hka).symm rfl rfl
      · rw [(hrest a ha (Or.inl (Nat.not_lt.1 hka))).1 b hb, if_neg fun hh => hka hh.1]
    · by_cases hka : k < a
      · rw [(hdone a hka ha).2.2, if_pos hka]
      · rw [(hrest a ha (Or.inl (Nat.not_lt.1 hka))).2, if_neg hka]
  · intro j u u1 hj1 hj2 ⟨hw, hsz, hp, hr, hdone, hrest, hmu⟩ hf
    have hkj : k < j := hj1
    obtain ⟨q, hq, he, hmul, hp1, hr1⟩ := elimRowT_ok hw hk hj2 hf
    obtain ⟨q', hq', hw1, hsz1, hent1, hvf1⟩ := elimRow_struct (m := u.1.1) (x := u.1.2)
      (m' := u1.1.1) (x' := u1.1.2) hw hsz hk hj2 (Nat.ne_of_lt hkj) he
    cases hq.symm.trans hq'
    -- rows `j` and `k` have not been touched so far
    obtain ⟨rowj, vj⟩ := hrest j hj2 (Or.inr (Nat.le_refl j))
    obtain ⟨rowk, vk⟩ := hrest k hk (Or.inl (Nat.le_refl k))
    replace hmul : ∀ r c, u1.2.mult r c = if r = j ∧ c = k then q else u.2.mult r c :=
      fun r c => congrFun (congrFun hmul r) c
    have mj : u1.2.mult j k = q := (hmul j k).trans (if_pos ⟨rfl, rfl⟩)
    have mo : ∀ a c, a ≠ j → u1.2.mult a c = u.2.mult a c := fun a c ha =>
      (hmul a c).trans (if_neg fun hh => ha hh.1)
    have eo : ∀ a, a < n → a ≠ j → (∀ b, b < n → ent u1.1.1 a b = ent u.1.1 a b) ∧
        vf u1.1.2 a = vf u.1.2 a := fun a ha haj =>
      ⟨fun b hb => by rw [hent1 a b ha hb, if_neg fun hh => haj hh.1], by rw [hvf1 a, if_neg haj]⟩
    refine ⟨hw1, hsz1, hp1.trans hp, hr1.trans hr, fun a h1 h2 => ?_, fun a ha hcase => ?_,
      fun r c hrc => ?_⟩
    · rcases Nat.lt_succ_iff_lt_or_eq.1 h2 with h2 | rfl
      · have haj := Nat.ne_of_lt h2
        have han := Nat.lt_trans h2 hj2
        obtain ⟨d1, d2, d3⟩ := hdone a h1 h2
        rw [mo a k haj]
        exact ⟨d1, fun b hb => ((eo a han haj).1 b hb).trans (d2 b hb), (eo a han haj).2.trans d3⟩
      · rw [mj]
        refine ⟨by rw [← rowj k hk, ← rowk k hk]; exact hq, fun b hb => ?_, ?_⟩
        · rw [hent1 a b hj2 hb, rowj b hb, rowk b hb]
          exact if_congr (and_iff_right rfl) rfl rfl
        · rw [hvf1 a, if_pos rfl, vj, vk]
    · have haj : a ≠ j := fun e => by
        rcases hcase with h1 | h1
        · exact Nat.not_lt.2 h1 (e ▸ hkj)
        · exact Nat.not_succ_le_self j (e ▸ h1)
      obtain ⟨r1, r2⟩ := hrest a ha (hcase.imp id Nat.le_of_succ_le)
      exact ⟨fun b hb => ((eo a ha haj).1 b hb).trans (r1 b hb), (eo a ha haj).2.trans r2⟩
    · have hne : ¬ (r = j ∧ c = k) := fun h => hrc ⟨⟨h.1 ▸ hkj, h.1 ▸ Nat.lt_succ_self j⟩, h.2⟩
      rw [hmul r c, if_neg hne]
      exact hmu r c (fun h => hrc ⟨⟨h.1.1, Nat.lt_succ_of_lt h.1.2⟩, h.2⟩)

theorem solveBasic_run {n : Nat} {A : Mat K} {b x : Array K} (hA : WFn A n) (hb : b.size = n)
    (h : solveBasic A b = .ok x) :
    ∃ (m' : Mat K) (y : Array K) (tr : GTrace K), gaussT A b = .ok ((m', y), tr) ∧
      gaussWithPivot A b = .ok (m', y) ∧ backsolve m' y = .ok x := by
  unfold solveBasic at h
  have h1 : ¬ A.rows ≠ b.size := by rw [hA.2.1, hb]; simp
  have h2 : ¬ A.rows ≠ A.cols := by rw [hA.2.1, hA.2.2]; simp
  simp only [h1, h2, if_false, bind, Except.bind] at h
  cases hg : gaussWithPivot A b with
  | error e => rw [hg] at h; simp at h
  | ok s =>
    obtain ⟨m', y⟩ := s
    rw [hg] at h
    simp only at h
    obtain ⟨tr, htr⟩ := gaussT_of_gauss hg
    exact ⟨m', y, tr, htr, rfl, h⟩

theorem gaussStepT_run {k : Nat} {s s' : (Mat K × Array K) × GTrace K}
    (h : gaussStepT s k = .ok s') :
    ∃ p m1 x1, maxAbsInColumn s.1.1 k k = .ok p ∧ partialPivot s.1.1 s.1.2 k = .ok (m1, x1) ∧
      forM' (k + 1) m1.rows
        ((m1, x1), { mult := fun r c => s.2.mult (swapIdx p k r) c
                     perm := fun r => s.2.perm (swapIdx p k r)
                     reg := s.2.reg && decide (k ≤ p) }) (elimRowT k) = .ok s' := by
  unfold gaussStepT at h
  cases hp : partialPivotT s k with
  | error e => simp [hp, bind, Except.bind] at h
  | ok s1 =>
    simp only [hp, bind, Except.bind] at h
    unfold partialPivotT at hp
    cases hp0 : maxAbsInColumn s.1.1 k k with
    | error e => simp [hp0, bind, Except.bind] at hp
    | ok p =>
      cases hpp : partialPivot s.1.1 s.1.2 k with
      | error e => simp [hp0, hpp, bind, Except.bind] at hp
      | ok mx1 =>
        simp only [hp0, hpp, bind, Except.bind, pure, Except.pure] at hp
        injection hp with hp
        subst hp
        obtain ⟨m1, x1⟩ := mx1
        exact ⟨p, m1, x1, rfl, rfl, h⟩

theorem gaussStepT_struct {n k : Nat} {s s' : (Mat K × Array K) × GTrace K} (hm : WFn s.1.1 n)
    (hx : s.1.2.size = n) (hk : k < n) (h : gaussStepT s k = .ok s') :
    WFn s'.1.1 n ∧ s'.1.2.size = n ∧
      ∃ p, maxAbsInColumn s.1.1 k k = .ok p ∧ s'.2.reg = (s.2.reg && decide (k ≤ p)) := by
  obtain ⟨p, m1, x1, hp0, hpp, h⟩ := gaussStepT_run h
  obtain ⟨hpn, hw1, hsz1, _, _⟩ := partialPivot_struct hm hx hk hp0 hpp
  rw [hw1.2.1] at h
  obtain ⟨hw2, hsz2, _, hreg2, _⟩ := elimColT_struct (s := ((m1, x1), _)) hw1 hsz1 hk h
  exact ⟨hw2, hsz2, p, hp0, hreg2⟩

theorem gaussT_regular {n : Nat} {A : Mat K} {b : Array K} (hA : WFn A n) (hb : b.size = n)
    {s : (Mat K × Array K) × GTrace K} (h : gaussT A b = .ok s) : s.2.reg = true := by
  unfold gaussT at h
  rw [hA.2.1] at h
  by_cases hn : 1 ≤ n
  · have hus : usub n 1 = .ok (n - 1) := usub_ok hn
    simp only [hus, bind, Except.bind] at h
    have key := forM'_ok_inv
      (fun k (u : (Mat K × Array K) × GTrace K) => WFn u.1.1 n ∧ u.1.2.size = n ∧ u.2.reg = true)
      0 (n - 1) _ s gaussStepT (Nat.zero_le _) ⟨hA, hb, rfl⟩ ?_ h
    · exact key.2.2
    · intro k u u1 _ hk ⟨hw, hsz, hr⟩ hf
      obtain ⟨hw1, hsz1, p, hp, hreg⟩ := gaussStepT_struct hw hsz (Nat.lt_of_lt_of_le hk (Nat.sub_le n 1)) hf
      refine ⟨hw1, hsz1, ?_⟩
      have := maxAbsInColumn_ge hp
      rw [hreg, hr]
      simp [this]
  · have hus : usub n 1 = .error .arith := if_neg hn
    simp [hus, bind, Except.bind] at h

end Structural

section GaussFl
variable {M : FlModel}

theorem maxAbsInColumn_fl {m : Mat (Fl M)} {n k p : Nat} (hm : WFn m n) (hk : k < n)
    (h : maxAbsInColumn m k k = .ok p) :
    p < n ∧ k ≤ p ∧
      (∀ i, k ≤ i → i < n → |(ent m i k).val| ≤ |(ent m p k).val|) ∧
      ((∀ i, k ≤ i → i < n → (ent m i k).val = 0) → p = k) := by
  obtain ⟨⟨im, mx⟩, hs, h1, h2, u, hu, hdom, hcase⟩ := pivotSearch_gen (σ := Nat × Fl M)
    (fun a : Fl M => |a.val|) Fl.pivotLaw.lt_mag Fl.pivotLaw.mag_zero Fl.pivotLaw.size_zero_le
    (idx := Prod.fst) (mx := Prod.snd) (mk := fun i a => (i, a)) (fun _ _ => rfl) (fun _ _ => rfl)
    (v := fun i => ent m i k) hk
    (fun (idx, mx) i => do
      let x ← m.get i k
      let ax := ScalarExt.mag x
      if ScalarExt.lt mx ax then pure (i, ax) else pure (idx, mx))
    (fun s t _ ht => by
      simp only [hm.get ht hk, bind, Except.bind]
      split <;> rfl)
  rw [maxAbsInColumn, hm.2.1, hs] at h
  cases h
  simp only at h1 h2 hcase
  refine ⟨h2, h1, fun i hi1 hi2 => ?_, fun hz => ?_⟩
  · rcases hcase with ⟨h0, _⟩ | ⟨_, hv⟩
    · have := hdom i hi1 hi2
      rw [h0, Fl.zero_val, abs_zero] at this
      exact this.trans (abs_nonneg _)
    · rw [← hv]; exact hdom i hi1 hi2
  · rcases hcase with ⟨_, h0⟩ | ⟨hpos, hv⟩
    · exact h0
    · rw [hv, hz p h1 h2, Fl.zero_val, abs_zero] at hpos
      exact absurd hpos (lt_irrefl _)

/-- the augmented matrix `[m | x]`: column `n` is the right-hand side -/
def aug (n : Nat) (m : Mat (Fl M)) (x : Array (Fl M)) : Nat → Nat → Fl M :=
  fun r c => if c < n then ent m r c else vf x r

/-- the working array of the analysis: the recorded multipliers `ℓ` in the first `ρ r` columns of
row `r` (where `solve_basic` holds rounded residues), the augmented matrix elsewhere -/
def gW (n : Nat) (ρ : Nat → Nat) (ℓ : Nat → Nat → Fl M) (m : Mat (Fl M)) (x : Array (Fl M)) :
    Nat → Nat → Fl M :=
  fun r c => if c < ρ r then ℓ r c else aug n m x r c

theorem aug_elim {n k : Nat} {m m' : Mat (Fl M)} {x x' : Array (Fl M)} {ℓ : Nat → Fl M} (hk : k < n)
    (he : ∀ a b, a < n → b < n → ent m' a b =
      if k < a ∧ k ≤ b then ent m a b - ℓ a * ent m k b else ent m a b)
    (hv : ∀ a, a < n → vf x' a = if k < a then vf x a - ℓ a * vf x k else vf x a)
    {r : Nat} (hr : r < n) (c : Nat) :
    aug n m' x' r c = if k < r ∧ k ≤ c then aug n m x r c - ℓ r * aug n m x k c
      else aug n m x r c := by
  unfold aug
  by_cases hc : c < n
  · rw [if_pos hc, if_pos hc, if_pos hc, he r c hr hc]
  · rw [if_neg hc, if_neg hc, if_neg hc, hv r hr]
    exact if_congr (and_iff_left ((Nat.le_of_lt hk).trans (Nat.not_lt.1 hc))).symm rfl rfl

/-- the working array of `solve_basic` after `k` steps: Doolittle's description of the row-permuted
`[A | b]`, with the recorded multipliers in the place of the residues -/
def GDoo (n : Nat) (A : Mat (Fl M)) (b : Array (Fl M)) (k : Nat)
    (s : (Mat (Fl M) × Array (Fl M)) × GTrace (Fl M)) : Prop :=
  WFn s.1.1 n ∧ s.1.2.size = n ∧ ∃ σ : Nat → Nat, PermOK n s.2.perm σ ∧
    Doolittle (fun x : Fl M => x.val = 0) (fun a p => |a.val| ≤ |p.val|) n (n + 1) k (fun _ => true)
      (fun r c => aug n A b (s.2.perm r) c) (gW n (fun r => min r k) s.2.mult s.1.1 s.1.2)

theorem gaussStepT_doolittle {n k : Nat} {A : Mat (Fl M)} {b : Array (Fl M)}
    {s s' : (Mat (Fl M) × Array (Fl M)) × GTrace (Fl M)} (hk : k < n)
    (hs : GDoo n A b k s) (h : gaussStepT s k = .ok s') : GDoo n A b (k + 1) s' := by
  obtain ⟨hwf, hsz, σ, hperm, hD⟩ := hs
  obtain ⟨p, m1, x1, hp0, hpp, h⟩ := gaussStepT_run h
  obtain ⟨hpn, hw1, hsz1, hent, hvf⟩ := partialPivot_struct hwf hsz hk hp0 hpp
  rw [hw1.2.1] at h
  obtain ⟨_, hkp, hdom, _⟩ := maxAbsInColumn_fl hwf hk hp0
  obtain ⟨hw2, hsz2, hperm2, _, hdiv, he, hv, hmu⟩ :=
    elimColT_struct (s := ((m1, x1), _)) hw1 hsz1 hk h
  simp only at hperm2 hdiv he hv hmu
  have hmin : ∀ r, min (swapIdx p k r) k = min r k := swapIdx_min hkp (Nat.le_refl k)
  -- the working array after the exchange is the row-permuted working array
  have hD1 := hD.transfer (act' := fun _ => true) (ρ := swapIdx p k)
    (B' := fun r c => aug n A b (s.2.perm (swapIdx p k r)) c)
    (w' := gW n (fun r => min r k) (fun r c => s.2.mult (swapIdx p k r) c) m1 x1)
    (Nat.le_succ n) (fun r hr => ⟨swapIdx_lt hpn hk hr, hmin r⟩) (fun _ _ => rfl)
    (fun _ _ _ _ => rfl)
    (fun r c hr hc => by
      simp only [gW, aug, hmin]
      by_cases hcn : c < n
      · simp only [hcn, if_true]; rw [hent r c hr hcn]
      · simp only [hcn, if_false]; rw [hvf r])
    (fun t ht => swapIdx_of_lt hkp (Nat.le_refl k) ht)
  have hW1k : ∀ r, r < n → gW n (fun r => min r k)
      (fun r c => s.2.mult (swapIdx p k r) c) m1 x1 r k = ent m1 r k := fun r hr => by
    simp only [gW, aug, hk, if_true]
    rw [if_neg (Nat.not_lt.2 (Nat.min_le_right r k))]
  have hD2 := hD1.elim (q := fun r => s'.2.mult r k) (Nat.le_succ n) hk rfl
    (fun r hkr hr => by
      rw [hW1k r hr, hW1k k hk]
      refine ⟨hdiv r hkr hr, ?_⟩
      rw [hent r k hr hk, hent k k hk hk, swapIdx_right]
      exact hdom _ (swapIdx_ge hkp (Nat.le_refl k) hkr.le) (swapIdx_lt hpn hk hr))
    (w' := gW n (fun r => min r (k + 1)) s'.2.mult s'.1.1 s'.1.2)
    (fun r c hr _ => by
      have haug := aug_elim (ℓ := fun a => s'.2.mult a k) hk he hv hr c
      unfold gW
      beta_reduce
      by_cases hkr : k < r
      · rw [Nat.min_eq_right hkr, Nat.min_eq_right hkr.le, Nat.min_self, if_pos hkr]
        rcases Nat.lt_trichotomy c k with hlt | rfl | hkc
        · rw [if_pos (Nat.lt_succ_of_lt hlt), if_neg (Nat.ne_of_lt hlt), if_neg (Nat.lt_asymm hlt),
            if_pos hlt]
          exact hmu r c fun hh => Nat.ne_of_lt hlt hh.2
        · rw [if_pos (Nat.lt_succ_self c), if_pos rfl]
        · rw [if_neg (Nat.not_lt.2 hkc), if_neg (Nat.ne_of_gt hkc), if_pos hkc,
            if_neg (Nat.lt_asymm hkc), if_neg (Nat.lt_asymm hkc), haug, if_pos ⟨hkr, hkc.le⟩]
      · have hrk : r ≤ k := Nat.not_lt.1 hkr
        rw [Nat.min_eq_left (Nat.le_succ_of_le hrk), Nat.min_eq_left hrk, if_neg hkr, haug,
          if_neg fun hh : k < r ∧ k ≤ c => hkr hh.1]
        by_cases hcr : c < r
        · rw [if_pos hcr, if_pos hcr]
          exact hmu r c fun hh => hkr hh.1.1
        · rw [if_neg hcr, if_neg hcr])
  refine ⟨hw2, hsz2, fun j => swapIdx p k (σ j), ?_, ?_⟩
  · rw [hperm2]; exact hperm.swap hpn hk
  · rw [hperm2]; exact hD2

theorem gaussT_doolittle {n : Nat} (hn : 1 ≤ n) {A : Mat (Fl M)} {b : Array (Fl M)}
    (hA : WFn A n) (hb : b.size = n) {s : (Mat (Fl M) × Array (Fl M)) × GTrace (Fl M)}
    (h : gaussT A b = .ok s) : GDoo n A b (n - 1) s := by
  unfold gaussT at h
  rw [hA.2.1] at h
  have hus : usub n 1 = .ok (n - 1) := usub_ok hn
  simp only [hus, bind, Except.bind] at h
  refine forM'_ok_inv (fun k s => GDoo n A b k s) 0 (n - 1) _ s gaussStepT (Nat.zero_le _)
    ⟨hA, hb, fun r => r, PermOK.id n, ?_⟩
    (fun k s s1 _ hk hs hf => gaussStepT_doolittle (Nat.lt_of_lt_of_le hk (Nat.sub_le n 1)) hs hf) h
  have e : gW n (fun r => min r 0) (GTrace.init (K := Fl M)).mult A b = aug n A b := by
    funext r c
    simp only [gW, Nat.min_zero, Nat.not_lt_zero, if_false]
  rw [e]
  exact Doolittle.init

theorem gaussT_doolittle_final {n : Nat} (hn : 1 ≤ n) {A : Mat (Fl M)} {b : Array (Fl M)}
    (hA : WFn A n) (hb : b.size = n) {s : (Mat (Fl M) × Array (Fl M)) × GTrace (Fl M)}
    (h : gaussT A b = .ok s) :
    WFn s.1.1 n ∧ s.1.2.size = n ∧ ∃ σ : Nat → Nat, PermOK n s.2.perm σ ∧
      Doolittle (fun x : Fl M => x.val = 0) (fun a p => |a.val| ≤ |p.val|) n (n + 1) n
        (fun _ => true) (fun r c => aug n A b (s.2.perm r) c)
        (gW n (fun r => r) s.2.mult s.1.1 s.1.2) := by
  obtain ⟨hwf, hsz, σ, hperm, hD⟩ := gaussT_doolittle hn hA hb h
  have hDn := hD.stage_succ (Nat.le_of_eq (Nat.sub_add_cancel hn).symm)
  rw [Nat.sub_add_cancel hn] at hDn
  exact ⟨hwf, hsz, σ, hperm, hDn.transfer (ρ := fun r => r) (Nat.le_succ n) (fun r hr => ⟨hr, rfl⟩)
    (fun _ _ => rfl) (fun _ _ _ _ => rfl)
    (fun r c hr _ => by simp only [gW, Nat.min_eq_left (Nat.le_sub_one_of_lt hr)])
    (fun _ _ => rfl)⟩

/-- **the computed factorisation of the augmented matrix**: at the end of the
instrumented elimination, with `L̂ = Lfn` of the recorded multipliers, `Û` the
upper triangle of the final matrix and `ŷ` the final right-hand side:
`a_{π r, c} = Σ_k l̂_rk û_kc Θ_k` and `b_{π r} = Σ_k l̂_rk ŷ_k Θ'_k`, every `Θ`, `Θ'` a product of at most
`r ≤ n - 1` factors `(1+δ)^{±1}`; `π` is a permutation and `|l̂_rc| ≤ 1 + u` -/
theorem gauss_factor_fl (hu : M.u < 1) {n : Nat} (hn : 1 ≤ n) {A : Mat (Fl M)} {b : Array (Fl M)}
    (hA : WFn A n) (hb : b.size = n) {m' : Mat (Fl M)} {y : Array (Fl M)} {tr : GTrace (Fl M)}
    (h : gaussT A b = .ok ((m', y), tr)) :
    WFn m' n ∧ y.size = n ∧ ∃ σ : Nat → Nat, PermOK n tr.perm σ ∧
      (∀ r c, r < n → c < r → |(tr.mult r c).val| ≤ 1 + M.u) ∧
      (∀ r c, r < n → c < n → ∃ Θ : Nat → ℝ, (∀ k, M.Th r (Θ k)) ∧
        (ent A (tr.perm r) c).val = ∑ k ∈ Finset.range n,
          Lfn (fun a b => (tr.mult a b).val) r k * (Ufn n (valEnt m') k c * Θ k)) ∧
      (∀ r, r < n → ∃ Θ : Nat → ℝ, (∀ k, M.Th r (Θ k)) ∧
        (vf b (tr.perm r)).val = ∑ k ∈ Finset.range n,
          Lfn (fun a b => (tr.mult a b).val) r k * (Θ k * (vf y k).val)) := by
  obtain ⟨hwf, hsz, σ, hperm, hD⟩ := gaussT_doolittle_final hn hA hb h
  simp only at hwf hsz hperm hD
  -- the two factors of the array: multipliers left of the diagonal, `[m' | y]` from it on
  have hlow : ∀ {r c}, c < r → gW n (fun r => r) tr.mult m' y r c = tr.mult r c :=
    fun h => if_pos h
  have hupp : ∀ {k c}, ¬ c < k → gW n (fun r => r) tr.mult m' y k c = aug n m' y k c :=
    fun h => if_neg h
  have hL : ∀ r k, Lfn (fun a b => (gW n (fun r => r) tr.mult m' y a b).val) r k
      = Lfn (fun a b => (tr.mult a b).val) r k := fun r k => by
    unfold Lfn
    by_cases hkr : k < r
    · rw [if_pos hkr, if_pos hkr]
      exact congrArg Fl.val (hlow hkr)
    · rw [if_neg hkr, if_neg hkr]
  have hrows := fun r (hr : r < n) c (hc : c < n + 1) =>
    LURowF_full_fn (n := n) hr (hD.toLURowF hu (fun _ h => h) hr) c hc
  refine ⟨hwf, hsz, σ, hperm, fun r c hr hc => ?_, fun r c hr hc => ?_, fun r hr => ?_⟩
  · obtain ⟨hdiv, hdom⟩ := hD.lower r c hr (by rw [Nat.min_eq_left hr.le]; exact hc) rfl
    obtain ⟨_, e⟩ := Fl.divM_ok hdiv
    rw [← hlow hc, e]
    exact Fl.abs_div_le _ _ hdom
  · obtain ⟨Θ, hΘ, e⟩ := hrows r hr c (Nat.lt_succ_of_lt hc)
    refine ⟨Θ, hΘ, ?_⟩
    rw [show (ent A (tr.perm r) c).val = (aug n A b (tr.perm r) c).val by rw [aug, if_pos hc], e]
    refine Finset.sum_congr rfl fun k _ => ?_
    rw [hL r k, Ufn, valEnt]
    by_cases hck : c < k
    · rw [if_pos hck, if_pos ⟨hc, hck⟩]
    · rw [if_neg hck, if_neg fun hh => hck hh.2, hupp hck, aug, if_pos hc]
  · obtain ⟨Θ, hΘ, e⟩ := hrows r hr n (Nat.lt_succ_self n)
    refine ⟨Θ, hΘ, ?_⟩
    rw [show (vf b (tr.perm r)).val = (aug n A b (tr.perm r) n).val by
      rw [aug, if_neg (Nat.lt_irrefl n)], e]
    refine Finset.sum_congr rfl fun k hk => ?_
    have hnk : ¬ n < k := Nat.not_lt.2 (Finset.mem_range.1 hk).le
    rw [hL r k, if_neg hnk, hupp hnk, aug, if_neg (Nat.lt_irrefl n), mul_comm (Θ k)]

/-- **`solve_basic`, backward error, core**: an instrumented elimination followed by a
successful back substitution.  The right-hand side is NOT perturbed (the perturbation factors of the
transformed right-hand side play the role of the forward substitution `L̂ŷ = Pb` and are moved into
`ΔA`). -/
theorem solveBasic_backward_core (hu : M.u < 1) {n : Nat} (hn : 1 ≤ n) {A : Mat (Fl M)}
    {a : Nat → Nat → Fl M} {b x : Array (Fl M)} (hA : Is A n n a) (hb : b.size = n)
    {m' : Mat (Fl M)} {y : Array (Fl M)} {tr : GTrace (Fl M)}
    (hg : gaussT A b = .ok ((m', y), tr)) (hbs : backsolve m' y = .ok x) :
    x.size = n ∧ (∀ i, i < n → (ent m' i i).val ≠ 0) ∧
    ∃ ΔA : Nat → Nat → ℝ,
      (∀ i, i < n →
        ∑ j ∈ Finset.range n, ((a i j).val + ΔA i j) * (vf x j).val = (vf b i).val) ∧
      ∀ r c, r < n → c < n → |ΔA (tr.perm r) c| ≤ (M.gq (n - 1) + M.gq (2 * n - 1)) *
        ∑ k ∈ Finset.range n,
          |Lfn (fun a b => (tr.mult a b).val) r k| * |Ufn n (valEnt m') k c| := by
  obtain ⟨hwf, hsz, σ, hperm, hmult, hfa, hfb⟩ := gauss_factor_fl hu hn hA.wfn hb hg
  obtain ⟨hxs, mu, hmu, hU⟩ := backsolve_backward_ent hu hwf hsz hn hbs
  refine ⟨hxs, fun i hi => (hU i hi).1, ?_⟩
  obtain ⟨lam, hlam⟩ := exists_fun_of_lt hfb
  exact hperm.lu_compose_th hu (e := n - 1) (m := 0) (Nat.le_of_eq (Nat.sub_add_cancel hn).symm)
    (a := fun i j => (a i j).val)
    (a' := fun i j => (ent A i j).val) (fun i j hi hj => congrArg Fl.val (hA.ent_eq hi hj))
    (Lfn (fun a b => (tr.mult a b).val)) (Ufn n (valEnt m')) (fun i => (vf b i).val)
    (fun k => (vf y k).val) (fun c => (vf x c).val) lam mu hfa
    (fun r hr => ((hlam r hr).2).symm) (fun k hk => (hU k hk).2)
    (fun r k hr => (hlam r hr).1 k) hmu

theorem solveBasic_backward_core2 (hu : M.u < 1) {n : Nat} (hn : 1 ≤ n) {A : Mat (Fl M)}
    {b x : Array (Fl M)} (hA : WFn A n) (hb : b.size = n) {m' : Mat (Fl M)} {y : Array (Fl M)}
    {tr : GTrace (Fl M)} (hg : gaussT A b = .ok ((m', y), tr))
    (hbs : backsolve m' y = .ok x) :
    ∃ (ΔA : Nat → Nat → ℝ) (Δb : Nat → ℝ),
      (∀ r, r < n → ∑ c ∈ Finset.range n,
        ((ent A (tr.perm r) c).val + ΔA r c) * (vf x c).val = (vf b (tr.perm r)).val + Δb r) ∧
      (∀ r c, r < n → c < n → |ΔA r c| ≤ (M.gq (n - 1) + M.gq n) *
        ∑ k ∈ Finset.range n,
          |Lfn (fun a b => (tr.mult a b).val) r k| * |Ufn n (valEnt m') k c|) ∧
      (∀ r, r < n → |Δb r| ≤ M.gq (n - 1) *
        ∑ k ∈ Finset.range n, |Lfn (fun a b => (tr.mult a b).val) r k| * |(vf y k).val|) := by
  obtain ⟨hwf, hsz, σ, hperm, hmult, hfa, hfb⟩ := gauss_factor_fl hu hn hA hb hg
  obtain ⟨hxs, mu, hmu, hU⟩ := backsolve_backward_ent hu hwf hsz hn hbs
  obtain ⟨ΔA, h1, h2⟩ := lu_compose (Lfn (fun a b => (tr.mult a b).val)) (Ufn n (valEnt m'))
    (fun r c => (ent A (tr.perm r) c).val)
    (fun r => ∑ k ∈ Finset.range n, Lfn (fun a b => (tr.mult a b).val) r k * (1 * (vf y k).val))
    (fun k => (vf y k).val) (fun c => (vf x c).val) (fun _ _ => 1) mu (M.gq (n - 1)) (M.gq n)
    (fun r c hr hc => (hfa r c hr hc).imp fun Θ h =>
      ⟨fun k _ => ((h.1 k).mono hu (Nat.le_sub_one_of_lt hr)).abs_sub_one_le hu, h.2⟩)
    (fun r hr => rfl)
    (fun k hk => (hU k hk).2)
    (fun r k c hr hk hc => by
      rw [one_mul]
      exact ((hmu k c hk).mono hu (Nat.sub_le n k)).abs_sub_one_le hu)
  refine ⟨ΔA, fun r => (∑ k ∈ Finset.range n,
      Lfn (fun a b => (tr.mult a b).val) r k * (1 * (vf y k).val)) - (vf b (tr.perm r)).val,
    ?_, h2, ?_⟩
  · intro r hr
    rw [h1 r hr]; ring
  · intro r hr
    obtain ⟨lam, hl1, hl2⟩ := hfb r hr
    beta_reduce
    rw [hl2]
    simp only [one_mul]
    exact abs_sum_sub_le _ _ lam _ (fun k _ => by ring)
      (fun k _ => ((hl1 k).mono hu (Nat.le_sub_one_of_lt hr)).abs_sub_one_le hu)

end GaussFl

end Mat
end Ohsl
