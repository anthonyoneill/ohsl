/-
  Ohsl.Lemmas.SparseFlat — `scale`, the two sparse products and `to_dense` of a well-formed storage
  as ONE loop over all slots, and sums over all slots regrouped by column.  Both products are
  instances of `flat_scatter` of Lemmas/SparseWF: each component is the ordered fold over the slots
  aimed at it (`C07.slotsTo`), for any scalar; the exact sums (Props/C07S) and the rounded ones
  (Props/C07F) are read off these folds.
  Class (S): any scalar type; the `Finset` sums need an additive commutative monoid, the denoted entry
  `Sp.entry` a commutative semiring.
-/
import Ohsl.Lemmas.SparseWF
import Ohsl.Lemmas.MatSpec
import Ohsl.Lemmas.ArrayIndex
namespace Ohsl
open Mat (forM' forM'_inv aget_ok aset_ok)
namespace Sp
variable {K : Type}

theorem scale_eq [Mul K] (s : Sp K) (hv : s.val.size = s.nonzero) (a : K) :
    scale s a = .ok { s with val := s.val.map (· * a) } := by
  have hloop : forM' 0 s.nonzero s.val (fun v k => do
      let x ← aget v k
      aset v k (x * a)) = .ok (s.val.map (· * a)) := by
    rcases Nat.eq_zero_or_pos s.nonzero with h0 | h0
    · rw [Mat.forM'_empty 0 _ _ _ (Nat.le_of_eq h0), Array.eq_empty_of_size_eq_zero (hv.trans h0),
        Array.map_empty]
    · -- the first value serves as the default in the description of `s.val` by itself
      have d : K := s.val[0]'(hv ▸ h0)
      obtain ⟨v, h1, h2⟩ := (hv ▸ Arr.Is.of_getD s.val d).forM'_writes (fun t k => k < t)
        (fun k => s.val[k]?.getD d * a) (Nat.zero_le _) (fun k _ => Nat.not_lt_zero k)
        (f := fun v k => do
          let x ← aget v k
          aset v k (x * a))
        fun t u _ ht hs => ⟨t, ht, by
          have g := hs.aget ht
          rw [if_neg (Nat.lt_irrefl t)] at g
          simp only [g, bind, Except.bind], fun k _ => Nat.lt_succ_iff_lt_or_eq⟩
      rw [h1, h2.unique (b := s.val.map (· * a)) ⟨Array.size_map.trans hv, fun i hi => by
        rw [if_pos hi, Array.getElem?_map, Array.getElem?_eq_getElem (hv ▸ hi)]; rfl⟩]
  rw [scale, hloop]
  rfl

section Flat
variable [Add K] [Zero K] [Mul K]

theorem WF.multiply_flat {s : Sp K} (h : WF s) (x : Array K) (hx : x.size = s.cols) :
    multiply s x = forM' 0 s.nonzero (Array.replicate s.rows (0 : K)) (fun res k => do
      let r ← aget res (s.ri k)
      aset res (s.ri k) (r + s.vl k * x[s.colOf k]?.getD 0)) := by
  rw [multiply, if_neg (not_not.mpr hx.symm)]
  refine (Mat.forM'_congr _ _ _ _ _ ?_).trans (h.forM'_cols_flat (fun j res k => do
    let r ← aget res (s.ri k)
    aset res (s.ri k) (r + s.vl k * x[j]?.getD 0)) _)
  intro j res _ hj
  have hxj : j < x.size := hx ▸ hj
  rw [aget_ok hxj, ok_bind, h.aget_cs (Nat.le_of_lt hj), h.aget_cs hj]
  refine Mat.forM'_congr _ _ _ _ _ (fun k res hk1 hk2 => ?_)
  have hk := h.slot_lt hj hk2
  rw [h.aget_ri hk, h.aget_vl hk]
  simp only [ok_bind, hxj, Array.getElem?_eq_getElem, Option.getD_some]

theorem WF.transposeMultiply_flat {s : Sp K} (h : WF s) (y : Array K) (hy : y.size = s.rows) :
    transposeMultiply s y = forM' 0 s.nonzero (Array.replicate s.cols (0 : K)) (fun res k => do
      let r ← aget res (s.colOf k)
      aset res (s.colOf k) (r + s.vl k * y[s.ri k]?.getD 0)) := by
  rw [transposeMultiply, if_neg (not_not.mpr hy.symm), h.forM'_cols_flat (σ := Array K) (fun i res k => do
      let v ← aget s.val k
      let ri ← aget s.rowIndex k
      let xr ← aget y ri
      let r ← aget res i
      aset res i (r + v * xr))]
  refine Mat.forM'_congr _ _ _ _ _ (fun k res _ hk => ?_)
  have hr : s.ri k < y.size := by rw [hy]; exact h.riLt k hk
  simp only [h.aget_vl hk, h.aget_ri hk, aget_ok hr, ok_bind, hr, Array.getElem?_eq_getElem,
    Option.getD_some]

end Flat

section FlatSum
open Finset

theorem sum_map_filter_range {M : Type} [AddCommMonoid M] (p : Nat → Bool) (g : Nat → M) (N : Nat) :
    (((List.range N).filter p).map g).sum = ∑ k ∈ range N, if p k then g k else 0 := by
  rw [← List.sum_toFinset g (List.nodup_range.filter _), List.toFinset_filter, List.toFinset_range,
    Finset.sum_filter]

variable {M : Type} [AddCommMonoid M]

theorem WF.sum_slots_by_col {s : Sp K} (h : WF s) (F : ℕ → ℕ → M) :
    ∑ k ∈ range s.nonzero, F (s.colOf k) k
      = ∑ j ∈ range s.cols, ∑ k ∈ Ico (s.cs j) (s.cs (j + 1)), F j k := by
  have key : ∀ m, m ≤ s.cols → ∑ k ∈ range (s.cs m), F (s.colOf k) k
      = ∑ j ∈ range m, ∑ k ∈ Ico (s.cs j) (s.cs (j + 1)), F j k := by
    intro m
    induction m with
    | zero => intro _; rw [h.cs_zero]; simp
    | succ m ih =>
      intro hm
      rw [sum_range_succ, ← ih (Nat.le_of_lt hm), ← sum_range_add_sum_Ico _ (h.mono m hm)]
      congr 1
      refine sum_congr rfl (fun k hk => ?_)
      obtain ⟨a, b⟩ := mem_Ico.mp hk
      rw [h.colOf_eq hm a b]
  have := key s.cols (le_refl _)
  rwa [h.cs_last] at this

theorem WF.sum_slots_of_col {s : Sp K} (h : WF s) {j : Nat} (hj : j < s.cols) (g : ℕ → M) :
    ∑ k ∈ range s.nonzero, (if s.colOf k = j then g k else 0)
      = ∑ k ∈ Ico (s.cs j) (s.cs (j + 1)), g k := by
  rw [h.sum_slots_by_col (fun j' k => if j' = j then g k else 0),
    sum_eq_single j (fun b _ hb => by simp [hb]) (fun hn => absurd (mem_range.mpr hj) hn)]
  simp

end FlatSum

section Dense
variable [Zero K]

theorem WF.toDense_firstSlot {s : Sp K} (h : WF s)
    (hinj : ∀ k k', k < s.nonzero → k' < s.nonzero → s.ri k = s.ri k' → s.colOf k = s.colOf k' →
      k = k') :
    ∃ d, toDense s = .ok d ∧
      Mat.Is d s.rows s.cols (fun i j => ((firstSlot s i j).map s.vl).getD 0) := by
  unfold toDense
  rw [h.forM'_cols_flat (σ := Mat K) (fun j d k => do
      let r ← aget s.rowIndex k
      let v ← aget s.val k
      d.set r j v)]
  refine forM'_inv
    (fun m (d : Mat K) => Mat.Is d s.rows s.cols (fun a b =>
      ((firstHit (fun k => s.ri k == a && s.colOf k == b) m).map s.vl).getD 0))
    0 s.nonzero (Mat.new s.rows s.cols (0 : K)) _ (Nat.zero_le _)
    (by simpa [firstHit] using Mat.Is.of_new s.rows s.cols (0 : K)) ?_
  intro m d _ hm hI
  obtain ⟨d', g1, g2⟩ := hI.set (h.riLt m hm) (h.colOf_lt hm) (s.vl m)
  refine ⟨d', by simp only [h.aget_ri hm, h.aget_vl hm, bind, Except.bind]; exact g1,
    g2.congr ?_⟩
  intro a b _ _
  simp only [firstHit]
  by_cases hab : a = s.ri m ∧ b = s.colOf m
  · obtain ⟨rfl, rfl⟩ := hab
    -- no earlier slot holds the position of slot `m`
    have hnone : firstHit (fun k => s.ri k == s.ri m && s.colOf k == s.colOf m) m = none :=
      firstHit_eq_none.mpr fun k hk => Bool.eq_false_iff.mpr fun hb => by
        have hb' : s.ri k = s.ri m ∧ s.colOf k = s.colOf m := by
          simpa only [Bool.and_eq_true, beq_iff_eq] using hb
        exact Nat.ne_of_lt hk (hinj k m (Nat.lt_trans hk hm) hm hb'.1 hb'.2)
    simp [hnone]
  · have hp : (s.ri m == a && s.colOf m == b) = false := Bool.eq_false_iff.mpr fun hb => by
      have hb' : s.ri m = a ∧ s.colOf m = b := by
        simpa only [Bool.and_eq_true, beq_iff_eq] using hb
      exact hab ⟨hb'.1.symm, hb'.2.symm⟩
    simp only [hab, if_false, hp]
    cases firstHit (fun k => s.ri k == a && s.colOf k == b) m <;> rfl

end Dense

section Entry
variable [CommSemiring K]

theorem WF.entry_eq_sum_trips {s : Sp K} (h : WF s) (i : Nat) {j : Nat} (hj : j < s.cols) :
    s.entry i j = ((trips s).map (fun t => if t.1 = i ∧ t.2.1 = j then t.2.2 else 0)).sum := by
  rw [entry, ← h.sum_slots_of_col hj, ← List.toFinset_range, List.sum_toFinset _ List.nodup_range,
    trips, List.map_map]
  refine congrArg List.sum (List.map_congr_left fun k _ => ?_)
  show (if s.colOf k = j then (if s.ri k = i then s.vl k else 0) else 0) =
    if s.ri k = i ∧ s.colOf k = j then s.vl k else 0
  simp only [← ite_and, and_comm]

end Entry

end Sp
end Ohsl

namespace Ohsl.Props.C07
open Ohsl Ohsl.Sp

/-- the slots `k < N` whose target (`row_index` for `multiply`, column for `transpose_multiply`) is
`i`, in storage order -/
def slotsTo (tgt : Nat → Nat) (N i : Nat) : List Nat :=
  (List.range N).filter (fun k => decide (tgt k = i))

theorem mem_slotsTo {tgt : Nat → Nat} {N i k : Nat} : k ∈ slotsTo tgt N i ↔ k < N ∧ tgt k = i := by
  simp [slotsTo]

theorem slotsTo_nodup (tgt : Nat → Nat) (N i : Nat) : (slotsTo tgt N i).Nodup :=
  List.Nodup.filter _ List.nodup_range

theorem sum_map_slotsTo {M : Type} [AddCommMonoid M] (tgt : Nat → Nat) (i : Nat) (g : ℕ → M)
    (N : Nat) :
    ((slotsTo tgt N i).map g).sum = ∑ k ∈ Finset.range N, if tgt k = i then g k else 0 :=
  (sum_map_filter_range _ g N).trans
    (Finset.sum_congr rfl fun k _ => by simp only [decide_eq_true_eq])

theorem slotsTo_colOf {K : Type} {s : Sp K} (h : WF s) {j : Nat} (hj : j < s.cols) :
    slotsTo s.colOf s.nonzero j = List.range' (s.cs j) (s.cs (j + 1) - s.cs j) := by
  -- both lists are increasing, so it is enough that they have the same members
  refine (List.pairwise_lt_range.filter _).eq_of_mem_iff (List.pairwise_lt_range' _) fun k => ?_
  have hab : s.cs j ≤ s.cs (j + 1) := h.mono j hj
  refine (mem_slotsTo (tgt := s.colOf)).trans (Iff.trans ?_ List.mem_range'_1.symm)
  constructor
  · rintro ⟨hk, e⟩
    obtain ⟨a, b⟩ := (h.colOf_iff hj hk).mp e
    exact ⟨a, (Nat.add_sub_cancel' hab).symm ▸ b⟩
  · rintro ⟨a, b⟩
    have b' : k < s.cs (j + 1) := Nat.add_sub_cancel' hab ▸ b
    exact ⟨h.slot_lt hj b', h.colOf_eq hj a b'⟩

section Structural
variable {K : Type} [Add K] [Mul K] [Zero K]

/-- (S) **`multiply` as ordered folds**: on well-formed storage and a conformable vector the call
succeeds and component `i` is the left fold from `0`, in storage order, of the products
`val[k] * x[col k]` over the slots `k` with `row_index[k] = i`. -/
theorem multiply_fold {s : Sp K} (h : WF s) (x : Array K) (hx : x.size = s.cols) :
    ∃ y, multiply s x = .ok y ∧ y.size = s.rows ∧ ∀ i, i < s.rows → y[i]?.getD 0 =
      ((slotsTo s.ri s.nonzero i).map (fun k => s.vl k * x.getD (s.colOf k) 0)).foldl (· + ·) 0 := by
  rw [h.multiply_flat x hx]
  simp only [Array.getD_eq_getD_getElem?]
  exact flat_scatter s.ri (fun k => s.vl k * x[s.colOf k]?.getD 0) s.rows s.nonzero h.riLt

theorem transposeMultiply_slots {s : Sp K} (h : WF s) (y : Array K) (hy : y.size = s.rows) :
    ∃ z, transposeMultiply s y = .ok z ∧ z.size = s.cols ∧ ∀ j, j < s.cols → z[j]?.getD 0 =
      ((slotsTo s.colOf s.nonzero j).map (fun k => s.vl k * y.getD (s.ri k) 0)).foldl (· + ·) 0 := by
  rw [h.transposeMultiply_flat y hy]
  simp only [Array.getD_eq_getD_getElem?]
  exact flat_scatter s.colOf (fun k => s.vl k * y[s.ri k]?.getD 0) s.cols s.nonzero
    (fun k hk => h.colOf_lt hk)

/-- (S) **`transpose_multiply` as ordered folds**: component `j` is the left fold from `0` of the
products `val[k] * y[row_index[k]]` over the slots `k = col_start[j] … col_start[j+1]-1`. -/
theorem transposeMultiply_fold {s : Sp K} (h : WF s) (y : Array K) (hy : y.size = s.rows) :
    ∃ z, transposeMultiply s y = .ok z ∧ z.size = s.cols ∧ ∀ j, j < s.cols → z[j]?.getD 0 =
      ((List.range' (s.cs j) (s.cs (j + 1) - s.cs j)).map
        (fun k => s.vl k * y.getD (s.ri k) 0)).foldl (· + ·) 0 := by
  obtain ⟨z, g1, g2, g3⟩ := transposeMultiply_slots h y hy
  exact ⟨z, g1, g2, fun j hj => by rw [g3 j hj, slotsTo_colOf h hj]⟩

theorem multiply_trips {s : Sp K} (h : WF s) (x : Array K) (hx : x.size = s.cols) :
    ∃ y, multiply s x = .ok y ∧ y.size = s.rows ∧ ∀ i, i < s.rows → y[i]?.getD 0 =
      (((trips s).filter (fun t => decide (t.1 = i))).map
        (fun t => t.2.2 * x.getD t.2.1 0)).foldl (· + ·) 0 := by
  obtain ⟨y, h1, h2, h3⟩ := multiply_fold h x hx
  refine ⟨y, h1, h2, fun i hi => (h3 i hi).trans ?_⟩
  rw [trips, List.filter_map, List.map_map]
  rfl

theorem transposeMultiply_trips {s : Sp K} (h : WF s) (y : Array K) (hy : y.size = s.rows) :
    ∃ z, transposeMultiply s y = .ok z ∧ z.size = s.cols ∧ ∀ j, j < s.cols → z[j]?.getD 0 =
      (((trips s).filter (fun t => decide (t.2.1 = j))).map
        (fun t => t.2.2 * y.getD t.1 0)).foldl (· + ·) 0 := by
  obtain ⟨z, h1, h2, h3⟩ := transposeMultiply_slots h y hy
  refine ⟨z, h1, h2, fun j hj => (h3 j hj).trans ?_⟩
  rw [trips, List.filter_map, List.map_map]
  rfl

end Structural

end Ohsl.Props.C07
