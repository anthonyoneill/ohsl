/-
  Ohsl.Lemmas.Doolittle — what Gaussian elimination with stored multipliers leaves in its working
  array, for EVERY scalar type (no algebraic law): Doolittle's formulas, as equalities between
  results of `-`, `*` and `divM`, over the recurrence `sdotA` of SolveRun.lean.

  `Doolittle Null Dom n N i act B w`: the `n × N` array `w` (`n ≤ N`: further columns are right-hand
  sides) after `i` column steps on the row-permuted input `B`.  `Null x`, `Dom a p` are what the
  pivot search of the solver at hand knows of a column it skips and of a pivot `p` it chose for the
  entry `a`; the description carries them along and never looks inside (`lu_decomp_in_place`: least
  size, dominated by a pivot of larger than least size; `gauss_with_pivot` never skips and has
  `|a| ≤ |p|`).  A solver enters with the description of ITS loop: one `transfer` for the exchange
  and one `skip` or `elim` for the column loop per step.  The exact relation `P·A = L·U` and the
  perturbed row relation `LURowF` are both read off `Doolittle … n N n …`.
-/
import Ohsl.Lemmas.SolveRun
import Mathlib.Algebra.BigOperators.Group.Finset.Basic
import Mathlib.Algebra.BigOperators.Ring.Finset
import Mathlib.Tactic.Ring
import Mathlib.Tactic.SplitIfs
namespace Ohsl
namespace Mat

section Rec
variable {K : Type} [Sub K] [Mul K]

/-- entry `(r,c)` after the eliminations against the active columns `< k`: the recurrence from
`B r c` with the multipliers `w r t` of row `r` and the entries `w t c` of the pivot rows -/
def T (act : Nat → Bool) (w B : Nat → Nat → K) (r c k : Nat) : K :=
  sdotA act (w r) (fun t => w t c) (B r c) k

theorem T_succ (act : Nat → Bool) (w B : Nat → Nat → K) (r c k : Nat) :
    T act w B r c (k + 1) = if act k then T act w B r c k - w r k * w k c else T act w B r c k :=
  rfl

theorem T_congr {act act' : Nat → Bool} {w w' B B' : Nat → Nat → K} {r r' c k : Nat}
    (hB : B r c = B' r' c)
    (h : ∀ t, t < k → act t = act' t ∧ w r t = w' r' t ∧ w t c = w' t c) :
    T act w B r c k = T act' w' B' r' c k := by
  unfold T
  rw [hB]
  exact sdotA_congr _ k h

end Rec

/-- Row `r` has gone through `min r i` eliminations.  Every entry to the right of them is the
recurrence run that far; every stored multiplier is the recurrence followed by one division by the
pivot, which dominates it (`Dom`: what the pivot search knows of the pivot it chose); below a skipped
pivot stands the undivided recurrence, which is null (`Null`: what the search knows of a column it
skips).  At `i = n` these are Doolittle's formulas for `L` and `U`. -/
structure Doolittle {K : Type} [Sub K] [Mul K] [ScalarExt K] (Null : K → Prop) (Dom : K → K → Prop)
    (n N i : Nat) (act : Nat → Bool) (B w : Nat → Nat → K) : Prop where
  upper : ∀ r c, r < n → c < N → min r i ≤ c → w r c = T act w B r c (min r i)
  lower : ∀ r c, r < n → c < min r i → act c = true →
    divM (T act w B r c c) (w c c) = .ok (w r c) ∧ Dom (T act w B r c c) (w c c)
  skipped : ∀ r c, r < n → c < min r i → act c = false → w r c = T act w B r c c ∧ Null (w r c)

namespace Doolittle
variable {K : Type} [Sub K] [Mul K] [ScalarExt K] {Null : K → Prop} {Dom : K → K → Prop}
  {n N i : Nat} {act : Nat → Bool} {B w : Nat → Nat → K}

theorem init : Doolittle Null Dom n N 0 act w w :=
  ⟨fun r c _ _ _ => by rw [Nat.min_zero]; rfl,
    fun r c _ hc => absurd (Nat.min_zero r ▸ hc) (Nat.not_lt_zero c),
    fun r c _ hc => absurd (Nat.min_zero r ▸ hc) (Nat.not_lt_zero c)⟩

/-- The facts of stage `i` read `act` below `i` only, and rows may be renamed by a `ρ` that fixes the
rows `< i` (the row exchange of a step: `ρ` a transposition of two rows `≥ i`).  Only the `n` rows are
renamed; the columns `n ≤ c < N` are right-hand sides and are carried along. -/
theorem transfer {act' : Nat → Bool} {B' w' : Nat → Nat → K} {ρ : Nat → Nat}
    (h : Doolittle Null Dom n N i act B w) (hN : n ≤ N)
    (hρ : ∀ r, r < n → ρ r < n ∧ min (ρ r) i = min r i)
    (hact : ∀ t, t < i → act' t = act t) (hB : ∀ r c, r < n → c < N → B' r c = B (ρ r) c)
    (hw : ∀ r c, r < n → c < N → w' r c = w (ρ r) c) (hfix : ∀ t, t < i → ρ t = t) :
    Doolittle Null Dom n N i act' B' w' := by
  have hT : ∀ r c k, r < n → c < N → k ≤ min r i → T act' w' B' r c k = T act w B (ρ r) c k :=
    fun r c k hr hc hk => T_congr (hB r c hr hc) fun t ht => by
      have hti : t < i := Nat.lt_of_lt_of_le ht (Nat.le_trans hk (Nat.min_le_right r i))
      have htn : t < n :=
        Nat.lt_trans (Nat.lt_of_lt_of_le ht (Nat.le_trans hk (Nat.min_le_left r i))) hr
      exact ⟨hact t hti, hw r t hr (Nat.lt_of_lt_of_le htn hN), by rw [hw t c htn hc, hfix t hti]⟩
  refine ⟨fun r c hr hc hm => ?_, fun r c hr hc ha => ?_, fun r c hr hc ha => ?_⟩
  · rw [hw r c hr hc, hT r c _ hr hc (Nat.le_refl _), ← (hρ r hr).2]
    exact h.upper _ c (hρ r hr).1 hc (by rw [(hρ r hr).2]; exact hm)
  · have hci : c < i := Nat.lt_of_lt_of_le hc (Nat.min_le_right r i)
    have hcn : c < n := Nat.lt_trans (Nat.lt_of_lt_of_le hc (Nat.min_le_left r i)) hr
    have hc' : c < N := Nat.lt_of_lt_of_le hcn hN
    have := h.lower (ρ r) c (hρ r hr).1 (by rw [(hρ r hr).2]; exact hc)
      (by rw [← hact c hci]; exact ha)
    rw [hw r c hr hc', hw c c hcn hc', hfix c hci, hT r c c hr hc' hc.le]
    exact this
  · have hci : c < i := Nat.lt_of_lt_of_le hc (Nat.min_le_right r i)
    have hc' : c < N := Nat.lt_of_lt_of_le
      (Nat.lt_trans (Nat.lt_of_lt_of_le hc (Nat.min_le_left r i)) hr) hN
    have := h.skipped (ρ r) c (hρ r hr).1 (by rw [(hρ r hr).2]; exact hc)
      (by rw [← hact c hci]; exact ha)
    rw [hw r c hr hc', hT r c c hr hc' hc.le]
    exact this

theorem congr_input {B' : Nat → Nat → K} (h : Doolittle Null Dom n N i act B w)
    (hN : n ≤ N) (hB : ∀ r c, r < n → c < N → B' r c = B r c) :
    Doolittle Null Dom n N i act B' w :=
  h.transfer (ρ := fun r => r) hN (fun _ hr => ⟨hr, rfl⟩) (fun _ _ => rfl) hB
    (fun _ _ _ _ => rfl) (fun _ _ => rfl)

private theorem stage_below {r i : Nat} (h : i < r) : min r i = i ∧ min r (i + 1) = i + 1 :=
  ⟨Nat.min_eq_right h.le, Nat.min_eq_right h⟩

private theorem stage_above {r i : Nat} (h : r ≤ i) : min r i = r ∧ min r (i + 1) = r :=
  ⟨Nat.min_eq_left h, Nat.min_eq_left (Nat.le_succ_of_le h)⟩

private theorem col_cases {r c i : Nat} (h : c < min r (i + 1)) : c < min r i ∨ (c = i ∧ i < r) := by
  have hcr : c < r := Nat.lt_of_lt_of_le h (Nat.min_le_left _ _)
  rcases Nat.lt_succ_iff_lt_or_eq.1 (Nat.lt_of_lt_of_le h (Nat.min_le_right _ _)) with hci | hci
  · exact Or.inl (Nat.lt_min.2 ⟨hcr, hci⟩)
  · exact Or.inr ⟨hci, hci ▸ hcr⟩

theorem skip (h : Doolittle Null Dom n N i act B w) (hN : n ≤ N) (hi : i < n) (ha : act i = false)
    (hz : ∀ r, i < r → r < n → Null (w r i)) : Doolittle Null Dom n N (i + 1) act B w := by
  refine ⟨fun r c hr hc hm => ?_, fun r c hr hc hac => ?_, fun r c hr hc hac => ?_⟩
  · rcases Nat.lt_or_ge i r with hir | hri
    · obtain ⟨e2, e1⟩ := stage_below hir
      rw [e1] at hm ⊢
      have := h.upper r c hr hc (by rw [e2]; exact (Nat.le_of_succ_le hm))
      rw [e2] at this
      rw [this, T_succ, if_neg (by simp [ha])]
    · obtain ⟨e2, e1⟩ := stage_above hri
      rw [e1] at hm ⊢
      have := h.upper r c hr hc (by rw [e2]; exact hm)
      rwa [e2] at this
  · rcases col_cases hc with hc0 | ⟨rfl, _⟩
    · exact h.lower r c hr hc0 hac
    · rw [ha] at hac; cases hac
  · rcases col_cases hc with hc0 | ⟨rfl, hir⟩
    · exact h.skipped r c hr hc0 hac
    · have e2 := (stage_below hir).1
      have := h.upper r c hr (Nat.lt_of_lt_of_le hi hN) (by rw [e2])
      rw [e2] at this
      exact ⟨this, hz r hir hr⟩

theorem elim {w' : Nat → Nat → K} {q : Nat → K}
    (h : Doolittle Null Dom n N i act B w) (hN : n ≤ N) (hi : i < n) (ha : act i = true)
    (hq : ∀ r, i < r → r < n → divM (w r i) (w i i) = .ok (q r) ∧ Dom (w r i) (w i i))
    (hw : ∀ r c, r < n → c < N → w' r c =
      if i < r then (if c = i then q r else if i < c then w r c - q r * w i c else w r c)
      else w r c) :
    Doolittle Null Dom n N (i + 1) act B w' := by
  have hiN : i < N := Nat.lt_of_lt_of_le hi hN
  have hold : ∀ r c, r < n → c < N → (r ≤ i ∨ c < i) → w' r c = w r c := fun r c hr hc hcase => by
    rw [hw r c hr hc]
    rcases hcase with h1 | h1
    · rw [if_neg (Nat.not_lt.2 h1)]
    · rw [if_neg (Nat.ne_of_lt h1), if_neg (Nat.lt_asymm h1), ite_self]
  -- what the recurrences up to column `i` read has not moved
  have hT : ∀ r c k, r < n → c < N → k ≤ min r i → T act w' B r c k = T act w B r c k :=
    fun r c k hr hc hk => T_congr rfl fun t ht => by
      have hti : t < i := Nat.lt_of_lt_of_le ht (Nat.le_trans hk (Nat.min_le_right r i))
      exact ⟨rfl, hold r t hr (Nat.lt_trans hti hiN) (Or.inr hti),
        hold t c (Nat.lt_trans hti hi) hc (Or.inl hti.le)⟩
  refine ⟨fun r c hr hc hm => ?_, fun r c hr hc hac => ?_, fun r c hr hc hac => ?_⟩
  · rcases Nat.lt_or_ge i r with hir | hri
    · obtain ⟨e2, e1⟩ := stage_below hir
      rw [e1] at hm ⊢
      have hic : i < c := hm
      have hup := h.upper r c hr hc (by rw [e2]; exact hic.le)
      rw [e2] at hup
      have e_rc : w' r c = w r c - q r * w i c := by
        rw [hw r c hr hc, if_pos hir, if_neg (Nat.ne_of_gt hic), if_pos hic]
      have e_ri : w' r i = q r := by rw [hw r i hr hiN, if_pos hir, if_pos rfl]
      rw [T_succ, if_pos ha, hT r c i hr hc (by rw [e2]), ← hup, e_rc, e_ri,
        hold i c hi hc (Or.inl (Nat.le_refl i))]
    · obtain ⟨e2, e1⟩ := stage_above hri
      rw [e1] at hm ⊢
      have hup := h.upper r c hr hc (by rw [e2]; exact hm)
      rw [e2] at hup
      rw [hold r c hr hc (Or.inl hri), hT r c r hr hc (by rw [e2])]
      exact hup
  · have hcn : c < n := Nat.lt_trans (Nat.lt_of_lt_of_le hc (Nat.min_le_left _ _)) hr
    have hc' : c < N := Nat.lt_of_lt_of_le hcn hN
    rcases col_cases hc with hc0 | ⟨rfl, hir⟩
    · have hci : c < i := Nat.lt_of_lt_of_le hc0 (Nat.min_le_right r i)
      rw [hT r c c hr hc' hc0.le, hold c c hcn hc' (Or.inr hci), hold r c hr hc' (Or.inr hci)]
      exact h.lower r c hr hc0 hac
    · have e2 := (stage_below hir).1
      have hup := h.upper r c hr hc' (by rw [e2])
      rw [e2] at hup
      rw [hT r c c hr hc' (by rw [e2]), ← hup, hold c c hcn hc' (Or.inl (Nat.le_refl c)),
        hw r c hr hc', if_pos hir, if_pos rfl]
      exact hq r hir hr
  · have hc' : c < N := Nat.lt_of_lt_of_le
      (Nat.lt_trans (Nat.lt_of_lt_of_le hc (Nat.min_le_left _ _)) hr) hN
    rcases col_cases hc with hc0 | ⟨rfl, _⟩
    · have hci : c < i := Nat.lt_of_lt_of_le hc0 (Nat.min_le_right r i)
      rw [hT r c c hr hc' hc0.le, hold r c hr hc' (Or.inr hci)]
      exact h.skipped r c hr hc0 hac
    · rw [ha] at hac; cases hac

/-- the last row has nothing below it: `solve_basic` stops after `n - 1` column steps -/
theorem stage_succ (h : Doolittle Null Dom n N i act B w) (hi : n ≤ i + 1) :
    Doolittle Null Dom n N (i + 1) act B w := by
  have e : ∀ r, r < n → min r (i + 1) = min r i := fun r hr =>
    have := stage_above (Nat.le_of_lt_succ (Nat.lt_of_lt_of_le hr hi))
    this.2.trans this.1.symm
  refine ⟨fun r c hr hc hm => ?_, fun r c hr hc => ?_, fun r c hr hc => ?_⟩
  · rw [e r hr] at hm ⊢; exact h.upper r c hr hc hm
  · rw [e r hr] at hc; exact h.lower r c hr hc
  · rw [e r hr] at hc; exact h.skipped r c hr hc

end Doolittle
end Mat
end Ohsl
