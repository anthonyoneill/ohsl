/-
  Ohsl.Lemmas.IdxList — the row-major index list `idx r c` of an `r × c` matrix: two nested loops
  over rows and columns are one fold over it (`foldl_idx`).
-/

namespace Ohsl.C03P

/-- the index pairs `(0,0), (0,1), …, (0,c-1), (1,0), …, (r-1,c-1)` in row-major order -/
def idx (r c : Nat) : List (Nat × Nat) :=
  (List.range r).flatMap (fun i => (List.range c).map (fun j => (i, j)))

theorem idx_succ (r c : Nat) :
    idx (r + 1) c = idx r c ++ (List.range c).map (fun j => (r, j)) := by
  simp [idx, List.range_succ, List.flatMap_append]

theorem idx_zero (c : Nat) : idx 0 c = [] := rfl

theorem length_idx (r c : Nat) : (idx r c).length = r * c := by
  induction r with
  | zero => simp [idx_zero]
  | succ r ih => rw [idx_succ, List.length_append, ih, List.length_map, List.length_range,
      Nat.succ_mul]

theorem mem_idx {r c : Nat} {ij : Nat × Nat} : ij ∈ idx r c ↔ ij.1 < r ∧ ij.2 < c := by
  obtain ⟨i, j⟩ := ij
  simp only [idx, List.mem_flatMap, List.mem_range, List.mem_map, Prod.mk.injEq]
  constructor
  · rintro ⟨a, ha, b, hb, rfl, rfl⟩; exact ⟨ha, hb⟩
  · rintro ⟨hi, hj⟩; exact ⟨i, hi, j, hj, rfl, rfl⟩

theorem foldl_idx {σ : Type} (r c : Nat) (h : σ → Nat → Nat → σ) (init : σ) :
    (idx r c).foldl (fun s ij => h s ij.1 ij.2) init
      = (List.range r).foldl (fun s i => (List.range c).foldl (fun s j => h s i j) s) init := by
  induction r with
  | zero => simp [idx_zero]
  | succ r ih =>
    rw [idx_succ, List.foldl_append, ih, List.range_succ, List.foldl_append, List.foldl_map]
    simp

end Ohsl.C03P
